-- GENERATED by harness/vcore.py: axiom audit of every theorem of Properties/C05.lean
import SpsdkVerif.Properties.C05

#print axioms SpsdkVerif.C05.tags_agree
#print axioms SpsdkVerif.C05.classes_agree
#print axioms SpsdkVerif.C05.formats_agree
#print axioms SpsdkVerif.C05.constants_agree
#print axioms SpsdkVerif.C05.config_names_agree
#print axioms SpsdkVerif.C05.layout_functions
#print axioms SpsdkVerif.C05.cmd31_roundtrip
#print axioms SpsdkVerif.C05.constructed_cmd_in_domain
#print axioms SpsdkVerif.C05.partial_fuse_words_refused
#print axioms SpsdkVerif.C05.config_defaults_agree
#print axioms SpsdkVerif.C05.cmd31_size
#print axioms SpsdkVerif.C05.cmd31_stream_roundtrip
#print axioms SpsdkVerif.C05.stream_roundtrip
#print axioms SpsdkVerif.C05.kdf_documented
#print axioms SpsdkVerif.C05.block_keys
#print axioms SpsdkVerif.C05.block_keys_distinct
#print axioms SpsdkVerif.C05.kdk_depends_on_rights_and_timestamp
#print axioms SpsdkVerif.C05.constructor_good
#print axioms SpsdkVerif.C05.chain
#print axioms SpsdkVerif.C05.block_count_len
#print axioms SpsdkVerif.C05.coverage_total
#print axioms SpsdkVerif.C05.coverage_every_byte
#print axioms SpsdkVerif.C05.rom_accepts
#print axioms SpsdkVerif.C05.history_frame
#print axioms SpsdkVerif.C05.history
#print axioms SpsdkVerif.C05.history_exports
#print axioms SpsdkVerif.C05.chain_binding
#print axioms SpsdkVerif.C05.tampered_blocks_refused
#print axioms SpsdkVerif.C05.accepted_manifest_signed
#print axioms SpsdkVerif.C05.whole_file_authenticated
#print axioms SpsdkVerif.C05.rom_accepts_cert_model
#print axioms SpsdkVerif.C05.decoder_progress
#print axioms SpsdkVerif.C05.decoder_fuel_suffices
#print axioms SpsdkVerif.C05.kdf_call_sites_agree
#print axioms SpsdkVerif.C05.kdf_layout_documented
#print axioms SpsdkVerif.C05.access_rights_reach_every_key
#print axioms SpsdkVerif.C05.whole_file_authenticated_any_key
#print axioms SpsdkVerif.C05.key_substitution_same_root_of_trust
#print axioms SpsdkVerif.C05.header_roundtrip
#print axioms SpsdkVerif.C05.exported_header_roundtrip
#print axioms SpsdkVerif.C05.description_adjusted
#print axioms SpsdkVerif.C05.header_layout_executed
#print axioms SpsdkVerif.C05.export_validates_signer
#print axioms SpsdkVerif.C05.validate_header_passes
#print axioms SpsdkVerif.C05.export_override
#print axioms SpsdkVerif.C05.export_override_other_length_refused
#print axioms SpsdkVerif.C05.command_tag_of_class
#print axioms SpsdkVerif.C05.every_command_class_covered
#print axioms SpsdkVerif.C05.command_exports_executed
#print axioms SpsdkVerif.C05.executed_exports_parse_back
#print axioms SpsdkVerif.C05.norm16_length
#print axioms SpsdkVerif.C05.norm16_id
#print axioms SpsdkVerif.C05.toyLaws
#print axioms SpsdkVerif.C05.exGood
#print axioms SpsdkVerif.C05.exWF
#print axioms SpsdkVerif.C05.exDevOK
#print axioms SpsdkVerif.C05.fuses_domain_needed
