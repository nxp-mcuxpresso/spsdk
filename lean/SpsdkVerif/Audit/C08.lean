-- GENERATED by harness/vcore.py: axiom audit of every theorem of Properties/C08.lean
import SpsdkVerif.Properties.C08

#print axioms SpsdkVerif.C08.curve_table_agrees
#print axioms SpsdkVerif.C08.coord_len_tables_agree
#print axioms SpsdkVerif.C08.coord_sizes
#print axioms SpsdkVerif.C08.rsa_key_sizes_agree
#print axioms SpsdkVerif.C08.ecc_default_hash_agrees
#print axioms SpsdkVerif.C08.ecdsa_raw_roundtrip
#print axioms SpsdkVerif.C08.ecdsa_sniff_raw
#print axioms SpsdkVerif.C08.ecdsa_raw_export_overflow
#print axioms SpsdkVerif.C08.ecdsa_der_roundtrip
#print axioms SpsdkVerif.C08.ecdsa_der_roundtrip_bounded
#print axioms SpsdkVerif.C08.der_length
#print axioms SpsdkVerif.C08.ecdsa_raw_der_convert
#print axioms SpsdkVerif.C08.ecdsa_sniff_der_partial
#print axioms SpsdkVerif.C08.ecdsa_sniff_der_full_refuted
#print axioms SpsdkVerif.C08.sig_curve_small
#print axioms SpsdkVerif.C08.sigCurve_error_spsdk
#print axioms SpsdkVerif.C08.sig_curve_large
#print axioms SpsdkVerif.C08.sig_curve_exact
#print axioms SpsdkVerif.C08.ecdsa_sniff_der_exact
#print axioms SpsdkVerif.C08.sniff_classes_disjoint
#print axioms SpsdkVerif.C08.sign_raw_then_verify
#print axioms SpsdkVerif.C08.verify_der
#print axioms SpsdkVerif.C08.verify_sound
#print axioms SpsdkVerif.C08.sigprovider_normalises
#print axioms SpsdkVerif.C08.rsa_raw_roundtrip
#print axioms SpsdkVerif.C08.ecc_raw_roundtrip
#print axioms SpsdkVerif.C08.raw_lengths_unambiguous
#print axioms SpsdkVerif.C08.sniffed_raw_lengths
#print axioms SpsdkVerif.C08.sniff_der_long
#print axioms SpsdkVerif.C08.sniff_pem_ascii
#print axioms SpsdkVerif.C08.sniff_no_dashes
#print axioms SpsdkVerif.C08.pubparse_nxp_ecc
#print axioms SpsdkVerif.C08.pubparse_nxp_ecc_any_first_byte
#print axioms SpsdkVerif.C08.pubparse_nxp_rsa
#print axioms SpsdkVerif.C08.pubparse_pem_der
#print axioms SpsdkVerif.C08.ecdsa_der_raw_der
#print axioms SpsdkVerif.C08.extract_public_key_order
#print axioms SpsdkVerif.C08.extract_public_key_all_refuse
#print axioms SpsdkVerif.C08.extract_public_key_escape
#print axioms SpsdkVerif.C08.first_accept_spec
#print axioms SpsdkVerif.C08.matching_key_id_spec
#print axioms SpsdkVerif.C08.cert_nxp_roundtrip
#print axioms SpsdkVerif.C08.cert_parse_nxp_roundtrip
#print axioms SpsdkVerif.C08.cert_raw_size
#print axioms SpsdkVerif.C08.cert_strip_only_zeros
#print axioms SpsdkVerif.C08.cert_pad_removal_agrees
#print axioms SpsdkVerif.C08.der_total_len_header_only
#print axioms SpsdkVerif.C08.der_total_len_canonical
#print axioms SpsdkVerif.C08.cert_strip_by_declared_length
#print axioms SpsdkVerif.C08.cert_nxp_roundtrip_any_ending
#print axioms SpsdkVerif.C08.cert_parse_nxp_roundtrip_any_ending
#print axioms SpsdkVerif.C08.cert_trailer_refused
#print axioms SpsdkVerif.C08.cert_rstrip_variant_refuted
#print axioms SpsdkVerif.C08.validate_chain_spec
#print axioms SpsdkVerif.C08.cert_validate_params
#print axioms SpsdkVerif.C08.sp_create_honours_pss
#print axioms SpsdkVerif.C08.sp_create_default_v15
#print axioms SpsdkVerif.C08.sp_local_file_honours_pss
#print axioms SpsdkVerif.C08.sp_create_keeps_other_kwargs
#print axioms SpsdkVerif.C08.signature_length_actual
#print axioms SpsdkVerif.C08.sp_signature_length_source
#print axioms SpsdkVerif.C08.sp_long_signature_passthrough
#print axioms SpsdkVerif.C08.sp_rsa_signature_length
#print axioms SpsdkVerif.C08.sp_ecc_signature_length
#print axioms SpsdkVerif.C08.hash_from_sig_size_agrees
#print axioms SpsdkVerif.C08.cli_raw_private_roundtrip
#print axioms SpsdkVerif.C08.cli_raw_public_roundtrip_partial
#print axioms SpsdkVerif.C08.reconstruct_key_order
