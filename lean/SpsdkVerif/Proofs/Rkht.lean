/- Behind Properties/C03.lean: every SPSDK path to a root-of-trust value (`path*` of Model/Rkht.lean) evaluates, on key lists of the
   documented domain, to the documented value (`Spec.rotkh*`); sequences of `set_rkh` calls (last write wins). -/
import SpsdkVerif.Model.Rkht
import SpsdkVerif.Proofs.Misc

namespace SpsdkVerif.Rkht
open SpsdkVerif SpsdkVerif.Spec
open SpsdkVerif.Misc hiding Bytes
open SpsdkVerif.Crypto (HashAlg CryptoOps CryptoLaws Bytes)

/-! ### byte strings and lists (general facts; their place is Proofs/Misc) -/

theorem leEnc_len (w v : Nat) : (leEnc w v).length = w := leEnc_length w v

theorem leDec_lt {w : Nat} {s : Bytes} (h : s.length = w) : leDec s < 256 ^ w := h ▸ Misc.leDec_lt s

theorem leEnc_leDec {w : Nat} {s : Bytes} (h : s.length = w) : leEnc w (leDec s) = s := by
  subst h; exact Misc.leEnc_leDec s

/-- `n` is explicit: left to unification against a numeral offset, `o + n` is very slow to solve. -/
theorem drop_step {α} {l x r : List α} {o : Nat} (n : Nat) (h : l.drop o = x ++ r) (hn : x.length = n) : l.drop (o + n) = r := by
  rw [← List.drop_drop, h, List.drop_left' hn]

theorem drop_ge {α} {l r : List α} {o n : Nat} (h : l.drop o = r) (hle : o ≤ n) : l.drop n = r.drop (n - o) := by
  subst h; rw [List.drop_drop, Nat.add_sub_cancel' hle]

theorem take_append_add {α} {a : List α} {n : Nat} (h : a.length = n) (b : List α) (m : Nat) : (a ++ b).take (n + m) = a ++ b.take m := by
  subst h; exact List.take_length_add_append ..

theorem flatten_lenN (m : Nat) : ∀ (l : List Bytes), (∀ x ∈ l, x.length = m) → l.flatten.length = m * l.length
  | [], _ => rfl
  | a :: l, h => by
    rw [List.flatten_cons, List.length_append, h a (by simp), flatten_lenN m l (fun x hx => h x (by simp [hx])), List.length_cons,
      Nat.mul_succ, Nat.add_comm]

theorem mapM_ok {α β} (f : α → PyRes β) (g : α → β) :
    ∀ (l : List α), (∀ a ∈ l, f a = .ok (g a)) → l.mapM f = .ok (l.map g) := by
  intro l
  induction l with
  | nil => intro _; rfl
  | cons a l ih =>
    intro h
    rw [List.mapM_cons, h a (by simp), ih (fun b hb => h b (by simp [hb]))]
    rfl

theorem bind_ok {α β} (a : α) (f : α → PyRes β) : ((Except.ok a : PyRes α) >>= f) = f a := rfl

theorem pure_eq_ok {α} (a : α) : (pure a : PyRes α) = Except.ok a := rfl

theorem bind_ok_inv {α β} {x : PyRes α} {f : α → PyRes β} {y : β} (h : (x >>= f) = .ok y) : ∃ a, x = .ok a ∧ f a = .ok y := by
  cases x with
  | error e => cases h
  | ok a => exact ⟨a, rfl, h⟩

theorem throw_ite_inv {α β} {c : Prop} [Decidable c] {e : PyErr} {f : α → PyRes β} {y : PyRes β} {b : β}
    (h : (if c then ((throw e : PyRes α) >>= f) else y) = .ok b) : ¬ c ∧ y = .ok b := by
  split at h
  · cases h
  · exact ⟨‹_›, h⟩

theorem list_eq4 {α} (l : List α) (h : l.length = 4) : ∃ a b c d, l = [a, b, c, d] := by
  match l, h with
  | [a, b, c, d], _ => exact ⟨a, b, c, d, rfl⟩

theorem bitLenF_spec (f v : Nat) (h : v ≤ f) :
    v < 2 ^ bitLenF f v ∧ (0 < v → 2 ^ (bitLenF f v - 1) ≤ v) := by
  induction f generalizing v with
  | zero =>
    have : v = 0 := by omega
    subst this; simp [bitLenF]
  | succ f ih =>
    by_cases hv : v = 0
    · subst hv; simp [bitLenF]
    · have h' : v / 2 ≤ f := by omega
      obtain ⟨i1, i2⟩ := ih (v / 2) h'
      simp only [bitLenF, hv, if_false]
      rw [Nat.add_comm 1, Nat.pow_succ, Nat.add_sub_cancel]
      refine ⟨by omega, fun _ => ?_⟩
      by_cases hq : v / 2 = 0
      · rw [hq]; cases f <;> simp [bitLenF] <;> omega
      · have := i2 (by omega)
        have hL : bitLenF f (v / 2) ≠ 0 := by
          intro e; rw [e] at i1; simp at i1; omega
        obtain ⟨L, hL'⟩ := Nat.exists_eq_succ_of_ne_zero hL
        rw [hL'] at this ⊢
        rw [Nat.pow_succ]
        simp at this
        omega

theorem bitLen_spec (v : Nat) : v < 2 ^ bitLen v ∧ (0 < v → 2 ^ (bitLen v - 1) ≤ v) :=
  bitLenF_spec v v (Nat.le_refl v)

theorem byteLen_spec (v : Nat) : v < 256 ^ byteLen v ∧ (0 < v → 256 ^ (byteLen v - 1) ≤ v) :=
  byteLenF_min v v (Nat.le_refl v)

theorem pow256 (k : Nat) : 256 ^ k = 2 ^ (8 * k) := by
  rw [Nat.pow_mul]

/-- `math.ceil(v.bit_length() / 8)` is the number of bytes of the minimal big-endian encoding -/
theorem pyByteLen_eq (v : Nat) : pyByteLen v = byteLen v := by
  unfold pyByteLen
  by_cases hv : v = 0
  · subst hv; simp [bitLen, byteLen, bitLenF, byteLenF]
  · have hp : 0 < v := by omega
    obtain ⟨b1, b2⟩ := bitLen_spec v
    obtain ⟨c1, c2⟩ := byteLen_spec v
    have b2 := b2 hp
    have c2 := c2 hp
    rw [pow256] at c1 c2
    have h1' := (Nat.pow_lt_pow_iff_right (by decide : 1 < 2)).mp (Nat.lt_of_le_of_lt b2 c1)
    have h2' := (Nat.pow_lt_pow_iff_right (by decide : 1 < 2)).mp (Nat.lt_of_le_of_lt c2 b1)
    have hb : 1 ≤ byteLen v := byteLen_pos v hv
    omega

theorem bitLen_of_bounds (n bits : Nat) (hb : 0 < bits) (h1 : 2 ^ (bits - 1) ≤ n) (h2 : n < 2 ^ bits) :
    bitLen n = bits := by
  have hp : 0 < n := Nat.lt_of_lt_of_le (Nat.pow_pos (by decide)) h1
  obtain ⟨b1, b2⟩ := bitLen_spec n
  have g1' := (Nat.pow_lt_pow_iff_right (by decide : 1 < 2)).mp (Nat.lt_of_le_of_lt h1 b1)
  have g2' := (Nat.pow_lt_pow_iff_right (by decide : 1 < 2)).mp (Nat.lt_of_le_of_lt (b2 hp) h2)
  omega

theorem byteLen_of_bounds (n bits : Nat) (hb : 0 < bits) (h8 : bits % 8 = 0) (h1 : 2 ^ (bits - 1) ≤ n) (h2 : n < 2 ^ bits) :
    byteLen n = bits / 8 := by
  rw [← pyByteLen_eq, pyByteLen, bitLen_of_bounds n bits hb h1 h2]; omega

theorem byteLen_le_of_lt (v k : Nat) (h : v < 256 ^ k) : byteLen v ≤ k := by
  by_cases hv : v = 0
  · subst hv; simp [byteLen, byteLenF]
  · have h2 := Nat.lt_of_le_of_lt ((byteLen_spec v).2 (by omega)) h
    have := (Nat.pow_lt_pow_iff_right (by decide : 1 < 256)).mp h2
    omega

theorem toBytes_fit (w v : Nat) (h : v < 256 ^ w) : toBytes w v = .ok (beEnc w v) := by
  simp [toBytes, h]

theorem toBytes_min (v : Nat) : toBytes (pyByteLen v) v = .ok (beMin v) := by
  rw [pyByteLen_eq, toBytes_fit _ _ (byteLen_spec v).1]; rfl

theorem beMin_len (v : Nat) : (beMin v).length = byteLen v := beEnc_length' _ _

theorem coordSize_eq (cv : Curve) : coordSize cv = cv.coordSize := by
  cases cv <;> rfl

theorem exportRsa_default (n e : Nat) : exportRsa n e none none = .ok ((Key.rsa n e).material) := by
  simp only [exportRsa, toBytes_min, Key.material]; rfl

theorem exportEcc_fit (cv : Curve) (x y : Nat) (hx : x < 256 ^ cv.coordSize) (hy : y < 256 ^ cv.coordSize) :
    exportEcc cv x y = .ok ((Key.ecc cv x y).material) := by
  simp only [exportEcc, coordSize_eq, toBytes_fit _ _ hx, toBytes_fit _ _ hy, Key.material]; rfl

theorem keyOK_ecc {cv : Curve} {x y : Nat} (h : keyOK (.ecc cv x y) = true) :
    x < 256 ^ cv.coordSize ∧ y < 256 ^ cv.coordSize := by
  simpa [keyOK] using h

theorem exportKey_ok (k : Key) (h : keyOK k = true) : exportKey k = .ok k.material := by
  cases k with
  | rsa n e => exact exportRsa_default n e
  | ecc cv x y => exact exportEcc_fit cv x y (keyOK_ecc h).1 (keyOK_ecc h).2

theorem key_of_curve {k : Key} {cv : Curve} (h : k.curve? = some cv) : ∃ x y, k = .ecc cv x y := by
  cases k with
  | rsa _ _ => simp [Key.curve?] at h
  | ecc c x y => simp only [Key.curve?, Option.some.injEq] at h; subst h; exact ⟨x, y, rfl⟩

theorem hashAlg_of_curve {k : Key} {cv : Curve} (h : k.curve? = some cv) : k.hashAlg = cv.hashAlg := by
  obtain ⟨x, y, rfl⟩ := key_of_curve h; rfl

theorem hashAlg_rsa {k : Key} (h : k.isRsa = true) : k.hashAlg = .sha256 := by
  cases k with
  | rsa _ _ => rfl
  | ecc _ _ _ => simp [Key.isRsa] at h

theorem curve_hash_ne_sha1 (cv : Curve) : cv.hashAlg ≠ .sha1 := by cases cv <;> decide

theorem hashAlg_ne_sha1 (k : Key) : k.hashAlg ≠ .sha1 := by
  cases k with
  | rsa _ _ => exact HashAlg.noConfusion
  | ecc cv _ _ => exact curve_hash_ne_sha1 cv

theorem keyHash_len (c : CryptoOps) (hc : CryptoLaws c) (k : Key) : (keyHash c k).length = k.hashAlg.size :=
  hc.hash_len _ _

theorem keyHashes_len (c : CryptoOps) (hc : CryptoLaws c) {a : HashAlg} {ks : List Key} (h : ∀ k ∈ ks, k.hashAlg = a) :
    ∀ x ∈ ks.map (keyHash c), x.length = a.size := by
  intro x hx
  obtain ⟨k, hk, rfl⟩ := List.mem_map.mp hx
  rw [keyHash_len c hc, h k hk]

theorem getHashAlgorithm_rsa (n e : Nat) : getHashAlgorithm (.rsa n e) = .ok .sha256 := by
  simp only [getHashAlgorithm]; decide

theorem getHashAlgorithm_ecc (cv : Curve) (x y : Nat) (h : cv ≠ .p521) :
    getHashAlgorithm (.ecc cv x y) = .ok cv.hashAlg := by
  cases cv <;> first | rfl | exact absurd rfl h

theorem getHashAlgorithm_p521 (x y : Nat) : getHashAlgorithm (.ecc .p521 x y) = .error .spsdk := rfl

/-- the key is accepted by `RKHT._get_hash_algorithm` (everything but P-521) -/
def rkhtKey : Key → Bool
  | .ecc .p521 _ _ => false
  | _ => true

theorem getHashAlgorithm_ok (k : Key) (h : rkhtKey k = true) : getHashAlgorithm k = .ok k.hashAlg := by
  cases k with
  | rsa n e => exact getHashAlgorithm_rsa n e
  | ecc cv x y => exact getHashAlgorithm_ecc cv x y (by rintro rfl; simp [rkhtKey] at h)

theorem calcKeyHash_ok (c : CryptoOps) (k : Key) (h : keyOK k = true) (h2 : rkhtKey k = true) :
    calcKeyHash c k = .ok (keyHash c k) := by
  cases k with
  | rsa n e =>
    simp only [calcKeyHash, toBytes_min, getHashAlgorithm_rsa]
    rfl
  | ecc cv x y =>
    obtain ⟨hx, hy⟩ := keyOK_ecc h
    simp only [calcKeyHash, coordSize_eq, toBytes_fit _ _ hx, toBytes_fit _ _ hy, getHashAlgorithm_ok _ h2]
    rfl

abbrev Z32 : Bytes := List.replicate 32 (0 : UInt8)

/-- the 4-slot table `RKHTv1.export` serialises (absent slots are zeros) -/
def tbl (l : List Bytes) : List Bytes := l ++ List.replicate (4 - l.length) Z32

/-- table invariant of `RKHTv1` inside a certificate block v1 -/
def WFtab (l : List Bytes) : Prop := l.length ≤ 4 ∧ ∀ h ∈ l, h.length = 32

theorem tbl_length (l : List Bytes) (hl : l.length ≤ 4) : (tbl l).length = 4 := by
  simp [tbl]; omega

theorem tbl_len32 (l : List Bytes) (h32 : ∀ h ∈ l, h.length = 32) : ∀ h ∈ tbl l, h.length = 32 := by
  intro h hh
  rcases List.mem_append.mp hh with h1 | h1
  · exact h32 h h1
  · rw [(List.mem_replicate.mp h1).2]; simp

theorem tbl_flatten_len (l : List Bytes) (hw : WFtab l) : (tbl l).flatten.length = 128 := by
  rw [flatten_lenN 32 _ (tbl_len32 l hw.2), tbl_length l hw.1]

/-- the slots `i, i+1, ..` of a table without empty entries: what is there, then zeros (any number of slots) -/
theorem exportV1Slots_eq (l : List Bytes) (hne : ∀ h ∈ l, h.isEmpty = false) : ∀ s i,
    exportV1Slots l s i = ((l.drop i).take s ++ List.replicate (s - (l.length - i)) Z32).flatten
  | 0, i => by simp [exportV1Slots]
  | s + 1, i => by
    rw [exportV1Slots, exportV1Slots_eq l hne s (i + 1)]
    by_cases hi : i < l.length
    · rw [List.getElem?_eq_getElem hi, List.drop_eq_getElem_cons hi, List.take_succ_cons, List.cons_append, List.flatten_cons]
      simp only [hne _ (List.getElem_mem hi), Bool.false_eq_true, ↓reduceIte]
      congr 4; omega
    · rw [List.getElem?_eq_none (by omega), List.drop_eq_nil_of_le (by omega), List.drop_eq_nil_of_le (by omega),
        show s + 1 - (l.length - i) = (s - (l.length - (i + 1))) + 1 by omega, List.replicate_succ]
      simp only [List.take_nil, List.nil_append, List.flatten_cons]; rfl

theorem exportV1_ok (l : List Bytes) (hw : WFtab l) : exportV1 l = .ok (tbl l).flatten := by
  have hne : ∀ h ∈ l, h.isEmpty = false := fun h hh => by
    cases h with
    | nil => have := hw.2 _ hh; simp at this
    | cons _ _ => rfl
  have e : exportV1Slots l 4 0 = (tbl l).flatten := by
    rw [exportV1Slots_eq l hne, List.drop_zero, List.take_of_length_le hw.1]; rfl
  have hl := tbl_flatten_len l hw
  have e4 : G.rkhtV1Slots = 4 := rfl
  simp only [exportV1, e4, e, hl]
  rfl

theorem rkthV1_tbl (c : CryptoOps) (l : List Bytes) (hw : WFtab l) : rkthV1 c l = .ok (c.hash .sha256 (tbl l).flatten) := by
  simp only [rkthV1, exportV1_ok l hw, bind_ok]; rfl

theorem rotkhV1_tbl (c : CryptoOps) (ks : List Key) : rotkhV1 c ks = c.hash .sha256 (tbl (ks.map (keyHash c))).flatten := by
  simp only [rotkhV1, rkhTableV1, tbl, List.length_map]

theorem rotkh_certBlock1 (c : CryptoOps) (ks : List Key) : Spec.rotkh c .certBlock1 ks = rotkhV1 c ks := by
  simp [Spec.rotkh, rotkhCa, List.map_map, Function.comp_def]

theorem rotkh_certBlock21 (c : CryptoOps) (ks : List Key) : Spec.rotkh c .certBlock21 ks = rotkhV21 c ks := by
  simp [Spec.rotkh, rotkhCa, List.map_map, Function.comp_def]

theorem rkhtInit_ok (l : List Bytes) (hl : l.length ≤ 4) : rkhtInit l = .ok l := by
  have e : G.rkhtMaxKeys = 4 := rfl
  simp only [rkhtInit, e]; simp; omega

theorem rkhtV1Init_ok (l : List Bytes) (hw : WFtab l) : rkhtV1Init l = .ok l := by
  have : l.all (fun h => h.length == G.rkhV1Size) = true := by
    rw [List.all_eq_true]; intro h hh; simp [hw.2 h hh]; rfl
  simp only [rkhtV1Init, this, rkhtInit_ok l hw.1, ↓reduceIte]

/-- uniform key list: every key is in the domain, accepted by `_get_hash_algorithm`, of the class and hash of the first -/
def Uniform (k0 : Key) (ks : List Key) : Prop :=
  ∀ k ∈ ks, keyOK k = true ∧ rkhtKey k = true ∧ sameClass k0 k = true ∧ k.hashAlg = k0.hashAlg

theorem sameAlgAll_ok (k0 : Key) (h0 : rkhtKey k0 = true) :
    ∀ (ks : List Key), (∀ k ∈ ks, rkhtKey k = true ∧ k.hashAlg = k0.hashAlg) → sameAlgAll k0 ks = .ok () := by
  intro ks
  induction ks with
  | nil => intro _; rfl
  | cons k ks ih =>
    intro h
    obtain ⟨h1, h2⟩ := h k (by simp)
    simp only [sameAlgAll, getHashAlgorithm_ok k h1, getHashAlgorithm_ok k0 h0, h2]
    show (if k0.hashAlg = k0.hashAlg then sameAlgAll k0 ks else Except.error PyErr.spsdk) = Except.ok ()
    rw [if_pos rfl]
    exact ih (fun b hb => h b (by simp [hb]))

theorem uniform_all {k0 : Key} {ks : List Key} (h : Uniform k0 ks) : ks.all (sameClass k0) = true :=
  List.all_eq_true.mpr fun k hk => (h k hk).2.2.1

theorem fromKeysHashes_ok (c : CryptoOps) (k0 : Key) (ks : List Key) (h : Uniform k0 (k0 :: ks)) :
    fromKeysHashes c (k0 :: ks) = .ok ((k0 :: ks).map (keyHash c)) := by
  have hs := sameAlgAll_ok k0 (h k0 (by simp)).2.1 (k0 :: ks) (fun k hk => ⟨(h k hk).2.1, (h k hk).2.2.2⟩)
  have hm := mapM_ok (calcKeyHash c) (keyHash c) (k0 :: ks) (fun k hk => calcKeyHash_ok c k (h k hk).1 (h k hk).2.1)
  simp only [fromKeysHashes, uniform_all h, hs, hm]
  rfl

theorem keysOK_cb1 {ks : List Key} (h : KeysOK .certBlock1 ks) :
    1 ≤ ks.length ∧ ks.length ≤ 4 ∧ ∀ k ∈ ks, keyOK k = true ∧ k.isRsa = true := by
  simp only [KeysOK, keysOK, Bool.and_eq_true, List.all_eq_true, decide_eq_true_eq] at h
  exact ⟨h.2.1.1, h.2.1.2, fun k hk => ⟨h.1 k hk, h.2.2 k hk⟩⟩

theorem uniform_rsa {k0 : Key} {ks : List Key} (h0 : k0.isRsa = true) (h : ∀ k ∈ ks, keyOK k = true ∧ k.isRsa = true) :
    Uniform k0 ks := by
  intro k hk
  obtain ⟨a, b⟩ := h k hk
  cases k with
  | rsa n e => cases k0 with
    | rsa m f => exact ⟨a, rfl, rfl, rfl⟩
    | ecc _ _ _ => simp [Key.isRsa] at h0
  | ecc _ _ _ => simp [Key.isRsa] at b

theorem wftab_cb1 (c : CryptoOps) (hc : CryptoLaws c) {ks : List Key} (h : KeysOK .certBlock1 ks) : WFtab (ks.map (keyHash c)) :=
  ⟨by simpa using (keysOK_cb1 h).2.1, keyHashes_len c hc (a := .sha256) fun k hk => hashAlg_rsa ((keysOK_cb1 h).2.2 k hk).2⟩

theorem fromKeysV1_ok (c : CryptoOps) (hc : CryptoLaws c) (ks : List Key) (h : KeysOK .certBlock1 ks) :
    fromKeysV1 c ks = .ok (ks.map (keyHash c)) := by
  obtain ⟨h1, _, hk⟩ := keysOK_cb1 h
  have hw := wftab_cb1 c hc h
  cases ks with
  | nil => simp at h1
  | cons k0 rest =>
    simp only [fromKeysV1, fromKeysHashes_ok c k0 rest (uniform_rsa (hk k0 (by simp)).2 hk), bind_ok, rkhtV1Init_ok _ hw]

theorem rkthV1_hashes (c : CryptoOps) (hc : CryptoLaws c) (ks : List Key) (h : KeysOK .certBlock1 ks) :
    rkthV1 c (ks.map (keyHash c)) = .ok (rotkhV1 c ks) := by
  rw [rkthV1_tbl c _ (wftab_cb1 c hc h), rotkhV1_tbl]

theorem path_rkhtV1 (c : CryptoOps) (hc : CryptoLaws c) (ks : List Key) (h : KeysOK .certBlock1 ks) :
    pathRkhtV1 c ks = .ok (rotkhV1 c ks) := by
  rw [pathRkhtV1, fromKeysV1_ok c hc ks h, bind_ok, rkthV1_hashes c hc ks h]

theorem setRkh_ok (l : List Bytes) (i : Nat) (h : Bytes) (hw : WFtab l) (hi : i ≤ 3) (hh : h.length = 32) :
    setRkh l i h = .ok ((l ++ List.replicate (i + 1 - l.length) Z32).set i h) := by
  have e2 : G.rkhV1Size = 32 := rfl
  have hfill : setRkh.fill i h l = .ok ((l ++ List.replicate (i + 1 - l.length) Z32).set i h) := by
    simp only [setRkh.fill, e2]
    rw [if_neg (by have := hw.1; simp only [List.length_append, List.length_replicate]; omega)]
  cases l with
  | nil => simp only [setRkh, hfill]; rw [if_neg (by omega)]
  | cons h0 t => simp only [setRkh, hfill, hh, hw.2 h0 (by simp)]; rw [if_neg (by omega), if_neg (by simp)]

theorem setRootKeyHash_step (c : CryptoOps) (hc : CryptoLaws c) (l : List Bytes) (k : Key) (hk : keyOK k = true)
    (hi3 : l.length ≤ 3) (hl : ∀ h ∈ l, h.length = 32) :
    setRootKeyHash c l l.length k = .ok (l ++ [c.hash .sha256 k.material]) := by
  have hh : (c.hash .sha256 k.material).length = 32 := hc.hash_len _ _
  have e2 : G.rkhV1Size = 32 := rfl
  simp only [setRootKeyHash, exportKey_ok k hk, bind_ok, e2]
  simp only [hh]
  simp [setRkh_ok l l.length _ ⟨by omega, hl⟩ hi3 hh]

theorem setAll_ok (c : CryptoOps) (hc : CryptoLaws c) :
    ∀ (ks : List Key) (l : List Bytes), l.length + ks.length ≤ 4 → (∀ k ∈ ks, keyOK k = true) →
      (∀ h ∈ l, h.length = 32) →
      setAll c l l.length ks = .ok (l ++ ks.map (fun k => c.hash .sha256 k.material)) := by
  intro ks
  induction ks with
  | nil => intro l _ _ _; simp [setAll]
  | cons k ks ih =>
    intro l hlen hk hl
    have h3 : l.length ≤ 3 := by simp at hlen; omega
    simp only [setAll, setRootKeyHash_step c hc l k (hk k (by simp)) h3 hl, bind_ok]
    have := ih (l ++ [c.hash .sha256 k.material]) (by simp at hlen ⊢; omega) (fun b hb => hk b (by simp [hb]))
      (by
        intro h hh
        rcases List.mem_append.mp hh with h1 | h1
        · exact hl h h1
        · simp at h1; subst h1; exact hc.hash_len _ _)
    simp only [List.length_append, List.length_singleton] at this
    rw [this]; simp

theorem certBlockV1Rkh_ok (c : CryptoOps) (hc : CryptoLaws c) (ks : List Key) (h : KeysOK .certBlock1 ks) :
    certBlockV1Rkh c ks = .ok (ks.map (keyHash c)) := by
  obtain ⟨_, h4, hk⟩ := keysOK_cb1 h
  have hs := setAll_ok c hc ks [] (by simpa using h4) (fun k hk' => (hk k hk').1) (by simp)
  have hm : ks.map (fun k => c.hash .sha256 k.material) = ks.map (keyHash c) :=
    List.map_congr_left fun k hk' => by rw [keyHash, hashAlg_rsa (hk k hk').2]
  rwa [List.nil_append, hm] at hs

theorem path_certBlockV1 (c : CryptoOps) (hc : CryptoLaws c) (ks : List Key) (h : KeysOK .certBlock1 ks) (used : Nat) :
    pathCertBlockV1 c ks used = .ok (rotkhV1 c ks) := by
  rw [pathCertBlockV1, certBlockV1Rkh_ok c hc ks h, bind_ok, rkthV1_hashes c hc ks h]

/-- EC key on P-256 or P-384 -/
def v21Key : Key → Bool
  | .ecc .p256 _ _ => true
  | .ecc .p384 _ _ => true
  | _ => false

theorem keysOK_cb21 {ks : List Key} (h : KeysOK .certBlock21 ks) :
    1 ≤ ks.length ∧ ks.length ≤ 4 ∧ (∀ k ∈ ks, keyOK k = true) ∧
    ((∀ k ∈ ks, k.curve? = some .p256) ∨ (∀ k ∈ ks, k.curve? = some .p384)) := by
  simp only [KeysOK, keysOK, Bool.and_eq_true, Bool.or_eq_true, List.all_eq_true, decide_eq_true_eq, beq_iff_eq] at h
  exact ⟨h.2.1.1, h.2.1.2, h.1, h.2.2⟩

theorem cb21_curve {ks : List Key} (h : KeysOK .certBlock21 ks) : ∃ cv, cv ≠ .p521 ∧ ∀ k ∈ ks, k.curve? = some cv := by
  rcases (keysOK_cb21 h).2.2.2 with a | a
  · exact ⟨.p256, by decide, a⟩
  · exact ⟨.p384, by decide, a⟩

theorem uniform_curve {cv : Curve} (hcv : cv ≠ .p521) {k0 : Key} {ks : List Key} (h0 : k0.curve? = some cv)
    (hk : ∀ k ∈ ks, keyOK k = true) (h : ∀ k ∈ ks, k.curve? = some cv) : Uniform k0 ks := by
  intro k hk'
  obtain ⟨x0, y0, rfl⟩ := key_of_curve h0
  obtain ⟨x, y, rfl⟩ := key_of_curve (h k hk')
  refine ⟨hk _ hk', ?_, rfl, rfl⟩
  cases cv <;> first | rfl | exact absurd rfl hcv

theorem uniform_cb21 {k0 : Key} {rest : List Key} (h : KeysOK .certBlock21 (k0 :: rest)) : Uniform k0 (k0 :: rest) := by
  obtain ⟨cv, hne, hall⟩ := cb21_curve h
  exact uniform_curve hne (hall k0 (by simp)) (keysOK_cb21 h).2.2.1 hall

theorem shaLabel_size (a : HashAlg) (h : a ≠ .sha1) : shaLabel (a.size * 8) = .ok a := by
  cases a <;> first | (exact absurd rfl h) | rfl

theorem hashAlgorithm_hashes (c : CryptoOps) (hc : CryptoLaws c) (k0 : Key) (rest : List Key) :
    hashAlgorithm ((k0 :: rest).map (keyHash c)) = .ok k0.hashAlg := by
  simp only [hashAlgorithm, hashAlgorithmSize, List.map_cons, bind_ok, keyHash_len c hc, shaLabel_size _ (hashAlg_ne_sha1 k0)]

theorem rkthV21_hashes (c : CryptoOps) (hc : CryptoLaws c) (k0 : Key) (rest : List Key) :
    rkthV21 c ((k0 :: rest).map (keyHash c)) = .ok (rotkhV21 c (k0 :: rest)) := by
  cases rest with
  | nil => rfl
  | cons k1 r =>
    have := hashAlgorithm_hashes c hc k0 (k1 :: r)
    simp only [List.map_cons] at this
    simp only [rkthV21, List.map_cons, this, bind_ok, rotkhV21, ctrkTable, exportV21]
    simp
    rfl

theorem fromKeysV21_ok (c : CryptoOps) (ks : List Key) (h : KeysOK .certBlock21 ks) : fromKeysV21 c ks = .ok (ks.map (keyHash c)) := by
  obtain ⟨h1, h4, _, _⟩ := keysOK_cb21 h
  cases ks with
  | nil => simp at h1
  | cons k0 rest =>
    simp only [fromKeysV21, fromKeysHashes_ok c k0 rest (uniform_cb21 h), bind_ok, rkhtInit_ok ((k0 :: rest).map (keyHash c)) (by rw [List.length_map]; exact h4)]

theorem path_rkhtV21 (c : CryptoOps) (hc : CryptoLaws c) (ks : List Key) (h : KeysOK .certBlock21 ks) :
    pathRkhtV21 c ks = .ok (rotkhV21 c ks) := by
  rw [pathRkhtV21, fromKeysV21_ok c ks h, bind_ok]
  cases ks with
  | nil => simp [KeysOK, keysOK] at h
  | cons k0 rest => exact rkthV21_hashes c hc k0 rest

theorem rkrFlags_nibble (ca : Bool) (used count : Nat) (cv : Curve) :
    rkrFlags ca used count cv % 16 = curveBit cv % 16 := by
  have e1 : G.rkrCaBit = 31 := rfl
  have e2 : G.rkrUsedShift = 8 := rfl
  have e3 : G.rkrCountShift = 4 := rfl
  simp only [rkrFlags, e1, e2, e3]
  have h16 : (16 : Nat) = 2 ^ 4 := rfl
  rw [h16, Nat.or_mod_two_pow, Nat.or_mod_two_pow, Nat.or_mod_two_pow]
  have a : (if ca = true then 1 <<< 31 else 0) % 2 ^ 4 = 0 := by cases ca <;> decide
  have b : (used <<< 8) % 2 ^ 4 = 0 := by rw [Nat.shiftLeft_eq]; omega
  have d : (count <<< 4) % 2 ^ 4 = 0 := by rw [Nat.shiftLeft_eq]; omega
  rw [a, b, d]; simp

theorem rkrHashAlgorithm_flags (ca : Bool) (used count : Nat) (cv : Curve) (h : cv ≠ .p521) :
    rkrHashAlgorithm (rkrFlags ca used count cv) = .ok cv.hashAlg := by
  simp only [rkrHashAlgorithm, rkrFlags_nibble]
  cases cv <;> first | (exact absurd rfl h) | decide

/-- the record `RootKeyRecord.calculate()` produces for a key list of the cert_block_21 domain -/
theorem rkrCalculate_ok (c : CryptoOps) (hc : CryptoLaws c) (ks : List Key) (h : KeysOK .certBlock21 ks)
    (used : Nat) (hu : used < ks.length) (ca : Bool) :
    ∃ cv ku, cv ≠ .p521 ∧ ks[used]? = some ku ∧ ku.curve? = some cv ∧ (∀ k ∈ ks, k.curve? = some cv) ∧
      rkrCalculate c ca ks used = .ok { flags := rkrFlags ca used ks.length cv, rkh := ks.map (keyHash c),
                                        rootPublicKey := ku.material } := by
  obtain ⟨cv, hne, hall⟩ := cb21_curve h
  have hku : ks[used]? = some ks[used] := List.getElem?_eq_getElem hu
  have hkum : ks[used] ∈ ks := List.getElem_mem hu
  refine ⟨cv, ks[used], hne, hku, hall _ hkum, hall, ?_⟩
  cases ks with
  | nil => simp at hu
  | cons k0 rest =>
    obtain ⟨x0, y0, rfl⟩ := key_of_curve (hall k0 (by simp))
    simp only [rkrCalculate, uniform_all (uniform_cb21 h), fromKeysV21_ok c _ h, bind_ok, hashAlgorithm_hashes c hc, hku,
      exportKey_ok _ ((keysOK_cb21 h).2.2.1 _ hkum), Key.hashAlg, Bool.not_true, Bool.false_eq_true, ↓reduceIte,
      rkrHashAlgorithm_flags _ _ _ _ hne, ne_eq, not_true_eq_false, pure_eq_ok]

theorem path_certBlockV21 (c : CryptoOps) (hc : CryptoLaws c) (ks : List Key) (h : KeysOK .certBlock21 ks)
    (used : Nat) (hu : used < ks.length) (ca : Bool) :
    pathCertBlockV21 c ks used ca = .ok (rotkhV21 c ks) := by
  obtain ⟨cv, ku, _, _, _, _, hr⟩ := rkrCalculate_ok c hc ks h used hu ca
  rw [pathCertBlockV21, hr, bind_ok]
  cases ks with
  | nil => simp at hu
  | cons k0 rest => exact rkthV21_hashes c hc k0 rest

theorem ljust_of_len (n : Nat) (b : Bytes) (h : b.length = n) : ljust n b = b := by
  simp [ljust, h]

theorem path_pfr_v1 (c : CryptoOps) (hc : CryptoLaws c) (ks : List Key) (h : KeysOK .certBlock1 ks) (w : Nat)
    (hw : 256 ≤ w) : pathPfr c "cert_block_1" w ks = .ok (ljust (w / 8) (rotkhV1 c ks)) := by
  obtain ⟨h1, _, _⟩ := keysOK_cb1 h
  have e : G.pfrRkhtTypes.lookup "cert_block_1" = some "RKHTv1" := by decide
  have e2 : (("RKHTv1" : String) == "RKHTv1") = true := by decide
  have hs : hashAlgorithmSize (ks.map (keyHash c)) = .ok 256 := by
    cases ks with
    | nil => simp at h1
    | cons k0 rest => simp only [hashAlgorithmSize, List.map_cons, (wftab_cb1 c hc h).2 (keyHash c k0) (by simp)]
  have : ¬ (256 > w) := by omega
  simp only [pathPfr, e, e2, ↓reduceIte, fromKeysV1_ok c hc ks h, bind_ok, hs, rkthV1_hashes c hc ks h, this]
  rfl

theorem path_pfr_v21 (c : CryptoOps) (hc : CryptoLaws c) (k0 : Key) (rest : List Key)
    (h : KeysOK .certBlock21 (k0 :: rest)) (w : Nat) (hw : k0.hashAlg.size * 8 ≤ w) :
    pathPfr c "cert_block_21" w (k0 :: rest) = .ok (ljust (w / 8) (rotkhV21 c (k0 :: rest))) := by
  have e : G.pfrRkhtTypes.lookup "cert_block_21" = some "RKHTv21" := by decide
  have e2 : (("RKHTv21" : String) == "RKHTv1") = false := by decide
  have hs : hashAlgorithmSize ((k0 :: rest).map (keyHash c)) = .ok (k0.hashAlg.size * 8) := by
    simp only [hashAlgorithmSize, List.map_cons, keyHash_len c hc]
  have : ¬ (k0.hashAlg.size * 8 > w) := by omega
  simp only [pathPfr, e, e2, Bool.false_eq_true, ↓reduceIte, fromKeysV21_ok c _ h, bind_ok, hs, rkthV21_hashes c hc k0 rest, this]
  rfl

theorem path_datRsa (c : CryptoOps) (hc : CryptoLaws c) (ks : List Key) (h : KeysOK .certBlock1 ks)
    (he : ∀ n e, Key.rsa n e ∈ ks → byteLen e = 3) : pathDatRsa c ks = .ok (rotkhV1 c ks) := by
  obtain ⟨_, h4, hk⟩ := keysOK_cb1 h
  have e3 : G.datRsaExpLength = 3 := rfl
  have e128 : G.datRsaTableLen = 128 := rfl
  have hm := mapM_ok (datRsaItem c) (keyHash c) ks (by
    intro k hk'
    cases k with
    | ecc _ _ _ => have := (hk _ hk').2; simp [Key.isRsa] at this
    | rsa n e =>
      have h3 := he n e hk'
      have hfit : e < 256 ^ 3 := by have := (byteLen_spec e).1; rwa [h3] at this
      have hb : beEnc 3 e = beMin e := by rw [beMin, h3]
      have h30 : (3 : Nat) ≠ 0 := by decide
      simp only [datRsaItem, exportRsa, e3, toBytes_min, h30, ↓reduceIte, toBytes_fit 3 e hfit, hb, bind_ok]
      rfl)
  have hnot : ¬ (ks.length > 4) := by omega
  have hfl := flatten_lenN 32 _ (wftab_cb1 c hc h).2
  simp only [pathDatRsa, hnot, ↓reduceIte, hm, bind_ok, rotkhV1, rkhTableV1, e128, List.flatten_append, hfl, List.length_map]
  have : (List.replicate (4 - ks.length) (List.replicate 32 (0 : UInt8))).flatten = List.replicate (128 - 32 * ks.length) 0 := by
    rw [List.flatten_replicate_replicate]; congr 1; omega
  rw [this]; rfl

/-- domain of the debug-credential EC path: 1..4 EC keys on one curve (P-521 included) -/
def DatEccOK (cv : Curve) (ks : List Key) : Prop :=
  1 ≤ ks.length ∧ ks.length ≤ 4 ∧ ∀ k ∈ ks, keyOK k = true ∧ k.curve? = some cv

theorem datEcc_lookup (cv : Curve) : G.datEccHashSizes.lookup (coordSize cv) = some (cv.hashAlg.size * 8) := by
  cases cv <;> decide

theorem datEccFallback_ok (c : CryptoOps) (cv : Curve) (x y : Nat) (hk : keyOK (.ecc cv x y) = true) :
    datEccFallback c (.ecc cv x y) = .ok (keyHash c (.ecc cv x y)) := by
  simp only [datEccFallback, exportKey_ok _ hk, bind_ok, eccCoordSize?, Option.bind_some, datEcc_lookup, pure_bind,
    shaLabel_size _ (curve_hash_ne_sha1 cv)]
  rfl

theorem path_datEcc (c : CryptoOps) (hc : CryptoLaws c) (cv : Curve) (ks : List Key) (h : DatEccOK cv ks)
    (used : Nat) (hu : used < ks.length) : pathDatEcc c ks used = .ok (rotkhV21 c ks) := by
  obtain ⟨h1, h4, hk⟩ := h
  cases ks with
  | nil => simp at h1
  | cons k0 rest =>
    obtain ⟨x0, y0, rfl⟩ := key_of_curve (hk k0 (by simp)).2
    have hall : (Key.ecc cv x0 y0 :: rest).all (fun k => eccCoordSize? k == some (coordSize cv)) = true := by
      rw [List.all_eq_true]; intro k hk'
      obtain ⟨x, y, rfl⟩ := key_of_curve (hk k hk').2
      simp [eccCoordSize?]
    have hnot4 : ¬ ((Key.ecc cv x0 y0 :: rest).length > 4) := by omega
    have hnotu : ¬ (used + 1 > (Key.ecc cv x0 y0 :: rest).length) := by omega
    have hE0 : eccCoordSize? (Key.ecc cv x0 y0) = some (coordSize cv) := rfl
    simp only [pathDatEcc, hE0, hall, Bool.not_true, Bool.false_eq_true, ↓reduceIte, datEcc_lookup,
      shaLabel_size _ (curve_hash_ne_sha1 cv), bind_ok]
    cases rest with
    | nil =>
      have hu0 : used = 0 := by simp at hu; omega
      subst hu0
      simp [datEccFallback_ok c cv x0 y0 (hk _ (by simp)).1, rotkhV21]
    | cons k1 r =>
      have hm := mapM_ok (datEccItem c cv.hashAlg) (keyHash c) (Key.ecc cv x0 y0 :: k1 :: r) (by
        intro k hk'
        obtain ⟨x, y, rfl⟩ := key_of_curve (hk k hk').2
        simp only [datEccItem, exportKey_ok _ (hk _ hk').1, bind_ok]; rfl)
      have hgt : (Key.ecc cv x0 y0 :: k1 :: r).length > 1 := by simp
      have hfl := flatten_lenN _ _ (keyHashes_len c hc fun k hk' => hashAlg_of_curve (hk k hk').2)
      have hpos : 0 < cv.hashAlg.size := by cases cv <;> decide
      simp only [hgt, ↓reduceIte, hm, bind_ok, hnot4, hnotu, List.length_map]
      have hne : ((Key.ecc cv x0 y0 :: k1 :: r).map (keyHash c)).flatten.isEmpty = false := by
        have hp : 0 < ((Key.ecc cv x0 y0 :: k1 :: r).map (keyHash c)).flatten.length := by
          rw [hfl]; exact Nat.mul_pos hpos (by simp)
        cases hE : ((Key.ecc cv x0 y0 :: k1 :: r).map (keyHash c)).flatten with
        | nil => rw [hE] at hp; simp at hp
        | cons _ _ => rfl
      simp only [hne, Bool.false_eq_true, ↓reduceIte, hfl, List.length_map]
      have hdiv : cv.hashAlg.size * (Key.ecc cv x0 y0 :: k1 :: r).length / (Key.ecc cv x0 y0 :: k1 :: r).length
          = cv.hashAlg.size := Nat.mul_div_cancel _ (by simp)
      rw [hdiv, shaLabel_size _ (curve_hash_ne_sha1 cv)]
      rfl

theorem keyOK_rsa {n e : Nat} (h : keyOK (.rsa n e) = true) :
    (∃ bits, (bits = 2048 ∨ bits = 3072 ∨ bits = 4096) ∧ 2 ^ (bits - 1) ≤ n ∧ n < 2 ^ bits) ∧ 0 < e ∧ e < 2 ^ 32 := by
  simp only [keyOK, rsaBitsOK, Bool.and_eq_true, Bool.or_eq_true, decide_eq_true_eq] at h
  obtain ⟨⟨hb, he0⟩, he⟩ := h
  refine ⟨?_, he0, he⟩
  rcases hb with (hb | hb) | hb
  · exact ⟨2048, Or.inl rfl, hb.1, hb.2⟩
  · exact ⟨3072, Or.inr (Or.inl rfl), hb.1, hb.2⟩
  · exact ⟨4096, Or.inr (Or.inr rfl), hb.1, hb.2⟩

/-- `ahabKeyData` for an RSA modulus of exactly `bits` bits, given the two table rows it looks up -/
theorem ahabKeyData_rsa {n e bits code : Nat} (hb : 0 < bits) (h8 : bits % 8 = 0) (h1 : 2 ^ (bits - 1) ≤ n) (h2 : n < 2 ^ bits)
    (he : e < 2 ^ 32) (l1 : G.ahabRsaKeyType.lookup bits = some code) (l2 : G.ahabKeySizes.lookup code = some (bits / 8, 4)) :
    ahabKeyData (.rsa n e) = .ok (code, 0, .sha256, beEnc (bits / 8) n ++ beEnc 4 e) ∧ byteLen n = bits / 8 := by
  have hn : n < 256 ^ (bits / 8) := by rw [pow256, Nat.mul_div_cancel' (Nat.dvd_of_mod_eq_zero h8)]; exact h2
  have he4 : e < 256 ^ 4 := he
  simp only [ahabKeyData, bitLen_of_bounds n bits hb h1 h2, l1, ahabKeyLens, l2, bind_ok, pure_bind, toBytes_fit _ _ hn,
    toBytes_fit _ _ he4]
  exact ⟨rfl, byteLen_of_bounds n bits hb h8 h1 h2⟩

/-- what `ahabKeyData` returns for a key of the domain, in terms of the documented record fields -/
theorem ahabKeyData_ok (k : Key) (h : keyOK k = true) :
    ∃ d, ahabKeyData k = .ok (k.ahabSizeCode, d, k.hashAlg, k.ahabParams) ∧
      G.ahabKeySizes.lookup k.ahabSizeCode = some k.ahabLens := by
  cases k with
  | rsa n e =>
    obtain ⟨⟨bits, hb, h1, h2⟩, _, he⟩ := keyOK_rsa h
    refine ⟨0, ?_⟩
    simp only [Key.ahabSizeCode, Key.ahabLens, Key.ahabParams, Key.hashAlg]
    rcases hb with rfl | rfl | rfl
    · obtain ⟨hd, hby⟩ := ahabKeyData_rsa (code := 5) (by decide) (by decide) h1 h2 he (by decide) (by decide)
      rw [hd, hby]; exact ⟨rfl, by decide⟩
    · obtain ⟨hd, hby⟩ := ahabKeyData_rsa (code := 6) (by decide) (by decide) h1 h2 he (by decide) (by decide)
      rw [hd, hby]; exact ⟨rfl, by decide⟩
    · obtain ⟨hd, hby⟩ := ahabKeyData_rsa (code := 7) (by decide) (by decide) h1 h2 he (by decide) (by decide)
      rw [hd, hby]; exact ⟨rfl, by decide⟩
  | ecc cv x y =>
    obtain ⟨hx, hy⟩ := keyOK_ecc h
    refine ⟨1, ?_⟩
    have hl : ∃ code, G.ahabEccKeyType.lookup (Curve.pyName cv) = some code ∧ (Key.ecc cv x y).ahabSizeCode = code ∧
        G.ahabKeySizes.lookup code = some (cv.coordSize, cv.coordSize) ∧ ahabEccHash cv = .ok cv.hashAlg := by
      cases cv
      · exact ⟨1, by decide, rfl, by decide, by decide⟩
      · exact ⟨2, by decide, rfl, by decide, by decide⟩
      · exact ⟨3, by decide, rfl, by decide, by decide⟩
    obtain ⟨code, l1, l0, l2, l4⟩ := hl
    simp only [ahabKeyData, l1, ahabKeyLens, l2, l4, bind_ok, pure_bind, toBytes_fit _ _ hx, toBytes_fit _ _ hy, l0]
    exact ⟨rfl, rfl⟩

/-- the record the documentation prescribes for a key (fields of `SrkRecord`) -/
def recOf (k : Key) (ca : Bool) (params : Bytes) : SrkRecord :=
  { signAlg := k.ahabSignAlg, hashAlg := k.hashAlg, keySize := k.ahabSizeCode, flags := caFlag ca,
    params := params, length := 12 + params.length }

theorem ahabSignAlg_eq (v2 : Bool) (k : Key) : ahabSignAlg v2 k = k.ahabSignAlg := by
  cases k <;> cases v2 <;> rfl

theorem srkRecordCreate_ok (k : Key) (ca : Bool) (h : keyOK k = true) :
    srkRecordCreate k ca = .ok (recOf k ca k.ahabParams) := by
  obtain ⟨d, hd, _⟩ := ahabKeyData_ok k h
  simp only [srkRecordCreate, hd, bind_ok, ahabSignAlg_eq, recOf, caFlag]
  cases ca <;> rfl

theorem ahabHashTag_eq (v2 : Bool) (a : HashAlg) (h : a ≠ .sha1) : ahabHashTag v2 a = hashTagAhab a := by
  cases a <;> first | exact absurd rfl h | (cases v2 <;> decide)

theorem srkRecordExport_ok (v2 : Bool) (k : Key) (ca : Bool) (params : Bytes) (h : keyOK k = true) :
    srkRecordExport v2 (recOf k ca params) = .ok (ahabRecordHead k ca params.length ++ params) := by
  obtain ⟨d, _, hl⟩ := ahabKeyData_ok k h
  simp only [srkRecordExport, recOf, hl, pure_bind, ahabHashTag_eq _ _ (hashAlg_ne_sha1 k), ahabRecordHead]
  have e : (UInt8.ofNat G.ahabTagSrkRecord) = 0xE1 := by decide
  rw [e]
  simp [byte]
  rfl

theorem ahabRecordHead_len (k : Key) (ca : Bool) (n : Nat) : (ahabRecordHead k ca n).length = 12 := by
  simp [ahabRecordHead, leEnc_len]

theorem ahabRecord_len (k : Key) (ca : Bool) : (ahabRecord k ca).length = 12 + k.ahabParams.length := by
  simp [ahabRecord, ahabRecordHead_len]

/-- all keys are of the kind of the first one and carry the same CA flag -/
def AhabOK (kcs : List (Key × Bool)) : Prop :=
  kcs.length = 4 ∧ (∀ kc ∈ kcs, keyOK kc.1 = true) ∧
  ∃ k0 ca0, kcs.head? = some (k0, ca0) ∧ ∀ kc ∈ kcs, Key.sameKind k0 kc.1 = true ∧ kc.2 = ca0

theorem sameKind_fields {k0 k : Key} (h : Key.sameKind k0 k = true) :
    k.ahabSignAlg = k0.ahabSignAlg ∧ k.hashAlg = k0.hashAlg ∧ k.ahabSizeCode = k0.ahabSizeCode ∧
      k.ahabParams.length = k0.ahabParams.length := by
  cases k0 with
  | rsa n e =>
    cases k with
    | rsa m f =>
      simp only [Key.sameKind, beq_iff_eq] at h
      simp [Key.ahabSignAlg, Key.hashAlg, Key.ahabSizeCode, Key.ahabParams, h, beEnc_length']
    | ecc _ _ _ => simp [Key.sameKind] at h
  | ecc c0 x0 y0 =>
    cases k with
    | rsa _ _ => simp [Key.sameKind] at h
    | ecc c1 x y =>
      simp only [Key.sameKind, beq_iff_eq] at h
      subst h
      cases c0 <;> simp [Key.ahabSignAlg, Key.hashAlg, Key.ahabSizeCode, Key.ahabParams, beEnc_length']

section Table
/- An SRK table whose records are given by an index list: `key i`, `ca i` and the parameter bytes `par i` of record `i`
   (version 1: the key material; version 2: the padded hash of the SRK data). -/
variable {ι : Type} (l : List ι) (key : ι → Key) (ca : ι → Bool) (par : ι → Bytes)

theorem srkTableVerify_ok (k0 : Key) (ca0 : Bool) (L : Nat) (hlen : l.length = 4)
    (h : ∀ i ∈ l, Key.sameKind k0 (key i) = true ∧ ca i = ca0 ∧ (par i).length = L) :
    srkTableVerify (l.map fun i => recOf (key i) (ca i) (par i)) = .ok () := by
  have f : ∀ i ∈ l, recOf (key i) (ca i) (par i) = { recOf k0 ca0 [] with params := par i, length := 12 + L } := by
    intro i hi
    obtain ⟨hs, hc, hl⟩ := h i hi
    obtain ⟨f1, f2, f3, _⟩ := sameKind_fields hs
    simp only [recOf, f1, f2, f3, hc, hl]
  match l, hlen, f with
  | i0 :: rest, hlen, f =>
    have hall : ((i0 :: rest).map fun i => recOf (key i) (ca i) (par i)).all (fun r =>
        r.signAlg == (recOf (key i0) (ca i0) (par i0)).signAlg && r.hashAlg == (recOf (key i0) (ca i0) (par i0)).hashAlg &&
        r.keySize == (recOf (key i0) (ca i0) (par i0)).keySize && r.length == (recOf (key i0) (ca i0) (par i0)).length &&
        r.flags == (recOf (key i0) (ca i0) (par i0)).flags) = true := by
      rw [List.all_eq_true]
      intro r hr
      obtain ⟨i, hi, rfl⟩ := List.mem_map.mp hr
      rw [f i hi, f i0 (by simp)]
      simp
    have e4 : G.ahabRecordsCnt = 4 := rfl
    simp only [srkTableVerify, List.map_cons, List.length_cons, List.length_map, e4] at hall hlen ⊢
    simp only [hall, hlen]
    rfl

theorem srkTableExport_ok (v2 : Bool) (hk : ∀ i ∈ l, keyOK (key i) = true) :
    srkTableExport v2 (l.map fun i => recOf (key i) (ca i) (par i)) =
      .ok (ahabTableOf (if v2 then 0x43 else 0x42) (l.map fun i => ahabRecordHead (key i) (ca i) (par i).length ++ par i)) := by
  have hm := mapM_ok (srkRecordExport v2 ∘ fun i => recOf (key i) (ca i) (par i))
    (fun i => ahabRecordHead (key i) (ca i) (par i).length ++ par i) l
    (fun i hi => srkRecordExport_ok v2 (key i) (ca i) (par i) (hk i hi))
  have hs : ((l.map fun i => recOf (key i) (ca i) (par i)).map (·.length)).sum =
      (l.map fun i => ahabRecordHead (key i) (ca i) (par i).length ++ par i).flatten.length := by
    rw [List.length_flatten, List.map_map, List.map_map]
    congr 1
    apply List.map_congr_left
    intro i _
    simp only [Function.comp_apply, recOf, List.length_append, ahabRecordHead_len]
  have et : UInt8.ofNat G.ahabTagSrkTable = 0xD7 := by decide
  have ev : UInt8.ofNat (if v2 then G.ahabTableVersionV2 else G.ahabTableVersion) = if v2 then 0x43 else 0x42 := by
    cases v2 <;> decide
  simp only [srkTableExport, List.mapM_map, hm, bind_ok, hs, et, ev, pure_eq_ok, ahabTableOf]

end Table

theorem path_ahab (c : CryptoOps) (kcs : List (Key × Bool)) (h : AhabOK kcs) :
    pathAhab c kcs = .ok (rotkhAhab c kcs) := by
  obtain ⟨hlen, hk, k0, ca0, _, hsame⟩ := h
  have hm := mapM_ok (fun kc : Key × Bool => srkRecordCreate kc.1 kc.2) (fun kc => recOf kc.1 kc.2 kc.1.ahabParams) kcs
    (fun kc hkc => srkRecordCreate_ok kc.1 kc.2 (hk kc hkc))
  have hv := srkTableVerify_ok kcs (·.1) (·.2) (fun kc => kc.1.ahabParams) k0 ca0 k0.ahabParams.length hlen
    (fun kc hkc => ⟨(hsame kc hkc).1, (hsame kc hkc).2, (sameKind_fields (hsame kc hkc).1).2.2.2⟩)
  have eh : hashOfName G.ahabTableHash = .ok .sha256 := by decide
  simp only [pathAhab, hm, bind_ok, hv, srkTableExport_ok kcs (·.1) (·.2) (fun kc => kc.1.ahabParams) false hk, eh]
  rfl

theorem srkDataExport_ok (k : Key) (id : Nat) (hid : id < 4) (h : keyOK k = true) :
    srkDataExport k id = .ok (ahabSrkData k id) := by
  obtain ⟨d, hd, _⟩ := ahabKeyData_ok k h
  have e1 : UInt8.ofNat G.ahabSrkDataVersion = 0 := by decide
  have e2 : UInt8.ofNat G.ahabTagSrkData = 0x5D := by decide
  have e3 : leEnc 2 id ++ [0, 0] = [byte id, 0, 0, 0] := by
    match id, hid with
    | 0, _ => decide
    | 1, _ => decide
    | 2, _ => decide
    | 3, _ => decide
  simp only [srkDataExport, hd, bind_ok, pure_eq_ok, e1, e2, ahabSrkData, List.append_assoc, e3]

theorem hashSize_le64 (a : HashAlg) : a.size ≤ 64 := by cases a <;> decide

theorem padTo_hash_len (c : CryptoOps) (hc : CryptoLaws c) (a : HashAlg) (m : Bytes) : (padTo 64 (c.hash a m)).length = 64 := by
  have := hashSize_le64 a
  simp only [padTo, List.length_append, List.length_replicate, hc.hash_len]; omega

theorem srkRecordV2Create_ok (c : CryptoOps) (hc : CryptoLaws c) (k : Key) (ca : Bool) (id : Nat) (hid : id < 4)
    (h : keyOK k = true) :
    srkRecordV2Create c k ca id = .ok (recOf k ca (padTo 64 (c.hash k.hashAlg (ahabSrkData k id)))) := by
  obtain ⟨d, hd, _⟩ := ahabKeyData_ok k h
  have e64 : G.ahabV2ParamsLen = 64 := rfl
  have hl : ¬ 64 < (c.hash k.hashAlg (ahabSrkData k id)).length := by rw [hc.hash_len]; have := hashSize_le64 k.hashAlg; omega
  simp only [srkRecordV2Create, hd, bind_ok, srkDataExport_ok k id hid h, e64, extendBlock, hl, ↓reduceIte, ahabSignAlg_eq, recOf,
    caFlag, pure_eq_ok, padTo]
  cases ca <;> rfl

theorem zipIdx_eq {α} : ∀ (l : List α) (s : Nat), zipIdx l s = l.zipIdx s ∧ Spec.zipIdx l s = l.zipIdx s
  | [], _ => ⟨rfl, rfl⟩
  | a :: l, s => by simp only [zipIdx, Spec.zipIdx, List.zipIdx_cons, zipIdx_eq l (s + 1), and_self]

theorem path_ahabV2 (c : CryptoOps) (hc : CryptoLaws c) (kcs : List (Key × Bool)) (h : AhabOK kcs) :
    pathAhabV2 c kcs = .ok (rotkhAhabV2 c kcs) := by
  obtain ⟨hlen, hk, k0, ca0, _, hsame⟩ := h
  have hmem : ∀ kci ∈ kcs.zipIdx 0, kci.1 ∈ kcs ∧ kci.2 < 4 := fun kci hm =>
    ⟨List.fst_mem_of_mem_zipIdx hm, by have := List.snd_lt_of_mem_zipIdx hm; omega⟩
  have hm := mapM_ok (fun kci : (Key × Bool) × Nat => srkRecordV2Create c kci.1.1 kci.1.2 kci.2)
    (fun kci => recOf kci.1.1 kci.1.2 (padTo 64 (c.hash kci.1.1.hashAlg (ahabSrkData kci.1.1 kci.2)))) (kcs.zipIdx 0)
    (fun kci hm => srkRecordV2Create_ok c hc _ _ _ (hmem kci hm).2 (hk _ (hmem kci hm).1))
  have hv := srkTableVerify_ok (kcs.zipIdx 0) (·.1.1) (·.1.2) (fun kci => padTo 64 (c.hash kci.1.1.hashAlg (ahabSrkData kci.1.1 kci.2)))
    k0 ca0 64 (by rw [List.length_zipIdx, hlen])
    (fun kci hm => ⟨(hsame _ (hmem kci hm).1).1, (hsame _ (hmem kci hm).1).2, padTo_hash_len c hc _ _⟩)
  have hx := srkTableExport_ok (kcs.zipIdx 0) (·.1.1) (·.1.2) (fun kci => padTo 64 (c.hash kci.1.1.hashAlg (ahabSrkData kci.1.1 kci.2)))
    true (fun kci hm => hk _ (hmem kci hm).1)
  have eh : hashOfName G.ahabTableHashV2 = .ok .sha512 := by decide
  simp only [pathAhabV2, (zipIdx_eq kcs 0).1, hm, bind_ok, hv, hx, eh, rotkhAhabV2, ahabTableV2, (zipIdx_eq kcs 0).2, ahabRecordV2,
    padTo_hash_len c hc]
  rfl

/-- the generated description of `SrkItemEcc.__init__` / `export` (field sources, shifts, masks, coordinate-size rule, curve table)
    evaluates, for each of the three curves, to the documented HAB item: key size in BITS (P-521: 0x0209), fixed-width X ‖ Y -/
theorem habEccExport_curve (cv : Curve) (x y : Nat) (ca : Bool) (hx : x < 256 ^ cv.coordSize) (hy : y < 256 ^ cv.coordSize) :
    habEccExport { keySize := cv.bits, x := x, y := y, flag := if ca then 0x80 else 0 } = .ok (habItem (.ecc cv x y) ca) := by
  have e1 : UInt8.ofNat G.habTagKeyPublic = 0xE1 := by decide
  have e2 : UInt8.ofNat G.habAlgEcdsa = 0x27 := by decide
  have hcs : habCoordSize cv.bits = cv.coordSize := by cases cv <;> decide
  have hfl : ¬ ((if ca then 0x80 else 0 : Nat) ≠ 0 ∧ (if ca then 0x80 else 0 : Nat) ≠ 0x80) := by cases ca <;> decide
  have hlen : ¬ (12 + 2 * cv.coordSize ≥ 65536) := by cases cv <;> decide
  have hl : G.habHeaderSize + G.habEccLenExtra + cv.coordSize + cv.coordSize = 12 + 2 * cv.coordSize := by
    have a : G.habHeaderSize = 4 := rfl
    have b : G.habEccLenExtra = 8 := rfl
    rw [a, b]; omega
  have hcurve : ∃ nm id, habCurveName cv.bits = .ok nm ∧ G.habEccKeyType.lookup nm = some id ∧
      (G.habEccExportFields.map (habEccField (if ca then 0x80 else 0) id cv.bits)).any (fun v => decide (v ≥ 256)) = false ∧
      (G.habEccExportFields.map (habEccField (if ca then 0x80 else 0) id cv.bits)).map UInt8.ofNat =
        [0, 0, 0, byte (caFlag ca), byte cv.habId, 0] ++ beEnc 2 cv.bits := by
    cases cv <;> cases ca
    · exact ⟨"secp256r1", 0x4B, by decide, by decide, by decide, by decide⟩
    · exact ⟨"secp256r1", 0x4B, by decide, by decide, by decide, by decide⟩
    · exact ⟨"secp384r1", 0x4D, by decide, by decide, by decide, by decide⟩
    · exact ⟨"secp384r1", 0x4D, by decide, by decide, by decide, by decide⟩
    · exact ⟨"secp521r1", 0x4E, by decide, by decide, by decide, by decide⟩
    · exact ⟨"secp521r1", 0x4E, by decide, by decide, by decide, by decide⟩
  obtain ⟨nm, id, hnm, hid, hany, hf⟩ := hcurve
  simp only [habEccExport, hfl, hcs, toBytes_fit _ _ hx, toBytes_fit _ _ hy, bind_ok, pure_eq_ok, beEnc_length', hlen, hnm, hid,
    hany, hf, hl, e1, e2, ↓reduceIte, Bool.false_eq_true, habItem]
  simp only [List.append_assoc, List.cons_append, List.nil_append]

theorem habItemExport_ok (k : Key) (ca : Bool) (h : keyOK k = true) : habItemExport k ca = .ok (habItem k ca) := by
  cases k with
  | rsa n e =>
    obtain ⟨⟨bits, hb, h1, h2⟩, _, he⟩ := keyOK_rsa h
    have he4 : byteLen e ≤ 4 := byteLen_le_of_lt e 4 he
    have hn : byteLen n ≤ 512 := by
      rw [byteLen_of_bounds n bits (by omega) (by omega) h1 h2]; omega
    have e1 : UInt8.ofNat G.habTagKeyPublic = 0xE1 := by decide
    have e2 : UInt8.ofNat G.habAlgPkcs1 = 0x21 := by decide
    have hlt : ¬ (4 + 8 + byteLen n + byteLen e ≥ 65536) := by omega
    simp only [habItemExport, toBytes_min, bind_ok, beMin_len, hlt, ↓reduceIte, pure_eq_ok, e1, e2, habItem, caFlag, byte]
  | ecc cv x y => exact habEccExport_curve cv x y ca (keyOK_ecc h).1 (keyOK_ecc h).2

theorem path_hab (c : CryptoOps) (kcs : List (Key × Bool)) (h : ∀ kc ∈ kcs, keyOK kc.1 = true) :
    pathHab c kcs = .ok (rotkhHab c kcs) := by
  have hm := mapM_ok (fun kc : Key × Bool => habItemExport kc.1 kc.2) (fun kc => habItem kc.1 kc.2) kcs
    (fun kc hkc => habItemExport_ok kc.1 kc.2 (h kc hkc))
  simp only [pathHab, hm, bind_ok, pure_eq_ok, rotkhHab, List.map_map]
  rfl

/-- the database `rot_type` string of each RoT type selects the path of that type -/
theorem pathRot_name (c : CryptoOps) (t : RotType) (kcs : List (Key × Bool)) :
    pathRot c t.name kcs = match t with
      | .certBlock1 => pathRkhtV1 c (kcs.map (·.1))
      | .certBlock21 => pathRkhtV21 c (kcs.map (·.1))
      | .srkTableAhab => pathAhab c kcs
      | .srkTableAhabV2 => pathAhabV2 c kcs
      | .srkTableHab => pathHab c kcs := by
  have h : ∃ cls, (G.rotClassTypes.find? (fun p => p.2 == t.name)).map (·.1) = some cls ∧
      cls = match t with
        | .certBlock1 => "RotCertBlockv1" | .certBlock21 => "RotCertBlockv21" | .srkTableAhab => "RotSrkTableAhab"
        | .srkTableAhabV2 => "RotSrkTableAhabV2" | .srkTableHab => "RotSrkTableHab" := by
    cases t <;> exact ⟨_, by decide, rfl⟩
  obtain ⟨cls, h1, h2⟩ := h
  simp only [pathRot, h1, h2]
  cases t <;> rfl

theorem rkthFuses_cons4 (a b c d : UInt8) (rest : Bytes) :
    rkthFuses (a :: b :: c :: d :: rest) = leDec [a, b, c, d] :: rkthFuses rest := by
  rw [rkthFuses]; rfl

theorem rkthFuses_le : ∀ (n : Nat) (b : Bytes), b.length = 4 * n →
    ((rkthFuses b).map (leEnc 4)).flatten = b ∧ (rkthFuses b).length = n ∧ ∀ w ∈ rkthFuses b, w < 2 ^ 32
  | 0, [], _ => by rw [rkthFuses]; simp
  | n + 1, a :: b1 :: c :: d :: rest, h => by
    obtain ⟨i1, i2, i3⟩ := rkthFuses_le n rest (by simp at h; omega)
    rw [rkthFuses_cons4]
    refine ⟨?_, by simp [i2], ?_⟩
    · simp only [List.map_cons, List.flatten_cons, i1, leEnc_leDec (w := 4) (s := [a, b1, c, d]) rfl]; rfl
    · intro w hw
      rcases List.mem_cons.mp hw with rfl | hw
      · have := leDec_lt (w := 4) (s := [a, b1, c, d]) rfl; omega
      · exact i3 w hw

/-! ### sequences of `set_rkh` calls: the final table is the function slot ↦ last hash written -/

theorem tbl_getElem? (l : List Bytes) (i : Nat) (hi : i < 4) : (tbl l)[i]? = some (l[i]?.getD Z32) := by
  by_cases h : i < l.length
  · simp [tbl, List.getElem?_append_left h, List.getElem?_eq_getElem h]
  · have h' : l.length ≤ i := by omega
    simp [tbl, List.getElem?_append_right h', List.getElem?_replicate, List.getElem?_eq_none h']
    omega

/-- the last hash written to slot `i` by a call sequence (none: the slot is never written) -/
def lastWrite : List (Nat × Bytes) → Nat → Option Bytes
  | [], _ => none
  | (j, h) :: ops, i => match lastWrite ops i with
    | some x => some x
    | none => if j = i then some h else none

/-- admissible calls: slot 0..3, a 32-byte hash (`set_root_key_hash` refuses every other length) -/
def WFops (ops : List (Nat × Bytes)) : Prop := ∀ op ∈ ops, op.1 ≤ 3 ∧ op.2.length = 32

theorem setRkh_step (l : List Bytes) (i : Nat) (h : Bytes) (hw : WFtab l) (hi : i ≤ 3) (hh : h.length = 32) :
    ∃ l', setRkh l i h = .ok l' ∧ WFtab l' ∧ tbl l' = (tbl l).set i h := by
  obtain ⟨hl, h32⟩ := hw
  have hlen : (l ++ List.replicate (i + 1 - l.length) Z32).length = max l.length (i + 1) := by simp; omega
  refine ⟨_, setRkh_ok l i h ⟨hl, h32⟩ hi hh, ⟨by rw [List.length_set, hlen]; omega, ?_⟩, ?_⟩
  · intro x hx
    rcases List.mem_or_eq_of_mem_set hx with h1 | h1
    · rcases List.mem_append.mp h1 with h2 | h2
      · exact h32 x h2
      · rw [(List.mem_replicate.mp h2).2]; simp
    · rw [h1]; exact hh
  · -- the zeros of `tbl l` split into those `set_rkh` appends and those still missing; the written slot lies before the latter
    have e : tbl l = (l ++ List.replicate (i + 1 - l.length) Z32) ++ List.replicate (4 - max l.length (i + 1)) Z32 := by
      rw [tbl, List.append_assoc, List.replicate_append_replicate]; congr 2; omega
    rw [e, List.set_append_left (s := l ++ List.replicate (i + 1 - l.length) Z32) i h (by rw [hlen]; omega), tbl, List.length_set, hlen]

theorem setSeq_fold : ∀ (ops : List (Nat × Bytes)) (l : List Bytes), WFtab l → WFops ops →
    ∃ l', setSeq l ops = .ok l' ∧ WFtab l' ∧ tbl l' = ops.foldl (fun t op => t.set op.1 op.2) (tbl l) := by
  intro ops
  induction ops with
  | nil => intro l hw _; exact ⟨l, rfl, hw, rfl⟩
  | cons op ops ih =>
    intro l hw ho
    obtain ⟨i, h⟩ := op
    obtain ⟨hi, hh⟩ := ho (i, h) (by simp)
    obtain ⟨l1, e1, w1, t1⟩ := setRkh_step l i h hw hi hh
    obtain ⟨l2, e2, w2, t2⟩ := ih l1 w1 (fun op hop => ho op (by simp [hop]))
    refine ⟨l2, ?_, w2, ?_⟩
    · simp only [setSeq, e1, bind_ok, e2]
    · rw [t2, t1]; rfl

theorem foldl_set_getElem? : ∀ (ops : List (Nat × Bytes)) (t : List Bytes) (i : Nat),
    (ops.foldl (fun t op => t.set op.1 op.2) t)[i]? = (t[i]?).map (fun x => (lastWrite ops i).getD x) := by
  intro ops
  induction ops with
  | nil => intro t i; simp [lastWrite]
  | cons op ops ih =>
    intro t i
    obtain ⟨j, h⟩ := op
    simp only [List.foldl_cons, ih, lastWrite, List.getElem?_set]
    by_cases hji : j = i
    · subst hji
      cases hlw : lastWrite ops j <;> cases ht : t[j]? <;> simp [List.getElem?_eq_some_iff] at ht ⊢
      all_goals first | omega | (obtain ⟨hlt, _⟩ := ht; simp [hlt]) | skip
    · simp only [hji, if_false]
      cases hlw : lastWrite ops i <;> simp

/-- **last write wins**: after any admissible call sequence, slot `i` of the 4-slot table holds the last hash written to it,
    and the former content (zeros if there was none) when it was never written -/
theorem setSeq_last_write (l : List Bytes) (ops : List (Nat × Bytes)) (hw : WFtab l) (ho : WFops ops) :
    ∃ l', setSeq l ops = .ok l' ∧ WFtab l' ∧
      ∀ i, i < 4 → (tbl l')[i]? = some ((lastWrite ops i).getD ((tbl l)[i]?.getD Z32)) := by
  obtain ⟨l', e, w, t⟩ := setSeq_fold ops l hw ho
  refine ⟨l', e, w, ?_⟩
  intro i hi
  have hlen := tbl_length l hw.1
  rw [t, foldl_set_getElem?]
  have : i < (tbl l).length := by omega
  simp [List.getElem?_eq_getElem this]

theorem tbl_ext (a b : List Bytes) (ha : a.length ≤ 4) (hb : b.length ≤ 4) (h : ∀ i, i < 4 → (tbl a)[i]? = (tbl b)[i]?) :
    tbl a = tbl b := by
  apply List.ext_getElem?
  intro i
  by_cases hi : i < 4
  · exact h i hi
  · have h1 := tbl_length a ha; have h2 := tbl_length b hb
    rw [List.getElem?_eq_none (by omega), List.getElem?_eq_none (by omega)]

/-- **order independence**: two admissible call sequences with the same last write per slot give the same exported table and RKTH -/
theorem setSeq_order_indep (c : CryptoOps) (l : List Bytes) (ops1 ops2 : List (Nat × Bytes)) (hw : WFtab l)
    (h1 : WFops ops1) (h2 : WFops ops2) (hlw : ∀ i, i < 4 → lastWrite ops1 i = lastWrite ops2 i) :
    (setSeq l ops1 >>= exportV1) = (setSeq l ops2 >>= exportV1) ∧ (setSeq l ops1 >>= rkthV1 c) = (setSeq l ops2 >>= rkthV1 c) := by
  obtain ⟨a, ea, wa, ta⟩ := setSeq_last_write l ops1 hw h1
  obtain ⟨b, eb, wb, tb⟩ := setSeq_last_write l ops2 hw h2
  have : tbl a = tbl b := tbl_ext a b wa.1 wb.1 (fun i hi => by rw [ta i hi, tb i hi, hlw i hi])
  simp only [ea, eb, bind_ok, exportV1_ok _ wa, exportV1_ok _ wb, rkthV1_tbl c _ wa, rkthV1_tbl c _ wb, this, and_self]

/-- **the v1 certificate block path, any call order**: when the last write to slot `i` is the hash of root key `i` (and no other slot
    is written), the RKTH is the documented RoT value of the ordered key list - whatever the order of the calls, whichever slot
    (e.g. the signing key's) is written first, however often slots are overwritten on the way -/
theorem setSeq_keys_any_order (c : CryptoOps) (hc : CryptoLaws c) (ks : List Key) (h : KeysOK .certBlock1 ks)
    (ops : List (Nat × Bytes)) (ho : WFops ops) (hlw : ∀ i, i < 4 → lastWrite ops i = (ks.map (keyHash c))[i]?) :
    (setSeq [] ops >>= rkthV1 c) = .ok (rotkhV1 c ks) := by
  have hw := wftab_cb1 c hc h
  obtain ⟨a, ea, wa, ta⟩ := setSeq_last_write [] ops ⟨by simp, by simp⟩ ho
  have : tbl a = tbl (ks.map (keyHash c)) := by
    apply tbl_ext a _ wa.1 hw.1
    intro i hi
    rw [ta i hi, hlw i hi, tbl_getElem? (ks.map (keyHash c)) i hi, tbl_getElem? [] i hi]
    simp
  rw [ea, bind_ok, rkthV1_tbl c _ wa, this, rotkhV1_tbl]

end SpsdkVerif.Rkht
