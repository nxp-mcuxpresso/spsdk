/- Lemmas on Model/Sdp.lean shared by SdpRefine and SdpFault: the big-endian codec, equations for the monad `S` and for the
   host primitives on each transport, and the link that never answers (`Silent`, with `Fails` and `Quiet` to walk a routine). -/
import SpsdkVerif.Model.Sdp

namespace SpsdkVerif.Sdp
open SpsdkVerif SpsdkVerif.Sdp.S

@[simp] theorem be_length (n v : Nat) : (be n v).length = n := by
  induction n with
  | zero => rfl
  | succ n ih => simp [be, ih]

theorem foldl_be (n v acc : Nat) :
    (be n v).foldl (fun a x => a * 256 + x.toNat) acc = acc * 256 ^ n + v % 256 ^ n := by
  induction n generalizing acc with
  | zero => simp [be, Nat.mod_one]
  | succ n ih =>
    simp only [be, List.foldl_cons, ih]
    have h8 : (UInt8.ofNat (v / 256 ^ n % 256)).toNat = v / 256 ^ n % 256 := by
      simp [UInt8.toNat_ofNat']
    rw [h8, Nat.pow_succ, Nat.mod_mul (a := 256 ^ n) (b := 256)]
    rw [Nat.add_mul, Nat.mul_assoc, Nat.mul_comm 256 (256 ^ n), Nat.mul_comm (v / 256 ^ n % 256) (256 ^ n)]
    omega

theorem fromBe_be (n v : Nat) (h : v < 256 ^ n) : fromBe (be n v) = v := by
  rw [fromBe, foldl_be, Nat.mod_eq_of_lt h, Nat.zero_mul, Nat.zero_add]

theorem take_be (n v : Nat) (r : Bytes) : (be n v ++ r).take n = be n v := by
  rw [List.take_append_of_le_length (by simp)]; exact List.take_of_length_le (by simp)

theorem drop_be (n v : Nat) (r : Bytes) : (be n v ++ r).drop n = r := by
  rw [List.drop_append_of_le_length (by simp)]; simp [List.drop_of_length_le]

theorem fromBe_take_be (n v : Nat) (r : Bytes) (h : v < 256 ^ n) : fromBe ((be n v ++ r).take n) = v := by
  rw [take_be, fromBe_be n v h]

theorem encode_length (c : Cmd) : c.encode.length = 16 := by simp [Cmd.encode]

theorem parseCmd_encode (c : Cmd) (h : c.fits) : parseCmd c.encode = some c := by
  obtain ⟨h1, h2, h3, h4, h5⟩ := h
  rw [parseCmd, if_pos (encode_length c)]
  simp only [Cmd.encode, List.append_assoc]
  rw [show 11 = 2 + (4 + (1 + 4)) from rfl, show 7 = 2 + (4 + 1) from rfl, show 6 = 2 + 4 from rfl]
  simp only [← List.drop_drop, drop_be]
  rw [fromBe_take_be 2 _ _ (by omega), fromBe_take_be 4 _ _ (by omega), fromBe_take_be 1 _ _ (by omega),
    fromBe_take_be 4 _ _ (by omega), fromBe_take_be 4 _ _ (by omega)]

@[simp] theorem pure_run {α} (a : α) (s : Host) : (pure a : S α) s = (.ok a, s) := rfl
@[simp] theorem bind_run {α β} (m : S α) (f : α → S β) (s : Host) :
    (m >>= f) s = match m s with
      | (.ok a, s') => f a s'
      | (.error e, s') => (.error e, s') := rfl
@[simp] theorem fail_run {α} (e : SErr) (s : Host) : (fail e : S α) s = (.error e, s) := rfl
@[simp] theorem get_run (s : Host) : S.get s = (.ok s, s) := rfl
@[simp] theorem modify_run (f : Host → Host) (s : Host) : S.modify f s = (.ok (), f s) := rfl
@[simp] theorem guardConn_run {α} (m : S α) (s : Host) :
    guardConn m s = match m s with
      | (.ok a, s') => (.ok a, s')
      | (.error _, s') => (.error .conn, s') := rfl

theorem bind_eq {α β} {m : S α} {f : α → S β} {s s1 : Host} {a : α} {r : Except SErr β × Host} (hm : m s = (.ok a, s1))
    (hf : f a s1 = r) : (m >>= f) s = r := by
  rw [bind_run, hm]; exact hf

theorem bind_err {α β} {m : S α} {f : α → S β} {s s1 : Host} {e : SErr} (hm : m s = (.error e, s1)) :
    (m >>= f) s = (.error e, s1) := by
  rw [bind_run, hm]

theorem bind_fst_error {α β} {m : S α} (f : α → S β) {h : Host} {e : SErr} (hm : (m h).1 = .error e) :
    ((m >>= f) h).1 = .error e := by
  rw [bind_run]
  generalize m h = x at hm ⊢
  obtain ⟨_, _⟩ := x
  subst hm
  rfl

theorem bind_ok {α β} {m : S α} {f : α → S β} {s s' : Host} {b : β} (h : (m >>= f) s = (.ok b, s')) :
    ∃ a s1, m s = (.ok a, s1) ∧ f a s1 = (.ok b, s') := by
  rw [bind_run] at h
  generalize m s = x at h ⊢
  obtain ⟨_ | a, s1⟩ := x
  · cases h
  · exact ⟨a, s1, rfl, h⟩

theorem guardConn_ok {α} {m : S α} {s s' : Host} {a : α} (h : guardConn m s = (.ok a, s')) : m s = (.ok a, s') := by
  rw [guardConn_run] at h
  generalize m s = x at h ⊢
  obtain ⟨_ | a, s1⟩ := x
  · cases h
  · exact h

/-- the inner `match` of `Host.devWrite`: the peer after one host write, and what it releases -/
def Peer.react (p : Peer) (w : Bytes) : Peer × List Bytes :=
  match p with
  | .script [] => (.script [], [])
  | .script (c :: cs) => (.script cs, c)
  | .live r => (.live (r.step w).1, [(r.step w).2])
  | .liveHid r => (.liveHid (r.step w).1, (r.step w).2)

theorem devWrite_serial {h : Host} (w : Bytes) (ht : h.tr = .serial) :
    h.devWrite w = { h with txRev := w :: h.txRev, relRev := (h.peer.react w).2 :: h.relRev, peer := (h.peer.react w).1,
                            rx := h.rx ++ (h.peer.react w).2.flatten } := by
  unfold Host.devWrite Peer.react
  rw [ht]
  rcases h.peer with (_ | _) | _ | _ <;> rfl

theorem devWrite_hid {h : Host} (w : Bytes) (ht : h.tr = .hid) :
    h.devWrite w = { h with txRev := w :: h.txRev, relRev := (h.peer.react w).2 :: h.relRev, peer := (h.peer.react w).1,
                            rxR := h.rxR ++ (h.peer.react w).2 } := by
  unfold Host.devWrite Peer.react
  rw [ht]
  rcases h.peer with (_ | _) | _ | _ <;> rfl

theorem sendFrame_serial {h : Host} (rid : Nat) (w : Bytes) (ht : h.tr = .serial) :
    sendFrame rid w h = (.ok (), h.write w) := by
  simp only [sendFrame, ht]

theorem sendFrame_hid {h : Host} (rid : Nat) (w : Bytes) (ht : h.tr = .hid) :
    sendFrame rid w h =
      if h.packSize = 0 ∧ ¬ w.isEmpty then (.error .other, h)
      else (.ok (), (hidFrames rid h.packSize w).foldl (fun x f => x.devWrite f) h) := by
  simp only [sendFrame, ht]

theorem protoRead_serial {h : Host} (n : Nat) (ht : h.tr = .serial) :
    protoRead n h =
      if (if n = 0 then 4 else n) ≤ h.rx.length ∧ ¬ h.rx.isEmpty then
        (.ok (h.expectStatus, h.rx.take (if n = 0 then 4 else n)), { h with rx := h.rx.drop (if n = 0 then 4 else n) })
      else (.error .other, { h with rx := [] }) := by
  simp only [protoRead, ht]

theorem protoRead_hid {h : Host} (n : Nat) (ht : h.tr = .hid) :
    protoRead n h =
      match h.rxR with
      | [] => (.error .other, h)
      | [] :: rs => (.error .other, { h with rxR := rs })
      | (rid :: payload) :: rs => (.ok (rid.toNat = Spec.ridHab, payload), { h with rxR := rs }) := by
  simp only [protoRead, ht]
  rcases h.rxR with _ | ⟨_ | _, _⟩ <;> rfl

/-- nothing to read and the replay script will never release anything -/
def Silent (h : Host) : Prop :=
  h.rx = [] ∧ (∀ r ∈ h.rxR, r = []) ∧ ∃ cs, h.peer = .script cs ∧ ∀ c ∈ cs, ∀ r ∈ c, r = []

theorem devWrite_silent {h : Host} (w : Bytes) (hs : Silent h) : Silent (h.devWrite w) := by
  obtain ⟨h1, h2, cs, h3, h4⟩ := hs
  obtain ⟨cs', out, e, a, b⟩ : ∃ cs' out, h.peer.react w = (.script cs', out) ∧ (∀ c ∈ cs', ∀ r ∈ c, r = []) ∧
      ∀ r ∈ out, r = [] := by
    rw [h3]
    cases cs with
    | nil => exact ⟨[], [], rfl, by simp, by simp⟩
    | cons c cs => exact ⟨cs, c, rfl, fun c' hc' => h4 c' (by simp [hc']), h4 c (by simp)⟩
  cases ht : h.tr
  · rw [devWrite_serial w ht, e]
    exact ⟨by simp [h1, List.flatten_eq_nil_iff.mpr b], h2, cs', rfl, a⟩
  · rw [devWrite_hid w ht, e]
    exact ⟨h1, fun r hr => (List.mem_append.mp hr).elim (h2 r) (b r), cs', rfl, a⟩

theorem foldl_devWrite_silent (fs : List Bytes) {h : Host} (hs : Silent h) :
    Silent (fs.foldl (fun x f => x.devWrite f) h) := by
  induction fs generalizing h with
  | nil => exact hs
  | cons f fs ih => exact ih (devWrite_silent f hs)

def Fails {α} (m : S α) : Prop := ∀ h, Silent h → ∃ e, (m h).1 = .error e

def Quiet {α} (m : S α) : Prop := ∀ h, Silent h → Silent (m h).2

theorem Fails.bind {α β} {m : S α} (hm : Fails m) (f : α → S β) : Fails (m >>= f) :=
  fun h hs => (hm h hs).imp fun _ e => bind_fst_error f e

theorem Quiet.bind {α β} {m : S α} {f : α → S β} (hm : Quiet m) (hf : ∀ a, Fails (f a)) : Fails (m >>= f) := by
  intro h hs
  have := hm h hs
  rw [bind_run]
  generalize m h = x at this ⊢
  obtain ⟨_ | a, h1⟩ := x
  · exact ⟨_, rfl⟩
  · exact hf a h1 this

theorem quiet_sendFrame (rid : Nat) (w : Bytes) : Quiet (sendFrame rid w) := by
  intro h hs
  cases ht : h.tr
  · rw [sendFrame_serial rid w ht]
    exact devWrite_silent w hs
  · rw [sendFrame_hid rid w ht]
    split
    · exact hs
    · exact foldl_devWrite_silent _ hs

theorem quiet_writeCommand (c : Cmd) : Quiet (writeCommand c) := by
  unfold writeCommand
  split
  · exact quiet_sendFrame _ _
  · exact fun _ hs => hs

theorem fails_protoRead (n : Nat) : Fails (protoRead n) := by
  intro h hs
  cases ht : h.tr
  · rw [protoRead_serial n ht, if_neg (by simp [hs.1])]
    exact ⟨_, rfl⟩
  · rw [protoRead_hid n ht]
    rcases hr : h.rxR with _ | ⟨_ | _, _⟩
    · exact ⟨_, rfl⟩
    · exact ⟨_, rfl⟩
    · exact absurd (hs.2.1 _ (hr ▸ List.mem_cons_self)) (List.cons_ne_nil _ _)

/-- `_process_cmd` and `_send_data` begin alike: a closed interface, or any error inside the `try` block, ends in
    SdpConnectionError -/
theorem guarded_silent {α β} {blk : S α} (k : α → S β) (hb : Fails blk) (h : Host) (hs : Silent h) :
    ((do let h ← get
         if ¬ h.opened then fail .conn
         else do
           modify (fun h => { h with status := Spec.stSuccess })
           let x ← guardConn blk
           k x : S β) h).1 = .error .conn := by
  simp only [bind_run, get_run]
  split
  · rfl
  · obtain ⟨e, he⟩ := hb { h with status := Spec.stSuccess } ⟨hs.1, hs.2.1, hs.2.2⟩
    simp only [bind_run, modify_run, guardConn_run]
    generalize blk _ = x at he ⊢
    obtain ⟨_, _⟩ := x
    subst he
    rfl

theorem processCmd_silent (h : Host) (c : Cmd) (hs : Silent h) : (processCmd c h).1 = .error .conn :=
  guarded_silent _ ((quiet_writeCommand c).bind fun _ => fails_protoRead 0) h hs

theorem sendData_silent (h : Host) (c : Cmd) (d : Bytes) (hs : Silent h) : (sendData c d h).1 = .error .conn :=
  guarded_silent _
    ((quiet_writeCommand c).bind fun _ => (quiet_sendFrame _ d).bind fun _ => (fails_protoRead 0).bind _) h hs

/-- on a silent link every SDP operation (SDPS writes only and is excluded) raises SdpConnectionError -/
theorem runOp_silent (h : Host) (op : Op) (hs : Silent h) (hop : ∀ nc ps d, op ≠ .sdpsWriteFile nc ps d) :
    (runOp op h).1 = .error .conn := by
  cases op with
  | sdpsWriteFile nc ps d => exact absurd rfl (hop nc ps d)
  | writeFile a d => exact bind_fst_error _ (sendData_silent h _ d hs)
  | writeDcd a d => exact bind_fst_error _ (sendData_silent h _ d hs)
  | writeCsf a d => exact bind_fst_error _ (sendData_silent h _ d hs)
  | _ => exact bind_fst_error _ (processCmd_silent h _ hs)

theorem statusTail_ok (okv failSt : Nat) (h : Host) : statusTail okv okv failSt h = (.ok (.bool true), h) := by
  simp [statusTail]

theorem statusTail_bad (st okv failSt : Nat) (h : Host) (hne : st ≠ okv) :
    statusTail st okv failSt h =
      ((if h.ce then .error (.cmd failSt) else .ok (.bool false)), { h with status := failSt }) := by
  rw [statusTail, if_pos hne]
  simp only [bind_run, modify_run, get_run]
  cases h.ce <;> rfl

theorem statusTail_true (st okv failSt : Nat) (h h' : Host) (hr : statusTail st okv failSt h = (.ok (.bool true), h')) :
    st = okv := by
  by_cases hne : st = okv
  · exact hne
  · rw [statusTail_bad st okv failSt h hne] at hr
    cases hce : h.ce <;> rw [hce] at hr <;> cases hr

theorem readDataLoop_length (length f : Nat) (acc d : Bytes) (h h' : Host)
    (hr : readDataLoop length f acc h = (.ok d, h')) : d.length = length := by
  induction f generalizing acc h with
  | zero => simp [readDataLoop] at hr
  | succ f ih =>
    unfold readDataLoop at hr
    by_cases hl : acc.length < length
    · simp only [hl, if_true, bind_run, modify_run, guardConn_run] at hr
      rcases hp : protoRead (min (length - acc.length) Spec.maxRead) { h with expectStatus := false } with ⟨r, h1⟩
      rw [hp] at hr
      cases r with
      | error e => simp at hr
      | ok x =>
        simp only at hr
        by_cases hh : ¬ x.1 = true
        · rw [if_pos hh] at hr; exact ih _ _ hr
        · rw [if_neg hh] at hr
          cases hv : respValue x.2 with
          | error e => rw [hv] at hr; simp at hr
          | ok v =>
            rw [hv] at hr
            simp only [bind_run, modify_run] at hr
            exact ih _ _ hr
    · simp only [hl, if_false, pure_run, Prod.mk.injEq, Except.ok.injEq] at hr
      obtain ⟨rfl, _⟩ := hr
      simp; omega

end SpsdkVerif.Sdp
