/-
C03 → C02 / C05: what the ROM models of the other properties answer on certificate blocks EXPORTED by the C03 model.
These theorems discharge the "opaque certificate block" hypotheses of Properties/C02.lean (`RomCertV1OK`, `RomCertV21OK`,
Proofs/MbiRomDefs.lean) and Properties/C05.lean (`DevOK.cert`, Model/Sb31.lean `Rom.romCert`) from the C03 model:
the exported block is self-delimiting, is accepted against the fuse value `Spec.rotkh`, and names the signing key.
-/
import SpsdkVerif.Proofs.CertBlock
import SpsdkVerif.Model.Sb31
import SpsdkVerif.Proofs.MbiRomDefs
import SpsdkVerif.Proofs.RkhtBinding

namespace SpsdkVerif.CertBlock
open SpsdkVerif SpsdkVerif.Spec
open SpsdkVerif.Misc hiding Bytes
open SpsdkVerif.Crypto (HashAlg SigAlg CryptoOps CryptoLaws Bytes)
open SpsdkVerif.Rkht (bind_ok pure_eq_ok RootKeyRecord rkrFlags curveBit exportV21 rkthV21 leEnc_len drop_step flatten_lenN
  WFtab tbl_length tbl_len32 tbl_flatten_len)
open SpsdkVerif.Sb31.Rom (romCert takeB takeU check coordOfCurve algOfCoord R RomErr)

theorem sb_takeB (x r : Bytes) (n : Nat) (h : x.length = n) : takeB n (x ++ r) = .ok (x, r) := by
  subst h; simp [takeB]

theorem sb_takeU (w v : Nat) (r : Bytes) (h : v < 256 ^ w) : takeU w (leEnc w v ++ r) = .ok (v, r) := by
  have hl := leEnc_len w v
  simp only [takeU, List.length_append, hl]
  rw [if_pos (by omega), List.take_left' hl, List.drop_left' hl, leDec_leEnc w v h]

/-- the ISK certificate without its signature: what follows the root key record in the signed range -/
def iskSignedPart (i : IskCert) : Bytes :=
  leEnc 4 (iskSigOffset i) ++ leEnc 4 i.constraints ++ leEnc 4 i.flags ++ i.pubKey ++ i.userData

/-- the key that signs the container / image and its coordinate size, as the ROM reports them -/
def signerOf (cv : Curve) (cb : CertBlockV21) : Bytes × Nat :=
  match cb.isk with
  | none => (cb.rkr.rootPublicKey, cv.hashAlg.size)
  | some i => (i.pubKey, i.pubKey.length / 2)

theorem rbind_ok {ε α β} (a : α) (f : α → Except ε β) : ((Except.ok a : Except ε α) >>= f) = f a := rfl
theorem rpure_ok {ε α} (a : α) : (pure a : Except ε α) = Except.ok a := rfl
theorem check_true (e : RomErr) : check true e = .ok () := rfl

theorem flatten_entry (m : Nat) : ∀ (l : List Bytes) (i : Nat) (h : Bytes), (∀ x ∈ l, x.length = m) → l[i]? = some h →
    (l.flatten.drop (i * m)).take m = h
  | [], i, h, _, hi => by simp at hi
  | a :: l, 0, h, hl, hi => by
    simp only [List.getElem?_cons_zero, Option.some.injEq] at hi
    subst hi
    simp only [Nat.zero_mul, List.drop_zero, List.flatten_cons]
    exact List.take_left' (hl a (by simp))
  | a :: l, i + 1, h, hl, hi => by
    simp only [List.getElem?_cons_succ] at hi
    have ha := hl a (by simp)
    rw [List.flatten_cons, Nat.succ_mul, Nat.add_comm, ← List.drop_drop, List.drop_left' ha]
    exact flatten_entry m l i h (fun x hx => hl x (by simp [hx])) hi

/-- the fuse value the ROM compares the root key record with -/
def rotkhOfRecord (c : CryptoOps) (cv : Curve) (r : RootKeyRecord) : Bytes :=
  if r.rkh.length > 1 then c.hash cv.hashAlg r.rkh.flatten else c.hash cv.hashAlg r.rootPublicKey

/-- what a ROM additionally requires of a well-formed block: format version 2.1, the used index inside the table,
    and the announced table entry is the hash of the root key that follows -/
structure RomWF (c : CryptoOps) (used : Nat) (cv : Curve) (cb : CertBlockV21) : Prop where
  major : cb.major = 2
  minor : cb.minor = 1
  used_lt : used < cb.rkr.rkh.length
  entry : cb.rkr.rkh.length > 1 → cb.rkr.rkh[used]? = some (c.hash cv.hashAlg cb.rkr.rootPublicKey)

section
variable {c : CryptoOps} {ca : Bool} {used : Nat} {cv : Curve} {cb : CertBlockV21}

theorem rotkhOfRecord_eq (r : RootKeyRecord) : rotkhOfRecord c cv r =
    if r.rkh.length > 1 then c.hash cv.hashAlg (exportV21 r.rkh) else c.hash cv.hashAlg r.rootPublicKey := by
  simp only [rotkhOfRecord, exportV21]; split <;> rfl

/-- the table entry at the used index is the hash of the root key -/
theorem table_entry (wr : WFrkr c ca used cv cb.rkr) (rw_ : RomWF c used cv cb) (h1 : cb.rkr.rkh.length > 1) :
    ((exportV21 cb.rkr.rkh).drop (used * cv.hashAlg.size)).take cv.hashAlg.size = c.hash cv.hashAlg cb.rkr.rootPublicKey := by
  rw [show exportV21 cb.rkr.rkh = cb.rkr.rkh.flatten by simp [exportV21, h1]]
  exact flatten_entry _ _ _ _ wr.rkh (rw_.entry h1)

theorem iskFlags_div (ud : Bytes) (pl : Nat) (h : pl = 64 ∨ pl = 96) :
    coordOfCurve (iskCalcFlags ud pl % 16) = .ok (pl / 2) ∧
    ((iskCalcFlags ud pl / 2147483648 % 2 == 1) == !ud.isEmpty) = true := by
  cases hu : ud.isEmpty <;> rcases h with h | h <;> subst h <;> simp only [iskCalcFlags, hu] <;> decide

theorem coordOfCurve_bit (cv : Curve) (h : cv ≠ .p521) : coordOfCurve (curveBit cv) = .ok cv.hashAlg.size := by
  cases cv <;> first | (exact absurd rfl h) | decide

theorem algOfCoord_size (cv : Curve) (h : cv ≠ .p521) : algOfCoord cv.hashAlg.size = cv.hashAlg := by
  cases cv <;> first | (exact absurd rfl h) | decide

end

/-- SB3.1 loader (Model/Sb31.lean `Rom.romCert`), for ANY fuse value `rot`: the walk over a well-formed exported block succeeds exactly
    when `rot` is the fuse value of the block's root key record (otherwise it stops with `certRotkh`); it then reports the signing key
    (ISK if present, else the root key) and, for an ISK certificate, the obligation "root key signs record ‖ ISK certificate up to its
    signature" -/
theorem sb31_romCert_eval {c : CryptoOps} {pointOk : Bytes → Bool} {ca : Bool} {used : Nat} {cv : Curve} {cb : CertBlockV21}
    (wf : WFv21 c pointOk ca used cv cb) (rw_ : RomWF c used cv cb)
    (hsig : ∀ i, cb.isk = some i →
      c.verify (.ecdsa cv.hashAlg) cb.rkr.rootPublicKey (rkrBytes cb.rkr ++ iskSignedPart i) i.signature = true)
    (rot : Bytes) :
    romCert c rot (bytesV21 cb) =
      (check (rotkhOfRecord c cv cb.rkr == rot) .certRotkh >>= fun _ =>
      .ok (⟨(signerOf cv cb).1, (signerOf cv cb).2⟩,
           match cb.isk with
           | none => []
           | some i => [⟨cv.hashAlg.size, cb.rkr.rootPublicKey, rkrBytes cb.rkr ++ iskSignedPart i, i.signature⟩])) := by
  have hm : ([0x63, 0x68, 0x64, 0x72] : Bytes).length = 4 := rfl
  have wr := wf.rkr
  have hcnt : (1 ≤ cb.rkr.rkh.length && cb.rkr.rkh.length ≤ 4 && used < cb.rkr.rkh.length) = true := by
    simp [wr.count1, wr.count4, rw_.used_lt]
  have hpk2 : cb.rkr.rootPublicKey.length = 2 * cv.hashAlg.size := by rw [wr.pk]; omega
  have hca : (ca.toNat == 1) = ca := by cases ca <;> rfl
  have hlen : (bytesV21 cb).length = headerSizeV21 + (rkrBytes cb.rkr).length + (iskPart cb).length := by
    rw [(bytesV21_length cb).1, iskPart_len]
  have hb : bytesV21 cb = [0x63, 0x68, 0x64, 0x72] ++ (leEnc 2 cb.minor ++ (leEnc 2 cb.major ++
      (leEnc 4 (headerSizeV21 + (rkrBytes cb.rkr).length + (iskPart cb).length) ++ (leEnc 4 cb.rkr.flags ++ (exportV21 cb.rkr.rkh ++
      (cb.rkr.rootPublicKey ++ (iskPart cb ++ []))))))) := by
    rw [← List.append_nil (bytesV21 cb), bytesV21_eq]; simp only [rkrBytes, List.append_assoc]; rfl
  simp only [romCert]
  rw [hlen, congrArg (takeB 4) hb]
  obtain ⟨d1, d2, d3, d4, hfl⟩ := wr.flags_div
  simp only [sb_takeB _ _ 4 hm, rbind_ok, beq_self_eq_true, check_true, rw_.major, rw_.minor, sb_takeU 2 1 _ (by decide),
    sb_takeU 2 2 _ (by decide), Bool.and_self, sb_takeU 4 _ _ wf.size_lt, sb_takeU 4 cb.rkr.flags _ hfl, d1, d2, d3, d4, hca,
    coordOfCurve_bit cv wr.cv_ok, hcnt, algOfCoord_size cv wr.cv_ok, sb_takeB (exportV21 cb.rkr.rkh) _ _ wr.table_len,
    sb_takeB cb.rkr.rootPublicKey _ _ hpk2, rotkhOfRecord_eq]
  clear d1 d2 d3 d4 hfl hcnt hb hlen
  have hentry := table_entry wr rw_
  rcases wf.iskPart_cases with ⟨rfl, hn, hp⟩ | ⟨rfl, i, hi, hp, wi⟩
  · by_cases h1 : cb.rkr.rkh.length > 1 <;>
      simp only [h1, ↓reduceIte, hentry, hp, hn, signerOf, beq_self_eq_true, check_true, rbind_ok, List.append_nil, List.isEmpty_nil,
        rpure_ok]
  · obtain ⟨k1, k2⟩ := iskFlags_div i.userData i.pubKey.length wi.pub
    rw [← wi.flags] at k1 k2
    have hpl : 2 * (i.pubKey.length / 2) = i.pubKey.length := by rcases wi.pub with h | h <;> rw [h]
    have hso := wi.sigOffset
    have hso2 : iskSigOffset i - 12 - 2 * (i.pubKey.length / 2) = i.userData.length := by rw [hpl, hso]; omega
    have hle : 12 + 2 * (i.pubKey.length / 2) ≤ iskSigOffset i := by rw [hpl, hso]; omega
    have hsl : i.signature.length = 2 * cv.hashAlg.size := by rw [wi.sig, hpk2]
    -- the signed range: the record, cut out of the block, and the certificate up to its signature
    have hrec : ((bytesV21 cb).drop 12).take (4 + (exportV21 cb.rkr.rkh).length + 2 * cv.hashAlg.size) = rkrBytes cb.rkr := by
      have d0 : (bytesV21 cb ++ []).drop 0 = _ := bytesV21_eq cb []
      rw [← List.append_nil (bytesV21 cb), drop_step 4 (drop_step 2 (drop_step 2 (drop_step 4 d0 rfl) (leEnc_len 2 _)) (leEnc_len 2 _))
        (leEnc_len 4 _)]
      exact List.take_left' (by simp only [rkrBytes, List.length_append, leEnc_len, hpk2])
    have htk : (iskBytes i ++ []).take (iskSigOffset i) = iskSignedPart i := by
      rw [show iskBytes i ++ [] = iskSignedPart i ++ (i.signature ++ []) by simp only [iskBytes, iskSignedPart, List.append_assoc]]
      exact List.take_left' (by simp only [iskSignedPart, List.length_append, leEnc_len, hso]; omega)
    simp only [Bool.false_eq_true, ↓reduceIte, hp, hrec]
    rw [iskBytes_eq] at htk ⊢
    simp only [htk, sb_takeU 4 _ _ wi.sigoff, sb_takeU 4 _ _ wi.constraints, sb_takeU 4 _ _ wi.flags_lt, rbind_ok, k1, k2, hle, decide_true,
      check_true, sb_takeB i.pubKey _ _ hpl.symm, hso2, sb_takeB i.userData _ _ rfl, sb_takeB i.signature _ _ hsl, List.isEmpty_nil,
      hsig i hi, signerOf, hi, rpure_ok]
    by_cases h1 : cb.rkr.rkh.length > 1 <;> simp only [h1, ↓reduceIte, hentry, beq_self_eq_true, check_true, rbind_ok]

/-- SB3.1 loader: a well-formed exported block is accepted against the fuse value of its root key record -/
theorem sb31_romCert_accepts {c : CryptoOps} {pointOk : Bytes → Bool} {ca : Bool} {used : Nat} {cv : Curve} {cb : CertBlockV21}
    (wf : WFv21 c pointOk ca used cv cb) (rw_ : RomWF c used cv cb)
    (hsig : ∀ i, cb.isk = some i →
      c.verify (.ecdsa cv.hashAlg) cb.rkr.rootPublicKey (rkrBytes cb.rkr ++ iskSignedPart i) i.signature = true) :
    romCert c (rotkhOfRecord c cv cb.rkr) (bytesV21 cb) =
      .ok (⟨(signerOf cv cb).1, (signerOf cv cb).2⟩,
           match cb.isk with
           | none => []
           | some i => [⟨cv.hashAlg.size, cb.rkr.rootPublicKey, rkrBytes cb.rkr ++ iskSignedPart i, i.signature⟩]) := by
  rw [sb31_romCert_eval wf rw_ hsig, beq_self_eq_true]; rfl

/-- acceptance by the SB3.1 loader ⇒ the fuses hold the fuse value of the block's root key record -/
theorem sb31_romCert_ok_rot {c : CryptoOps} {pointOk : Bytes → Bool} {ca : Bool} {used : Nat} {cv : Curve} {cb : CertBlockV21}
    (wf : WFv21 c pointOk ca used cv cb) (rw_ : RomWF c used cv cb)
    (hsig : ∀ i, cb.isk = some i →
      c.verify (.ecdsa cv.hashAlg) cb.rkr.rootPublicKey (rkrBytes cb.rkr ++ iskSignedPart i) i.signature = true)
    (rot : Bytes) (x : Sb31.Rom.CertInfo × List Sb31.Rom.SigOb) (h : romCert c rot (bytesV21 cb) = .ok x) :
    rot = rotkhOfRecord c cv cb.rkr := by
  rw [sb31_romCert_eval wf rw_ hsig rot] at h
  by_cases e : (rotkhOfRecord c cv cb.rkr == rot) = true
  · exact (beq_iff_eq.mp e).symm
  · simp only [Bool.not_eq_true] at e
    rw [e] at h
    cases h

section MbiRom
open SpsdkVerif.Spec.MbiRom (rd32 rd16 sub need Rom romCertV21 romCertV1 Obligation coordSizeOfCode hashOfCoord)
open SpsdkVerif.Mbi (certAt RomCertV21OK RomCertV1OK romEnvOf)

/-- a block sitting at `off` is what the image holds from `off` on, followed by whatever comes after it -/
theorem certAt_drop {img cert : Bytes} {off : Nat} (h : certAt img cert off) (hne : cert ≠ []) :
    ∃ Q, img.drop off = cert ++ Q ∧ img.length = off + cert.length + Q.length := by
  unfold certAt sub at h
  rw [List.drop_take, Nat.add_sub_cancel_left] at h
  have hl := congrArg List.length h
  rw [List.length_take, List.length_drop] at hl
  have hpos : 0 < cert.length := List.length_pos_iff.mpr hne
  exact ⟨(img.drop off).drop cert.length, (List.take_append_drop _ _).symm.trans (congrArg (· ++ _) h),
    by rw [List.length_drop, List.length_drop]; omega⟩

theorem drop_piece (x rest : Bytes) (n : Nat) (h : x.length = n) : (x ++ rest).drop n = rest := List.drop_left' h

/-- the fields of an image read at a position where its content is known -/
theorem rd32_enc {img r : Bytes} {o v : Nat} (h : img.drop o = leEnc 4 v ++ r) (hv : v < 256 ^ 4) : rd32 img o = v := by
  rw [rd32, h, List.take_left' (leEnc_len 4 v), leDec_leEnc 4 v hv]

theorem rd16_enc {img r : Bytes} {o v : Nat} (h : img.drop o = leEnc 2 v ++ r) (hv : v < 256 ^ 2) : rd16 img o = v := by
  rw [rd16, h, List.take_left' (leEnc_len 2 v), leDec_leEnc 2 v hv]

theorem sub_of_drop {img x r : Bytes} {o : Nat} (n : Nat) (h : img.drop o = x ++ r) (hx : x.length = n) : sub img o (o + n) = x := by
  rw [sub, List.drop_take, Nat.add_sub_cancel_left, h, List.take_left' hx]

theorem coordSizeOfCode_bit (cv : Curve) (h : cv ≠ .p521) : coordSizeOfCode (curveBit cv) = some cv.hashAlg.size := by
  cases cv <;> first | (exact absurd rfl h) | decide

theorem iskFlags_bit (ud : Bytes) (pl : Nat) (h : pl = 64 ∨ pl = 96) :
    coordSizeOfCode (iskCalcFlags ud pl % 16) = some (pl / 2) ∧
    (iskCalcFlags ud pl / 2147483648 % 2 == 1) = !ud.isEmpty := by
  cases hu : ud.isEmpty <;> rcases h with h | h <;> subst h <;> simp only [iskCalcFlags, hu] <;> decide

theorem hashOfCoord_size (cv : Curve) (h : cv ≠ .p521) : hashOfCoord cv.hashAlg.size = cv.hashAlg := by
  cases cv <;> first | (exact absurd rfl h) | decide

theorem need_true (why : String) : need true why = .ok () := rfl

/-- the obligation the ROM leaves to the environment for a block with an ISK certificate -/
def obsOf (cb : CertBlockV21) : List Obligation :=
  match cb.isk with
  | none => []
  | some i => [.ecdsa cb.rkr.rootPublicKey (rkrBytes cb.rkr ++ iskSignedPart i) i.signature]

/-- MBI ROM (Spec/MbiRom.lean `romCertV21`, property C02): wherever a well-formed exported block sits in an image, the walk
    accepts it against the fuse value of its root key record, ends exactly at `off + |block|`, reports the signing key and
    leaves the ISK obligation - this is `RomCertV21OK` of Proofs/MbiRomDefs.lean -/
theorem mbi_romCertV21_ok {c : CryptoOps} {pointOk : Bytes → Bool} {ca : Bool} {used : Nat} {cv : Curve} {cb : CertBlockV21}
    (wf : WFv21 c pointOk ca used cv cb) (rw_ : RomWF c used cv cb) (renv : Spec.MbiRom.RomEnv)
    (hrkth : renv.rkth = rotkhOfRecord c cv cb.rkr) :
    RomCertV21OK c renv (bytesV21 cb) (signerOf cv cb).1.length (signerOf cv cb).1 (fun _ _ => obsOf cb) := by
  refine ⟨rfl, ?_⟩
  intro img off hat _
  have hm : G.cbV21Magic.length = 4 := rfl
  have wr := wf.rkr
  obtain ⟨Q, d0, hil⟩ := certAt_drop hat (by rw [← List.append_nil (bytesV21 cb), bytesV21_eq]; exact List.cons_ne_nil _ _)
  have hpk2 : cb.rkr.rootPublicKey.length = 2 * cv.hashAlg.size := by rw [wr.pk]; omega
  have hrl : (rkrBytes cb.rkr).length = 4 + (exportV21 cb.rkr.rkh).length + cb.rkr.rootPublicKey.length := (bytesV21_length cb).2.1
  rw [(bytesV21_length cb).1, ← iskPart_len, hrl, headerSizeV21] at hil ⊢
  -- where the fields are
  rw [bytesV21_eq, rkrBytes_eq] at d0
  have d4 : img.drop (off + 4) = _ := drop_step 4 d0 hm
  have d6 : img.drop (off + 6) = _ := drop_step 2 d4 (leEnc_len 2 _)
  have d8 : img.drop (off + 8) = _ := drop_step 2 d6 (leEnc_len 2 _)
  have d12 : img.drop (off + 12) = _ := drop_step 4 d8 (leEnc_len 4 _)
  have dT : img.drop (off + 12 + 4) = _ := drop_step 4 d12 (leEnc_len 4 _)
  have dK : img.drop (off + 12 + 4 + (exportV21 cb.rkr.rkh).length) = _ := drop_step _ dT rfl
  have dI : img.drop (off + 12 + 4 + (exportV21 cb.rkr.rkh).length + cb.rkr.rootPublicKey.length) = _ := drop_step _ dK rfl
  have hca : (ca.toNat == 1) = ca := by cases ca <;> rfl
  have hentry : cb.rkr.rkh.length > 1 →
      sub (exportV21 cb.rkr.rkh) (used * cv.hashAlg.size) ((used + 1) * cv.hashAlg.size) = c.hash cv.hashAlg cb.rkr.rootPublicKey := by
    intro h1
    rw [sub, List.drop_take, Nat.succ_mul, Nat.add_sub_cancel_left]; exact table_entry wr rw_ h1
  have hcnt : 1 ≤ cb.rkr.rkh.length ∧ cb.rkr.rkh.length ≤ 4 ∧ used < cb.rkr.rkh.length := ⟨wr.count1, wr.count4, rw_.used_lt⟩
  have hin : off + 12 + 4 ≤ img.length ∧ off + 12 + 4 + (exportV21 cb.rkr.rkh).length + cb.rkr.rootPublicKey.length ≤ img.length := by
    omega
  have hmag : (G.cbV21Magic == ([0x63, 0x68, 0x64, 0x72] : Bytes)) = true := by decide
  have hchk1 : decide ((cb.rkr.rkh.length == 1) = true ∨
      (sub (exportV21 cb.rkr.rkh) (used * cv.hashAlg.size) ((used + 1) * cv.hashAlg.size) ==
        c.hash cv.hashAlg cb.rkr.rootPublicKey) = true) = true := decide_eq_true (by
    by_cases h1 : cb.rkr.rkh.length > 1
    · exact Or.inr (by rw [hentry h1]; exact beq_self_eq_true _)
    · exact Or.inl (by rw [show cb.rkr.rkh.length = 1 by omega]; rfl))
  have hchk2 : ((if (cb.rkr.rkh.length == 1) = true then c.hash cv.hashAlg cb.rkr.rootPublicKey
      else c.hash cv.hashAlg (exportV21 cb.rkr.rkh)) == renv.rkth) = true := by
    rw [hrkth, rotkhOfRecord_eq]
    by_cases h1 : cb.rkr.rkh.length > 1
    · rw [if_neg (by rw [beq_iff_eq]; omega), if_pos h1]; exact beq_self_eq_true _
    · rw [if_pos (by rw [beq_iff_eq]; omega), if_neg h1]; exact beq_self_eq_true _
  obtain ⟨f1, f2, f3, f4, hfl⟩ := wr.flags_div
  simp only [romCertV21, MbiRom.certV21HeaderSize, MbiRom.certV21Magic, sub_of_drop 4 d0 hm, rd16_enc d4 wf.minor, rd16_enc d6 wf.major,
    rd32_enc d8 wf.size_lt, rd32_enc d12 hfl, bit31_bne, and_15, Nat.shiftRight_eq_div_pow, Nat.reducePow, f1, f2, f3, f4, hca,
    coordSizeOfCode_bit cv wr.cv_ok, hashOfCoord_size cv wr.cv_ok, ← wr.table_len, ← hpk2, sub_of_drop _ dT rfl, sub_of_drop _ dK rfl,
    hin, hmag, rw_.major, rw_.minor, hcnt, decide_true, need_true, rbind_ok, beq_self_eq_true, and_self, hchk1, hchk2, headerSizeV21,
    hrl]
  clear f1 f2 f3 f4 hfl hchk1 hchk2 hentry hcnt hin d0 d4 d6 d8 dT dK
  rcases wf.iskPart_cases with ⟨rfl, hn, hp⟩ | ⟨rfl, i, hi, hp, wi⟩
  · rw [hp, List.length_nil] at hil ⊢
    have hend : off + 12 + 4 + (exportV21 cb.rkr.rkh).length + cb.rkr.rootPublicKey.length =
        off + (12 + (4 + (exportV21 cb.rkr.rkh).length + cb.rkr.rootPublicKey.length) + 0) := by omega
    simp only [↓reduceIte, rpure_ok, rbind_ok, hend, beq_self_eq_true, need_true, signerOf, obsOf, hn]
  · obtain ⟨k1, k2⟩ := iskFlags_bit i.userData i.pubKey.length wi.pub
    rw [← wi.flags] at k1 k2
    have hso : iskSigOffset i = 12 + i.pubKey.length + i.userData.length := by rw [wi.sigOffset]; omega
    have hsigl : i.signature.length = cb.rkr.rootPublicKey.length := wi.sig
    rw [hp, (bytesV21_length cb).2.2 i] at hil ⊢
    rw [hp, iskBytes_eq] at dI
    generalize he : off + 12 + 4 + (exportV21 cb.rkr.rkh).length + cb.rkr.rootPublicKey.length = e at *
    have i8 : img.drop (e + 8) = _ := drop_step 4 (drop_step 4 dI (leEnc_len 4 _)) (leEnc_len 4 _)
    have i12 : img.drop (e + 12) = _ := drop_step 4 i8 (leEnc_len 4 _)
    have iS : img.drop (e + iskSigOffset i) = i.signature ++ Q := by
      rw [hso, ← Nat.add_assoc, ← Nat.add_assoc]; exact drop_step _ (drop_step _ i12 rfl) rfl
    -- the signed range, read from the image
    have hsigned : sub img (off + 12) (e + iskSigOffset i) = rkrBytes cb.rkr ++ iskSignedPart i := by
      have := sub_of_drop (x := rkrBytes cb.rkr ++ iskSignedPart i) (r := i.signature ++ Q) _
        (by rw [d12, hp]; simp only [rkrBytes, iskBytes, iskSignedPart, List.append_assoc]) rfl
      rwa [show off + 12 + (rkrBytes cb.rkr ++ iskSignedPart i).length = e + iskSigOffset i by
        rw [List.length_append, hrl, ← he]; simp only [iskSignedPart, List.length_append, leEnc_len, hso]; omega] at this
    have hN : e + 12 ≤ img.length ∧ iskSigOffset i ≥ 12 + i.pubKey.length ∧
        e + iskSigOffset i + cb.rkr.rootPublicKey.length ≤ img.length ∧ e + iskSigOffset i + cb.rkr.rootPublicKey.length =
          off + (12 + (4 + (exportV21 cb.rkr.rkh).length + cb.rkr.rootPublicKey.length) +
            (12 + i.pubKey.length + i.userData.length + i.signature.length)) := by omega
    have n3 : ((!i.userData.isEmpty) == decide (iskSigOffset i > 12 + i.pubKey.length)) = true := by
      rw [hso]; cases h : i.userData <;> simp
    have hpl : 2 * (i.pubKey.length / 2) = i.pubKey.length := by rcases wi.pub with h | h <;> rw [h]
    simp only [Bool.false_eq_true, ↓reduceIte, hN.1, hN.2.1, hN.2.2.1, decide_true, need_true, rbind_ok, rd32_enc i8 wi.flags_lt, k1,
      hpl, rd32_enc dI wi.sigoff, k2, n3, sub_of_drop _ i12 rfl, sub_of_drop _ iS hsigl, hsigned, rpure_ok, beq_iff_eq.mpr hN.2.2.2,
      signerOf, obsOf, hi]
    rw [hN.2.2.2]
end MbiRom

section MbiRomV1
open SpsdkVerif.Spec.MbiRom (rd32 rd16 sub need Rom romCertV1 certEntries CertV1Info)
open SpsdkVerif.Mbi (certAt RomCertV1OK certSetImageLength)

/-- positions (offset of the DER bytes, length) of the certificates of a table that starts at `o` -/
def relCerts : List Bytes → Nat → List (Nat × Nat)
  | [], _ => []
  | c :: rest, o => (o + 4, c.length) :: relCerts rest (o + 4 + c.length)

theorem relCerts_shift : ∀ (certs : List Bytes) (o off : Nat),
    relCerts certs (off + o) = (relCerts certs o).map (fun p => (off + p.1, p.2))
  | [], _, _ => rfl
  | c :: rest, o, off => by
    simp only [relCerts, List.map_cons, List.cons.injEq, Prod.mk.injEq, and_true]
    refine ⟨by omega, ?_⟩
    have := relCerts_shift rest (o + 4 + c.length) off
    rw [← this]; congr 1; omega

/-- the ROM's walk over the length-prefixed certificate table that the image holds at `o` -/
theorem certEntries_ok : ∀ (certs : List Bytes) (body post : Bytes) (o limit : Nat), body.drop o = certsBytes certs ++ post →
    (∀ c ∈ certs, 0 < c.length ∧ c.length < 256 ^ 4) → o + certTableLength certs ≤ limit →
    certEntries body certs.length o limit = .ok (relCerts certs o, o + certTableLength certs)
  | [], body, post, o, limit, _, _, _ => by simp [certEntries, relCerts, certTableLength]
  | c :: rest, body, post, o, limit, hd, h, hl => by
    obtain ⟨h0, h1⟩ := h c (by simp)
    have hctl : certTableLength (c :: rest) = c.length + 4 + certTableLength rest := by
      simp only [certTableLength, List.map_cons, List.sum_cons]
    rw [hctl] at hl ⊢
    rw [certsBytes_cons, List.append_assoc, List.append_assoc] at hd
    have ih := certEntries_ok rest body post (o + 4 + c.length) limit (drop_step _ (drop_step 4 hd (leEnc_len 4 _)) rfl)
      (fun x hx => h x (by simp [hx])) (by omega)
    have c1 : decide (o + 4 ≤ limit) = true := decide_eq_true (by omega)
    have c2 : decide (c.length > 0 ∧ o + 4 + c.length ≤ limit) = true := decide_eq_true ⟨h0, by omega⟩
    simp only [List.length_cons, certEntries, rd32_enc hd h1, c1, c2, need_true, rbind_ok, ih, rpure_ok, relCerts]
    congr 2
    omega

/-- what the MBI ROM additionally requires of a well-formed v1 block: version 1.0, at most four non-empty certificates,
    and the block aligned to 4 (as `Mbi_MixinCertBlockV1` exports it) -/
structure RomWFv1 (cb : CertBlockV1) : Prop where
  major : cb.major = 1
  minor : cb.minor = 0
  count : cb.certs.length ≤ 4
  nonempty : ∀ c ∈ cb.certs, 0 < c.length
  align : cb.alignment = 4

theorem bodyV1_len_il (cb : CertBlockV1) (il : Nat) : (bodyV1 { cb with imageLength := il }).length = (bodyV1 cb).length := by
  simp only [bodyV1, List.length_append, leEnc_len]

/-- patching the `image_length` word of an exported block = exporting the block with that image length -/
theorem setImageLength_bytesV1 (cb : CertBlockV1) (il : Nat) :
    certSetImageLength (bytesV1 cb) il = bytesV1 { cb with imageLength := il } := by
  have hsig : G.cbV1Signature.length = 4 := rfl
  have e : ∀ cb' : CertBlockV1, bytesV1 cb' = (G.cbV1Signature ++ leEnc 2 cb'.major ++ leEnc 2 cb'.minor ++ leEnc 4 32 ++
      leEnc 4 cb'.flags ++ leEnc 4 cb'.buildNumber) ++ (leEnc 4 cb'.imageLength ++ (leEnc 4 cb'.certs.length ++
      (leEnc 4 (certTableLength cb'.certs) ++ (certsBytes cb'.certs ++ ((pad4 cb'.rkh).flatten ++
      List.replicate (alignNat (bodyV1 cb').length cb'.alignment - (bodyV1 cb').length) 0))))) := by
    intro cb'; simp only [bytesV1, bodyV1, certsBytes, List.append_assoc]
  have hl : (G.cbV1Signature ++ leEnc 2 cb.major ++ leEnc 2 cb.minor ++ leEnc 4 32 ++ leEnc 4 cb.flags ++
      leEnc 4 cb.buildNumber).length = 20 := by simp only [List.length_append, leEnc_len, hsig]
  rw [e cb, e { cb with imageLength := il }]
  simp only [certSetImageLength, Mbi.setAt, Mbi.certImageLengthOffset, Mbi.le32, leEnc_len]
  rw [List.take_left' hl, drop_step 4 (List.drop_left' hl) (leEnc_len 4 _)]
  simp only [List.append_assoc, bodyV1_len_il]

theorem table_of_pad4 (l : List Bytes) (hw : WFtab l) :
    (List.range 4).map (fun i => sub (pad4 l).flatten (i * 32) ((i + 1) * 32)) = pad4 l := by
  obtain ⟨a, b, c, d, e⟩ := Rkht.list_eq4 (pad4 l) (tbl_length l hw.1)
  have hm : ∀ x ∈ pad4 l, x.length = 32 := tbl_len32 l hw.2
  rw [e] at hm ⊢
  have ha := hm a (by simp); have hb := hm b (by simp); have hc := hm c (by simp); have hd := hm d (by simp)
  have e0 : [a, b, c, d].flatten.drop 0 = a ++ (b ++ (c ++ (d ++ []))) := rfl
  have e1 := drop_step 32 e0 ha
  have e2 := drop_step 32 e1 hb
  have e3 := drop_step 32 e2 hc
  have s0 : sub [a, b, c, d].flatten 0 32 = a := sub_of_drop 32 e0 ha
  have s1 : sub [a, b, c, d].flatten 32 64 = b := sub_of_drop 32 e1 hb
  have s2 : sub [a, b, c, d].flatten 64 96 = c := sub_of_drop 32 e2 hc
  have s3 : sub [a, b, c, d].flatten 96 128 = d := sub_of_drop 32 e3 hd
  have r : List.range 4 = [0, 1, 2, 3] := by decide
  simp only [r, List.map_cons, List.map_nil, Nat.reduceMul, Nat.reduceAdd, s0, s1, s2, s3]

/-- MBI ROM (Spec/MbiRom.lean `romCertV1`, property C02): wherever a well-formed exported v1 block (with any `image_length`
    patched in) sits in an image, the walk accepts it against the fuse value SHA-256(RKH table), finds the certificates at
    their positions, the four-slot RKH table, the image length, and ends at `off + |block|` - this is `RomCertV1OK` -/
theorem mbi_romCertV1_ok {c : CryptoOps} {certOk : Bytes → Bool} {cb : CertBlockV1} (wf : WFv1 certOk cb) (rwf : RomWFv1 cb)
    (renv : Spec.MbiRom.RomEnv) (hrkth : renv.rkth = c.hash .sha256 (pad4 cb.rkh).flatten) :
    RomCertV1OK c renv (bytesV1 cb) (relCerts cb.certs 32) (pad4 cb.rkh) := by
  have hcne : 1 ≤ cb.certs.length := List.length_pos_iff.mpr wf.certs_ne
  refine ⟨?_, ?_⟩
  · cases h : cb.certs with
    | nil => exact absurd h wf.certs_ne
    | cons a t => simp [relCerts]
  intro body off il hat hil
  rw [setImageLength_bytesV1] at hat
  have hsig : G.cbV1Signature.length = 4 := rfl
  have wf' : WFv1 certOk { cb with imageLength := il } := { wf with image := hil }
  have hlen' : (bytesV1 { cb with imageLength := il }).length = (bytesV1 cb).length := by
    rw [bytesV1_length certOk _ wf', bytesV1_length certOk _ wf]
  obtain ⟨Q, d0, hbl⟩ := certAt_drop hat (by
    intro h; have := congrArg List.length h; rw [bytesV1_length certOk _ wf'] at this
    have := (alignNat_spec (32 + certTableLength cb.certs + 128) cb.alignment wf.align).2.1
    simp only [List.length_nil] at *; omega)
  have hT : (pad4 cb.rkh).flatten.length = 4 * 32 := tbl_flatten_len _ wf.tab
  -- where the fields are
  rw [bytesV1_eq] at d0
  simp only [headerV1Bytes, hdrOf, List.append_assoc, rwf.major, rwf.minor] at d0
  have d4 : body.drop (off + 4) = _ := drop_step 4 d0 hsig
  have d6 : body.drop (off + 6) = _ := drop_step 2 d4 (leEnc_len 2 _)
  have d8 : body.drop (off + 8) = _ := drop_step 2 d6 (leEnc_len 2 _)
  have d20 : body.drop (off + 20) = _ := drop_step 4 (drop_step 4 (drop_step 4 d8 (leEnc_len 4 _)) (leEnc_len 4 _)) (leEnc_len 4 _)
  have d24 : body.drop (off + 24) = _ := drop_step 4 d20 (leEnc_len 4 _)
  have d28 : body.drop (off + 28) = _ := drop_step 4 d24 (leEnc_len 4 _)
  have d32 : body.drop (off + 32) = _ := drop_step 4 d28 (leEnc_len 4 _)
  have dT : body.drop (off + 32 + certTableLength cb.certs) = _ := drop_step _ d32 (certsBytes_len _)
  have hce := certEntries_ok cb.certs body _ (off + 32) (off + 32 + certTableLength cb.certs) d32
    (fun x hx => ⟨rwf.nonempty x hx, (wf.certs x hx).1⟩) (Nat.le_refl _)
  rw [hlen'] at hbl
  rw [bytesV1_length certOk _ wf, rwf.align] at hbl ⊢
  have ha := (alignNat_spec (32 + certTableLength cb.certs + 128) 4 (by decide)).2.1
  have hmag : (G.cbV1Signature == MbiRom.certV1Magic) = true := by decide
  have n0 : off + 32 ≤ body.length := by omega
  have ncnt : 1 ≤ cb.certs.length ∧ cb.certs.length ≤ 4 := ⟨hcne, rwf.count⟩
  have nrk : off + 32 + certTableLength cb.certs + 4 * 32 ≤ body.length := by omega
  have hh : (c.hash .sha256 (pad4 cb.rkh).flatten == renv.rkth) = true := by rw [hrkth]; exact beq_self_eq_true _
  simp only [romCertV1, MbiRom.certV1HeaderSize, MbiRom.rkhTableEntries, MbiRom.rkhSize, n0, decide_true, need_true, rbind_ok,
    sub_of_drop 4 d0 hsig, hmag, rd16_enc d4 (by decide), rd16_enc d6 (by decide), rd32_enc d8 (by decide), beq_self_eq_true, and_self,
    rd32_enc d20 hil, rd32_enc d24 wf.count, rd32_enc d28 wf.table, ncnt, hce, nrk, sub_of_drop _ dT hT, hh, rpure_ok]
  refine ⟨_, rfl, relCerts_shift cb.certs 32 off, table_of_pad4 cb.rkh wf.tab, rfl, ?_⟩
  show off + MbiRom.align4 (off + 32 + certTableLength cb.certs + 4 * 32 - off) = _
  rw [show off + 32 + certTableLength cb.certs + 4 * 32 - off = 32 + certTableLength cb.certs + 128 by omega]
  rfl

end MbiRomV1

section EndToEnd
open SpsdkVerif.Rkht
open SpsdkVerif.Mbi (RomCertV21OK RomCertV1OK)

/-- the fuse value of a calculated root key record is the documented cert-block-2.1 value of the key list -/
theorem rotkhOfRecord_calculated (c : CryptoOps) (ks : List Key) (cv : Curve) (ku : Key) (used : Nat) (flags : Nat)
    (h1 : 1 ≤ ks.length) (hku : ks[used]? = some ku) (hu : used < ks.length) (hall : ∀ k ∈ ks, k.curve? = some cv) :
    rotkhOfRecord c cv { flags := flags, rkh := ks.map (keyHash c), rootPublicKey := ku.material } = Spec.rotkh c .certBlock21 ks := by
  rw [rotkh_certBlock21]
  match ks, h1 with
  | [k0], _ =>
    have h0 : used = 0 := by simp at hu; omega
    subst h0
    simp only [List.getElem?_cons_zero, Option.some.injEq] at hku
    subst hku
    simp [rotkhOfRecord, rotkhV21, keyHash, hashAlg_of_curve (hall k0 (by simp))]
  | k0 :: k1 :: r, _ => simp [rotkhOfRecord, rotkhV21, ctrkTable, hashAlg_of_curve (hall k0 (by simp))]

theorem romWF_calculated (c : CryptoOps) (ks : List Key) (cv : Curve) (ku : Key) (used : Nat) (flags : Nat) (isk : Option IskCert)
    (hku : ks[used]? = some ku) (hu : used < ks.length) (hall : ∀ k ∈ ks, k.curve? = some cv) :
    RomWF c used cv ⟨2, 1, { flags := flags, rkh := ks.map (keyHash c), rootPublicKey := ku.material }, isk⟩ where
  major := rfl
  minor := rfl
  used_lt := by simpa using hu
  entry := by
    intro _
    have hm : ku ∈ ks := List.mem_of_getElem? hku
    simp only [List.getElem?_map, hku, Option.map_some, keyHash, hashAlg_of_curve (hall ku hm)]

theorem exportV21_len_le {c : CryptoOps} {ca : Bool} {used : Nat} {cv : Curve} {r : RootKeyRecord} (wr : WFrkr c ca used cv r) :
    (rkrBytes r).length ≤ 4 + 4 * 48 + 96 := by
  have hs : cv.hashAlg.size ≤ 48 := by
    cases cv with
    | p256 => decide
    | p384 => decide
    | p521 => exact absurd rfl wr.cv_ok
  have := wr.table_len
  have := Nat.mul_le_mul wr.count4 hs
  simp only [rkrBytes, List.length_append, leEnc_len, wr.pk]; split at * <;> omega

/-- a block without ISK certificate around a well-formed record is well formed -/
theorem wf_caBlock {c : CryptoOps} (pointOk : Bytes → Bool) {used : Nat} {cv : Curve} {r : RootKeyRecord}
    (wr : WFrkr c true used cv r) : WFv21 c pointOk true used cv ⟨2, 1, r, none⟩ where
  major := by show 2 < 65536; decide
  minor := by show 1 < 65536; decide
  rkr := wr
  isk_none := fun _ => rfl
  isk_some := fun h => by cases h
  size := by have := exportV21_len_le wr; simp only [headerSizeV21]; omega

/-- END TO END (cert block v2.1, no ISK): the block SPSDK builds from a key list of the documented domain
    (`RootKeyRecord.calculate`, CA flag set, any used index) is accepted by the SB3.1 loader and by the MBI ROM against the
    documented fuse value `Spec.rotkh … cert_block_21 ks`, and both report the selected root key as the signing key -/
theorem built_v21_block_accepted (c : CryptoOps) (hc : CryptoLaws c) (ks : List Key) (h : KeysOK .certBlock21 ks)
    (used : Nat) (hu : used < ks.length) :
    ∃ (r : RootKeyRecord) (cv : Curve) (ku : Key), rkrCalculate c true ks used = .ok r ∧ ks[used]? = some ku ∧
      exportV21Block ⟨2, 1, r, none⟩ = .ok (bytesV21 ⟨2, 1, r, none⟩) ∧
      Sb31.Rom.romCert c (Spec.rotkh c .certBlock21 ks) (bytesV21 ⟨2, 1, r, none⟩) = .ok (⟨ku.material, cv.hashAlg.size⟩, []) ∧
      ∀ renv : Spec.MbiRom.RomEnv, renv.rkth = Spec.rotkh c .certBlock21 ks →
        RomCertV21OK c renv (bytesV21 ⟨2, 1, r, none⟩) ku.material.length ku.material (fun _ _ => []) := by
  obtain ⟨h1, h4, _, _⟩ := keysOK_cb21 h
  obtain ⟨cv, ku, hcv, hku, hkc, hall, hcalc⟩ := rkrCalculate_ok c hc ks h used hu true
  have wr := wf_calculated c hc ks cv ku used true hcv h1 h4 hu hku hkc hall
  have wf := wf_caBlock (c := c) (fun _ => true) wr
  have rw_ := romWF_calculated c ks cv ku used (rkrFlags true used ks.length cv) none hku hu hall
  have hrot := rotkhOfRecord_calculated c ks cv ku used (rkrFlags true used ks.length cv) h1 hku hu hall
  refine ⟨_, cv, ku, hcalc, hku, exportV21Block_ok wf, ?_, fun renv hr => mbi_romCertV21_ok wf rw_ renv (by rw [hr, hrot])⟩
  have := sb31_romCert_accepts wf rw_ (fun i hi => by cases hi)
  rwa [hrot] at this

/-- the ISK signature made by the selected root key verifies: the hypothesis of `sb31_romCert_accepts` for a block whose
    ISK certificate was signed at export (`CryptoLaws.verify_sign`) -/
theorem isk_signature_accepted (c : CryptoOps) (hc : CryptoLaws c) (alg : HashAlg) (sk rand : Bytes) (r : RootKeyRecord) (i : IskCert)
    (hpub : r.rootPublicKey = c.pubOf sk) (hs : i.signature = c.sign (.ecdsa alg) sk (rkrBytes r ++ iskSignedPart i) rand) :
    c.verify (.ecdsa alg) r.rootPublicKey (rkrBytes r ++ iskSignedPart i) i.signature = true := by
  rw [hpub, hs]; exact hc.verify_sign _ _ _ _

/-- the signed part does not mention the signature: signing first and attaching the signature afterwards is consistent -/
theorem iskSignedPart_sig (i : IskCert) (s : Bytes) : iskSignedPart { i with signature := s } = iskSignedPart i := rfl

/-- the table `CertBlockV1.set_root_key_hash` fills from the root keys hashes to the documented fuse value -/
theorem rkhTable_hash_eq_rotkh (c : CryptoOps) (hc : CryptoLaws c) (ks : List Key) (h : KeysOK .certBlock1 ks) (rkh : List Bytes)
    (hrkh : certBlockV1Rkh c ks = .ok rkh) : c.hash .sha256 (pad4 rkh).flatten = Spec.rotkh c .certBlock1 ks := by
  rw [certBlockV1Rkh_ok c hc ks h] at hrkh
  obtain rfl := Except.ok.inj hrkh
  rw [rotkh_certBlock1, rotkhV1_tbl]; rfl

/-- END TO END (cert block v1): the fuse value the MBI ROM compares the RKH table with is the documented
    `Spec.rotkh … cert_block_1 ks` when the table holds the hashes `CertBlockV1.set_root_key_hash` computes -/
theorem built_v1_block_accepted (c : CryptoOps) (hc : CryptoLaws c) (ks : List Key) (h : KeysOK .certBlock1 ks)
    {certOk : Bytes → Bool} {cb : CertBlockV1} (wf : WFv1 certOk cb) (rwf : RomWFv1 cb)
    (hrkh : certBlockV1Rkh c ks = .ok cb.rkh) (renv : Spec.MbiRom.RomEnv) (hr : renv.rkth = Spec.rotkh c .certBlock1 ks) :
    RomCertV1OK c renv (bytesV1 cb) (relCerts cb.certs 32) (pad4 cb.rkh) :=
  mbi_romCertV1_ok wf rwf renv (hr.trans (rkhTable_hash_eq_rotkh c hc ks h cb.rkh hrkh).symm)

/-- NEGATIVE, as a reduction: a device fused for the key list `ks` accepts (SB3.1 loader) the block SPSDK builds from a key
    list `ks'` of the same length only if `ks' = ks` - or the proof exhibits a hash collision -/
theorem rom_refuses_other_keys (c : CryptoOps) (hc : CryptoLaws c) (ks ks' : List Key) (h : KeysOK .certBlock21 ks)
    (h' : KeysOK .certBlock21 ks') (hl : ks'.length = ks.length) (used : Nat) (hu : used < ks'.length)
    (r' : RootKeyRecord) (hcalc : rkrCalculate c true ks' used = .ok r')
    (x : Sb31.Rom.CertInfo × List Sb31.Rom.SigOb)
    (hacc : Sb31.Rom.romCert c (Spec.rotkh c .certBlock21 ks) (bytesV21 ⟨2, 1, r', none⟩) = .ok x) :
    ks' = ks ∨ Crypto.Break c := by
  obtain ⟨h1, h4, _, _⟩ := keysOK_cb21 h'
  obtain ⟨cv, ku, hcv, hku, hkc, hall, hcalc'⟩ := rkrCalculate_ok c hc ks' h' used hu true
  rw [hcalc] at hcalc'
  injection hcalc' with hr
  subst hr
  have wr := wf_calculated c hc ks' cv ku used true hcv h1 h4 hu hku hkc hall
  have wf := wf_caBlock (c := c) (fun _ => true) wr
  have rw_ := romWF_calculated c ks' cv ku used (rkrFlags true used ks'.length cv) none hku hu hall
  have hrot := rotkhOfRecord_calculated c ks' cv ku used (rkrFlags true used ks'.length cv) h1 hku hu hall
  have := sb31_romCert_ok_rot wf rw_ (fun i hi => by cases hi) _ x hacc
  rw [hrot, rotkh_certBlock21, rotkh_certBlock21] at this
  exact rotkhV21_binding c hc ks' ks h' h hl this.symm

end EndToEnd

end SpsdkVerif.CertBlock
