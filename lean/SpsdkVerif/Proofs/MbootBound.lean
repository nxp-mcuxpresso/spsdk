/-
Bounded time (C10): the `device.read` calls of an operation (`Host.reads` counts them all, failed or not) are bounded by what
a replay peer can still deliver (`Host.pending`, Model/Mboot.lean) plus the number of data packets plus a constant.
`Φ h = h.reads + h.pending` is a potential: a successful read pays for itself (it consumes a unit of `pending`), a write never
increases `pending`, so `Φ` grows by one per FAILED read only.  Straight-line readers stop at the first failed read (`Straight`:
`Φ` grows, by one, only if the result is a timeout); loops go on only after iterations without a failed read.
-/
import SpsdkVerif.Model.Mboot
import SpsdkVerif.Proofs.Mboot
import SpsdkVerif.Proofs.MbootFault

namespace SpsdkVerif.Mboot.Bound
open SpsdkVerif SpsdkVerif.Mboot SpsdkVerif.Mboot.H SpsdkVerif.Mboot.Fault

def peerOK (h : Host) : Prop := (∃ cs, h.peer = .script cs) ∨ h.peer = .none

def Φ (h : Host) : Nat := h.reads + h.pending

def Step (h h' : Host) (c : Nat) : Prop := peerOK h' ∧ Φ h' ≤ Φ h + c

theorem Step.refl {h : Host} (hp : peerOK h) (c : Nat) : Step h h c := ⟨hp, Nat.le_add_right _ _⟩

theorem Step.trans {a b c : Host} {x y z : Nat} (h1 : Step a b x) (h2 : Step b c y) (hz : x + y ≤ z) : Step a c z :=
  ⟨h2.1, by have := h1.2; have := h2.2; omega⟩

theorem Step.mono {a b : Host} {x y : Nat} (h1 : Step a b x) (hz : x ≤ y) : Step a b y :=
  ⟨h1.1, by have := h1.2; omega⟩

theorem Step.zero_trans {a b c : Host} {y : Nat} (h1 : Step a b 0) (h2 : Step b c y) : Step a c y :=
  h1.trans h2 (Nat.le_of_eq (Nat.zero_add y))

theorem Step.status {h h' : Host} {c : Nat} (s : Step h h' c) (st : Nat) : Step h { h' with status := st } c := ⟨s.1, s.2⟩

def Costs {α} (m : H α) (c : Nat) : Prop := ∀ h, peerOK h → Step h (m h).2 c

def tc {α} : Except HErr α → Nat
  | .error .timeout => 1
  | _ => 0

theorem tc_le_one {α} (r : Except HErr α) : tc r ≤ 1 := by
  unfold tc; split <;> omega

theorem tc_error {α} (e : HErr) : tc (.error e : Except HErr α) = if e = .timeout then 1 else 0 := by cases e <;> rfl

def Straight {α} (m : H α) : Prop := ∀ h, peerOK h → Step h (m h).2 (tc (m h).1)

theorem Straight.costs {α} {m : H α} (hm : Straight m) : Costs m 1 :=
  fun h hp => (hm h hp).mono (tc_le_one _)

theorem Costs.mono {α} {m : H α} {a b : Nat} (hm : Costs m a) (hab : a ≤ b) : Costs m b :=
  fun h hp => (hm h hp).mono hab

theorem pure_costs {α} (a : α) (c : Nat) : Costs (pure a : H α) c := fun _ hp => Step.refl hp c
theorem fail_costs {α} (e : HErr) (c : Nat) : Costs (fail e : H α) c := fun _ hp => Step.refl hp c
theorem get_costs (c : Nat) : Costs H.get c := fun _ hp => Step.refl hp c
theorem lift_costs {α} (x : Except HErr α) (c : Nat) : Costs (H.lift x) c := fun _ hp => Step.refl hp c

theorem Costs.bind {α β} {m : H α} {f : α → H β} (a b : Nat) {c : Nat} (hm : Costs m a) (hf : ∀ x, Costs (f x) b)
    (hc : a + b ≤ c) : Costs (m >>= f) c := by
  intro h hp
  have h1 := hm h hp
  simp only [bind_run]
  rcases hmh : m h with ⟨x, h'⟩
  rw [hmh] at h1
  cases x with
  | error e => exact h1.mono (by omega)
  | ok v => exact h1.trans (hf v h' h1.1) hc

theorem Costs.catch {α} {m : H α} {hd : HErr → H α} (a b : Nat) {c : Nat} (hm : Costs m a) (hf : ∀ e, Costs (hd e) b)
    (hc : a + b ≤ c) : Costs (catch_ m hd) c := by
  intro h hp
  have h1 := hm h hp
  simp only [catch_run]
  rcases hmh : m h with ⟨x, h'⟩
  rw [hmh] at h1
  cases x with
  | error e => exact h1.trans (hf e h' h1.1) hc
  | ok v => exact h1.mono (by omega)

theorem Costs.free_bind {α β} {m : H α} {f : α → H β} {c : Nat} (hm : Costs m 0) (hf : ∀ x, Costs (f x) c) :
    Costs (m >>= f) c := .bind 0 c hm hf (Nat.le_of_eq (Nat.zero_add c))

theorem Costs.bind_free {α β} {m : H α} {f : α → H β} {c : Nat} (hm : Costs m c) (hf : ∀ x, Costs (f x) 0) :
    Costs (m >>= f) c := .bind c 0 hm hf (Nat.le_refl c)

theorem Costs.ite {α} {p : Prop} [Decidable p] {a b : H α} {c : Nat} (ha : Costs a c) (hb : Costs b c) :
    Costs (if p then a else b) c := by
  split
  · exact ha
  · exact hb

theorem pure_straight {α} (a : α) : Straight (pure a : H α) := fun _ hp => Step.refl hp _
theorem fail_straight {α} (e : HErr) : Straight (fail e : H α) := fun _ hp => Step.refl hp _
theorem get_straight : Straight H.get := fun _ hp => Step.refl hp _
theorem lift_straight {α} (x : Except HErr α) : Straight (H.lift x) := fun _ hp => Step.refl hp _

theorem Straight.bind {α β} {m : H α} {f : α → H β} (hm : Straight m) (hf : ∀ x, Straight (f x)) :
    Straight (m >>= f) := by
  intro h hp
  have h1 := hm h hp
  simp only [bind_run]
  rcases hmh : m h with ⟨x, h'⟩
  rw [hmh] at h1
  cases x with
  | error e =>
    have : tc (.error e : Except HErr β) = tc (.error e : Except HErr α) := by cases e <;> rfl
    simp only [this]; exact h1
  | ok v => exact h1.trans (hf v h' h1.1) (by simp [tc])

theorem Straight.ite {α} {p : Prop} [Decidable p] {a b : H α} (ha : Straight a) (hb : Straight b) :
    Straight (if p then a else b) := by
  split
  · exact ha
  · exact hb

def Inert (f : Host → Host) : Prop :=
  ∀ h, (f h).reads = h.reads ∧ (f h).rxB = h.rxB ∧ (f h).rxR = h.rxR ∧ (f h).peer = h.peer

theorem inert_step {f : Host → Host} (hf : Inert f) {h : Host} (hp : peerOK h) (c : Nat) : Step h (f h) c := by
  obtain ⟨h1, h2, h3, h4⟩ := hf h
  refine ⟨?_, ?_⟩
  · unfold peerOK; rw [h4]; exact hp
  · unfold Φ Host.pending; rw [h1, h2, h3, h4]; omega

theorem modify_costs {f : Host → Host} (hf : Inert f) (c : Nat) : Costs (H.modify f) c :=
  fun _ hp => inert_step hf hp c
theorem modify_straight {f : Host → Host} (hf : Inert f) : Straight (H.modify f) :=
  fun _ hp => inert_step hf hp _

theorem inert_status (st : Nat) : Inert (fun h => { h with status := st }) := fun _ => ⟨rfl, rfl, rfl, rfl⟩
theorem inert_opened (b : Bool) : Inert (fun h => { h with opened := b }) := fun _ => ⟨rfl, rfl, rfl, rfl⟩
theorem inert_eda (b : Bool) : Inert (fun h => { h with eda := b }) := fun _ => ⟨rfl, rfl, rfl, rfl⟩
theorem inert_mps (v : Option Nat) : Inert (fun h => { h with mps := v }) := fun _ => ⟨rfl, rfl, rfl, rfl⟩

theorem setStatus_costs (st c : Nat) : Costs (setStatus st) c := modify_costs (inert_status st) c
theorem setStatus_straight (st : Nat) : Straight (setStatus st) := modify_straight (inert_status st)

theorem sum_len_succ (c : List Bytes) : (c.map (fun r => r.length + 1)).sum = c.flatten.length + c.length := by
  induction c with
  | nil => rfl
  | cons x r ih => simp only [List.map_cons, List.sum_cons, List.flatten_cons, List.length_append, List.length_cons, ih]; omega

theorem write_step (h : Host) (w : Bytes) (hp : peerOK h) : Step h (h.write w) 0 := by
  unfold Step peerOK Φ Host.pending Host.write
  rcases hp with ⟨cs, hcs⟩ | hn
  · cases cs with
    | nil => cases htr : h.cfg.tr <;> simp [hcs]
    | cons c cs =>
      cases htr : h.cfg.tr <;> simp [hcs, sum_len_succ] <;> omega
  · cases htr : h.cfg.tr <;> simp [hn]

theorem devWrite_straight (w : Bytes) : Straight (devWrite w) := fun h hp => write_step h w hp
theorem devWrite_costs (w : Bytes) (c : Nat) : Costs (devWrite w) c := fun h hp => (write_step h w hp).mono (Nat.zero_le c)

/-- a read: one call more; what is left to read shrinks by at least one unit, unless the call fails (`c = 1`) -/
theorem read_step {h : Host} (hp : peerOK h) (b : Bytes) (rs : List Bytes) (c : Nat)
    (hle : b.length + (rs.map (fun r => r.length + 1)).sum + 1 ≤
      h.rxB.length + (h.rxR.map (fun r => r.length + 1)).sum + c) :
    Step h { h with reads := h.reads + 1, rxB := b, rxR := rs } c :=
  ⟨hp, by unfold Φ Host.pending; dsimp only; omega⟩

theorem devRead_straight (n : Nat) : Straight (devRead n) := by
  intro h hp
  unfold devRead
  dsimp only
  split
  · exact read_step hp _ _ 1 (Nat.le_refl _)
  · rename_i hc
    have hn : n ≠ 0 := fun e => hc (Or.inl e)
    have hl : h.rxB.length ≠ 0 := fun e => hc (Or.inr (by rw [List.length_eq_zero_iff.mp e]; rfl))
    split
    · exact read_step hp _ _ 0 (by rw [List.length_drop]; omega)
    · split
      · exact read_step hp _ _ 0 (by rw [List.length_nil]; omega)
      · exact read_step hp _ _ 1 (by rw [List.length_nil]; omega)

theorem hidDevRead_straight : Straight hidDevRead := by
  intro h hp
  unfold hidDevRead
  dsimp only
  split
  · exact read_step hp _ _ 1 (Nat.le_refl _)
  · next r rs hr =>
    have hs : (h.rxR.map (fun r => r.length + 1)).sum = r.length + 1 + (rs.map (fun r => r.length + 1)).sum := by
      rw [hr]; rfl
    split
    · exact read_step hp _ _ 1 (by omega)
    · exact read_step hp _ _ 0 (by omega)

theorem waitGo_straight (f : Nat) : Straight (waitGo f) := by
  induction f with
  | zero => exact fail_straight _
  | succ f ih => unfold waitGo; exact .bind (devRead_straight 1) fun _ => .ite ih (pure_straight _)

theorem waitForData_straight : Straight waitForData := fun h hp => waitGo_straight _ h hp

theorem readFrameHeader_straight (e : Option Nat) : Straight (readFrameHeader e) := by
  refine .bind waitForData_straight fun header => .ite (fail_straight _) ?_
  refine .ite (.bind (pure_straight _) ?jp) (.bind (.bind (devRead_straight 1) fun _ => pure_straight _) ?jp)
  intro ftype
  refine .ite (fail_straight _) ?_
  cases e with
  | none => exact pure_straight _
  | some e => exact .ite (fail_straight _) (pure_straight _)

theorem sendAck_straight : Straight sendAck := devWrite_straight _

theorem serialRead_straight : Straight serialRead := by
  refine .bind (readFrameHeader_straight none) fun ⟨_, ftype⟩ => ?_
  refine .bind (devRead_straight 2) fun lenB => .bind (devRead_straight 2) fun crcB => ?_
  refine .ite (.bind sendAck_straight fun _ => fail_straight _) ?_
  refine .bind (devRead_straight _) fun data => .bind sendAck_straight fun _ => ?_
  refine .ite (fail_straight _) (.ite ?_ (pure_straight _))
  cases parseCmdResponse data with
  | ok r => exact pure_straight _
  | error e => exact fail_straight _

theorem serialSendFrame_straight (t : Nat) (d : Bytes) : Straight (serialSendFrame t d) :=
  .ite (fail_straight _)
    (.bind (devWrite_straight _) fun _ => .bind (readFrameHeader_straight _) fun _ => pure_straight _)

theorem hidRead_straight : Straight hidRead := .bind hidDevRead_straight fun _ => lift_straight _

theorem hidWriteReport_straight (rid : Nat) (d : Bytes) : Straight (hidWriteReport rid d) :=
  .ite (fail_straight _) (devWrite_straight _)

theorem readAny_straight : Straight readAny := by
  refine .bind get_straight fun h => ?_
  cases h.cfg.tr with
  | serial => exact serialRead_straight
  | hid => exact hidRead_straight

theorem writeCommand_straight (p : CmdPkt) : Straight (writeCommand p) := by
  refine .bind (lift_straight _) fun data => .bind get_straight fun h => ?_
  cases h.cfg.tr with
  | serial => exact serialSendFrame_straight _ _
  | hid => exact hidWriteReport_straight _ _

theorem pingDummyLoop_straight (f : Nat) : Straight (pingDummyLoop f) := by
  induction f with
  | zero => exact pure_straight _
  | succ f ih => unfold pingDummyLoop; exact .bind (devRead_straight 1) fun _ => .ite (pure_straight _) ih

theorem ping_straight : Straight ping := by
  refine .bind (devWrite_straight _) fun _ => .bind (pingDummyLoop_straight _) fun found => ?_
  refine .ite (fail_straight _) (.bind (devRead_straight 1) fun t => ?_)
  refine .ite (fail_straight _) (.ite (fail_straight _) (.bind (devRead_straight 8) fun body => ?_))
  exact .ite (fail_straight _) (.ite (fail_straight _) (pure_straight _))

theorem hidWriteData_costs (a : Bool) (d : Bytes) : Costs (hidWriteData a d) 1 := by
  refine .ite (fail_costs _ _) (.ite (.bind_free (.catch 1 0 ?_ (fun e => ?_) (Nat.le_refl _)) fun got => ?_) (devWrite_costs _ _))
  · exact (hidDevRead_straight.bind fun _ => pure_straight _).costs
  · exact .ite (pure_costs _ _) (fail_costs _ _)
  · cases got with
    | some _ => exact fail_costs _ _
    | none => exact devWrite_costs _ _

theorem writeData_costs (a : Bool) (d : Bytes) : Costs (writeData a d) 1 := by
  refine .free_bind (get_costs 0) fun h => ?_
  cases h.cfg.tr with
  | serial => exact (serialSendFrame_straight _ _).costs
  | hid => exact hidWriteData_costs _ _

theorem sendChunks_costs (a : Bool) (cs : List Bytes) (s : Nat) : Costs (sendChunks a cs s) cs.length := by
  induction cs generalizing s with
  | nil => exact pure_costs _ _
  | cons c cs ih =>
    intro h hp
    unfold sendChunks
    have h1 := writeData_costs a c h hp
    generalize writeData a c h = x at h1 ⊢
    obtain ⟨_ | _, h'⟩ := x
    · exact h1.mono (Nat.le_add_left _ _)
    · exact h1.trans (ih _ h' h1.1) (Nat.le_of_eq (Nat.add_comm _ _))

/-- `_process_cmd`, `_read_data`: a failed read ends in an exception or in a status other than SUCCESS, so a value returned
    with status SUCCESS has cost nothing -/
def dcost {α} (r : Except HErr α) (h' : Host) : Nat :=
  match r with
  | .ok _ => if h'.status = Spec.stSuccess then 0 else 1
  | .error _ => 1

theorem dcost_le_one {α} (r : Except HErr α) (h' : Host) : dcost r h' ≤ 1 := by
  unfold dcost; split
  · split <;> omega
  · omega

theorem processCmd_step (p : CmdPkt) (h : Host) (hp : peerOK h) :
    Step h (processCmd p h).2 (dcost (processCmd p h).1 (processCmd p h).2) := by
  have h1 := ((writeCommand_straight p).bind fun _ => readAny_straight) h hp
  unfold processCmd
  simp only [bind_run, requireOpen, get_run]
  by_cases ho : h.opened = true
  · simp only [ho, if_true, pure_run, catch_run]
    generalize (do writeCommand p; readAny : H RxItem) h = x at h1 ⊢
    obtain ⟨e | it, h'⟩ := x
    · rw [tc_error] at h1
      by_cases he : e = .timeout
      · simp only [he, if_true, bind_run, setStatus_run, pure_run, get_run, noResponse] at h1 ⊢
        split <;> exact h1.status _
      · simp only [he, if_false, fail_run] at h1 ⊢
        exact h1.mono (Nat.zero_le _)
    · cases it with
      | data b => exact h1.mono (Nat.zero_le _)
      | resp r =>
        simp only [bind_run, setStatus_run, get_run]
        split <;> exact (h1.status _).mono (Nat.zero_le _)
  · simp only [ho]
    exact Step.refl hp _

theorem processCmd_costs (p : CmdPkt) : Costs (processCmd p) 1 :=
  fun h hp => (processCmd_step p h hp).mono (dcost_le_one _ _)

def scost : Except HErr (Option RxItem) → Nat
  | .ok (some _) => 0
  | _ => 1

theorem rdStep_step (h : Host) (hp : peerOK h) :
    Step h (rdStep h).2 (scost (rdStep h).1) ∧ ((rdStep h).1 = .ok none → (rdStep h).2.status = Spec.stNoResponse) := by
  have h1 := readAny_straight h hp
  simp only [rdStep, catch_run, bind_run, pure_run]
  generalize readAny h = x at h1 ⊢
  obtain ⟨e | v, h'⟩ := x
  · by_cases ha : e = .abort
    · subst ha
      have h2 := readAny_straight h' h1.1
      simp only [↓reduceIte, bind_run, pure_run]
      generalize readAny h' = y at h2 ⊢
      obtain ⟨e2 | v2, h''⟩ := y
      · exact ⟨Step.zero_trans h1 (h2.mono (tc_le_one _)), nofun⟩
      · exact ⟨Step.zero_trans h1 h2, nofun⟩
    · rw [tc_error] at h1
      by_cases ht : e = .timeout
      · subst ht
        simp only [ha, if_false, if_true, bind_run, setStatus_run, pure_run] at h1 ⊢
        exact ⟨h1.status _, fun _ => trivial⟩
      · simp only [ha, ht, if_false, fail_run] at h1 ⊢
        exact ⟨h1.mono (Nat.zero_le _), nofun⟩
  · exact ⟨h1, nofun⟩

theorem readDataLoop_step (cmdTag f : Nat) (acc : Bytes) (h : Host) (hp : peerOK h) :
    Step h (readDataLoop cmdTag f acc h).2 (dcost (readDataLoop cmdTag f acc h).1 (readDataLoop cmdTag f acc h).2) := by
  induction f generalizing acc h with
  | zero => exact Step.refl hp _
  | succ f ih =>
    rw [readDataLoop_succ]
    simp only [bind_run]
    obtain ⟨h1, h2⟩ := rdStep_step h hp
    generalize rdStep h = x at h1 h2 ⊢
    obtain ⟨e | _ | it, h'⟩ := x
    · exact h1
    · have h2 : h'.status = Spec.stNoResponse := h2 rfl
      simp only [pure_run, dcost, h2]
      exact h1
    · have h1 : Step h h' 0 := h1
      cases it with
      | data b => exact h1.zero_trans (ih _ h' h1.1)
      | resp r =>
        dsimp only
        split
        · simp only [bind_run, setStatus_run]
          split
          · exact (h1.status _).mono (Nat.zero_le _)
          · exact (h1.status _).zero_trans (ih _ _ h1.1)
        · exact h1.zero_trans (ih _ h' h1.1)

theorem readData_step (t n : Nat) (h : Host) (hp : peerOK h) :
    Step h (readData t n h).2 (dcost (readData t n h).1 (readData t n h).2) := by
  unfold readData
  simp only [bind_run, requireOpen, get_run]
  by_cases ho : h.opened = true
  · simp only [ho, if_true, pure_run]
    have h1 := readDataLoop_step t (n + h.fuelHint + h.rxB.length + h.rxR.length + 8) [] h hp
    generalize readDataLoop t _ [] h = x at h1 ⊢
    obtain ⟨e | data, h'⟩ := x
    · exact h1
    · dsimp only
      by_cases hz : h'.status = Spec.stSuccess
      · -- no failed read so far, and the rest only touches the status
        simp only [dcost, hz, if_true] at h1
        split
        · simp only [bind_run, setStatus_run, get_run]
          split <;> exact (h1.status _).mono (Nat.zero_le _)
        · exact h1.mono (Nat.zero_le _)
      · simp only [dcost, hz, if_false] at h1
        simp only [hz, ne_eq, not_false_eq_true, or_true, if_true, if_false, bind_run, get_run]
        split
        · exact h1
        · simp only [pure_run, dcost, hz, if_false]; exact h1
  · simp only [ho]
    exact Step.refl hp _

theorem readData_costs (t n : Nat) : Costs (readData t n) 1 :=
  fun h hp => (readData_step t n h hp).mono (dcost_le_one _ _)

theorem requireOpen_costs (c : Nat) : Costs requireOpen c :=
  .free_bind (get_costs 0) fun _ => .ite (pure_costs _ _) (fail_costs _ _)

theorem readChunks_costs (a m payload rem packets k : Nat) (acc : Bytes) :
    Costs (readChunks a m payload rem packets k acc) 2 := by
  induction k generalizing acc with
  | zero => exact pure_costs _ _
  | succ k ih =>
    intro h hp
    unfold readChunks
    simp only [bind_run]
    generalize hm : processCmd _ h = x
    have h1 : Step h x.2 (dcost x.1 x.2) := hm ▸ processCmd_step _ h hp
    obtain ⟨e | r, h'⟩ := x
    · exact h1.mono (Nat.le_succ _)
    · dsimp only
      split
      · -- the loop goes on only after a command and a data phase that came back with SUCCESS: nothing spent so far
        have hs : h'.status = Spec.stSuccess := (processCmd_ok h h' _ r hm).1.trans ‹_›
        simp only [dcost, hs, if_true] at h1
        simp only [bind_run]
        generalize hd : readData _ _ h' = y
        have h2 : Step h' y.2 (dcost y.1 y.2) := hd ▸ readData_step _ _ h' h1.1
        obtain ⟨e | d, h''⟩ := y
        · exact h1.zero_trans (h2.mono (Nat.le_succ _))
        · simp only [get_run]
          split
          · exact h1.zero_trans (h2.mono (Nat.le_succ_of_le (dcost_le_one _ _)))
          · have hs' : h''.status = Spec.stSuccess := Decidable.of_not_not ‹_›
            simp only [dcost, hs', if_true] at h2
            exact h1.zero_trans (h2.zero_trans (ih _ h'' h2.1))
      · exact h1.mono (Nat.le_succ_of_le (dcost_le_one _ _))

theorem sendDataHandler_costs (e : HErr) : Costs (sendDataHandler e) 1 :=
  .ite (.free_bind (setStatus_costs _ 0) fun _ => fail_costs _ _) (.ite readAny_straight.costs (fail_costs _ _))

/-- the handler reads again only if the failed read was not a timeout, that is, if it has cost nothing -/
theorem sendDataFinal_costs : Costs (catch_ readAny sendDataHandler) 1 := by
  intro h hp
  have h1 := readAny_straight h hp
  simp only [catch_run]
  generalize readAny h = x at h1 ⊢
  obtain ⟨e | v, h'⟩ := x
  · rw [tc_error] at h1
    by_cases ht : e = .timeout
    · simp only [ht, if_true, sendDataHandler, bind_run, setStatus_run, fail_run] at h1 ⊢
      exact h1.status _
    · simp only [ht, if_false] at h1
      exact h1.zero_trans (sendDataHandler_costs e h' h1.1)
  · exact h1.mono (Nat.zero_le _)

theorem sendData_costs (cs : List Bytes) : Costs (sendData cs) (cs.length + 1) := by
  refine .free_bind (requireOpen_costs 0) fun _ => .free_bind (get_costs 0) fun h => ?_
  refine .bind cs.length 1 (sendChunks_costs _ _ _) (fun ⟨sent, err⟩ => ?_) (Nat.le_refl _)
  dsimp -zeta only
  extract_lets tail
  have htail : ∀ r, Costs (tail r) 0 := fun r => by
    cases r with
    | data _ => exact fail_costs _ _
    | resp r =>
      exact .free_bind (setStatus_costs _ 0) fun _ => .ite (.ite (fail_costs _ _) (pure_costs _ _)) (pure_costs _ _)
  cases err with
  | none => exact .bind_free sendDataFinal_costs htail
  | some e => exact .bind_free (sendDataHandler_costs e) htail

theorem sendDataNoResp_costs (cs : List Bytes) : Costs (sendDataNoResp cs) cs.length := by
  refine .free_bind (requireOpen_costs 0) fun _ => .free_bind (get_costs 0) fun h => ?_
  refine .bind_free (sendChunks_costs _ _ _) fun ⟨sent, err⟩ => ?_
  cases err with
  | none => exact pure_costs _ _
  | some e =>
    exact .ite (.free_bind (setStatus_costs _ 0) fun _ => fail_costs _ _)
      (.ite (.free_bind (setStatus_costs _ 0) fun _ => pure_costs _ _) (fail_costs _ _))

theorem getProperty_costs (t i : Nat) : Costs (getProperty t i) 1 :=
  .bind_free (processCmd_costs _) fun r => .ite (.ite (pure_costs _ _) (fail_costs _ _)) (pure_costs _ _)

theorem getMaxPacketSize_costs : Costs getMaxPacketSize 1 := by
  refine .free_bind (get_costs 0) fun h => ?_
  cases h.mps with
  | some v => exact pure_costs _ _
  | none =>
    refine .bind_free (.catch 1 0 (getProperty_costs _ _) (fun e => .ite (pure_costs _ _) (fail_costs _ _)) (Nat.le_refl _))
      fun v => ?_
    dsimp only
    split
    · exact fail_costs _ _
    · exact .free_bind (modify_costs (inert_mps _) 0) fun _ => pure_costs _ _

theorem splitData_costs (d : Bytes) : Costs (splitData d) 1 :=
  .bind_free getMaxPacketSize_costs fun n => .ite (fail_costs _ _) (pure_costs _ _)

theorem splitData_ok (d : Bytes) (h : Host) (cs : List Bytes) (h' : Host) (hr : splitData d h = (.ok cs, h')) :
    cs.length ≤ d.length := by
  simp only [splitData, bind_run] at hr
  generalize getMaxPacketSize h = x at hr
  obtain ⟨e | n, h1⟩ := x
  · cases hr
  · dsimp only at hr
    split at hr
    · cases hr
    · cases hr
      exact split_length_le n (Nat.pos_of_ne_zero ‹_›) d

/-- after `_split_data` there are at most `d.length` packets -/
theorem splitData_bind_costs {β} (d : Bytes) {f : List Bytes → H β} {c : Nat}
    (hf : ∀ cs, cs.length ≤ d.length → Costs (f cs) c) : Costs (splitData d >>= f) (c + 1) := by
  intro h hp
  have h1 := splitData_costs d h hp
  simp only [bind_run]
  generalize hs : splitData d h = x at h1 ⊢
  obtain ⟨e | cs, h'⟩ := x
  · exact h1.mono (Nat.le_add_left _ _)
  · exact h1.trans (hf cs (splitData_ok d h cs h' hs) h' h1.1) (Nat.le_of_eq (Nat.add_comm _ _))

theorem simpleCmd_costs (t : Nat) (ps : List Nat) : Costs (simpleCmd t ps) 1 :=
  .bind_free (processCmd_costs _) fun _ => pure_costs _ _

theorem dataOutCmd_costs (t : Nat) (ps : List Nat) (d : Bytes) : Costs (dataOutCmd t ps d) (d.length + 3) :=
  splitData_bind_costs d fun cs hcs =>
    .bind 1 (cs.length + 1) (processCmd_costs _)
      (fun r => .ite (.bind_free (sendData_costs cs) fun _ => pure_costs _ _) (pure_costs _ _)) (by omega)

theorem receiveSbFile_costs (d : Bytes) (c : Bool) : Costs (receiveSbFile d c) (d.length + 3) :=
  splitData_bind_costs d fun cs hcs =>
    .bind 1 (cs.length + 1) (processCmd_costs _)
      (fun r => .ite
        (.free_bind (modify_costs (inert_eda _) 0) fun _ => .bind_free (sendData_costs cs) fun _ =>
          .free_bind (modify_costs (inert_eda _) 0) fun _ => pure_costs _ _)
        (pure_costs _ _)) (by omega)

theorem loadImage_costs (d : Bytes) : Costs (loadImage d) (d.length + 1) :=
  splitData_bind_costs d fun cs hcs =>
    .free_bind (setStatus_costs _ 0) fun _ => .bind_free ((sendDataNoResp_costs cs).mono hcs) fun _ => pure_costs _ _

theorem dataInCmd_costs (t : Nat) (ps : List Nat) (k : RKind) : Costs (dataInCmd t ps k) 2 :=
  .bind 1 1 (processCmd_costs _)
    (fun r => .ite (.ite (.bind_free (readData_costs _ _) fun _ => pure_costs _ _) (fail_costs _ _)) (pure_costs _ _))
    (Nat.le_refl _)

theorem readMemory_costs (a n m : Nat) (f : Bool) : Costs (readMemory a n m f) 3 :=
  readMemory_eq a n m f ▸ .free_bind (get_costs 0) fun h =>
    .ite
      (.bind 1 2 getMaxPacketSize_costs
        (fun payload => .ite (fail_costs _ _) (.bind_free (readChunks_costs _ _ _ _ _ _ _) fun _ => pure_costs _ _)) (Nat.le_refl _))
      ((dataInCmd_costs _ _ _).mono (Nat.le_succ _))

theorem efuseReadOnce_costs (i : Nat) : Costs (efuseReadOnce i) 1 := by
  refine .bind_free (processCmd_costs _) fun r => .ite (.ite ?_ (fail_costs _ _)) (pure_costs _ _)
  split
  · exact pure_costs _ _
  · exact fail_costs _ _

theorem efuseProgramOnce_costs (i v : Nat) (c : Bool) : Costs (efuseProgramOnce i v c) 2 := by
  refine .bind 1 1 (processCmd_costs _) (fun r => .ite (pure_costs _ _) (.ite ?_ (pure_costs _ _))) (Nat.le_refl _)
  refine .bind_free (efuseReadOnce_costs _) fun rv => ?_
  cases rv with
  | none => exact pure_costs _ _
  | some x => exact .ite (pure_costs _ _) (.free_bind (setStatus_costs _ 0) fun _ => pure_costs _ _)

theorem flashReadOnce_costs (i c : Nat) : Costs (flashReadOnce i c) 1 :=
  .ite (fail_costs _ _)
    (.bind_free (processCmd_costs _) fun r => .ite (.ite (pure_costs _ _) (fail_costs _ _)) (pure_costs _ _))

theorem flashProgramOnce_costs (i : Nat) (d : Bytes) : Costs (flashProgramOnce i d) 1 :=
  flashProgramOnce_eq i d ▸ .ite (fail_costs _ _) (simpleCmd_costs _ _)

theorem openSerial_costs (k : Nat) : Costs (openSerial k) k := by
  induction k with
  | zero => exact fail_costs _ _
  | succ k ih =>
    unfold openSerial
    refine .free_bind (modify_costs (inert_opened _) 0) fun _ => .catch 1 k ping_straight.costs (fun e => ?_) (Nat.le_of_eq (Nat.add_comm _ _))
    exact .free_bind (modify_costs (inert_opened _) 0) fun _ => .ite ih (fail_costs _ _)

theorem reset_costs (r : Bool) : Costs (reset r) 4 := by
  refine .bind 1 3 (processCmd_costs _) (fun r => ?_) (Nat.le_refl _)
  refine .free_bind (modify_costs (inert_opened _) 0) fun _ => .free_bind (get_costs 0) fun h => ?_
  extract_lets bad reopen
  have hre : ∀ u, Costs (reopen u) 3 := fun _ => by
    refine .ite ?_ (pure_costs _ _)
    cases h.cfg.tr with
    | hid => exact .free_bind (modify_costs (inert_opened _) 0) fun _ => pure_costs _ _
    | serial =>
      exact .catch 3 0 (.bind_free (openSerial_costs _) fun _ => pure_costs _ _)
        (fun e => .ite (.ite (fail_costs _ _) (pure_costs _ _)) (fail_costs _ _)) (Nat.le_refl _)
  exact .ite (fail_costs _ _) (.ite (.free_bind (setStatus_costs _ 0) hre) (hre ()))

theorem Costs.room {α} {m : H α} {a n : Nat} (hm : Costs m a) (ha : a ≤ 4 := by decide) : Costs m (n + 4) :=
  hm.mono (Nat.le_trans ha (Nat.le_add_left _ _))

/-- at most one failed read per data packet, and four more (`reset` with reopen: the command and three pings) -/
theorem runOp_costs (op : Op) : Costs (runOp op) (op.dataLen + 4) := by
  cases op with
  | open_ =>
    refine .free_bind (get_costs 0) fun h => ?_
    cases h.cfg.tr with
    | serial => exact .bind_free (openSerial_costs _).room fun _ => pure_costs _ _
    | hid => exact .free_bind (modify_costs (inert_opened _) 0) fun _ => pure_costs _ _
  | getProperty t i =>
    refine .bind_free (getProperty_costs _ _).room fun v => ?_
    cases v <;> exact pure_costs _ _
  | setProperty t v => exact (simpleCmd_costs _ _).room
  | fillMemory a n p => exact (simpleCmd_costs _ _).room
  | eraseRegion a n m => exact (simpleCmd_costs _ _).room
  | eraseAll m => exact (simpleCmd_costs _ _).room
  | execute a g s => exact (simpleCmd_costs _ _).room
  | call a g => exact (simpleCmd_costs _ _).room
  | eraseAllUnsecure => exact (simpleCmd_costs _ _).room
  | configureMemory a m => exact (simpleCmd_costs _ _).room
  | reliableUpdate a => exact (simpleCmd_costs _ _).room
  | readMemory a n m f => exact (readMemory_costs _ _ _ _).room
  | writeMemory a d m => exact (writeMemory_eq a d m ▸ dataOutCmd_costs _ _ d).mono (Nat.add_le_add_left (by decide) _)
  | receiveSbFile d c => exact (receiveSbFile_costs _ _).mono (Nat.add_le_add_left (by decide) _)
  | loadImage d => exact (loadImage_costs _).mono (Nat.add_le_add_left (by decide) _)
  | flashReadOnce i c => exact (flashReadOnce_costs _ _).room
  | flashProgramOnce i d => exact (flashProgramOnce_costs _ _).room
  | efuseReadOnce i =>
    refine .bind_free (efuseReadOnce_costs _).room fun v => ?_
    cases v <;> exact pure_costs _ _
  | efuseProgramOnce i v c => exact (efuseProgramOnce_costs _ _ _).room
  | flashReadResource a n o => exact .ite (fail_costs _ _) (dataInCmd_costs _ _ _).room
  | kpEnroll => exact (simpleCmd_costs _ _).room
  | kpSetIntrinsicKey t z => exact (simpleCmd_costs _ _).room
  | kpWriteNonvolatile m => exact (simpleCmd_costs _ _).room
  | kpReadNonvolatile m => exact (simpleCmd_costs _ _).room
  | kpSetUserKey t d => exact (dataOutCmd_costs _ _ _).mono (Nat.add_le_add_left (by decide) _)
  | kpWriteKeyStore d => exact (dataOutCmd_costs _ _ _).mono (Nat.add_le_add_left (by decide) _)
  | kpReadKeyStore => exact (dataInCmd_costs _ _ _).room
  | reset r => exact (reset_costs r).room
  | logCmd t ps => exact (simpleCmd_costs _ _).room
  | fuseProgram a d m => exact (dataOutCmd_costs _ _ _).mono (Nat.add_le_add_left (by decide) _)
  | fuseRead a n m => exact (dataInCmd_costs _ _ _).room

/-- every operation, both transports, strict and partial reads, ANY replayed stream (well-formed or garbage) -/
theorem reads_bounded (h : Host) (op : Op) (hpeer : (∃ cs, h.peer = .script cs) ∨ h.peer = .none) :
    (runOp op h).2.reads ≤ h.reads + h.pending + op.dataLen + 16 := by
  have h1 := (runOp_costs op h hpeer).2
  unfold Φ at h1
  omega

end SpsdkVerif.Mboot.Bound
