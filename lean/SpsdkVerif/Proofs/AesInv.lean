/-
`Aes.decBlk k (Aes.encBlk k b) = b` (and the converse) for the FIPS-197 AES of Crypto/Aes.lean —
for every key (16/24/32 bytes: 10/12/14 rounds; any other length: identity by convention) and every block.

Each step of a round is undone by its inverse.  The S-box tables are mutually inverse (one kernel evaluation over the
256 bytes); ShiftRows/InvShiftRows are inverse permutations of the 16 positions; every entry of the two MixColumns
matrices is a xor of iterates of `xtime`, and InvM·M = 1 holds already between these polynomials over F₂, before any
reduction modulo the AES polynomial, so that `xtime` enters only through being xor-linear; AddRoundKey is an xor
involution.  The key schedule plays no role: decryption uses the same round-key list.
-/
import SpsdkVerif.Crypto.Aes
import SpsdkVerif.Proofs.Crypto

namespace SpsdkVerif.Crypto.Aes
open SpsdkVerif SpsdkVerif.Crypto

/-- A byte table as one number, entry `i` in bits `8i … 8i+7`.  The kernel shifts and reduces binary numerals in one
    step, whereas `Array.getD` walks the list: the look-ups of `sbox_tables` are cheap on the packed tables and slow to
    check on the arrays. -/
def pack : List UInt8 → Nat
  | [] => 0
  | b :: bs => b.toNat + 256 * pack bs

def look (n i : Nat) : Nat := n >>> (8 * i) % 256

theorem look_pack : ∀ (l : List UInt8) (i : Nat), look (pack l) i = (l.getD i 0).toNat
  | [], i => by simp [look, pack]
  | b :: bs, 0 => by
    rw [look, pack, Nat.mul_zero, Nat.shiftRight_zero, Nat.add_mul_mod_self_left, List.getD_cons_zero,
      Nat.mod_eq_of_lt b.toNat_lt]
  | b :: bs, i + 1 => by
    have e : (b.toNat + 256 * pack bs) >>> 8 = pack bs := by
      have := b.toNat_lt; rw [Nat.shiftRight_eq_div_pow]; omega
    rw [List.getD_cons_succ, ← look_pack bs i, look, look, pack, Nat.mul_succ, Nat.add_comm _ 8, Nat.shiftRight_add, e]

theorem look_pack_toList (a : Array UInt8) (i : Nat) : look (pack a.toList) i = (a.getD i 0).toNat := by
  rw [look_pack, List.getD_eq_getElem?_getD, Array.getElem?_toList, Array.getD_eq_getD_getElem?]

/-- Both directions are evaluated: to get one from the other would take a pigeonhole argument over `UInt8`. -/
theorem sbox_tables : ∀ i < 256, look (pack invSboxTab.toList) (look (pack sboxTab.toList) i) = i ∧
    look (pack sboxTab.toList) (look (pack invSboxTab.toList) i) = i := by decide +kernel

theorem invSbox_sbox (x : UInt8) : invSbox (sbox x) = x := by
  apply UInt8.toNat_inj.mp
  have := (sbox_tables x.toNat x.toNat_lt).1
  rwa [look_pack_toList, look_pack_toList] at this

theorem sbox_invSbox (x : UInt8) : sbox (invSbox x) = x := by
  apply UInt8.toNat_inj.mp
  have := (sbox_tables x.toNat x.toNat_lt).2
  rwa [look_pack_toList, look_pack_toList] at this

theorem xtime_xor (a b : UInt8) : xtime (a ^^^ b) = xtime a ^^^ xtime b := by
  simp only [xtime, UInt8.shiftLeft_xor, UInt8.shiftRight_xor]
  ac_rfl

theorem mul3_xor (a b : UInt8) : mul3 (a ^^^ b) = mul3 a ^^^ mul3 b := by
  simp only [mul3, xtime_xor]; ac_rfl
theorem mul9_xor (a b : UInt8) : mul9 (a ^^^ b) = mul9 a ^^^ mul9 b := by
  simp only [mul9, xtime_xor]; ac_rfl
theorem mul11_xor (a b : UInt8) : mul11 (a ^^^ b) = mul11 a ^^^ mul11 b := by
  simp only [mul11, xtime_xor]; ac_rfl
theorem mul13_xor (a b : UInt8) : mul13 (a ^^^ b) = mul13 a ^^^ mul13 b := by
  simp only [mul13, xtime_xor]; ac_rfl
theorem mul14_xor (a b : UInt8) : mul14 (a ^^^ b) = mul14 a ^^^ mul14 b := by
  simp only [mul14, xtime_xor]; ac_rfl

/-- The first row of the MixColumns matrix `M` (and of `InvM` below).  Both matrices are circulant: row `i` is the first
    row applied to the arguments rotated `i` places (`mixCol_eq`, `invMixCol_eq`).  So InvM·M = 1 needs one row identity
    (`invMixRow_mixRow`), and that comes down to the four entries of the first row of the product (`invMix_mix_coeffs`). -/
def mixRow (a b c d : UInt8) : UInt8 := xtime a ^^^ mul3 b ^^^ c ^^^ d
def invMixRow (a b c d : UInt8) : UInt8 := mul14 a ^^^ mul11 b ^^^ mul13 c ^^^ mul9 d

theorem mixCol_eq (a b c d : UInt8) :
    mixCol a b c d = [mixRow a b c d, mixRow b c d a, mixRow c d a b, mixRow d a b c] := by
  simp only [mixCol, mixRow, List.cons.injEq, and_true]
  exact ⟨trivial, by ac_rfl, by ac_rfl, by ac_rfl⟩

theorem invMixCol_eq (a b c d : UInt8) :
    invMixCol a b c d = [invMixRow a b c d, invMixRow b c d a, invMixRow c d a b, invMixRow d a b c] := by
  simp only [invMixCol, invMixRow, List.cons.injEq, and_true]
  exact ⟨trivial, by ac_rfl, by ac_rfl, by ac_rfl⟩

/-- The first row of InvM·M is `(1 0 0 0)`: `14·2 + 11 + 13 + 9·3 = 1`, `14·3 + 11·2 + 13 + 9 = 0`, ….  Each entry, applied
    to `a`, expands into a xor of iterates of `xtime` on `a` in which every iterate occurs an even number of times
    (except `a` itself in the first): sort, then cancel equal neighbours from the inside out. -/
theorem invMix_mix_coeffs (a : UInt8) :
    mul14 (xtime a) ^^^ mul11 a ^^^ mul13 a ^^^ mul9 (mul3 a) = a ∧
    mul14 (mul3 a) ^^^ mul11 (xtime a) ^^^ mul13 a ^^^ mul9 a = 0 ∧
    mul14 a ^^^ mul11 (mul3 a) ^^^ mul13 (xtime a) ^^^ mul9 a = 0 ∧
    mul14 a ^^^ mul11 a ^^^ mul13 (mul3 a) ^^^ mul9 (xtime a) = 0 := by
  simp only [mul3, mul9, mul11, mul13, mul14, xtime_xor]
  ac_nf
  simp only [UInt8.xor_self, UInt8.xor_zero, and_self]

theorem mix_invMix_coeffs (a : UInt8) :
    xtime (mul14 a) ^^^ mul3 (mul9 a) ^^^ mul13 a ^^^ mul11 a = a ∧
    xtime (mul11 a) ^^^ mul3 (mul14 a) ^^^ mul9 a ^^^ mul13 a = 0 ∧
    xtime (mul13 a) ^^^ mul3 (mul11 a) ^^^ mul14 a ^^^ mul9 a = 0 ∧
    xtime (mul9 a) ^^^ mul3 (mul13 a) ^^^ mul11 a ^^^ mul14 a = 0 := by
  simp only [mul3, mul9, mul11, mul13, mul14, xtime_xor]
  ac_nf
  simp only [UInt8.xor_self, UInt8.xor_zero, and_self]

/-- `Σⱼ gⱼ (Σₖ sⱼₖ) = Σₖ Σⱼ gⱼ sⱼₖ` for xor-linear `gⱼ`, with `s₀ₖ = xₖ`, `s₁ₖ = yₖ`, ….  On the left the summands of row `j`
    are listed from `k = j` on, cyclically: the order in which `mixRow b c d a`, `mixRow c d a b`, … unfold, so that `rw`
    matches as it stands.  The right side collects, for each of the four variables, its row of coefficients. -/
theorem xor_circulant {g₀ g₁ g₂ g₃ : UInt8 → UInt8} (h₀ : ∀ a b, g₀ (a ^^^ b) = g₀ a ^^^ g₀ b)
    (h₁ : ∀ a b, g₁ (a ^^^ b) = g₁ a ^^^ g₁ b) (h₂ : ∀ a b, g₂ (a ^^^ b) = g₂ a ^^^ g₂ b)
    (h₃ : ∀ a b, g₃ (a ^^^ b) = g₃ a ^^^ g₃ b) (x₀ x₁ x₂ x₃ y₀ y₁ y₂ y₃ z₀ z₁ z₂ z₃ w₀ w₁ w₂ w₃ : UInt8) :
    g₀ (x₀ ^^^ x₁ ^^^ x₂ ^^^ x₃) ^^^ g₁ (y₁ ^^^ y₂ ^^^ y₃ ^^^ y₀) ^^^ g₂ (z₂ ^^^ z₃ ^^^ z₀ ^^^ z₁) ^^^
      g₃ (w₃ ^^^ w₀ ^^^ w₁ ^^^ w₂) =
    (g₀ x₀ ^^^ g₁ y₀ ^^^ g₂ z₀ ^^^ g₃ w₀) ^^^ (g₀ x₁ ^^^ g₁ y₁ ^^^ g₂ z₁ ^^^ g₃ w₁) ^^^
      (g₀ x₂ ^^^ g₁ y₂ ^^^ g₂ z₂ ^^^ g₃ w₂) ^^^ (g₀ x₃ ^^^ g₁ y₃ ^^^ g₂ z₃ ^^^ g₃ w₃) := by
  simp only [h₀, h₁, h₂, h₃]; ac_rfl

theorem invMixRow_mixRow (a b c d : UInt8) :
    invMixRow (mixRow a b c d) (mixRow b c d a) (mixRow c d a b) (mixRow d a b c) = a := by
  simp only [invMixRow, mixRow]
  rw [xor_circulant mul14_xor mul11_xor mul13_xor mul9_xor, (invMix_mix_coeffs a).1, (invMix_mix_coeffs b).2.1,
    (invMix_mix_coeffs c).2.2.1, (invMix_mix_coeffs d).2.2.2]
  simp only [UInt8.xor_zero]

theorem mixRow_invMixRow (a b c d : UInt8) :
    mixRow (invMixRow a b c d) (invMixRow b c d a) (invMixRow c d a b) (invMixRow d a b c) = a := by
  -- the last two entries of `mixRow` are 1: there is no head symbol for `g₂`, `g₃` to match, so they are given as `id`
  have := xor_circulant xtime_xor mul3_xor (g₂ := id) (g₃ := id) (fun _ _ => rfl) (fun _ _ => rfl)
    (mul14 a) (mul11 b) (mul13 c) (mul9 d) (mul9 a) (mul14 b) (mul11 c) (mul13 d)
    (mul13 a) (mul9 b) (mul14 c) (mul11 d) (mul11 a) (mul13 b) (mul9 c) (mul14 d)
  simpa only [mixRow, invMixRow, id, (mix_invMix_coeffs a).1, (mix_invMix_coeffs b).2.1, (mix_invMix_coeffs c).2.2.1,
    (mix_invMix_coeffs d).2.2.2, UInt8.xor_zero] using this

theorem invMixCol_mixCol (a b c d : UInt8) :
    invMixCol (mixRow a b c d) (mixRow b c d a) (mixRow c d a b) (mixRow d a b c) = [a, b, c, d] := by
  rw [invMixCol_eq, invMixRow_mixRow, invMixRow_mixRow, invMixRow_mixRow, invMixRow_mixRow]

theorem mixCol_invMixCol (a b c d : UInt8) :
    mixCol (invMixRow a b c d) (invMixRow b c d a) (invMixRow c d a b) (invMixRow d a b c) = [a, b, c, d] := by
  rw [mixCol_eq, mixRow_invMixRow, mixRow_invMixRow, mixRow_invMixRow, mixRow_invMixRow]

theorem invSubBytes_subBytes (s : Bytes) : invSubBytes (subBytes s) = s := by
  simp [invSubBytes, subBytes, Function.comp_def, invSbox_sbox]
theorem subBytes_invSubBytes (s : Bytes) : subBytes (invSubBytes s) = s := by
  simp [invSubBytes, subBytes, Function.comp_def, sbox_invSbox]

theorem invShiftRows_shiftRows (s : Bytes) : invShiftRows (shiftRows s) = s := by
  unfold shiftRows
  split
  · rfl
  · rename_i h
    unfold invShiftRows
    split
    · exact absurd rfl (h _ _ _ _ _ _ _ _ _ _ _ _ _ _ _ _)
    · rfl

theorem shiftRows_invShiftRows (s : Bytes) : shiftRows (invShiftRows s) = s := by
  unfold invShiftRows
  split
  · rfl
  · rename_i h
    unfold shiftRows
    split
    · exact absurd rfl (h _ _ _ _ _ _ _ _ _ _ _ _ _ _ _ _)
    · rfl

theorem invMixColumns_mixColumns (s : Bytes) : invMixColumns (mixColumns s) = s := by
  unfold mixColumns
  split
  · simp only [mixCol_eq, List.cons_append, List.nil_append, invMixColumns, invMixCol_mixCol]
  · rename_i h
    unfold invMixColumns
    split
    · exact absurd rfl (h _ _ _ _ _ _ _ _ _ _ _ _ _ _ _ _)
    · rfl

theorem mixColumns_invMixColumns (s : Bytes) : mixColumns (invMixColumns s) = s := by
  unfold invMixColumns
  split
  · simp only [invMixCol_eq, List.cons_append, List.nil_append, mixColumns, mixCol_invMixCol]
  · rename_i h
    unfold mixColumns
    split
    · exact absurd rfl (h _ _ _ _ _ _ _ _ _ _ _ _ _ _ _ _)
    · rfl

theorem addRoundKey_cancel (s rk : Bytes) (h : s.length ≤ rk.length) : addRoundKey (addRoundKey s rk) rk = s :=
  xorBytes_cancel s rk h

@[simp] theorem subBytes_length (s : Bytes) : (subBytes s).length = s.length := by simp [subBytes]
@[simp] theorem invSubBytes_length (s : Bytes) : (invSubBytes s).length = s.length := by simp [invSubBytes]
@[simp] theorem shiftRows_length (s : Bytes) : (shiftRows s).length = s.length := by
  unfold shiftRows; split <;> rfl
@[simp] theorem invShiftRows_length (s : Bytes) : (invShiftRows s).length = s.length := by
  unfold invShiftRows; split <;> rfl
@[simp] theorem mixColumns_length (s : Bytes) : (mixColumns s).length = s.length := by
  unfold mixColumns; split <;> simp [mixCol]
@[simp] theorem invMixColumns_length (s : Bytes) : (invMixColumns s).length = s.length := by
  unfold invMixColumns; split <;> simp [invMixCol]
@[simp] theorem addRoundKey_length (s rk : Bytes) : (addRoundKey s rk).length = min s.length rk.length :=
  xorBytes_length s rk
@[simp] theorem roundKey_length (w : Array UInt8) (i : Nat) : (roundKey w i).length = 16 := by simp [roundKey]
@[simp] theorem normBlock_length (b : Bytes) : (normBlock b).length = 16 := by simp [normBlock]
theorem normBlock_of_len (b : Bytes) (h : b.length = 16) : normBlock b = b := by
  simp [normBlock, h]

theorem encRound_length (s rk : Bytes) (hs : s.length = 16) (hr : rk.length = 16) : (encRound s rk).length = 16 := by
  simp [encRound, hs, hr]
theorem decRound_length (s rk : Bytes) (hs : s.length = 16) (hr : rk.length = 16) : (decRound rk s).length = 16 := by
  simp [decRound, hs, hr]

theorem decRound_encRound (s rk : Bytes) (hs : s.length = 16) (hr : rk.length = 16) : decRound rk (encRound s rk) = s := by
  unfold decRound encRound
  rw [addRoundKey_cancel _ _ (by simp [hs, hr]), invMixColumns_mixColumns, invShiftRows_shiftRows, invSubBytes_subBytes]

theorem encRound_decRound (s rk : Bytes) (hs : s.length = 16) (hr : rk.length = 16) : encRound (decRound rk s) rk = s := by
  unfold decRound encRound
  rw [subBytes_invSubBytes, shiftRows_invShiftRows, mixColumns_invMixColumns, addRoundKey_cancel _ _ (by omega)]

section core
variable {k0 kL b : Bytes} {mids : List Bytes} (h0 : k0.length = 16) (hm : ∀ k ∈ mids, k.length = 16)
  (hL : kL.length = 16) (hb : b.length = 16)
include h0 hm hL hb

theorem encCore_length : (encCore k0 mids kL b).length = 16 := by
  have := foldl_invariant encRound_length mids (addRoundKey b k0) (by simp [h0, hb]) hm
  simp [encCore, this, hL]

theorem decCore_length : (decCore k0 mids kL b).length = 16 := by
  have := foldr_invariant decRound_length mids (invSubBytes (invShiftRows (addRoundKey b kL))) (by simp [hb, hL]) hm
  simp [decCore, this, h0]

theorem decCore_encCore : decCore k0 mids kL (encCore k0 mids kL b) = b := by
  have h1 : (addRoundKey b k0).length = 16 := by simp [h0, hb]
  have h2 := foldl_invariant encRound_length mids _ h1 hm
  unfold decCore encCore
  rw [addRoundKey_cancel _ _ (by simp [h2, hL]), invShiftRows_shiftRows, invSubBytes_subBytes,
    foldr_foldl_cancel encRound_length decRound_encRound mids _ h1 hm, addRoundKey_cancel _ _ (by omega)]

theorem encCore_decCore : encCore k0 mids kL (decCore k0 mids kL b) = b := by
  have h1 : (invSubBytes (invShiftRows (addRoundKey b kL))).length = 16 := by simp [hb, hL]
  have h2 := foldr_invariant decRound_length mids _ h1 hm
  unfold decCore encCore
  rw [addRoundKey_cancel _ _ (by omega), foldl_foldr_cancel decRound_length encRound_decRound mids _ h1 hm,
    subBytes_invSubBytes, shiftRows_invShiftRows, addRoundKey_cancel _ _ (by omega)]

end core

theorem midKeys_length (w : Array UInt8) (nr : Nat) : ∀ k ∈ midKeys w nr, k.length = 16 := by
  intro k hk
  simp only [midKeys, List.mem_map] at hk
  obtain ⟨i, _, rfl⟩ := hk
  simp

theorem encBlk_length (key b : Bytes) : (encBlk key b).length = 16 := by
  unfold encBlk
  split
  · exact encCore_length (by simp) (midKeys_length _ _) (by simp) (by simp)
  · simp

theorem decBlk_length (key b : Bytes) : (decBlk key b).length = 16 := by
  unfold decBlk
  split
  · exact decCore_length (by simp) (midKeys_length _ _) (by simp) (by simp)
  · simp

theorem decBlk_encBlk (key b : Bytes) (hb : b.length = 16) : decBlk key (encBlk key b) = b := by
  have hl := encBlk_length key b
  unfold decBlk
  rw [normBlock_of_len _ hl]
  unfold encBlk
  split
  · rw [normBlock_of_len _ hb]
    exact decCore_encCore (by simp) (midKeys_length _ _) (by simp) hb
  · exact normBlock_of_len _ hb

theorem encBlk_decBlk (key b : Bytes) (hb : b.length = 16) : encBlk key (decBlk key b) = b := by
  have hl := decBlk_length key b
  unfold encBlk
  rw [normBlock_of_len _ hl]
  unfold decBlk
  split
  · rw [normBlock_of_len _ hb]
    exact encCore_decCore (by simp) (midKeys_length _ _) (by simp) hb
  · exact normBlock_of_len _ hb

end SpsdkVerif.Crypto.Aes
