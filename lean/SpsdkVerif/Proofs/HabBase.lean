/- C07: integer codecs, headers, slices, placement, alignment, and the closed forms of the generated arithmetic
   (`Generated/HabFuns.lean`) the model reads through its `…N` wrappers. -/
import SpsdkVerif.Model.HabWF
import SpsdkVerif.Proofs.Misc

namespace SpsdkVerif.Hab
open SpsdkVerif SpsdkVerif.Misc SpsdkVerif.Generated

@[simp] theorem be16_length (v : Nat) : (be16 v).length = 2 := beEnc_length' 2 v
@[simp] theorem be32_length (v : Nat) : (be32 v).length = 4 := beEnc_length' 4 v
@[simp] theorem be64_length (v : Nat) : (be64 v).length = 8 := beEnc_length' 8 v
@[simp] theorem le32_length (v : Nat) : (le32 v).length = 4 := leEnc_length 4 v
@[simp] theorem zeros_length (n : Nat) : (zeros n).length = n := by simp [zeros]

theorem nibbles (a b : Nat) (hb : b < 16) : (a * 16 + b) / 16 = a ∧ (a * 16 + b) % 16 = b := by omega

theorem u8_toNat (n : Nat) (h : n < 256) : (u8 n).toNat = n := by
  simp [u8, UInt8.toNat_ofNat', Nat.mod_eq_of_lt h]

theorem be16_eq (v : Nat) : be16 v = [u8 (v / 256 % 256), u8 (v % 256)] := by
  simp [be16, beEnc, u8]

@[simp] theorem hdr_length (t l p : Nat) : (hdr t l p).length = 4 := by simp [hdr]

theorem hdr4 (t l p : Nat) (rest : Bytes) :
    hdr t l p ++ rest = u8 t :: u8 (l / 256 % 256) :: u8 (l % 256) :: u8 p :: rest := by
  simp [hdr, be16_eq]

theorem parseHdr_hdr (t l p : Nat) (rest : Bytes) (ht : t < 256) (hl : l < 65536) (hp : p < 256) :
    parseHdr (hdr t l p ++ rest) = some (t, l, p) := by
  have h1 : l / 256 % 256 = l / 256 := Nat.mod_eq_of_lt (by omega)
  simp only [hdr, be16_eq, List.cons_append, List.nil_append, parseHdr, h1]
  rw [u8_toNat t ht, u8_toNat p hp, u8_toNat (l / 256) (by omega), u8_toNat (l % 256) (by omega)]
  congr 3
  omega

theorem slice_append_mid (a b c : Bytes) (n m : Nat) (hn : n = a.length) (hm : m = b.length) :
    slice (a ++ b ++ c) n m = b := by
  subst hn hm; simp [slice, List.append_assoc]

theorem drop_append_len (a b : Bytes) (n : Nat) (h : n = a.length) : (a ++ b).drop n = b := by
  subst h; simp

theorem take_append_len (a b : Bytes) (n : Nat) (h : n = a.length) : (a ++ b).take n = a := by
  subst h; simp

theorem slice_length_le (b : Bytes) (o n : Nat) : (slice b o n).length ≤ n := by
  simp [slice]; omega

theorem slice_take (b : Bytes) (o n k : Nat) (h : o + n ≤ k) : slice (b.take k) o n = slice b o n := by
  simp only [slice, List.drop_take, List.take_take]
  congr 1
  omega

theorem slice_append_left (a b : Bytes) (o n : Nat) (h : o + n ≤ a.length) : slice (a ++ b) o n = slice a o n := by
  unfold slice
  rw [List.drop_append_of_le_length (by omega), List.take_append_of_le_length (by simp; omega)]

theorem slice_append_right (a b : Bytes) (o n : Nat) (h : a.length ≤ o) :
    slice (a ++ b) o n = slice b (o - a.length) n := by
  unfold slice
  obtain ⟨k, rfl⟩ : ∃ k, o = a.length + k := ⟨o - a.length, by omega⟩
  rw [List.drop_append, List.drop_of_length_le (by omega)]
  simp

theorem slice_slice (b : Bytes) (o n o' n' : Nat) (h : o' + n' ≤ n) : slice (slice b o n) o' n' = slice b (o + o') n' := by
  unfold slice
  rw [List.drop_take, List.take_take, List.drop_drop]
  congr 1
  omega

theorem slice_in_piece (pre : List Bytes) (x : Bytes) (post : List Bytes) (o n : Nat) (h1 : pre.flatten.length ≤ o)
    (h2 : o + n ≤ pre.flatten.length + x.length) :
    slice (pre ++ x :: post).flatten o n = slice x (o - pre.flatten.length) n := by
  rw [List.flatten_append, List.flatten_cons, slice_append_right _ _ _ _ h1, slice_append_left _ _ _ _ (by omega)]

theorem slice_piece (pre : List Bytes) (x : Bytes) (post : List Bytes) (o n : Nat) (ho : o = pre.flatten.length)
    (hn : n = x.length) : slice (pre ++ x :: post).flatten o n = x := by
  rw [List.flatten_append, List.flatten_cons, ← List.append_assoc]
  exact slice_append_mid _ _ _ _ _ ho hn

theorem slice_to_drop (d x : Bytes) (o : Nat) (h : slice d o x.length = x) : d.drop o = x ++ d.drop (o + x.length) := by
  have := (List.take_append_drop x.length (d.drop o)).symm
  rwa [List.drop_drop, show (d.drop o).take x.length = x from h] at this

theorem zeros_succ (n : Nat) : zeros (n + 1) = 0 :: zeros n := List.replicate_succ

theorem zeros_append (a b : Nat) : zeros a ++ zeros b = zeros (a + b) := by
  simp [zeros, List.replicate_append_replicate]

theorem slice_zeros (k o n : Nat) (h : o + n ≤ k) : slice (zeros k) o n = zeros n := by
  simp [slice, zeros, List.drop_replicate, List.take_replicate]
  omega

theorem rdBE_at (a c : Bytes) (n v off : Nat) (h : v < 256 ^ n) (ho : off = a.length) :
    rdBE (a ++ beEnc n v ++ c) off n = some v := by
  simp only [rdBE, slice_append_mid a _ c off n ho (beEnc_length' n v).symm, beEnc_length', beDec_beEnc n v h, ↓reduceIte]

theorem rdLE_at (a c : Bytes) (n v off : Nat) (h : v < 256 ^ n) (ho : off = a.length) :
    rdLE (a ++ leEnc n v ++ c) off n = some v := by
  simp only [rdLE, slice_append_mid a _ c off n ho (leEnc_length n v).symm, leEnc_length, leDec_leEnc n v h, ↓reduceIte]

theorem placeAt_length (acc b : Bytes) (off : Nat) (h : acc.length ≤ off) :
    (placeAt acc off b).length = off + b.length := by
  simp [placeAt]; omega

theorem placeAt_slice (acc b : Bytes) (off : Nat) (h : acc.length ≤ off) :
    slice (placeAt acc off b) off b.length = b := by
  unfold placeAt
  have := slice_append_mid (acc ++ zeros (off - acc.length)) b [] off b.length (by simp; omega) rfl
  rwa [List.append_nil] at this

theorem placeAt_keeps (acc b : Bytes) (off o n : Nat) (h : o + n ≤ acc.length) :
    slice (placeAt acc off b) o n = slice acc o n := by
  unfold placeAt
  rw [List.append_assoc]
  exact slice_append_left _ _ _ _ h

theorem placeAt_gap (acc b : Bytes) (off o n : Nat) (h1 : acc.length ≤ o) (h2 : o + n ≤ off) :
    slice (placeAt acc off b) o n = zeros n := by
  unfold placeAt
  rw [List.append_assoc, slice_append_right _ _ _ _ h1, slice_append_left _ _ _ _ (by simp; omega)]
  exact slice_zeros _ _ _ (by omega)

theorem alignUp_ge (n a : Nat) (ha : 0 < a) : n ≤ alignUp n a := by
  unfold alignUp
  have h1 := Nat.div_add_mod (n + (a - 1)) a
  have h2 := Nat.mod_lt (n + (a - 1)) ha
  rw [Nat.mul_comm] at h1
  omega

theorem alignUp_mod (n a : Nat) : alignUp n a % a = 0 := by
  unfold alignUp; exact Nat.mul_mod_left _ _

theorem alignUp_lt (n a : Nat) (ha : 0 < a) : alignUp n a < n + a := by
  unfold alignUp
  have h1 := Nat.div_add_mod (n + (a - 1)) a
  have h2 := Nat.mod_lt (n + (a - 1)) ha
  rw [Nat.mul_comm] at h1
  omega

theorem alignUp_of_mod (n a : Nat) (ha : 0 < a) (h : n % a = 0) : alignUp n a = n := by
  obtain ⟨k, rfl⟩ := Nat.dvd_of_mod_eq_zero h
  unfold alignUp
  rw [Nat.mul_add_div ha, Nat.div_eq_of_lt (by omega), Nat.add_zero, Nat.mul_comm]

theorem padAlign_length (d : Bytes) (a : Nat) (ha : 0 < a) : (padAlign d a).length = alignUp d.length a := by
  have := alignUp_ge d.length a ha
  simp [padAlign]; omega

theorem padAlign_take (d : Bytes) (a : Nat) : (padAlign d a).take d.length = d := by
  simp [padAlign]

/-! The generated functions (`Generated/HabFuns.lean`) are re-translated from the current source on every run, so the SHAPE of their
bodies (which arithmetic identity is used for an alignment, `if`/`else` against early return, temporaries, `divmod`) is not
fixed.  Every bridge lemma below therefore states `generated args = closed form` and proves it with `py_eval`, which normalises
both sides (Python floor division / modulo on non-negative operands become `/`, `%`; Boolean tests become propositions; every
`if`/`match` of either side is split) and closes each branch with linear arithmetic.  No lemma names or rewrites a pattern of
the generated body. -/

macro "py_eval" : tactic =>
  `(tactic| (
      (try simp (disch := omega) only [pyMod, pyFloorDiv, Int.fdiv_eq_ediv_of_nonneg, Int.fmod_eq_emod_of_nonneg,
        bne_iff_ne, ne_eq, ite_not, beq_iff_eq, decide_eq_true_eq, Bool.and_eq_true, Bool.or_eq_true, Bool.not_eq_true',
        gt_iff_lt, ge_iff_le]) <;>
      (repeat' split) <;>
      (try simp only [natOf, boolOf, Except.ok.injEq, reduceCtorEq]) <;>
      first
        | done
        | (with_reducible rfl)
        | omega
        | (exfalso; omega)
        | (simp only [csfAbs] at * <;> omega)
        | (simp_all (config := { decide := true }) <;> omega)))

theorem alignOffset_nat (n : Nat) : HabFuns.alignOffset (n : Int) = .ok ((csfAbs n : Nat) : Int) := by
  unfold HabFuns.alignOffset csfAbs
  py_eval

theorem alignOffset_int (x : Int) (hx : 0 ≤ x) : HabFuns.alignOffset x = .ok ((csfAbs x.toNat : Nat) : Int) := by
  have := alignOffset_nat x.toNat
  rwa [Int.toNat_of_nonneg hx] at this

/-- `py_eval` for bodies that call `alignOffset` (on any non-negative argument expression) -/
macro "py_eval_align" : tactic =>
  `(tactic| ((try simp (disch := omega) only [alignOffset_int, ← Int.natCast_add, Int.toNat_natCast]) <;> py_eval))

theorem nat_and_255 (n : Nat) : n &&& 255 = n % 256 := Nat.and_two_pow_sub_one_eq_mod n 8
theorem nat_and_15 (n : Nat) : n &&& 15 = n % 16 := Nat.and_two_pow_sub_one_eq_mod n 4

/-- `py_eval` for bodies with shifts / byte masks of non-negative operands: `<<`, `>>`, `& 0xFF` become `*`, `/`, `%` first, so that
    `x & 0xFF` and `x % 256`, `x << 4` and `x * 16`, `x >> 8` and `x // 256` are the same to the proof -/
macro "py_bits" : tactic =>
  `(tactic| ((try simp only [pyAnd_nat, pyShl_nat, pyShr_nat, Int.reduceToNat, Int.toNat_natCast, nat_and_255, nat_and_15,
      Nat.shiftLeft_eq, Nat.shiftRight_eq_div_pow, Nat.reducePow]) <;> py_eval))

theorem csfAbs_gt (n : Nat) : n < csfAbs n := by
  unfold csfAbs
  have := Nat.mod_lt n (show 0 < 16 by decide)
  have h1 := Nat.div_add_mod (n + (16 - n % 16) + 4095) 4096
  have h2 := Nat.mod_lt (n + (16 - n % 16) + 4095) (show 0 < 4096 by decide)
  omega

theorem csfAbs_mod (n : Nat) : csfAbs n % 4096 = 0 := by unfold csfAbs; exact Nat.mul_mod_left _ _

theorem csfOffsetN_eq (ils n ivtOff : Nat) : csfOffsetN ils n ivtOff = csfAbs (ils + n) - ivtOff := by
  unfold csfOffsetN HabFuns.csfOffset
  py_eval_align

theorem appOffsetN_eq (ils ivtOff : Nat) : appOffsetN ils ivtOff = ils - ivtOff := by
  unfold appOffsetN HabFuns.appOffset; py_eval

theorem ivtSelfN_eq (start ivtOff : Nat) : ivtSelfN start ivtOff = start + ivtOff := by
  unfold ivtSelfN HabFuns.ivtSelfAddress; py_eval

theorem ivtBdtN_eq (self : Nat) : ivtBdtN self = self + 32 := by
  unfold ivtBdtN HabFuns.ivtBdtAddress Spec.ivtSize; py_eval

theorem ivtDcdN_eq (self : Nat) : ivtDcdN self = self + 64 := by
  unfold ivtDcdN HabFuns.ivtDcdAddress; py_eval

theorem bdtSegOffN_eq : bdtSegOffN = 32 := by
  unfold bdtSegOffN HabFuns.bdtSegOffset; py_eval

theorem dcdSegOffN_eq : dcdSegOffN = 64 := by
  unfold dcdSegOffN HabFuns.dcdSegOffset; py_eval

theorem bdtLenN_eq (a b c : Nat) : bdtLenN a b c = a + b + c := by
  unfold bdtLenN HabFuns.bdtAppLength; py_eval

theorem blockBaseN_eq (s i o : Nat) : blockBaseN s i o = s + i + o := by
  unfold blockBaseN HabFuns.blockBase; py_eval

theorem blockStartN_eq (i o : Nat) : blockStartN i o = i + o := by
  unfold blockStartN HabFuns.blockStart; py_eval

theorem signedPrefixN_eq (i o : Nat) : signedPrefixN i o = i + o := by
  unfold signedPrefixN HabFuns.signedPrefixLen; py_eval

/-- the three flag values the builder is used with (`0` plain, `0x08` authenticated, `0x0C` encrypted); closed terms, evaluated -/
theorem flags_cases (f : Nat) (h : f = 0 ∨ f = 8 ∨ f = 12) :
    isAuth f = (f != 0) ∧ isEnc f = (f == 12) ∧ appAligned f = (f != 0) ∧ bdtEndIsCsf f = (f != 0) := by
  rcases h with h | h | h <;> subst h <;> refine ⟨?_, ?_, ?_, ?_⟩ <;> decide

theorem ivtCsfN_eq (flags ils n ivtOff self : Nat) (h : flags = 0 ∨ flags = 8 ∨ flags = 12) (hi : ivtOff ≤ csfAbs (ils + n)) :
    ivtCsfN flags ils n ivtOff self = if flags = 0 then 0 else self + (csfAbs (ils + n) - ivtOff) := by
  rcases h with h | h | h <;> subst h <;> unfold ivtCsfN HabFuns.ivtCsfAddress <;> py_eval_align

theorem secretKeyLocN_eq (ils n start : Nat) : secretKeyLocN ils n start = start + csfAbs (ils + n) + 0x2000 := by
  unfold secretKeyLocN HabFuns.secretKeyLocation
  py_eval_align

theorem nonceLenN_cases (n : Nat) :
    nonceLenN n = if n < 65536 then 13 else if n < 16777216 then 12 else 11 := by
  unfold nonceLenN HabFuns.aeadNonceLen
  py_eval

theorem macLenSet_eq (n : Nat) :
    HabFuns.macLenSet (n : Int) = if 4 ≤ n ∧ n ≤ 16 ∧ n % 2 = 0 then .ok (n : Int) else .error .spsdk := by
  unfold HabFuns.macLenSet
  py_eval

theorem macLenOk_iff (n : Nat) : macLenOk n = true ↔ 4 ≤ n ∧ n ≤ 16 ∧ n % 2 = 0 := by
  unfold macLenOk
  rw [macLenSet_eq]
  by_cases h : 4 ≤ n ∧ n ≤ 16 ∧ n % 2 = 0 <;> simp [h]

end SpsdkVerif.Hab
