/-
Lemmas about Model/SymWrappers.lean for Properties/C09.lean.  XTS with ciphertext stealing is inverted through
`stealTail`, the last whole block plus the partial one: there encryption and decryption differ only in the order of the
two tweaks (`xtsSteal_append`, `stealTail_inv`).
-/
import SpsdkVerif.Model.SymWrappers
import SpsdkVerif.Proofs.Crypto
import SpsdkVerif.Proofs.Crc

namespace SpsdkVerif.SymWrappers
open SpsdkVerif SpsdkVerif.Crypto
open SpsdkVerif.Misc (beEnc beDec leEnc leDec)

theorem enc32_length (l : Bool) (v : Nat) : (enc32 l v).length = 4 := by
  cases l <;> simp [enc32, Misc.beEnc_length, Misc.leEnc_length]

theorem dec32_enc32 (l : Bool) (v : Nat) : dec32 l (enc32 l v) = v % 4294967296 := by
  cases l <;> simp [dec32, enc32, leDec, leEnc, Crc.beDec_beEnc]

theorem toNat_emod32 (x : Int) : (((x % 4294967296).toNat : Nat) : Int) = x % 4294967296 :=
  Int.toNat_of_nonneg (Int.emod_nonneg _ (by decide))

/-- the counter word read back from `.value` is `ctr` modulo 2^32 (either byte order, negative `ctr` included) -/
theorem dec32_value (cn : Counter) (hn : cn.nonce.length = 12) :
    ((dec32 cn.little (cn.value.drop 12) : Nat) : Int) = cn.ctr % 4294967296 := by
  rw [Counter.value, List.drop_left' hn, dec32_enc32, Int.natCast_emod, toNat_emod32]
  exact Int.emod_emod_of_dvd _ (Int.dvd_refl _)

theorem ivOrDefault_length (iv : Option Bytes) (n : Nat)
    (h : iv = none ∨ iv = some [] ∨ ∃ v, iv = some v ∧ v.length = n) : (ivOrDefault iv n).length = n := by
  rcases h with h | h | ⟨v, h, hv⟩
  · subst h; simp [ivOrDefault]
  · subst h; simp [ivOrDefault]
  · subst h
    simp only [ivOrDefault]
    split <;> simp_all

theorem aesKeyOk_listed {k : Bytes} (h : aesKeyOk k = true) : aesKeySizeListed k = true := by
  simp [aesKeySizeListed, h]

theorem aesCtr_ok {c : CryptoOps} {k nonce : Bytes} (hk : aesKeyOk k = true) (hn : nonce.length = 16) (m : Bytes) :
    aesCtr c k m nonce = .ok (ctrXor c k nonce m) := by
  simp [aesCtr, hk, hn]

theorem xtsSteal_aligned (f : Bytes → Bytes) (d : Bool) (t0 m : Bytes) (h : m.length % 16 = 0) :
    xtsSteal f d t0 m = xtsAux f (m.length / 16) t0 m := by
  simp [xtsSteal, h]

theorem xtsAux_prefix (f : Bytes → Bytes) : ∀ (n : Nat) (t a b : Bytes), a.length = 16 * n →
    xtsAux f n t (a ++ b) = xtsAux f n t a
  | 0, _, _, _, _ => rfl
  | n + 1, t, a, b, h => by
    have h16 : 16 ≤ a.length := by omega
    simp only [xtsAux]
    rw [List.take_append_of_le_length h16, List.drop_append_of_le_length h16,
      xtsAux_prefix f n _ (a.drop 16) b (by simp; omega)]

theorem xtsTweakAt_length (t0 : Bytes) (h : t0.length = 16) : ∀ n, (xtsTweakAt t0 n).length = 16
  | 0 => h
  | _ + 1 => gfDouble_length _

theorem xtsBlock_length {f : Bytes → Bytes} (hf : ∀ b, (f b).length = 16) (t b : Bytes) (ht : t.length = 16) :
    (xtsBlock f t b).length = 16 := by simp [xtsBlock, hf, ht]

theorem xtsBlock_inv {f g : Bytes → Bytes} (hgf : ∀ b, b.length = 16 → g (f b) = b) (hf : ∀ b, (f b).length = 16)
    (t b : Bytes) (ht : t.length = 16) (hb : b.length = 16) : xtsBlock g t (xtsBlock f t b) = b := by
  have hx : (xorBytes b t).length = 16 := by simp [hb, ht]
  unfold xtsBlock
  rw [xorBytes_cancel_eq _ _ (by rw [hf, ht]), hgf _ hx, xorBytes_cancel_eq _ _ (by rw [hb, ht])]

/-- ciphertext stealing on the last full block `last` and the partial block `tail`: `last` is processed under `t₁`; its
    output lends its end to fill up `tail`, which is processed under `t₂` and emitted first -/
def stealTail (f : Bytes → Bytes) (t₁ t₂ last tail : Bytes) : Bytes :=
  xtsBlock f t₂ (tail ++ (xtsBlock f t₁ last).drop tail.length) ++ (xtsBlock f t₁ last).take tail.length

theorem xtsSteal_append (f : Bytes → Bytes) (dec : Bool) (t0 a last tail : Bytes) (n : Nat) (ha : a.length = 16 * n)
    (hl : last.length = 16) (h0 : 0 < tail.length) (h16 : tail.length < 16) :
    xtsSteal f dec t0 (a ++ (last ++ tail)) = xtsAux f n t0 a ++
      stealTail f (if dec then gfDouble (xtsTweakAt t0 n) else xtsTweakAt t0 n)
        (if dec then xtsTweakAt t0 n else gfDouble (xtsTweakAt t0 n)) last tail := by
  have hlen : (a ++ (last ++ tail)).length = 16 * n + (16 + tail.length) := by
    rw [List.length_append, List.length_append, ha, hl]
  have hd : (a ++ (last ++ tail)).length / 16 = n + 1 := by
    rw [hlen, Nat.mul_add_div (by decide), Nat.add_div_left _ (by decide), Nat.div_eq_of_lt h16]
  have hr : (a ++ (last ++ tail)).length % 16 = tail.length := by
    rw [hlen, Nat.mul_add_mod, Nat.add_mod_left, Nat.mod_eq_of_lt h16]
  have e1 : (a ++ (last ++ tail)).drop (16 * n) = last ++ tail := List.drop_left' ha
  have e2 : (a ++ (last ++ tail)).drop (16 * (n + 1)) = tail := by
    rw [← List.append_assoc]; exact List.drop_left' (by rw [List.length_append, ha, hl, Nat.mul_succ])
  simp only [xtsSteal, hd, hr, Nat.add_sub_cancel, e1, e2, List.take_left' hl, xtsAux_prefix f n t0 a _ ha,
    Nat.ne_of_gt h0, if_false, stealTail, List.append_assoc]

theorem stealTail_inv {f g : Bytes → Bytes} (hgf : ∀ b, b.length = 16 → g (f b) = b) (hf : ∀ b, (f b).length = 16)
    (t₁ t₂ last tail : Bytes) (h₁ : t₁.length = 16) (h₂ : t₂.length = 16) (hl : last.length = 16) (ht : tail.length ≤ 16) :
    stealTail g t₂ t₁ ((stealTail f t₁ t₂ last tail).take 16) ((stealTail f t₁ t₂ last tail).drop 16) = last ++ tail := by
  have hc := xtsBlock_length hf t₁ last h₁
  have hx := xtsBlock_length hf t₂ (tail ++ (xtsBlock f t₁ last).drop tail.length) h₂
  have hp : (tail ++ (xtsBlock f t₁ last).drop tail.length).length = 16 := by
    rw [List.length_append, List.length_drop, hc]; omega
  have hk : ((xtsBlock f t₁ last).take tail.length).length = tail.length := by rw [List.length_take, hc]; omega
  unfold stealTail
  rw [List.take_left' hx, List.drop_left' hx, hk, xtsBlock_inv hgf hf _ _ h₂ hp, List.drop_left' rfl, List.take_left' rfl,
    List.take_append_drop, xtsBlock_inv hgf hf _ _ h₁ hl]

theorem stealTail_length {f : Bytes → Bytes} (hf : ∀ b, (f b).length = 16) (t₁ t₂ last tail : Bytes)
    (h₁ : t₁.length = 16) (h₂ : t₂.length = 16) (ht : tail.length ≤ 16) :
    (stealTail f t₁ t₂ last tail).length = 16 + tail.length := by
  rw [stealTail, List.length_append, xtsBlock_length hf _ _ h₂, List.length_take_of_le (by rw [xtsBlock_length hf _ _ h₁]; exact ht)]

theorem xtsSteal_inv_unaligned {f g : Bytes → Bytes} (hgf : ∀ b, b.length = 16 → g (f b) = b) (hf : ∀ b, (f b).length = 16)
    (t0 : Bytes) {m a last tail : Bytes} (n : Nat) (hm : a ++ (last ++ tail) = m) (ht : t0.length = 16)
    (ha : a.length = 16 * n) (hl : last.length = 16) (h0 : 0 < tail.length) (h16 : tail.length < 16) :
    (xtsSteal f false t0 m).length = m.length ∧ xtsSteal g true t0 (xtsSteal f false t0 m) = m := by
  subst hm
  have hA := xtsTweakAt_length t0 ht n
  have hB : (gfDouble (xtsTweakAt t0 n)).length = 16 := gfDouble_length _
  have hS := stealTail_length hf _ _ last tail hA hB (Nat.le_of_lt h16)
  have hh := xtsAux_length hf n t0 a ht
  have hd : ((stealTail f (xtsTweakAt t0 n) (gfDouble (xtsTweakAt t0 n)) last tail).drop 16).length = tail.length := by
    rw [List.length_drop, hS, Nat.add_sub_cancel_left]
  rw [xtsSteal_append f false t0 a last tail n ha hl h0 h16]
  simp only [Bool.false_eq_true, if_false]
  refine ⟨by simp only [List.length_append, hh, hS, ha, hl], ?_⟩
  rw [← List.take_append_drop 16 (stealTail f _ _ _ _),
    xtsSteal_append g true t0 _ _ _ n hh (List.length_take_of_le (hS ▸ Nat.le_add_right _ _)) (hd ▸ h0) (hd ▸ h16)]
  simp only [if_true]
  rw [xtsAux_inv hgf hf n t0 _ ht ha, stealTail_inv hgf hf _ _ _ _ hA hB hl (Nat.le_of_lt h16)]

theorem xtsSteal_inv {f g : Bytes → Bytes} (hgf : ∀ b, b.length = 16 → g (f b) = b) (hf : ∀ b, (f b).length = 16)
    (t0 m : Bytes) (ht : t0.length = 16) (hm : 16 ≤ m.length) :
    (xtsSteal f false t0 m).length = m.length ∧ xtsSteal g true t0 (xtsSteal f false t0 m) = m := by
  by_cases hr : m.length % 16 = 0
  · have hl : (xtsAux f (m.length / 16) t0 m).length = m.length := by
      rw [xtsAux_length hf _ _ _ ht]; omega
    rw [xtsSteal_aligned _ _ _ _ hr]
    refine ⟨hl, ?_⟩
    rw [xtsSteal_aligned _ _ _ _ (by rw [hl]; exact hr), hl]
    exact xtsAux_inv hgf hf _ _ _ ht (by omega)
  · -- `m = a ++ (last ++ tail)`: the whole blocks but one, the last whole block, the partial block
    have hlen := Nat.div_add_mod m.length 16
    have h16 := Nat.mod_lt m.length (show 0 < 16 by decide)
    have hq := Nat.div_pos hm (show 0 < 16 by decide)
    generalize m.length % 16 = r at hlen hr h16
    generalize m.length / 16 = q at hlen hq
    obtain ⟨n, rfl⟩ := Nat.exists_eq_add_one_of_ne_zero (Nat.ne_of_gt hq)
    exact xtsSteal_inv_unaligned hgf hf t0 n (a := m.take (16 * n)) (last := (m.drop (16 * n)).take 16)
      (by rw [List.take_append_drop, List.take_append_drop]) ht
      (List.length_take_of_le (by omega)) (by rw [List.length_take_of_le]; rw [List.length_drop]; omega)
      (by rw [List.length_drop, List.length_drop]; omega) (by rw [List.length_drop, List.length_drop]; omega)

end SpsdkVerif.SymWrappers
