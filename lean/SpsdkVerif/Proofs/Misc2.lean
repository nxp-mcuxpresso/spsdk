/- The generated `get_bytes_cnt_of_int` and `_check_number` (Generated/PyFuns2.lean) agree with the hand model; hex text and
   `load_hex_string` on literals, `hex()`, `split_data`, enum lookups (Model/Misc2.lean). -/
import SpsdkVerif.Generated.PyFuns2
import SpsdkVerif.Model.Misc2
import SpsdkVerif.Proofs.Misc

namespace SpsdkVerif.Misc
open SpsdkVerif SpsdkVerif.Generated.PyFuns2
open SpsdkVerif.Generated.PyFuns (align)

theorem pyShr_nat8 (v : Nat) : pyShr (v : Int) 8 = ((v / 256 : Nat) : Int) := by
  simp [pyShr, Int.shiftRight_eq_div_pow]

theorem pyFloorDiv_nat256 (v : Nat) : pyFloorDiv (v : Int) 256 = ((v / 256 : Nat) : Int) := by
  simp [pyFloorDiv, Int.fdiv_eq_ediv_of_nonneg]

/-! The loop of `get_bytes_cnt_of_int` is translated to `getBytesCntOfInt_while1 : Nat → Int → Int → PyRes (Int × Int)`.
    Which of the two loop-carried variables comes first (the remaining value or the byte counter) depends on the order
    in which the source initialises them, their names on the source.  The proofs below therefore identify them by ROLE:
    every statement about the loop exists in both argument orders (`LoopA`/`LoopB`, `NegA`/`NegB`), is proved by the same
    order-agnostic invariant script (`while1_nat`, `while1_neg` say that one of the two holds), and a user takes the
    disjunction and refutes the order that is not the translation's by running the loop once. -/

/-- value first, counter second -/
def LoopA (W : Nat → Int → Int → PyRes (Int × Int)) : Prop :=
  ∀ (f v : Nat) (cnt : Int) (fuel : Nat), v ≤ f → byteLenF f v < fuel →
    W fuel (v : Int) cnt = .ok (0, cnt + (byteLenF f v : Nat))
/-- counter first, value second -/
def LoopB (W : Nat → Int → Int → PyRes (Int × Int)) : Prop :=
  ∀ (f v : Nat) (cnt : Int) (fuel : Nat), v ≤ f → byteLenF f v < fuel →
    W fuel cnt (v : Int) = .ok (cnt + (byteLenF f v : Nat), 0)
def NegA (W : Nat → Int → Int → PyRes (Int × Int)) : Prop :=
  ∀ (fuel : Nat) (v cnt : Int), v < 0 → W fuel v cnt = .error .other
def NegB (W : Nat → Int → Int → PyRes (Int × Int)) : Prop :=
  ∀ (fuel : Nat) (v cnt : Int), v < 0 → W fuel cnt v = .error .other

theorem shr_neg (v : Int) (h : v < 0) : pyShr v 8 < 0 ∧ pyFloorDiv v 256 < 0 := by
  constructor
  · simp only [pyShr, Int.shiftRight_eq_div_pow]
    have : ((2 ^ (8 : Int).toNat : Nat) : Int) = 256 := by decide
    rw [this]; omega
  · simp only [pyFloorDiv]
    rw [Int.fdiv_eq_ediv_of_nonneg _ (by omega)]; omega

/-- invariant of the loop on a non-negative value (induction over the fuel): the loop ends with value 0 and the counter
    advanced by the number of bytes; any fuel above that number suffices.  Works for either argument order,
    `>> 8` or `// 256`, `cnt + 1` or `1 + cnt`. -/
macro "loop_nat_tac" : tactic => `(tactic| (
  intro f v cnt fuel
  induction fuel generalizing f v cnt with
  | zero => intro _ hf; omega
  | succ k ih =>
    intro hv hf
    by_cases h0 : v = 0
    · subst h0; simp [getBytesCntOfInt_while1, byteLenF_zero]
    · cases f with
      | zero => omega
      | succ f =>
        have hz : ((v : Int) != 0) = true := by simp [h0]
        simp only [byteLenF, h0, if_false] at hf ⊢
        simp only [getBytesCntOfInt_while1, hz, if_true, pyShr_nat8, pyFloorDiv_nat256]
        rw [ih f (v / 256) _ (by omega) (by omega)]
        simp only [Except.ok.injEq, Prod.mk.injEq, and_true, true_and]
        push_cast
        omega))

/-- on a negative value the loop exhausts every fuel (the value stays negative) -/
macro "loop_neg_tac" : tactic => `(tactic| (
  intro fuel
  induction fuel with
  | zero => intro v cnt _; rfl
  | succ k ih =>
    intro v cnt hv
    have hz : (v != 0) = true := by simp; omega
    simp only [getBytesCntOfInt_while1, hz, if_true]
    exact ih _ _ (by first | exact (shr_neg v hv).1 | exact (shr_neg v hv).2)))

/-- the loop invariant holds in one of the two argument orders -/
theorem while1_nat : LoopA getBytesCntOfInt_while1 ∨ LoopB getBytesCntOfInt_while1 := by
  first
  | (left; unfold LoopA; loop_nat_tac; done)
  | (right; unfold LoopB; loop_nat_tac; done)

theorem while1_neg : NegA getBytesCntOfInt_while1 ∨ NegB getBytesCntOfInt_while1 := by
  first
  | (left; unfold NegA; loop_neg_tac; done)
  | (right; unfold NegB; loop_neg_tac; done)

/-- lift a natural result -/
def liftNat : PyRes Nat → PyRes Int
  | .ok n => .ok (n : Int)
  | .error e => .error e

/-- contract of the generated `align` (stated as `C20.align_spec`) -/
theorem align_nat_spec (n a : Int) (ha : 0 < a) (hn : 0 ≤ n) :
    ∃ r : Int, align n a = .ok r ∧ a ∣ r ∧ n ≤ r ∧ r < n + a := by
  have h1 : ¬ a ≤ 0 := by omega
  have h2 : ¬ n < 0 := by omega
  have h3 : ¬ a = 0 := by omega
  -- evaluate the translated body to *whatever* closed form the current source has …
  obtain ⟨r, hr⟩ : ∃ r, align n a = .ok r := by simp [align, h1, h2, h3]
  refine ⟨r, hr, ?_⟩
  simp [align, h1, h2, h3, pyFloorDiv, Int.fdiv_eq_ediv_of_nonneg _ (Int.le_of_lt ha)] at hr
  subst hr
  -- … and reason about it through the division facts for the usual spellings of the numerator
  have e := Int.emod_add_mul_ediv (n + (a-1)) a
  have l := Int.emod_lt_of_pos (n + (a-1)) ha
  have g := Int.emod_nonneg (n + (a-1)) (Int.ne_of_gt ha)
  have e' := Int.emod_add_mul_ediv (n + a - 1) a
  have l' := Int.emod_lt_of_pos (n + a - 1) ha
  have g' := Int.emod_nonneg (n + a - 1) (Int.ne_of_gt ha)
  rw [Int.mul_comm] at e e'
  refine ⟨?_, ?_, ?_⟩
  · first
      | exact Int.dvd_mul_left _ _
      | exact Int.dvd_mul_right _ _
  all_goals first
    | omega
    | (rw [Int.mul_comm]; omega)

/-- `align(c, 4)` is the same rounding as `int(ceil(c / 4)) * 4` and `(c + 3) // 4 * 4` -/
theorem align_four (c : Nat) : align (c : Int) 4 = .ok (((c + 3) / 4 * 4 : Nat) : Int) := by
  obtain ⟨r, hr, ⟨k, hk⟩, h1, h2⟩ := align_nat_spec (c : Int) 4 (by omega) (by omega)
  rw [hr]
  congr 1
  push_cast
  omega

set_option hygiene false in
/-- after the loop: straight-line integer code; evaluate it (whatever its shape: `int(ceil(c / 4)) * 4`,
    `(c + 3) // 4 * 4`, `align(c, 4)`, `cnt = byte_cnt or cnt; return cnt` or `return byte_cnt or cnt`) and compare
    with the model by case split + linear arithmetic.  Expects `hloop` (the loop fact in the current argument order). -/
macro "gen_eq_finish" : tactic => `(tactic| (
    simp only [hneg, hz, h0, if_false, Bool.false_eq_true, hloop, hbc, pyFloorDiv, Int.zero_add, Int.add_zero, align_four]
    clear hloop
    generalize byteLen v = c at *
    have hfd : ∀ x : Int, Int.fdiv x 4 = x / 4 := fun x => Int.fdiv_eq_ediv_of_nonneg x (by omega)
    simp only [apply_ite liftNat]
    simp only [liftNat, hfd, Bool.and_eq_true, decide_eq_true_eq, bne_iff_ne, ne_eq, Int.natAbs_natCast,
      Int.zero_add, Int.natCast_eq_zero, gt_iff_lt]
    -- the model's own conditions first (they settle most tests of either side), then whatever tests are left;
    -- a leaf with contradictory conditions is closed by the same `omega` as a genuine one
    have h2 : (2 : Int) < ↑c ↔ 2 < c := by omega
    cases a2n <;> by_cases hb : bc = 0 <;> by_cases h2c : 2 < c <;>
      simp only [hb, h2c, h2, h53', Bool.false_eq_true, false_and, true_and, and_true, not_true_eq_false,
        not_false_eq_true, if_false, if_true] <;>
      (repeat' split) <;>
      first | rfl | (congr 1; omega) | (exfalso; omega) | (congr 1; push_cast; omega) | (simp; omega)))

theorem getBytesCnt_gen_eq (fuel v : Nat) (a2n : Bool) (bc : Nat) (bcO : Option Int)
    (hbc : bcO.getD 0 = (bc : Int)) (hf : byteLen v < fuel) (h53 : byteLen v < 2 ^ 53) :
    getBytesCntOfInt fuel (v : Int) a2n bcO = liftNat (getBytesCnt v a2n bc) := by
  have h53' : byteLen v < 9007199254740992 := by
    have : (2 : Nat) ^ 53 = 9007199254740992 := by decide
    omega
  -- the guard `if value < 0: raise SPSDKValueError` (fix 55a6c57) never fires on a natural number
  have hneg : decide ((v : Int) < 0) = false := by
    rw [decide_eq_false_iff_not]; omega
  unfold getBytesCntOfInt getBytesCnt
  by_cases h0 : v = 0
  · subst h0
    by_cases hb : bc = 0
    · simp [hbc, hb, liftNat]
    · simp [hbc, hb, liftNat]
  · have hz : ((v : Int) == 0) = false := by simp [h0]
    have hpos := byteLen_pos v h0
    -- only one of the two argument orders is the translation's; in the other the assumed invariant is refuted by running
    -- the loop once on `(0, 1)`: with the arguments swapped the value is 1 and the single unit of fuel runs out
    rcases while1_nat with hA | hB
    · have hbad := hA 0 0 1 1 (Nat.le_refl 0) (Nat.lt_succ_self 0)
      have hloop : ∀ cnt : Int, getBytesCntOfInt_while1 fuel (v : Int) cnt = .ok (0, cnt + (byteLen v : Nat)) :=
        fun cnt => hA v v cnt fuel (Nat.le_refl v) hf
      first
      | (exfalso; revert hbad; decide)
      | gen_eq_finish
    · have hbad := hB 0 0 1 1 (Nat.le_refl 0) (Nat.lt_succ_self 0)
      have hloop : ∀ cnt : Int, getBytesCntOfInt_while1 fuel cnt (v : Int) = .ok (cnt + (byteLen v : Nat), 0) :=
        fun cnt => hB v v cnt fuel (Nat.le_refl v) hf
      first
      | (exfalso; revert hbad; decide)
      | gen_eq_finish

theorem getBytesCnt_ne_other (v : Nat) (a2n : Bool) (bc : Nat) : liftNat (getBytesCnt v a2n bc) ≠ .error .other := by
  unfold getBytesCnt
  split
  · exact fun h => nomatch h
  · dsimp only
    generalize (if (a2n && decide (byteLen v > 2)) = true then (byteLen v + 3) / 4 * 4 else byteLen v) = c
    split <;> exact fun h => nomatch h

/-- fix 55a6c57: a negative value is refused with an SPSDK error BEFORE the loop (which would never end: `while1_neg`) -/
theorem getBytesCnt_gen_neg (fuel : Nat) (v : Int) (hv : v < 0) (a2n : Bool) (bcO : Option Int) :
    getBytesCntOfInt fuel v a2n bcO = .error .spsdk := by
  simp [getBytesCntOfInt, hv]

theorem ite_or_same {α} (p q : Prop) [Decidable p] [Decidable q] (a b : α) :
    (if p then a else if q then a else b) = if p ∨ q then a else b := by
  by_cases p <;> by_cases q <;> simp [*]

theorem natCast_gt (n m : Nat) : ((n : Int) > (m : Int)) ↔ m < n := by omega

theorem bcdCheckNumber_eq (n : Int) :
    bcdCheckNumber n = if 0 ≤ n ∧ bcdDigitOk n.toNat = true then .ok true else .error .spsdk := by
  by_cases hn : n < 0
  · have : ¬ (0 ≤ n) := by omega
    simp [bcdCheckNumber, hn, this]
  · obtain ⟨k, rfl⟩ := Int.eq_ofNat_of_zero_le (by omega : 0 ≤ n)
    simp only [bcdCheckNumber, pyShr_nat, pyAnd_nat, bcdDigitOk]
    -- the digit tests moved to `Nat` (the terms of `bcdDigitOk`; only saves work, another spelling of `> 9` stays in
    -- `Int`), the chain of refusals made one disjunction
    try simp only [show (9 : Int) = ((9 : Nat) : Int) from rfl, natCast_gt]
    simp [and_15, Nat.shiftRight_eq_div_pow, ite_or_same]
    (repeat' split) <;> first | rfl | (exfalso; omega)

theorem hexCh_facts : ∀ k : Fin 16,
    isWs (hexCh k.val) = false ∧ lowerCh (hexCh k.val) = hexCh k.val ∧ isNumCh (hexCh k.val) = true ∧
    hexCh k.val ≠ '_' ∧ digitVal (hexCh k.val) = k.val ∧ hexCh k.val ≠ 'x' ∧ hexCh k.val ≠ 'X' := by
  decide

theorem valueToInt_hex (hs : List Char) (hne : hs ≠ []) (hall : ∀ c ∈ hs, ∃ k : Fin 16, c = hexCh k.val) :
    valueToInt ('0' :: 'x' :: hs) = some (hs.foldl (fun acc c => acc * 16 + digitVal c) 0) := by
  have hf : ∀ c ∈ hs, isWs c = false ∧ lowerCh c = c ∧ isNumCh c = true ∧ c ≠ '_' ∧ digitVal c < 16 := by
    intro c hc
    obtain ⟨k, rfl⟩ := hall c hc
    obtain ⟨a, b, c', d, e, _, _⟩ := hexCh_facts k
    exact ⟨a, b, c', d, by rw [e]; exact k.isLt⟩
  have hws : ∀ c ∈ '0' :: 'x' :: hs, isWs c = false ∧ lowerCh c = c := by
    intro c hc
    simp only [List.mem_cons] at hc
    rcases hc with rfl | rfl | hc
    · decide
    · decide
    · exact ⟨(hf c hc).1, (hf c hc).2.1⟩
  refine valueToInt_clean _ hs 16 (by decide) (by simp) hws ?_ hne (fun c hc => ⟨(hf c hc).2.2.2.1, (hf c hc).2.2.2.2⟩)
  simp [regexMatch, matchNumSuf_all hs hne (fun c hc => (hf c hc).2.2.1)]

theorem hexOf_all (bs : Bytes) : ∀ c ∈ hexOf bs, ∃ k : Fin 16, c = hexCh k.val := by
  induction bs with
  | nil => intro c hc; simp [hexOf] at hc
  | cons x r ih =>
    intro c hc
    simp only [hexOf, List.mem_cons] at hc
    have hx := x.toNat_lt
    rcases hc with rfl | rfl | hc
    · exact ⟨⟨x.toNat / 16, by omega⟩, rfl⟩
    · exact ⟨⟨x.toNat % 16, by omega⟩, rfl⟩
    · exact ih c hc

theorem hexOf_foldl (bs : Bytes) (acc : Nat) :
    (hexOf bs).foldl (fun acc c => acc * 16 + digitVal c) acc = bs.foldl (fun acc x => acc * 256 + x.toNat) acc := by
  induction bs generalizing acc with
  | nil => rfl
  | cons x r ih =>
    have hx := x.toNat_lt
    have e1 := (hexCh_facts ⟨x.toNat / 16, by omega⟩).2.2.2.2.1
    have e2 := (hexCh_facts ⟨x.toNat % 16, by omega⟩).2.2.2.2.1
    simp only at e1 e2
    simp only [hexOf, List.foldl_cons, e1, e2, ih]
    congr 1
    omega

theorem hexOf_ne_nil (bs : Bytes) (h : bs ≠ []) : hexOf bs ≠ [] := by
  cases bs with
  | nil => exact absurd rfl h
  | cons x r => simp [hexOf]

theorem has0x_hexOf (bs : Bytes) : has0x (hexOf bs) = false := by
  rcases bs with _ | ⟨x, r⟩
  · rfl
  · have hx := x.toNat_lt
    obtain ⟨_, _, _, _, _, h1, h2⟩ := hexCh_facts ⟨x.toNat % 16, by omega⟩
    simp only at h1 h2
    simp only [hexOf]
    unfold has0x
    split <;> simp_all

theorem valueToInt_hexOf (bs : Bytes) (h : bs ≠ []) :
    valueToInt (with0x (hexOf bs)) = some (beDec bs) ∧ valueToInt (with0x ('0' :: 'x' :: hexOf bs)) = some (beDec bs) := by
  have key : valueToInt ('0' :: 'x' :: hexOf bs) = some (beDec bs) := by
    rw [valueToInt_hex _ (hexOf_ne_nil bs h) (hexOf_all bs), hexOf_foldl]; rfl
  constructor
  · simp only [with0x, has0x_hexOf]; exact key
  · simp only [with0x, has0x]; exact key

theorem swap32_nat (k : Nat) (h : k < 256 ^ 4) : swap32 (k : Int) = .ok ((leDec (beEnc 4 k) : Nat) : Int) := by
  have : ¬ ((k : Int) < 0 ∨ (k : Int) > 0xFFFFFFFF) := by omega
  simp only [swap32, this, if_false, Int.toNat_natCast]
  rfl

theorem leDec_beEnc_range (n k : Nat) : leDec (beEnc n k) < 256 ^ n := by
  simpa [leDec, beEnc_length'] using beDec_lt (beEnc n k).reverse

/-- writing a value big-endian and reading it little-endian is an involution on `n`-byte values -/
theorem leDec_beEnc_twice (n k : Nat) (h : k < 256 ^ n) : leDec (beEnc n (leDec (beEnc n k))) = k := by
  have e := beEnc_beDec (beEnc n k).reverse
  rw [List.length_reverse, beEnc_length'] at e
  unfold leDec
  rw [e, List.reverse_reverse, beDec_beEnc_mod, Nat.mod_eq_of_lt h]

/-- with an explicit non-zero `byte_cnt` and `align_to_2n` the value is accepted exactly when its aligned width fits -/
theorem getBytesCnt_true (v N : Nat) (hN : N ≠ 0) :
    getBytesCnt v true N = if widthA v ≤ N then .ok N else .error .spsdk := by
  unfold getBytesCnt widthA
  by_cases hv : v = 0
  · subst hv; simp [hN, byteLen, byteLenF]
  · simp only [hv, if_false, Bool.true_and, decide_eq_true_eq]
    by_cases hc : byteLen v > 2 <;> simp only [hc, if_true, if_false] <;>
      (repeat' split) <;> first | rfl | (exfalso; omega)

/-- with an explicit non-zero `byte_cnt` and without `align_to_2n` the value is accepted exactly when it fits -/
theorem getBytesCnt_false (v N : Nat) (hN : N ≠ 0) :
    getBytesCnt v false N = if byteLen v ≤ N then .ok N else .error .spsdk := by
  unfold getBytesCnt
  by_cases hv : v = 0
  · subst hv; simp [hN, byteLen, byteLenF]
  · simp only [hv, if_false, Bool.false_and, Bool.false_eq_true]
    (repeat' split) <;> first | rfl | (exfalso; omega)

theorem loadHexString_str (s : List Char) (n : Int) (hs : s ≠ []) (hn : 1 ≤ n) :
    loadHexString (.str s) n =
      match valueToInt (with0x s) with
      | none => .error .spsdk
      | some v => if v < 256 ^ n.toNat then .ok (some (beEnc n.toNat v)) else .error .spsdk := by
  have he : s.isEmpty = false := by cases s <;> simp_all
  have hn' : ¬ n < 1 := by omega
  have hN : n.toNat ≠ 0 := by omega
  simp only [loadHexString, HexSrc.falsy, he, hn', Bool.false_eq_true, if_false]
  cases valueToInt (with0x s) with
  | none => rfl
  | some v =>
    simp only [valueToBytes, getBytesCnt_false v _ hN, byteLen_le_iff]
    by_cases hw : v < 256 ^ n.toNat <;> simp [hw]

theorem widthA_ge (v : Nat) : byteLen v ≤ widthA v := by
  unfold widthA; split <;> omega

theorem fits_of_widthA (v N : Nat) (h : widthA v ≤ N) : v < 256 ^ N := by
  exact (byteLen_le_iff v N).1 (Nat.le_trans (widthA_ge v) h)

theorem hexDigitsF_spec (f : Nat) : ∀ (v : Nat) (acc : List Char), v ≤ f →
    ∃ ds, hexDigitsF (f + 1) v acc = ds ++ acc ∧ ds ≠ [] ∧ (∀ c ∈ ds, ∃ k : Fin 16, c = hexCh k.val) ∧
      ∀ a0, ds.foldl (fun a c => a * 16 + digitVal c) a0 = a0 * 16 ^ ds.length + v := by
  induction f with
  | zero =>
    intro v acc hv
    have : v = 0 := by omega
    subst this
    refine ⟨[hexCh 0], by simp [hexDigitsF], by simp, ?_, ?_⟩
    · intro c hc; simp at hc; exact ⟨⟨0, by omega⟩, hc⟩
    · intro a0
      have := (hexCh_facts ⟨0, by omega⟩).2.2.2.2.1
      simp only at this
      simp [this]
  | succ f ih =>
    intro v acc hv
    by_cases h16 : v < 16
    · refine ⟨[hexCh v], by simp [hexDigitsF, h16], by simp, ?_, ?_⟩
      · intro c hc; simp at hc; exact ⟨⟨v, h16⟩, hc⟩
      · intro a0
        have := (hexCh_facts ⟨v, h16⟩).2.2.2.2.1
        simp only at this
        simp [this]
    · obtain ⟨ds, e, hne, hall, hval⟩ := ih (v / 16) (hexCh (v % 16) :: acc) (by omega)
      refine ⟨ds ++ [hexCh (v % 16)], ?_, by simp, ?_, ?_⟩
      · rw [hexDigitsF]; simp only [h16, if_false]; rw [e]; simp
      · intro c hc
        simp only [List.mem_append, List.mem_singleton] at hc
        rcases hc with hc | rfl
        · exact hall c hc
        · exact ⟨⟨v % 16, by omega⟩, rfl⟩
      · intro a0
        have := (hexCh_facts ⟨v % 16, by omega⟩).2.2.2.2.1
        simp only at this
        rw [List.foldl_append, hval]
        simp only [List.foldl_cons, List.foldl_nil, this, List.length_append, List.length_singleton, Nat.pow_succ]
        rw [Nat.add_mul, ← Nat.mul_assoc]
        omega

theorem valueToInt_pyHex (v : Nat) : valueToInt (pyHex v) = some v := by
  obtain ⟨ds, e, hne, hall, hval⟩ := hexDigitsF_spec v v [] (Nat.le_refl v)
  have : pyHex v = '0' :: 'x' :: ds := by simp [pyHex, hexDigits, e]
  rw [this, valueToInt_hex ds hne hall, hval]
  simp

theorem chunksF_spec (f n : Nat) (d : Bytes) (hn : 0 < n) (h : d.length ≤ f) :
    (chunksF f n d).flatten = d ∧ (∀ c ∈ chunksF f n d, 1 ≤ c.length ∧ c.length ≤ n) ∧
    (∀ c ∈ (chunksF f n d).dropLast, c.length = n) ∧ (chunksF f n d).length = (d.length + n - 1) / n := by
  induction f generalizing d with
  | zero =>
    rw [List.eq_nil_of_length_eq_zero (Nat.le_zero.1 h)]
    exact ⟨rfl, by simp [chunksF], by simp [chunksF], (Nat.div_eq_of_lt (by simp; omega)).symm⟩
  | succ f ih =>
    by_cases he : d = []
    · subst he
      exact ⟨rfl, by simp [chunksF], by simp [chunksF], (Nat.div_eq_of_lt (by simp; omega)).symm⟩
    have hpos : 0 < d.length := List.length_pos_iff.2 he
    obtain ⟨i1, i2, i3, i4⟩ := ih (d.drop n) (by simp only [List.length_drop]; omega)
    simp only [chunksF, List.isEmpty_iff, he, if_false]
    generalize chunksF f n (d.drop n) = rest at *
    refine ⟨by simp [i1], ?_, ?_, ?_⟩
    · intro c hc
      rcases List.mem_cons.1 hc with rfl | hc
      · simp only [List.length_take]; omega
      · exact i2 c hc
    · -- the first chunk is followed by another one only if the data is longer than `n`
      by_cases hr : rest = []
      · subst hr; simp
      · have : 0 < rest.length := List.length_pos_iff.2 hr
        rw [i4, List.length_drop, Nat.div_pos_iff] at this
        rw [List.dropLast_cons_of_ne_nil hr]
        intro c hc
        rcases List.mem_cons.1 hc with rfl | hc
        · simp only [List.length_take]; omega
        · exact i3 c hc
    · rw [List.length_cons, i4, List.length_drop, show d.length + n - 1 = d.length - 1 + n by omega,
        Nat.add_div_right _ hn]
      by_cases hle : n ≤ d.length
      · rw [Nat.sub_add_cancel hle]
      · rw [Nat.div_eq_of_lt (by omega), Nat.div_eq_of_lt (by omega)]

theorem find?_cases {α} (p : α → Bool) (E : List α) :
    (E.find? p = none ∧ ∀ m ∈ E, p m = false) ∨ ∃ m, E.find? p = some m ∧ m ∈ E ∧ p m = true := by
  cases h : E.find? p with
  | none => exact .inl ⟨rfl, fun m hm => by simpa using List.find?_eq_none.1 h m hm⟩
  | some m => exact .inr ⟨m, rfl, List.mem_of_find?_eq_some h, List.find?_some h⟩

theorem inj_of_nodup_map {α β} (f : α → β) : ∀ (l : List α), (l.map f).Nodup →
    ∀ x ∈ l, ∀ y ∈ l, f x = f y → x = y := by
  intro l
  induction l with
  | nil => intro _ x hx; simp at hx
  | cons a l ih =>
    intro hnd x hx y hy hxy
    simp only [List.map_cons, List.nodup_cons, List.mem_map, not_exists, not_and] at hnd
    simp only [List.mem_cons] at hx hy
    rcases hx with rfl | hx <;> rcases hy with rfl | hy
    · rfl
    · exact absurd hxy.symm (hnd.1 y hy)
    · exact absurd hxy (hnd.1 x hx)
    · exact ih hnd.2 x hx y hy hxy

theorem find_unique {α β} [BEq β] [LawfulBEq β] (f : α → β) (l : List α) (hnd : (l.map f).Nodup) (m : α) (hm : m ∈ l) :
    l.find? (fun x => f x == f m) = some m := by
  have hs : (l.find? (fun x => f x == f m)).isSome = true := by
    rw [List.find?_isSome]; exact ⟨m, hm, by simp⟩
  obtain ⟨m', hm'⟩ := Option.isSome_iff_exists.1 hs
  have h1 := List.find?_some hm'
  have h2 := List.mem_of_find?_eq_some hm'
  simp only [beq_iff_eq] at h1
  rw [hm', inj_of_nodup_map f l hnd m' h2 m hm h1]

theorem lower_cases (c : Char) (h : 'a' ≤ c ∧ c ≤ 'z') : ∃ n : Fin 26, c = Char.ofNat (97 + n.val) :=
  char_range_cases 97 26 c ⟨(char_le_iff_toNat _ _).1 h.1, Nat.lt_succ_of_le ((char_le_iff_toNat _ _).1 h.2)⟩

theorem upperCh_idem (c : Char) : upperCh (upperCh c) = upperCh c := by
  by_cases h : 'a' ≤ c ∧ c ≤ 'z'
  · obtain ⟨n, rfl⟩ := lower_cases c h
    revert n; decide
  · simp [upperCh, h]

theorem upper_idem (l : List Char) : upper (upper l) = upper l := by
  simp [upper, upperCh_idem]

theorem mult_unique (a n r s : Int) (ha : 0 < a) (hr : a ∣ r) (hs : a ∣ s)
    (h1 : n ≤ r ∧ r < n + a) (h2 : n ≤ s ∧ s < n + a) : r = s := by
  obtain ⟨k, rfl⟩ := hr
  obtain ⟨j, rfl⟩ := hs
  have hkj : k = j := by
    rcases Int.lt_trichotomy k j with h | h | h
    · exfalso
      have : a * (k + 1) ≤ a * j := Int.mul_le_mul_of_nonneg_left (by omega) (Int.le_of_lt ha)
      rw [Int.mul_add, Int.mul_one] at this
      omega
    · exact h
    · exfalso
      have : a * (j + 1) ≤ a * k := Int.mul_le_mul_of_nonneg_left (by omega) (Int.le_of_lt ha)
      rw [Int.mul_add, Int.mul_one] at this
      omega
  rw [hkj]

theorem alignNat_int (n a : Nat) (ha : 0 < a) :
    (a : Int) ∣ (alignNat n a : Int) ∧ (n : Int) ≤ alignNat n a ∧ (alignNat n a : Int) < n + a := by
  obtain ⟨s1, s2, s3⟩ := alignNat_spec n a ha
  refine ⟨?_, by omega, by omega⟩
  exact Int.natCast_dvd_natCast.2 (Nat.dvd_of_mod_eq_zero s1)

end SpsdkVerif.Misc
