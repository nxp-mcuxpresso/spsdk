/-
Proofs for Model/SymStream.lean.

  * Merkle–Damgård streaming = one-shot, for EVERY chunking (`MdAlg.stream_eq_oneShot`): invariant
    "chaining value = fold over the complete blocks of everything fed so far, buffer = the rest, count = length".
  * CRC continuation through `initial_value` (`CrcX.crc_resume`).
  * AES-CTR split at a block boundary (`ctrXorWith_split`) and the position `Counter` reaches (`counter_block_be`).
-/
import SpsdkVerif.Model.SymStream
import SpsdkVerif.Proofs.Crypto
import SpsdkVerif.Proofs.Crc
import SpsdkVerif.Proofs.SymWrappers

namespace SpsdkVerif.SymStream
open SpsdkVerif SpsdkVerif.Crypto SpsdkVerif.SymWrappers
open SpsdkVerif.Misc (beEnc beDec leEnc leDec beEnc_length beDec_lt beEnc_beDec)

theorem foldChunks_add {σ : Type} (n : Nat) (f : σ → Bytes → σ) :
    ∀ (k1 k2 : Nat) (s : σ) (m : Bytes),
      Sha.foldChunks n f (k1 + k2) s m = Sha.foldChunks n f k2 (Sha.foldChunks n f k1 s m) (m.drop (n * k1))
  | 0, k2, s, m => by simp [Sha.foldChunks]
  | k1 + 1, k2, s, m => by
    have e : k1 + 1 + k2 = (k1 + k2) + 1 := by omega
    rw [e]
    simp only [Sha.foldChunks]
    rw [foldChunks_add n f k1 k2, List.drop_drop]
    congr 2
    rw [Nat.mul_succ]; omega

theorem foldChunks_append {σ : Type} (n : Nat) (f : σ → Bytes → σ) :
    ∀ (k : Nat) (s : σ) (m x : Bytes), n * k ≤ m.length →
      Sha.foldChunks n f k s (m ++ x) = Sha.foldChunks n f k s m
  | 0, _, _, _, _ => by simp [Sha.foldChunks]
  | k + 1, s, m, x, h => by
    have hn : n ≤ m.length := by rw [Nat.mul_succ] at h; omega
    simp only [Sha.foldChunks]
    rw [List.take_append_of_le_length hn, List.drop_append_of_le_length hn]
    apply foldChunks_append n f k
    rw [Nat.mul_succ] at h
    simp only [List.length_drop]; omega

theorem pad_eq (blk lb : Nat) (m : Bytes) : Sha.pad blk lb m = m ++ mdSuffix blk lb m.length := by
  simp [Sha.pad, mdSuffix, List.append_assoc]

namespace MdAlg
variable {σ : Type} (A : MdAlg σ)

/-- state `s` has absorbed exactly the message `d` -/
structure Inv (s : MdState σ) (d : Bytes) : Prop where
  total : s.total = d.length
  buf : s.buf = d.drop (A.blk * (d.length / A.blk))
  h : s.h = Sha.foldChunks A.blk A.compress (d.length / A.blk) A.iv d

theorem inv_init : A.Inv A.init [] := ⟨rfl, by simp [MdAlg.init], by simp [MdAlg.init, Sha.foldChunks]⟩

theorem inv_buf_length {s : MdState σ} {d : Bytes} (h : A.Inv s d) :
    s.buf.length = d.length % A.blk := by
  rw [h.buf, List.length_drop]
  have := Nat.div_add_mod d.length A.blk
  omega

/-- the buffer never holds a complete block -/
theorem inv_buf_lt (hb : 0 < A.blk) {s : MdState σ} {d : Bytes} (h : A.Inv s d) : s.buf.length < A.blk := by
  rw [A.inv_buf_length h]; exact Nat.mod_lt _ hb

/-- absorbing `x` after `d`: the fold over all complete blocks of `d ++ x` continues from the state reached on `d`, over
    the buffer followed by `x` — the step shared by `update` and `finalize` -/
theorem inv_absorb (hb : 0 < A.blk) {s : MdState σ} {d : Bytes} (h : A.Inv s d) (x : Bytes) :
    (d ++ x).length / A.blk = d.length / A.blk + (s.buf ++ x).length / A.blk ∧
    (d ++ x).drop (A.blk * (d.length / A.blk)) = s.buf ++ x ∧
    Sha.foldChunks A.blk A.compress ((d ++ x).length / A.blk) A.iv (d ++ x) =
      Sha.foldChunks A.blk A.compress ((s.buf ++ x).length / A.blk) s.h (s.buf ++ x) := by
  have hq : A.blk * (d.length / A.blk) ≤ d.length := Nat.mul_div_le _ _
  have hdiv : (d ++ x).length / A.blk = d.length / A.blk + (s.buf ++ x).length / A.blk := by
    have e : (d ++ x).length = A.blk * (d.length / A.blk) + (s.buf ++ x).length := by
      have := Nat.div_add_mod d.length A.blk
      simp only [List.length_append, A.inv_buf_length h]; omega
    rw [e, Nat.mul_add_div hb]
  have hdrop : (d ++ x).drop (A.blk * (d.length / A.blk)) = s.buf ++ x := by
    rw [List.drop_append_of_le_length hq, ← h.buf]
  exact ⟨hdiv, hdrop, by rw [hdiv, foldChunks_add, foldChunks_append _ _ _ _ d x hq, ← h.h, hdrop]⟩

theorem inv_update (hb : 0 < A.blk) {s : MdState σ} {d : Bytes} (h : A.Inv s d) (x : Bytes) :
    A.Inv (A.update s x) (d ++ x) := by
  obtain ⟨hdiv, hdrop, hfold⟩ := A.inv_absorb hb h x
  refine ⟨by simp [MdAlg.update, h.total], ?_, hfold.symm⟩
  simp only [MdAlg.update]
  rw [hdiv, Nat.mul_add, ← List.drop_drop, hdrop]

theorem inv_foldl (hb : 0 < A.blk) : ∀ (chunks : List Bytes) (s : MdState σ) (d : Bytes), A.Inv s d →
    A.Inv (chunks.foldl A.update s) (d ++ chunks.flatten)
  | [], s, d, h => by simpa using h
  | x :: xs, s, d, h => by
    have := inv_foldl hb xs (A.update s x) (d ++ x) (A.inv_update hb h x)
    simpa [List.append_assoc] using this

theorem inv_finalize (hb : 0 < A.blk) {s : MdState σ} {d : Bytes} (h : A.Inv s d) :
    A.finalize s = A.oneShot d := by
  simp only [MdAlg.finalize, MdAlg.oneShot, pad_eq, h.total, (A.inv_absorb hb h _).2.2]

theorem stream_eq_oneShot (hb : 0 < A.blk) (chunks : List Bytes) :
    A.finalize (chunks.foldl A.update A.init) = A.oneShot chunks.flatten := by
  have := A.inv_foldl hb chunks A.init [] A.inv_init
  exact A.inv_finalize hb (by simpa using this)

/-- the running state depends only on the bytes fed so far, not on how they were cut — two chunkings of the same
    message reach the same digest AND buffer the same number of bytes -/
theorem stream_buffered (hb : 0 < A.blk) (chunks : List Bytes) :
    (chunks.foldl A.update A.init).buf.length = chunks.flatten.length % A.blk ∧
    (chunks.foldl A.update A.init).total = chunks.flatten.length := by
  have := A.inv_foldl hb chunks A.init [] A.inv_init
  simp only [List.nil_append] at this
  exact ⟨A.inv_buf_length this, this.total⟩

end MdAlg

namespace CrcX
open SpsdkVerif.Crypto.Crc

theorem byteStep_init (p : Params) (i : Nat) : byteStep { p with init := i } = byteStep p := by
  funext c b; rfl

theorem registerFrom_init (p : Params) (i s : Nat) (d : Bytes) :
    registerFrom { p with init := i } s d = registerFrom p s d := by
  simp [registerFrom, byteStep_init]

/-- the register behind a CRC value: undo xor-out and output reflection -/
def unOut (p : Params) (v : Nat) : Nat :=
  if p.refOut then reflect p.width (v ^^^ p.xorOut) else v ^^^ p.xorOut

theorem unOut_crc {p : Params} (h : WF p) (hinit : p.init < 2 ^ p.width) (a : Bytes) :
    unOut p (crc p a) = register p a := by
  have hr := registerFrom_lt h a p.init hinit
  simp only [unOut, crc, Nat.xor_assoc, Nat.xor_self, Nat.xor_zero]
  split
  · exact reflect_reflect _ _ hr
  · rfl

/-- **continuation**: a CRC restarted from the register behind `crc p a` and run over `b` is the CRC of `a ++ b` -/
theorem crc_resume {p : Params} (h : WF p) (hinit : p.init < 2 ^ p.width) (a b : Bytes) :
    crc { p with init := unOut p (crc p a) } b = crc p (a ++ b) := by
  have e : register { p with init := unOut p (crc p a) } b = register p (a ++ b) := by
    rw [register_eq, register_eq, registerFrom_init, registerFrom_append, unOut_crc h hinit]
    rfl
  show (if p.refOut then reflect p.width (register { p with init := unOut p (crc p a) } b)
    else register { p with init := unOut p (crc p a) } b) ^^^ p.xorOut = _
  rw [e]; rfl

end CrcX

theorem streamOf_add (f : Bytes → Bytes) (blk : Nat → Bytes) :
    ∀ (n1 n2 i : Nat), streamOf f blk (n1 + n2) i = streamOf f blk n1 i ++ streamOf f blk n2 (i + n1)
  | 0, n2, i => by simp [streamOf]
  | n1 + 1, n2, i => by
    have e : n1 + 1 + n2 = (n1 + n2) + 1 := by omega
    rw [e]
    simp only [streamOf]
    rw [streamOf_add f blk n1 n2 (i + 1), List.append_assoc]
    congr 3; omega

theorem streamOf_shift (f : Bytes → Bytes) (blk blk' : Nat → Bytes) (d : Nat) (hb : ∀ j, blk' j = blk (j + d)) :
    ∀ (n i : Nat), streamOf f blk' n i = streamOf f blk n (i + d)
  | 0, _ => by simp [streamOf]
  | n + 1, i => by
    simp only [streamOf]
    rw [hb, streamOf_shift f blk blk' d hb n (i + 1)]
    congr 2; omega

theorem beEnc_mod : ∀ (n v : Nat), beEnc n (v % 256 ^ n) = beEnc n v
  | 0, _ => rfl
  | n + 1, v => by
    simp only [beEnc]
    have h1 : v % 256 ^ (n + 1) / 256 = v / 256 % 256 ^ n := by
      rw [Nat.pow_succ, Nat.mul_comm, Nat.mod_mul_right_div_self]
    have h2 : v % 256 ^ (n + 1) % 256 = v % 256 := by
      rw [Nat.pow_succ]; exact Nat.mod_mul_left_mod v _ 256
    rw [h1, h2, beEnc_mod n]

/-- block `j` of a CTR stream started at block `n` of another = block `n + j` of that one (128-bit arithmetic,
    wrap at 2^128 included) -/
theorem ctrBlock_ctrBlock (iv : Bytes) (n j : Nat) : ctrBlock (ctrBlock iv n) j = ctrBlock iv (j + n) := by
  simp only [ctrBlock]
  rw [Crc.beDec_beEnc, ← beEnc_mod 16 (_ + j), Nat.mod_add_mod, beEnc_mod]
  congr 1; omega

theorem blocksFor_mul_add (n l : Nat) : blocksFor (16 * n + l) = n + blocksFor l := by
  simp only [blocksFor]; omega

theorem ctrXorWith_split {enc : Bytes → Bytes} (he : ∀ b, (enc b).length = 16) (iv a b : Bytes) (n : Nat)
    (ha : a.length = 16 * n) :
    ctrXorWith enc iv (a ++ b) = ctrXorWith enc iv a ++ ctrXorWith enc (ctrBlock iv n) b := by
  have h1 : blocksFor (a ++ b).length = n + blocksFor b.length := by
    rw [List.length_append, ha, blocksFor_mul_add]
  have h2 : blocksFor a.length = n := by
    have := blocksFor_mul_add n 0; simpa [ha, blocksFor] using this
  simp only [ctrXorWith, ctrStream, h1, h2]
  rw [streamOf_add, xorBytes_append _ _ _ _ (by rw [streamOf_length he, ha]),
    streamOf_shift enc (ctrBlock iv) (ctrBlock (ctrBlock iv n)) n (ctrBlock_ctrBlock iv n)]

theorem beDec_append (a b : Bytes) : beDec (a ++ b) = beDec a * 256 ^ b.length + beDec b := by
  simp only [beDec, List.foldl_append]
  exact Crc.horner_foldl 256 UInt8.toNat b _

theorem beEnc_add_mul (n m hi lo : Nat) (h : lo < 256 ^ m) :
    beEnc (n + m) (hi * 256 ^ m + lo) = beEnc n hi ++ beEnc m lo := by
  induction m generalizing lo with
  | zero => rw [Nat.pow_zero, Nat.lt_one_iff] at h; subst h; simp [beEnc]
  | succ m ih =>
    rw [Nat.pow_succ] at h
    rw [← Nat.add_assoc, beEnc, beEnc, ← List.append_assoc, Nat.pow_succ, ← Nat.mul_assoc, Nat.add_comm _ lo,
      Nat.add_mul_div_right _ _ (by decide), Nat.add_mul_mod_self_right, Nat.add_comm (lo / 256),
      ih _ (Nat.div_lt_of_lt_mul (Nat.mul_comm _ _ ▸ h))]

/-- the 32-bit word a `Counter` currently encodes -/
def Counter.word (cn : Counter) : Nat := (cn.ctr % 4294967296).toNat

theorem Counter.word_cast (cn : Counter) : ((Counter.word cn : Nat) : Int) = cn.ctr % 4294967296 :=
  toNat_emod32 cn.ctr

theorem Counter.word_lt (cn : Counter) : Counter.word cn < 4294967296 :=
  Int.ofNat_lt.mp (by rw [Counter.word_cast]; exact Int.emod_lt_of_pos _ (by decide))

/-- `increment` adds modulo 2^32, whatever the unbounded `ctr` holds -/
theorem Counter.word_increment (cn : Counter) (n : Nat) :
    Counter.word (cn.increment n) = (Counter.word cn + n) % 4294967296 := by
  apply Int.ofNat.inj
  show ((Counter.word (cn.increment n) : Nat) : Int) = (((Counter.word cn + n) % 4294967296 : Nat) : Int)
  rw [Int.natCast_emod, Int.natCast_add, Counter.word_cast, Counter.word_cast]
  exact (Int.emod_add_emod cn.ctr 4294967296 n).symm

theorem Counter.value_be (cn : Counter) (hl : cn.little = false) : cn.value = cn.nonce ++ beEnc 4 (Counter.word cn) := by
  simp only [Counter.value, hl, enc32, Counter.word, Bool.false_eq_true, if_false]

theorem Counter.increment_value (cn : Counter) (hl : cn.little = false) (n : Nat) :
    (cn.increment (n : Int)).value = cn.nonce ++ beEnc 4 ((Counter.word cn + n) % 4294967296) := by
  rw [Counter.value_be (cn.increment n) hl, Counter.word_increment]; rfl

/-- the 128-bit CTR block `n` positions after a big-endian `Counter` value, as nonce ‖ word with the carry made explicit -/
theorem ctrBlock_counter (cn : Counter) (hl : cn.little = false) (n : Nat) :
    ctrBlock cn.value n =
      beEnc 12 (beDec cn.nonce + (Counter.word cn + n) / 4294967296) ++ beEnc 4 ((Counter.word cn + n) % 4294967296) := by
  have e4 : (256 : Nat) ^ 4 = 4294967296 := by decide
  have hw : Counter.word cn < 256 ^ 4 := e4 ▸ Counter.word_lt cn
  rw [ctrBlock, Counter.value_be cn hl, beDec_append, beEnc_length, Crc.beDec_beEnc, Nat.mod_eq_of_lt hw,
    show beDec cn.nonce * 256 ^ 4 + Counter.word cn + n =
      (beDec cn.nonce + (Counter.word cn + n) / 4294967296) * 256 ^ 4 + (Counter.word cn + n) % 4294967296 by
      rw [e4]; omega]
  exact beEnc_add_mul 12 4 _ _ (by rw [e4]; omega)

theorem counter_block_be (cn : Counter) (hn : cn.nonce.length = 12) (hl : cn.little = false) (n : Nat)
    (hw : Counter.word cn + n < 4294967296) : (cn.increment (n : Int)).value = ctrBlock cn.value n := by
  rw [ctrBlock_counter cn hl n, Counter.increment_value cn hl, Nat.div_eq_of_lt hw, Nat.add_zero, ← hn,
    beEnc_beDec]

/-- a run of `update` calls stays inside the constructor it started in -/
theorem foldl_update (chunks : List Bytes) : ∀ o : ShaObj, chunks.foldl ShaObj.update o =
    match o with
    | .s1 s => .s1 (chunks.foldl alg1.update s)
    | .s256 s => .s256 (chunks.foldl alg256.update s)
    | .s384 s => .s384 (chunks.foldl alg384.update s)
    | .s512 s => .s512 (chunks.foldl alg512.update s) := by
  induction chunks with
  | nil => intro o; cases o <;> rfl
  | cons x xs ih => intro o; cases o <;> simp only [List.foldl_cons, ShaObj.update, ih]

/-- `alg.oneShot` unfolds to `Sha.sha1` … `Sha.sha512`, so the generic theorem applies as it stands -/
theorem shaObj_stream (a : HashAlg) (chunks : List Bytes) :
    (chunks.foldl ShaObj.update (ShaObj.new a)).finalize = Sha.hash a chunks.flatten := by
  cases a <;> simp only [ShaObj.new, foldl_update, ShaObj.finalize, Sha.hash] <;>
    exact MdAlg.stream_eq_oneShot _ (by decide) chunks

theorem shaObj_buffered (a : HashAlg) (chunks : List Bytes) :
    (chunks.foldl ShaObj.update (ShaObj.new a)).buffered = chunks.flatten.length % a.blockSize := by
  cases a <;> simp only [ShaObj.new, foldl_update, ShaObj.buffered] <;>
    exact (MdAlg.stream_buffered _ (by decide) chunks).1

theorem foldl_call (calls : List HashCall) (o : ShaObj) :
    calls.foldl ShaObj.call o = (calls.map HashCall.data).foldl ShaObj.update o := by
  induction calls generalizing o with
  | nil => rfl
  | cons x xs ih =>
    simp only [List.foldl_cons, List.map_cons, ih]
    cases x <;> rfl

theorem foldl_hmac (chunks : List Bytes) (o : HmacObj) :
    chunks.foldl HmacObj.update o = { o with inner := chunks.foldl ShaObj.update o.inner } := by
  induction chunks generalizing o with
  | nil => rfl
  | cons x xs ih => simp only [List.foldl_cons, ih, HmacObj.update]

theorem hmacObj_stream (a : HashAlg) (key : Bytes) (chunks : List Bytes) :
    (chunks.foldl HmacObj.update (HmacObj.new a key)).finalize = hmac execOps a key chunks.flatten := by
  rw [foldl_hmac]
  simp only [HmacObj.finalize, HmacObj.new]
  have h1 := shaObj_stream a ((hmacKey0 execOps a key).map (· ^^^ 0x36) :: chunks)
  simp only [List.foldl_cons, List.flatten_cons] at h1
  rw [h1]
  have h2 := shaObj_stream a [(hmacKey0 execOps a key).map (· ^^^ 0x5c),
    Sha.hash a ((hmacKey0 execOps a key).map (· ^^^ 0x36) ++ chunks.flatten)]
  simp only [List.foldl_cons, List.foldl_nil, List.flatten_cons, List.flatten_nil, List.append_nil] at h2
  rw [h2]
  rfl

theorem counter_value_length (cn : Counter) (hn : cn.nonce.length = 12) : cn.value.length = 16 := by
  simp [Counter.value, hn, enc32_length]

theorem ctrChunks_eq {c : CryptoOps} (h : CryptoLaws c) (k : Bytes) (hk : aesKeyOk k = true) :
    ∀ (chunks : List Bytes) (cn : Counter), cn.nonce.length = 12 → cn.little = false →
      (∀ ch ∈ chunks, ch.length % 16 = 0) → Counter.word cn + chunks.flatten.length / 16 < 4294967296 →
      ctrChunks c k cn chunks = aesCtr c k chunks.flatten cn.value
  | [], cn, hn, _, _, _ => by
    rw [aesCtr_ok hk (counter_value_length cn hn)]; rfl
  | ch :: rest, cn, hn, hl, hal, hw => by
    have ha : ch.length = 16 * (ch.length / 16) := by
      have := Nat.div_add_mod ch.length 16
      rw [hal ch List.mem_cons_self, Nat.add_zero] at this
      exact this.symm
    rw [List.flatten_cons, List.length_append, ha, Nat.mul_add_div (by decide)] at hw
    have hw1 : Counter.word cn + ch.length / 16 < 4294967296 := by omega
    have ih := ctrChunks_eq h k hk rest (cn.increment ((ch.length / 16 : Nat) : Int)) hn hl
      (fun x hx => hal x (List.mem_cons_of_mem _ hx))
      (by rw [Counter.word_increment, Nat.mod_eq_of_lt hw1]; omega)
    rw [ctrChunks, ih, aesCtr_ok hk (counter_value_length cn hn),
      aesCtr_ok hk (counter_value_length (cn.increment _) hn), aesCtr_ok hk (counter_value_length cn hn),
      counter_block_be cn hn hl _ hw1, List.flatten_cons]
    simp only [ctrXor]
    rw [ctrXorWith_split (h.enc_len k) cn.value ch rest.flatten (ch.length / 16) ha]

/-- **at the wrap** the helper and a single 128-bit CTR stream part ways: `Counter` keeps the 12 nonce bytes, the
    128-bit counter carries into them -/
theorem counter_wrap_diverges (cn : Counter) (hn : cn.nonce.length = 12) (hl : cn.little = false) (n : Nat)
    (hn32 : n < 4294967296) (hw : 4294967296 ≤ Counter.word cn + n) :
    (cn.increment (n : Int)).value ≠ ctrBlock cn.value n ∧
    (cn.increment (n : Int)).value = cn.nonce ++ beEnc 4 (Counter.word cn + n - 4294967296) ∧
    ctrBlock cn.value n = beEnc 12 (beDec cn.nonce + 1) ++ beEnc 4 (Counter.word cn + n - 4294967296) := by
  have hwl := Counter.word_lt cn
  have hq : (Counter.word cn + n) / 4294967296 = 1 := by omega
  have hm : (Counter.word cn + n) % 4294967296 = Counter.word cn + n - 4294967296 := by omega
  have e1 := Counter.increment_value cn hl n
  have e2 := ctrBlock_counter cn hl n
  rw [hm] at e1 e2
  rw [hq] at e2
  refine ⟨?_, e1, e2⟩
  rw [e1, e2]
  -- the nonce would have to encode its own successor
  intro heq
  have hd := congrArg beDec (List.append_inj heq (by rw [beEnc_length, hn])).1
  rw [Crc.beDec_beEnc] at hd
  have hlt := beDec_lt cn.nonce
  rw [hn] at hlt
  rw [show (256 : Nat) ^ 12 = 79228162514264337593543950336 by decide] at hd hlt
  omega

end SpsdkVerif.SymStream
