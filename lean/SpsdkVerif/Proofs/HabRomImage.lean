/- C07: what the ROM-side reader sees of an exported image outside the CSF — the IVT / boot data view, the DCD / XMCD
   extents it derives from the headers, and the block lists (offsets, disjointness, covering, every non-zero byte covered). -/
import SpsdkVerif.Proofs.HabRomCsf
import SpsdkVerif.Proofs.HabRoundtrip

namespace SpsdkVerif.Hab
open SpsdkVerif SpsdkVerif.Misc SpsdkVerif.Generated
open SpsdkVerif.Spec
open SpsdkVerif.Spec.HabRom (bindE chk sub rdN u8at u16be u32be u32le RCmd Walk View)

theorem readView_encode (img : Bytes) (v : Ivt) (b : Bdt) (rest : Bytes) (himg : img = v.encode ++ (b.encode ++ rest))
    (hv : v.version < 256) (hv4 : v.version / 16 = 4)
    (hw : ∀ x ∈ v.words, x < 2 ^ 32) (hb : ∀ x ∈ b.words, x < 2 ^ 32) (h1 : v.bdt = v.self + 32) (h2 : b.plugin = 0)
    (h3 : b.start ≤ v.self) :
    HabRom.readView img =
      .ok { entry := v.entry, dcd := v.dcd, self := v.self, csf := v.csf, start := b.start, blen := b.length } := by
  obtain ⟨r0, r1, r3⟩ : u8at img 0 = .ok 0xD1 ∧ u16be img 1 = .ok 32 ∧ u8at img 3 = .ok v.version := by
    rw [himg, ivt_flat, List.flatten_cons, List.append_assoc]
    exact header_reads [] _ Hab.Spec.tagIVT Hab.Spec.ivtSize v.version (by decide) (by decide) hv
  have iw : ∀ k x, v.words[k]? = some x → u32le img (4 * (k + 1)) = .ok x := fun k x hk =>
    u32le_of_slice _ _ x (hw x (List.mem_of_getElem? hk)) (himg ▸ ivt_word v _ k x hk)
  have bw : ∀ k x, b.words[k]? = some x → u32le img (32 + 4 * k) = .ok x := fun k x hk => by
    refine u32le_of_slice _ _ x (hb x (List.mem_of_getElem? hk)) ?_
    rw [himg, slice_append_right _ _ _ _ (by simp), ivt_encode_length, Nat.add_sub_cancel_left]
    exact bdt_word b rest k x hk
  have e1 : u32le img 4 = .ok v.entry := iw 0 _ rfl
  have e3 : u32le img 12 = .ok v.dcd := iw 2 _ rfl
  have e4 : u32le img 16 = .ok v.bdt := iw 3 _ rfl
  have e5 : u32le img 20 = .ok v.self := iw 4 _ rfl
  have e6 : u32le img 24 = .ok v.csf := iw 5 _ rfl
  have b0 : u32le img 32 = .ok b.start := bw 0 _ rfl
  have b1 : u32le img 36 = .ok b.length := bw 1 _ rfl
  have b2 : u32le img 40 = .ok b.plugin := bw 2 _ rfl
  unfold HabRom.readView
  rw [r0, bindE_ok, r1, bindE_ok, r3, bindE_ok, chk_of _ _ _ (by simp [hv4]), e1, bindE_ok, e3, bindE_ok, e4, bindE_ok, e5,
    bindE_ok, e6, bindE_ok, chk_of _ _ _ (by simp [h1]), b0, bindE_ok, b1, bindE_ok, b2, bindE_ok,
    chk_of _ _ _ (by simp [h2]), chk_of _ _ _ (by simp [h3])]

/-- IVT and boot data of a container as the reader has to see them -/
def viewOf (c : Cfg) : View :=
  { entry := c.entry, dcd := c.ivt.dcd, self := c.start + c.ivtOff, csf := c.ivt.csf, start := c.start, blen := c.bdt.length }

theorem readView_image (c : Cfg) (h : c.WF) (app : Bytes) (csf : Option Bytes) :
    HabRom.readView (image c app csf) = .ok (viewOf c) := by
  have hi : image c app csf = c.ivt.encode ++ (c.bdt.encode ++ (image c app csf).drop (32 + 12)) := by
    have := slice_to_drop _ _ 32 ((bdt_encode_length c.bdt).symm ▸ image_bdt c h app csf)
    rw [bdt_encode_length] at this
    rw [← this, ← image_ivt c h app csf, List.take_append_drop]
  rw [readView_encode _ _ _ _ hi (show 64 < 256 by decide) (show 64 / 16 = 4 by decide) (ivt_words_lt c h) (bdt_words_lt c h)
    (by rw [ivt_bdt, ivt_self]) rfl (show c.start ≤ _ by rw [ivt_self]; omega)]
  simp only [viewOf, ivt_self]; rfl

def dcdLenOf (c : Cfg) : Nat := match c.dcd with | some d => d.length | none => 0
def xmcdLenOf (c : Cfg) : Nat := match c.xmcd with | some x => x.length | none => 0

/-- DCD / XMCD extents as the reader derives them from the headers in the image -/
theorem frontLens_image (c : Cfg) (h : c.WF) (app : Bytes) (csf : Option Bytes)
    (hd : ∀ d, c.dcd = some d → DcdWF d) (hx : ∀ x, c.xmcd = some x → XmcdWF x) :
    HabRom.frontLens (image c app csf) (viewOf c) = .ok (dcdLenOf c, xmcdLenOf c) := by
  have hge := appOff_ge c h
  have hfit := blk_fits c h
  have hlen : c.appOff ≤ (image c app csf).length := by rw [image_eq c h]; simp [front_length c h]
  have h64 : ((image c app csf).take 64).length = 64 := by rw [List.length_take]; omega
  -- the image around the block at 0x40
  have hi : image c app csf = (image c app csf).take 64 ++ blk c ++ (image c app csf).drop (64 + (blk c).length) := by
    rw [List.append_assoc, ← slice_to_drop _ _ 64 (image_blk c h app csf), List.take_append_drop]
  have hn := h.nonzero
  have hvd := ivt_dcd c
  unfold HabRom.frontLens dcdLenOf xmcdLenOf
  rw [if_pos (show (image c app csf).length ≥ 68 by omega)]
  rcases blk_cases c h with ⟨hdd, hxx, e⟩ | ⟨d, hdd, hxx, e⟩ | ⟨x, hdd, hxx, e⟩ <;> rw [hdd] at hvd <;> rw [hdd, hxx]
  · have r67 : u8at (image c app csf) 67 = .ok 0 :=
      u8at_of_slice _ _ _ (by decide) (image_fill c h app csf 67 1 (by rw [e]; simp) (by omega))
    have hv0 : (viewOf c).dcd = 0 := hvd
    rw [if_pos hv0, bindE_ok, r67, bindE_ok, if_neg (by intro hh; cases hh.2), bindE_ok]
  · obtain ⟨hl, p, body, hp, _, he⟩ := hd d hdd
    rw [e, he, List.append_assoc, List.append_assoc] at hi
    obtain ⟨r64, r65, r67⟩ := header_reads ((image c app csf).take 64) _ Hab.Spec.tagDCD d.length p (by decide) hl hp
    rw [← hi, h64] at r64 r65 r67
    have hvd' : (viewOf c).dcd = (viewOf c).self + 64 := hvd
    have hne : (viewOf c).dcd ≠ 0 := by rw [hvd']; exact Nat.succ_ne_zero _
    rw [if_neg hne, chk_of _ _ _ (by simp [hvd']), r64, bindE_ok, chk_of _ _ _ (by decide), r65, bindE_ok, r67,
      bindE_ok, if_neg (fun hh => hne hh.1), bindE_ok]
  · obtain ⟨hxl, type, iface, inst, body, ht, hif, hj, he⟩ := hx x hxx
    have hx4 : 4 ≤ x.length := by rw [he]; simp
    rw [e] at hi
    have rd : ∀ o v, v < 256 → slice x o 1 = [u8 v] → o < 4 → u8at (image c app csf) (64 + o) = .ok v := fun o v hv hs ho => by
      have := u8at_mid ((image c app csf).take 64) x ((image c app csf).drop (64 + x.length)) o v hv hs (by omega)
      rwa [← hi, h64] at this
    have s0 : slice x 0 1 = [u8 (x.length % 256)] := by
      conv => lhs; rw [he]
      rfl
    have s1 : slice x 1 1 = [u8 (type * 16 + x.length / 256)] := by
      conv => lhs; rw [he]
      rfl
    have s3 : slice x 3 1 = [u8 0xC0] := by
      conv => lhs; rw [he]
      rfl
    have r64 := rd 0 _ (by omega) s0 (by decide)
    have r65 := rd 1 _ (by omega) s1 (by decide)
    have r67 := rd 3 _ (by decide) s3 (by decide)
    have e' : (type * 16 + x.length / 256) % 16 * 256 + x.length % 256 = x.length := by
      rw [(nibbles type _ (Nat.div_lt_of_lt_mul hxl)).2]; exact Nat.div_add_mod' _ 256
    have hv0 : (viewOf c).dcd = 0 := hvd
    rw [if_pos hv0, bindE_ok, r67, bindE_ok, if_pos ⟨hv0, rfl⟩, r64, bindE_ok, r65, bindE_ok, bindE_ok, e']

/-- blocks as image offsets (what the reader derives from the addresses) -/
def offs (ivtOff : Nat) (bl : List Block) : List (Nat × Nat) := bl.map (fun b => (b.start - ivtOff, b.size))

theorem toOffsets_blocks (start ivtOff csfOff : Nat) (bl : List Block)
    (h : ∀ b ∈ bl, b.base = start + b.start ∧ ivtOff ≤ b.start ∧ b.start + b.size ≤ ivtOff + csfOff) :
    HabRom.toOffsets (start + ivtOff) (start + ivtOff + csfOff) (blockPairs bl) = .ok (offs ivtOff bl) := by
  induction bl with
  | nil => rfl
  | cons b r ih =>
    obtain ⟨h1, h2, h3⟩ := h b (by simp)
    have ih' := ih (fun x hx => h x (by simp [hx]))
    simp only [blockPairs, List.map_cons, HabRom.toOffsets, offs] at ih' ⊢
    rw [chk_of _ _ _ (by simp; omega), ih', bindE_ok, h1]
    congr 3
    omega

theorem gather_offs (ivtOff : Nat) (img : Bytes) (bl : List Block) (h : ∀ b ∈ bl, ivtOff ≤ b.start) :
    HabRom.gather img (offs ivtOff bl) = blocksData (zeros ivtOff ++ img) bl := by
  induction bl with
  | nil => rfl
  | cons b r ih =>
    have hb := h b (by simp)
    simp only [offs, List.map_cons, HabRom.gather, blocksData] at ih ⊢
    rw [ih (fun x hx => h x (by simp [hx])), sub_eq_slice, slice_append_right _ _ _ _ (by simp; exact hb)]
    simp

theorem disjoint_offs (ivtOff : Nat) (bl : List Block) (hin : ∀ b ∈ bl, ivtOff ≤ b.start)
    (h : bl.Pairwise (fun a b => a.start + a.size ≤ b.start)) : HabRom.disjoint (offs ivtOff bl) = true := by
  apply disjoint_of_sym
  unfold offs
  rw [List.pairwise_map]
  refine List.Pairwise.imp_of_mem ?_ h
  intro a b ha hb hab
  have := hin a ha; have := hin b hb
  simp only
  omega

theorem inBlocks_offs (ivtOff : Nat) (bl : List Block) (off len p : Nat) (hin : ∀ b ∈ bl, ivtOff ≤ b.start)
    (h : ∃ b ∈ bl, b.covers (ivtOff + off) len) (hp : off ≤ p ∧ p < off + len) :
    HabRom.inBlocks (offs ivtOff bl) p = true := by
  obtain ⟨b, hb, h1, h2⟩ := h
  have := hin b hb
  simp only [HabRom.inBlocks, List.any_eq_true]
  refine ⟨(b.start - ivtOff, b.size), by unfold offs; exact List.mem_map.2 ⟨b, hb, rfl⟩, ?_⟩
  simp; omega

theorem covered_offs (ivtOff : Nat) (bl : List Block) (off len : Nat) (hin : ∀ b ∈ bl, ivtOff ≤ b.start)
    (h : len = 0 ∨ ∃ b ∈ bl, b.covers (ivtOff + off) len) : HabRom.covered (offs ivtOff bl) off len = true := by
  rcases h with rfl | ⟨b, hb, h1, h2⟩
  · rfl
  · have := hin b hb
    simp only [HabRom.covered, Bool.or_eq_true, List.any_eq_true]
    right
    refine ⟨(b.start - ivtOff, b.size), by unfold offs; exact List.mem_map.2 ⟨b, hb, rfl⟩, ?_⟩
    simp; omega

theorem nzCov_append (bl : List (Nat × Nat)) (stop i : Nat) (a b : Bytes) :
    HabRom.nzCov bl stop i (a ++ b) = (HabRom.nzCov bl stop i a && HabRom.nzCov bl stop (i + a.length) b) := by
  induction a generalizing i with
  | nil => simp [HabRom.nzCov]
  | cons x r ih =>
    simp only [List.cons_append, HabRom.nzCov, ih, List.length_cons]
    rw [show i + 1 + r.length = i + (r.length + 1) by omega, Bool.and_assoc]

theorem nzCov_zeros (bl : List (Nat × Nat)) (stop i n : Nat) : HabRom.nzCov bl stop i (zeros n) = true := by
  induction n generalizing i with
  | zero => rfl
  | succ n ih => rw [zeros_succ]; simp [HabRom.nzCov, ih]

theorem nzCov_in (bl : List (Nat × Nat)) (stop i : Nat) (a : Bytes)
    (h : ∀ k, k < a.length → HabRom.inBlocks bl (i + k) = true) : HabRom.nzCov bl stop i a = true := by
  induction a generalizing i with
  | nil => rfl
  | cons x r ih =>
    have h0 := h 0 (by simp)
    simp only [Nat.add_zero] at h0
    simp only [HabRom.nzCov, h0, Bool.or_true, Bool.true_and]
    apply ih
    intro k hk
    have := h (k + 1) (by simp; omega)
    rwa [show i + (k + 1) = i + 1 + k by omega] at this

theorem nzCov_beyond (bl : List (Nat × Nat)) (stop i : Nat) (a : Bytes) (h : stop ≤ i) :
    HabRom.nzCov bl stop i a = true := by
  induction a generalizing i with
  | nil => rfl
  | cons x r ih =>
    simp only [HabRom.nzCov, decide_eq_true h, Bool.true_or, Bool.true_and]
    exact ih (i + 1) (by omega)

/-- the checks of the reader on the block lists of a container with a CSF: disjoint; IVT + boot data, DCD, XMCD covered;
    every non-zero byte in front of the CSF in a block; the entry point in a block -/
theorem blocks_checks (c : Cfg) (b : Built) (h : c.WF) (ha : c.flags ≠ 0) (happ : b.app.length = c.appBin.length)
    (hentry : c.start + c.ils ≤ c.entry ∧ c.entry < c.start + c.ils + c.appBin.length) :
    HabRom.disjoint (offs c.ivtOff c.allBlocks) = true ∧ HabRom.covered (offs c.ivtOff c.allBlocks) 0 64 = true ∧
    HabRom.covered (offs c.ivtOff c.allBlocks) 64 (dcdLenOf c) = true ∧
    HabRom.covered (offs c.ivtOff c.allBlocks) 64 (xmcdLenOf c) = true ∧
    HabRom.nzCov (offs c.ivtOff c.allBlocks) c.csfOff 0 (exportImage c b) = true ∧
    (decide (c.start + c.ivtOff ≤ c.entry) &&
      HabRom.inBlocks (offs c.ivtOff c.allBlocks) (c.entry - (c.start + c.ivtOff))) = true := by
  obtain ⟨hin, hasc, hc0, hcd, hcx, hca⟩ := blocks_cover_lemma c h
  have hin' : ∀ b ∈ c.allBlocks, c.ivtOff ≤ b.start := fun b hb => (hin b hb).2.1
  have hbefore := app_before_csf c h
  have hao := appOff_eq c
  have hle := h.ivtLe
  have inB := inBlocks_offs c.ivtOff c.allBlocks
  refine ⟨disjoint_offs _ _ hin' hasc, covered_offs _ _ 0 64 hin' (.inr (by simpa using hc0)), ?_, ?_, ?_, ?_⟩
  · unfold dcdLenOf
    cases hdd : c.dcd with
    | some d => exact covered_offs _ _ 64 d.length hin' (.inr (hcd d hdd))
    | none => rfl
  · unfold xmcdLenOf
    cases hxx : c.xmcd with
    | some x => exact covered_offs _ _ 64 x.length hin' (.inr (hcx x hxx))
    | none => rfl
  · -- the pieces of the image: IVT + boot data, zeros, block at 0x40, zeros, application, zeros, CSF
    have hK : ∀ k, k < (blk c).length → HabRom.inBlocks (offs c.ivtOff c.allBlocks) (64 + k) = true := by
      intro k hk
      rcases blk_cases c h with ⟨_, _, e⟩ | ⟨d, hdd, _, e⟩ | ⟨x, _, hxx, e⟩ <;> rw [e] at hk
      · cases hk
      · exact inB 64 d.length _ hin' (hcd d hdd) ⟨by omega, by omega⟩
      · exact inB 64 x.length _ hin' (hcx x hxx) ⟨by omega, by omega⟩
    have hfit := blk_fits c h
    have h064 : ∀ k, k < 64 → HabRom.inBlocks (offs c.ivtOff c.allBlocks) k = true :=
      fun k hk => inB 0 64 k hin' (by simpa using hc0) ⟨by omega, by omega⟩
    unfold exportImage
    rw [image_eq c h, hasCsf_of_ne c h ha, if_pos rfl, tailOf, nzCov_append, nzCov_append, nzCov_append, nzCov_zeros,
      List.length_append, front_length c h, Nat.zero_add, front]
    simp only [List.flatten_cons, List.flatten_nil, List.append_nil, nzCov_append, nzCov_zeros, Bool.and_true, Bool.true_and,
      Bool.and_eq_true, ivt_encode_length, bdt_encode_length, zeros_length, Nat.zero_add]
    refine ⟨⟨⟨?_, ?_, ?_⟩, ?_⟩, ?_⟩
    · exact nzCov_in _ _ _ _ fun k hk => h064 _ (by simp at hk; omega)
    · exact nzCov_in _ _ _ _ fun k hk => h064 _ (by simp at hk; omega)
    · exact nzCov_in _ _ _ _ hK
    · exact nzCov_in _ _ _ _ fun k hk => inB c.appOff c.appBin.length _ hin' hca ⟨by omega, by omega⟩
    · exact nzCov_beyond _ _ _ _ (by omega)
  · have := inB c.appOff c.appBin.length (c.entry - (c.start + c.ivtOff)) hin' hca ⟨by omega, by omega⟩
    simp [this]; omega

end SpsdkVerif.Hab
