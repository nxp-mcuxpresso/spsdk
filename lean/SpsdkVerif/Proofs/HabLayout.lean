/- C07: where the segments lie in the exported image.  `image_eq` writes the image as front part ++ application ++
   (gap ++ CSF) with the front part in closed form; the slices, the closed forms of the IVT pointers and of the boot-data
   length, and the block lists are read off it. -/
import SpsdkVerif.Proofs.HabCsf

namespace SpsdkVerif.Hab
open SpsdkVerif SpsdkVerif.Misc SpsdkVerif.Generated

@[simp] theorem ivt_encode_length (v : Ivt) : v.encode.length = 32 := by simp [Ivt.encode]
@[simp] theorem bdt_encode_length (b : Bdt) : b.encode.length = 12 := by simp [Bdt.encode]

theorem appOff_eq (c : Cfg) : c.appOff = c.ils - c.ivtOff := appOffsetN_eq _ _

theorem csfOff_eq (c : Cfg) : c.csfOff = csfAbs (c.ils + c.app.length) - c.ivtOff := csfOffsetN_eq _ _ _

theorem appOff_ge (c : Cfg) (h : c.WF) : 256 ≤ c.appOff := by
  have := h.appOffKnown
  rw [← appOff_eq] at this
  simp [HabConsts.knownAppOffsets] at this
  omega

theorem align16_le (ils n : Nat) (h : ils % 16 = 0) : ils + alignUp n 16 ≤ csfAbs (ils + n) := by
  unfold csfAbs alignUp
  omega

theorem appBin_length_le (c : Cfg) : c.appBin.length ≤ alignUp c.app.length 16 := by
  unfold Cfg.appBin
  split
  · rw [padAlign_length _ _ (by decide)]; exact Nat.le_refl _
  · exact alignUp_ge _ _ (by decide)

theorem app_before_csf (c : Cfg) (h : c.WF) : c.appOff + c.appBin.length ≤ c.csfOff := by
  have := h.ivtLe
  have := align16_le c.ils c.app.length h.ils16
  have := appBin_length_le c
  rw [appOff_eq, csfOff_eq]
  omega

/-- bounds every address the container mentions (the largest is the DEK blob behind the CSF) -/
theorem addr_lt (c : Cfg) (h : c.WF) : c.start + c.ivtOff + c.csfOff + 0x2200 < 2 ^ 32 := by
  have := h.addr
  have := h.ivtLe
  have := csfAbs_gt (c.ils + c.app.length)
  rw [csfOff_eq]
  omega

theorem secret_key_loc_lemma (c : Cfg) (h : c.WF) :
    secretKeyLocN c.ils c.app.length c.start = c.start + c.ivtOff + c.csfOff + HabConsts.csfSize := by
  have := csfAbs_gt (c.ils + c.app.length)
  have := h.ivtLe
  rw [secretKeyLocN_eq, csfOff_eq]
  show _ = _ + 8192
  omega

theorem hasCsf_of_ne (c : Cfg) (h : c.WF) (ha : c.flags ≠ 0) : c.hasCsf = true := by rw [h.csf]; simpa using ha
theorem isAuth_of_ne (c : Cfg) (h : c.WF) (ha : c.flags ≠ 0) : isAuth c.flags = true := by
  rw [(flags_cases c.flags h.flags).1]; simpa using ha
theorem isEnc_iff (c : Cfg) (h : c.WF) : isEnc c.flags = true ↔ c.flags = 12 := by
  rw [(flags_cases c.flags h.flags).2.1]; simp

/-- the block at 0x40: the DCD, else the XMCD (a well-formed configuration has at most one of them), else nothing -/
def blk (c : Cfg) : Bytes :=
  match c.dcd, c.xmcd with
  | some d, _ => d
  | none, some x => x
  | none, none => []

theorem blk_cases (c : Cfg) (h : c.WF) :
    (c.dcd = none ∧ c.xmcd = none ∧ blk c = []) ∨ (∃ d, c.dcd = some d ∧ c.xmcd = none ∧ blk c = d) ∨
    (∃ x, c.dcd = none ∧ c.xmcd = some x ∧ blk c = x) := by
  unfold blk
  rcases h.notBoth with hd | hx
  · rw [hd]; cases c.xmcd with
    | none => exact .inl ⟨rfl, rfl, rfl⟩
    | some x => exact .inr (.inr ⟨x, rfl, rfl, rfl⟩)
  · rw [hx]; cases c.dcd with
    | none => exact .inl ⟨rfl, rfl, rfl⟩
    | some d => exact .inr (.inl ⟨d, rfl, rfl, rfl⟩)

theorem blk_dcd (c : Cfg) (d : Bytes) (hd : c.dcd = some d) : blk c = d := by simp [blk, hd]

theorem blk_xmcd (c : Cfg) (h : c.WF) (x : Bytes) (hx : c.xmcd = some x) : blk c = x := by
  rcases blk_cases c h with ⟨_, h2, _⟩ | ⟨_, _, h2, _⟩ | ⟨y, _, h2, hb⟩ <;> rw [hx] at h2
  · cases h2
  · cases h2
  · rw [hb]; injection h2 with h2; exact h2.symm

theorem blk_fits (c : Cfg) (h : c.WF) : 64 + (blk c).length ≤ c.appOff := by
  have := appOff_ge c h
  rw [appOff_eq] at this ⊢
  rcases blk_cases c h with ⟨_, _, hb⟩ | ⟨d, hd, _, hb⟩ | ⟨x, _, hx, hb⟩ <;> rw [hb]
  · simp; omega
  · exact h.dcdFits d hd
  · exact h.xmcdFits x hx

/-- everything in front of the application, zero filled up to the application offset -/
def front (c : Cfg) : Bytes :=
  List.flatten [c.ivt.encode, c.bdt.encode, zeros 20, blk c, zeros (c.appOff - (64 + (blk c).length))]

def tailOf (c : Cfg) (app : Bytes) : Option Bytes → Bytes
  | some b => zeros (c.csfOff - (c.appOff + app.length)) ++ b
  | none => []

theorem front_length (c : Cfg) (h : c.WF) : (front c).length = c.appOff := by
  have := blk_fits c h
  simp [front]; omega

theorem image_eq (c : Cfg) (h : c.WF) (app : Bytes) (csf : Option Bytes) :
    image c app csf = front c ++ app ++ tailOf c app csf := by
  have hl := front_length c h
  have hge := appOff_ge c h
  -- the stages in front of the application, filled up, are the front part
  have e3 : ∀ s3 : Bytes, (s3 = c.ivt.encode ++ c.bdt.encode ∧ blk c = []) ∨
      s3 = c.ivt.encode ++ c.bdt.encode ++ zeros 20 ++ blk c → placeAt s3 c.appOff app = front c ++ app := by
    rintro s3 (⟨rfl, hb⟩ | rfl)
    · have : zeros (c.appOff - 44) = zeros 20 ++ zeros (c.appOff - 64) := by
        rw [zeros_append, show 20 + (c.appOff - 64) = c.appOff - 44 by omega]
      simp [placeAt, front, hb, this]
    · have : (c.ivt.encode ++ c.bdt.encode ++ zeros 20 ++ blk c).length = 64 + (blk c).length := by simp; omega
      rw [placeAt, this]
      simp only [front, List.flatten_cons, List.flatten_nil, List.append_nil, List.append_assoc]
  have e1 : placeAt c.ivt.encode bdtSegOffN c.bdt.encode = c.ivt.encode ++ c.bdt.encode := by
    simp [placeAt, bdtSegOffN_eq, zeros]
  have e2 : ∀ k : Bytes, placeAt (c.ivt.encode ++ c.bdt.encode) 64 k = c.ivt.encode ++ c.bdt.encode ++ zeros 20 ++ k := by
    intro k; simp [placeAt]
  have himg : image c app csf = match csf with
      | some b => placeAt (front c ++ app) c.csfOff b
      | none => front c ++ app := by
    unfold image
    simp only [e1, dcdSegOffN_eq, show HabConsts.xmcdSegOffset = 64 from rfl]
    rcases blk_cases c h with ⟨hd, hx, hb⟩ | ⟨d, hd, hx, hb⟩ | ⟨x, hd, hx, hb⟩ <;> rw [hd, hx] <;> simp only [e2]
    · simp only [e3 _ (.inl ⟨rfl, hb⟩)]; rfl
    · simp only [e3 _ (.inr (by rw [hb]))]; rfl
    · simp only [e3 _ (.inr (by rw [hb]))]; rfl
  rw [himg]
  cases csf <;> simp [tailOf, placeAt, hl]

theorem image_front (c : Cfg) (h : c.WF) (app : Bytes) (csf : Option Bytes) (o n : Nat) (hon : o + n ≤ c.appOff) :
    slice (image c app csf) o n = slice (front c) o n := by
  rw [image_eq c h, List.append_assoc, slice_append_left _ _ _ _ (by rw [front_length c h]; exact hon)]

theorem image_head_indep (c : Cfg) (h : c.WF) (app app' : Bytes) (csf csf' : Option Bytes) (o n : Nat)
    (hon : o + n ≤ c.appOff) : slice (image c app csf) o n = slice (image c app' csf') o n := by
  rw [image_front c h app csf o n hon, image_front c h app' csf' o n hon]

theorem image_ivt (c : Cfg) (h : c.WF) (app : Bytes) (csf : Option Bytes) : (image c app csf).take 32 = c.ivt.encode := by
  have := appOff_ge c h
  have e := image_front c h app csf 0 32 (by omega)
  rw [show front c = [].flatten ++ c.ivt.encode ++ _ from rfl] at e
  simpa [slice] using e

theorem image_bdt (c : Cfg) (h : c.WF) (app : Bytes) (csf : Option Bytes) :
    slice (image c app csf) 32 12 = c.bdt.encode := by
  have := appOff_ge c h
  rw [image_front c h app csf 32 12 (by omega)]
  exact slice_piece [_] _ _ _ _ (by simp) (by simp)

theorem image_blk (c : Cfg) (h : c.WF) (app : Bytes) (csf : Option Bytes) :
    slice (image c app csf) 64 (blk c).length = blk c := by
  rw [image_front c h app csf _ _ (blk_fits c h)]
  exact slice_piece [_, _, _] _ _ _ _ (by simp) rfl

theorem image_fill (c : Cfg) (h : c.WF) (app : Bytes) (csf : Option Bytes) (o n : Nat)
    (h1 : 64 + (blk c).length ≤ o) (h2 : o + n ≤ c.appOff) : slice (image c app csf) o n = zeros n := by
  rw [image_front c h app csf o n h2]
  exact (slice_in_piece [_, _, _, _] _ [] o n (by simp; omega) (by simp; omega)).trans
    (slice_zeros _ _ _ (by simp; omega))

theorem image_app (c : Cfg) (h : c.WF) (app : Bytes) (csf : Option Bytes) :
    slice (image c app csf) c.appOff app.length = app := by
  rw [image_eq c h]
  exact slice_append_mid _ _ _ _ _ (front_length c h).symm rfl

theorem image_app_indep (c : Cfg) (h : c.WF) (app : Bytes) (csf csf' : Option Bytes) (o n : Nat)
    (hon : o + n ≤ c.appOff + app.length) : slice (image c app csf) o n = slice (image c app csf') o n := by
  have hl := front_length c h
  rw [image_eq c h, image_eq c h, slice_append_left (front c ++ app) _ o n (by simp; omega),
    slice_append_left (front c ++ app) _ o n (by simp; omega)]

theorem image_csf (c : Cfg) (h : c.WF) (app b : Bytes) (hfit : c.appOff + app.length ≤ c.csfOff) :
    slice (image c app (some b)) c.csfOff b.length = b := by
  have hl := front_length c h
  rw [image_eq c h, tailOf, ← List.append_assoc]
  have := slice_append_mid (front c ++ app ++ zeros (c.csfOff - (c.appOff + app.length))) b [] c.csfOff b.length
    (by simp; omega) rfl
  rwa [List.append_nil] at this

theorem image_length (c : Cfg) (h : c.WF) (app : Bytes) (csf : Option Bytes)
    (hfit : c.appOff + app.length ≤ c.csfOff) :
    (image c app csf).length = match csf with | some b => c.csfOff + b.length | none => c.appOff + app.length := by
  have hl := front_length c h
  rw [image_eq c h]
  cases csf <;> simp [tailOf, hl]
  omega

section exported
variable (c : Cfg) (b : Built) (h : c.WF) (happ : b.app.length = c.appBin.length)
include h happ

theorem exportImage_length (hcsf : c.hasCsf = true → (csfBytes c.version b.cmds).length = HabConsts.csfSize) :
    (exportImage c b).length = c.imgLen := by
  have := app_before_csf c h
  unfold exportImage Cfg.imgLen
  rw [image_length c h _ _ (by omega)]
  by_cases hh : c.hasCsf = true
  · simp only [hh, ↓reduceIte, hcsf hh]
  · simp only [hh, Bool.false_eq_true, ↓reduceIte, happ]

theorem export_csf (hh : c.hasCsf = true) :
    slice (exportImage c b) c.csfOff (csfBytes c.version b.cmds).length = csfBytes c.version b.cmds := by
  have := app_before_csf c h
  unfold exportImage
  rw [hh]
  exact image_csf c h _ _ (by omega)

end exported

theorem ivt_self (c : Cfg) : c.ivt.self = c.start + c.ivtOff := ivtSelfN_eq _ _
theorem ivt_bdt (c : Cfg) : c.ivt.bdt = c.start + c.ivtOff + 32 := by simp [Cfg.ivt, Cfg.ivtSelf, ivtSelfN_eq, ivtBdtN_eq]
theorem ivt_dcd (c : Cfg) : c.ivt.dcd = if c.dcd.isSome then c.start + c.ivtOff + 64 else 0 := by
  simp [Cfg.ivt, Cfg.ivtSelf, ivtSelfN_eq, ivtDcdN_eq]

theorem ivt_csf (c : Cfg) (h : c.WF) : c.ivt.csf = if c.flags = 0 then 0 else c.start + c.ivtOff + c.csfOff := by
  have : c.ivtOff ≤ csfAbs (c.ils + c.app.length) := by
    have := csfAbs_gt (c.ils + c.app.length); have := h.ivtLe; omega
  simp only [Cfg.ivt, Cfg.ivtSelf, ivtSelfN_eq, ivtCsfN_eq _ _ _ _ _ h.flags this, csfOff_eq]

theorem bdt_length (c : Cfg) (h : c.WF) :
    c.bdt.length = c.ivtOff + c.imgLen + (if isEnc c.flags then HabConsts.keyblobSize else 0) := by
  simp only [Cfg.bdt, Cfg.imgLen, (flags_cases c.flags h.flags).2.2.2, h.csf, bdtLenN_eq]
  split <;> omega

theorem imgLen_le (c : Cfg) (h : c.WF) : c.imgLen ≤ c.csfOff + 0x2000 := by
  have := app_before_csf c h
  unfold Cfg.imgLen
  split
  · exact Nat.le_refl _
  · omega

theorem ivt_points_lemma (c : Cfg) (b : Built) (h : c.WF) (happ : b.app.length = c.appBin.length)
    (hcsf : c.hasCsf = true → (csfBytes c.version b.cmds).length = HabConsts.csfSize) :
    let img := exportImage c b
    img.take 32 = c.ivt.encode ∧ c.ivt.self = c.start + c.ivtOff ∧ c.ivt.entry = c.entry ∧
    c.ivt.bdt = c.ivt.self + 32 ∧ slice img (c.ivt.bdt - c.ivt.self) 12 = c.bdt.encode ∧
    (∀ d, c.dcd = some d → c.ivt.dcd = c.ivt.self + 64 ∧ slice img (c.ivt.dcd - c.ivt.self) d.length = d) ∧
    (c.dcd = none → c.ivt.dcd = 0) ∧
    (∀ x, c.xmcd = some x → slice img HabConsts.xmcdSegOffset x.length = x) ∧
    c.appOff = c.ils - c.ivtOff ∧ slice img c.appOff b.app.length = b.app ∧
    (c.hasCsf = true → c.ivt.csf = c.ivt.self + c.csfOff ∧ c.appOff + b.app.length ≤ c.csfOff ∧
        slice img (c.ivt.csf - c.ivt.self) HabConsts.csfSize = csfBytes c.version b.cmds ∧
        img.length = c.csfOff + HabConsts.csfSize) ∧
    (c.hasCsf = false → c.ivt.csf = 0 ∧ img.length = c.appOff + b.app.length) ∧
    c.bdt.start = c.start ∧ c.bdt.plugin = 0 ∧
    c.bdt.length = c.ivtOff + img.length + (if isEnc c.flags then HabConsts.keyblobSize else 0) := by
  intro img
  have hlen : img.length = c.imgLen := exportImage_length c b h happ hcsf
  have hbdt : c.ivt.bdt - c.ivt.self = 32 := by rw [ivt_bdt, ivt_self]; omega
  refine ⟨image_ivt c h _ _, ivt_self c, rfl, by rw [ivt_bdt, ivt_self], by rw [hbdt]; exact image_bdt c h _ _, ?_, ?_,
    ?_, appOff_eq c, image_app c h _ _, ?_, ?_, rfl, rfl, by rw [hlen]; exact bdt_length c h⟩
  · intro d hd
    have e : c.ivt.dcd = c.ivt.self + 64 := by rw [ivt_dcd, ivt_self, hd]; rfl
    rw [e, Nat.add_sub_cancel_left, ← blk_dcd c d hd]
    exact ⟨rfl, image_blk c h _ _⟩
  · intro hd; rw [ivt_dcd, hd]; rfl
  · intro x hx; rw [← blk_xmcd c h x hx]; exact image_blk c h _ _
  · intro hh
    have hne : c.flags ≠ 0 := by simpa [h.csf] using hh
    have e : c.ivt.csf = c.ivt.self + c.csfOff := by rw [ivt_csf c h, if_neg hne, ivt_self]
    rw [e, Nat.add_sub_cancel_left, ← hcsf hh]
    refine ⟨rfl, by rw [happ]; exact app_before_csf c h, export_csf c b h happ hh, ?_⟩
    rw [hlen, Cfg.imgLen, if_pos hh, hcsf hh]
  · intro hh
    have h0 : c.flags = 0 := by simpa [h.csf] using hh
    rw [ivt_csf c h, if_pos h0, hlen, Cfg.imgLen, hh, happ]
    exact ⟨rfl, rfl⟩

theorem mkBlock_eq (c : Cfg) (off size : Nat) :
    c.mkBlock off size = ⟨c.start + c.ivtOff + off, c.ivtOff + off, size⟩ := by
  simp [Cfg.mkBlock, blockBaseN_eq, blockStartN_eq]

/-- signed and encrypted blocks together: IVT + boot data, the block at 0x40 if there is one, the application -/
theorem allBlocks_eq (c : Cfg) (h : c.WF) : ∃ mid,
    c.allBlocks = c.mkBlock 0 64 :: (mid ++ [c.mkBlock c.appOff c.appBin.length]) ∧
    (mid = [] ∨ mid = [c.mkBlock 64 (blk c).length]) ∧ ((c.dcd.isSome ∨ c.xmcd.isSome) → mid ≠ []) := by
  have hbl : c.allBlocks = c.mkBlock 0 64 :: (((match c.dcd with | some d => [c.mkBlock 64 d.length] | none => []) ++
      (match c.xmcd with | some x => [c.mkBlock 64 x.length] | none => [])) ++ [c.mkBlock c.appOff c.appBin.length]) := by
    unfold Cfg.allBlocks Cfg.signedBlocks Cfg.encryptedBlocks
    rw [dcdSegOffN_eq]
    cases isEnc c.flags <;> simp <;> exact ⟨rfl, rfl⟩
  refine ⟨_, hbl, ?_, ?_⟩
  · rcases blk_cases c h with ⟨hd, hx, hb⟩ | ⟨d, hd, hx, hb⟩ | ⟨x, hd, hx, hb⟩ <;> simp [hd, hx, hb]
  · rcases blk_cases c h with ⟨hd, hx, hb⟩ | ⟨d, hd, hx, hb⟩ | ⟨x, hd, hx, hb⟩ <;> simp [hd, hx]

theorem blocks_cover_lemma (c : Cfg) (h : c.WF) :
    let bl := c.allBlocks
    (∀ b ∈ bl, b.base = c.start + b.start ∧ c.ivtOff ≤ b.start ∧ b.start + b.size ≤ c.ivtOff + c.csfOff) ∧
    bl.Pairwise (fun a b => a.start + a.size ≤ b.start) ∧
    (∃ b ∈ bl, b.covers c.ivtOff 64) ∧
    (∀ d, c.dcd = some d → ∃ b ∈ bl, b.covers (c.ivtOff + 64) d.length) ∧
    (∀ x, c.xmcd = some x → ∃ b ∈ bl, b.covers (c.ivtOff + 64) x.length) ∧
    (∃ b ∈ bl, b.covers (c.ivtOff + c.appOff) c.appBin.length) := by
  intro bl
  have hbef := app_before_csf c h
  have hfit := blk_fits c h
  obtain ⟨mid, hbl, hmid, hne⟩ := allBlocks_eq c h
  have hK : ∀ k, k = blk c → (c.dcd.isSome ∨ c.xmcd.isSome) → ∃ b ∈ bl, b.covers (c.ivtOff + 64) k.length := by
    rintro k rfl hs
    have : mid = [c.mkBlock 64 (blk c).length] := hmid.resolve_left (hne hs)
    exact ⟨c.mkBlock 64 (blk c).length, by simp [bl, hbl, this], by simp [mkBlock_eq, Block.covers]⟩
  refine ⟨?_, ?_, ⟨c.mkBlock 0 64, by simp [bl, hbl], by simp [mkBlock_eq, Block.covers]⟩,
    fun d hd => hK d (blk_dcd c d hd).symm (.inl (by simp [hd])),
    fun x hx => hK x (blk_xmcd c h x hx).symm (.inr (by simp [hx])),
    ⟨c.mkBlock c.appOff c.appBin.length, by simp [bl, hbl], by simp [mkBlock_eq, Block.covers]⟩⟩
  · rcases hmid with rfl | rfl <;> simp [bl, hbl, mkBlock_eq] <;> omega
  · rcases hmid with rfl | rfl <;> simp [bl, hbl, mkBlock_eq] <;> omega

/-- `CsfHabSegment.export()` pads to a MULTIPLE of CSF_SIZE, `CsfHabSegment.size` is the constant CSF_SIZE: with more
    than CSF_SIZE bytes of header + commands + data the exported CSF is at least twice CSF_SIZE, the image is that much
    longer, and the boot-data length (computed from `size`) is short by exactly the overflow -/
theorem csf_oversize_lemma (c : Cfg) (b : Built) (h : c.WF) (ha : c.flags ≠ 0) (happ : b.app.length = c.appBin.length)
    (hbig : HabConsts.csfSize < (csfBase c.version b.cmds ++ encData b.cmds).length) :
    (exportImage c b).length = c.csfOff + (csfBytes c.version b.cmds).length ∧
    2 * HabConsts.csfSize ≤ (csfBytes c.version b.cmds).length ∧
    c.bdt.length + ((csfBytes c.version b.cmds).length - HabConsts.csfSize) =
      c.ivtOff + (exportImage c b).length + (if isEnc c.flags then HabConsts.keyblobSize else 0) := by
  have hbef := app_before_csf c h
  have hc := hasCsf_of_ne c h ha
  have hlen : 2 * HabConsts.csfSize ≤ (csfBytes c.version b.cmds).length := by
    unfold csfBytes
    rw [padAlign_length _ _ (by decide)]
    have h1 := alignUp_ge (csfBase c.version b.cmds ++ encData b.cmds).length HabConsts.csfSize (by decide)
    have h2 := alignUp_mod (csfBase c.version b.cmds ++ encData b.cmds).length HabConsts.csfSize
    generalize alignUp (csfBase c.version b.cmds ++ encData b.cmds).length HabConsts.csfSize = A at *
    change 8192 < _ at hbig
    change A % 8192 = 0 at h2
    change 2 * 8192 ≤ A
    omega
  have hil : (exportImage c b).length = c.csfOff + (csfBytes c.version b.cmds).length := by
    unfold exportImage
    rw [image_length c h _ _ (by omega), hc]
    rfl
  refine ⟨hil, hlen, ?_⟩
  rw [hil, bdt_length c h, Cfg.imgLen, if_pos hc]
  omega

/-- a single data block of CSF_SIZE bytes already gives `hbig` of `csf_oversize_lemma` -/
theorem oversize_of_blob (version : Nat) (c : Cmd) (d : Bytes) (hr : needsRef c = true) (hd : HabConsts.csfSize ≤ d.length) :
    HabConsts.csfSize < (csfBase version [⟨c, some d⟩] ++ encData [⟨c, some d⟩]).length := by
  have := alignUp_ge d.length 4 (by decide)
  simp only [List.length_append, csfBase_length, csfHdrLen, encData, hr, ↓reduceIte, padAlign_length _ _ (show 0 < 4 by decide),
    List.length_nil]
  omega

end SpsdkVerif.Hab
