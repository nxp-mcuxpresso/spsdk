/-
NXP raw public keys (RSA `modulus ‖ exponent`, ECC `X ‖ Y`): export/recreate round trips, the length windows of the
sniffing are pairwise disjoint, and what `PublicKey.parse` and `get_file_encodings` need of them.
-/
import SpsdkVerif.Proofs.KeysBase

namespace SpsdkVerif.Keys.B
open SpsdkVerif SpsdkVerif.Keys SpsdkVerif.Misc SpsdkVerif.Generated

/-- every (curve, raw/DER) the ECC length test of `recreate_from_data` would accept for a blob of `L` bytes -/
def eccMatches (L : Nat) : List (Curve × Bool) :=
  Curve.all.filterMap (fun c => (KeysTables.eccGetCurveStep c.keySize L).map (fun d => (c, d)))
/-- every RSA key size whose window of `recreate_public_numbers` contains `L` -/
def rsaMatches (L : Nat) : List Nat :=
  KeysTables.rsaSupportedKeySizes.filter (fun ks => KeysTables.rsaRawWindow (KeysTables.rsaKeySizeBytes ks) L)
/-- every curve `ECDSASignature.get_ecc_curve` would accept for a signature of `L` bytes -/
def sigMatches (L : Nat) : List Curve :=
  (sigTable.filter (fun p => KeysTables.sigCurveStep L p.2)).map (·.1)

theorem rsaWin_iff (kb L : Nat) : KeysTables.rsaRawWindow kb L = true ↔ kb + 3 ≤ L ∧ L ≤ kb + 4 := by
  simp [KeysTables.rsaRawWindow]

theorem eccStep_eq (k L : Nat) : KeysTables.eccGetCurveStep k L =
    if L = (k + 7) / 8 * 2 then some false
    else if (k + 7) / 8 * 2 + 7 ≤ L ∧ L ≤ (k + 7) / 8 * 2 + 9 then some true else none := by
  simp only [KeysTables.eccGetCurveStep]
  (repeat' split) <;> simp_all <;> omega

theorem eccStep_false_iff (k L : Nat) :
    KeysTables.eccGetCurveStep k L = some false ↔ L = (k + 7) / 8 * 2 := by
  rw [eccStep_eq]; (repeat' split) <;> simp [*]

theorem eccStep_true_iff (k L : Nat) :
    KeysTables.eccGetCurveStep k L = some true ↔ ((k + 7) / 8 * 2 + 7 ≤ L ∧ L ≤ (k + 7) / 8 * 2 + 9) := by
  rw [eccStep_eq]; (repeat' split) <;> simp [*] <;> omega

theorem eccStep_isSome_iff (k L : Nat) : (KeysTables.eccGetCurveStep k L).isSome = true ↔
    (L = (k + 7) / 8 * 2 ∨ ((k + 7) / 8 * 2 + 7 ≤ L ∧ L ≤ (k + 7) / 8 * 2 + 9)) := by
  rw [eccStep_eq]; (repeat' split) <;> simp [*]

/-- an ECC blob (raw or DER) has at most 141 bytes -/
theorem eccStep_large (c : Curve) (L : Nat) (h : 142 ≤ L) : KeysTables.eccGetCurveStep c.keySize L = none := by
  cases c <;>
    rw [eccStep_eq, if_neg (by simp only [Curve.keySize]; omega), if_neg (by simp only [Curve.keySize]; omega)]

theorem two_pow_eight_mul (k : Nat) : 2 ^ (8 * k) = 256 ^ k := by
  rw [Nat.pow_mul]

/-- a number of exactly `8 * k` bits occupies exactly `k` bytes -/
theorem byteLen_topbit (n ks k : Nat) (hks : ks = 8 * k) (hk : 0 < k) (hn : TopBit n ks) : byteLen n = k := by
  subst hks
  obtain ⟨h1, h2⟩ := hn
  rw [two_pow_eight_mul] at h2
  have hle : byteLen n ≤ k := (byteLen_le_iff n k).2 h2
  have h3 : 256 ^ (k - 1) ≤ 2 ^ (8 * k - 1) := by
    rw [← two_pow_eight_mul]
    exact Nat.pow_le_pow_right (by omega) (by omega)
  have hge : k ≤ byteLen n := le_byteLen_of_le n k (Nat.le_trans h3 h1) hk
  omega

theorem byteLen_exp (e : Nat) (he : 65536 ≤ e ∧ e < 2 ^ 32) : byteLen e = 3 ∨ byteLen e = 4 := by
  have h1 : 3 ≤ byteLen e := le_byteLen_of_le e 3 (by simpa using he.1) (by omega)
  have h2 : byteLen e ≤ 4 := (byteLen_le_iff e 4).2 (by simpa using he.2)
  omega

theorem rsaExport_eq (n e : Nat) : rsaExportNxp n e = .ok (beEnc (byteLen n) n ++ beEnc (byteLen e) e) := by
  simp [rsaExportNxp, toBytes_ok, lt_pow_byteLen]

theorem rsaSizes_cases (ks : Nat) (hks : ks ∈ KeysTables.rsaSupportedKeySizes) :
    ks = 2048 ∨ ks = 3072 ∨ ks = 4096 := by
  simpa [KeysTables.rsaSupportedKeySizes] using hks

/-- the windows of the supported RSA sizes are disjoint, so a length inside the window of `ks` selects `ks / 8` -/
theorem rsaRecreate_of_len (d : Bytes) (ks : Nat) (hks : ks ∈ KeysTables.rsaSupportedKeySizes)
    (hlen : ks / 8 + 3 ≤ d.length ∧ d.length ≤ ks / 8 + 4) :
    rsaRecreateNumbers d = .ok (beDec (d.take (ks / 8)), beDec (d.drop (ks / 8))) := by
  unfold rsaRecreateNumbers
  cases hf : KeysTables.rsaSupportedKeySizes.find?
      (fun ks => KeysTables.rsaRawWindow (KeysTables.rsaKeySizeBytes ks) d.length) with
  | none =>
    have := List.find?_eq_none.1 hf ks hks
    rw [rsaWin_iff] at this
    simp only [KeysTables.rsaKeySizeBytes] at this
    omega
  | some ks' =>
    have hp := List.find?_some hf
    have hm := List.mem_of_find?_eq_some hf
    rw [rsaWin_iff] at hp
    simp only [KeysTables.rsaKeySizeBytes] at hp ⊢
    have : ks' / 8 = ks / 8 := by
      rcases rsaSizes_cases ks hks with rfl | rfl | rfl <;>
        rcases rsaSizes_cases ks' hm with rfl | rfl | rfl <;> omega
    rw [this]

theorem rsa_raw_roundtrip (ks n e : Nat) (hks : ks ∈ KeysTables.rsaSupportedKeySizes) (hn : TopBit n ks)
    (he : 65536 ≤ e ∧ e < 2 ^ 32) :
    ∃ d, rsaExportNxp n e = .ok d ∧ d = beEnc (ks / 8) n ++ beEnc (byteLen e) e ∧
      (d.length = ks / 8 + 3 ∨ d.length = ks / 8 + 4) ∧ rsaRecreateNumbers d = .ok (n, e) := by
  have hk : ks = 8 * (ks / 8) ∧ 0 < ks / 8 := by
    rcases rsaSizes_cases ks hks with rfl | rfl | rfl <;> omega
  have hbn : byteLen n = ks / 8 := byteLen_topbit n ks (ks / 8) hk.1 hk.2 hn
  have hbe := byteLen_exp e he
  have hlen : (beEnc (ks / 8) n ++ beEnc (byteLen e) e).length = ks / 8 + byteLen e := by
    rw [List.length_append, beEnc_length', beEnc_length']
  refine ⟨_, ?_, rfl, ?_, ?_⟩
  · rw [rsaExport_eq, hbn]
  · rw [hlen]; omega
  · rw [rsaRecreate_of_len _ ks hks (by rw [hlen]; omega)]
    rw [List.take_left' (beEnc_length' _ _), List.drop_left' (beEnc_length' _ _)]
    rw [beDec_beEnc _ _ (lt_pow_byteLen e), beDec_beEnc]
    rw [← hbn]; exact lt_pow_byteLen n

theorem eccGetCurve_raw (c : Curve) :
    eccGetCurve (2 * c.cl) none = .ok (c, false) ∧ eccGetCurve (2 * c.cl) (some c) = .ok (c, false) := by
  cases c <;> decide

theorem eccRecreate_raw (ext : Ext) (c : Curve) (x y : Nat) (hx : x < 256 ^ c.cl) (hy : y < 256 ^ c.cl)
    (hon : ext.onCurve c x y = true) (o : Option Curve) (ho : eccGetCurve (2 * c.cl) o = .ok (c, false)) :
    eccRecreateFromData ext (rawSig c x y) o = .ok (.ecc c x y) := by
  have hl : (rawSig c x y).length = 2 * c.cl := pair_length _ _ _
  have hh : 2 * c.cl / 2 = c.cl := by omega
  unfold eccRecreateFromData
  rw [hl, ho]
  simp only [hh]
  unfold rawSig
  rw [take_pair, drop_pair, beDec_beEnc _ _ hx, beDec_beEnc _ _ hy, hon]
  simp

theorem ecc_raw_roundtrip (ext : Ext) (c : Curve) (x y : Nat) (hx : x < 256 ^ c.cl) (hy : y < 256 ^ c.cl)
    (hon : ext.onCurve c x y = true) :
    eccExportNxp c x y = .ok (rawSig c x y) ∧ (rawSig c x y).length = 2 * c.cl ∧
      eccRecreateFromData ext (rawSig c x y) none = .ok (.ecc c x y) ∧
      eccRecreateFromData ext (rawSig c x y) (some c) = .ok (.ecc c x y) :=
  ⟨rawPair_ok _ _ _ hx hy, pair_length _ _ _,
   eccRecreate_raw ext c x y hx hy hon none (eccGetCurve_raw c).1,
   eccRecreate_raw ext c x y hx hy hon (some c) (eccGetCurve_raw c).2⟩

theorem raw_lengths_unambiguous (L : Nat) :
    (eccMatches L).length + (rsaMatches L).length ≤ 1 ∧ (sigMatches L).length ≤ 1 := by
  refine ⟨?_, by rw [sigMatches, List.length_map]; exact (sigStep_excl L).length_filter⟩
  have hecc : Excl (fun c : Curve => (KeysTables.eccGetCurveStep c.keySize L).isSome) Curve.all := by
    refine excl_three _ _ _ _ ?_
    simp only [Curve.keySize, ← Bool.not_eq_true, eccStep_isSome_iff]
    omega
  have hrsa : Excl (fun ks => KeysTables.rsaRawWindow (KeysTables.rsaKeySizeBytes ks) L) KeysTables.rsaSupportedKeySizes := by
    refine excl_three _ _ _ _ ?_
    simp only [KeysTables.rsaKeySizeBytes, ← Bool.not_eq_true, rsaWin_iff]
    omega
  rw [eccMatches, length_filterMap_map]
  -- an ECC blob has at most 141 bytes, an RSA one at least 259
  by_cases hL : L < 200
  · have : rsaMatches L = [] := List.filter_eq_nil_iff.2 (fun ks hks => by
      simp only [KeysTables.rsaSupportedKeySizes, List.mem_cons, List.not_mem_nil, or_false] at hks
      rw [rsaWin_iff, KeysTables.rsaKeySizeBytes]; omega)
    rw [this]; exact hecc.length_filter
  · rw [List.filter_eq_nil_iff.2 (fun c _ => by simp [eccStep_large c L (by omega)])]
    exact (Nat.zero_add _).symm ▸ hrsa.length_filter

theorem utf8_ascii : ∀ (f : Nat) (d : Bytes), d.length ≤ f → (∀ b ∈ d, b.toNat < 128) → utf8ValidF f d = true := by
  intro f
  induction f with
  | zero => intro d hl _; cases d with
    | nil => simp [utf8ValidF]
    | cons a t => simp at hl
  | succ f ih =>
    intro d hl ha
    cases d with
    | nil => simp [utf8ValidF]
    | cons a t =>
      have h1 : a.toNat < 128 := ha a (by simp)
      simp [utf8ValidF, h1]
      apply ih
      · simp at hl; omega
      · intro b hb; exact ha b (by simp [hb])

theorem eccGetCurve_rsa_len (ks L : Nat) (hks : ks ∈ KeysTables.rsaSupportedKeySizes)
    (h : ks / 8 + 3 ≤ L ∧ L ≤ ks / 8 + 4) : eccGetCurve L none = .error .spsdk := by
  have hL : 142 ≤ L := by rcases rsaSizes_cases ks hks with rfl | rfl | rfl <;> omega
  simp [eccGetCurve, Curve.all, eccStep_large _ L hL]

end SpsdkVerif.Keys.B
