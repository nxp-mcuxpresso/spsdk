/-
Helper lemmas for the HEX / S-record clause of C16 (Model/HexFmt.lean): hex text, record round trips, line
splitting, the reader's `Segments.add` on ascending input, chunking / normalisation, the whole-file round
trips (also through the format sniffing of `load_binary_image`), and checksum detection of a changed byte.
Core Lean only.
-/
import SpsdkVerif.Model.HexFmt
namespace SpsdkVerif.HexFmt

theorem hexVal_hexDigit (n : Nat) (h : n < 16) : hexVal (hexDigit n) = some n := by
  have : ∀ k : Fin 16, hexVal (hexDigit k.val) = some k.val := by decide
  exact this ⟨n, h⟩

theorem hexDigit_not_space (n : Nat) (h : n < 16) : isSpace (hexDigit n) = false ∧ (hexDigit n).toNat < 128 := by
  have : ∀ k : Fin 16, isSpace (hexDigit k.val) = false ∧ (hexDigit k.val).toNat < 128 := by decide
  exact this ⟨n, h⟩

theorem byte_recompose (b : UInt8) : UInt8.ofNat (b.toNat / 16 * 16 + b.toNat % 16) = b := by
  have : b.toNat / 16 * 16 + b.toNat % 16 = b.toNat := by omega
  rw [this]; exact UInt8.ofNat_toNat

theorem unhex_hexBytes (v : Bytes) : unhex (hexBytes v) = some v := by
  induction v with
  | nil => rfl
  | cons b bs ih =>
    have hb := b.toNat_lt
    simp only [hexBytes, unhex, ih]
    rw [hexVal_hexDigit _ (by omega), hexVal_hexDigit _ (by omega)]
    simp only [byte_recompose]

theorem hexBytes_length (v : Bytes) : (hexBytes v).length = 2 * v.length := by
  induction v with
  | nil => rfl
  | cons b bs ih => simp [hexBytes, ih]; omega

theorem hexBytes_not_space (v : Bytes) : ∀ c ∈ hexBytes v, isSpace c = false ∧ c.toNat < 128 := by
  induction v with
  | nil => simp [hexBytes]
  | cons b bs ih =>
    have hb := b.toNat_lt
    intro c hc
    simp only [hexBytes, List.mem_cons] at hc
    rcases hc with rfl | rfl | hc
    · exact hexDigit_not_space _ (by omega)
    · exact hexDigit_not_space _ (by omega)
    · exact ih c hc

theorem beBytes_length (w n : Nat) : (beBytes w n).length = w := by
  induction w generalizing n with
  | zero => rfl
  | succ w ih => simp [beBytes, ih]

theorem beNat_beBytes (w n : Nat) (h : n < 256 ^ w) : beNat (beBytes w n) = n := by
  induction w generalizing n with
  | zero => simp [beBytes, beNat] at *; omega
  | succ w ih =>
    have hp : 0 < 256 ^ w := Nat.pow_pos (by decide)
    have h1 : n / 256 ^ w < 256 := by
      rw [Nat.div_lt_iff_lt_mul hp]; rw [Nat.pow_succ] at h; rw [Nat.mul_comm]; exact h
    simp only [beBytes, beNat, beBytes_length]
    rw [ih _ (Nat.mod_lt _ hp), UInt8.toNat_ofNat']
    have : n / 256 ^ w % 2 ^ 8 = n / 256 ^ w := Nat.mod_eq_of_lt (by simpa using h1)
    rw [this]
    exact Nat.div_add_mod' n (256 ^ w)

theorem toNat_ofNat_lt (n : Nat) (h : n < 256) : (UInt8.ofNat n).toNat = n := by
  rw [UInt8.toNat_ofNat']; exact Nat.mod_eq_of_lt (by simpa using h)

theorem dropLast_cons_concat (x : UInt8) (l : Bytes) (c : UInt8) : (x :: (l ++ [c])).dropLast = x :: l :=
  List.dropLast_concat (l₁ := x :: l)

theorem getLast?_cons_concat (x : UInt8) (l : Bytes) (c : UInt8) : (x :: (l ++ [c])).getLast? = some c :=
  List.getLast?_concat (l := x :: l)

theorem unpackIhex_packIhex (t a : Nat) (d : Bytes) (ht : t < 256) (ha : a < 65536) (hd : d.length < 256) :
    unpackIhex (packIhex t a d) = .ok (t, a, d) := by
  have hbe : beBytes 2 a = [UInt8.ofNat (a / 256), UInt8.ofNat (a % 256)] := by simp [beBytes]
  simp only [unpackIhex, packIhex, hbe, List.cons_append, List.nil_append, unhex_hexBytes, List.dropLast_cons_cons,
    dropLast_cons_concat, List.getLast?_concat, List.dropLast_concat, List.length_cons, List.length_append,
    hexBytes_length, toNat_ofNat_lt _ hd, ne_eq, not_true_eq_false, if_false]
  rw [if_neg (by omega), if_neg (by simp)]
  simp only [beNat, List.length_cons, List.length_nil, toNat_ofNat_lt _ ht, toNat_ofNat_lt (a / 256) (by omega),
    toNat_ofNat_lt (a % 256) (by omega)]
  congr 2
  simp; omega

theorem unpackSrec_packSrec (t : UInt8) (w a : Nat) (d : Bytes) (hw : srecWidth t = some w) (ha : a < 256 ^ w)
    (hd : d.length + w + 1 < 256) : unpackSrec (packSrec t w a d) = .ok (t, a, d) := by
  have hbl := beBytes_length w a
  simp only [unpackSrec, packSrec, List.cons_append, unhex_hexBytes, hw, dropLast_cons_concat, getLast?_cons_concat,
    List.length_cons, List.length_append, hexBytes_length, hbl, toNat_ofNat_lt _ hd, ne_eq, not_true_eq_false, if_false]
  rw [if_neg (by omega), if_neg (by simp; omega), Nat.add_comm 1 w, List.take_succ_cons, List.drop_one, List.tail_cons,
    List.drop_succ_cons, List.append_assoc, List.take_left' hbl, List.drop_left' hbl, beNat_beBytes _ _ ha]

/-- a record as the writers emit it: non-empty, no white space, 7-bit -/
def Clean (r : Bytes) : Prop := r ≠ [] ∧ ∀ c ∈ r, isSpace c = false ∧ c.toNat < 128

theorem isNL_of_not_space (c : UInt8) (h : isSpace c = false) : isNL c = false := by
  simp only [isNL, isSpace, Bool.or_eq_false_iff, beq_eq_false_iff_ne, Bool.and_eq_false_iff, decide_eq_false_iff_not] at *
  obtain ⟨⟨_, h2⟩, _⟩ := h
  constructor
  · intro hc; subst hc; simp at h2
  · intro hc; subst hc; simp at h2

theorem splitLines_ne_nil (t : Bytes) : splitLines t ≠ [] := by
  cases t with
  | nil => simp [splitLines]
  | cons c cs =>
    simp only [splitLines]
    split
    · simp
    · split <;> simp

theorem splitLines_append (r rest : Bytes) (h : ∀ c ∈ r, isSpace c = false) :
    splitLines (r ++ 10 :: rest) = r :: splitLines rest := by
  induction r with
  | nil => simp [splitLines, isNL]
  | cons c cs ih =>
    have hc := isNL_of_not_space c (h c (by simp))
    have := ih (fun x hx => h x (by simp [hx]))
    simp only [List.cons_append, splitLines, hc, this]
    simp

theorem dropWhile_clean (r : Bytes) (h : Clean r) : r.dropWhile isSpace = r := by
  cases r with
  | nil => rfl
  | cons c cs => simp [List.dropWhile, (h.2 c (by simp)).1]

theorem rstrip_clean (r : Bytes) (h : Clean r) : rstrip r = r := by
  have hr : Clean r.reverse := ⟨by simpa using h.1, fun c hc => h.2 c (by simpa using hc)⟩
  rw [rstrip, dropWhile_clean _ hr, List.reverse_reverse]

theorem strip_clean (r : Bytes) (h : Clean r) : strip r = r := by
  rw [strip, dropWhile_clean r h, rstrip_clean r h]

theorem cleanLines_joinLines (recs : List Bytes) (h : ∀ r ∈ recs, Clean r) : cleanLines (joinLines recs) = recs := by
  induction recs with
  | nil => simp [cleanLines, joinLines, splitLines, strip, rstrip]
  | cons r rs ih =>
    have hr := h r (by simp)
    have ih := ih (fun x hx => h x (by simp [hx]))
    unfold cleanLines at *
    rw [joinLines, splitLines_append r _ (fun c hc => (hr.2 c hc).1), List.map_cons, strip_clean r hr, List.filter_cons]
    have : (!r.isEmpty) = true := by
      cases r with
      | nil => exact absurd rfl hr.1
      | cons _ _ => rfl
    rw [if_pos this, ih]

theorem clean_packIhex (t a : Nat) (d : Bytes) : Clean (packIhex t a d) := by
  refine ⟨by simp [packIhex], ?_⟩
  intro c hc
  simp only [packIhex, List.mem_cons] at hc
  rcases hc with rfl | hc
  · decide
  · exact hexBytes_not_space _ c hc

theorem clean_packSrec (t : UInt8) (w a : Nat) (d : Bytes) (ht : isSpace t = false ∧ t.toNat < 128) : Clean (packSrec t w a d) := by
  refine ⟨by simp [packSrec], ?_⟩
  intro c hc
  simp only [packSrec, List.mem_cons] at hc
  rcases hc with rfl | rfl | hc
  · decide
  · exact ht
  · exact hexBytes_not_space _ c hc

theorem firstLine_joinLines (r : Bytes) (rs : List Bytes) (h : Clean r) : firstLine (joinLines (r :: rs)) = r := by
  have : ∀ (r rest : Bytes), (∀ c ∈ r, isSpace c = false) → (r ++ 10 :: rest).takeWhile (fun c => !isNL c) = r := by
    intro r rest h2
    induction r with
    | nil => simp [isNL]
    | cons c cs ih =>
      simp only [List.cons_append, List.takeWhile, isNL_of_not_space c (h2 c (by simp)), Bool.not_false]
      rw [ih (fun x hx => h2 x (by simp [hx]))]
  rw [firstLine, joinLines, this r _ (fun c hc => (h.2 c hc).1), rstrip_clean r h]

theorem nil_or_snoc {α} (l : List α) : l = [] ∨ ∃ pre c, l = pre ++ [c] := by
  rcases List.eq_nil_or_concat l with h | ⟨pre, c, h⟩
  · exact Or.inl h
  · exact Or.inr ⟨pre, c, by rw [h, List.concat_eq_append]⟩

theorem Seg.max_def (s : Seg) : s.max = s.addr + s.data.length := rfl

def lastMax : List Seg → Nat
  | [] => 0
  | [s] => s.max
  | _ :: y :: rest => lastMax (y :: rest)

theorem lastMax_concat (pre : List Seg) (c : Seg) : lastMax (pre ++ [c]) = c.max := by
  induction pre with
  | nil => rfl
  | cons x xs ih =>
    cases xs with
    | nil => simp [lastMax]
    | cons y ys => simpa [lastMax] using ih

theorem addSorted_concat (pre : List Seg) (c s : Seg) : addSorted (pre ++ [c]) s = pre ++ addSorted [c] s := by
  induction pre with
  | nil => rfl
  | cons x xs ih =>
    cases xs with
    | nil => simp [addSorted]
    | cons y ys => simpa [addSorted] using ih

def BelowLast (l : List Seg) : Prop := ∀ s ∈ l, s.max ≤ lastMax l

theorem addSorted_ne_nil (acc : List Seg) (s : Seg) : addSorted acc s ≠ [] := by
  induction acc, s using addSorted.induct with
  | case1 s => simp [addSorted]
  | case2 l s heq => simp [addSorted, heq]
  | case3 l s hne => simp [addSorted, hne]
  | case4 x y rest s _ => simp [addSorted]

theorem mem_addSorted (acc : List Seg) (s x : Seg) (hx : x ∈ addSorted acc s) : x ∈ acc ∨ x.max = s.max := by
  induction acc, s using addSorted.induct with
  | case1 s => exact Or.inr (by rw [List.mem_singleton.1 hx])
  | case2 l s heq =>
    rw [addSorted, if_pos heq, List.mem_singleton] at hx
    exact Or.inr (by rw [hx]; simp only [Seg.max_def, List.length_append] at *; omega)
  | case3 l s hne =>
    rw [addSorted, if_neg hne] at hx
    rcases List.mem_cons.1 hx with rfl | hx
    · exact Or.inl (by simp)
    · exact Or.inr (by rw [List.mem_singleton.1 hx])
  | case4 a b rest s ih =>
    rcases List.mem_cons.1 hx with rfl | hx
    · exact Or.inl (by simp)
    · exact (ih hx).imp_left (List.mem_cons_of_mem _)

theorem lastMax_addSorted (acc : List Seg) (s : Seg) : lastMax (addSorted acc s) = s.max := by
  induction acc, s using addSorted.induct with
  | case1 s => rfl
  | case2 l s heq => rw [addSorted, if_pos heq]; simp only [lastMax, Seg.max_def, List.length_append] at *; omega
  | case3 l s hne => rw [addSorted, if_neg hne]; rfl
  | case4 a b rest s ih =>
    rw [addSorted]
    cases h : addSorted (b :: rest) s with
    | nil => exact absurd h (addSorted_ne_nil _ _)
    | cons y ys => rw [h] at ih; exact ih

theorem addSorted_props (l : List Seg) (s : Seg) (hb : BelowLast l) (hs : lastMax l ≤ s.addr) :
    BelowLast (addSorted l s) ∧ lastMax (addSorted l s) = s.max := by
  refine ⟨fun x hx => ?_, lastMax_addSorted l s⟩
  rw [lastMax_addSorted]
  rcases mem_addSorted l s x hx with h | h
  · exact Nat.le_trans (hb x h) (Nat.le_trans hs (Nat.le_add_right _ _))
  · exact Nat.le_of_eq h

/-- on an ascending list whose current segment is the last one, the reader's `Segments.add` of data at or behind
    the end is `addSorted` -/
theorem add_sorted (l : List Seg) (s : Seg) (hb : BelowLast l) (hs : lastMax l ≤ s.addr) :
    SegList.add ⟨l, l.length - 1⟩ s = .ok ⟨addSorted l s, (addSorted l s).length - 1⟩ := by
  rcases nil_or_snoc l with rfl | ⟨pre, c, rfl⟩
  · simp [SegList.add, addSorted]
  · rw [lastMax_concat] at hs
    have hb' : ∀ x ∈ pre ++ [c], x.max ≤ c.max := fun x hx => lastMax_concat pre c ▸ hb x hx
    have hcur : (pre ++ [c]).length - 1 = pre.length := by simp
    rw [SegList.add, addSorted_concat, (by simp : (pre ++ [c]).isEmpty = false)]
    simp only [hcur, Bool.false_eq_true, if_false, List.getElem?_concat_length, addSorted]
    split
    · simp [finishAdd, absorb]
    · rw [List.findIdx?_eq_none_iff.2 fun x hx => by
        have := hb' x hx; simp only [decide_eq_false_iff_not]; omega]
      simp

/-- ascending from `m`, non-overlapping (adjacent allowed), non-empty, inside the 32-bit address space -/
def SegsFrom (m : Nat) : List Seg → Prop
  | [] => True
  | s :: rest => m ≤ s.addr ∧ s.data ≠ [] ∧ s.max ≤ 2 ^ 32 ∧ SegsFrom s.max rest

theorem chunksAux_nil (f a : Nat) : chunksAux f a [] = [] := by
  cases f <;> simp [chunksAux]

theorem addSorted_merge (acc : List Seg) (a : Nat) (t r : Bytes) :
    addSorted (addSorted acc ⟨a, t⟩) ⟨a + t.length, r⟩ = addSorted acc ⟨a, t ++ r⟩ := by
  rcases nil_or_snoc acc with rfl | ⟨pre, c, rfl⟩
  · simp [addSorted, Seg.max]
  · rw [addSorted_concat, addSorted_concat]
    simp only [addSorted]
    by_cases h : a = c.max
    · simp only [h, if_true]
      rw [addSorted_concat]
      simp [addSorted, Seg.max, Nat.add_assoc]
    · simp only [h, if_false]
      have : pre ++ [c, Seg.mk a t] = (pre ++ [c]) ++ [Seg.mk a t] := by simp
      rw [this, addSorted_concat]
      simp [addSorted, Seg.max]

theorem foldl_addSorted_chunks (f : Nat) : ∀ (acc : List Seg) (a : Nat) (d : Bytes), d.length ≤ f → d ≠ [] →
    (chunksAux f a d).foldl addSorted acc = addSorted acc ⟨a, d⟩ := by
  induction f with
  | zero => intro acc a d h hne; cases d <;> simp_all
  | succ f ih =>
    intro acc a d h hne
    have he : d.isEmpty = false := by cases d <;> simp_all
    simp only [chunksAux, he, Bool.false_eq_true, if_false, List.foldl_cons]
    by_cases hd : d.drop 32 = []
    · rw [hd, chunksAux_nil, List.foldl_nil]
      have : d.take 32 = d := by
        have := List.take_append_drop 32 d
        rw [hd, List.append_nil] at this; exact this
      rw [this]
    · have hlen : 32 < d.length := by
        apply Nat.lt_of_not_le; intro hle; exact hd (List.drop_of_length_le hle)
      rw [ih _ _ _ (by rw [List.length_drop]; omega) hd]
      have h32 : a + 32 = a + (d.take 32).length := by rw [List.length_take]; omega
      rw [h32, addSorted_merge, List.take_append_drop]

theorem foldl_addSorted_flatMap (l : List Seg) : ∀ acc, (∀ s ∈ l, s.data ≠ []) →
    (l.flatMap Seg.chunks).foldl addSorted acc = l.foldl addSorted acc := by
  induction l with
  | nil => intro acc _; rfl
  | cons s rest ih =>
    intro acc h
    rw [List.flatMap_cons, List.foldl_append, List.foldl_cons, Seg.chunks,
      foldl_addSorted_chunks _ _ _ _ (Nat.le_refl _) (h s (by simp))]
    exact ih _ (fun x hx => h x (by simp [hx]))

theorem segsFrom_chunksAux (f : Nat) : ∀ (m a : Nat) (d : Bytes) (rest : List Seg), d ≠ [] → d.length ≤ f → m ≤ a →
    a + d.length ≤ 2 ^ 32 → SegsFrom (a + d.length) rest → SegsFrom m (chunksAux f a d ++ rest) := by
  induction f with
  | zero => exact fun m a d rest hne h => absurd (List.length_eq_zero_iff.1 (Nat.le_zero.1 h)) hne
  | succ f ih =>
    intro m a d rest hne h hm hb hr
    have hpos := List.length_pos_iff.mpr hne
    rw [chunksAux, if_neg (by simpa using hne), List.cons_append]
    refine ⟨hm, fun ht => ?_, ?_, ?_⟩
    · have := congrArg List.length ht
      rw [List.length_take, List.length_nil] at this; omega
    · simp only [Seg.max_def, List.length_take]; omega
    · simp only [Seg.max_def, List.length_take]
      by_cases hl : d.length ≤ 32
      · rw [List.drop_of_length_le hl, chunksAux_nil, List.nil_append, Nat.min_eq_right hl]; exact hr
      · have hd : (d.drop 32).length = d.length - 32 := List.length_drop
        rw [show min 32 d.length = 32 by omega]
        refine ih _ _ _ _ (fun h0 => ?_) (by omega) (Nat.le_refl _) (by omega) (by rw [hd, show a + 32 + (d.length - 32) = a + d.length by omega]; exact hr)
        rw [h0] at hd; simp at hd; omega

theorem segsFrom_flatMap_chunks (l : List Seg) : ∀ m, SegsFrom m l → SegsFrom m (l.flatMap Seg.chunks) := by
  induction l with
  | nil => exact fun m _ => trivial
  | cons s rest ih =>
    intro m ⟨h1, h2, h3, h4⟩
    rw [List.flatMap_cons, Seg.chunks]
    exact segsFrom_chunksAux _ m s.addr s.data _ h2 (Nat.le_refl _) h1 h3 (ih _ h4)

theorem chunksAux_len (f : Nat) : ∀ (a : Nat) (d : Bytes), ∀ c ∈ chunksAux f a d, c.data.length ≤ 32 := by
  induction f with
  | zero => intro a d c hc; simp [chunksAux] at hc
  | succ f ih =>
    intro a d c hc
    simp only [chunksAux] at hc
    split at hc
    · simp at hc
    · rw [List.mem_cons] at hc
      rcases hc with rfl | hc
      · simp only [List.length_take]; omega
      · exact ih _ _ c hc

theorem flatMap_chunks_len (l : List Seg) : ∀ c ∈ l.flatMap Seg.chunks, c.data.length ≤ 32 := by
  intro c hc
  rw [List.mem_flatMap] at hc
  obtain ⟨s, _, hc⟩ := hc
  exact chunksAux_len _ _ _ c hc

theorem segsFrom_addSorted (acc : List Seg) (x : Seg) : ∀ (m : Nat) (xs : List Seg),
    SegsFrom m (acc ++ x :: xs) → SegsFrom m (addSorted acc x ++ xs) := by
  induction acc, x using addSorted.induct with
  | case1 x => intro m xs h; simpa [addSorted] using h
  | case2 l x heq =>
    intro m xs h
    simp only [addSorted, heq, if_true]
    simp only [List.cons_append, List.nil_append, SegsFrom] at h ⊢
    obtain ⟨h1, h2, h3, h4, h5, h6, h7⟩ := h
    have hm : (Seg.mk l.addr (l.data ++ x.data)).max = x.max := by
      simp only [Seg.max, List.length_append] at *; omega
    refine ⟨h1, by simp [h2], by rw [hm]; exact h6, by rw [hm]; exact h7⟩
  | case3 l x hne =>
    intro m xs h
    simp only [addSorted, hne, if_false]
    simpa using h
  | case4 a b rest x ih =>
    intro m xs h
    simp only [addSorted, List.cons_append, SegsFrom] at h ⊢
    obtain ⟨h1, h2, h3, h4⟩ := h
    exact ⟨h1, h2, h3, ih _ _ h4⟩

theorem segsFrom_foldl (xs : List Seg) : ∀ (m : Nat) (acc : List Seg), SegsFrom m (acc ++ xs) →
    SegsFrom m (xs.foldl addSorted acc) := by
  induction xs with
  | nil => intro m acc h; simpa using h
  | cons x xs ih =>
    intro m acc h
    rw [List.foldl_cons]
    exact ih m _ (segsFrom_addSorted acc x m xs h)

theorem segsFrom_normalize (m : Nat) (l : List Seg) (h : SegsFrom m l) : SegsFrom m (normalize l) :=
  segsFrom_foldl l m [] (by simpa using h)

theorem segsFrom_of_pairwise (l : List Seg) : ∀ m, (∀ s ∈ l, m ≤ s.addr ∧ s.data ≠ [] ∧ s.max ≤ 2 ^ 32) →
    l.Pairwise (fun a b => a.max ≤ b.addr) → SegsFrom m l := by
  induction l with
  | nil => intro _ _ _; trivial
  | cons s rest ih =>
    intro m h1 h2
    rw [List.pairwise_cons] at h2
    obtain ⟨ha, hb, hc⟩ := h1 s (by simp)
    refine ⟨ha, hb, hc, ih _ ?_ h2.2⟩
    intro x hx
    obtain ⟨_, hb', hc'⟩ := h1 x (by simp [hx])
    exact ⟨h2.1 x hx, hb', hc'⟩

theorem segsFrom_mem (l : List Seg) : ∀ m, SegsFrom m l → ∀ s ∈ l, s.data ≠ [] ∧ s.max ≤ 2 ^ 32 := by
  induction l with
  | nil => exact fun m _ s hs => nomatch hs
  | cons x xs ih =>
    intro m h s hs
    rcases List.mem_cons.1 hs with rfl | hs
    · exact ⟨h.2.1, h.2.2.1⟩
    · exact ih _ h.2.2.2 s hs

/-- no two consecutive segments touch -/
def NoAdj : List Seg → Prop
  | [] => True
  | [_] => True
  | a :: b :: rest => a.max ≠ b.addr ∧ NoAdj (b :: rest)

theorem addSorted_head (b : Seg) (rest : List Seg) (s : Seg) :
    ∃ b' rest', addSorted (b :: rest) s = b' :: rest' ∧ b'.addr = b.addr := by
  cases rest with
  | nil =>
    simp only [addSorted]
    split
    · exact ⟨_, _, rfl, rfl⟩
    · exact ⟨_, _, rfl, rfl⟩
  | cons y ys => exact ⟨b, _, rfl, rfl⟩

theorem noAdj_addSorted (acc : List Seg) (s : Seg) : NoAdj acc → NoAdj (addSorted acc s) := by
  induction acc, s using addSorted.induct with
  | case1 s => intro _; simp [addSorted, NoAdj]
  | case2 l s heq => intro _; simp [addSorted, heq, NoAdj]
  | case3 l s hne =>
    intro _
    simp only [addSorted, hne, if_false, NoAdj, and_true]
    exact fun h => hne h.symm
  | case4 a b rest s ih =>
    intro h
    obtain ⟨h1, h2⟩ := h
    obtain ⟨b', rest', he, ha⟩ := addSorted_head b rest s
    have := ih h2
    simp only [addSorted]
    rw [he] at this ⊢
    exact ⟨by rw [ha]; exact h1, this⟩

theorem noAdj_normalize (l : List Seg) : NoAdj (normalize l) := by
  unfold normalize
  suffices ∀ acc, NoAdj acc → NoAdj (l.foldl addSorted acc) from this [] trivial
  induction l with
  | nil => intro acc h; exact h
  | cons x xs ih => intro acc h; exact ih _ (noAdj_addSorted acc x h)

theorem addSorted_noAdj (acc : List Seg) (x : Seg) : ∀ xs, NoAdj (acc ++ x :: xs) → addSorted acc x = acc ++ [x] := by
  induction acc, x using addSorted.induct with
  | case1 x => intro _ _; rfl
  | case2 l x heq =>
    intro xs h
    simp only [List.cons_append, List.nil_append, NoAdj] at h
    exact absurd heq.symm h.1
  | case3 l x hne => intro _ _; simp [addSorted, hne]
  | case4 a b rest x ih =>
    intro xs h
    simp only [List.cons_append, NoAdj] at h
    simp only [addSorted, List.cons_append]
    rw [ih xs (by simpa using h.2)]
    simp

theorem foldl_addSorted_noAdj (l : List Seg) : ∀ acc, NoAdj (acc ++ l) → l.foldl addSorted acc = acc ++ l := by
  induction l with
  | nil => intro acc _; simp
  | cons x xs ih =>
    intro acc h
    rw [List.foldl_cons, addSorted_noAdj acc x xs h, ih _ (by simpa using h)]
    simp

theorem normalize_of_noAdj (l : List Seg) (h : NoAdj l) : normalize l = l := by
  simpa [normalize] using foldl_addSorted_noAdj l [] (by simpa using h)

theorem normalize_idem (l : List Seg) : normalize (normalize l) = normalize l :=
  normalize_of_noAdj _ (noAdj_normalize l)

/-! ## the readers on emitted records

The reader state is written out (`⟨segs, esa, ela, exec, header⟩`); while ascending data is read the current segment is the
last one (`atLast`). -/

abbrev atLast (l : List Seg) : SegList := ⟨l, l.length - 1⟩

theorem runLines_cons_ok {step : DecState → Bytes → Except HErr DecState} {st st' : DecState} {r : Bytes} (rs : List Bytes)
    (h : step st r = .ok st') : runLines step st (r :: rs) = runLines step st' rs := by
  simp [runLines, h]

theorem ihexStep_data (st : DecState) (lo : Nat) (d : Bytes) (sl : SegList) (hlo : lo < 65536) (hd : d.length < 256)
    (h : st.segs.add ⟨lo + st.esa + st.ela, d⟩ = .ok sl) :
    ihexStep st (packIhex 0 lo d) = .ok { st with segs := sl } := by
  simp [ihexStep, unpackIhex_packIhex 0 lo d (by decide) hlo hd, h]

theorem ihexStep_ela (st : DecState) (up : Nat) (h : up < 65536) :
    ihexStep st (packIhex 4 0 (beBytes 2 up)) = .ok { st with ela := up * 65536 } := by
  have : (beBytes 2 up).isEmpty = false := by simp [beBytes]
  unfold ihexStep
  rw [unpackIhex_packIhex 4 0 _ (by decide) (by decide) (by rw [beBytes_length]; decide)]
  simp [this, beNat_beBytes 2 up (by simpa using h)]

theorem ihexStep_start (st : DecState) (e : Nat) (h : e < 2 ^ 32) :
    ihexStep st (packIhex 5 0 (beBytes 4 e)) = .ok { st with exec := some e } := by
  have : (beBytes 4 e).isEmpty = false := by simp [beBytes]
  unfold ihexStep
  rw [unpackIhex_packIhex 5 0 _ (by decide) (by decide) (by rw [beBytes_length]; decide)]
  simp [this, beNat_beBytes 4 e (by simpa using h)]

theorem ihexStep_eof (st : DecState) : ihexStep st (packIhex 1 0 []) = .ok st := by
  simp [ihexStep, unpackIhex_packIhex 1 0 [] (by decide) (by decide) (by decide)]

theorem run_ihexRecs (cs : List Seg) : ∀ (l : List Seg) (ela : Nat) (x : Option Nat) (hd : Option Bytes) (rest : List Bytes),
    BelowLast l → SegsFrom (lastMax l) cs → (∀ c ∈ cs, c.data.length ≤ 32) → ela * 65536 ≤ lastMax l →
    ∃ ela', runLines ihexStep ⟨atLast l, 0, ela * 65536, x, hd⟩ (ihexRecs ela cs ++ rest) =
      runLines ihexStep ⟨atLast (cs.foldl addSorted l), 0, ela', x, hd⟩ rest := by
  induction cs with
  | nil => exact fun l ela x hd rest _ _ _ _ => ⟨_, rfl⟩
  | cons c cs ih =>
    intro l ela x hd rest hb ⟨h1, h2, h3, h4⟩ hlen hela
    have hpos := List.length_pos_iff.mpr h2
    have hcl := hlen c (by simp)
    rw [Seg.max_def] at h3
    obtain ⟨hb', hlm⟩ := addSorted_props l c hb h1
    -- the data record, once the upper address half is the chunk's
    have hdata : ihexStep ⟨atLast l, 0, c.addr / 65536 * 65536, x, hd⟩ (packIhex 0 (c.addr % 65536) c.data) =
        .ok ⟨atLast (addSorted l c), 0, c.addr / 65536 * 65536, x, hd⟩ :=
      ihexStep_data _ _ _ _ (Nat.mod_lt _ (by decide)) (by omega) (by
        rw [show c.addr % 65536 + 0 + c.addr / 65536 * 65536 = c.addr by omega]; exact add_sorted l c hb h1)
    have hnext := ih (addSorted l c) (c.addr / 65536) x hd rest hb' (by rw [hlm]; exact h4)
      (fun y hy => hlen y (by simp [hy]))
      (by rw [hlm, Seg.max_def]; exact Nat.le_trans (Nat.div_mul_le_self _ _) (Nat.le_add_right _ _))
    simp only [ihexRecs, List.foldl_cons]
    split
    · rw [List.cons_append, List.cons_append, runLines_cons_ok _ (ihexStep_ela _ (c.addr / 65536) (by omega)),
        runLines_cons_ok _ hdata]
      exact hnext
    · rw [show ela = c.addr / 65536 by omega, List.cons_append, runLines_cons_ok _ hdata]
      exact hnext

theorem srecStep_data (st : DecState) (a : Nat) (d : Bytes) (sl : SegList) (ha : a < 2 ^ 32) (hd : d.length ≤ 32)
    (h : st.segs.add ⟨a, d⟩ = .ok sl) :
    srecStep st (packSrec 51 4 a d) = .ok { st with segs := sl } := by
  simp [srecStep, unpackSrec_packSrec 51 4 a d (by decide) (by simpa using ha) (by omega), h]

/-- a record count (S5, S6) is skipped -/
theorem srecStep_count (st : DecState) (t : UInt8) (w n : Nat) (ht : t = 53 ∧ w = 2 ∨ t = 54 ∧ w = 3) (h : n < 256 ^ w) :
    srecStep st (packSrec t w n []) = .ok st := by
  rcases ht with ⟨rfl, rfl⟩ | ⟨rfl, rfl⟩
  · simp [srecStep, unpackSrec_packSrec 53 2 n [] (by decide) h (by decide)]
  · simp [srecStep, unpackSrec_packSrec 54 3 n [] (by decide) h (by decide)]

theorem srecStep_start (st : DecState) (e : Nat) (h : e < 2 ^ 32) :
    srecStep st (packSrec 55 4 e []) = .ok { st with exec := some e } := by
  simp [srecStep, unpackSrec_packSrec 55 4 e [] (by decide) (by simpa using h) (by decide)]

theorem run_srecRecs (cs : List Seg) : ∀ (l : List Seg) (x : Option Nat) (hd : Option Bytes) (rest : List Bytes),
    BelowLast l → SegsFrom (lastMax l) cs → (∀ c ∈ cs, c.data.length ≤ 32) →
    runLines srecStep ⟨atLast l, 0, 0, x, hd⟩ (cs.map (fun c => packSrec 51 4 c.addr c.data) ++ rest) =
      runLines srecStep ⟨atLast (cs.foldl addSorted l), 0, 0, x, hd⟩ rest := by
  induction cs with
  | nil => exact fun l x hd rest _ _ _ => rfl
  | cons c cs ih =>
    intro l x hd rest hb ⟨h1, h2, h3, h4⟩ hlen
    have hpos := List.length_pos_iff.mpr h2
    rw [Seg.max_def] at h3
    obtain ⟨hb', hlm⟩ := addSorted_props l c hb h1
    have hstep : srecStep ⟨atLast l, 0, 0, x, hd⟩ (packSrec 51 4 c.addr c.data) = .ok ⟨atLast (addSorted l c), 0, 0, x, hd⟩ :=
      srecStep_data _ _ _ _ (by omega) (hlen c (by simp)) (add_sorted l c hb h1)
    rw [List.map_cons, List.cons_append, runLines_cons_ok _ hstep, List.foldl_cons]
    exact ih (addSorted l c) x hd rest hb' (by rw [hlm]; exact h4) (fun y hy => hlen y (by simp [hy]))

/-- the chunk list both writers emit, and what the readers rebuild from it -/
theorem chunks_facts (segs : List Seg) (h : SegsFrom 0 segs) :
    SegsFrom 0 ((normalize segs).flatMap Seg.chunks) ∧
    (∀ c ∈ (normalize segs).flatMap Seg.chunks, c.data.length ≤ 32) ∧
    ((normalize segs).flatMap Seg.chunks).foldl addSorted [] = normalize segs := by
  have hN := segsFrom_normalize 0 segs h
  refine ⟨segsFrom_flatMap_chunks _ 0 hN, flatMap_chunks_len _, ?_⟩
  rw [foldl_addSorted_flatMap _ _ (fun s hs => (segsFrom_mem _ 0 hN s hs).1)]
  exact normalize_idem segs

/-- everything `as_ihex` emits is a `pack_ihex` record -/
theorem ihex_shape (exec : Option Nat) (cs : List Seg) : ∀ ela, ∀ r ∈ ihexRecs ela cs ++ ihexFooter exec,
    ∃ t a d, r = packIhex t a d := by
  induction cs with
  | nil =>
    intro ela r hr
    cases exec <;> simp only [ihexRecs, ihexFooter, List.nil_append, List.cons_append, List.mem_cons, List.not_mem_nil,
      or_false] at hr
    · exact ⟨_, _, _, hr⟩
    · rcases hr with rfl | rfl <;> exact ⟨_, _, _, rfl⟩
  | cons c cs ih =>
    intro ela r hr
    simp only [ihexRecs] at hr
    split at hr <;> simp only [List.cons_append, List.mem_cons] at hr
    · rcases hr with rfl | rfl | hr
      · exact ⟨_, _, _, rfl⟩
      · exact ⟨_, _, _, rfl⟩
      · exact ih _ r hr
    · rcases hr with rfl | hr
      · exact ⟨_, _, _, rfl⟩
      · exact ih _ r hr

theorem ihex_clean (exec : Option Nat) (cs : List Seg) (ela : Nat) : ∀ r ∈ ihexRecs ela cs ++ ihexFooter exec, Clean r := by
  intro r hr
  obtain ⟨t, a, d, rfl⟩ := ihex_shape exec cs ela r hr
  exact clean_packIhex t a d

theorem run_ihexFooter (sl : SegList) (esa ela : Nat) (hd : Option Bytes) (exec : Option Nat)
    (he : ∀ e, exec = some e → e < 2 ^ 32) :
    runLines ihexStep ⟨sl, esa, ela, none, hd⟩ (ihexFooter exec) = .ok ⟨sl, esa, ela, exec, hd⟩ := by
  cases exec with
  | none => exact (runLines_cons_ok _ (ihexStep_eof _)).trans rfl
  | some e =>
    exact (runLines_cons_ok _ (ihexStep_start _ e (he e rfl))).trans ((runLines_cons_ok _ (ihexStep_eof _)).trans rfl)

theorem ihex_roundtrip_from (exec : Option Nat) (segs : List Seg) (h : SegsFrom 0 segs) (he : ∀ e, exec = some e → e < 2 ^ 32) :
    ∃ text, ihexEncode exec segs = .ok text ∧ ihexDecode text = .ok ⟨normalize segs, exec⟩ ∧
      text = joinLines (ihexRecs 0 ((normalize segs).flatMap Seg.chunks) ++ ihexFooter exec) := by
  obtain ⟨hcs, hlen, hfold⟩ := chunks_facts segs h
  refine ⟨_, ?_, ?_, rfl⟩
  · have : ((normalize segs).flatMap Seg.chunks).any (fun c => decide (c.addr > 0xffffffff)) = false := by
      rw [List.any_eq_false]
      intro c hc
      obtain ⟨h1, h2⟩ := segsFrom_mem _ 0 hcs c hc
      have := List.length_pos_iff.mpr h1
      rw [Seg.max_def] at h2
      simp only [decide_eq_true_eq]; omega
    simp only [ihexEncode, this, Bool.false_eq_true, if_false]
  · obtain ⟨ela', hrun⟩ := run_ihexRecs _ [] 0 none none (ihexFooter exec) nofun hcs hlen (Nat.zero_le _)
    rw [ihexDecode, cleanLines_joinLines _ (ihex_clean exec _ 0)]
    show (match runLines ihexStep ⟨atLast [], 0, 0 * 65536, none, none⟩ _ with | .error e => _ | .ok st => _) = _
    rw [hrun, run_ihexFooter _ _ _ _ exec he, hfold]
    rfl

theorem srecFooter_eq (n : Nat) (exec : Option Nat) (f : List Bytes) (h : srecFooter n exec = .ok f) :
    ∃ t w, (t = 53 ∧ w = 2 ∨ t = 54 ∧ w = 3) ∧ n < 256 ^ w ∧ f = packSrec t w n [] :: srecTail exec := by
  unfold srecFooter at h
  split at h
  · cases h; exact ⟨53, 2, Or.inl ⟨rfl, rfl⟩, by omega, rfl⟩
  · split at h
    · cases h; exact ⟨54, 3, Or.inr ⟨rfl, rfl⟩, by omega, rfl⟩
    · cases h

/-- everything `as_srec` emits is a clean line -/
theorem srec_clean (cs : List Seg) (n : Nat) (exec : Option Nat) (f : List Bytes) (h : srecFooter n exec = .ok f) :
    ∀ r ∈ cs.map (fun c => packSrec 51 4 c.addr c.data) ++ f, Clean r := by
  obtain ⟨t, w, ht, _, rfl⟩ := srecFooter_eq n exec f h
  intro r hr
  simp only [List.mem_append, List.mem_map, List.mem_cons] at hr
  rcases hr with ⟨c, _, rfl⟩ | rfl | hr
  · exact clean_packSrec _ _ _ _ (by decide)
  · rcases ht with ⟨rfl, _⟩ | ⟨rfl, _⟩ <;> exact clean_packSrec _ _ _ _ (by decide)
  · cases exec <;> simp only [srecTail, List.not_mem_nil, List.mem_singleton] at hr
    subst hr; exact clean_packSrec _ _ _ _ (by decide)

theorem run_srecFooter (sl : SegList) (hd : Option Bytes) (n : Nat) (exec : Option Nat) (f : List Bytes)
    (h : srecFooter n exec = .ok f) (he : ∀ e, exec = some e → e < 2 ^ 32) :
    runLines srecStep ⟨sl, 0, 0, none, hd⟩ f = .ok ⟨sl, 0, 0, exec, hd⟩ := by
  obtain ⟨t, w, ht, hn, rfl⟩ := srecFooter_eq n exec f h
  rw [runLines_cons_ok _ (srecStep_count _ t w n ht hn)]
  cases exec with
  | none => rfl
  | some e => exact (runLines_cons_ok _ (srecStep_start _ e (he e rfl))).trans rfl

theorem srec_roundtrip_from (exec : Option Nat) (segs : List Seg) (h : SegsFrom 0 segs) (he : ∀ e, exec = some e → e < 2 ^ 32)
    (hn : ((normalize segs).flatMap Seg.chunks).length ≤ 0xffffff) :
    ∃ text footer, srecEncode exec segs = .ok text ∧ srecDecode text = .ok ⟨normalize segs, exec⟩ ∧
      text = joinLines (((normalize segs).flatMap Seg.chunks).map (fun c => packSrec 51 4 c.addr c.data) ++ footer) ∧
      srecFooter ((normalize segs).flatMap Seg.chunks).length exec = .ok footer := by
  obtain ⟨hcs, hlen, hfold⟩ := chunks_facts segs h
  obtain ⟨f, hf⟩ : ∃ f, srecFooter ((normalize segs).flatMap Seg.chunks).length exec = .ok f := by
    by_cases h1 : ((normalize segs).flatMap Seg.chunks).length ≤ 0xffff
    · exact ⟨_, by rw [srecFooter, if_pos h1]⟩
    · exact ⟨_, by rw [srecFooter, if_neg h1, if_pos hn]⟩
  refine ⟨_, f, by simp only [srecEncode, hf], ?_, rfl, hf⟩
  rw [srecDecode, cleanLines_joinLines _ (srec_clean _ _ _ f hf)]
  show (match runLines srecStep ⟨atLast [], 0, 0, none, none⟩ _ with | .error e => _ | .ok st => _) = _
  rw [run_srecRecs _ [] none none f nofun hcs hlen, run_srecFooter _ _ _ exec f hf he, hfold]
  rfl

theorem joinLines_ascii (recs : List Bytes) (h : ∀ r ∈ recs, Clean r) : (joinLines recs).any (fun c => decide (c.toNat ≥ 128)) = false := by
  induction recs with
  | nil => rfl
  | cons r rs ih =>
    rw [joinLines, List.any_append, List.any_cons, ih (fun x hx => h x (by simp [hx]))]
    have : r.any (fun c => decide (c.toNat ≥ 128)) = false := by
      rw [List.any_eq_false]
      intro c hc
      have := ((h r (by simp)).2 c hc).2
      simp only [decide_eq_true_eq]; omega
    rw [this]; rfl

theorem normalize_ne_nil (segs : List Seg) (h : segs ≠ []) : normalize segs ≠ [] := by
  unfold normalize
  suffices ∀ (l acc : List Seg), acc ≠ [] → l.foldl addSorted acc ≠ [] by
    cases segs with
    | nil => exact absurd rfl h
    | cons x xs => rw [List.foldl_cons]; exact this xs _ (addSorted_ne_nil [] x)
  intro l
  induction l with
  | nil => intro acc h; exact h
  | cons x xs ih => intro acc _; rw [List.foldl_cons]; exact ih _ (addSorted_ne_nil acc x)

theorem unpackSrec_packIhex (t a : Nat) (d : Bytes) : unpackSrec (packIhex t a d) = .error .fmt := by
  unfold unpackSrec
  have hlen : ¬ (packIhex t a d).length < 6 := by
    simp [packIhex, hexBytes_length]; omega
  rw [if_neg hlen]
  simp [packIhex, hexBytes]

/-- a reader that accepts a text has accepted its first line -/
theorem decode_first_ok (step : DecState → Bytes → Except HErr DecState) (r : Bytes) (rs : List Bytes) (img : Image)
    (h : (match runLines step {} (r :: rs) with | .error e => Except.error e | .ok st => Except.ok st.image) = .ok img) :
    ∃ st1, step {} r = .ok st1 := by
  simp only [runLines] at h
  cases hs : step {} r with
  | error e => rw [hs] at h; cases h
  | ok st1 => exact ⟨st1, rfl⟩

/-- `load_binary_image` on emitted records: the text is ASCII, the first line is the first record, and the image read is
    not empty; what is left is the choice of the reader by that first record -/
theorem load_of_decode (r : Bytes) (rs : List Bytes) (hc : ∀ x ∈ r :: rs, Clean x) (img : Image) (hne : img.segs ≠ [])
    (h : (∃ v, unpackSrec r = .ok v ∧ srecDecode (joinLines (r :: rs)) = .ok img) ∨
      (unpackSrec r = .error .fmt ∧ ∃ v, unpackIhex r = .ok v ∧ ihexDecode (joinLines (r :: rs)) = .ok img)) :
    loadText (joinLines (r :: rs)) = .ok img := by
  unfold loadText
  rw [joinLines_ascii _ hc, firstLine_joinLines r rs (hc r (by simp))]
  rcases h with ⟨v, h1, h2⟩ | ⟨h1, v, h2, h3⟩
  · simp [h1, h2, hne]
  · simp [h1, h2, h3, hne]

theorem load_ihex_roundtrip_from (exec : Option Nat) (segs : List Seg) (h : SegsFrom 0 segs) (hne : segs ≠ [])
    (he : ∀ e, exec = some e → e < 2 ^ 32) :
    ∃ text, ihexEncode exec segs = .ok text ∧ loadText text = .ok ⟨normalize segs, exec⟩ := by
  obtain ⟨text, henc, hdec, rfl⟩ := ihex_roundtrip_from exec segs h he
  refine ⟨_, henc, ?_⟩
  have hclean := ihex_clean exec ((normalize segs).flatMap Seg.chunks) 0
  have hshape := ihex_shape exec ((normalize segs).flatMap Seg.chunks) 0
  cases hrs : ihexRecs 0 ((normalize segs).flatMap Seg.chunks) ++ ihexFooter exec with
  | nil => cases exec <;> simp [ihexFooter] at hrs
  | cons r rs =>
    rw [hrs] at hclean hshape hdec
    obtain ⟨t, a, d, rfl⟩ := hshape r (by simp)
    have hdec' := hdec
    rw [ihexDecode, cleanLines_joinLines _ hclean] at hdec'
    obtain ⟨st1, hstep⟩ := decode_first_ok ihexStep _ rs _ hdec'
    refine load_of_decode _ rs hclean _ (normalize_ne_nil segs hne) (Or.inr ⟨unpackSrec_packIhex t a d, ?_⟩)
    cases hu : unpackIhex (packIhex t a d) with
    | error e => simp [ihexStep, hu] at hstep
    | ok v => exact ⟨v, rfl, hdec⟩

theorem load_srec_roundtrip_from (exec : Option Nat) (segs : List Seg) (h : SegsFrom 0 segs) (hne : segs ≠ [])
    (he : ∀ e, exec = some e → e < 2 ^ 32) (hn : ((normalize segs).flatMap Seg.chunks).length ≤ 0xffffff) :
    ∃ text, srecEncode exec segs = .ok text ∧ loadText text = .ok ⟨normalize segs, exec⟩ := by
  obtain ⟨text, footer, henc, hdec, rfl, hf⟩ := srec_roundtrip_from exec segs h he hn
  refine ⟨_, henc, ?_⟩
  have hclean := srec_clean ((normalize segs).flatMap Seg.chunks) _ exec footer hf
  cases hrs : ((normalize segs).flatMap Seg.chunks).map (fun c => packSrec 51 4 c.addr c.data) ++ footer with
  | nil =>
    obtain ⟨_, _, _, _, rfl⟩ := srecFooter_eq _ exec footer hf
    simp at hrs
  | cons r rs =>
    rw [hrs] at hclean hdec
    have hdec' := hdec
    rw [srecDecode, cleanLines_joinLines _ hclean] at hdec'
    obtain ⟨st1, hstep⟩ := decode_first_ok srecStep _ rs _ hdec'
    refine load_of_decode _ rs hclean _ (normalize_ne_nil segs hne) (Or.inl ?_)
    cases hu : unpackSrec r with
    | error e => simp [srecStep, hu] at hstep
    | ok v => exact ⟨v, rfl, hdec⟩

/-- the byte a segment list holds at absolute address `a` (first segment covering it) -/
def memAt : List Seg → Nat → Option UInt8
  | [], _ => none
  | s :: rest, a => if s.addr ≤ a ∧ a < s.max then s.data[a - s.addr]? else memAt rest a

/-- the byte a single segment holds at address `a`; `memAt` and the overwrite semantics are `Option.or`s of these -/
def Seg.get (s : Seg) (a : Nat) : Option UInt8 := if s.addr ≤ a then s.data[a - s.addr]? else none

theorem Seg.get_eq_none (s : Seg) (a : Nat) : s.get a = none ↔ a < s.addr ∨ s.max ≤ a := by
  rw [Seg.get, Seg.max_def]
  split
  · rw [List.getElem?_eq_none_iff]; omega
  · simp only [true_iff]; omega

-- `Seg.max` stays folded here: unfolding it by `simp` would leave the `Decidable` instance of the `if` behind
theorem Seg.ite_get (s : Seg) (a : Nat) (x : Option UInt8) :
    (if s.addr ≤ a ∧ a < s.max then s.data[a - s.addr]? else x) = (s.get a).or x := by
  have hm := s.max_def
  rw [Seg.get]
  split
  · rw [if_pos (by omega), List.getElem?_eq_getElem (by omega)]; rfl
  · split
    · rw [List.getElem?_eq_none (by omega)]; rfl
    · rfl

theorem memAt_cons (s : Seg) (rest : List Seg) (a : Nat) : memAt (s :: rest) a = (s.get a).or (memAt rest a) :=
  Seg.ite_get s a _

theorem memAt_eq_none (l : List Seg) (a : Nat) : memAt l a = none ↔ ∀ s ∈ l, a < s.addr ∨ s.max ≤ a := by
  induction l with
  | nil => simp [memAt]
  | cons s rest ih => simp only [memAt_cons, Option.or_eq_none_iff, Seg.get_eq_none, ih, List.mem_cons, forall_eq_or_imp]

theorem Seg.get_append (b : Nat) (d e : Bytes) (a : Nat) :
    (Seg.mk b (d ++ e)).get a = ((Seg.mk b d).get a).or ((Seg.mk (b + d.length) e).get a) := by
  simp only [Seg.get, List.getElem?_append]
  split
  · split
    · rw [List.getElem?_eq_getElem ‹_›]; rfl
    · rw [(List.getElem?_eq_none (by omega) : d[a - b]? = none), if_pos (by omega), Nat.sub_add_eq]; rfl
  · rw [if_neg (by omega)]; rfl

theorem memAt_append (l r : List Seg) (a : Nat) : memAt (l ++ r) a = (memAt l a).or (memAt r a) := by
  induction l with
  | nil => rfl
  | cons s rest ih => rw [List.cons_append, memAt_cons, memAt_cons, ih, Option.or_assoc]

theorem memAt_addSorted (acc : List Seg) (s : Seg) (a : Nat) : memAt (addSorted acc s) a = memAt (acc ++ [s]) a := by
  induction acc, s using addSorted.induct with
  | case1 s => rfl
  | case2 l s heq =>
    rw [addSorted, if_pos heq, List.singleton_append, memAt_cons, memAt_cons, memAt_cons, Seg.get_append, Option.or_assoc,
      ← l.max_def, ← heq]
  | case3 l s hne => rw [addSorted, if_neg hne]; rfl
  | case4 x y rest s ih => rw [addSorted, List.cons_append, memAt_cons, memAt_cons, ih]

theorem memAt_foldl (xs : List Seg) (a : Nat) : ∀ acc, memAt (xs.foldl addSorted acc) a = memAt (acc ++ xs) a := by
  induction xs with
  | nil => intro acc; simp
  | cons x xs ih =>
    intro acc
    rw [List.foldl_cons, ih, memAt_append, memAt_addSorted, ← memAt_append]
    simp

theorem sumBytes_append (a b : Bytes) : sumBytes (a ++ b) = sumBytes a + sumBytes b := by
  induction a with
  | nil => simp [sumBytes]
  | cons x xs ih => simp [sumBytes, ih]; omega

theorem sum_of_crcIhex (v : Bytes) (h : v.getLast? = some (crcIhex v.dropLast)) : sumBytes v % 256 = 0 := by
  rcases nil_or_snoc v with rfl | ⟨init, last, rfl⟩
  · simp at h
  · rw [List.getLast?_concat, List.dropLast_concat] at h
    simp only [Option.some.injEq] at h
    rw [sumBytes_append, h]
    simp only [sumBytes, crcIhex, UInt8.toNat_ofNat']
    omega

theorem sum_of_crcSrec (v : Bytes) (h : v.getLast? = some (crcSrec v.dropLast)) : sumBytes v % 256 = 255 := by
  rcases nil_or_snoc v with rfl | ⟨init, last, rfl⟩
  · simp at h
  · rw [List.getLast?_concat, List.dropLast_concat] at h
    simp only [Option.some.injEq] at h
    rw [sumBytes_append, h]
    simp only [sumBytes, crcSrec, UInt8.toNat_ofNat']
    omega

theorem sum_single_byte (pre post : Bytes) (x y : UInt8) (h : sumBytes (pre ++ x :: post) % 256 = sumBytes (pre ++ y :: post) % 256) :
    x = y := by
  simp only [sumBytes_append, sumBytes] at h
  have hx := x.toNat_lt
  have hy := y.toNat_lt
  apply UInt8.toNat_inj.mp
  omega

theorem hexBytes_inj (a b : Bytes) (h : hexBytes a = hexBytes b) : a = b := by
  have := congrArg unhex h
  rw [unhex_hexBytes, unhex_hexBytes] at this
  exact Option.some.inj this

theorem unpackIhex_ok_sum (v : Bytes) (r : Nat × Nat × Bytes) (h : unpackIhex (58 :: hexBytes v) = .ok r) : sumBytes v % 256 = 0 := by
  unfold unpackIhex at h
  split at h
  · cases h
  · simp only [ne_eq, not_true_eq_false, if_false, unhex_hexBytes] at h
    split at h
    · rename_i value sz ah al ty tl hlen
      split at h
      · cases h
      · split at h
        · cases h
        · rename_i hcrc
          apply sum_of_crcIhex
          rw [Decidable.not_not] at hcrc
          rw [← hcrc]
          rename_i hsz
          rw [Decidable.not_not] at hsz
          cases tl with
          | nil => simp at hsz
          | cons z zs => simp [List.getLast?_cons_cons]
    · cases h

theorem unpackSrec_ok_sum (t : UInt8) (v : Bytes) (r : UInt8 × Nat × Bytes) (h : unpackSrec (83 :: t :: hexBytes v) = .ok r) :
    sumBytes v % 256 = 255 := by
  unfold unpackSrec at h
  split at h
  · cases h
  · simp only [ne_eq, not_true_eq_false, if_false, unhex_hexBytes] at h
    split at h
    · cases h
    · split at h
      · cases h
      · split at h
        · cases h
        · split at h
          · cases h
          · rename_i hcrc
            rw [Decidable.not_not] at hcrc
            exact sum_of_crcSrec _ hcrc

end SpsdkVerif.HexFmt
