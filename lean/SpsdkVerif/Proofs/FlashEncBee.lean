/-
C13 — BEE: `Bee.exportImage` refines the block-wise specification; the hardware model inverts it.
-/
import SpsdkVerif.Proofs.FlashEncCommon

namespace SpsdkVerif.FlashEnc
open SpsdkVerif SpsdkVerif.Crypto
open SpsdkVerif.Misc (beEnc beDec leEnc leDec)
open SpsdkVerif.Generated.FlashEncConsts

variable {c : CryptoOps}

theorem bee_hit_unit (k : Nat) (f : Fac) (hs : f.start % k = 0) (hl : f.length % k = 0) (a a' : Nat) (hu : a / k = a' / k) :
    f.hit a = f.hit a' := by
  rw [Bool.eq_iff_iff]
  simp only [Fac.hit, Bool.and_eq_true, decide_eq_true_eq]
  exact aligned_mem_iff hs (by rw [Nat.add_mod, hs, hl]; rfl) hu

section Spec
variable (h : CryptoLaws c) (es : List BeeEngine)

theorem beeSpec_eq : ∀ (n a : Nat) (m : Bytes),
    beeSpec c es n a m = mapPieces 16 (beeSpecPiece c es) n a m
  | 0, _, _ => rfl
  | n + 1, a, m => congrArg _ (beeSpec_eq n (a + 16) (m.drop 16))

theorem beeSpecImage_eq : beeSpecImage c es = mapImage 16 (beeSpecPiece c es) :=
  funext fun _ => funext fun _ => beeSpec_eq es _ _ _

theorem beeHwRead_eq : ∀ (n a : Nat) (ct : Bytes),
    beeHwRead c es n a ct = mapPieces 16 (beeHw c es) n a ct
  | 0, _, _ => rfl
  | n + 1, a, ct => congrArg _ (beeHwRead_eq n (a + 16) (ct.drop 16))

include h in
theorem bee_specPiece_len : PieceLen 16 (beeSpecPiece c es) :=
  ⟨rfl, fun a p h0 h16 => by
    unfold beeSpecPiece
    split
    · rw [xorBytes_length, zeroPad16_length_piece p h0 h16, h.enc_len]; omega
    · omega⟩

include h in
theorem bee_spec_length (base : Nat) (img : Bytes) :
    img.length ≤ (beeSpecImage c es base img).length ∧
    (beeSpecImage c es base img).length ≤ (img.length + 15) / 16 * 16 := by
  rw [beeSpecImage_eq]
  exact mapImage_length (bee_specPiece_len h es) base img

theorem bee_spec_append (base : Nat) (p q : Bytes) (hp : p.length % 16 = 0) :
    beeSpecImage c es base (p ++ q) = beeSpecImage c es base p ++ beeSpecImage c es (base + p.length) q := by
  rw [beeSpecImage_eq]
  exact mapImage_append q base p hp

include h in
/-- a byte whose own address lies in no FAC region is left as it is -/
theorem bee_spec_outside (hwf : ∀ e ∈ es, e.WF)
    (base : Nat) (hb : base % 16 = 0) (img : Bytes) (i : Nat) (hi : i < img.length)
    (hout : ∀ e ∈ es, ∀ f ∈ e.facs, f.hit (base + i) = false) :
    (beeSpecImage c es base img)[i]? = img[i]? := by
  have hact : beeActive es (base + i / 16 * 16) = none := by
    refine List.find?_eq_none.mpr fun e he => ?_
    simp only [List.any_eq_true, not_exists, not_and, Bool.not_eq_true]
    intro f hf
    have hw := (hwf e he).facs f hf
    rw [bee_hit_unit 16 f (by omega) (by omega) _ (base + i) (by omega)]
    exact hout e he f hf
  rw [beeSpecImage_eq]
  exact mapImage_outside (bee_specPiece_len h es) base img i hi
    fun p => by simp only [beeSpecPiece, hact]

include h in
theorem bee_hw_specPiece (a : Nat) (p : Bytes)
    (h0 : 0 < p.length) (h16 : p.length ≤ 16) :
    beeHw c es a (beeSpecPiece c es a p) = p ∨ beeHw c es a (beeSpecPiece c es a p) = zeroPad 16 p := by
  unfold beeHw beeSpecPiece beeActive
  cases hf : es.find? (fun e => e.facs.any (fun f => f.hit a)) with
  | none => left; rfl
  | some e =>
    right
    simp only
    exact xorBytes_cancel_eq _ _ (by rw [zeroPad16_length_piece p h0 h16, h.enc_len])

include h in
/-- the engine reading the specified ciphertext returns the plaintext -/
theorem bee_spec_hw (base : Nat) (img : Bytes) :
    (beeHwReadAll c es base (beeSpecImage c es base img)).take img.length = img := by
  rw [beeHwReadAll, beeHwRead_eq, beeSpecImage_eq]
  exact mapImage_inv (bee_specPiece_len h es) (A := fun _ => True) (fun _ _ => trivial)
    (fun a p _ => bee_hw_specPiece h es a p) base img trivial

end Spec

theorem bee_counterValue (e : BeeEngine) (hw : e.WF) (a : Nat) :
    counterValue e.counter (a >>> beeCtrAddrShift) = e.counter.take 12 ++ beEnc 4 (a / 16) := by
  simp only [counterValue, hw.ctr_low, beeCtrAddrShift, Nat.shiftRight_eq_div_pow]
  simp [beDec]

theorem bee_foldl_min (l : List Fac) : ∀ (init : Nat),
    l.foldl (fun m f => min m f.start) init ≤ init ∧ ∀ f ∈ l, l.foldl (fun m f => min m f.start) init ≤ f.start := by
  induction l with
  | nil => intro init; simp
  | cons x t ih =>
    intro init
    obtain ⟨i1, i2⟩ := ih (min init x.start)
    simp only [List.foldl_cons, List.mem_cons, forall_eq_or_imp]
    exact ⟨by omega, by omega, i2⟩

theorem bee_foldl_max (l : List Fac) : ∀ (init : Nat),
    init ≤ l.foldl (fun m f => max m f.end_) init ∧ ∀ f ∈ l, f.end_ ≤ l.foldl (fun m f => max m f.end_) init := by
  induction l with
  | nil => intro init; simp
  | cons x t ih =>
    intro init
    obtain ⟨i1, i2⟩ := ih (max init x.end_)
    simp only [List.foldl_cons, List.mem_cons, forall_eq_or_imp]
    exact ⟨by omega, by omega, i2⟩

theorem bee_inside_of_hit (e : BeeEngine) (f : Fac) (hf : f ∈ e.facs) (a : Nat) (hit : f.hit a = true) :
    e.isInsideRegion a = true := by
  have h1 : e.envStart ≤ f.start := (bee_foldl_min e.facs (if e.facs.isEmpty then 0 else 0xFFFFFFFF)).2 f hf
  have h2 : f.end_ ≤ e.envEnd := (bee_foldl_max e.facs 0).2 f hf
  simp only [Fac.hit, Bool.and_eq_true, decide_eq_true_eq] at hit
  simp only [BeeEngine.isInsideRegion, Bool.and_eq_true, decide_eq_true_eq]
  simp only [Fac.end_] at h2
  omega

theorem bee_facLoop (e : BeeEngine) (hc : e.counter.length = 16) (a : Nat) (data : Bytes)
    (hu : a % 1024 + data.length ≤ 1024) :
    ∀ (l : List Fac), (∀ f ∈ l, f.start % 1024 = 0 ∧ f.length % 1024 = 0) →
      BeeEngine.facLoop c e a data l =
        .ok (if l.any (fun f => f.hit a) then
          ctrXor c e.key (counterValue e.counter (a >>> beeCtrAddrShift)) (zeroPad 16 data) else data)
  | [], _ => rfl
  | f :: rest, hal => by
    have hf := hal f List.mem_cons_self
    have ih := bee_facLoop e hc a data hu rest (fun g hg => hal g (List.mem_cons_of_mem _ hg))
    have hcond : (decide (f.start ≤ a) && decide (a < f.end_)) = f.hit a := rfl
    rw [BeeEngine.facLoop, hcond, List.any_cons]
    cases hh : f.hit a
    · simp only [Bool.false_eq_true, if_false, Bool.false_or]
      exact ih
    · simp only [Fac.hit, Bool.and_eq_true, decide_eq_true_eq] at hh
      have : ¬ (a + data.length > f.end_) := by simp only [Fac.end_]; omega
      simp [this, hc]

theorem bee_encryptBlock (e : BeeEngine) (hw : e.WF) (a : Nat) (data : Bytes) (hu : a % 1024 + data.length ≤ 1024) :
    e.encryptBlock c a data =
      .ok (if e.facs.any (fun f => f.hit a) then
        ctrXor c e.key (counterValue e.counter (a >>> beeCtrAddrShift)) (zeroPad 16 data) else data) := by
  have hlen : ¬ data.length > beeEncrBlockSize := by simp only [beeEncrBlockSize]; omega
  simp only [BeeEngine.encryptBlock, hlen, if_false]
  cases hin : e.isInsideRegion a
  · have : e.facs.any (fun f => f.hit a) = false := by
      rw [List.any_eq_false]
      intro f hf hh
      rw [bee_inside_of_hit e f hf a hh] at hin
      exact absurd hin (by simp)
    simp [this]
  · simp only [if_true, hw.key_len, ne_eq, not_true_eq_false, if_false]
    exact bee_facLoop e hw.ctr_len a data hu e.facs (fun f hf => ⟨(hw.facs f hf).1, (hw.facs f hf).2.1⟩)

/-- absent headers are skipped -/
theorem bee_headersStep_engines (a : Nat) : ∀ (hs : List (Option BeeEngine)) (block : Bytes),
    beeHeadersStep c a hs block = beeHeadersStep c a ((beeEngines hs).map some) block
  | [], _ => rfl
  | none :: rest, block => bee_headersStep_engines a rest block
  | some e :: rest, block => by
    show (match e.encryptBlock c a block with
      | .error err => (.error err : PyRes Bytes)
      | .ok b => beeHeadersStep c a rest b) = (match e.encryptBlock c a block with
      | .error err => (.error err : PyRes Bytes)
      | .ok b => beeHeadersStep c a ((beeEngines rest).map some) b)
    cases e.encryptBlock c a block with
    | error _ => rfl
    | ok b => exact bee_headersStep_engines a rest b

theorem bee_enginesStep_none (a : Nat) : ∀ (es : List BeeEngine), (∀ e ∈ es, e.WF) →
    (∀ e ∈ es, e.facs.any (fun f => f.hit a) = false) → ∀ (data : Bytes), a % 1024 + data.length ≤ 1024 →
    beeHeadersStep c a (es.map some) data = .ok data
  | [], _, _, _, _ => rfl
  | e :: rest, hwf, hno, data, hu => by
    obtain ⟨hwe, hwf'⟩ := List.forall_mem_cons.mp hwf
    obtain ⟨hne, hno'⟩ := List.forall_mem_cons.mp hno
    simp only [List.map_cons, beeHeadersStep, bee_encryptBlock e hwe a data hu, hne, Bool.false_eq_true, if_false]
    exact bee_enginesStep_none a rest hwf' hno' data hu

/-- among engines with disjoint FAC regions only the one that owns the address encrypts the block -/
theorem bee_enginesStep (h : CryptoLaws c) (a : Nat) (ha : a % 16 = 0) :
    ∀ (es : List BeeEngine), (∀ e ∈ es, e.WF) → BeeDisjoint es → ∀ (block : Bytes), a % 1024 + block.length ≤ 1024 →
      beeHeadersStep c a (es.map some) block =
        .ok (match beeActive es a with
          | none => block
          | some e => ctrXor c e.key (counterValue e.counter (a >>> beeCtrAddrShift)) (zeroPad 16 block))
  | [], _, _, _, _ => rfl
  | e :: rest, hwf, hd, block, hu => by
    obtain ⟨hwe, hwf'⟩ := List.forall_mem_cons.mp hwf
    obtain ⟨_, hdr, hcross⟩ := List.pairwise_append.mp (show (e.facs ++ beeAllFacs rest).Pairwise _ from hd)
    simp only [List.map_cons, beeHeadersStep, bee_encryptBlock e hwe a block hu, beeActive, List.find?_cons]
    cases hany : e.facs.any (fun f => f.hit a)
    · simp only [Bool.false_eq_true, if_false]
      exact bee_enginesStep h a ha rest hwf' hdr block hu
    · obtain ⟨f, hf, hfh⟩ := List.any_eq_true.mp hany
      simp only [if_true]
      refine bee_enginesStep_none a rest hwf' (fun x hx => List.any_eq_false.mpr fun g hg hgh => ?_) _
        (by rw [ctrXor_length h, zeroPad16_length]; omega)
      have := hcross f hf g (List.mem_flatMap.mpr ⟨x, hx, hg⟩)
      simp only [Fac.hit, Bool.and_eq_true, decide_eq_true_eq] at hfh hgh
      omega

theorem bee_active_unit (es : List BeeEngine) (hwf : ∀ e ∈ es, e.WF) (a a' : Nat) (hu : a / 1024 = a' / 1024) :
    beeActive es a = beeActive es a' :=
  find?_congr fun e he => by
    rw [Bool.eq_iff_iff, List.any_eq_true, List.any_eq_true]
    exact exists_congr fun f => and_congr_right fun hf => by
      rw [bee_hit_unit 1024 f ((hwf e he).facs f hf).1 ((hwf e he).facs f hf).2.1 a a' hu]

section Walk
variable (h : CryptoLaws c) (hs : List (Option BeeEngine)) (hwf : ∀ e ∈ beeEngines hs, e.WF)
  (hd : BeeDisjoint (beeEngines hs))
include h hwf hd

/-- one block inside one 1 KiB unit: the engines produce the specified bytes (one AES-CTR call over the block = the
    block-wise xor with the address counters) -/
theorem bee_headersStep_spec (a : Nat) (ha : a % 16 = 0) (block : Bytes)
    (hu : a % 1024 + block.length ≤ 1024) :
    beeHeadersStep c a hs block = .ok (mapImage 16 (beeSpecPiece c (beeEngines hs)) a block) := by
  have hunit : ∀ j, 16 * j < block.length → beeActive (beeEngines hs) (a + 16 * j) = beeActive (beeEngines hs) a :=
    fun j hj => bee_active_unit _ hwf _ _ (by omega)
  rw [bee_headersStep_engines, bee_enginesStep h a ha _ hwf hd block hu]
  cases hact : beeActive (beeEngines hs) a with
  | none =>
    exact congrArg _ ((mapImage_congr a block fun j p hj => by
      simp only [beeSpecPiece, hunit j hj, hact]).trans (mapImage_id a block)).symm
  | some e =>
    have hw := hwf e (List.mem_of_find?_eq_some hact)
    have hany := List.find?_some (p := fun e : BeeEngine => e.facs.any fun f => f.hit a) hact
    obtain ⟨f, hf, hfh⟩ := List.any_eq_true.mp hany
    have := (hw.facs f hf).2.2.2
    simp only [Fac.hit, Bool.and_eq_true, decide_eq_true_eq] at hfh
    simp only
    rw [bee_counterValue e hw a, ctrXor_pieces h e.key _ (by simp [hw.ctr_len]) (piecesFor 16 block.length) (a / 16) _
      (by rw [zeroPad16_length]; unfold piecesFor; omega) (by unfold piecesFor; omega),
      (by omega : 16 * (a / 16) = a), mapPieces_zeroPad16]
    exact congrArg _ (mapImage_congr a block fun j p hj => by
      simp only [beeSpecPiece, hunit j hj, hact])

theorem bee_loop_spec :
    ∀ (f a : Nat) (rest acc : Bytes), rest.length ≤ f → (rest ≠ [] → a % 1024 = 0) →
      beeLoop c hs f a rest acc = .ok (acc ++ mapImage 1024 (mapImage 16 (beeSpecPiece c (beeEngines hs))) a rest)
  | 0, a, rest, acc, hf, _ => by
    rw [List.eq_nil_of_length_eq_zero (Nat.le_zero.mp hf), mapImage_nil, List.append_nil]; rfl
  | f + 1, a, rest, acc, hf, ha => by
    by_cases hr : rest = []
    · rw [hr, mapImage_nil, List.append_nil]; rfl
    · have hal := ha hr
      -- if the walk goes on, the block was a whole unit and so is its ciphertext
      have hfull : rest.drop 1024 ≠ [] →
          (mapImage 16 (beeSpecPiece c (beeEngines hs)) a (rest.take 1024)).length = 1024 := fun hne => by
        have ht : (rest.take 1024).length = 1024 := by
          rw [List.length_take]; exact Nat.min_eq_left (Nat.le_of_lt (Nat.lt_of_not_le (mt List.drop_eq_nil_iff.mpr hne)))
        rw [mapImage_length_aligned (bee_specPiece_len h _) a (by rw [ht]), ht]
      rw [beeLoop, if_neg (by simpa using hr), beeEncrBlockSize,
        bee_headersStep_spec h hs hwf hd a (by omega) (rest.take 1024) (by rw [List.length_take]; omega),
        mapImage_cons hr, ← List.append_assoc]
      simp only
      rw [bee_loop_spec f _ (rest.drop 1024) _ (by rw [List.length_drop]; omega)
        fun hne => by rw [hfull hne]; omega]
      exact congrArg _ (congrArg _ (mapImage_addr fun hne => by rw [hfull hne]))

/-- `BeeNxp.export_image` with any first piece `fl` that ends inside the unit of `base` and, if the image goes on, at its end -/
theorem bee_first_then_walk (base : Nat) (hb : base % 16 = 0) (img : Bytes) (fl : Nat)
    (hfl : fl ≤ img.length) (hfu : base % 1024 + fl ≤ 1024) (hal : fl < img.length → (base + fl) % 1024 = 0) :
    (match (if fl = 0 then .ok [] else beeHeadersStep c base hs (img.take fl) : PyRes Bytes) with
      | .error e => (.error e : PyRes Bytes)
      | .ok b => beeLoop c hs img.length (base + b.length) (img.drop fl) b) =
      .ok (beeSpecImage c (beeEngines hs) base img) := by
  have ht : (img.take fl).length = fl := by rw [List.length_take, Nat.min_eq_left hfl]
  have h1 : (if fl = 0 then .ok [] else beeHeadersStep c base hs (img.take fl)) =
      .ok (mapImage 16 (beeSpecPiece c (beeEngines hs)) base (img.take fl)) := by
    split
    · next h0 => rw [h0, List.take_zero, mapImage_nil]
    · exact bee_headersStep_spec h hs hwf hd base hb _ (by omega)
  have hfl16 : fl < img.length → fl % 16 = 0 := fun hl => by have := hal hl; omega
  -- if the walk goes on, the first piece is a whole number of blocks and its ciphertext is as long
  have hfull : img.drop fl ≠ [] → (mapImage 16 (beeSpecPiece c (beeEngines hs)) base (img.take fl)).length = fl ∧
      (base + fl) % 1024 = 0 := fun hne => by
    have hl := Nat.lt_of_not_le (mt List.drop_eq_nil_iff.mpr hne)
    rw [mapImage_length_aligned (bee_specPiece_len h _) base (by rw [ht]; exact hfl16 hl), ht]
    exact ⟨rfl, hal hl⟩
  simp only [h1]
  rw [bee_loop_spec h hs hwf hd _ _ _ _ (by rw [List.length_drop]; omega) (fun hne => by rw [(hfull hne).1]; exact (hfull hne).2),
    beeSpecImage_eq, mapImage_first base img fl hfl16, mapImage_regroup (U := 1024) (by decide)]
  exact congrArg _ (congrArg _ (mapImage_addr fun hne => by rw [(hfull hne).1]))

/-- REFINEMENT: the code computes the block-wise specification (random padding of a short last block taken as zeros) -/
theorem bee_refines_spec (base : Nat) (hb : base % 16 = 0) (img : Bytes) :
    Bee.exportImage c hs img base = .ok (beeSpecImage c (beeEngines hs) base img) :=
  bee_first_then_walk h hs hwf hd base hb img _ (firstLen_le ..) (firstLen_unit (u := 1024) base img.length) (firstLen_aligned (u := 1024))

end Walk

end SpsdkVerif.FlashEnc
