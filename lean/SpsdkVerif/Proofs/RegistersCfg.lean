/- Helper lemmas for the C11 extension (alternative widths, configuration path) of Properties/C11.lean. -/
import SpsdkVerif.Model.Registers
import SpsdkVerif.Proofs.Registers
import SpsdkVerif.Proofs.Misc

namespace SpsdkVerif.Regs
open SpsdkVerif SpsdkVerif.Misc

theorem byteCnt_le_iff (v n : Nat) (hn : 0 < n) : byteCnt v ≤ n ↔ v < 256 ^ n := by
  unfold byteCnt
  split
  · next hv => subst hv; exact iff_of_true hn (Nat.pow_pos (by decide))
  · exact byteLen_le_iff v n

theorem foldl_min_le (as : List Nat) (a : Nat) :
    as.foldl min a ≤ a ∧ ∀ x ∈ as, as.foldl min a ≤ x := by
  induction as generalizing a with
  | nil => simp
  | cons b bs ih =>
    simp only [List.foldl_cons]
    obtain ⟨h1, h2⟩ := ih (min a b)
    refine ⟨Nat.le_trans h1 (Nat.min_le_left _ _), ?_⟩
    intro x hx
    simp at hx
    rcases hx with rfl | hx
    · exact Nat.le_trans h1 (Nat.min_le_right _ _)
    · exact h2 x hx

theorem foldl_min_mem (as : List Nat) (a : Nat) : as.foldl min a = a ∨ as.foldl min a ∈ as := by
  induction as generalizing a with
  | nil => simp
  | cons b bs ih =>
    simp only [List.foldl_cons]
    rcases ih (min a b) with h | h
    · rcases Nat.le_total a b with hab | hab
      · left; rw [h]; exact Nat.min_eq_left hab
      · right; rw [h, Nat.min_eq_right hab]; simp
    · right; simp [h]

theorem altWidth_nil (w v : Nat) : altWidth [] w v = w := by simp [altWidth]

/-- either no alternative width holds the value (→ the width), or the result is the least alternative width that does -/
theorem altWidth_cases (alts : List Nat) (w v : Nat) :
    (altWidth alts w v = w ∧ ∀ a ∈ alts, ¬ byteCnt v ≤ a / 8) ∨
    (altWidth alts w v ∈ alts ∧ byteCnt v ≤ altWidth alts w v / 8 ∧
      ∀ a ∈ alts, byteCnt v ≤ a / 8 → altWidth alts w v ≤ a) := by
  unfold altWidth
  cases hf : alts.filter (fun a => decide (byteCnt v ≤ a / 8)) with
  | nil =>
    left
    refine ⟨rfl, ?_⟩
    intro a ha hq
    have : a ∈ alts.filter (fun a => decide (byteCnt v ≤ a / 8)) := by simp [List.mem_filter, ha, hq]
    rw [hf] at this; cases this
  | cons b bs =>
    right
    have hmem : ∀ x, x ∈ b :: bs ↔ (x ∈ alts ∧ byteCnt v ≤ x / 8) := by
      intro x; rw [← hf]; simp [List.mem_filter]
    simp only []
    have hin : bs.foldl min b ∈ b :: bs := by
      rcases foldl_min_mem bs b with h | h
      · rw [h]; simp
      · simp [h]
    obtain ⟨h1, h2⟩ := foldl_min_le bs b
    refine ⟨((hmem _).1 hin).1, ((hmem _).1 hin).2, ?_⟩
    intro a ha hq
    have : a ∈ b :: bs := (hmem a).2 ⟨ha, hq⟩
    simp at this
    rcases this with rfl | h
    · exact h1
    · exact h2 a h

theorem subPosW_width (r : Reg) (i : Nat) : subPosW r r.width i = subPos r i := rfl

theorem setAlt_nil (r : Reg) (v : Nat) (raw : Bool) : r.setAlt [] v raw = r.set v raw := by
  simp [Reg.setAlt, Reg.set, altWidth_nil, subPosW_width]

theorem getAlt_nil (r : Reg) (raw : Bool) : r.getAlt [] raw = r.get raw := by
  simp [Reg.getAlt, Reg.get, altWidth_nil]

/-- a plain register that is not reversed ignores the alternative widths -/
theorem setAlt_plain (r : Reg) (alts : List Nat) (v : Nat) (raw : Bool) (hp : r.subW = 0) (hn : r.reverse = false)
    (hv : v < 2 ^ r.width) : r.setAlt alts v raw = .ok { r with value := v } := by
  have : ¬ (v ≥ 2 ^ r.width) := by omega
  simp [Reg.setAlt, isGroup_false r hp, hn, this]

theorem setAlt_reject (r : Reg) (alts : List Nat) (v : Nat) (raw : Bool) (hv : 2 ^ r.width ≤ v) :
    r.setAlt alts v raw = .error .spsdk := by
  simp [Reg.setAlt, hv]

theorem getAlt_plain (r : Reg) (alts : List Nat) (raw : Bool) (hp : r.subW = 0) (hn : r.reverse = false) :
    r.getAlt alts raw = .ok r.value := by
  simp [Reg.getAlt, isGroup_false r hp, hn]

theorem beEnc_zero (n : Nat) : beEnc n 0 = List.replicate n 0 := by
  induction n with
  | zero => rfl
  | succ n ih => simp [beEnc, ih, List.replicate_succ']

theorem beEnc_pad (k d x : Nat) (hx : x < 256 ^ k) : beEnc (d + k) x = List.replicate d 0 ++ beEnc k x := by
  induction k generalizing x with
  | zero =>
    have : x = 0 := by simpa using hx
    subst this
    simp [beEnc_zero, beEnc]
  | succ k ih =>
    have hq : x / 256 < 256 ^ k := by
      rw [Nat.pow_succ] at hx
      exact Nat.div_lt_of_lt_mul (by rw [Nat.mul_comm]; exact hx)
    rw [← Nat.add_assoc, beEnc, ih _ hq, beEnc, List.append_assoc]

theorem beDec_append_zeros (l : Bytes) (d : Nat) : beDec (l ++ List.replicate d 0) = beDec l * 256 ^ d := by
  induction d with
  | zero => simp
  | succ d ih =>
    rw [List.replicate_succ', ← List.append_assoc, beDec_append_single, ih, Nat.pow_succ]
    simp [Nat.mul_assoc]

/-- reversing a value `x < 256^k` on `d + k` bytes gives a multiple of `256^d` -/
theorem leDec_beEnc_pad (k d x : Nat) (hx : x < 256 ^ k) : leDec (beEnc (d + k) x) % 256 ^ d = 0 := by
  rw [beEnc_pad k d x hx]
  simp only [leDec, List.reverse_append, List.reverse_replicate]
  rw [beDec_append_zeros]
  exact Nat.mul_mod_left _ _

theorem brev_low_zero (aw a x y : Nat) (h8 : aw % 8 = 0) (ha8 : a % 8 = 0) (hle : a ≤ aw) (hx : x < 2 ^ a)
    (hy : brev aw x = some y) : y % 2 ^ (aw - a) = 0 := by
  have hxw : x < 2 ^ aw := Nat.lt_of_lt_of_le hx (Nat.pow_le_pow_right (by decide) hle)
  rw [brev_eq aw x h8 hxw] at hy
  cases hy
  have e1 : aw / 8 = (aw - a) / 8 + a / 8 := by omega
  have e2 : 2 ^ (aw - a) = 256 ^ ((aw - a) / 8) := two_pow_eq_256_pow _ (by omega)
  rw [e1, e2]
  apply leDec_beEnc_pad
  rw [← two_pow_eq_256_pow a ha8]; exact hx

/-- alternative widths as the database has them: byte and sub-register multiples, not wider than the register -/
def AltsOK (alts : List Nat) (r : Reg) : Prop := ∀ a ∈ alts, a % 8 = 0 ∧ 8 ≤ a ∧ a ≤ r.width ∧ a % r.subW = 0

/-- the alternative width recomputed on the byte-swapped value is the one used for writing, unless the value has
    enough trailing zero bytes to fit a smaller alternative width after the swap -/
theorem altWidth_brev_stable (r : Reg) (alts : List Nat) {v x : Nat} (h8w : r.width % 8 = 0)
    (halts : AltsOK alts r) (hv : v < 2 ^ r.width) (hx : brev (altWidth alts r.width v) v = some x)
    (hst : ∀ a ∈ alts, a < altWidth alts r.width v → v % 2 ^ (altWidth alts r.width v - a) ≠ 0) :
    altWidth alts r.width x = altWidth alts r.width v := by
  -- facts about the width used for writing
  have hq : ∀ a ∈ alts, ∀ z, (byteCnt z ≤ a / 8 ↔ z < 2 ^ a) := by
    intro a ha z
    obtain ⟨h1, h2, _⟩ := halts a ha
    rw [byteCnt_le_iff z (a / 8) (by omega), ← two_pow_eq_256_pow a h1]
  have haw8 : altWidth alts r.width v % 8 = 0 := by
    rcases altWidth_cases alts r.width v with ⟨h, _⟩ | ⟨h, _, _⟩
    · rw [h]; exact h8w
    · exact (halts _ h).1
  have hvaw : v < 2 ^ altWidth alts r.width v := by
    rcases altWidth_cases alts r.width v with ⟨h, _⟩ | ⟨h, h2, _⟩
    · rw [h]; exact hv
    · exact (hq _ h v).1 h2
  obtain ⟨x', hx1, hx2, hx3⟩ := brev_invol' _ v haw8 hvaw
  rw [hx] at hx1; cases hx1
  -- no smaller alternative width holds the swapped value
  have hsmall : ∀ a ∈ alts, a < altWidth alts r.width v → ¬ x < 2 ^ a := by
    intro a ha hlt hxa
    exact hst a ha hlt (brev_low_zero _ a x v haw8 (halts a ha).1 (by omega) hxa hx3)
  rcases altWidth_cases alts r.width x with ⟨h, hnone⟩ | ⟨hmem, hqx, hmin⟩
  · -- nothing holds x: then nothing held v either
    rcases altWidth_cases alts r.width v with ⟨h', _⟩ | ⟨h', _, _⟩
    · rw [h, h']
    · exact absurd ((hq _ h' x).2 hx2) (hnone _ h')
  · have hxlt : x < 2 ^ altWidth alts r.width x := (hq _ hmem x).1 hqx
    rcases Nat.lt_trichotomy (altWidth alts r.width x) (altWidth alts r.width v) with hlt | heq | hgt
    · exact absurd hxlt (hsmall _ hmem hlt)
    · exact heq
    · rcases altWidth_cases alts r.width v with ⟨h', _⟩ | ⟨h', _, _⟩
      · have := (halts _ hmem).2.2.1; omega
      · have := hmin _ h' ((hq _ h' x).2 hx2); omega

theorem setAlt_group (r : Reg) (alts : List Nat) (v x : Nat) (raw : Bool) (hg : 0 < r.subW) (hv : v < 2 ^ r.width)
    (hx : (if !raw && r.reverse then brev (altWidth alts r.width v) v else some v) = some x) :
    r.setAlt alts v raw = .ok { r with subs := distributeW r (altWidth alts r.width v) x } := by
  have : ¬ (v ≥ 2 ^ r.width) := by omega
  simp only [Reg.setAlt, this, if_false, hx, isGroup_true r hg, if_true, distributeW]

theorem getAlt_group (r : Reg) (alts : List Nat) (raw : Bool) (hg : 0 < r.subW) :
    r.getAlt alts raw =
      (if !raw && r.reverse then
        match brev (altWidth alts r.width (assemble r)) (assemble r) with
        | some x => .ok x
        | none => .error .spsdk
      else .ok (assemble r)) := by
  unfold Reg.getAlt
  rw [isGroup_true r hg]
  rfl

theorem subPosW_normal (r : Reg) (aw i : Nat) (hn : r.revSubs = false) : subPosW r aw i = i * r.subW := by
  simp [subPosW, hn]

theorem subPos_normal (r : Reg) (i : Nat) (hn : r.revSubs = false) : subPos r i = i * r.subW := by
  simp [subPos, hn]

/-- the slot, counted from bit 0, that a bit of sub-register `i` lies in: two sub-registers never share a bit, and all lie below `width` -/
theorem slot_of_bit {r : Reg} (h : GroupOK r) {i k : Nat} (hi : i < r.subs.length) (h1 : subPos r i ≤ k)
    (h2 : k - subPos r i < r.subW) : k / r.subW = if r.revSubs then r.subs.length - 1 - i else i := by
  have e : subPos r i = (if r.revSubs then r.subs.length - 1 - i else i) * r.subW := by
    cases hr : r.revSubs
    · simp [subPos, hr]
    · simp only [subPos, hr, if_true]
      rw [h.width, Nat.mul_comm r.subW, ← Nat.sub_mul]; congr 1; omega
  rw [e] at h1 h2
  exact (Nat.div_eq_iff h.sub).2 ⟨h1, by omega⟩

/-- a set bit of a sub-register lies inside its slot -/
theorem bit_in_slot {r : Reg} (h : GroupOK r) {i t : Nat} (hi : i < r.subs.length)
    (hb : (r.subs.getD i 0).testBit t = true) : t < r.subW :=
  Nat.lt_of_not_le fun hge => by rw [testBit_eq_false_of_lt (h.bound _ (getD_mem hi)) hge] at hb; cases hb

/-- the slice of the assembled group value at slot `i` is sub-register `i` -/
theorem slice_assemble {r : Reg} (h : GroupOK r) {i : Nat} (hi : i < r.subs.length) :
    (assemble r >>> subPos r i) &&& mask r.subW = r.subs.getD i 0 := by
  apply Nat.eq_of_testBit_eq; intro t
  rw [slice_testBit]
  by_cases ht : t < r.subW
  · simp only [ht, decide_true, Bool.and_true]
    rw [Bool.eq_iff_iff, testBit_assemble]
    constructor
    · rintro ⟨j, hj, hp, hbit⟩
      have := (slot_of_bit h hi (Nat.le_add_right _ t) (by omega)).symm.trans (slot_of_bit h hj hp (bit_in_slot h hj hbit))
      have : i = j := by split at this <;> omega
      subst this
      rwa [Nat.add_sub_cancel_left] at hbit
    · exact fun hbit => ⟨i, hi, Nat.le_add_right _ t, by rwa [Nat.add_sub_cancel_left]⟩
  · simp only [ht, decide_false, Bool.and_false]
    exact (testBit_eq_false_of_lt (h.bound _ (getD_mem hi)) (by omega)).symm

theorem assemble_lt {r : Reg} (h : GroupOK r) : assemble r < 2 ^ r.width := by
  apply Nat.lt_pow_two_of_testBit
  intro k hk
  refine Bool.eq_false_iff.2 fun hb => ?_
  obtain ⟨i, hi, hp, hbit⟩ := (testBit_assemble r k).1 hb
  have hq : k / r.subW < r.subs.length := by
    rw [slot_of_bit h hi hp (bit_in_slot h hi hbit)]; split <;> omega
  have := Nat.lt_mul_of_div_lt hq h.sub
  rw [Nat.mul_comm, ← h.width] at this
  omega

/-- normal order: a value below `2^aw` has no bits in the sub-registers beyond `aw` -/
theorem sub_zero_of_assemble_lt {r : Reg} (h : GroupOK r) {aw i : Nat} (hn : r.revSubs = false) (hdiv : aw % r.subW = 0)
    (hlt : assemble r < 2 ^ aw) (hi : aw / r.subW ≤ i) : r.subs.getD i 0 = 0 := by
  rcases Nat.lt_or_ge i r.subs.length with hil | hil
  · rw [← slice_assemble h hil, subPos_normal r i hn]
    apply Nat.eq_of_testBit_eq; intro t
    have : aw ≤ i * r.subW + t := by
      have h1 : aw / r.subW * r.subW ≤ i * r.subW := Nat.mul_le_mul_right _ hi
      have h2 := Nat.div_add_mod aw r.subW
      rw [hdiv, Nat.mul_comm] at h2
      omega
    rw [slice_testBit, testBit_eq_false_of_lt hlt this, Bool.false_and, Nat.zero_testBit]
  · rw [List.getD_eq_getElem?_getD, List.getElem?_eq_none hil]; rfl

theorem groupOK_upd {r : Reg} (h : GroupOK r) (aw x : Nat) : GroupOK { r with subs := distributeW r aw x } :=
  ⟨h.sub, by simp only [distributeW_length]; exact h.width, distributeW_bound r aw x h.bound, h.bytes⟩

/-- facts about the alternative width chosen for a value that fits the register -/
theorem altWidth_facts {alts : List Nat} {r : Reg} {v : Nat} (h : GroupOK r) (halts : AltsOK alts r) (hv : v < 2 ^ r.width) :
    altWidth alts r.width v % 8 = 0 ∧ altWidth alts r.width v % r.subW = 0 ∧
      altWidth alts r.width v ≤ r.width ∧ v < 2 ^ altWidth alts r.width v := by
  rcases altWidth_cases alts r.width v with ⟨e, _⟩ | ⟨hm, h2, _⟩
  · rw [e]
    exact ⟨h.bytes, h.width ▸ Nat.mul_mod_right _ _, Nat.le_refl _, hv⟩
  · obtain ⟨a1, a2, a3, a4⟩ := halts _ hm
    exact ⟨a1, a4, a3, two_pow_eq_256_pow _ a1 ▸ (byteCnt_le_iff v _ (by omega)).1 h2⟩

/-- set-then-get of a group with alternative widths (normal sub-register order) -/
theorem setAlt_getAlt_group (r : Reg) (alts : List Nat) (v : Nat) (raw : Bool) (h : GroupOK r) (hn : r.revSubs = false)
    (halts : AltsOK alts r) (hv : v < 2 ^ r.width)
    (hup : ∀ i, altWidth alts r.width v / r.subW ≤ i → r.subs.getD i 0 = 0)
    (hst : (!raw && r.reverse) = true →
      ∀ a ∈ alts, a < altWidth alts r.width v → v % 2 ^ (altWidth alts r.width v - a) ≠ 0) :
    ∃ l, r.setAlt alts v raw = .ok { r with subs := l } ∧ ({ r with subs := l } : Reg).getAlt alts raw = .ok v ∧
      GroupOK { r with subs := l } := by
  obtain ⟨f8, fdiv, fle, fv⟩ := altWidth_facts h halts hv
  -- `x`: the value after the byte swap, if any; it is what the group then holds
  obtain ⟨x, hx, hxv, hget⟩ : ∃ x, (if !raw && r.reverse then brev (altWidth alts r.width v) v else some v) = some x ∧
      x < 2 ^ altWidth alts r.width v ∧
      (if !raw && r.reverse then brev (altWidth alts r.width x) x else some x) = some v := by
    cases hc : (!raw && r.reverse) with
    | false => exact ⟨v, rfl, fv, rfl⟩
    | true =>
      obtain ⟨x, hx1, hx2, hx3⟩ := brev_invol' _ v f8 fv
      exact ⟨x, hx1, hx2, by rw [altWidth_brev_stable r alts h.bytes halts hv hx1 (hst hc)]; exact hx3⟩
  refine ⟨_, setAlt_group r alts v x raw h.sub hv hx, ?_, groupOK_upd h _ x⟩
  rw [getAlt_group { r with subs := distributeW r (altWidth alts r.width v) x } alts raw h.sub, assemble_distributeW r _ x h.width h.sub (.inl hn) fdiv fle hxv hup]
  revert hget; split <;> intro hget
  · rw [hget]
  · cases hget; rfl

theorem enumValueOf_cases (r : Reg) (f : Field) (fm : FieldMeta) (v : Nat) (h : fieldGet r f = .ok v) :
    enumValueOf r f fm = .ok (.num v) ∨
      ∃ n, enumValueOf r f fm = .ok (.enumName n) ∧ enumConst f fm n = some v := by
  unfold enumValueOf
  rw [h]
  simp only []
  split
  · rename_i k _
    by_cases hc : enumConst f fm (fm.nameOf k) = some v
    · right; exact ⟨fm.nameOf k, by simp [hc], hc⟩
    · left; simp [hc]
  · left; rfl

/-- bit `k` lies in a bit-field of `fs` (numbered from `j`) that `get_config` writes out: every bit-field except the
    hidden ones that hold their reset value -/
def CarriedFrom (rm : RegMeta) (r : Reg) (fs : List Field) (j k : Nat) : Prop :=
  ∃ t f, fs[t]? = some f ∧ f.offset ≤ k ∧ k < f.offset + f.width ∧
    ¬ ((rm.field (j + t)).hidden = true ∧ fieldGet r f = .ok f.reset)

theorem carriedFrom_cons (rm : RegMeta) (r : Reg) (f : Field) (fs : List Field) (j k : Nat) :
    CarriedFrom rm r (f :: fs) j k ↔
      ((f.offset ≤ k ∧ k < f.offset + f.width ∧ ¬ ((rm.field j).hidden = true ∧ fieldGet r f = .ok f.reset)) ∨
        CarriedFrom rm r fs (j + 1) k) := by
  have e (t : Nat) : j + 1 + t = j + (t + 1) := by omega
  simp only [CarriedFrom, e]
  constructor
  · rintro ⟨_ | t, g, hg, h⟩
    · cases hg; exact .inl h
    · exact .inr ⟨t, g, hg, h⟩
  · rintro (h | ⟨t, g, hg, h⟩)
    · exact ⟨0, f, rfl, h⟩
    · exact ⟨t + 1, g, hg, h⟩

/-- `get_config` of the bit-fields `fs` of `R`, loaded bit-field by bit-field into `cur` (same layout): every carried bit
    takes the value it has in `R`, every other bit keeps the value it has in `cur`.  The bit-fields need not be disjoint:
    every write copies bits of the one value of `R`. -/
theorem loadFields_fieldsConfig {R : Reg} (rm : RegMeta) (hR : PlainOK R) (fs : List Field) (j : Nat)
    (hfs : ∀ t, fs[t]? = R.fields[j + t]?) {cur : Reg} (hc : PlainOK cur) (hcw : cur.width = R.width)
    (hcf : cur.fields = R.fields) :
    ∃ l x, fieldsConfig R rm fs j = .ok l ∧ loadFields cur rm l = .ok { cur with value := x } ∧ x < 2 ^ R.width ∧
      ∀ k, (CarriedFrom rm R fs j k → x.testBit k = R.value.testBit k) ∧
           (¬ CarriedFrom rm R fs j k → x.testBit k = cur.value.testBit k) := by
  induction fs generalizing j cur with
  | nil => exact ⟨[], cur.value, rfl, rfl, (hcw ▸ hc.bound), fun k => ⟨fun h => (by obtain ⟨t, f, hf, _⟩ := h; cases hf), fun _ => rfl⟩⟩
  | cons f fs ih =>
    have hf0 : cur.fields[j]? = some f := hcf ▸ (hfs 0).symm
    have hfs' (t : Nat) : fs[t]? = R.fields[j + 1 + t]? := (hfs (t + 1)).trans (by rw [Nat.add_right_comm j 1 t]; rfl)
    have hinf : f.offset + f.width ≤ cur.width := hc.fieldsIn f (List.mem_of_getElem? hf0)
    -- `sl`: the bits of `f` in `R`; all that is used of it below are `hlt` and `hbit`
    have hget := fieldGet_plain R f hR.plain hR.norev
    have hlt := slice_lt R.value f.offset f.width
    have hbit (k : Nat) (h1 : f.offset ≤ k) (h2 : k < f.offset + f.width) :
        ((R.value >>> f.offset) &&& mask f.width).testBit (k - f.offset) = R.value.testBit k := by
      rw [slice_testBit, Nat.add_sub_cancel' h1, decide_eq_true (by omega), Bool.and_true]
    generalize (R.value >>> f.offset) &&& mask f.width = sl at hget hlt hbit
    have hcond : ((rm.field j).hidden && (sl <<< f.shift == f.reset)) = true ↔
        ((rm.field j).hidden = true ∧ fieldGet R f = .ok f.reset) := by rw [hget]; simp
    unfold fieldsConfig
    rw [hget]
    simp only []
    by_cases hskip : (rm.field j).hidden = true ∧ fieldGet R f = .ok f.reset
    · -- a hidden bit-field at its reset value is not written out
      obtain ⟨l, x, h1, h2, h3, h4⟩ := ih (j + 1) hfs' hc hcw hcf
      refine ⟨l, x, by rw [if_pos (hcond.2 hskip)]; exact h1, h2, h3, fun k => ?_⟩
      rw [carriedFrom_cons, or_iff_right fun h => h.2.2 hskip]
      exact h4 k
    · have hset : fieldSet cur f (sl <<< f.shift) true false =
          .ok { cur with value := insertBits cur.value f.offset f.width sl } := by
        have := fieldSet_plain_ok cur f (sl <<< f.shift) true hc.plain hc.norev hc.bound hinf
          (by rw [Nat.shiftLeft_shiftRight]; exact hlt)
        rwa [Nat.shiftLeft_shiftRight] at this
      obtain ⟨l, x, h1, h2, h3, h4⟩ := ih (j + 1) hfs' (plainOK_upd hc (insertBits_lt _ _ _ sl _ hc.bound hinf)) hcw hcf
      -- the entry written for `f`, a name or a number, loads as the value of `f`
      obtain ⟨c, hc1, hc2⟩ : ∃ c, enumValueOf R f (rm.field j) = .ok c ∧
          loadField cur f (rm.field j) c = fieldSet cur f (sl <<< f.shift) true false := by
        rcases enumValueOf_cases R f (rm.field j) _ hget with hd | ⟨n, hd, hn⟩
        · exact ⟨_, hd, rfl⟩
        · exact ⟨_, hd, by simp [loadField, hn]⟩
      refine ⟨(j, c) :: l, x, by rw [if_neg (mt hcond.1 hskip), hc1, h1], ?_, h3, fun k => ?_⟩
      · simp only [loadFields, hf0, hc2, hset]; exact h2
      · rw [carriedFrom_cons]
        by_cases hcar : CarriedFrom rm R fs (j + 1) k
        · exact ⟨fun _ => (h4 k).1 hcar, fun h => absurd (.inr hcar) h⟩
        · have hx := (h4 k).2 hcar
          simp only [testBit_insertBits] at hx
          by_cases hr : f.offset ≤ k ∧ k < f.offset + f.width
          · rw [if_pos hr, hbit k hr.1 hr.2] at hx
            exact ⟨fun _ => hx, fun h => absurd (.inl ⟨hr.1, hr.2, hskip⟩) h⟩
          · rw [if_neg hr] at hx
            exact ⟨fun h => h.elim (fun a => absurd ⟨a.1, a.2.1⟩ hr) (fun a => absurd a hcar), fun _ => hx⟩

/-- the bits of `r` that its configuration carries -/
def Carried (rm : RegMeta) (r : Reg) (k : Nat) : Prop := CarriedFrom rm r r.fields 0 k

theorem carried_iff (rm : RegMeta) (r : Reg) (k : Nat) :
    Carried rm r k ↔ ∃ j f, r.fields[j]? = some f ∧ f.offset ≤ k ∧ k < f.offset + f.width ∧
      ¬ ((rm.field j).hidden = true ∧ fieldGet r f = .ok f.reset) := by
  simp only [Carried, CarriedFrom, Nat.zero_add]

/-- register with bit-fields -/
theorem regcfg_rt_fields {R r0 : Reg} (rm : RegMeta) (hR : PlainOK R) (hne : R.fields ≠ []) (h0 : PlainOK r0)
    (hcw : r0.width = R.width) (hcf : r0.fields = R.fields) :
    ∃ c x, regConfig R rm = .ok c ∧ loadReg r0 rm c = .ok { r0 with value := x } ∧ x < 2 ^ R.width ∧
      ∀ k, (Carried rm R k → x.testBit k = R.value.testBit k) ∧
           (¬ Carried rm R k → x.testBit k = r0.value.testBit k) := by
  obtain ⟨l, x, h1, h2, h3, h4⟩ := loadFields_fieldsConfig rm hR R.fields 0 (by simp) h0 hcw hcf
  refine ⟨.fields l, x, ?_, ?_, h3, h4⟩
  · simp [regConfig, hne, h1]
  · simp only [loadReg, h2, getAlt_plain { r0 with value := x } rm.alts true h0.plain h0.norev,
      setAlt_plain { r0 with value := x } rm.alts x false h0.plain h0.norev (hcw ▸ h3)]

/-- plain register without bit-fields -/
theorem regcfg_rt_plain {R r0 : Reg} (rm : RegMeta) (hR : PlainOK R) (he : R.fields = []) (h0 : PlainOK r0)
    (hcw : r0.width = R.width) :
    ∃ c, regConfig R rm = .ok c ∧ loadReg r0 rm c = .ok { r0 with value := R.value } :=
  ⟨.value R.value, by simp [regConfig, he, getAlt_plain R rm.alts false hR.plain hR.norev],
    setAlt_plain r0 rm.alts R.value false h0.plain h0.norev (hcw ▸ hR.bound)⟩

/-- the slices of the assembled value of `R`, distributed over a register `r0` of the same layout whose
    sub-registers beyond the alternative width are zero, are the sub-registers of `R` -/
theorem distributeW_assemble {R r0 : Reg} {aw : Nat} (h : GroupOK R)
    (hsw : r0.subW = R.subW) (hrs : r0.revSubs = R.revSubs) (hlen : r0.subs.length = R.subs.length)
    (hdiv : aw % R.subW = 0) (hlt : assemble R < 2 ^ aw) (hord : R.revSubs = false ∨ aw = R.width)
    (hup : ∀ i, aw / R.subW ≤ i → r0.subs.getD i 0 = 0) :
    distributeW r0 aw (assemble R) = R.subs := by
  apply List.ext_getElem?
  intro i
  rcases Nat.lt_or_ge i R.subs.length with hi | hi
  · rw [distributeW_getElem? r0 aw _ (hlen ▸ hi), List.getElem?_eq_getElem hi, hsw]
    congr 1
    have hgd : R.subs[i] = R.subs.getD i 0 := by
      rw [List.getD_eq_getElem?_getD, List.getElem?_eq_getElem hi]; rfl
    have hpos : subPosW r0 aw i = subPos R i := by
      rcases hord with e | e <;> simp [subPosW, subPos, hrs, hsw, e]
    split
    · rw [hgd, ← slice_assemble h hi, hpos]
    · next hin =>
      rw [hup i (by omega), hgd]
      rcases hord with e | e
      · exact (sub_zero_of_assemble_lt h e hdiv hlt (by omega)).symm
      · rw [e, h.width, Nat.mul_div_cancel_left _ h.sub] at hin; omega
  · rw [List.getElem?_eq_none (by rw [distributeW_length]; omega), List.getElem?_eq_none hi]

/-- grouped register (no bit-fields), with or without alternative widths; `r0` has the layout of `R` -/
theorem regcfg_rt_group {R r0 : Reg} (rm : RegMeta) (h : GroupOK R) (he : R.fields = []) (halts : AltsOK rm.alts R)
    (hord : R.revSubs = false ∨ rm.alts = [])
    (hcw : r0.width = R.width) (hsw : r0.subW = R.subW) (hrs : r0.revSubs = R.revSubs)
    (hrv : r0.reverse = R.reverse) (hlen : r0.subs.length = R.subs.length)
    (hup : ∀ i, altWidth rm.alts R.width (assemble R) / R.subW ≤ i → r0.subs.getD i 0 = 0)
    (hst : R.reverse = true → ∀ a ∈ rm.alts, a < altWidth rm.alts R.width (assemble R) →
      assemble R % 2 ^ (altWidth rm.alts R.width (assemble R) - a) ≠ 0) :
    ∃ c, regConfig R rm = .ok c ∧ loadReg r0 rm c = .ok { r0 with subs := R.subs } := by
  have hva := assemble_lt h
  obtain ⟨f8, fdiv, fle, fv⟩ := altWidth_facts h halts hva
  have hord' : R.revSubs = false ∨ altWidth rm.alts R.width (assemble R) = R.width :=
    hord.imp_right fun e => by rw [e, altWidth_nil]
  have hdist := distributeW_assemble h hsw hrs hlen fdiv fv hord' hup
  -- `x`: what `get_config` shows, the assembled value or its byte swap; `r0` takes it back to the assembled value
  obtain ⟨x, hx, hxw, hback⟩ : ∃ x, R.getAlt rm.alts false = .ok x ∧ x < 2 ^ R.width ∧
      (if r0.reverse then brev (altWidth rm.alts R.width x) x else some x) = some (assemble R) ∧
      altWidth rm.alts R.width x = altWidth rm.alts R.width (assemble R) := by
    rw [getAlt_group R rm.alts false h.sub, hrv]
    cases hr : R.reverse with
    | false => exact ⟨_, rfl, hva, rfl, rfl⟩
    | true =>
      obtain ⟨x, hx1, hx2, hx3⟩ := brev_invol' _ (assemble R) f8 fv
      have hstab := altWidth_brev_stable R rm.alts h.bytes halts hva hx1 (hst hr)
      exact ⟨x, by simp [hx1], Nat.lt_of_lt_of_le hx2 (Nat.pow_le_pow_right (by decide) fle), by simp [hstab, hx3], hstab⟩
  refine ⟨.value x, by simp [regConfig, he, hx], ?_⟩
  simp only [loadReg]
  rw [setAlt_group r0 rm.alts x (assemble R) false (hsw ▸ h.sub) (hcw ▸ hxw) (by simpa [hcw] using hback.1), hcw,
    hback.2, hdist]

theorem group_views_congr (r1 r2 : Reg) (alts : List Nat) (raw : Bool) (hw : r1.width = r2.width)
    (hr : r1.reverse = r2.reverse) (hs : r1.subW = r2.subW) (hne : r2.subW ≠ 0) (hsub : r1.subs = r2.subs)
    (hrs : r1.revSubs = r2.revSubs) :
    r1.getAlt alts raw = r2.getAlt alts raw ∧ r1.get raw = r2.get raw := by
  cases r1; cases r2
  simp only [] at hw hr hs hne hsub hrs
  subst hw hr hs hsub hrs
  simp [Reg.getAlt, Reg.get, Reg.isGroup, hne, assemble, subPos]

/-- the bits a configuration value puts into the bit-field (after the config pre-processor) -/
def cfgSlice (f : Field) (fm : FieldMeta) : CfgVal → Option Nat
  | .enumName n => (enumConst f fm n).map (· >>> f.shift)
  | .num v => some (v >>> f.shift)
  | .rawNum v => some v

theorem fieldSet_plain_gen (r : Reg) (f : Field) (v : Nat) (raw noPre : Bool) (h : PlainOK r)
    (hin : f.offset + f.width ≤ r.width) :
    fieldSet r f v raw noPre =
      (if (if noPre then v else v >>> f.shift) ≥ 2 ^ f.width then .error .spsdk
       else .ok { r with value := insertBits r.value f.offset f.width (if noPre then v else v >>> f.shift) }) := by
  unfold fieldSet
  simp only []
  generalize (if noPre = true then v else v >>> f.shift) = v1
  by_cases hv : v1 ≥ 2 ^ f.width
  · simp [hv]
  · simp only [hv, if_false, get_plain r raw h.plain h.norev,
      set_plain r _ raw h.plain h.norev (insertBits_lt _ _ _ _ _ h.bound hin)]

theorem loadField_plain (r : Reg) (f : Field) (fm : FieldMeta) (c : CfgVal) (h : PlainOK r)
    (hin : f.offset + f.width ≤ r.width) :
    loadField r f fm c =
      (match cfgSlice f fm c with
       | none => .error .spsdk
       | some v1 => if v1 ≥ 2 ^ f.width then .error .spsdk
                    else .ok { r with value := insertBits r.value f.offset f.width v1 }) := by
  cases c with
  | enumName n =>
    simp only [loadField, cfgSlice]
    cases enumConst f fm n with
    | none => rfl
    | some v => simp [fieldSet_plain_gen r f v true false h hin]
  | num v => simp [loadField, cfgSlice, fieldSet_plain_gen r f v true false h hin]
  | rawNum v => simp [loadField, cfgSlice, fieldSet_plain_gen r f v true true h hin]

/-- what a successful `loadFields` did with its first entry -/
theorem loadFields_cons_ok {r r1 : Reg} {rm : RegMeta} {j : Nat} {c : CfgVal} {rest : List (Nat × CfgVal)} (h : PlainOK r)
    (hl : loadFields r rm ((j, c) :: rest) = .ok r1) :
    ∃ f v1, r.fields[j]? = some f ∧ cfgSlice f (rm.field j) c = some v1 ∧ v1 < 2 ^ f.width ∧ f.offset + f.width ≤ r.width ∧
      PlainOK { r with value := insertBits r.value f.offset f.width v1 } ∧
      loadFields { r with value := insertBits r.value f.offset f.width v1 } rm rest = .ok r1 := by
  simp only [loadFields] at hl
  split at hl
  · cases hl
  · next f hf =>
    have hin := h.fieldsIn f (List.mem_of_getElem? hf)
    rw [loadField_plain r f _ c h hin] at hl
    cases hs : cfgSlice f (rm.field j) c with
    | none => rw [hs] at hl; cases hl
    | some v1 =>
      rw [hs] at hl
      by_cases hv : v1 ≥ 2 ^ f.width
      · simp only [hv, if_true] at hl; cases hl
      · simp only [hv, if_false] at hl
        exact ⟨f, v1, hf, hs, Nat.lt_of_not_le hv, hin, plainOK_upd h (insertBits_lt _ _ _ _ _ h.bound hin), hl⟩

theorem loadFields_plain_inv {r r1 : Reg} {rm : RegMeta} {l : List (Nat × CfgVal)} (h : PlainOK r)
    (hl : loadFields r rm l = .ok r1) : ∃ y, r1 = { r with value := y } ∧ y < 2 ^ r.width := by
  induction l generalizing r with
  | nil => exact ⟨r.value, (Except.ok.inj hl).symm, h.bound⟩
  | cons e rest ih =>
    obtain ⟨j, c⟩ := e
    obtain ⟨f, v1, _, _, _, _, h', hl'⟩ := loadFields_cons_ok h hl
    obtain ⟨y, hy, hyb⟩ := ih h' hl'
    exact ⟨y, hy, hyb⟩

theorem pairwise_disjoint_ne (fs : List Field) (i j : Nat) (f g : Field)
    (hp : fs.Pairwise (fun f g => f.offset + f.width ≤ g.offset ∨ g.offset + g.width ≤ f.offset))
    (hi : fs[i]? = some f) (hj : fs[j]? = some g) (hne : i ≠ j) :
    f.offset + f.width ≤ g.offset ∨ g.offset + g.width ≤ f.offset := by
  obtain ⟨hil, rfl⟩ := List.getElem?_eq_some_iff.1 hi
  obtain ⟨hjl, rfl⟩ := List.getElem?_eq_some_iff.1 hj
  rw [List.pairwise_iff_getElem] at hp
  rcases Nat.lt_or_gt_of_ne hne with h | h
  · exact hp i j hil hjl h
  · exact (hp j i hjl hil h).symm

/-- entries that do not name bit-field `j` leave its bits alone -/
theorem loadFields_frame {r r1 : Reg} {rm : RegMeta} {l : List (Nat × CfgVal)} {j : Nat} {f : Field}
    (h : PlainOK r) (hf : r.fields[j]? = some f) (hnot : j ∉ l.map (·.1)) (hl : loadFields r rm l = .ok r1) :
    (r1.value >>> f.offset) &&& mask f.width = (r.value >>> f.offset) &&& mask f.width := by
  induction l generalizing r with
  | nil => cases hl; rfl
  | cons e rest ih =>
    obtain ⟨j', c⟩ := e
    obtain ⟨g, v1, hg, _, _, _, h', hl'⟩ := loadFields_cons_ok h hl
    rw [List.map_cons, List.mem_cons, not_or] at hnot
    rw [ih h' hf hnot.2 hl']
    exact slice_insertBits_disjoint _ _ _ _ _ _ (pairwise_disjoint_ne r.fields j' j g f h.disjoint hg hf (Ne.symm hnot.1))

theorem insertBits_same (y off w v1 : Nat) (h : (y >>> off) &&& mask w = v1) : insertBits y off w v1 = y := by
  apply Nat.eq_of_testBit_eq; intro k
  rw [testBit_insertBits]
  split
  · next hr => rw [← h, slice_testBit, Nat.add_sub_cancel' hr.1, decide_eq_true (by omega), Bool.and_true]
  · rfl

/-- bit-field dictionary with unique keys, loaded into the register it produced: nothing changes -/
theorem loadFields_idem {r r1 : Reg} {rm : RegMeta} {l : List (Nat × CfgVal)} (h : PlainOK r)
    (hnd : (l.map (·.1)).Nodup) (hl : loadFields r rm l = .ok r1) : loadFields r1 rm l = .ok r1 := by
  induction l generalizing r with
  | nil => rfl
  | cons e rest ih =>
    obtain ⟨j, c⟩ := e
    obtain ⟨f, v1, hf, hs, hv1, hin, h', hl'⟩ := loadFields_cons_ok h hl
    rw [List.map_cons, List.nodup_cons] at hnd
    obtain ⟨y, rfl, hyb⟩ := loadFields_plain_inv h' hl'
    -- `f` still holds `v1` in the end, so writing `v1` again changes nothing
    have hfr := loadFields_frame h' hf hnd.1 hl'
    rw [slice_insertBits_same _ _ _ _ hv1] at hfr
    have hstep : loadField _ f (rm.field j) c = .ok _ :=
      (loadField_plain _ f _ c (plainOK_upd h' hyb) hin).trans (by
        simp only [hs]; rw [if_neg (Nat.not_le.2 hv1), insertBits_same _ _ _ _ hfr])
    simp only [loadFields, show ({ r with value := y } : Reg).fields[j]? = some f from hf, hstep]
    exact ih h' hnd.2 hl'

theorem setAlt_group_inv (r r' : Reg) (alts : List Nat) (v : Nat) (raw : Bool) (hg : 0 < r.subW)
    (h : r.setAlt alts v raw = .ok r') :
    v < 2 ^ r.width ∧ ∃ x, (if !raw && r.reverse then brev (altWidth alts r.width v) v else some v) = some x ∧
      r' = { r with subs := distributeW r (altWidth alts r.width v) x } := by
  by_cases hv : v < 2 ^ r.width
  · refine ⟨hv, ?_⟩
    cases hx : (if !raw && r.reverse then brev (altWidth alts r.width v) v else some v) with
    | none =>
      have : ¬ (v ≥ 2 ^ r.width) := by omega
      simp only [Reg.setAlt, this, if_false, hx] at h
      cases h
    | some x =>
      rw [setAlt_group r alts v x raw hg hv hx] at h
      cases h
      exact ⟨x, rfl, rfl⟩
  · rw [setAlt_reject r alts v raw (by omega)] at h; cases h

theorem distributeW_idem (r : Reg) (aw x : Nat) :
    distributeW { r with subs := distributeW r aw x } aw x = distributeW r aw x := by
  apply List.ext_getElem?
  intro i
  rcases Nat.lt_or_ge i r.subs.length with hi | hi
  · rw [distributeW_getElem? _ aw x (i := i) (by simp only [distributeW_length]; exact hi), distributeW_getElem? r aw x hi]
    congr 1
    split
    · rfl
    · next hin => simp [List.getD_eq_getElem?_getD, distributeW_getElem? r aw x hi, hin]
  · rw [List.getElem?_eq_none (by simp only [distributeW_length]; omega),
      List.getElem?_eq_none (by simp only [distributeW_length]; omega)]

theorem setAlt_idem_group (r r' : Reg) (alts : List Nat) (v : Nat) (raw : Bool) (h : GroupOK r)
    (hs : r.setAlt alts v raw = .ok r') :
    r'.setAlt alts v raw = .ok r' ∧ GroupOK r' ∧ r'.reverse = r.reverse ∧ r'.fields = r.fields ∧
      r'.revSubs = r.revSubs ∧ r'.width = r.width ∧ r'.subW = r.subW := by
  obtain ⟨hv, x, hx, rfl⟩ := setAlt_group_inv r r' alts v raw h.sub hs
  refine ⟨?_, groupOK_upd h _ x, rfl, rfl, rfl, rfl, rfl⟩
  rw [setAlt_group { r with subs := distributeW r (altWidth alts r.width v) x } alts v x raw h.sub hv hx]
  simp only [distributeW_idem]

/-- the "run the processing" step does nothing on a group that is not byte-reversed -/
theorem process_group_id (r : Reg) (alts : List Nat) (h : GroupOK r) (hn : r.reverse = false) (halts : AltsOK alts r)
    (hord : r.revSubs = false ∨ alts = []) :
    r.getAlt alts true = .ok (assemble r) ∧ r.setAlt alts (assemble r) false = .ok r := by
  have hva := assemble_lt h
  obtain ⟨_, fdiv, _, fv⟩ := altWidth_facts h halts hva
  refine ⟨by rw [getAlt_group r alts true h.sub]; rfl, ?_⟩
  rw [setAlt_group r alts (assemble r) (assemble r) false h.sub hva (by simp [hn])]
  have hord' : r.revSubs = false ∨ altWidth alts r.width (assemble r) = r.width :=
    hord.imp_right fun e => by rw [e, altWidth_nil]
  rw [distributeW_assemble h rfl rfl rfl fdiv fv hord' fun i hi => ?_]
  rcases hord' with e | e
  · exact sub_zero_of_assemble_lt h e fdiv fv hi
  · rw [e, h.width, Nat.mul_div_cancel_left _ h.sub] at hi
    rw [List.getD_eq_getElem?_getD, List.getElem?_eq_none hi]; rfl

/-- register invariant of the configuration path (what `C11.RegWF'` says) -/
inductive RegInv (rm : RegMeta) (r : Reg) : Prop
  | plain : PlainOK r → RegInv rm r
  | group : GroupOK r → r.fields = [] → AltsOK rm.alts r → (r.revSubs = false ∨ rm.alts = []) → RegInv rm r

theorem loadReg_idem (rm : RegMeta) (r r' : Reg) (c : RegCfg) (h : RegInv rm r)
    (hnd : ∀ l, c = .fields l → (l.map (·.1)).Nodup) (hrev : ∀ l, c = .fields l → r.reverse = false)
    (hl : loadReg r rm c = .ok r') :
    loadReg r' rm c = .ok r' ∧ RegInv rm r' ∧ r'.reverse = r.reverse := by
  cases h with
  | plain hp =>
    cases c with
    | value v =>
      simp only [loadReg] at hl ⊢
      by_cases hv : v < 2 ^ r.width
      · rw [setAlt_plain r rm.alts v false hp.plain hp.norev hv] at hl
        cases hl
        exact ⟨setAlt_plain _ rm.alts v false hp.plain hp.norev hv, .plain (plainOK_upd hp hv), rfl⟩
      · rw [setAlt_reject r rm.alts v false (by omega)] at hl; cases hl
    | fields l =>
      simp only [loadReg] at hl ⊢
      cases hlf : loadFields r rm l with
      | error e => rw [hlf] at hl; cases hl
      | ok r1 =>
        obtain ⟨y, rfl, hyb⟩ := loadFields_plain_inv hp hlf
        have h1 := plainOK_upd hp hyb
        -- the processing step writes the value back unchanged
        have hg := getAlt_plain { r with value := y } rm.alts true h1.plain h1.norev
        have hs := setAlt_plain { r with value := y } rm.alts y false h1.plain h1.norev hyb
        simp only [hlf, hg, hs] at hl
        cases hl
        exact ⟨by simp only [loadFields_idem hp (hnd l rfl) hlf, hg, hs], .plain h1, rfl⟩
  | group hg he halts hord =>
    cases c with
    | value v =>
      simp only [loadReg] at hl ⊢
      obtain ⟨h1, h2, h3, h4, h5, h6, h7⟩ := setAlt_idem_group r r' rm.alts v false hg hl
      exact ⟨h1, .group h2 (h4 ▸ he) (by rw [AltsOK, h6, h7]; exact halts) (h5 ▸ hord), h3⟩
    | fields l =>
      cases l with
      | nil =>
        obtain ⟨p1, p2⟩ := process_group_id r rm.alts hg (hrev [] rfl) halts hord
        have : loadReg r rm (.fields []) = .ok r := by simp only [loadReg, loadFields, p1, p2]
        rw [this] at hl
        cases hl
        exact ⟨this, .group hg he halts hord, rfl⟩
      | cons e rest => simp [loadReg, loadFields, he] at hl

theorem loadSub_idem (rm : RegMeta) (r r' : Reg) (k : Nat) (c : RegCfg) (h : RegInv rm r)
    (hl : loadSub r k c = .ok r') :
    loadSub r' k c = .ok r' ∧ RegInv rm r' ∧ r'.reverse = r.reverse := by
  cases h with
  | plain hp =>
    have hg : r.isGroup = false := isGroup_false r hp.plain
    cases c with
    | value v => simp [loadSub, hg] at hl
    | fields l => cases l <;> simp [loadSub, hg] at hl
  | group hg he halts hord =>
    have hgt : r.isGroup = true := isGroup_true r hg.sub
    cases c with
    | value v =>
      simp only [loadSub, hgt, true_and] at hl ⊢
      split at hl
      · next hk =>
        split at hl
        · cases hl
        · next hv =>
          cases hl
          have hgt' : ({ r with subs := r.subs.set k v } : Reg).isGroup = true := isGroup_true _ hg.sub
          refine ⟨?_, .group ⟨hg.sub, by simp only [List.length_set]; exact hg.width, fun s hs => ?_, hg.bytes⟩ he halts hord, rfl⟩
          · simp only [hgt', List.length_set, hk, if_true, hv, if_false, true_and, List.set_set]
          · rcases List.mem_or_eq_of_mem_set hs with h1 | rfl
            · exact hg.bound s h1
            · exact Nat.lt_of_not_ge hv
      · cases hl
    | fields l =>
      cases l with
      | nil =>
        simp only [loadSub, hgt, true_and] at hl ⊢
        split at hl
        · next hk => cases hl; exact ⟨by simp [hgt, hk], .group hg he halts hord, rfl⟩
        · cases hl
      | cons e rest => simp [loadSub] at hl

/-- dictionary keys are unique, and a bit-field dictionary is not given for a byte-reversed register (its raw value is
    byte-swapped by the processing step of every load) -/
def EntryOK (rf : RegFile) (e : RegRef × RegCfg) : Prop :=
  (∀ l, e.2 = .fields l → (l.map (·.1)).Nodup) ∧
  (∀ i l r, e.1 = .top i → e.2 = .fields l → rf[i]? = some r → r.reverse = false)

theorem loadEntry_inv (m : Meta) (rf rfa : RegFile) (e : RegRef × RegCfg) (h : loadEntry m rf e = .ok rfa) :
    ∃ r ra, rf[e.1.idx]? = some r ∧ rfa = rf.set e.1.idx ra ∧
      ((∃ i, e.1 = .top i ∧ loadReg r (m.reg i) e.2 = .ok ra) ∨ (∃ i k, e.1 = .sub i k ∧ loadSub r k e.2 = .ok ra)) := by
  obtain ⟨ref, c⟩ := e
  cases ref with
  | top i =>
    obtain ⟨r, ra, h1, h2, h3⟩ := updAt_inv rf rfa i _ h
    exact ⟨r, ra, h1, h3, .inl ⟨i, rfl, h2⟩⟩
  | sub i k =>
    obtain ⟨r, ra, h1, h2, h3⟩ := updAt_inv rf rfa i _ h
    exact ⟨r, ra, h1, h3, .inr ⟨i, k, rfl, h2⟩⟩

/-- what a successful `loadConfig` did with its first entry -/
theorem loadConfig_cons_ok {m : Meta} {rf rf1 : RegFile} {e : RegRef × RegCfg} {es : Cfg}
    (hl : loadConfig m rf (e :: es) = .ok rf1) : ∃ rfa, loadEntry m rf e = .ok rfa ∧ loadConfig m rfa es = .ok rf1 := by
  simp only [loadConfig] at hl
  split at hl
  · cases hl
  · exact ⟨_, ‹_›, hl⟩

theorem loadConfig_frame (m : Meta) (rf rf1 : RegFile) (cfg : Cfg) (i : Nat) (hni : i ∉ cfg.map (·.1.idx))
    (hl : loadConfig m rf cfg = .ok rf1) : rf1[i]? = rf[i]? := by
  induction cfg generalizing rf with
  | nil => cases hl; rfl
  | cons e es ih =>
    obtain ⟨rfa, hle, hl'⟩ := loadConfig_cons_ok hl
    obtain ⟨r, ra, h1, h2, _⟩ := loadEntry_inv m rf rfa e hle
    rw [List.map_cons, List.mem_cons, not_or] at hni
    rw [ih rfa hni.2 hl', h2, List.getElem?_set_ne (Ne.symm hni.1)]

/-- an element of a list after `set` is the new one, at that index, or an old one -/
theorem getElem?_set_some {α} {l : List α} {i k : Nat} {a x : α} (h : (l.set i a)[k]? = some x) :
    (i = k ∧ x = a) ∨ l[k]? = some x := by
  rw [List.getElem?_set] at h
  split at h
  · split at h
    · exact .inl ⟨‹_›, (Option.some.inj h).symm⟩
    · cases h
  · exact .inr h

theorem loadConfig_idem (m : Meta) (rf rf1 : RegFile) (cfg : Cfg)
    (hinv : ∀ i r, rf[i]? = some r → RegInv (m.reg i) r)
    (hk : (cfg.map (·.1.idx)).Nodup) (he : ∀ e ∈ cfg, EntryOK rf e)
    (hl : loadConfig m rf cfg = .ok rf1) : loadConfig m rf1 cfg = .ok rf1 := by
  induction cfg generalizing rf with
  | nil => rfl
  | cons e es ih =>
    obtain ⟨rfa, hle, hl'⟩ := loadConfig_cons_ok hl
    obtain ⟨r, ra, h1, h2, h3⟩ := loadEntry_inv m rf rfa e hle
    rw [List.map_cons, List.nodup_cons] at hk
    have heo := he e (by simp)
    -- the register written by `e` is a fixed point of `e`
    obtain ⟨hinva, hreva, hent⟩ : RegInv (m.reg e.1.idx) ra ∧ ra.reverse = r.reverse ∧
        (∀ s : RegFile, s[e.1.idx]? = some ra → loadEntry m s e = .ok (s.set e.1.idx ra)) := by
      obtain ⟨ref, c⟩ := e
      rcases h3 with ⟨i, rfl, hlr⟩ | ⟨i, k, rfl, hlr⟩
      · obtain ⟨a1, a2, a3⟩ := loadReg_idem (m.reg i) r ra c (hinv i r h1) heo.1 (fun l hc => heo.2 i l r rfl hc h1) hlr
        exact ⟨a2, a3, fun s hs => by simp [loadEntry, updAt, show s[i]? = some ra from hs, a1, RegRef.idx]⟩
      · obtain ⟨a1, a2, a3⟩ := loadSub_idem (m.reg i) r ra k c (hinv i r h1) hlr
        exact ⟨a2, a3, fun s hs => by simp [loadEntry, updAt, show s[i]? = some ra from hs, a1, RegRef.idx]⟩
    have hrest := ih rfa
      (fun i x hx => by
        rcases getElem?_set_some (h2 ▸ hx) with ⟨rfl, rfl⟩ | hx
        · exact hinva
        · exact hinv i x hx)
      hk.2
      (fun e' he' => ⟨(he e' (by simp [he'])).1, fun i l x hi hc hx => by
        rcases getElem?_set_some (h2 ▸ hx) with ⟨rfl, rfl⟩ | hx
        · exact hreva ▸ (he e' (by simp [he'])).2 _ l r hi hc h1
        · exact (he e' (by simp [he'])).2 i l x hi hc hx⟩)
      hl'
    have hfr : rf1[e.1.idx]? = some ra := by
      rw [loadConfig_frame m rfa rf1 es e.1.idx hk.1 hl', h2]
      simp [getElem?_lt h1]
    simp only [loadConfig, hent rf1 hfr]
    rw [show rf1.set e.1.idx ra = rf1 from by
      obtain ⟨hlt, rfl⟩ := List.getElem?_eq_some_iff.1 hfr
      exact List.set_getElem_self hlt]
    exact hrest

end SpsdkVerif.Regs
