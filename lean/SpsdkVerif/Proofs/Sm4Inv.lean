/-
`Sm4.decBlk k (Sm4.encBlk k b) = b` (and the converse) for the SM4 of Crypto/Sm4.lean, every key and block.
SM4 is an unbalanced Feistel network: with `F_rk` one round and `σ` the word reversal,
`F_rk ∘ σ ∘ F_rk = σ` (`round_rev_round`), hence running the rounds with the reversed key list undoes them.
The S-box and the key schedule play no role.
-/
import SpsdkVerif.Crypto.Sm4

namespace SpsdkVerif.Crypto.Sm4
open SpsdkVerif SpsdkVerif.Crypto

theorem B4.xor_cancel (x t : B4) : (x.xor t).xor t = x := by
  cases x; cases t
  simp [B4.xor, UInt8.xor_assoc]

theorem B4.xor_rev (x y z : B4) : (z.xor y).xor x = (x.xor y).xor z := by
  cases x; cases y; cases z
  simp only [B4.xor, B4.mk.injEq]
  refine ⟨?_, ?_, ?_, ?_⟩ <;> ac_rfl

theorem rev_rev (x : W4) : rev (rev x) = x := rfl

theorem round_rev_round (x : W4) (rk : UInt32) : round (rev (round x rk)) rk = rev x := by
  cases x with
  | mk x0 x1 x2 x3 =>
    simp only [round, rev, W4.mk.injEq, true_and]
    rw [B4.xor_rev x1 x2 x3, B4.xor_cancel]

theorem foldl_round_rev : ∀ (rks : List UInt32) (x : W4),
    rks.reverse.foldl round (rev (rks.foldl round x)) = rev x
  | [], _ => rfl
  | rk :: rest, x => by
    simp only [List.foldl_cons, List.reverse_cons, List.foldl_append, List.foldl_nil]
    rw [foldl_round_rev rest (round x rk), round_rev_round]

theorem crypt_reverse_crypt (rks : List UInt32) (x : W4) : crypt rks.reverse (crypt rks x) = x := by
  simp only [crypt]
  rw [foldl_round_rev, rev_rev]

theorem crypt_crypt_reverse (rks : List UInt32) (x : W4) : crypt rks (crypt rks.reverse x) = x := by
  have := crypt_reverse_crypt rks.reverse x
  rwa [List.reverse_reverse] at this

theorem toW4_ofW4 (x : W4) : toW4 (ofW4 x) = x := rfl

theorem ofW4_toW4 (b : Bytes) (h : b.length = 16) : ofW4 (toW4 b) = b := by
  iterate 16 (obtain _ | ⟨_, b⟩ := b; · simp at h)
  obtain _ | _ := b
  · rfl
  · simp at h

@[simp] theorem ofW4_length (x : W4) : (ofW4 x).length = 16 := rfl
@[simp] theorem normBlock_length (b : Bytes) : (normBlock b).length = 16 := by simp [normBlock]
theorem normBlock_of_len (b : Bytes) (h : b.length = 16) : normBlock b = b := by
  simp [normBlock, h]

theorem encBlk_length (key b : Bytes) : (encBlk key b).length = 16 := rfl
theorem decBlk_length (key b : Bytes) : (decBlk key b).length = 16 := rfl

theorem decBlk_encBlk (key b : Bytes) (hb : b.length = 16) : decBlk key (encBlk key b) = b := by
  unfold decBlk
  rw [normBlock_of_len _ (encBlk_length key b)]
  unfold encBlk
  rw [toW4_ofW4, crypt_reverse_crypt, normBlock_of_len _ hb, ofW4_toW4 _ hb]

theorem encBlk_decBlk (key b : Bytes) (hb : b.length = 16) : encBlk key (decBlk key b) = b := by
  unfold encBlk
  rw [normBlock_of_len _ (decBlk_length key b)]
  unfold decBlk
  rw [toW4_ofW4, crypt_crypt_reverse, normBlock_of_len _ hb, ofW4_toW4 _ hb]

end SpsdkVerif.Crypto.Sm4
