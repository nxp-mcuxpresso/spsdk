/- C07: the command lists of `Model/HabStd.lean` / `Model/HabGen.lean` (standard chain, fast authentication, Set / Unlock /
   NOP commands woven into the gaps) — what `build` makes of them, their data references, and the ROM-side reader's walk
   over them. -/
import SpsdkVerif.Model.HabGen
import SpsdkVerif.Proofs.HabSign
import SpsdkVerif.Proofs.HabRomCsf

namespace SpsdkVerif.Hab
open SpsdkVerif SpsdkVerif.Misc SpsdkVerif.Generated
open SpsdkVerif.Spec
open SpsdkVerif.Spec.HabRom (bindE chk sub rdN u8at u16be u32be u32le RCmd Walk)

/- extras (Set / Unlock / NOP) change nothing the builder or the reader looks at -/
theorem isExtra_facts (e : Cmd) (h : isExtra e = true) : isAut e = false ∧ needsRef e = false ∧ ∃ t l, toR e = .other t l := by
  cases e <;> simp_all [isExtra, isAut, needsRef, toR]

def GapsOk (gs : List (List Cmd)) : Prop := ∀ g ∈ gs, ∀ e ∈ g, isExtra e = true

theorem GapsOk.head {g : List Cmd} {gs : List (List Cmd)} (h : GapsOk (g :: gs)) : ∀ e ∈ g, isExtra e = true :=
  h g (by simp)
theorem GapsOk.tail {g : List Cmd} {gs : List (List Cmd)} (h : GapsOk (g :: gs)) : GapsOk gs :=
  fun g' hg' => h g' (by simp [hg'])

theorem mapAut_extras (f : CsfCmd → CsfCmd) (n : Nat) (g : List Cmd) (l : List CsfCmd) (h : ∀ e ∈ g, isExtra e = true) :
    mapAut f n (g.map bare ++ l) = g.map bare ++ mapAut f n l := by
  induction g with
  | nil => rfl
  | cons a r ih =>
    simp only [List.map_cons, List.cons_append, mapAut, bare, (isExtra_facts a (h a (by simp))).1, Bool.false_eq_true,
      ↓reduceIte]
    rw [← ih (fun e he => h e (by simp [he]))]

theorem assignLocs_extras (n : Nat) (g : List Cmd) (l : List CsfCmd) (h : ∀ e ∈ g, isExtra e = true) :
    assignLocs n (g.map bare ++ l) = g.map bare ++ assignLocs n l := by
  induction g with
  | nil => rfl
  | cons a r ih =>
    have ha : needsRef (bare a).cmd = false := (isExtra_facts a (h a (by simp))).2.1
    have hd : dataOf (bare a) = [] := by simp [dataOf, ha]
    rw [List.map_cons, List.cons_append, assignLocs_cons, reloc_of_noref _ _ ha, hd, List.length_nil, Nat.add_zero,
      ih (fun e he => h e (by simp [he]))]
    rfl

theorem refsOf_extras (g : List Cmd) (l : List CsfCmd) (h : ∀ e ∈ g, isExtra e = true) :
    refsOf (g.map bare ++ l) = refsOf l := by
  induction g with
  | nil => rfl
  | cons a r ih =>
    simp only [List.map_cons, List.cons_append, refsOf, bare, (isExtra_facts a (h a (by simp))).2.1, Bool.false_eq_true,
      ↓reduceIte, List.nil_append]
    exact ih (fun e he => h e (by simp [he]))

theorem mapAut_weave (f : CsfCmd → CsfCmd) (n : Nat) (gs : List (List Cmd)) (ms : List CsfCmd) (h : GapsOk gs) :
    mapAut f n (weave gs ms) = weave gs (mapAut f n ms) := by
  induction gs generalizing ms n with
  | nil => rfl
  | cons g gs ih =>
    cases ms with
    | nil => simp only [weave, mapAut]; rw [mapAut_extras _ _ _ _ h.head]; rfl
    | cons m ms =>
      simp only [weave]
      rw [mapAut_extras _ _ _ _ h.head]
      by_cases hm : isAut m.cmd = true
      · cases n with
        | zero => simp [mapAut, hm]
        | succ n => simp [mapAut, hm, ih n ms h.tail]
      · simp [mapAut, hm, ih n ms h.tail]

theorem assignLocs_weave (n : Nat) (gs : List (List Cmd)) (ms : List CsfCmd) (h : GapsOk gs) :
    assignLocs n (weave gs ms) = weave gs (assignLocs n ms) := by
  induction gs generalizing ms n with
  | nil => rfl
  | cons g gs ih =>
    cases ms with
    | nil => simp only [weave]; rw [assignLocs_extras _ _ _ h.head]; rfl
    | cons m ms => simp only [weave]; rw [assignLocs_extras _ _ _ h.head, assignLocs_cons, assignLocs_cons, ih _ ms h.tail]

theorem refsOf_weave (gs : List (List Cmd)) (ms : List CsfCmd) (h : GapsOk gs) :
    refsOf (weave gs ms) = refsOf ms := by
  induction gs generalizing ms with
  | nil => rfl
  | cons g gs ih =>
    cases ms with
    | nil => simp only [weave]; rw [refsOf_extras _ _ h.head]
    | cons m ms => simp only [weave]; rw [refsOf_extras _ _ h.head]; simp only [refsOf]; rw [ih ms h.tail]

theorem mem_weave (gs : List (List Cmd)) (ms : List CsfCmd) (c : CsfCmd) (hc : c ∈ ms) : c ∈ weave gs ms := by
  induction gs generalizing ms with
  | nil => exact hc
  | cons g gs ih =>
    cases ms with
    | nil => cases hc
    | cons m ms =>
      simp only [weave, List.mem_append, List.mem_cons]
      rcases List.mem_cons.1 hc with e | e
      · exact Or.inr (Or.inl e)
      · exact Or.inr (Or.inr (ih ms e))

theorem build_gen (cr : Crypto.CryptoOps) (sg : Signer) (fuel : Nat) (c : Cfg) (b : Built) (s : StdCsf) (fast : Bool)
    (gaps : List (List Cmd)) (L0 : Nat → Nat) (hs : GenCfg c s fast gaps L0) (hb : build cr sg fuel c = some b) (hc : c.hasCsf = true)
    (ha : isAuth c.flags = true) :
    ∃ x, b.cmds = weave gaps (mainList fast s L0 (sigBlob c.version x) (blockPairs c.signedBlocks)
      (sigBlob c.version (sg.data b.msgData))
      (if isEnc c.flags then some ⟨secretKeyLocN c.ils c.app.length c.start, blockPairs c.encryptedBlocks,
                                   some (macBlob c.version c.nonce (encMac cr c))⟩ else none)) := by
  obtain ⟨_, _, hmd, _, _, hl⟩ := build_inv cr sg fuel c b hb hc ha
  obtain ⟨x, e⟩ := signLoop_shape sg c.version fuel 0 _ b.cmds b.attempts hl
  refine ⟨x, ?_⟩
  rw [e, hmd]
  unfold cmdsSigned cmdsEnc
  rw [hs.cmds]
  have hg : GapsOk gaps := hs.gaps
  by_cases he : isEnc c.flags = true <;> simp only [he, Bool.false_eq_true, ↓reduceIte, mapAut_weave _ _ _ _ hg] <;>
    cases fast <;> rfl

/-- assigning data references to a chain gives the same chain (same commands and data) with some locations: the running
    sums of the 4-aligned sizes of the data blocks in front -/
theorem assign_main (fast : Bool) (s : StdCsf) (n : Nat) (L0 : Nat → Nat) (sigC : Bytes)
    (bd : List (Nat × Nat)) (sigD : Bytes) (enc : Option EncPart) (hm : ∀ e, enc = some e → e.mac.isSome) :
    ∃ L, assignLocs n (mainList fast s L0 sigC bd sigD enc) = mainList fast s L sigC bd sigD enc := by
  refine ⟨fun k =>
    if fast then
      (if k = 1 then n else if k = 3 then n + alignUp s.srkBlob.length 4
       else if k = 5 then n + alignUp s.srkBlob.length 4 + alignUp sigC.length 4
       else n + alignUp s.srkBlob.length 4 + alignUp sigC.length 4 + alignUp sigD.length 4)
    else
      (if k = 1 then n else if k = 2 then n + alignUp s.srkBlob.length 4
       else if k = 3 then n + alignUp s.srkBlob.length 4 + alignUp s.csfCert.length 4
       else if k = 4 then n + alignUp s.srkBlob.length 4 + alignUp s.csfCert.length 4 + alignUp sigC.length 4
       else if k = 5 then n + alignUp s.srkBlob.length 4 + alignUp s.csfCert.length 4 + alignUp sigC.length 4 +
         alignUp s.imgCert.length 4
       else n + alignUp s.srkBlob.length 4 + alignUp s.csfCert.length 4 + alignUp sigC.length 4 +
         alignUp s.imgCert.length 4 + alignUp sigD.length 4), ?_⟩
  cases enc with
  | none => cases fast <;> rfl
  | some e =>
    obtain ⟨loc, blocks, mac⟩ := e
    obtain ⟨m, rfl⟩ : ∃ m, mac = some m := Option.isSome_iff_exists.1 (hm _ rfl)
    cases fast <;> rfl

section walk
variable (region : Bytes) (hdrLen self csf : Nat)

theorem walk_append (w : Walk) (l1 l2 : List RCmd) :
    HabRom.walk region hdrLen self csf w (l1 ++ l2) =
      bindE (HabRom.walk region hdrLen self csf w l1) (fun w' => HabRom.walk region hdrLen self csf w' l2) := by
  induction l1 generalizing w with
  | nil => rfl
  | cons a r ih =>
    simp only [List.cons_append, HabRom.walk]
    cases HabRom.stepCmd region hdrLen self csf w a with
    | error e => rfl
    | ok w' => simp only [bindE_ok]; exact ih w'

/-- the reader steps over Set / Unlock / NOP without looking at them -/
theorem walk_extras (w : Walk) (ex : List Cmd) (h : ∀ e ∈ ex, isExtra e = true) :
    HabRom.walk region hdrLen self csf w (ex.map toR) = .ok w := by
  induction ex with
  | nil => rfl
  | cons a r ih =>
    obtain ⟨t, l, e⟩ := (isExtra_facts a (h a (by simp))).2.2
    rw [List.map_cons, e]
    exact ih (fun e he => h e (by simp [he]))

theorem walk_weave (w : Walk) (gs : List (List Cmd)) (ms : List CsfCmd) (h : GapsOk gs) :
    HabRom.walk region hdrLen self csf w ((weave gs ms).map (fun c => toR c.cmd)) =
      HabRom.walk region hdrLen self csf w (ms.map (fun c => toR c.cmd)) := by
  induction gs generalizing ms w with
  | nil => rfl
  | cons g gs ih =>
    have hmap : (g.map bare).map (fun c => toR c.cmd) = g.map toR := by
      simp [List.map_map, Function.comp_def]
    cases ms with
    | nil =>
      simp only [weave, List.map_append, hmap, List.map_nil]
      rw [walk_append, walk_extras _ _ _ _ _ _ h.head, bindE_ok]
    | cons m ms =>
      simp only [weave, List.map_append, hmap, List.map_cons]
      rw [walk_append, walk_extras _ _ _ _ _ _ h.head, bindE_ok]
      simp only [HabRom.walk]
      cases HabRom.stepCmd region hdrLen self csf w (toR m.cmd) with
      | error e => rfl
      | ok w' => simp only [bindE_ok]; exact ih w' ms h.tail

end walk

/-- what the rest of the reader needs to know about the state after the walk -/
structure WalkOut (w : Walk) (auth dec : List (Nat × Nat)) (mac : Option (Nat × Nat)) (sloc : Option Nat) : Prop where
  auth : w.auth = auth
  dec : w.dec = dec
  csfSig : w.csfSig.isSome = true
  dataSig : w.dataSig.isSome = true
  macRef : w.macRef = mac
  secretLoc : w.secretLoc = sloc

section chains
variable (region : Bytes) (hdrLen self csf : Nat) (s : StdCsf) (L : Nat → Nat) (sigC : Bytes) (bd : List (Nat × Nat))
  (sigD : Bytes) (offsD : List (Nat × Nat)) (n1 n2 n3 n4 n5 : Nat)
  (d1 : HabRom.dataRef region hdrLen (L 1) 0xD7 "SRK table" = .ok (L 1, n1))
  (d3 : HabRom.dataRef region hdrLen (L 3) 0xD8 "signature" = .ok (L 3, n3))
  (d5 : HabRom.dataRef region hdrLen (L 5) 0xD8 "signature" = .ok (L 5, n5))
  (hsrc : s.srkSrc ≤ 3) (hbd : bd ≠ []) (ho : HabRom.toOffsets self csf bd = .ok offsD)
include d1 d3 d5 hsrc hbd ho

/-- the reader on the authenticating part of the standard chain, by evaluation -/
theorem walk_front_std (d2 : HabRom.dataRef region hdrLen (L 2) 0xD7 "certificate" = .ok (L 2, n2))
    (d4 : HabRom.dataRef region hdrLen (L 4) 0xD7 "certificate" = .ok (L 4, n4)) (hslot : 2 ≤ s.imgSlot ∧ s.imgSlot ≤ 5) :
    HabRom.walk region hdrLen self csf {} ((s.core.list L sigC bd sigD none).map (fun c => toR c.cmd)) =
      .ok { slots := [(s.imgSlot, 2), (1, 1), (0, 0)], srk := some (L 1, n1, s.srkSrc), csfCert := some (L 2, n2),
            imgCert := some (L 4, n4), csfSig := some (L 3, n3), dataSig := some (L 5, n5), auth := offsD,
            refs := [(L 5, n5), (L 4, n4), (L 3, n3), (L 2, n2), (L 1, n1)] } := by
  have hbe : bd.isEmpty = false := by cases bd <;> simp_all
  simp [StdCsf.list, StdCsf.core, toR, HabRom.walk, HabRom.stepCmd, chk, d1, d2, d3, d4, d5, hsrc, hslot.1, hslot.2, ho, hbe,
    HabRom.hasSlot, HabRom.toOffsets]

theorem walk_front_fast :
    HabRom.walk region hdrLen self csf {} ((mainFast s L sigC bd sigD none).map (fun c => toR c.cmd)) =
      .ok { slots := [(0, 0)], srk := some (L 1, n1, s.srkSrc), csfSig := some (L 3, n3), dataSig := some (L 5, n5),
            auth := offsD, refs := [(L 5, n5), (L 3, n3), (L 1, n1)] } := by
  have hbe : bd.isEmpty = false := by cases bd <;> simp_all
  simp [mainFast, toR, HabRom.walk, HabRom.stepCmd, chk, d1, d3, d5, hsrc, ho, hbe, HabRom.hasSlot, HabRom.fastAuth,
    HabRom.toOffsets]

end chains

/-- Install Secret Key and Decrypt Data, behind a state in which nothing was decrypted yet -/
theorem walk_enc (region : Bytes) (hdrLen self csf : Nat) (w : Walk) (s : StdCsf) (L6 n6 loc : Nat)
    (blocks offsE : List (Nat × Nat)) (mac : Option Bytes) (hm : w.macRef = none) (hk : s.kek ≤ 3) (hks : s.keySlot ≤ 3)
    (hbl : blocks ≠ []) (d6 : HabRom.dataRef region hdrLen L6 0xAC "MAC" = .ok (L6, n6))
    (hoe : HabRom.toOffsets self csf blocks = .ok offsE) :
    HabRom.walk region hdrLen self csf w
        (([⟨.insKey 1 0xBB s.skAlg s.kek s.keySlot loc, none⟩,
           ⟨.autDat 0 s.keySlot 0xA3 s.engDec s.cfgDec L6 blocks, mac⟩] : List CsfCmd).map (fun c => toR c.cmd)) =
      .ok { w with secretLoc := some loc, slots := (s.keySlot, 3) :: w.slots, macRef := some (L6, n6), dec := offsE,
                   refs := (L6, n6) :: w.refs } := by
  have hbe : blocks.isEmpty = false := by cases blocks <;> simp_all
  simp [toR, HabRom.walk, HabRom.stepCmd, chk, hk, hks, hoe, hbe, d6, hm, HabRom.hasSlot]

/-- the walk over a mandatory chain (standard or fast authentication), given that the reader finds every data block where
    the commands point (`hd`) — by evaluation of the reader on the five to seven commands -/
theorem walk_main (region : Bytes) (hdrLen self csf : Nat) (fast : Bool) (s : StdCsf) (L : Nat → Nat) (sigC : Bytes)
    (bd : List (Nat × Nat)) (sigD : Bytes) (enc : Option EncPart) (offsD offsE : List (Nat × Nat))
    (hd : ∀ cc ∈ mainList fast s L sigC bd sigD enc, needsRef cc.cmd = true → ∀ d, cc.data = some d → ∀ t what, t < 256 →
      HasTag t d → HabRom.dataRef region hdrLen cc.cmd.loc t what = .ok (cc.cmd.loc, d.length))
    (hsrk : HasTag 0xD7 s.srkBlob) (hcsf : HasTag 0xD7 s.csfCert) (himg : HasTag 0xD7 s.imgCert)
    (hsigC : HasTag 0xD8 sigC) (hsigD : HasTag 0xD8 sigD)
    (hsrc : s.srkSrc ≤ 3) (hslot : 2 ≤ s.imgSlot ∧ s.imgSlot ≤ 5) (hkek : s.kek ≤ 3) (hks : s.keySlot ≤ 3) (hbd : bd ≠ [])
    (ho : HabRom.toOffsets self csf bd = .ok offsD)
    (henc : ∀ e, enc = some e → e.blocks ≠ [] ∧ HabRom.toOffsets self csf e.blocks = .ok offsE ∧
      ∃ m, e.mac = some m ∧ HasTag 0xAC m) :
    ∃ w, HabRom.walk region hdrLen self csf {} ((mainList fast s L sigC bd sigD enc).map (fun c => toR c.cmd)) = .ok w ∧
      WalkOut w offsD (if enc.isSome then offsE else []) (enc.bind fun e => e.mac.map fun m => (L 6, m.length))
        (enc.map (·.loc)) ∧
      w.refs = (refsOf (mainList fast s L sigC bd sigD enc)).reverse ∧
      w.csfCert.isSome = !fast ∧ w.imgCert.isSome = !fast ∧ w.srk.map (·.2.2) = some s.srkSrc := by
  have d1 : HabRom.dataRef region hdrLen (L 1) 0xD7 "SRK table" = .ok (L 1, s.srkBlob.length) := hd ⟨.insKey 0 3 s.srkAlg s.srkSrc 0 (L 1), some s.srkBlob⟩
    (by cases fast <;> exact .head _) rfl _ rfl 0xD7 "SRK table" (by decide) hsrk
  have d3 : HabRom.dataRef region hdrLen (L 3) 0xD8 "signature" = .ok (L 3, sigC.length) := hd ⟨.autDat 0 1 0xC5 s.engCsf s.cfgCsf (L 3) [], some sigC⟩
    (by cases fast; exact .tail _ (.tail _ (.head _)); exact .tail _ (.head _)) rfl _ rfl 0xD8 "signature" (by decide) hsigC
  have d5 : HabRom.dataRef region hdrLen (L 5) 0xD8 "signature" = .ok (L 5, sigD.length) := hd ⟨.autDat 0 (if fast then 0 else s.imgSlot) 0xC5 s.engDat s.cfgDat (L 5) bd, some sigD⟩
    (by cases fast; exact .tail _ (.tail _ (.tail _ (.tail _ (.head _)))); exact .tail _ (.tail _ (.head _))) rfl _ rfl 0xD8
      "signature" (by decide) hsigD
  have d2 : fast = false → HabRom.dataRef region hdrLen (L 2) 0xD7 "certificate" = .ok (L 2, s.csfCert.length) := fun hf => hd ⟨.insKey 2 9 s.csfkAlg 0 1 (L 2), some s.csfCert⟩
    (by subst hf; exact .tail _ (.head _)) rfl _ rfl 0xD7 "certificate" (by decide) hcsf
  have d4 : fast = false → HabRom.dataRef region hdrLen (L 4) 0xD7 "certificate" = .ok (L 4, s.imgCert.length) := fun hf => hd ⟨.insKey 0 9 s.imgAlg 0 s.imgSlot (L 4), some s.imgCert⟩
    (by subst hf; exact .tail _ (.tail _ (.tail _ (.head _)))) rfl _ rfl 0xD7 "certificate" (by decide) himg
  cases enc with
  | none =>
    cases fast
    · exact ⟨_, walk_front_std region hdrLen self csf s L sigC bd sigD offsD _ _ _ _ _ d1 d3 d5 hsrc hbd ho (d2 rfl) (d4 rfl)
        hslot, ⟨rfl, rfl, rfl, rfl, rfl, rfl⟩, rfl, rfl, rfl, rfl⟩
    · exact ⟨_, walk_front_fast region hdrLen self csf s L sigC bd sigD offsD _ _ _ d1 d3 d5 hsrc hbd ho,
        ⟨rfl, rfl, rfl, rfl, rfl, rfl⟩, rfl, rfl, rfl, rfl⟩
  | some e =>
    obtain ⟨loc, blocks, mac⟩ := e
    obtain ⟨hbl, hoe, m, hm, hmac⟩ := henc _ rfl
    simp only at hbl hoe hm
    subst hm
    have d6 : HabRom.dataRef region hdrLen (L 6) 0xAC "MAC" = .ok (L 6, m.length) := hd ⟨.autDat 0 s.keySlot 0xA3 s.engDec s.cfgDec (L 6) blocks, some m⟩
      (by cases fast; exact .tail _ (.tail _ (.tail _ (.tail _ (.tail _ (.tail _ (.head _))))));
          exact .tail _ (.tail _ (.tail _ (.tail _ (.head _))))) rfl _ rfl 0xAC "MAC" (by decide) hmac
    have hsplit : mainList fast s L sigC bd sigD (some ⟨loc, blocks, some m⟩) = mainList fast s L sigC bd sigD none ++
        [⟨.insKey 1 0xBB s.skAlg s.kek s.keySlot loc, none⟩, ⟨.autDat 0 s.keySlot 0xA3 s.engDec s.cfgDec (L 6) blocks, some m⟩] := by
      cases fast <;> rfl
    rw [hsplit, List.map_append, walk_append]
    cases fast
    · rw [show mainList false s L sigC bd sigD none = s.core.list L sigC bd sigD none from rfl,
        walk_front_std region hdrLen self csf s L sigC bd sigD offsD _ _ _ _ _ d1 d3 d5 hsrc hbd ho (d2 rfl) (d4 rfl) hslot,
        bindE_ok, walk_enc region hdrLen self csf _ s (L 6) _ loc blocks offsE (some m) rfl hkek hks hbl d6 hoe]
      exact ⟨_, rfl, ⟨rfl, rfl, rfl, rfl, rfl, rfl⟩, rfl, rfl, rfl, rfl⟩
    · rw [show mainList true s L sigC bd sigD none = mainFast s L sigC bd sigD none from rfl,
        walk_front_fast region hdrLen self csf s L sigC bd sigD offsD _ _ _ d1 d3 d5 hsrc hbd ho,
        bindE_ok, walk_enc region hdrLen self csf _ s (L 6) _ loc blocks offsE (some m) rfl hkek hks hbl d6 hoe]
      exact ⟨_, rfl, ⟨rfl, rfl, rfl, rfl, rfl, rfl⟩, rfl, rfl, rfl, rfl⟩

end SpsdkVerif.Hab
