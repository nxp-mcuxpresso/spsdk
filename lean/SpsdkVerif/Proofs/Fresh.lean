/-
Helper lemmas for Properties/C17.lean (models: Model/Fresh.lean, Model/FreshLoop.lean).  The RNG oracle is a counter, so
what a history draws is a run of consecutive numbers: freshness is `List.pairwise_lt_range'`.
-/
import SpsdkVerif.Model.FreshLoop

namespace SpsdkVerif.Fresh

/-- an environment without early values -/
def EnvFresh (env : Env) : Prop := ∀ (i : Nat) (t : Token), env[i]? ≠ some (some t)

theorem boot_perCall (P : List Site) (hp : ∀ s ∈ P, s.evalTime = .perCall) (n : Nat) :
    (boot P n).2 = n ∧ EnvFresh (boot P n).1 := by
  induction P generalizing n with
  | nil => exact ⟨rfl, by intro i t; simp [boot]⟩
  | cons s ss ih =>
    have hs : s.evalTime = .perCall := hp s (by simp)
    have ih' := ih (fun x hx => hp x (by simp [hx])) n
    refine ⟨by simp [boot, hs, ih'.1], ?_⟩
    intro i t
    cases i with
    | zero => simp [boot, hs]
    | succ j => simpa [boot, hs] using ih'.2 j t

/-- In a fresh environment a build hands out the next tokens of the counter, in order. -/
theorem runBuild_fresh (env : Env) (hf : EnvFresh env) (art : Nat) (b : Build) (n : Nat) :
    ∃ m, (runBuild env art b n).2 = n + m ∧ (runBuild env art b n).1.map Obs.tok = List.range' n m := by
  induction b generalizing n with
  | nil => exact ⟨0, rfl, rfl⟩
  | cons i is ih =>
    unfold runBuild
    cases hE : env[i]? with
    | none => exact ih n
    | some v =>
      cases v with
      | some t => exact absurd hE (hf i t)
      | none =>
        obtain ⟨m, h2, h1⟩ := ih (n + 1)
        exact ⟨m + 1, by simp only [draw, h2]; omega, by simp only [draw, List.map_cons, h1]; rfl⟩

theorem runFrom_fresh (env : Env) (hf : EnvFresh env) (art : Nat) (h : History) (n : Nat) :
    ∃ m, (runFrom env art h n).map Obs.tok = List.range' n m := by
  induction h generalizing art n with
  | nil => exact ⟨0, rfl⟩
  | cons b bs ih =>
    obtain ⟨m₁, h2, h1⟩ := runBuild_fresh env hf art b n
    obtain ⟨m₂, hr⟩ := ih (art + 1) (runBuild env art b n).2
    rw [h2] at hr
    exact ⟨m₁ + m₂, by simp only [runFrom, List.map_append, h1, h2, hr, List.range'_append_1]⟩

/-- the stored value of an early site -/
theorem boot_early (P : List Site) (n i : Nat) (s : Site) (hi : P[i]? = some s) (he : s.evalTime ≠ .perCall) :
    ∃ t, (boot P n).1[i]? = some (some t) := by
  induction P generalizing n i with
  | nil => simp at hi
  | cons p ps ih =>
    cases i with
    | zero =>
      simp at hi
      subst hi
      exact ⟨n, by simp [boot, he, draw]⟩
    | succ j =>
      simp at hi
      by_cases hp : p.evalTime = .perCall
      · obtain ⟨t, ht⟩ := ih n j hi
        exact ⟨t, by simpa [boot, hp] using ht⟩
      · obtain ⟨t, ht⟩ := ih (n + 1) j hi
        exact ⟨t, by simpa [boot, hp, draw] using ht⟩

/-- Two builds that use the same early site share its value. -/
theorem run_early_shares (P : List Site) (i : Nat) (s : Site) (hi : P[i]? = some s) (he : s.evalTime ≠ .perCall) :
    ∃ t, run P [[i], [i]] = [⟨0, i, t⟩, ⟨1, i, t⟩] := by
  obtain ⟨t, ht⟩ := boot_early P 0 i s hi he
  exact ⟨t, by simp [run, runFrom, runBuild, ht]⟩

theorem noSharing_of_allDistinct (o : List Obs) (hd : AllDistinct o) : NoSharing o := by
  have h : o.Pairwise fun a b => (a.art ≠ b.art → a.tok ≠ b.tok) ∧ (b.art ≠ a.art → b.tok ≠ a.tok) :=
    hd.imp fun h => ⟨fun _ => h, fun _ => h.symm⟩
  exact fun _ ha _ hb => List.Pairwise.forall_of_forall_of_flip (fun _ _ h => absurd rfl h)
    (h.imp And.left) (h.imp And.right) ha hb

/-- Two artifacts of a run without sharing never feed the same (key, nonce) to AES-CTR once one component is
    self-chosen in both: that component would be a value observed in both artifacts. -/
theorem ctr_pair_ne {o : List Obs} (hfresh : NoSharing o) {u v : CtrUse} (hu : u.FromRun o) (hv : v.FromRun o)
    (hne : u.art ≠ v.art)
    (hself : (u.key.isChosen = true ∧ v.key.isChosen = true) ∨ (u.nonce.isChosen = true ∧ v.nonce.isChosen = true)) :
    (u.key, u.nonce) ≠ (v.key, v.nonce) := by
  intro heq
  have clash (a b : Val) (ha : a.isChosen = true) (hab : a = b)
      (hua : ∀ t, a = .chosen t → ∃ x ∈ o, x.art = u.art ∧ x.tok = t)
      (hvb : ∀ t, b = .chosen t → ∃ x ∈ o, x.art = v.art ∧ x.tok = t) : False := by
    cases a with
    | user _ => cases ha
    | chosen t =>
      obtain ⟨x, hx, hxa, hxt⟩ := hua t rfl
      obtain ⟨y, hy, hya, hyt⟩ := hvb t hab.symm
      exact hfresh x hx y hy (by rw [hxa, hya]; exact hne) (by rw [hxt, hyt])
  rcases hself with ⟨hk, _⟩ | ⟨hn, _⟩
  · exact clash _ _ hk (congrArg Prod.fst heq) hu.1 hv.1
  · exact clash _ _ hn (congrArg Prod.snd heq) hu.2 hv.2

/-- with the draw inside the artifact loop a history of calls hands out the numbers from the counter on -/
theorem runCalls_inside (h : List Nat) (next : Nat) : runCalls true h next = List.range' next h.sum := by
  induction h generalizing next with
  | nil => rfl
  | cons n ns ih =>
    simp only [runCalls, serve, if_true, ih, List.sum_cons, List.range_eq_range', List.map_add_range', Nat.add_zero,
      List.range'_append_1]

end SpsdkVerif.Fresh
