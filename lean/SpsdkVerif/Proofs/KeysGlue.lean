/-
Lemmas about Model/KeysGlue.lean: attempt chains (`firstAccept`), key-index matching, the trailing-zero loop of
`Certificate.parse` under assumed loader answers, parameter filtering of the signature providers, raw key files of the CLI.
-/
import SpsdkVerif.Proofs.Keys
import SpsdkVerif.Model.KeysGlue

namespace SpsdkVerif.Keys
open SpsdkVerif SpsdkVerif.Misc SpsdkVerif.Generated

theorem firstAccept_append_spsdk {α : Type} (pre rest : List (Try α)) (h : ∀ t ∈ pre, t = .spsdk) :
    firstAccept (pre ++ rest) = firstAccept rest := by
  induction pre with
  | nil => rfl
  | cons t pre ih =>
    have ht : t = .spsdk := h t (by simp)
    subst ht
    simp only [List.cons_append, firstAccept]
    exact ih (fun t' ht' => h t' (by simp [ht']))

/-- the chain ends like the single attempt `t` (an acceptance or an escaping exception) iff `t` is the first attempt that does
    not refuse -/
theorem firstAccept_eq_iff {α : Type} (l : List (Try α)) (t : Try α) (ht : t ≠ .spsdk) :
    firstAccept l = firstAccept [t] ↔ ∃ pre post, l = pre ++ t :: post ∧ ∀ x ∈ pre, x = .spsdk := by
  constructor
  · intro h
    induction l with
    | nil => cases t <;> simp [firstAccept] at h ht
    | cons x rest ih =>
      cases x with
      | spsdk =>
        obtain ⟨pre, post, e, hp⟩ := ih h
        exact ⟨.spsdk :: pre, post, by rw [e]; rfl, by simpa using hp⟩
      | ok b => cases t <;> simp [firstAccept] at h ht; exact ⟨[], rest, by rw [h]; rfl, by simp⟩
      | other => cases t <;> simp [firstAccept] at h ht; exact ⟨[], rest, rfl, by simp⟩
  · rintro ⟨pre, post, rfl, hp⟩
    rw [firstAccept_append_spsdk pre _ hp]
    cases t <;> first | rfl | exact absurd rfl ht

theorem firstAccept_spsdk_iff {α : Type} (l : List (Try α)) :
    firstAccept l = .error .spsdk ↔ ∀ t ∈ l, t = .spsdk := by
  induction l with
  | nil => simp [firstAccept]
  | cons t rest ih =>
    cases t with
    | ok b => simp [firstAccept]
    | other => simp [firstAccept]
    | spsdk => simp [firstAccept, ih]

/-- the loop is `findIdx?` with the index counted from `b` -/
theorem firstTrueFrom_eq (ms : List Bool) (b : Nat) :
    firstTrueFrom b ms = match ms.findIdx? id with | some k => .ok (b + k) | none => .error .spsdk := by
  induction ms generalizing b with
  | nil => rfl
  | cons m rest ih =>
    cases m
    · rw [firstTrueFrom, ih, List.findIdx?_cons]
      cases rest.findIdx? id <;> simp [Nat.add_assoc, Nat.add_comm 1]
    · simp [firstTrueFrom, List.findIdx?_cons]

theorem matchingKeyId_ok_iff (ms : List Bool) (i : Nat) :
    matchingKeyId ms = .ok i ↔ ms[i]? = some true ∧ ∀ j, j < i → ms[j]? = some false := by
  rw [matchingKeyId, firstTrueFrom_eq]
  cases h : ms.findIdx? id with
  | none =>
    simp only [reduceCtorEq, false_iff]
    rintro ⟨h1, _⟩
    simpa using List.findIdx?_eq_none_iff.1 h true (List.mem_of_getElem? h1)
  | some k =>
    obtain ⟨hk, hkt, hkf⟩ := List.findIdx?_eq_some_iff_getElem.1 h
    have hkf' : ∀ j, j < k → ms[j]? = some false := fun j hj => by
      have := hkf j hj
      rw [List.getElem?_eq_getElem (Nat.lt_trans hj hk)]; simpa using this
    simp only [Except.ok.injEq, Nat.zero_add]
    constructor
    · rintro rfl
      exact ⟨by rw [List.getElem?_eq_getElem hk]; simpa using hkt, hkf'⟩
    · rintro ⟨h1, h2⟩
      -- two first matches coincide
      rcases Nat.lt_trichotomy k i with hlt | rfl | hgt
      · have := h2 k hlt; rw [List.getElem?_eq_getElem hk] at this; simp_all
      · rfl
      · rw [hkf' i hgt] at h1; cases h1

theorem firstTrueFrom_err_iff (ms : List Bool) (b : Nat) :
    firstTrueFrom b ms = .error .spsdk ↔ ∀ m ∈ ms, m = false := by
  induction ms generalizing b with
  | nil => simp [firstTrueFrom]
  | cons m rest ih =>
    cases m with
    | true => simp [firstTrueFrom]
    | false => simp [firstTrueFrom, ih]

theorem certLoadDerF_padded {γ : Type} (load : Bytes → LoadRes γ) (der : Bytes) (c : γ)
    (hload : load der = .ok c) (hextra : ∀ k, 0 < k → load (der ++ List.replicate k 0) = .extraData)
    (k fuel : Nat) (hf : k ≤ fuel) :
    certLoadDerF load fuel (der ++ List.replicate k 0) = .ok c := by
  induction k generalizing fuel with
  | zero =>
    simp only [List.replicate_zero, List.append_nil]
    unfold certLoadDerF; rw [hload]
  | succ k ih =>
    unfold certLoadDerF
    rw [hextra (k + 1) (by omega), List.replicate_succ', ← List.append_assoc, List.getLast?_concat, List.dropLast_concat]
    simp only [if_true]
    cases fuel with
    | zero => omega
    | succ f => exact ih f (by omega)

theorem lookup_filter_none (k : String) (f : String × PVal → Bool) (l : Params)
    (h : ∀ p : String × PVal, p.1 = k → f p = false) : (l.filter f).lookup k = none := by
  induction l with
  | nil => rfl
  | cons p rest ih =>
    simp only [List.filter]
    cases hp : f p with
    | false => exact ih
    | true =>
      simp only [List.lookup]
      have hne : ¬ p.1 = k := fun e => by rw [h p e] at hp; exact absurd hp (by simp)
      have : (k == p.1) = false := by
        rw [beq_eq_false_iff_ne]; exact fun e => hne e.symm
      rw [this]; exact ih

theorem lookup_filter_keep (k : String) (f : String × PVal → Bool) (l : Params)
    (h : ∀ p : String × PVal, p.1 = k → f p = true) : (l.filter f).lookup k = l.lookup k := by
  induction l with
  | nil => rfl
  | cons p rest ih =>
    simp only [List.filter]
    by_cases hk : p.1 = k
    · rw [h p hk]
      simp only [List.lookup]
      have : (k == p.1) = true := by rw [beq_iff_eq]; exact hk.symm
      rw [this]
    · have hb : (k == p.1) = false := by rw [beq_eq_false_iff_ne]; exact fun e => hk e.symm
      cases hp : f p with
      | false => simp only [List.lookup, hb]; exact ih
      | true => simp only [List.lookup, hb]; exact ih

/-- the reserved key `pss_padding` survives `filter_params`: it is a named parameter of `PlainFileSP.__init__` -/
theorem lookup_pss_filterParams (params : Params) :
    (filterParams plainFileVarnames KeysTables.spReservedKeys params).lookup "pss_padding" = params.lookup "pss_padding" :=
  lookup_filter_keep _ _ _ (fun p hp => by rw [hp]; decide)

/-- `sign_kwargs` carries `pss_padding` exactly when it was given, converted by `value_to_bool` -/
theorem lookup_pss_initKwargs (bound : Params) :
    (plainFileInitKwargs bound).lookup "pss_padding" =
      (bound.lookup "pss_padding").map (fun v => .bool (valueToBool v)) := by
  have hn : KeysTables.plainFileInitParams.contains "pss_padding" = true := by decide
  unfold plainFileInitKwargs
  rw [hn, List.lookup_append, lookup_filter_none _ _ _ (fun p hp => by rw [hp, hn]; rfl)]
  cases bound.lookup "pss_padding" <;> simp

theorem keyLenCurve_cl (c : Curve) :
    (KeysTables.keyLenCurve c.cl).bind Curve.ofName = some c ∧ (c.cl ≤ 48 ∨ c.cl = 66) := by
  cases c <;> decide

theorem keyLenCurve_two_cl (c : Curve) (hc : c ≠ .p521) :
    (KeysTables.keyLenCurve (2 * c.cl)).bind Curve.ofName = some c ∧ ¬ (2 * c.cl ≤ 48 ∨ 2 * c.cl = 66) ∧
      (2 * c.cl = 64 ∨ 2 * c.cl = 96) := by
  cases c <;> first | exact absurd rfl hc | decide

end SpsdkVerif.Keys
