/- The parser model (Model/AhabParse.lean) against the exporter model (Model/Ahab.lean): round trips of signature, blob and
   opaque blocks, what the parser is to return for an exported file (`expectedSb`, `expectedHeader`, `expectedP`), the slot loop. -/
import SpsdkVerif.Model.AhabParse
import SpsdkVerif.Proofs.Ahab

namespace SpsdkVerif.Ahab
open SpsdkVerif SpsdkVerif.Misc
open SpsdkVerif.Generated
open SpsdkVerif.Spec.AhabRom (slice rd)

theorem drop_append_of_slice (s rest d : Bytes) (off : Nat) (h : slice s off d.length = d) (hl : off + d.length ≤ s.length) :
    (s ++ rest).drop off = d ++ (s.drop (off + d.length) ++ rest) := by
  rw [List.drop_append_of_le_length (by omega), drop_of_slice s d off h, List.append_assoc]

theorem signature_roundtrip (s sg rest : Bytes) (hne : s ≠ []) (h : encodeSignature s = .ok sg) :
    parseSignature (sg ++ rest) = some s := by
  obtain ⟨rfl, _⟩ | ⟨_, hf, rfl⟩ := encodeSignature_ok h
  · exact absurd rfl hne
  have hu := unpack_pack _ _ (s ++ rest) hf
  have hP : (packInts _ _).length = 8 := packInts_length _ _ hf
  generalize packInts [1, 2, 1, 4] _ = P at *
  unfold parseSignature
  simp only [show AhabConsts.signatureLayout.size = 8 from rfl, show AhabConsts.signatureLayout.intWidths = [1, 2, 1, 4] from rfl,
    List.append_assoc]
  rw [if_neg (by simp only [List.length_append, hP]; omega), hu]
  simp only
  rw [if_neg (by simp only [ne_eq, not_true_eq_false, false_or, List.length_append, hP]; omega), ← List.append_assoc,
    List.take_left' (by rw [List.length_append, hP]), List.drop_left' hP]

structure BlobParseWF (b : Blob) : Prop where
  size : b.size % 8 = 0
  len : b.length = 8 + b.keyblob.length

theorem blob_roundtrip (b : Blob) (bl rest : Bytes) (kid : Nat) (hwf : BlobParseWF b) (h : encodeBlob b = .ok bl) :
    parseBlob (bl ++ rest) kid = some { b with keyIdentifier := kid } := by
  obtain ⟨hf, rfl⟩ := encodeBlob_ok h
  have hu := unpack_pack _ _ (b.keyblob ++ rest) hf
  have hP : (packInts _ _).length = 8 := packInts_length _ _ hf
  generalize packInts [1, 2, 1, 1, 1, 1, 1] _ = P at *
  unfold parseBlob
  simp only [show AhabConsts.blobLayout.size = 8 from rfl, show AhabConsts.blobLayout.intWidths = [1, 2, 1, 1, 1, 1, 1] from rfl,
    List.append_assoc]
  rw [if_neg (by simp only [List.length_append, hP]; omega), hu]
  simp only
  rw [if_neg (by simp only [ne_eq, not_true_eq_false, false_or, List.length_append, hP, hwf.len]; omega), hwf.len,
    ← List.append_assoc, List.take_left' (by rw [List.length_append, hP]), List.drop_left' hP,
    show b.size / 8 * 8 = b.size from by have := hwf.size; omega]

/-- an opaque block whose own header (version, 16-bit length, tag) describes it -/
def RawBlockOK (tag : Nat) (raw : Bytes) : Prop :=
  4 ≤ raw.length ∧ ∃ ver, unpackInts [1, 2, 1] raw = some [ver, raw.length, tag]

theorem unpackInts_append (ws : List Nat) : ∀ (b rest : Bytes) (vs : List Nat), unpackInts ws b = some vs →
    unpackInts ws (b ++ rest) = some vs := by
  induction ws with
  | nil => intro b rest vs h; simpa [unpackInts] using h
  | cons w ws ih =>
    intro b rest vs h
    simp only [unpackInts] at h ⊢
    by_cases hl : b.length < w
    · simp [hl] at h
    · rw [if_neg hl] at h
      have hl' : ¬ ((b ++ rest).length < w) := by simp; omega
      rw [if_neg hl']
      cases hu : unpackInts ws (b.drop w) with
      | none => rw [hu] at h; cases h
      | some vs' =>
        rw [hu] at h
        rw [List.drop_append_of_le_length (by omega), ih _ rest vs' hu, List.take_append_of_le_length (by omega)]
        exact h

theorem rawBlock_roundtrip (tag : Nat) (raw rest : Bytes) (h : RawBlockOK tag raw) :
    parseRawBlock tag (raw ++ rest) = some raw := by
  obtain ⟨h4, ver, hu⟩ := h
  unfold parseRawBlock
  have h1 : ¬ ((raw ++ rest).length < 4) := by simp; omega
  rw [if_neg h1, unpackInts_append _ _ rest _ hu]
  simp only
  have h2 : ¬ (tag ≠ tag ∨ (raw ++ rest).length < raw.length) := by
    intro hc; rcases hc with hc | hc
    · exact hc rfl
    · simp at hc; omega
  rw [if_neg h2, List.take_append_of_le_length (Nat.le_refl _), List.take_of_length_le (Nat.le_refl _)]

/-- what the parser needs to find the parts of an exported signature block again -/
structure SbParseWF (v : Ver) (sb : SigBlock) : Prop where
  blobLen : BlobLenOK sb
  blob : ∀ b, sb.blob = some b → BlobParseWF b
  sig2 : sb.signature2 = []
  srk : sb.srk = [] ∨ (match v with
    | .v1 => ∃ t, SrkTableWF t ∧ encodeSrkTable t = .ok sb.srk
    | .v2 => RawBlockOK AhabConsts.srkTableArrayTag sb.srk)
  cert : sb.cert = [] ∨ RawBlockOK AhabConsts.certificateTag sb.cert

def psrkOf (v : Ver) (sb : SigBlock) : PSrk :=
  if sb.srk = [] then .none else
  match v with
  | .v1 => match decodeSrkTable sb.srk with | some t => .table t | none => .none
  | .v2 => .raw sb.srk

def expectedSb (v : Ver) (sb : SigBlock) : PSigBlock :=
  let o := sbLayout v sb
  ⟨o.length, o.srkOff, o.sigOff, o.certOff, o.blobOff, psrkOf v sb,
   if sb.signature = [] then none else some sb.signature, if sb.cert = [] then none else some sb.cert, sb.blob⟩

def expectedHeader (v : Ver) (c : Container) (n : Nat) : Header :=
  ⟨v.containerVersion, headerLength v n (sbLayout v c.sb).length, AhabConsts.containerTag, c.flags, c.swVersion, c.fuseVersion, n,
   sigBlockOffset v n⟩

def expectedP (v : Ver) (u : UContainer) : PContainer :=
  ⟨expectedHeader v u.cont u.placed.length, u.placed.map (·.iae), u.placed.map (fun p => extendTo p.ready.size p.ready.image),
   expectedSb v u.cont.sb⟩

theorem parseContainer_header {v : Ver} {d : Bytes} {c : PContainer} (h : parseContainer v d = some c) :
    ∃ hd, decodeHeader v d = some hd := by
  unfold parseContainer at h
  cases hh : decodeHeader v d with
  | none => rw [hh] at h; cases h
  | some hd => exact ⟨hd, rfl⟩

theorem parseSlots_spec (v : Ver) (bin : Bytes) : ∀ (us : List UContainer) (fuel k : Nat), us.length ≤ fuel →
    (∀ j u, us[j]? = some u → parseContainer v (bin.drop ((k + j) * v.containerSize)) = some (expectedP v u)) →
    (∀ m, k + us.length ≤ m → m < k + fuel → decodeHeader v (bin.drop (m * v.containerSize)) = none) →
    parseSlots v bin fuel k = some (us.map (expectedP v))
  | us, 0, k, hl, _, _ => by
    have : us = [] := List.eq_nil_of_length_eq_zero (by omega)
    subst this; rfl
  | [], fuel + 1, k, _, hs, hn => by
    unfold parseSlots
    simp only
    rw [hn k (by simp) (by omega)]
    have := parseSlots_spec v bin [] fuel (k + 1) (by simp) (fun j u h => by simp at h)
      (fun m h1 h2 => hn m (by simp at h1 ⊢; omega) (by omega))
    simpa using this
  | u :: us, fuel + 1, k, hl, hs, hn => by
    unfold parseSlots
    simp only
    have h0 := hs 0 u (by simp)
    rw [Nat.add_zero] at h0
    obtain ⟨hd, hhd⟩ := parseContainer_header h0
    rw [hhd]
    simp only
    have ih := parseSlots_spec v bin us fuel (k + 1) (by simp at hl; omega)
      (fun j u' h => by
        have := hs (j + 1) u' (by simpa using h)
        rw [show k + (j + 1) = k + 1 + j from by omega] at this
        exact this)
      (fun m h1 h2 => hn m (by simp at h1 ⊢; omega) (by omega))
    rw [h0, ih]
    rfl

end SpsdkVerif.Ahab
