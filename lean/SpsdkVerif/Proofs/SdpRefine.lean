/-
SDP without faults (C10): the host in closed loop with the live reference ROM, on either transport, has exactly the effect
`Sdp.specOp` defines.  `Linked h r pend` is the link invariant: `pend` = the ROM's answers not yet read, a list of messages
laid out as bytes on the serial protocol and as HAB / RET reports over USB-HID.  One lemma per primitive (`sent_*`,
`protoRead_linked`), per host routine (`*_linked`) and per ROM command (`rom_*`).
-/
import SpsdkVerif.Model.Sdp
import SpsdkVerif.Proofs.Sdp

namespace SpsdkVerif.Sdp
open SpsdkVerif SpsdkVerif.Sdp.S

theorem framesOf_nil (rid size f : Nat) : framesOf rid size f [] = [] := by
  cases f <;> rfl

theorem div_step (n size : Nat) (hs : 0 < size) (hn : 0 < n) :
    (n - size + size - 1) / size + 1 = (n + size - 1) / size := by
  rw [Nat.sub_add_comm hn, Nat.add_div_right _ hs, Nat.add_right_cancel_iff]
  rcases Nat.le_total n size with h | h
  · rw [Nat.sub_eq_zero_of_le h, Nat.zero_add, Nat.div_eq_of_lt (Nat.sub_one_lt (Nat.ne_of_gt hs)),
      Nat.div_eq_of_lt (Nat.lt_of_lt_of_le (Nat.sub_one_lt (Nat.ne_of_gt hn)) h)]
  · rw [Nat.sub_add_cancel h]

theorem padTo_take (size : Nat) (b : Bytes) :
    (padTo size (b.take size)).length = size ∧ (padTo size (b.take size)).take b.length = b.take size := by
  rcases Nat.le_total b.length size with h | h
  · rw [List.take_of_length_le h, padTo, List.take_left']
    · exact ⟨by rw [List.length_append, List.length_replicate]; omega, rfl⟩
    · rfl
  · have e : (b.take size).length = size := by rw [List.length_take]; omega
    rw [padTo, e, Nat.sub_self, List.replicate_zero, List.append_nil]
    exact ⟨e, List.take_of_length_le (by omega)⟩

theorem framesOf_deliver (rid size : Nat) (hs : 0 < size) (f : Nat) (b : Bytes) (hb : b.length ≤ f) :
    (((framesOf rid size f b).map (List.drop 1)).flatten.take b.length = b) ∧
    (∀ x ∈ framesOf rid size f b, x.length = 1 + size ∧ x.head? = some (UInt8.ofNat rid)) ∧
    ((framesOf rid size f b).length = (b.length + size - 1) / size) := by
  have empty : ([] : Bytes).length = (([] : Bytes).length + size - 1) / size := by
    rw [List.length_nil, Nat.zero_add, Nat.div_eq_of_lt (Nat.sub_one_lt (Nat.ne_of_gt hs))]
  induction f generalizing b with
  | zero =>
    cases List.eq_nil_of_length_eq_zero (Nat.le_zero.mp hb)
    exact ⟨rfl, nofun, empty⟩
  | succ f ih =>
    cases b with
    | nil => exact ⟨rfl, nofun, empty⟩
    | cons x xs =>
      obtain ⟨i1, i2, i3⟩ := ih ((x :: xs).drop size)
        (by rw [List.length_drop]; exact Nat.le_trans (Nat.sub_le_sub_right hb size) (by omega))
      obtain ⟨p1, p2⟩ := padTo_take size (x :: xs)
      rw [framesOf, if_neg (by simp)]
      refine ⟨?_, ?_, ?_⟩
      · rw [List.map_cons, List.flatten_cons, List.drop_one, List.tail_cons, List.take_append, p2, p1,
          ← List.length_drop, i1, List.take_append_drop]
      · intro y hy
        rcases List.mem_cons.mp hy with rfl | hy
        · exact ⟨by rw [List.length_cons, p1, Nat.add_comm], rfl⟩
        · exact i2 y hy
      · rw [List.length_cons, i3, List.length_drop, div_step _ _ hs (List.length_pos_iff.mpr (List.cons_ne_nil _ _))]

theorem hidFrames_deliver (rid size : Nat) (b : Bytes) (hs : 0 < size) :
    (((hidFrames rid size b).map (List.drop 1)).flatten.take b.length = b) ∧
    (∀ f ∈ hidFrames rid size b, f.length = 1 + size ∧ f.head? = some (UInt8.ofNat rid)) ∧
    ((hidFrames rid size b).length = (b.length + size - 1) / size) :=
  framesOf_deliver rid size hs b.length b (Nat.le_refl _)

theorem leBytes_length (n v : Nat) : (leBytes n v).length = n := by
  induction n generalizing v with
  | zero => rfl
  | succ n ih => rw [leBytes, List.length_cons, ih]

theorem splice_length (mem : Bytes) (a : Nat) (d : Bytes) (h : a + d.length ≤ mem.length) :
    (splice mem a d).length = mem.length := by
  simp only [splice, List.length_append, List.length_take, List.length_drop]; omega

theorem specOp_OK (ce : Bool) (r r' : Rom) (op : Op) (res : Except SErr Val) (st hab : Nat)
    (hr : r.OK) (hrecv : r.recv = none) (hspec : specOp ce r op = some (r', res, st, hab)) : r'.OK ∧ r'.recv = none := by
  obtain ⟨h1, h2, h3⟩ := hr
  -- only `ncmd`, `jumped` and, by a splice inside its bounds, `mem` change
  have ok : ∀ {m n j}, m.length = r.mem.length → ({ r with mem := m, ncmd := n, jumped := j } : Rom).OK ∧ r.recv = none :=
    fun e => ⟨⟨e ▸ h1, h2, h3⟩, hrecv⟩
  cases op with
  | sdpsWriteFile nc ps d => cases hspec
  | read a n f =>
    by_cases hle : a + n ≤ r.mem.length
    · simp only [specOp, if_pos hle] at hspec
      cases hspec; exact ok rfl
    · simp only [specOp, if_neg hle] at hspec
      cases hspec
  | write a v c f =>
    by_cases hok : (f = 8 ∨ f = 16 ∨ f = 32) ∧ a + f / 8 ≤ r.mem.length
    · simp only [specOp, if_pos hok] at hspec
      cases hspec; exact ok (splice_length _ _ _ (by rw [leBytes_length]; exact hok.2))
    · simp only [specOp, if_neg hok] at hspec
      cases hspec; exact ok rfl
  | writeFile a d =>
    by_cases hok : a + d.length ≤ r.mem.length
    · simp only [specOp, if_pos hok] at hspec
      cases hspec; exact ok (splice_length _ _ _ hok)
    · simp only [specOp, if_neg hok] at hspec
      cases hspec; exact ok rfl
  | _ => cases hspec; exact ok rfl

def chunksF : Nat → Bytes → List Bytes
  | 0, _ => []
  | f + 1, b => if b.isEmpty then [] else b.take 64 :: chunksF f (b.drop 64)

def chunks (b : Bytes) : List Bytes := chunksF b.length b

theorem chunksF_nil (f : Nat) : chunksF f [] = [] := by cases f <;> rfl

theorem chunksF_fuel : ∀ (f g : Nat) (b : Bytes), b.length ≤ f → b.length ≤ g → chunksF f b = chunksF g b
  | _, _, [], _, _ => by rw [chunksF_nil, chunksF_nil]
  | f + 1, g + 1, x :: xs, hf, hg => by
    have hd : ((x :: xs).drop 64).length ≤ xs.length := by rw [List.length_drop, List.length_cons]; omega
    rw [chunksF, chunksF, chunksF_fuel f g _ (Nat.le_trans hd (Nat.le_of_succ_le_succ hf))
      (Nat.le_trans hd (Nat.le_of_succ_le_succ hg))]
  | 0, _, _ :: _, hf, _ => nomatch hf
  | _ + 1, 0, _ :: _, _, hg => nomatch hg

theorem chunks_nil : chunks [] = [] := rfl

theorem chunks_cons (b : Bytes) (hb : b ≠ []) : chunks b = b.take 64 :: chunks (b.drop 64) := by
  obtain ⟨x, xs, rfl⟩ := List.exists_cons_of_ne_nil hb
  rw [chunks, List.length_cons, chunksF, if_neg (by simp), chunks,
    chunksF_fuel _ _ _ (by rw [List.length_drop, List.length_cons]; omega) (Nat.le_refl _)]

theorem chunks_small (b : Bytes) (hb : b ≠ []) (hl : b.length ≤ 64) : chunks b = [b] := by
  rw [chunks_cons b hb, List.take_of_length_le hl, List.drop_of_length_le hl, chunks_nil]

theorem retReports_eq (f : Nat) (b : Bytes) (hf : b.length ≤ f) :
    retReports f b = (chunks b).map (fun p => UInt8.ofNat Spec.ridRet :: padTo Spec.retSize p) := by
  rw [chunks, ← chunksF_fuel f _ b hf (Nat.le_refl _)]
  clear hf
  induction f generalizing b with
  | zero => rfl
  | succ f ih =>
    rw [retReports, chunksF]
    split
    · rfl
    · rw [List.map_cons, ih]

theorem chunks_flatten (b : Bytes) : (chunks b).flatten = b := by
  generalize hn : b.length = n
  induction n using Nat.strongRecOn generalizing b with
  | ind n ih =>
    by_cases hb : b = []
    · rw [hb]; rfl
    · have : 0 < b.length := List.length_pos_iff.mpr hb
      rw [chunks_cons b hb, List.flatten_cons, ih _ (by rw [← hn, List.length_drop]; omega) _ rfl, List.take_append_drop]

def repOf (m : Bool × Bytes) : Bytes :=
  if m.1 then UInt8.ofNat Spec.ridHab :: m.2 else UInt8.ofNat Spec.ridRet :: padTo Spec.retSize m.2

def msgs (out : Bytes) : List (Bool × Bytes) :=
  if out.isEmpty then [] else (true, out.take 4) :: (chunks (out.drop 4)).map (fun p => (false, p))

theorem toReports_eq (out : Bytes) : toReports out = (msgs out).map repOf := by
  unfold toReports msgs
  split
  · rfl
  · rw [retReports_eq _ _ (by rw [List.length_drop]; omega), List.map_cons, List.map_map]
    rfl

theorem msgs_flatten (out : Bytes) : ((msgs out).map Prod.snd).flatten = out := by
  unfold msgs
  split
  · rename_i he; rw [List.isEmpty_iff.mp he]; rfl
  · rw [List.map_cons, List.map_map, List.flatten_cons, show (Prod.snd ∘ fun p : Bytes => (false, p)) = id from rfl,
      List.map_id, chunks_flatten, List.take_append_drop]

theorem msgs_nil : msgs [] = [] := rfl

theorem msgs_hab (hab x : Bytes) (hl : hab.length = 4) :
    msgs (hab ++ x) = (true, hab) :: (chunks x).map (fun p => (false, p)) := by
  rw [msgs, if_neg (by cases hab <;> simp at hl ⊢), List.take_left' hl, List.drop_left' hl]

/-- host `h` talks to ROM `r`; `pend` = the answers of the ROM not yet read (`true`: the HAB word) -/
def Linked (h : Host) (r : Rom) (pend : List (Bool × Bytes)) : Prop :=
  h.opened = true ∧ 16 ≤ h.packSize ∧
  ((h.tr = .serial ∧ h.peer = .live r ∧ h.rx = (pend.map Prod.snd).flatten ∧ h.rxR = []) ∨
   (h.tr = .hid ∧ h.peer = .liveHid { rom := r, buf := [] } ∧ h.rx = [] ∧ h.rxR = pend.map repOf))

section link
variable {h : Host} {r : Rom} {pend : List (Bool × Bytes)}

theorem Linked.serial (hl : Linked h r pend) (ht : h.tr = .serial) :
    h.peer = .live r ∧ h.rx = (pend.map Prod.snd).flatten ∧ h.rxR = [] :=
  hl.2.2.elim (·.2) fun x => nomatch ht.symm.trans x.1

theorem Linked.hid (hl : Linked h r pend) (ht : h.tr = .hid) :
    h.peer = .liveHid ⟨r, []⟩ ∧ h.rx = [] ∧ h.rxR = pend.map repOf :=
  hl.2.2.elim (fun x => nomatch ht.symm.trans x.1) (·.2)

def Outcome (h h' : Host) (st hab : Nat) : Prop :=
  h'.status = st ∧ h'.hab = hab ∧ h'.ce = h.ce ∧ h'.tr = h.tr ∧ h'.packSize = h.packSize

abbrev Same (h h' : Host) : Prop := Outcome h h' h.status h.hab

theorem Same.refl (h : Host) : Same h h := ⟨rfl, rfl, rfl, rfl, rfl⟩

theorem Outcome.trans {a b c : Host} {st hab : Nat} (x : Outcome a b st hab) (y : Same b c) : Outcome a c st hab :=
  ⟨y.1.trans x.1, y.2.1.trans x.2.1, y.2.2.1.trans x.2.2.1, y.2.2.2.1.trans x.2.2.2.1, y.2.2.2.2.trans x.2.2.2.2⟩

/-- `w` is sent as one write to the ROM, whose answer joins the pending messages -/
def Sent (rid : Nat) (w : Bytes) (h : Host) (r : Rom) (pend : List (Bool × Bytes)) : Prop :=
  ∃ h', sendFrame rid w h = (.ok (), h') ∧ Linked h' (r.step w).1 (pend ++ msgs (r.step w).2) ∧ Same h h' ∧
    (h.tr = .serial → h'.expectStatus = true)

theorem sent_serial (rid : Nat) (w : Bytes) (hl : Linked h r pend)
    (ht : h.tr = .serial) : Sent rid w h r pend := by
  obtain ⟨hpe, hrx, hrxr⟩ := hl.serial ht
  refine ⟨_, sendFrame_serial rid w ht, ?_, ?_, fun _ => rfl⟩ <;> rw [Host.write, devWrite_serial w ht, hpe]
  · exact ⟨hl.1, hl.2.1, .inl ⟨ht, rfl, by simp [hrx, Peer.react, msgs_flatten], hrxr⟩⟩
  · exact ⟨rfl, rfl, rfl, rfl, rfl⟩

/-- over USB-HID: once the reports of the frame are written, the ROM has taken its step on `w` and the answer is queued
    as reports -/
theorem sent_hid {rid : Nat} {w : Bytes} (hl : Linked h r pend)
    (ht : h.tr = .hid)
    (e : ∃ tx rel, (hidFrames rid h.packSize w).foldl (fun x f => x.devWrite f) h = { h with
      txRev := tx, relRev := rel, peer := .liveHid ⟨(r.step w).1, []⟩, rxR := h.rxR ++ toReports (r.step w).2 }) :
    Sent rid w h r pend := by
  obtain ⟨tx, rel, e⟩ := e
  obtain ⟨_, hrx, hrxr⟩ := hl.hid ht
  have hp : 16 ≤ h.packSize := hl.2.1
  refine ⟨_, by rw [sendFrame_hid _ w ht, if_neg (by omega)], ?_, ?_, fun x => nomatch ht.symm.trans x⟩ <;> rw [e]
  · exact ⟨hl.1, hp, .inr ⟨ht, rfl, hrx, by rw [hrxr, toReports_eq, List.map_append]⟩⟩
  · exact ⟨rfl, rfl, rfl, rfl, rfl⟩

theorem HidRom.step_cmd (r : Rom) (buf payload : Bytes) (hrecv : r.recv = none) :
    HidRom.step ⟨r, buf⟩ (UInt8.ofNat Spec.ridCmd :: payload) =
      (⟨(r.step (payload.take 16)).1, []⟩, toReports (r.step (payload.take 16)).2) := by
  simp only [HidRom.step, hrecv, show (UInt8.ofNat Spec.ridCmd).toNat = Spec.ridCmd from rfl, if_true]

theorem HidRom.step_data (r : Rom) (buf payload : Bytes) (tag a n : Nat) (hrecv : r.recv = some (tag, a, n)) :
    HidRom.step ⟨r, buf⟩ (UInt8.ofNat Spec.ridData :: payload) =
      if (buf ++ payload.take (n - buf.length)).length = n then
        (⟨(r.step (buf ++ payload.take (n - buf.length))).1, []⟩, toReports (r.step (buf ++ payload.take (n - buf.length))).2)
      else (⟨r, buf ++ payload.take (n - buf.length)⟩, []) := by
  simp only [HidRom.step, hrecv, show (UInt8.ofNat Spec.ridData).toNat = Spec.ridData from rfl, if_true]

theorem sent_cmd (w : Bytes) (hl : Linked h r pend)
    (hrecv : r.recv = none) (hw : w.length = 16) : Sent Spec.ridCmd w h r pend := by
  cases ht : h.tr with
  | serial => exact sent_serial _ w hl ht
  | hid =>
    have hp : 16 ≤ h.packSize := hl.2.1
    have hfr : hidFrames Spec.ridCmd h.packSize w = [UInt8.ofNat Spec.ridCmd :: padTo h.packSize w] := by
      rw [hidFrames, hw, framesOf, if_neg (by cases w <;> simp at hw ⊢), List.take_of_length_le (by omega),
        List.drop_of_length_le (by omega), framesOf_nil]
    have hpay : (padTo h.packSize w).take 16 = w := by rw [padTo, List.take_left' hw]
    refine sent_hid hl ht ?_
    rw [hfr, List.foldl_cons, List.foldl_nil, devWrite_hid _ ht, (hl.hid ht).1]
    simp only [Peer.react, HidRom.step_cmd r _ _ hrecv, hpay]
    exact ⟨_, _, rfl⟩

/-- a data phase over USB-HID: the ROM collects the payloads (`buf`) and takes its step when the last report is in -/
theorem hid_data_fold {r : Rom} {tag a n ps : Nat} (hps : 0 < ps) (hrecv : r.recv = some (tag, a, n)) (f : Nat)
    (b buf : Bytes) (h : Host) (ht : h.tr = .hid) (hpe : h.peer = .liveHid ⟨r, buf⟩) (hn : buf.length + b.length = n)
    (hne : b ≠ []) (hf : b.length ≤ f) :
    ∃ tx rel, (framesOf Spec.ridData ps f b).foldl (fun x f => x.devWrite f) h = { h with
      txRev := tx, relRev := rel, peer := .liveHid ⟨(r.step (buf ++ b)).1, []⟩,
      rxR := h.rxR ++ toReports (r.step (buf ++ b)).2 } := by
  induction f generalizing b buf h with
  | zero => exact absurd (List.eq_nil_of_length_eq_zero (Nat.le_zero.mp hf)) hne
  | succ f ih =>
    have hpay : (padTo ps (b.take ps)).take (n - buf.length) = b.take ps := by
      rw [show n - buf.length = b.length by omega]; exact (padTo_take ps b).2
    rw [framesOf, if_neg (by rwa [List.isEmpty_iff]), List.foldl_cons, devWrite_hid _ ht, hpe]
    simp only [Peer.react, HidRom.step_data r buf _ tag a n hrecv, hpay]
    rcases Nat.lt_or_ge ps b.length with hb | hb
    · rw [if_neg (by rw [List.length_append, List.length_take]; omega)]
      obtain ⟨tx, rel, e⟩ := ih (b.drop ps) (buf ++ b.take ps) { h with
          txRev := (UInt8.ofNat Spec.ridData :: padTo ps (b.take ps)) :: h.txRev, relRev := [] :: h.relRev,
          peer := .liveHid ⟨r, buf ++ b.take ps⟩, rxR := h.rxR ++ [] } ht rfl
        (by rw [List.length_append, List.length_take, List.length_drop]; omega)
        (fun x => by have := congrArg List.length x; rw [List.length_drop] at this; simp at this; omega)
        (by rw [List.length_drop]; omega)
      rw [List.append_assoc buf, List.take_append_drop] at e
      exact ⟨tx, rel, by rw [e]; simp only [List.append_nil]⟩
    · rw [List.take_of_length_le hb, List.drop_of_length_le hb, framesOf_nil, if_pos (by rw [List.length_append]; exact hn)]
      exact ⟨_, _, rfl⟩

theorem sent_data {tag a : Nat} (w : Bytes) (hl : Linked h r pend)
    (hrecv : r.recv = some (tag, a, w.length)) (hw : w ≠ []) : Sent Spec.ridData w h r pend := by
  cases ht : h.tr with
  | serial => exact sent_serial _ w hl ht
  | hid =>
    have hp : 16 ≤ h.packSize := hl.2.1
    exact sent_hid hl ht
      (hid_data_fold (by omega) hrecv w.length w [] h ht (hl.hid ht).1 (Nat.zero_add _) hw (Nat.le_refl _))

theorem parseCmd_nil : parseCmd [] = none := rfl

/-- no data: the serial protocol still writes (nothing the ROM reacts to), USB-HID sends no report -/
theorem sent_empty (hl : Linked h r pend) (hrecv : r.recv = none) :
    ∃ h', sendFrame Spec.ridData [] h = (.ok (), h') ∧ Linked h' r pend ∧ Same h h' := by
  cases ht : h.tr with
  | serial =>
    obtain ⟨h', e, l, s, _⟩ := sent_serial Spec.ridData [] hl ht
    rw [show r.step [] = (r, []) by simp only [Rom.step, hrecv, parseCmd_nil], msgs_nil, List.append_nil] at l
    exact ⟨h', e, l, s⟩
  | hid => exact ⟨h, by rw [sendFrame_hid _ _ ht, if_neg (by simp)]; rfl, hl, Same.refl h⟩

/-- Reading the next pending message `(k, p)` of the length asked for.  The serial protocol returns `p` and the flag it was
    told to expect; USB-HID returns the report's payload (a RET report is padded to 64 bytes) and the flag of its id. -/
theorem protoRead_linked {k : Bool} {p : Bytes} {rest : List (Bool × Bytes)} (m : Nat)
    (hl : Linked h r ((k, p) :: rest)) (hm : p.length = if m = 0 then 4 else m) :
    ∃ flag z h', protoRead m h = (.ok (flag, p ++ List.replicate z 0), h') ∧ Linked h' r rest ∧ Same h h' ∧
      (h.tr = .serial → flag = h.expectStatus) ∧ (h.tr = .hid → flag = k) ∧
      ((h.tr = .serial ∨ k = true ∨ 64 ≤ p.length) → z = 0) := by
  obtain ⟨ho, hp, ⟨ht, hpe, hrx, hrxr⟩ | ⟨ht, hpe, hrx, hrxr⟩⟩ := hl
  · have hrx : h.rx = p ++ (rest.map Prod.snd).flatten := hrx
    refine ⟨h.expectStatus, 0, { h with rx := (rest.map Prod.snd).flatten }, ?_, ⟨ho, hp, .inl ⟨ht, hpe, rfl, hrxr⟩⟩,
      ⟨rfl, rfl, rfl, rfl, rfl⟩, fun _ => rfl, (fun x => nomatch ht.symm.trans x), fun _ => rfl⟩
    have hne : ¬ (p ++ (rest.map Prod.snd).flatten).isEmpty = true := by
      cases p with
      | nil => rw [List.length_nil] at hm; split at hm <;> omega
      | cons _ _ => nofun
    rw [protoRead_serial m ht, hrx, ← hm, if_pos ⟨by rw [List.length_append]; omega, hne⟩, List.take_left, List.drop_left,
      List.replicate_zero, List.append_nil]
  · refine ⟨k, if k then 0 else 64 - p.length, { h with rxR := rest.map repOf }, ?_,
      ⟨ho, hp, .inr ⟨ht, hpe, hrx, rfl⟩⟩, ⟨rfl, rfl, rfl, rfl, rfl⟩, (fun x => nomatch ht.symm.trans x), fun _ => rfl, ?_⟩
    · rw [protoRead_hid m ht, hrxr]
      cases k
      · rfl
      · simp [repOf, Spec.ridHab]
    · rintro (x | rfl | x)
      · cases ht.symm.trans x
      · rfl
      · split
        · rfl
        · omega

theorem respValue_be (v : Nat) (z : Bytes) (hv : v < 4294967296) : respValue (be 4 v ++ z) = .ok v := by
  rw [respValue, if_neg (by simp), fromBe_take_be 4 v z hv]

theorem habWord_lt (r : Rom) : habWord r < 4294967296 := by
  unfold habWord; split <;> decide

theorem hab_eq (r : Rom) : r.hab = be 4 (habWord r) := rfl

theorem hab_length (r : Rom) : r.hab.length = 4 := be_length 4 _

theorem writeCommand_fits (c : Cmd) (hf : c.fits) : writeCommand c = sendFrame Spec.ridCmd c.encode := if_pos hf

theorem fits_mk {t a f c v : Nat} (ht : t < 65536) (ha : a < 4294967296) (hf : f < 256) (hc : c < 4294967296)
    (hv : v < 4294967296) : Cmd.fits ⟨t, a, f, c, v⟩ := ⟨ht, ha, hf, hc, hv⟩

/-- what `_process_cmd` and `_send_data` make of the HAB word -/
theorem hab_status (r : Rom) :
    (if habWord r ≠ Spec.rUnlocked then Spec.stHabIsLocked else Spec.stSuccess) =
      (if r.locked then Spec.stHabIsLocked else Spec.stSuccess) ∧
    (if habWord r ≠ Spec.rUnlocked then Spec.stHabIsLocked else habWord r) =
      (if r.locked then Spec.stHabIsLocked else Spec.rUnlocked) := by
  unfold habWord; cases r.locked <;> exact ⟨rfl, rfl⟩

/-- the pending data of an answer, as `_read_data` will see it -/
abbrev dataMsgs (x : Bytes) : List (Bool × Bytes) := (chunks x).map fun p => (false, p)

theorem dataMsgs_word (v : Nat) : dataMsgs (be 4 v) = [(false, be 4 v)] := by
  rw [dataMsgs, chunks_small _ (by simp [be]) (by simp)]; rfl

theorem processCmd_linked {r1 : Rom} {c : Cmd} {x : Bytes} (hl : Linked h r []) (hrecv : r.recv = none)
    (hf : c.fits) (hstep : r.step c.encode = (r1, r.hab ++ x)) :
    ∃ h', processCmd c h = (.ok true, h') ∧ Linked h' r1 (dataMsgs x) ∧
      Outcome h h' (if r.locked then Spec.stHabIsLocked else Spec.stSuccess) (habWord r) := by
  obtain ⟨h1, e1, l1, s1, x1⟩ := sent_cmd c.encode (h := { h with status := Spec.stSuccess }) hl hrecv (encode_length c)
  simp only [hstep, List.nil_append, msgs_hab _ _ (hab_length r)] at l1
  obtain ⟨flag, z, h2, e2, l2, s2, f1, f2, hz⟩ := protoRead_linked 0 l1 (hab_length r)
  obtain rfl : z = 0 := hz (.inr (.inl rfl))
  obtain rfl : flag = true := by
    cases ht : h1.tr
    · exact (f1 ht).trans (x1 (s1.2.2.2.1 ▸ ht))
    · exact f2 ht
  have s := s1.trans s2
  refine ⟨{ h2 with hab := habWord r, status := if habWord r ≠ Spec.rUnlocked then Spec.stHabIsLocked else h2.status }, ?_,
    l2, ?_, rfl, s.2.2⟩
  · rw [processCmd]
    simp only [bind_run, get_run]
    rw [if_neg (by simp [hl.1])]
    simp only [bind_run, modify_run, guardConn_run, writeCommand_fits c hf, e1, e2, hab_eq, respValue_be _ _ (habWord_lt r),
      if_true, pure_run]
  · show (if _ then _ else h2.status) = _
    rw [show h2.status = Spec.stSuccess from s.1]
    exact (hab_status r).1

theorem readStatus_linked {k : Bool} {v : Nat} {rest : List (Bool × Bytes)}
    (hl : Linked h r ((k, be 4 v) :: rest)) (hv : v < 4294967296) :
    ∃ h', readStatus h = (.ok v, h') ∧ Linked h' r rest ∧ Same h h' := by
  obtain ⟨flag, z, h2, e2, l2, s2, _⟩ := protoRead_linked 0 hl (be_length 4 v)
  refine ⟨h2, ?_, l2, s2⟩
  rw [readStatus]
  simp only [guardConn_run, bind_run, e2, respValue_be v _ hv, pure_run]

theorem cmdStatus_linked {r1 : Rom} {c : Cmd} {v : Nat} (hl : Linked h r []) (hrecv : r.recv = none)
    (hf : c.fits) (hstep : r.step c.encode = (r1, r.hab ++ be 4 v)) (hv : v < 4294967296) :
    ∃ h1 h2, processCmd c h = (.ok true, h1) ∧ readStatus h1 = (.ok v, h2) ∧ Linked h2 r1 [] ∧
      Outcome h h2 (if r.locked then Spec.stHabIsLocked else Spec.stSuccess) (habWord r) := by
  obtain ⟨h1, e1, l1, o1⟩ := processCmd_linked hl hrecv hf hstep
  rw [dataMsgs_word] at l1
  obtain ⟨h2, e2, l2, s2⟩ := readStatus_linked l1 hv
  exact ⟨h1, h2, e1, e2, l2, o1.trans s2⟩

/-- `_read_data`: block by block; only the last block can come padded (`junk`), and the loop then stops and cuts it off -/
theorem readDataLoop_linked (r : Rom) (n : Nat) (f : Nat) (rest acc junk : Bytes) (h : Host)
    (hl : Linked h r (dataMsgs rest)) (hn : acc.length + rest.length = n) (hf : rest.length < f)
    (hj : rest ≠ [] → junk = []) :
    ∃ h', readDataLoop n f (acc ++ junk) h = (.ok (acc ++ rest), h') ∧ Linked h' r [] ∧ Same h h' := by
  induction f generalizing rest acc junk h with
  | zero => omega
  | succ f ih =>
    rw [readDataLoop]
    by_cases hr : rest = []
    · subst hr
      have hn : acc.length = n := hn
      rw [if_neg (by rw [List.length_append]; omega), List.append_nil]
      exact ⟨h, by rw [List.take_left' (by omega)]; rfl, hl, Same.refl h⟩
    · have hpos : 0 < rest.length := List.length_pos_iff.mpr hr
      rw [hj hr, List.append_nil, if_pos (by omega)]
      rw [dataMsgs, chunks_cons rest hr, List.map_cons] at hl
      obtain ⟨flag, z, h2, e2, l2, s2, f1, f2, hz⟩ :=
        protoRead_linked (h := { h with expectStatus := false }) (min (n - acc.length) Spec.maxRead) hl
          (by rw [show n - acc.length = rest.length by omega, List.length_take, if_neg (by simp [Spec.maxRead]; omega),
            Nat.min_comm])
      obtain rfl : flag = false := by
        cases ht : h.tr
        · exact f1 ht
        · exact f2 ht
      obtain ⟨h3, e3, l3, s3⟩ := ih (rest.drop 64) (acc ++ rest.take 64) (List.replicate z 0) h2 l2
        (by rw [List.length_append, List.length_take, List.length_drop]; omega) (by rw [List.length_drop]; omega)
        (fun x => by
          have := List.length_pos_iff.mpr x
          rw [List.length_drop] at this
          rw [hz (.inr (.inr (by rw [List.length_take]; omega)))]
          rfl)
      refine ⟨h3, ?_, l3, Outcome.trans (a := h) s2 s3⟩
      simp only [bind_run, modify_run, guardConn_run, e2, Bool.false_eq_true, not_false_eq_true, if_true]
      rw [← List.append_assoc, e3, List.append_assoc, List.take_append_drop]

theorem readData_linked {d : Bytes} (hl : Linked h r (dataMsgs d)) :
    ∃ h', readData d.length h = (.ok d, h') ∧ Linked h' r [] ∧ Same h h' :=
  readDataLoop_linked r d.length _ d [] [] h hl (Nat.zero_add _) (by omega) fun _ => rfl

end link

section rom
variable {r : Rom} (hrecv : r.recv = none)
include hrecv

theorem rom_read {a n f : Nat} (hfit : Cmd.fits ⟨Spec.cReadRegister, a, f, n, 0⟩) (hle : a + n ≤ r.mem.length) :
    r.step (Cmd.encode ⟨Spec.cReadRegister, a, f, n, 0⟩) =
      ({ r with ncmd := r.ncmd + 1 }, r.hab ++ (r.mem.drop a).take n) := by
  simp only [Rom.step, hrecv, parseCmd_encode _ hfit, if_true, hle]

theorem rom_jump {a : Nat} (hfit : Cmd.fits ⟨Spec.cJumpAddress, a, 0, 0, 0⟩) :
    r.step (Cmd.encode ⟨Spec.cJumpAddress, a, 0, 0, 0⟩) =
      ({ r with ncmd := r.ncmd + 1, jumped := some a }, r.hab ++ []) := by
  simp +decide [Rom.step, hrecv, parseCmd_encode _ hfit]

variable (hforced : r.forced = [])
include hforced

theorem rom_write {a v c f : Nat} (hfit : Cmd.fits ⟨Spec.cWriteRegister, a, f, c, v⟩) :
    r.step (Cmd.encode ⟨Spec.cWriteRegister, a, f, c, v⟩) =
      if (f = 8 ∨ f = 16 ∨ f = 32) ∧ a + f / 8 ≤ r.mem.length then
        ({ r with ncmd := r.ncmd + 1, mem := splice r.mem a (leBytes (f / 8) v) }, r.hab ++ be 4 Spec.rWriteDataOk)
      else ({ r with ncmd := r.ncmd + 1 }, r.hab ++ be 4 0) := by
  simp +decide only [Rom.step, hrecv, parseCmd_encode _ hfit, hforced, List.lookup_nil, if_false, if_true]

theorem rom_skip : r.step (Cmd.encode ⟨Spec.cSkipDcdHeader, 0, 0, 0, 0⟩) =
    ({ r with ncmd := r.ncmd + 1 }, r.hab ++ be 4 Spec.rSkipDcdHeaderOk) := by
  simp +decide [Rom.step, hrecv, parseCmd_encode _ (by decide : Cmd.fits ⟨Spec.cSkipDcdHeader, 0, 0, 0, 0⟩), hforced]

theorem rom_status : r.step (Cmd.encode ⟨Spec.cErrorStatus, 0, 0, 0, 0⟩) =
    ({ r with ncmd := r.ncmd + 1 }, r.hab ++ be 4 r.errStatus) := by
  simp +decide [Rom.step, hrecv, parseCmd_encode _ (by decide : Cmd.fits ⟨Spec.cErrorStatus, 0, 0, 0, 0⟩), hforced]

/-- command with data phase: the command (answered at once if there is no data), then the data -/
def DataPhase (r : Rom) (c : Cmd) (d : Bytes) (r2 : Rom) (sv : Nat) : Prop :=
  (d = [] ∧ r2.recv = none ∧ r.step c.encode = (r2, r.hab ++ be 4 sv)) ∨
  (d ≠ [] ∧ ∃ r1 tag a, r.step c.encode = (r1, []) ∧ r1.recv = some (tag, a, d.length) ∧
    r1.step d = (r2, r.hab ++ be 4 sv))

theorem rom_file {a : Nat} {d : Bytes} (hfit : Cmd.fits ⟨Spec.cWriteFile, a, 0, d.length, 0⟩) :
    DataPhase r ⟨Spec.cWriteFile, a, 0, d.length, 0⟩ d
      (if a + d.length ≤ r.mem.length then { r with ncmd := r.ncmd + 1, mem := splice r.mem a d } else { r with ncmd := r.ncmd + 1 })
      (if a + d.length ≤ r.mem.length then Spec.rWriteFileOk else 0) := by
  obtain ⟨mem, locked, es, recv, ncmd, forced, jumped⟩ := r
  cases hrecv; cases hforced
  by_cases hd0 : d = []
  · subst hd0
    refine .inl ⟨rfl, by split <;> rfl, ?_⟩
    simp only [List.length_nil] at hfit ⊢
    by_cases hle : a ≤ mem.length
    · simp [Rom.step, parseCmd_encode _ hfit, Spec.cReadRegister, Spec.cWriteRegister, Spec.cWriteFile, hle, Nat.not_lt.mpr hle,
        splice, okValue, Rom.hab]
    · simp [Rom.step, parseCmd_encode _ hfit, Spec.cReadRegister, Spec.cWriteRegister, Spec.cWriteFile, hle, Nat.lt_of_not_le hle,
        Rom.hab]
  · have hn : d.length ≠ 0 := fun h => hd0 (List.eq_nil_of_length_eq_zero h)
    refine .inr ⟨hd0, ⟨mem, locked, es, some (Spec.cWriteFile, a, d.length), ncmd + 1, [], jumped⟩, _, _, ?_, rfl, ?_⟩
    · simp [Rom.step, parseCmd_encode _ hfit, Spec.cReadRegister, Spec.cWriteRegister, Spec.cWriteFile, hn]
    · by_cases hle : a + d.length ≤ mem.length <;> simp [Rom.step, hle, Rom.hab]

theorem rom_data {tag a : Nat} {d : Bytes} (htag : tag = Spec.cWriteDcd ∨ tag = Spec.cWriteCsf)
    (hfit : Cmd.fits ⟨tag, a, 0, d.length, 0⟩) :
    DataPhase r ⟨tag, a, 0, d.length, 0⟩ d { r with ncmd := r.ncmd + 1 } Spec.rWriteDataOk := by
  obtain ⟨mem, locked, es, recv, ncmd, forced, jumped⟩ := r
  cases hrecv; cases hforced
  by_cases hd0 : d = []
  · subst hd0
    refine .inl ⟨rfl, rfl, ?_⟩
    simp only [List.length_nil] at hfit ⊢
    rcases htag with rfl | rfl <;>
      simp [Rom.step, parseCmd_encode _ hfit, Spec.cReadRegister, Spec.cWriteRegister, Spec.cWriteFile, Spec.cWriteDcd,
        Spec.cWriteCsf, okValue, Rom.hab]
  · have hn : d.length ≠ 0 := fun h => hd0 (List.eq_nil_of_length_eq_zero h)
    refine .inr ⟨hd0, ⟨mem, locked, es, some (tag, a, d.length), ncmd + 1, [], jumped⟩, _, _, ?_, rfl, ?_⟩ <;>
      rcases htag with rfl | rfl <;>
      simp [Rom.step, parseCmd_encode _ hfit, Spec.cReadRegister, Spec.cWriteRegister, Spec.cWriteFile, Spec.cWriteDcd,
        Spec.cWriteCsf, hn, okValue, Rom.hab]

end rom

theorem bind_fun_run {α β} (g : Host → Except SErr α × Host) (f : α → S β) (s : Host) :
    (@bind S _ α β g f) s = match g s with
      | (.ok a, s') => f a s'
      | (.error e, s') => (.error e, s') := rfl

/-- `_send_data` against the ROM: the only way to fail is a refused WRITE_FILE (`sv` is not its OK value) -/
theorem sendData_linked {h : Host} {r r2 : Rom} {c : Cmd} {d : Bytes} {sv : Nat} (hl : Linked h r []) (hrecv : r.recv = none)
    (hf : c.fits) (hdp : DataPhase r c d r2 sv) (hsv : sv < 4294967296)
    (hnf : c.tag ≠ Spec.cWriteFile → sv = Spec.rWriteDataOk) :
    ∃ h', sendData c d h =
        (if c.tag = Spec.cWriteFile ∧ sv ≠ Spec.rWriteFileOk then
          (if h.ce then .error (.cmd Spec.stWriteImageFailure) else .ok false) else .ok true, h') ∧
      Linked h' r2 [] ∧
      Outcome h h' (if c.tag = Spec.cWriteFile ∧ sv ≠ Spec.rWriteFileOk then Spec.stWriteImageFailure else Spec.stSuccess)
        (if r.locked then Spec.stHabIsLocked else Spec.rUnlocked) := by
  have hl0 : Linked { h with status := Spec.stSuccess } r [] := hl
  -- command and data: afterwards the ROM is `r2` and both words are pending
  obtain ⟨h1, h2, e1, e2, l2, s2⟩ : ∃ h1 h2,
      sendFrame Spec.ridCmd c.encode { h with status := Spec.stSuccess } = (.ok (), h1) ∧
      sendFrame Spec.ridData d h1 = (.ok (), h2) ∧
      Linked h2 r2 [(true, r.hab), (false, be 4 sv)] ∧ Same { h with status := Spec.stSuccess } h2 := by
    have hm : msgs (r.hab ++ be 4 sv) = [(true, r.hab), (false, be 4 sv)] := by
      rw [msgs_hab _ _ (hab_length r)]; exact congrArg _ (dataMsgs_word sv)
    obtain ⟨h1, e1, l1, s1, _⟩ := sent_cmd c.encode hl0 hrecv (encode_length c)
    rcases hdp with ⟨rfl, hr2, hst⟩ | ⟨hd, r1, tag, a, hst, hr1, hst2⟩
    · simp only [hst, List.nil_append, hm] at l1
      obtain ⟨h2, e2, l2, s2⟩ := sent_empty l1 hr2
      exact ⟨h1, h2, e1, e2, l2, s1.trans s2⟩
    · simp only [hst, List.nil_append, msgs_nil] at l1
      obtain ⟨h2, e2, l2, s2, _⟩ := sent_data d l1 hr1 hd
      simp only [hst2, List.nil_append, hm] at l2
      exact ⟨h1, h2, e1, e2, l2, s1.trans s2⟩
  obtain ⟨_, z3, h3, e3, l3, s3, _⟩ := protoRead_linked 0 l2 (hab_length r)
  obtain ⟨_, z4, h4, e4, l4, s4, _⟩ := protoRead_linked (h := { h3 with
    hab := if habWord r ≠ Spec.rUnlocked then Spec.stHabIsLocked else habWord r }) 0 l3 (be_length 4 sv)
  have o3 : Outcome h { h3 with hab := if habWord r ≠ Spec.rUnlocked then Spec.stHabIsLocked else habWord r }
      Spec.stSuccess (if r.locked then Spec.stHabIsLocked else Spec.rUnlocked) :=
    ⟨(s2.trans s3).1, (hab_status r).2, (s2.trans s3).2.2⟩
  have o4 := o3.trans s4
  have n1 : ¬ (c.tag = Spec.cWriteDcd ∧ sv ≠ Spec.rWriteDataOk) := fun ⟨a, b⟩ => b (hnf (by rw [a]; decide))
  have n2 : ¬ (c.tag = Spec.cWriteCsf ∧ sv ≠ Spec.rWriteDataOk) := fun ⟨a, b⟩ => b (hnf (by rw [a]; decide))
  rw [sendData]
  simp only [bind_run, get_run]
  rw [if_neg (by simp [hl.1])]
  simp only [bind_run, bind_fun_run, modify_run, guardConn_run, writeCommand_fits c hf, e1, e2, e3, e4, hab_eq,
    respValue_be _ _ (habWord_lt r), respValue_be _ _ hsv, if_neg n1, if_neg n2]
  by_cases hbad : c.tag = Spec.cWriteFile ∧ sv ≠ Spec.rWriteFileOk
  · simp only [if_pos hbad, bind_run, modify_run, pure_run, get_run]
    refine ⟨{ h4 with cmdStatus := sv, status := Spec.stWriteImageFailure }, ?_, l4, rfl, o4.2⟩
    rw [← o4.2.2.1]
    cases h4.ce <;> rfl
  · simp only [if_neg hbad, pure_run, get_run, not_true_eq_false, false_and, if_false]
    exact ⟨{ h4 with cmdStatus := sv }, rfl, l4, o4⟩

theorem Synced.linked {h : Host} {r : Rom} (hs : Synced h r) : Linked h r [] :=
  ⟨hs.opened, hs.pack, hs.peer.imp (fun ⟨a, b⟩ => ⟨a, b, hs.rx, hs.rxR⟩) fun ⟨a, b⟩ => ⟨a, b, hs.rx, hs.rxR⟩⟩

theorem Linked.synced {h : Host} {r : Rom} (hl : Linked h r []) (hr : r.recv = none) : Synced h r := by
  obtain ⟨ho, hp, ⟨a, b, c, d⟩ | ⟨a, b, c, d⟩⟩ := hl
  · exact ⟨.inl ⟨a, b⟩, hr, c, d, ho, hp⟩
  · exact ⟨.inr ⟨a, b⟩, hr, c, d, ho, hp⟩

theorem sdp_op_refines (h : Host) (r r' : Rom) (op : Op) (res : Except SErr Val) (st hab : Nat)
    (hs : Synced h r) (hr : r.OK) (hargs : op.argsOK) (hspec : specOp h.ce r op = some (r', res, st, hab)) :
    ∃ h', runOp op h = (res, h') ∧ Synced h' r' ∧ h'.status = st ∧ h'.hab = hab ∧ h'.ce = h.ce ∧ h'.tr = h.tr ∧
      h'.packSize = h.packSize := by
  have hl : Linked h r [] := hs.linked
  have hrecv : r.recv = none := hs.recv
  obtain ⟨_, hforced, herr⟩ := hr
  -- WRITE_DCD and WRITE_CSF differ in the tag only
  have data : ∀ {tag a d}, (tag = Spec.cWriteDcd ∨ tag = Spec.cWriteCsf) → a < 4294967296 ∧ d.length < 4294967296 →
      some ({ r with ncmd := r.ncmd + 1 }, .ok (.bool true), Spec.stSuccess,
        if r.locked then Spec.stHabIsLocked else Spec.rUnlocked) = some (r', res, st, hab) →
      ∃ h', (sendData ⟨tag, a, 0, d.length, 0⟩ d >>= fun ok => pure (Val.bool ok)) h = (res, h') ∧ Synced h' r' ∧
        Outcome h h' st hab := by
    intro tag a d htag ⟨ha, hd⟩ hspec
    cases hspec
    have hfit : Cmd.fits ⟨tag, a, 0, d.length, 0⟩ :=
      fits_mk (by rcases htag with rfl | rfl <;> decide) ha (by decide) hd (by decide)
    have hne : tag ≠ Spec.cWriteFile := by rcases htag with rfl | rfl <;> decide
    obtain ⟨h', e, l, o⟩ := sendData_linked hl hrecv hfit (rom_data hrecv hforced htag hfit) (by decide) fun _ => rfl
    simp only [hne, false_and, if_false] at e o
    exact ⟨h', bind_eq e rfl, l.synced hrecv, o⟩
  cases op with
  | sdpsWriteFile nc ps d => cases hspec
  | read a n f =>
    obtain ⟨ha, hn, hf⟩ := hargs
    have hfit : Cmd.fits ⟨Spec.cReadRegister, a, f, n, 0⟩ := fits_mk (by decide) ha hf hn (by decide)
    by_cases hle : a + n ≤ r.mem.length
    · simp only [specOp, if_pos hle] at hspec
      cases hspec
      obtain ⟨h1, e1, l1, o1⟩ := processCmd_linked hl hrecv hfit (rom_read hrecv hfit hle)
      have hlen : ((r.mem.drop a).take n).length = n := by rw [List.length_take, List.length_drop]; omega
      obtain ⟨h2, e2, l2, s2⟩ := readData_linked l1
      rw [hlen] at e2
      exact ⟨h2, bind_eq e1 (bind_eq e2 rfl), l2.synced hrecv, o1.trans s2⟩
    · simp only [specOp, if_neg hle] at hspec
      cases hspec
  | write a v c f =>
    obtain ⟨ha, hv, hc, hf⟩ := hargs
    have hfit : Cmd.fits ⟨Spec.cWriteRegister, a, f, c, v⟩ := fits_mk (by decide) ha hf hc hv
    have hstep := rom_write hrecv hforced hfit
    by_cases hok : (f = 8 ∨ f = 16 ∨ f = 32) ∧ a + f / 8 ≤ r.mem.length
    · simp only [specOp, if_pos hok] at hspec hstep
      cases hspec
      obtain ⟨h1, h2, e1, e2, l2, o2⟩ := cmdStatus_linked hl hrecv hfit hstep (by decide)
      exact ⟨h2, bind_eq e1 (bind_eq e2 (statusTail_ok ..)), l2.synced hrecv, o2⟩
    · simp only [specOp, if_neg hok] at hspec hstep
      cases hspec
      obtain ⟨h1, h2, e1, e2, l2, o2⟩ := cmdStatus_linked hl hrecv hfit hstep (by decide)
      refine ⟨{ h2 with status := Spec.stWriteRegisterFailure }, bind_eq e1 (bind_eq e2 ?_),
        Linked.synced (h := { h2 with status := _ }) l2 hrecv, rfl, o2.2⟩
      rw [statusTail_bad _ _ _ _ (by decide), o2.2.2.1]
  | writeFile a d =>
    obtain ⟨ha, hd⟩ := hargs
    have hfit : Cmd.fits ⟨Spec.cWriteFile, a, 0, d.length, 0⟩ := fits_mk (by decide) ha (by decide) hd (by decide)
    have hdp := rom_file hrecv hforced hfit
    by_cases hok : a + d.length ≤ r.mem.length
    · simp only [specOp, if_pos hok] at hspec hdp
      cases hspec
      obtain ⟨h', e, l, o⟩ := sendData_linked hl hrecv hfit hdp (by decide) fun x => absurd rfl x
      simp only [ne_eq, not_true_eq_false, and_false, if_false] at e o
      exact ⟨h', bind_eq e rfl, l.synced hrecv, o⟩
    · simp only [specOp, if_neg hok] at hspec hdp
      cases hspec
      obtain ⟨h', e, l, o⟩ := sendData_linked hl hrecv hfit hdp (by decide) fun x => absurd rfl x
      rw [if_pos ⟨rfl, by decide⟩] at e o
      refine ⟨h', ?_, l.synced hrecv, o⟩
      cases hce : h.ce <;> rw [hce] at e
      · exact bind_eq e rfl
      · exact bind_err e
  | writeDcd a d => exact data (.inl rfl) hargs hspec
  | writeCsf a d => exact data (.inr rfl) hargs hspec
  | skipDcd =>
    cases hspec
    obtain ⟨h1, h2, e1, e2, l2, o2⟩ := cmdStatus_linked hl hrecv (by decide) (rom_skip hrecv hforced) (by decide)
    exact ⟨h2, bind_eq e1 (bind_eq e2 (statusTail_ok ..)), l2.synced hrecv, o2⟩
  | jumpAndRun a =>
    have hfit : Cmd.fits ⟨Spec.cJumpAddress, a, 0, 0, 0⟩ := fits_mk (by decide) hargs (by decide) (by decide) (by decide)
    cases hspec
    obtain ⟨h1, e1, l1, o1⟩ := processCmd_linked hl hrecv hfit (rom_jump hrecv hfit)
    exact ⟨h1, bind_eq e1 rfl, l1.synced hrecv, o1⟩
  | readStatus =>
    cases hspec
    obtain ⟨h1, h2, e1, e2, l2, o2⟩ := cmdStatus_linked hl hrecv (by decide) (rom_status hrecv hforced) herr
    exact ⟨h2, bind_eq e1 (bind_eq e2 rfl), l2.synced hrecv, o2⟩

theorem sdp_no_fault_refines (ops : List Op) (h : Host) (r r' : Rom) (rs : List (Except SErr Val × Nat × Nat))
    (hs : Synced h r) (hr : r.OK) (hargs : ∀ op ∈ ops, op.argsOK) (hspec : specOps h.ce ops r = some (rs, r')) :
    ∃ h', runOps ops h = (rs, h') ∧ Synced h' r' := by
  induction ops generalizing h r rs with
  | nil => cases hspec; exact ⟨h, rfl, hs⟩
  | cons op ops ih =>
    rw [specOps] at hspec
    split at hspec
    · cases hspec
    rename_i r1 res st hab h1
    split at hspec
    · cases hspec
    rename_i rs1 r2 h2
    cases hspec
    have ha : op.argsOK := hargs op List.mem_cons_self
    obtain ⟨h', e, s', st', hab', ce', _⟩ := sdp_op_refines h r r1 op res st hab hs hr ha h1
    obtain ⟨ok1, _⟩ := specOp_OK h.ce r r1 op res st hab hr hs.recv h1
    obtain ⟨h'', e2, s''⟩ := ih h' r1 rs1 s' ok1 (fun o ho => hargs o (List.mem_cons_of_mem _ ho)) (ce' ▸ h2)
    exact ⟨h'', by simp only [runOps, e, e2, st', hab'], s''⟩

end SpsdkVerif.Sdp
