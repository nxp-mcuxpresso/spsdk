/-
What the four MBI image families (C01/C02; Proofs/MbiPlain|SignedV1|SignedV21|Encrypted.lean) share: bytes (le32/rd32/setAt/
align4), the IVT normal forms, the flag word, the relocation table round trip, what `ClassWF` / `cfgWF` give whatever the family,
the generated mixin table, the order of the `mix_parse` calls and the parser's state between them (a family proves what one call
does), and the congruences under which the parsed image is exported again.
-/
import SpsdkVerif.Model.Mbi
import SpsdkVerif.Proofs.Misc
import SpsdkVerif.Proofs.Crypto

namespace SpsdkVerif.Mbi
open SpsdkVerif SpsdkVerif.Misc SpsdkVerif.Crypto
open SpsdkVerif.Generated.IvtConsts
open SpsdkVerif.Generated.MbiClasses (MixinName Method Attr provider attrs preParsed isData parent countInLegacyCertBlockLen)

/-- hypotheses shared by the image theorems -/
structure Hyp (co : CryptoOps) (env : Env) (c : Cls) (cfg : Cfg) (signer : Signer) : Prop where
  hlaws : CryptoLaws co
  hcls : ClassWF c = true
  hcfg : cfgWF c cfg = true
  henv : EnvOK env c cfg
  hsig : ∀ m, (signer m).length = cfg.sigLen

theorem le32_length (v : Nat) : (le32 v).length = 4 := by
  simp [le32, leEnc, beEnc_length']

theorem zeros_length (n : Nat) : (zeros n).length = n := by simp [zeros]

theorem leDec_le32 (v : Nat) (h : v < 2 ^ 32) : leDec (le32 v) = v := by
  simp only [leDec, le32, leEnc, List.reverse_reverse, beDec_beEnc_mod]
  exact Nat.mod_eq_of_lt (by omega)

theorem rd32_of_window (b : Bytes) (off : Nat) (w : Bytes) (h : (b.drop off).take 4 = w) : rd32 b off = leDec w := by
  simp [rd32, h]

theorem window_append_mid (pre w post : Bytes) (n : Nat) (hn : w.length = n) :
    ((pre ++ w ++ post).drop pre.length).take n = w := by
  rw [List.append_assoc, List.drop_left, List.take_left' hn]

theorem rd32_append_le32 (pre post : Bytes) (v : Nat) (h : v < 2 ^ 32) :
    rd32 (pre ++ le32 v ++ post) pre.length = v := by
  rw [rd32_of_window _ _ _ (window_append_mid pre (le32 v) post 4 (le32_length v)), leDec_le32 v h]

theorem rd32_at (data pre post : Bytes) (v off : Nat) (hd : data = pre ++ le32 v ++ post) (ho : pre.length = off)
    (h : v < 2 ^ 32) : rd32 data off = v := by
  subst hd; subst ho; exact rd32_append_le32 pre post v h

/-- four consecutive words behind a prefix of known length (a relocation record, the table footer) -/
theorem rd32_at4 (data pre post : Bytes) (a b c d off : Nat)
    (hd : data = pre ++ le32 a ++ le32 b ++ le32 c ++ le32 d ++ post) (ho : pre.length = off)
    (ha : a < 2 ^ 32) (hb : b < 2 ^ 32) (hc : c < 2 ^ 32) (hd' : d < 2 ^ 32) :
    rd32 data off = a ∧ rd32 data (off + 4) = b ∧ rd32 data (off + 8) = c ∧ rd32 data (off + 12) = d :=
  ⟨rd32_at data pre (le32 b ++ le32 c ++ le32 d ++ post) a off (by rw [hd]; simp) ho ha,
   rd32_at data (pre ++ le32 a) (le32 c ++ le32 d ++ post) b _ (by rw [hd]; simp) (by simp [le32_length, ho]) hb,
   rd32_at data (pre ++ le32 a ++ le32 b) (le32 d ++ post) c _ (by rw [hd]; simp) (by simp [le32_length, ho]) hc,
   rd32_at data (pre ++ le32 a ++ le32 b ++ le32 c) post d _ hd (by simp [le32_length, ho]) hd'⟩

theorem rd32_append_left (a b : Bytes) (off : Nat) (h : off + 4 ≤ a.length) : rd32 (a ++ b) off = rd32 a off := by
  unfold rd32
  rw [List.drop_append_of_le_length (by omega), List.take_append_of_le_length (by simp; omega)]

theorem rd32_append_right (a b : Bytes) (off : Nat) : rd32 (a ++ b) (a.length + off) = rd32 b off := by
  unfold rd32
  rw [List.drop_append, List.drop_of_length_le (by omega), List.nil_append]
  congr 3; omega

theorem rd32_take (x : Bytes) (n off : Nat) (h : off + 4 ≤ n) : rd32 (x.take n) off = rd32 x off := by
  unfold rd32
  rw [List.drop_take, List.take_take, Nat.min_eq_left (by omega)]

theorem rd32_drop (x : Bytes) (n off : Nat) : rd32 (x.drop n) off = rd32 x (n + off) := by
  unfold rd32
  rw [List.drop_drop]

theorem leDec_zeros4 : leDec (zeros 4) = 0 := by decide

theorem rd32_zeros (pre post : Bytes) : rd32 (pre ++ zeros 4 ++ post) pre.length = 0 := by
  rw [rd32_of_window _ _ _ (window_append_mid pre (zeros 4) post 4 (zeros_length 4)), leDec_zeros4]

theorem setAt_length (b w : Bytes) (off : Nat) (h : off + w.length ≤ b.length) : (setAt b off w).length = b.length := by
  simp [setAt]; omega

theorem align4_length (b : Bytes) : (align4 b).length = b.length + (4 - b.length % 4) % 4 := by
  simp [align4]

theorem align4_length_mod (b : Bytes) : (align4 b).length % 4 = 0 := by
  rw [align4_length]; omega
theorem align4_length_ge (b : Bytes) : b.length ≤ (align4 b).length := by
  rw [align4_length]; omega
theorem align4_of_aligned (b : Bytes) (h : b.length % 4 = 0) : align4 b = b := by
  simp [align4, h, zeros]
theorem align4_take (b : Bytes) : (align4 b).take b.length = b := by
  simp [align4]

theorem slice_length (b : Bytes) (i j : Nat) : (slice b i j).length = min j b.length - i := by
  simp [slice]

theorem take_append_slice (l : Bytes) (i j : Nat) (h : i ≤ j) : l.take i ++ slice l i j = l.take j := by
  unfold slice
  conv => rhs; rw [← List.take_append_drop i (l.take j)]
  rw [List.take_take, Nat.min_eq_left h]

theorem slice_append_mid (pre w post : Bytes) : slice (pre ++ w ++ post) pre.length (pre.length + w.length) = w := by
  unfold slice
  rw [List.take_left' (by simp), List.drop_left]

theorem lastN_append (X T : Bytes) : lastN (X ++ T) T.length = T := by
  unfold lastN
  rw [List.length_append, Nat.add_sub_cancel, List.drop_left]

/-- cutting a trailing block off again (`data[:-n]` is only used for `n > 0`) -/
theorem dropLast_append (X T : Bytes) : (if T.length = 0 then X ++ T else dropLast (X ++ T) T.length) = X := by
  split
  · rename_i h0
    rw [List.length_eq_zero_iff.mp h0, List.append_nil]
  · unfold dropLast
    rw [List.length_append, Nat.add_sub_cancel, List.take_left]

theorem setAt_mid (pre old post w : Bytes) (off : Nat) (hoff : pre.length = off) (hw : old.length = w.length) :
    setAt (pre ++ old ++ post) off w = pre ++ w ++ post := by
  subst hoff
  unfold setAt
  have e1 : (pre ++ old ++ post).take pre.length = pre := by rw [List.append_assoc, List.take_left]
  have e2 : (pre ++ old ++ post).drop (pre.length + w.length) = post := List.drop_left' (by simp [hw])
  rw [e1, e2]

theorem setAt_getElem? (b w : Bytes) (off i : Nat) (hi : i < off ∨ off + w.length ≤ i) (h : off + w.length ≤ b.length) :
    (setAt b off w)[i]? = b[i]? := by
  unfold setAt
  rcases hi with hi | hi
  · rw [List.append_assoc, List.getElem?_append_left (by rw [List.length_take]; omega), List.getElem?_take_of_lt hi]
  · rw [List.getElem?_append_right (by simp only [List.length_append, List.length_take]; omega), List.getElem?_drop]
    congr 1
    simp only [List.length_append, List.length_take]; omega

structure IvtPieces (A W1 W2 W3 M W4 : Bytes) : Prop where
  hA : A.length = 32
  h1 : W1.length = 4
  h2 : W2.length = 4
  h3 : W3.length = 4
  hM : M.length = 8
  h4 : W4.length = 4

/-- any data that holds an IVT, cut at the IVT fields -/
theorem ivt_split (app : Bytes) (h : minIvtSize ≤ app.length) :
    ∃ A W1 W2 W3 M W4 R : Bytes, app = A ++ W1 ++ W2 ++ W3 ++ M ++ W4 ++ R ∧ IvtPieces A W1 W2 W3 M W4 := by
  simp only [minIvtSize] at h
  refine ⟨app.take 32, slice app 32 36, slice app 36 40, slice app 40 44, slice app 44 52, slice app 52 56, app.drop 56,
    ?_, ?_⟩
  · rw [take_append_slice _ _ _ (by decide), take_append_slice _ _ _ (by decide), take_append_slice _ _ _ (by decide),
      take_append_slice _ _ _ (by decide), take_append_slice _ _ _ (by decide), List.take_append_drop]
  · constructor <;> simp only [slice_length, List.length_take] <;> omega

section pieces
variable {A W1 W2 W3 M W4 : Bytes} (R : Bytes) (p : IvtPieces A W1 W2 W3 M W4)
include p

theorem IvtPieces.take32 : (A ++ W1 ++ W2 ++ W3 ++ M ++ W4 ++ R).take 32 = A := by
  simp only [List.append_assoc]; exact List.take_left' p.hA

theorem IvtPieces.drop56 : (A ++ W1 ++ W2 ++ W3 ++ M ++ W4 ++ R).drop 56 = R := by
  exact List.drop_left' (by simp [p.hA, p.h1, p.h2, p.h3, p.hM, p.h4])

theorem IvtPieces.slice4452 : slice (A ++ W1 ++ W2 ++ W3 ++ M ++ W4 ++ R) 44 52 = M := by
  unfold slice
  have e : A ++ W1 ++ W2 ++ W3 ++ M ++ W4 ++ R = (A ++ W1 ++ W2 ++ W3 ++ M) ++ (W4 ++ R) := by simp
  rw [e, List.take_left' (by simp [p.hA, p.h1, p.h2, p.h3, p.hM]), List.drop_left' (by simp [p.hA, p.h1, p.h2, p.h3])]

theorem IvtPieces.win32 : ((A ++ W1 ++ W2 ++ W3 ++ M ++ W4 ++ R).drop 32).take 4 = W1 := by
  have := window_append_mid A W1 (W2 ++ W3 ++ M ++ W4 ++ R) 4 p.h1
  simpa [p.hA] using this
theorem IvtPieces.win36 : ((A ++ W1 ++ W2 ++ W3 ++ M ++ W4 ++ R).drop 36).take 4 = W2 := by
  have := window_append_mid (A ++ W1) W2 (W3 ++ M ++ W4 ++ R) 4 p.h2
  simpa [p.hA, p.h1] using this
theorem IvtPieces.win40 : ((A ++ W1 ++ W2 ++ W3 ++ M ++ W4 ++ R).drop 40).take 4 = W3 := by
  have := window_append_mid (A ++ W1 ++ W2) W3 (M ++ W4 ++ R) 4 p.h3
  simpa [p.hA, p.h1, p.h2] using this
theorem IvtPieces.win52 : ((A ++ W1 ++ W2 ++ W3 ++ M ++ W4 ++ R).drop 52).take 4 = W4 := by
  have := window_append_mid (A ++ W1 ++ W2 ++ W3 ++ M) W4 R 4 p.h4
  simpa [p.hA, p.h1, p.h2, p.h3, p.hM] using this

theorem IvtPieces.set32 (w : Bytes) (hw : w.length = 4) :
    setAt (A ++ W1 ++ W2 ++ W3 ++ M ++ W4 ++ R) 32 w = A ++ w ++ W2 ++ W3 ++ M ++ W4 ++ R := by
  have := setAt_mid A W1 (W2 ++ W3 ++ M ++ W4 ++ R) w 32 p.hA (by rw [p.h1, hw])
  simpa using this
theorem IvtPieces.set36 (w : Bytes) (hw : w.length = 4) :
    setAt (A ++ W1 ++ W2 ++ W3 ++ M ++ W4 ++ R) 36 w = A ++ W1 ++ w ++ W3 ++ M ++ W4 ++ R := by
  have := setAt_mid (A ++ W1) W2 (W3 ++ M ++ W4 ++ R) w 36 (by simp [p.hA, p.h1]) (by rw [p.h2, hw])
  simpa using this
theorem IvtPieces.set40 (w : Bytes) (hw : w.length = 4) :
    setAt (A ++ W1 ++ W2 ++ W3 ++ M ++ W4 ++ R) 40 w = A ++ W1 ++ W2 ++ w ++ M ++ W4 ++ R := by
  have := setAt_mid (A ++ W1 ++ W2) W3 (M ++ W4 ++ R) w 40 (by simp [p.hA, p.h1, p.h2]) (by rw [p.h3, hw])
  simpa using this
theorem IvtPieces.set52 (w : Bytes) (hw : w.length = 4) :
    setAt (A ++ W1 ++ W2 ++ W3 ++ M ++ W4 ++ R) 52 w = A ++ W1 ++ W2 ++ W3 ++ M ++ w ++ R := by
  have := setAt_mid (A ++ W1 ++ W2 ++ W3 ++ M) W4 R w 52 (by simp [p.hA, p.h1, p.h2, p.h3, p.hM]) (by rw [p.h4, hw])
  simpa using this

theorem IvtPieces.w1 (w : Bytes) (hw : w.length = 4) : IvtPieces A w W2 W3 M W4 := { p with h1 := hw }
theorem IvtPieces.w2 (w : Bytes) (hw : w.length = 4) : IvtPieces A W1 w W3 M W4 := { p with h2 := hw }
theorem IvtPieces.w3 (w : Bytes) (hw : w.length = 4) : IvtPieces A W1 W2 w M W4 := { p with h3 := hw }
theorem IvtPieces.w4 (w : Bytes) (hw : w.length = 4) : IvtPieces A W1 W2 W3 M w := { p with h4 := hw }

end pieces

theorem updateIvt_pieces {A W1 W2 W3 M W4 : Bytes} (R : Bytes) (p : IvtPieces A W1 W2 W3 M W4) (c : Cls) (cfg : Cfg)
    (total crcOff : Nat) :
    updateIvt c cfg (A ++ W1 ++ W2 ++ W3 ++ M ++ W4 ++ R) total crcOff
      = A ++ le32 (if c.zeroTotalLength then 0 else total) ++ le32 (flagsOf c cfg)
          ++ le32 (if c.imageType = 0 then 0 else crcOff) ++ M
          ++ le32 (if c.hasAttr .load_address then cfg.loadAddress else 0) ++ R := by
  simp only [updateIvt, ivtImageFlagsOffset, ivtImageLengthOffset, ivtCrcCertificateOffset, ivtLoadAddrOffset]
  rw [p.set36 R _ (le32_length _)]
  have p := p.w2 _ (le32_length (flagsOf c cfg))
  rw [p.set32 R _ (le32_length _)]
  have p := p.w1 _ (le32_length (if c.zeroTotalLength then 0 else total))
  rw [p.set40 R _ (le32_length _)]
  have p := p.w3 _ (le32_length (if c.imageType = 0 then 0 else crcOff))
  rw [p.set52 R _ (le32_length _)]

theorem cleanIvt_pieces {A W1 W2 W3 M W4 : Bytes} (R : Bytes) (p : IvtPieces A W1 W2 W3 M W4) :
    cleanIvt (A ++ W1 ++ W2 ++ W3 ++ M ++ W4 ++ R) = A ++ zeros 4 ++ zeros 4 ++ zeros 4 ++ M ++ zeros 4 ++ R := by
  simp only [cleanIvt, ivtImageFlagsOffset, ivtImageLengthOffset, ivtCrcCertificateOffset, ivtLoadAddrOffset]
  rw [p.set32 R _ (zeros_length _)]
  have p := p.w1 _ (zeros_length 4)
  rw [p.set36 R _ (zeros_length _)]
  have p := p.w2 _ (zeros_length 4)
  rw [p.set40 R _ (zeros_length _)]
  have p := p.w3 _ (zeros_length 4)
  rw [p.set52 R _ (zeros_length _)]

theorem zeros12 : zeros 12 = zeros 4 ++ zeros 4 ++ zeros 4 := by decide

theorem updateIvt_eq (c : Cls) (cfg : Cfg) (app : Bytes) (total crcOff : Nat) (h : minIvtSize ≤ app.length) :
    updateIvt c cfg app total crcOff
      = app.take 32 ++ le32 (if c.zeroTotalLength then 0 else total) ++ le32 (flagsOf c cfg)
          ++ le32 (if c.imageType = 0 then 0 else crcOff) ++ slice app 44 52
          ++ le32 (if c.hasAttr .load_address then cfg.loadAddress else 0) ++ app.drop 56 := by
  obtain ⟨A, W1, W2, W3, M, W4, R, rfl, p⟩ := ivt_split app h
  rw [updateIvt_pieces R p, p.take32, p.slice4452, p.drop56]

theorem cleanIvt_eq (app : Bytes) (h : minIvtSize ≤ app.length) :
    cleanIvt app = app.take 32 ++ zeros 12 ++ slice app 44 52 ++ zeros 4 ++ app.drop 56 := by
  obtain ⟨A, W1, W2, W3, M, W4, R, rfl, p⟩ := ivt_split app h
  rw [cleanIvt_pieces R p, p.take32, p.slice4452, p.drop56, zeros12]
  simp only [List.append_assoc]

theorem updateIvt_length (c : Cls) (cfg : Cfg) (app : Bytes) (total crcOff : Nat) (h : minIvtSize ≤ app.length) :
    (updateIvt c cfg app total crcOff).length = app.length := by
  obtain ⟨A, W1, W2, W3, M, W4, R, rfl, p⟩ := ivt_split app h
  rw [updateIvt_pieces R p]
  simp only [List.length_append, le32_length, p.h1, p.h2, p.h3, p.h4]

theorem cleanIvt_length (app : Bytes) (h : minIvtSize ≤ app.length) : (cleanIvt app).length = app.length := by
  obtain ⟨A, W1, W2, W3, M, W4, R, rfl, p⟩ := ivt_split app h
  rw [cleanIvt_pieces R p]
  simp only [List.length_append, zeros_length, p.h1, p.h2, p.h3, p.h4]

theorem cleanIvt_updateIvt (c : Cls) (cfg : Cfg) (app : Bytes) (total crcOff : Nat) (h : minIvtSize ≤ app.length) :
    cleanIvt (updateIvt c cfg app total crcOff) = cleanIvt app := by
  obtain ⟨A, W1, W2, W3, M, W4, R, rfl, p⟩ := ivt_split app h
  rw [updateIvt_pieces R p, cleanIvt_pieces R p,
    cleanIvt_pieces R ⟨p.hA, le32_length _, le32_length _, le32_length _, p.hM, le32_length _⟩]

theorem updateIvt_cleanIvt (c : Cls) (cfg : Cfg) (app : Bytes) (total crcOff : Nat) (h : minIvtSize ≤ app.length) :
    updateIvt c cfg (cleanIvt app) total crcOff = updateIvt c cfg app total crcOff := by
  obtain ⟨A, W1, W2, W3, M, W4, R, rfl, p⟩ := ivt_split app h
  rw [cleanIvt_pieces R p, updateIvt_pieces R p,
    updateIvt_pieces R ⟨p.hA, zeros_length _, zeros_length _, zeros_length _, p.hM, zeros_length _⟩]

theorem rd32_cleanIvt (app : Bytes) (h : minIvtSize ≤ app.length) (off : Nat) (ho : off + 4 ≤ 32) :
    rd32 (cleanIvt app) off = rd32 app off := by
  obtain ⟨A, W1, W2, W3, M, W4, R, rfl, p⟩ := ivt_split app h
  rw [cleanIvt_pieces R p]
  simp only [List.append_assoc]
  rw [rd32_append_left _ _ _ (by rw [p.hA]; exact ho), rd32_append_left _ _ _ (by rw [p.hA]; exact ho)]

theorem updateIvt_words (c : Cls) (cfg : Cfg) (app : Bytes) (total crcOff : Nat) (h : minIvtSize ≤ app.length)
    (hf : flagsOf c cfg < 2 ^ 32) (ht : total < 2 ^ 32) (ho : crcOff < 2 ^ 32) (hl : cfg.loadAddress < 2 ^ 32) :
    let u := updateIvt c cfg app total crcOff
    rd32 u ivtImageLengthOffset = (if c.zeroTotalLength then 0 else total)
    ∧ rd32 u ivtImageFlagsOffset = flagsOf c cfg
    ∧ rd32 u ivtCrcCertificateOffset = (if c.imageType = 0 then 0 else crcOff)
    ∧ rd32 u ivtLoadAddrOffset = (if c.hasAttr .load_address then cfg.loadAddress else 0) := by
  obtain ⟨A, W1, W2, W3, M, W4, R, rfl, p⟩ := ivt_split app h
  have q : IvtPieces A (le32 (if c.zeroTotalLength then 0 else total)) (le32 (flagsOf c cfg))
      (le32 (if c.imageType = 0 then 0 else crcOff)) M (le32 (if c.hasAttr .load_address then cfg.loadAddress else 0)) :=
    ⟨p.hA, le32_length _, le32_length _, le32_length _, p.hM, le32_length _⟩
  simp only [ivtImageFlagsOffset, ivtImageLengthOffset, ivtCrcCertificateOffset, ivtLoadAddrOffset]
  rw [updateIvt_pieces R p]
  refine ⟨?_, ?_, ?_, ?_⟩
  · rw [rd32_of_window _ _ _ (q.win32 R), leDec_le32]; split <;> omega
  · rw [rd32_of_window _ _ _ (q.win36 R), leDec_le32]; exact hf
  · rw [rd32_of_window _ _ _ (q.win40 R), leDec_le32]; split <;> omega
  · rw [rd32_of_window _ _ _ (q.win52 R), leDec_le32]; split <;> omega

theorem updateIvt_frame (c : Cls) (cfg : Cfg) (app : Bytes) (total crcOff : Nat) (h : minIvtSize ≤ app.length) :
    (updateIvt c cfg app total crcOff).length = app.length
    ∧ ∀ i, ¬ (32 ≤ i ∧ i < 44) → ¬ (52 ≤ i ∧ i < 56) → (updateIvt c cfg app total crcOff)[i]? = app[i]? := by
  refine ⟨updateIvt_length c cfg app total crcOff h, fun i h1 h2 => ?_⟩
  simp only [minIvtSize] at h
  simp only [updateIvt, ivtImageFlagsOffset, ivtImageLengthOffset, ivtCrcCertificateOffset, ivtLoadAddrOffset]
  rw [setAt_getElem?, setAt_getElem?, setAt_getElem?, setAt_getElem?] <;>
    simp only [setAt, List.length_append, List.length_take, List.length_drop, le32_length] <;> omega

theorem rd32_updateIvt_append (c : Cls) (cfg : Cfg) (app rest : Bytes) (total crcOff off : Nat)
    (h : minIvtSize ≤ app.length) (ho : off + 4 ≤ 56) :
    rd32 (updateIvt c cfg app total crcOff ++ rest) off = rd32 (updateIvt c cfg app total crcOff) off := by
  apply rd32_append_left
  rw [updateIvt_length c cfg app total crcOff h]
  simp only [minIvtSize] at h; omega

/-! The proofs about the *generated* definitions (`createFlags`, the getters) do not depend on the syntactic shape of the
    generated bodies: the getters are evaluated bit by bit (`Nat.testBit` pushed through whatever `&&&`, `|||`, `>>>`,
    `<<<`, `/ 2^k`, `% 2^k` and literal masks the body has, the rest is propositional + linear arithmetic for `grind`),
    `createFlags` is normalised to an or of optional fields up to the order/orientation of the `|||`. -/

theorem ite_or_eq (c : Bool) (a x : Nat) : (if c then a ||| x else a) = a ||| (if c then x else 0) := by
  cases c <;> simp
theorem ite_or_eq' (c : Bool) (a x : Nat) : (if c then x ||| a else a) = a ||| (if c then x else 0) := by
  cases c <;> simp [Nat.or_comm]
theorem ite_zero_shiftLeft (c : Bool) (v k : Nat) : (if c then v else 0) <<< k = if c then v <<< k else 0 := by
  cases c <;> simp
theorem or_left_comm' (a b c : Nat) : a ||| (b ||| c) = b ||| (a ||| c) := by ac_rfl

/-- prove `<body of create_flags> = <or of fields>`: every `if c then flags ||| x else flags` (or `x ||| flags`) of the
    body becomes `flags ||| (if c then x else 0)`, then both sides agree up to the order of the `|||` (and of the `&&` in
    the conditions); last resort: split every condition -/
macro "mbi_flags_closed" : tactic => `(tactic| (
  simp only [ite_or_eq, ite_or_eq', ite_zero_shiftLeft, tzTypeShift, subTypeShift, imgVerShift, hwUserKeyEnFlag, keyStoreFlag,
    relocTableFlag, bootImageVersionFlag, Nat.reduceShiftLeft] <;>
  first
  | ac_rfl
  | (simp only [Nat.or_comm, Nat.or_assoc, or_left_comm', Bool.and_comm, Bool.and_assoc, Bool.and_left_comm]; done)
  | ((try simp only [Nat.or_comm, Nat.or_assoc, or_left_comm', Bool.and_comm, Bool.and_assoc, Bool.and_left_comm])
     (repeat' split) <;> (try simp_all) <;> ac_rfl)))

/-- `create_flags` as an or of (possibly zero) fields, highest field first -/
theorem createFlags_closed (t tz sub ver ksLen : Nat) (hTz hSub hHw hw hKs ksSet hTab tab hVer hV2T v2t : Bool) :
    createFlags t hTz tz hSub sub hHw hw hKs ksSet ksLen hTab tab hVer ver hV2T v2t
      = (if hVer && (ver != 0) && hV2T && v2t then ver else 0) <<< 16
        ||| ((if hKs && ksSet && decide (ksLen > 0) then 1 else 0) <<< 15
        ||| ((if hTz then tz else 0) <<< 13
        ||| ((if hHw && hw then 1 else 0) <<< 12
        ||| ((if hTab && tab then 1 else 0) <<< 11
        ||| ((if hVer && (ver != 0) && hV2T && v2t then 1 else 0) <<< 10
        ||| ((if hSub then sub else 0) <<< 6 ||| t)))))) := by
  unfold createFlags
  mbi_flags_closed

theorem and_two_pow_eq (f k : Nat) : f &&& 2 ^ k = if f.testBit k then 2 ^ k else 0 := by
  apply Nat.eq_of_testBit_eq
  intro i
  rw [Nat.testBit_and, Nat.testBit_two_pow]
  by_cases h : k = i
  · subst h; cases hb : f.testBit k <;> simp
  · cases hb : f.testBit k <;> simp [h]

theorem and_two_pow_ne_zero (f k : Nat) : (f &&& 2 ^ k != 0) = decide (f / 2 ^ k % 2 = 1) := by
  rw [and_two_pow_eq, ← Nat.testBit_eq_decide_div_mod_eq]
  cases f.testBit k <;> simp

theorem testBit_lit1 (i : Nat) : Nat.testBit 1 i = decide (0 = i) := Nat.testBit_two_pow (n := 0) (m := i)
theorem testBit_lit3 (i : Nat) : Nat.testBit 3 i = decide (i < 2) := Nat.testBit_two_pow_sub_one 2 i
theorem testBit_lit63 (i : Nat) : Nat.testBit 63 i = decide (i < 6) := Nat.testBit_two_pow_sub_one 6 i
theorem testBit_lit65535 (i : Nat) : Nat.testBit 65535 i = decide (i < 16) := Nat.testBit_two_pow_sub_one 16 i
theorem testBit_lit1024 (i : Nat) : Nat.testBit 1024 i = decide (10 = i) := Nat.testBit_two_pow (n := 10) (m := i)
theorem testBit_lit2048 (i : Nat) : Nat.testBit 2048 i = decide (11 = i) := Nat.testBit_two_pow (n := 11) (m := i)
theorem testBit_lit4096 (i : Nat) : Nat.testBit 4096 i = decide (12 = i) := Nat.testBit_two_pow (n := 12) (m := i)
theorem testBit_lit32768 (i : Nat) : Nat.testBit 32768 i = decide (15 = i) := Nat.testBit_two_pow (n := 15) (m := i)

theorem div_mod_two_eq_one_iff (f k : Nat) : f / 2 ^ k % 2 = 1 ↔ f.testBit k = true := by
  rw [Nat.testBit_eq_decide_div_mod_eq, decide_eq_true_eq]

/-- unfold the generated constants and push `testBit` through the bit operations (goal and hypotheses) -/
macro "mbi_flag_bits_simp" : tactic => `(tactic| try simp only [imageTypeMask, tzTypeMask, tzTypeShift, imgVerMask,
  imgVerShift, subTypeMask, subTypeShift, bootImageVersionFlag, relocTableFlag, hwUserKeyEnFlag, keyStoreFlag,
  Nat.testBit_and, Nat.testBit_or, Nat.testBit_xor, Nat.testBit_shiftRight, Nat.testBit_shiftLeft,
  Nat.testBit_mod_two_pow, Nat.testBit_div_two_pow, Nat.testBit_two_pow, Nat.testBit_two_pow_sub_one, Nat.zero_testBit,
  testBit_lit1, testBit_lit3, testBit_lit63, testBit_lit65535, testBit_lit1024, testBit_lit2048, testBit_lit4096,
  testBit_lit32768, Nat.add_sub_cancel_left, Nat.add_sub_cancel] at *)

/-- `X = Y` for two bit expressions over the flag word: bit by bit -/
macro "mbi_flag_bits" : tactic => `(tactic| (apply Nat.eq_of_testBit_eq; intro i; (mbi_flag_bits_simp <;> grind)))

/-- turn Boolean comparisons of numbers into (in)equalities (goal and hypotheses) -/
macro "mbi_flag_cmp_simp" : tactic => `(tactic| try simp only [bne_iff_ne, ne_eq, beq_iff_eq, bne_eq_false_iff_eq,
  beq_eq_false_iff_ne, Bool.not_eq_true, Bool.not_eq_false, Bool.not_eq_eq_eq_not, Bool.not_true, Bool.not_false,
  decide_eq_true_eq, decide_eq_false_iff_not] at *)

/-- close `X = Y` or `¬ X = Y` between bit expressions; for `¬`, bit `k` (or bit 0) tells them apart -/
macro "mbi_flag_rel" k:term : tactic => `(tactic| first
  | (apply Nat.eq_of_testBit_eq; intro i; (mbi_flag_bits_simp <;> grind))
  | (intro h'; have h1 := congrArg (fun x => Nat.testBit x $k) h'; (mbi_flag_bits_simp <;> grind))
  | (intro h'; have h1 := congrArg (fun x => Nat.testBit x 0) h'; (mbi_flag_bits_simp <;> grind)))

/-- a Boolean getter (any comparison of a masked/shifted flag word with a number) is bit `k` of the flag word -/
macro "mbi_flag_bool" k:term : tactic => `(tactic| (
  rw [← Nat.testBit_eq_decide_div_mod_eq]
  cases hb : Nat.testBit _ $k <;> mbi_flag_cmp_simp <;> mbi_flag_rel $k))

/-- a field guarded by bit `k`: split the guard of the generated body (whatever its form and polarity) against bit `k`; the
    two cases in which they disagree are contradictory, in the other two the values agree bit by bit -/
macro "mbi_flag_guarded" k:term : tactic => `(tactic| (
  simp only [div_mod_two_eq_one_iff]
  cases hb : Nat.testBit _ $k <;> simp only [if_true, if_false, Bool.false_eq_true, ↓reduceIte] <;> split <;>
    rename_i hg <;> mbi_flag_cmp_simp <;>
    first
    | (exfalso; revert hg; mbi_flag_rel $k)
    | (exfalso; apply hg; mbi_flag_rel $k)
    | mbi_flag_bits))

theorem getImageType_arith (f : Nat) : getImageType f = f % 64 := by
  show _ = f % 2 ^ 6
  unfold getImageType; mbi_flag_bits
theorem getTzType_arith (f : Nat) : getTzType f = f / 8192 % 4 := by
  show _ = f / 2 ^ 13 % 2 ^ 2
  unfold getTzType; mbi_flag_bits
theorem getSubType_arith (f : Nat) : getSubType f = f / 64 % 4 := by
  show _ = f / 2 ^ 6 % 2 ^ 2
  unfold getSubType; mbi_flag_bits
theorem getHwKeyEnabled_arith (f : Nat) : getHwKeyEnabled f = decide (f / 4096 % 2 = 1) := by
  show _ = decide (f / 2 ^ 12 % 2 = 1)
  unfold getHwKeyEnabled; mbi_flag_bool 12
theorem getKeyStorePresented_arith (f : Nat) : getKeyStorePresented f = decide (f / 32768 % 2 = 1) := by
  show _ = decide (f / 2 ^ 15 % 2 = 1)
  unfold getKeyStorePresented; mbi_flag_bool 15
theorem getAppTablePresented_arith (f : Nat) : getAppTablePresented f = decide (f / 2048 % 2 = 1) := by
  show _ = decide (f / 2 ^ 11 % 2 = 1)
  unfold getAppTablePresented; mbi_flag_bool 11
theorem getImageVersion_arith (f : Nat) : getImageVersion f = if f / 1024 % 2 = 1 then f / 65536 % 65536 else 0 := by
  show _ = if f / 2 ^ 10 % 2 = 1 then f / 2 ^ 16 % 2 ^ 16 else 0
  unfold getImageVersion; mbi_flag_guarded 10

/-! The getters in one fixed shape (mask/shift literals), whatever shape the generated bodies have: for proofs that
    compare them with another formulation of the same fields (use these instead of `rfl`/`unfold`). -/

theorem getImageType_shape (f : Nat) : getImageType f = f &&& 63 := by
  rw [getImageType_arith]; exact (Nat.and_two_pow_sub_one_eq_mod f 6).symm
theorem getTzType_shape (f : Nat) : getTzType f = (f >>> 13) &&& 3 := by
  rw [getTzType_arith, Nat.shiftRight_eq_div_pow]; exact (Nat.and_two_pow_sub_one_eq_mod _ 2).symm
theorem getSubType_shape (f : Nat) : getSubType f = (f >>> 6) &&& 3 := by
  rw [getSubType_arith, Nat.shiftRight_eq_div_pow]; exact (Nat.and_two_pow_sub_one_eq_mod _ 2).symm
theorem getHwKeyEnabled_shape (f : Nat) : getHwKeyEnabled f = (f &&& 4096 != 0) := by
  rw [getHwKeyEnabled_arith]; exact (and_two_pow_ne_zero f 12).symm
theorem getKeyStorePresented_shape (f : Nat) : getKeyStorePresented f = (f &&& 32768 != 0) := by
  rw [getKeyStorePresented_arith]; exact (and_two_pow_ne_zero f 15).symm
theorem getAppTablePresented_shape (f : Nat) : getAppTablePresented f = (f &&& 2048 != 0) := by
  rw [getAppTablePresented_arith]; exact (and_two_pow_ne_zero f 11).symm
theorem getImageVersion_shape (f : Nat) :
    getImageVersion f = if (f &&& 1024 != 0) = true then (f >>> 16) &&& 65535 else 0 := by
  have h : (f &&& 1024 != 0) = decide (f / 1024 % 2 = 1) := and_two_pow_ne_zero f 10
  have e : (f >>> 16) &&& 65535 = f / 65536 % 65536 := by
    rw [Nat.shiftRight_eq_div_pow]; exact Nat.and_two_pow_sub_one_eq_mod _ 16
  rw [getImageVersion_arith, h, e]
  simp only [decide_eq_true_eq]

theorem shiftLeft_or_eq_add (a b k : Nat) (h : b < 2 ^ k) : a <<< k ||| b = a * 2 ^ k + b := by
  rw [← Nat.shiftLeft_add_eq_or_of_lt h, Nat.shiftLeft_eq]

/-- a word put together from disjoint fields (each `|||` is a `+` since the lower part fits below the shift), and the
    fields read back -/
theorem flags_sum_fields (t sub vf tab hw tz ks ver : Nat) (ht : t < 64) (hsub : sub < 4) (hvf : vf < 2) (htab : tab < 2)
    (hhw : hw < 2) (htz : tz < 4) (hks : ks < 2) (hver : ver < 65536) (f : Nat)
    (hf : f = ver <<< 16 ||| (ks <<< 15 ||| (tz <<< 13 ||| (hw <<< 12 ||| (tab <<< 11 ||| (vf <<< 10 ||| (sub <<< 6 ||| t))))))) :
    f % 64 = t ∧ f / 8192 % 4 = tz ∧ f / 64 % 4 = sub ∧ f / 4096 % 2 = hw ∧ f / 32768 % 2 = ks ∧ f / 2048 % 2 = tab
      ∧ f / 1024 % 2 = vf ∧ f / 65536 % 65536 = ver ∧ f < 2 ^ 32 := by
  rw [shiftLeft_or_eq_add sub t 6 (by omega), shiftLeft_or_eq_add vf _ 10 (by omega), shiftLeft_or_eq_add tab _ 11 (by omega),
    shiftLeft_or_eq_add hw _ 12 (by omega), shiftLeft_or_eq_add tz _ 13 (by omega), shiftLeft_or_eq_add ks _ 15 (by omega),
    shiftLeft_or_eq_add ver _ 16 (by omega)] at hf
  omega

theorem ite_one_zero_eq_one (b : Bool) : decide ((if b then 1 else 0 : Nat) = 1) = b := by cases b <;> simp

theorem flags_fields (t tz sub ver ksLen : Nat) (hTz hSub hHw hw hKs ksSet hTab tab hVer hV2T v2t : Bool)
    (ht : t ≤ imageTypeMask) (htz : tz ≤ tzTypeMask) (hsub : sub ≤ subTypeMask) (hver : ver ≤ imgVerMask) :
    let f := createFlags t hTz tz hSub sub hHw hw hKs ksSet ksLen hTab tab hVer ver hV2T v2t
    getImageType f = t ∧ getTzType f = (if hTz then tz else 0) ∧ getSubType f = (if hSub then sub else 0)
    ∧ getHwKeyEnabled f = (hHw && hw) ∧ getKeyStorePresented f = (hKs && ksSet && decide (ksLen > 0))
    ∧ getAppTablePresented f = (hTab && tab) ∧ getImageVersion f = (if hVer && hV2T && v2t then ver else 0)
    ∧ f < 2 ^ 32 := by
  intro f
  simp only [imageTypeMask, tzTypeMask, subTypeMask, imgVerMask] at ht htz hsub hver
  have hc : f = _ := createFlags_closed t tz sub ver ksLen hTz hSub hHw hw hKs ksSet hTab tab hVer hV2T v2t
  have hv6 : (if hVer && hV2T && v2t then ver else 0) = (if hVer && (ver != 0) && hV2T && v2t then ver else 0) := by
    by_cases hv : ver = 0
    · subst hv; simp
    · have : (ver != 0) = true := by simpa using hv
      simp [this]
  rw [hv6]
  generalize (hHw && hw) = b3 at hc ⊢
  generalize (hKs && ksSet && decide (ksLen > 0)) = b4 at hc ⊢
  generalize (hTab && tab) = b5 at hc ⊢
  generalize (hVer && (ver != 0) && hV2T && v2t) = b6 at hc ⊢
  have B1 : (if hTz then tz else 0) < 4 := by split <;> omega
  have B2 : (if hSub then sub else 0) < 4 := by split <;> omega
  have B3 : (if b3 then 1 else 0) < 2 := by split <;> omega
  have B4 : (if b4 then 1 else 0) < 2 := by split <;> omega
  have B5 : (if b5 then 1 else 0) < 2 := by split <;> omega
  have B6 : (if b6 then 1 else 0) < 2 := by split <;> omega
  have B7 : (if b6 then ver else 0) < 65536 := by split <;> omega
  obtain ⟨g1, g2, g3, g4, g5, g6, g7, g8, g9⟩ := flags_sum_fields _ _ _ _ _ _ _ _ (by omega) B2 B6 B5 B3 B1 B4 B7 f hc
  rw [getImageType_arith, getTzType_arith, getSubType_arith, getHwKeyEnabled_arith, getKeyStorePresented_arith,
    getAppTablePresented_arith, getImageVersion_arith, g1, g2, g3, g4, g5, g6, g7, g8,
    ite_one_zero_eq_one, ite_one_zero_eq_one, ite_one_zero_eq_one]
  refine ⟨rfl, rfl, rfl, rfl, rfl, rfl, ?_, g9⟩
  cases b6 <;> simp

theorem relocRecords_length (es : List RelocEntry) (src : Nat) : (relocRecords es src).length = 16 * es.length := by
  induction es generalizing src with
  | nil => simp [relocRecords]
  | cons e es ih => simp [relocRecords, le32_length, ih]; omega

theorem relocExport_length (es : List RelocEntry) (start : Nat) :
    (relocExport es start).length = (relocImages es).length + 16 * es.length + 16 := by
  simp [relocExport, relocRecords_length, le32_length]; omega

/-- entries with the source addresses `relocRecords` assigns -/
def relocAddrs : List RelocEntry → Nat → List (RelocEntry × Nat)
  | [], _ => []
  | e :: es, src => (e, src) :: relocAddrs es (src + (align4 e.image).length)

theorem relocAddrs_map_fst (es : List RelocEntry) (src : Nat) : (relocAddrs es src).map (·.1) = es := by
  induction es generalizing src with
  | nil => rfl
  | cons e es ih => simp [relocAddrs, ih]

theorem relocImages_cons (e : RelocEntry) (es : List RelocEntry) :
    relocImages (e :: es) = align4 e.image ++ relocImages es := by
  simp [relocImages]

theorem relocEntriesParse_ok (data : Bytes) (hdata : data.length < 2 ^ 32) :
    ∀ (es : List RelocEntry) (src off : Nat) (Q T P S : Bytes), data = Q ++ relocImages es ++ T → Q.length = src →
      data = P ++ relocRecords es src ++ S → P.length = off → (∀ e ∈ es, relocEntryOk e = true) →
      relocEntriesParse data es.length off = .ok (relocAddrs es src) := by
  intro es
  induction es with
  | nil => intros; rfl
  | cons e es ih =>
    intro src off Q T P S h1 hQ h2 hP hok
    have hoke := hok e (by simp)
    simp only [relocEntryOk, Bool.and_eq_true, decide_eq_true_eq] at hoke
    -- the image
    have himg : data = Q ++ e.image ++ (zeros ((4 - e.image.length % 4) % 4) ++ relocImages es ++ T) := by
      rw [h1, relocImages_cons, align4]; simp
    have hsl : slice data src (src + e.image.length) = e.image := by
      rw [himg, ← hQ]; exact slice_append_mid _ _ _
    have hsrcle : src + e.image.length ≤ data.length := by
      rw [himg, ← hQ]; simp
    -- the record
    have hrec : data = P ++ le32 src ++ le32 e.dst ++ le32 e.image.length ++ le32 ltiLoad
        ++ (relocRecords es (src + (align4 e.image).length) ++ S) := by
      rw [h2, relocRecords]; simp
    have hlen16 : off + 16 ≤ data.length := by
      rw [hrec, ← hP]; simp [le32_length]; omega
    obtain ⟨r0, r1, r2, r3⟩ := rd32_at4 data P _ src e.dst e.image.length ltiLoad off hrec hP (by omega) hoke.1 hoke.2
      (by decide)
    have hE : relocEntryParse data off = .ok (e, src) := by
      unfold relocEntryParse
      rw [if_neg (by omega)]
      simp only [r0, r1, r2, r3]
      rw [if_neg (by omega), if_neg (by simp), hsl]
    have hrest := ih (src + (align4 e.image).length) (off + 16) (Q ++ align4 e.image) T
      (P ++ le32 src ++ le32 e.dst ++ le32 e.image.length ++ le32 ltiLoad) S
      (by rw [h1, relocImages_cons]; simp) (by simp [hQ]) (by rw [hrec]; simp) (by simp [le32_length, hP])
      (fun x hx => hok x (by simp [hx]))
    show relocEntriesParse data (es.length + 1) off = _
    simp only [relocEntriesParse, hE, hrest, relocAddrs]
    rfl

/-- the table exported behind `pre` is found again, with its start (an empty table too: its start is where the footer is) -/
theorem relocParse_export (pre : Bytes) (es : List RelocEntry) (hok : ∀ e ∈ es, relocEntryOk e = true)
    (hlen : pre.length + (relocExport es pre.length).length < 2 ^ 32) :
    relocParse (pre ++ relocExport es pre.length) = .ok (some (es, pre.length)) := by
  rw [relocExport_length] at hlen
  generalize hd : pre ++ relocExport es pre.length = data
  have hdl : data.length = pre.length + (relocImages es).length + 16 * es.length + 16 := by
    rw [← hd, List.length_append, relocExport_length]; omega
  have hR := relocRecords_length es pre.length
  have hd' : data = pre ++ relocImages es ++ relocRecords es pre.length ++ le32 relocMarkerExport
      ++ le32 relocHeaderVersion ++ le32 es.length ++ le32 (pre.length + (relocImages es).length) ++ [] := by
    rw [← hd, relocExport]; simp
  obtain ⟨w0, w1, w2, w3⟩ := rd32_at4 data _ _ _ _ _ _ (data.length - 16) hd' (by simp [hR, hdl]; omega) (by decide)
    (by decide) (by omega) (by omega)
  have hP := relocEntriesParse_ok data (by omega) es pre.length (pre.length + (relocImages es).length) pre
    (relocRecords es pre.length ++ le32 relocMarkerExport ++ le32 relocHeaderVersion ++ le32 es.length
      ++ le32 (pre.length + (relocImages es).length))
    (pre ++ relocImages es)
    (le32 relocMarkerExport ++ le32 relocHeaderVersion ++ le32 es.length ++ le32 (pre.length + (relocImages es).length))
    (by rw [hd']; simp) rfl (by rw [hd']; simp) (by simp) hok
  unfold relocParse
  rw [if_neg (by omega)]
  simp only [w0, w1, w2, w3]
  rw [if_neg (by decide), hP]
  simp only [relocAddrs_map_fst]
  cases es <;> rfl

theorem reloc_roundtrip (pre : Bytes) (es : List RelocEntry) (hne : es ≠ []) (hok : ∀ e ∈ es, relocEntryOk e = true)
    (hlen : pre.length + (relocExport es pre.length).length < 2 ^ 32) :
    relocParse (pre ++ relocExport es pre.length) = .ok (some (es, pre.length)) := relocParse_export pre es hok hlen

theorem family_cases {co : CryptoOps} {env : Env} {c : Cls} {cfg : Cfg} {signer : Signer}
    (h : Hyp co env c cfg signer) :
    c.family = some .plain ∨ c.family = some .signedV1 ∨ c.family = some .signedV21 ∨ c.family = some .encrypted := by
  cases hf : c.family with
  | none =>
    have hw := h.hcls
    unfold ClassWF at hw
    simp only [hf] at hw
    simp at hw
  | some f => cases f <;> simp

theorem insertByKey_perm (m : MixinName) (l : List MixinName) : (insertByKey m l).Perm (m :: l) := by
  induction l with
  | nil => exact List.Perm.refl _
  | cons x xs ih =>
    unfold insertByKey
    split
    · exact List.Perm.refl _
    · exact (List.Perm.cons x ih).trans (List.Perm.swap m x xs)

theorem sortByKey_perm (l : List MixinName) : (sortByKey l).Perm l := by
  induction l with
  | nil => exact List.Perm.refl _
  | cons x xs ih => exact (insertByKey_perm x _).trans (List.Perm.cons x ih)

theorem perm_sum_int {l₁ l₂ : List Int} (h : l₁.Perm l₂) : l₁.sum = l₂.sum := by
  induction h with
  | nil => rfl
  | cons x _ ih => simp [ih]
  | swap x y l => simp only [List.sum_cons]; omega
  | trans _ _ ih1 ih2 => exact ih1.trans ih2

theorem sum_filterMap_id (l : List (Option MixinName)) (f : MixinName → Int) :
    (l.map (fun o => match o with | some m => f m | none => 0)).sum = ((l.filterMap id).map f).sum := by
  induction l with
  | nil => rfl
  | cons o os ih => cases o <;> simp [ih]

theorem perm_of_lenProvidersAre (l : List (Option MixinName)) (exp : List MixinName)
    (h : lenProvidersAre l exp = true) : (l.filterMap id).Perm exp := by
  simp only [lenProvidersAre, Bool.and_eq_true, beq_iff_eq] at h
  exact ((sortByKey_perm _).symm.trans (h.1 ▸ List.Perm.refl _)).trans (sortByKey_perm exp)

theorem sum_of_lenProvidersAre (l : List (Option MixinName)) (exp : List MixinName) (f : MixinName → Int)
    (h : lenProvidersAre l exp = true) :
    (l.map (fun o => match o with | some m => f m | none => 0)).sum = (exp.map f).sum := by
  rw [sum_filterMap_id]
  exact perm_sum_int ((perm_of_lenProvidersAre l exp h).map f)

theorem classWF_imageType_le {c : Cls} (h : ClassWF c = true) : c.imageType ≤ imageTypeMask := by
  apply Classical.byContradiction
  intro hn
  have hd : decide (c.imageType ≤ imageTypeMask) = false := by simpa using hn
  unfold ClassWF at h
  simp only [hd, Bool.false_and] at h
  exact absurd h (by decide)

theorem cfgWF_subType_le {c : Cls} {cfg : Cfg} (h : cfgWF c cfg = true) : cfg.subType ≤ subTypeMask := by
  apply Classical.byContradiction
  intro hn
  have hd : decide (cfg.subType ≤ subTypeMask) = false := by simpa using hn
  unfold cfgWF at h
  simp only [hd, Bool.false_and, Bool.and_false] at h
  exact absurd h (by decide)

theorem cfgWF_imageVersion_le {c : Cls} {cfg : Cfg} (h : cfgWF c cfg = true) : cfg.imageVersion ≤ imgVerMask := by
  apply Classical.byContradiction
  intro hn
  have hd : decide (cfg.imageVersion < 2 ^ 16) = false := by
    simp only [imgVerMask] at hn; simp only [decide_eq_false_iff_not]; omega
  unfold cfgWF at h
  simp only [hd, Bool.false_and, Bool.and_false] at h
  exact absurd h (by decide)

theorem le_imgVerMask {v : Nat} (h : v < 2 ^ 16) : v ≤ imgVerMask := by
  simp only [imgVerMask]; omega

theorem tzTag_le (t : TzCfg) : t.tag ≤ tzTypeMask := by
  cases t <;> simp [TzCfg.tag, tzTypeMask, tzEnabled, tzCustom, tzDisabled]

theorem eqOutsideSig_append {c : Cls} {cfg : Cfg} (hs : c.signKind = .rsa) (X s s' : Bytes) (h : s.length = cfg.sigLen)
    (h' : s'.length = cfg.sigLen) : eqOutsideSig c cfg (X ++ s) (X ++ s') := by
  unfold eqOutsideSig sigOffset
  rw [hs]
  simp only [List.length_append, h, h', Nat.add_sub_cancel, true_and]
  exact ⟨by rw [List.take_left, List.take_left],
    by rw [List.drop_of_length_le (by simp [h]), List.drop_of_length_le (by simp [h'])]⟩

/-- providers of `mix_parse` that are called by exactly the data mixins deriving from them -/
def selfParsed : List MixinName :=
  [.Mbi_MixinLoadAddress, .Mbi_MixinImageVersion, .Mbi_MixinImageSubType, .Mbi_MixinHwKey, .Mbi_MixinKeyStore, .Mbi_MixinHmac,
   .Mbi_MixinCtrInitVector, .Mbi_MixinCertBlockV1, .Mbi_MixinCertBlockV21, .Mbi_MixinManifest, .Mbi_MixinBca, .Mbi_MixinFcf]

/-- what the proofs use of the generated `isData` / `parent` / `provider` / `attrs` / `preParsed`, by evaluation -/
theorem mixin_table (m : MixinName) :
    (∀ X ∈ selfParsed, (isData m && (provider m .mix_parse == some X)) = derivesFrom m X)
    ∧ (derivesFrom m .Mbi_MixinTrustZone = true →
        isData m = true ∧ (provider m .mix_parse = some .Mbi_MixinTrustZone ∨ provider m .mix_parse = some .Mbi_MixinManifest))
    ∧ ((provider m .mix_parse = some .Mbi_MixinTrustZone ∨ provider m .mix_parse = some .Mbi_MixinManifest) →
        preParsed m = [.cert_block])
    ∧ (∀ Xa ∈ [(MixinName.Mbi_MixinTrustZone, Attr.trust_zone), (.Mbi_MixinBca, .bca), (.Mbi_MixinFcf, .fcf)],
        provider m .mix_parse = some Xa.1 → (attrs m).contains Xa.2 = true)
    ∧ ((attrs m).contains .trust_zone = true → derivesFrom m .Mbi_MixinTrustZone = true)
    ∧ (derivesFrom m .Mbi_MixinApp = true → isData m = true ∧ provider m .mix_validate = some .Mbi_MixinApp)
    ∧ (derivesFrom m .Mbi_MixinManifest = true → provider m .mix_validate = some .Mbi_MixinManifest) := by
  refine of_decide_eq_true ?_
  cases m <;> decide +kernel

theorem any_data (c : Cls) (f g : MixinName → Bool) (hfg : ∀ m, (isData m && f m) = g m) :
    c.dataMixins.any f = c.mixins.any g := by
  simp only [Cls.dataMixins, List.any_filter]
  exact congrArg _ (funext hfg)

theorem any_parses {X : MixinName} (hX : X ∈ selfParsed) (c : Cls) :
    c.dataMixins.any (provider · .mix_parse == some X) = c.has X :=
  any_data c _ _ fun m => (mixin_table m).1 X hX

theorem not_parses {c : Cls} {X m : MixinName} (hX : X ∈ selfParsed) (h : c.has X = false) (hm : m ∈ c.dataMixins) :
    provider m .mix_parse ≠ some X := by
  rw [← any_parses hX, List.any_eq_false] at h
  simpa using h m hm

theorem not_parses_of_attr {c : Cls} {X m : MixinName} {a : Attr}
    (hXa : (X, a) ∈ [(MixinName.Mbi_MixinTrustZone, Attr.trust_zone), (.Mbi_MixinBca, .bca), (.Mbi_MixinFcf, .fcf)])
    (h : c.hasAttr a = false) (hm : m ∈ c.dataMixins) : provider m .mix_parse ≠ some X := by
  intro hp
  rw [Cls.hasAttr, List.any_eq_false] at h
  exact h m (List.mem_filter.1 hm).1 ((mixin_table m).2.2.2.1 _ hXa hp)

theorem has_iff {c : Cls} {b : MixinName} : c.has b = true ↔ ∃ m ∈ c.mixins, derivesFrom m b = true := by
  simp only [Cls.has, List.any_eq_true]

theorem Cls.has_of_mem {c : Cls} {m base : MixinName} (hm : m ∈ c.mixins) (hd : derivesFrom m base = true) :
    c.has base = true := List.any_eq_true.mpr ⟨m, hm, hd⟩

theorem Cls.hasAttr_of_mem {c : Cls} {m : MixinName} {a : Attr} (hm : m ∈ c.mixins) (hd : (attrs m).contains a = true) :
    c.hasAttr a = true := List.any_eq_true.mpr ⟨m, hm, hd⟩

theorem hasTrustZone_iff (c : Cls) : c.hasTrustZone = c.has .Mbi_MixinTrustZone := by
  rw [Cls.hasTrustZone, Bool.or_eq_right_iff_imp, Cls.hasAttr, List.any_eq_true, has_iff]
  exact fun ⟨m, hm, h⟩ => ⟨m, hm, (mixin_table m).2.2.2.2.1 h⟩

theorem any_mono {α : Type} {p q : α → Bool} (l : List α) (hpq : ∀ x, p x = true → q x = true) (h : l.any p = true) :
    l.any q = true := by
  rw [List.any_eq_true] at h ⊢
  exact h.imp fun x hx => ⟨hx.1, hpq x hx.2⟩

theorem ite_eq_of_default {α : Type} (b : Bool) (x d : α) (h : b = false → x = d) : (if b then x else d) = x := by
  cases b
  · exact (h rfl).symm
  · rfl

theorem and_eq_of_default (b x : Bool) (h : b = false → x = false) : (b && x) = x := by
  cases b
  · exact (h rfl).symm
  · rfl

theorem totalLen_exp (c : Cls) (cfg : Cfg) (exp : List MixinName) (h : lenProvidersAre c.lenProviders exp = true) :
    totalLen c cfg = (exp.map (mixLenOf c cfg)).sum := by
  rw [← sum_of_lenProvidersAre _ _ (mixLenOf c cfg) h]
  unfold totalLen Cls.lenProviders
  rw [List.map_map]
  rfl

theorem totalLenForCertBlock_exp (c : Cls) (cfg : Cfg) (exp : List MixinName)
    (h : lenProvidersAre c.legacyLenProviders exp = true) :
    totalLenForCertBlock c cfg = (exp.map (mixLenOf c cfg)).sum := by
  rw [← sum_of_lenProvidersAre _ _ (mixLenOf c cfg) h]
  unfold totalLenForCertBlock Cls.legacyLenProviders
  rw [List.map_map]
  rfl

theorem forM_ok {α : Type} (f : α → PyRes Unit) : ∀ l : List α, l.forM f = .ok () → ∀ m ∈ l, f m = .ok ()
  | a :: l, h, m, hm => by
    change (f a >>= fun _ => l.forM f) = _ at h
    cases hfa : f a with
    | error e => rw [hfa] at h; cases h
    | ok u =>
      rw [hfa] at h
      rcases List.mem_cons.mp hm with rfl | hm'
      · exact hfa
      · exact forM_ok f l h m hm'

/-- a validated configuration of a class with the application mixin: the application holds an IVT and its first three
    words are not all equal -/
theorem app_valid {c : Cls} {cfg : Cfg} (hApp : c.has .Mbi_MixinApp = true) (hval : validate c cfg = .ok ()) :
    minIvtSize ≤ (appData cfg).length
    ∧ ¬ (rd32 (appData cfg) 0 = rd32 (appData cfg) 4 ∧ rd32 (appData cfg) 4 = rd32 (appData cfg) 8) := by
  obtain ⟨m, hm, hd⟩ := has_iff.1 hApp
  have hp := (mixin_table m).2.2.2.2.2.1 hd
  have h := forM_ok _ _ hval m (List.mem_filter.mpr ⟨hm, hp.1⟩)
  simp only [validateMixin, hp.2] at h
  split at h
  · cases h
  · split at h
    · cases h
    · rename_i h1 h2
      exact ⟨by simp only [minAppSize] at h1; simp only [minIvtSize]; omega, h2⟩

/-- what `struct.pack` needs, from `packGuard` -/
theorem packGuard_ok {c : Cls} {cfg : Cfg} (h : packGuard c cfg = .ok ()) :
    0 ≤ totalLen c cfg ∧ totalLen c cfg + cfg.sigLen + encIvtCopySize + encIvSize < 2 ^ 32 ∧ flagsOf c cfg < 2 ^ 32
      ∧ cfg.loadAddress < 2 ^ 32 ∧ cfg.fwVersion < 2 ^ 32 := by
  unfold packGuard at h
  split at h
  · cases h
  · omega

section reloc
variable {c : Cls} {cfg : Cfg}
  (hreloc : ∀ es, cfg.reloc = some es → (∀ e ∈ es, relocEntryOk e = true) ∧ c.has .Mbi_MixinRelocTable = true ∧ es ≠ [])
include hreloc

theorem reloc_of_has : (if c.has .Mbi_MixinRelocTable then cfg.reloc else none) = cfg.reloc := by
  apply ite_eq_of_default
  intro h
  cases hr : cfg.reloc with
  | none => rfl
  | some es => rw [(hreloc es hr).2.1] at h; cases h

theorem reloc_none_of_not_has (h : c.has .Mbi_MixinRelocTable = false) : cfg.reloc = none := by
  rw [← reloc_of_has hreloc, h]; rfl

theorem reloc_isSome_of_has : (c.has .Mbi_MixinRelocTable && cfg.reloc.isSome) = cfg.reloc.isSome := by
  cases h : c.has .Mbi_MixinRelocTable
  · rw [reloc_none_of_not_has hreloc h]; rfl
  · rfl

end reloc

/-- the relocation table as the collectors emit it behind `n` bytes -/
def relocAt (cfg : Cfg) (n : Nat) : Bytes :=
  match cfg.reloc with
  | some es => relocExport es n
  | none => []

theorem relocAt_length (c : Cls) (cfg : Cfg) (n : Nat) : (relocAt cfg n).length = relocLen c cfg := by
  unfold relocAt relocLen
  cases cfg.reloc with
  | none => rfl
  | some es => exact (relocExport_length es _).trans (relocExport_length es 0).symm

/-- `disassembly_app_data` finds the relocation table behind the application `U` and cuts it off -/
theorem disassemblyAppData_relocAt {c : Cls} {cfg : Cfg} (p : Parsed) (U : Bytes) (hr : p.reloc = none)
    (hdis : c.hasAttr .disassembly_app_data = c.has .Mbi_MixinRelocTable)
    (hfl : getAppTablePresented (flagsIn (U ++ relocAt cfg U.length)) = cfg.reloc.isSome)
    (hreloc : ∀ es, cfg.reloc = some es → (∀ e ∈ es, relocEntryOk e = true) ∧ c.has .Mbi_MixinRelocTable = true ∧ es ≠ [])
    (hlen : U.length + relocLen c cfg < 2 ^ 32) :
    disassemblyAppData c p (U ++ relocAt cfg U.length)
      = .ok ({ p with reloc := if c.has .Mbi_MixinRelocTable then cfg.reloc else none }, U) := by
  rw [← relocAt_length c cfg U.length] at hlen
  unfold disassemblyAppData
  rw [hdis, hfl, reloc_of_has hreloc]
  unfold relocAt at hlen ⊢
  cases hcr : cfg.reloc with
  | none => simp [← hr]
  | some es =>
    obtain ⟨hok, hrt, _⟩ := hreloc es hcr
    rw [hcr] at hlen
    simp only [hrt, Option.isSome_some, not_true_eq_false, if_true, if_false, relocParse_export U es hok hlen,
      List.take_left]

theorem flagsOf_fields (c : Cls) (cfg : Cfg) (ht : c.imageType ≤ imageTypeMask) (hst : cfg.subType ≤ subTypeMask)
    (hiv : cfg.imageVersion ≤ imgVerMask) :
    getTzType (flagsOf c cfg) = (if c.hasTrustZone then cfg.tz.tag else 0)
    ∧ getSubType (flagsOf c cfg) = (if c.hasAttr .image_subtype then cfg.subType else 0)
    ∧ getHwKeyEnabled (flagsOf c cfg) = (c.hasAttr .user_hw_key_enabled && cfg.hwKey)
    ∧ getKeyStorePresented (flagsOf c cfg) = (c.hasAttr .key_store && cfg.keyStore.isSome
        && decide ((match cfg.keyStore with | some b => b.length | none => 0) > 0))
    ∧ getAppTablePresented (flagsOf c cfg) = (c.hasAttr .app_table && cfg.reloc.isSome)
    ∧ getImageVersion (flagsOf c cfg)
        = (if c.hasAttr .image_version && c.hasAttr .image_version_to_image_type && true then cfg.imageVersion else 0) :=
  have h := flags_fields c.imageType cfg.tz.tag cfg.subType cfg.imageVersion _ c.hasTrustZone _ _ _ _ _ _ _ _ _ _
    ht (tzTag_le cfg.tz) hst hiv
  ⟨h.2.1, h.2.2.1, h.2.2.2.1, h.2.2.2.2.1, h.2.2.2.2.2.1, h.2.2.2.2.2.2.1⟩

theorem getTzType_flagsOf {co : CryptoOps} {env : Env} {c : Cls} {cfg : Cfg} {signer : Signer}
    (h : Hyp co env c cfg signer) : getTzType (flagsOf c cfg) = (if c.hasTrustZone then cfg.tz.tag else 0) :=
  (flagsOf_fields c cfg (classWF_imageType_le h.hcls) (cfgWF_subType_le h.hcfg) (cfgWF_imageVersion_le h.hcfg)).1

/-! ### a configuration that differs in the application and the certificate block only

The parsed image is exported again from `{ cfg with app := cleanIvt (appData cfg), .. }`.  Validation, the length terms, the
flag word and `update_ivt` read of the application only its padded length and its first words, of the certificate block only
its length; so they do not change.  `app'` and `cert'` are variables here: with the concrete application in their place every
comparison of the two configurations would first unfold `cleanIvt`. -/

theorem align4_cleanIvt (cfg : Cfg) (h : minIvtSize ≤ (appData cfg).length) :
    align4 (cleanIvt (appData cfg)) = cleanIvt (appData cfg) :=
  align4_of_aligned _ (by rw [cleanIvt_length _ h]; exact align4_length_mod _)

theorem length_align4_cleanIvt (cfg : Cfg) (h : minIvtSize ≤ (appData cfg).length) :
    (align4 (cleanIvt (appData cfg))).length = (appData cfg).length := by
  rw [align4_cleanIvt cfg h, cleanIvt_length _ h]

theorem appData_reapp (cfg : Cfg) (app' cert' : Bytes) : appData { cfg with app := app', cert := cert' } = align4 app' := rfl

theorem flagsOf_reapp (c : Cls) (cfg : Cfg) (app' cert' : Bytes) :
    flagsOf c { cfg with app := app', cert := cert' } = flagsOf c cfg := rfl

theorem relocAt_reapp (cfg : Cfg) (app' cert' : Bytes) (n : Nat) :
    relocAt { cfg with app := app', cert := cert' } n = relocAt cfg n := rfl

theorem updateIvt_reapp (c : Cls) (cfg : Cfg) (app' cert' : Bytes) :
    updateIvt c { cfg with app := app', cert := cert' } = updateIvt c cfg := rfl

section reapp
variable (c : Cls) {cfg : Cfg} {app' : Bytes} (cert' : Bytes) (ha : (align4 app').length = (appData cfg).length)
include ha

theorem validateMixin_reapp (hw : ∀ off, off + 4 ≤ 32 → rd32 (align4 app') off = rd32 (appData cfg) off) (m : MixinName) :
    validateMixin c { cfg with app := app', cert := cert' } m = validateMixin c cfg m := by
  unfold validateMixin
  simp only [appData_reapp, ha, hw 0 (by decide), hw 4 (by decide), hw 8 (by decide)]

theorem validate_reapp (hw : ∀ off, off + 4 ≤ 32 → rd32 (align4 app') off = rd32 (appData cfg) off) :
    validate c { cfg with app := app', cert := cert' } = validate c cfg := by
  unfold validate
  rw [funext (validateMixin_reapp c cert' ha hw)]

theorem appLen_reapp : appLen c { cfg with app := app', cert := cert' } = appLen c cfg := by
  unfold appLen mixAppLen
  simp only [appData_reapp, ha, relocLen]

variable (hc : cert'.length = cfg.cert.length)
include hc

theorem mixLenOf_reapp (d : MixinName) : mixLenOf c { cfg with app := app', cert := cert' } d = mixLenOf c cfg d := by
  unfold mixLenOf
  simp only [appData_reapp, ha, hc, relocLen, manifestLen]

theorem mixLen_reapp : mixLen c { cfg with app := app', cert := cert' } = mixLen c cfg := by
  funext m
  unfold mixLen
  simp only [mixLenOf_reapp c cert' ha hc]

theorem totalLen_reapp : totalLen c { cfg with app := app', cert := cert' } = totalLen c cfg := by
  unfold totalLen
  rw [mixLen_reapp c cert' ha hc]

theorem totalLenForCertBlock_reapp :
    totalLenForCertBlock c { cfg with app := app', cert := cert' } = totalLenForCertBlock c cfg := by
  unfold totalLenForCertBlock
  rw [mixLen_reapp c cert' ha hc]

theorem packGuard_reapp : packGuard c { cfg with app := app', cert := cert' } = packGuard c cfg := by
  unfold packGuard
  rw [totalLen_reapp c cert' ha hc, flagsOf_reapp]

end reapp

theorem validate_cleanIvt (c : Cls) (cfg : Cfg) (cert' : Bytes) (h : minIvtSize ≤ (appData cfg).length) :
    validate c { cfg with app := cleanIvt (appData cfg), cert := cert' } = validate c cfg :=
  validate_reapp c cert' (length_align4_cleanIvt cfg h) (by rw [align4_cleanIvt cfg h]; exact rd32_cleanIvt _ h)

/-- `app_len` when only the application and the relocation table provide `mix_app_len` -/
theorem appLen_counts {c : Cls} (cfg : Cfg)
    (hall : (c.appLenProviders.all fun o => o == none || o == some .Mbi_MixinApp || o == some .Mbi_MixinRelocTable) = true) :
    appLen c cfg = provCount c.appLenProviders .Mbi_MixinApp * (appData cfg).length
      + provCount c.appLenProviders .Mbi_MixinRelocTable * relocLen c cfg := by
  unfold appLen Cls.appLenProviders provCount at *
  generalize c.dataMixins = ms at *
  induction ms with
  | nil => simp
  | cons m ms ih =>
    simp only [List.map_cons, List.all_cons, Bool.and_eq_true, Bool.or_eq_true, beq_iff_eq] at hall
    rw [List.map_cons, List.sum_cons, ih hall.2, List.map_cons, List.count_cons, List.count_cons, mixAppLen]
    rcases hall.1 with (h | h) | h <;> rw [h] <;> simp [Nat.add_mul] <;> omega

/-- nobody is called while it must wait (`done`: the certificate block has been parsed) -/
def ValidFrom (c : Cls) : Bool → List MixinName → Prop
  | _, [] => True
  | done, m :: rest => mustWait c done m = false ∧ ValidFrom c (done || setsCert m) rest

theorem parseRound_spec (c : Cls) : ∀ (todo : List MixinName) (done : Bool),
    ((parseRound c todo done).1 ++ (parseRound c todo done).2.1).Perm todo
    ∧ ∀ rest, ValidFrom c (parseRound c todo done).2.2 rest → ValidFrom c done ((parseRound c todo done).1 ++ rest)
  | [], done => by simp [parseRound]
  | m :: ms, done => by
    unfold parseRound
    by_cases hw : mustWait c done m = true
    · have ih := parseRound_spec c ms done
      rcases hr : parseRound c ms done with ⟨o, w, d⟩
      rw [hr] at ih
      simp only [hw, if_true]
      exact ⟨(List.perm_middle).trans (List.Perm.cons m ih.1), ih.2⟩
    · have ih := parseRound_spec c ms (done || setsCert m)
      rcases hr : parseRound c ms (done || setsCert m) with ⟨o, w, d⟩
      rw [hr] at ih
      simp only [hw]
      exact ⟨List.Perm.cons m ih.1, fun rest hv => ⟨by simpa using hw, ih.2 rest hv⟩⟩

theorem parseOrderF_spec (c : Cls) : ∀ (f : Nat) (todo : List MixinName) (done : Bool) (order : List MixinName),
    parseOrderF c f todo done = some order → order.Perm todo ∧ ValidFrom c done order
  | _, [], _, order, h => by
    have : order = [] := by cases ‹Nat› <;> simp [parseOrderF] at h <;> exact h
    subst this; exact ⟨List.Perm.refl _, trivial⟩
  | 0, _ :: _, _, order, h => by simp [parseOrderF] at h
  | f + 1, t :: ts, done, order, h => by
    have sp := parseRound_spec c (t :: ts) done
    simp only [parseOrderF] at h
    rcases hr : parseRound c (t :: ts) done with ⟨o, w, d⟩
    rw [hr] at h sp
    simp only at h sp
    split at h
    · cases h
    · simp only [Option.map_eq_some_iff] at h
      obtain ⟨order', ho, rfl⟩ := h
      have ih := parseOrderF_spec c f w d order' ho
      exact ⟨(List.Perm.append_left o ih.1).trans sp.1, sp.2 _ ih.2⟩

/-- `parse` calls the data mixins in an order in which the readers of the certificate block come after its parser -/
theorem parseOrder_spec {c : Cls} {order : List MixinName} (h : parseOrder c = some order) :
    order.Perm c.dataMixins ∧ ValidFrom c false order := parseOrderF_spec c _ _ _ _ h

/-- the mixins that read the parsed certificate block are called after it has been parsed -/
theorem waited {c : Cls} {m : MixinName} {done : Bool} (hc : c.hasAttr .cert_block = true)
    (hp : provider m .mix_parse = some .Mbi_MixinTrustZone ∨ provider m .mix_parse = some .Mbi_MixinManifest)
    (hw : mustWait c done m = false) : done = true := by
  simpa [mustWait, (mixin_table m).2.2.1 hp, hc] using hw

/-- the fields written by the `mix_parse` providers in `s` taken from `q`, the others from `p`
    (`Mbi_MixinHmac.mix_parse` only writes a key it was given) -/
def parsedWith (s : MixinName → Bool) (q p : Parsed) : Parsed :=
  { p with
    loadAddress := if s .Mbi_MixinLoadAddress then q.loadAddress else p.loadAddress
    imageVersion := if s .Mbi_MixinImageVersion then q.imageVersion else p.imageVersion
    subType := if s .Mbi_MixinImageSubType then q.subType else p.subType
    hwKey := if s .Mbi_MixinHwKey then q.hwKey else p.hwKey
    keyStore := if s .Mbi_MixinKeyStore then q.keyStore else p.keyStore
    hmacKey := if s .Mbi_MixinHmac then q.hmacKey.or p.hmacKey else p.hmacKey
    ctrIv := if s .Mbi_MixinCtrInitVector then q.ctrIv else p.ctrIv
    cert := if s .Mbi_MixinCertBlockV1 then q.cert else if s .Mbi_MixinCertBlockV21 then q.cert else p.cert
    tz := if s .Mbi_MixinTrustZone then q.tz else if s .Mbi_MixinManifest then q.tz else p.tz
    fwVersion := if s .Mbi_MixinManifest then q.fwVersion else p.fwVersion
    digest := if s .Mbi_MixinManifest then q.digest else p.digest
    manifestSeen := if s .Mbi_MixinManifest then q.manifestSeen else p.manifestSeen
    manifestFlags := if s .Mbi_MixinManifest then q.manifestFlags else p.manifestFlags
    bca := if s .Mbi_MixinBca then q.bca else p.bca
    fcf := if s .Mbi_MixinFcf then q.fcf else p.fcf }

theorem ite_ite_or {α : Type} (a b : Bool) (x y : α) :
    (if a then x else if b then x else y) = if (b || a) then x else y := by cases a <;> cases b <;> rfl

theorem parsedWith_parsedWith (s t : MixinName → Bool) (q p : Parsed) :
    parsedWith s q (parsedWith t q p) = parsedWith (fun X => t X || s X) q p := by
  simp only [parsedWith, ite_ite_or, Bool.or_comm, Bool.or_left_comm]
  congr 1
  cases s .Mbi_MixinHmac <;> cases t .Mbi_MixinHmac <;> cases q.hmacKey <;> rfl

/-- the state after a list of calls depends on which providers were called -/
theorem foldl_parsedWith (q : Parsed) : ∀ (order : List MixinName) (p : Parsed),
    order.foldl (fun p m => parsedWith (provider m .mix_parse == some ·) q p) p
      = parsedWith (fun X => order.any (provider · .mix_parse == some X)) q p
  | [], _ => rfl
  | m :: ms, p => by rw [List.foldl_cons, foldl_parsedWith q ms, parsedWith_parsedWith]; rfl

theorem foldlM_mixParse {env : Env} {c : Cls} {dek : Option Bytes} {e : Bytes} {q : Parsed}
    (step : ∀ m ∈ c.dataMixins, ∀ (p : Parsed) (done : Bool), mustWait c done m = false → (done = true → p.cert = q.cert) →
      mixParse env c dek e p m = .ok (parsedWith (provider m .mix_parse == some ·) q p)) :
    ∀ (order : List MixinName) (done : Bool) (p : Parsed), ValidFrom c done order → (∀ m ∈ order, m ∈ c.dataMixins) →
      (done = true → p.cert = q.cert) →
      order.foldlM (mixParse env c dek e) p
        = .ok (order.foldl (fun p m => parsedWith (provider m .mix_parse == some ·) q p) p)
  | [], _, _, _, _, _ => rfl
  | m :: ms, done, p, hv, hmem, hd => by
    rw [List.foldlM_cons, step m (hmem m (List.mem_cons_self ..)) p done hv.1 hd]
    refine foldlM_mixParse step ms _ _ hv.2 (fun x hx => hmem x (List.mem_cons_of_mem _ hx)) fun h => ?_
    simp only [parsedWith]
    rcases Bool.or_eq_true _ _ ▸ h with h | h
    · rw [hd h]; simp only [ite_self]
    · simp only [setsCert, Bool.or_eq_true] at h
      rcases h with h | h <;> simp only [h, if_true, ite_self]

/-- a provider to which `mixParse` gives no meaning writes nothing -/
theorem mixParse_skip {env : Env} {c : Cls} {dek : Option Bytes} {e : Bytes} {p : Parsed} {m : MixinName} (q : Parsed)
    (h : ∀ X ∈ MixinName.Mbi_MixinTrustZone :: selfParsed, provider m .mix_parse ≠ some X) :
    mixParse env c dek e p m = .ok (parsedWith (provider m .mix_parse == some ·) q p) := by
  simp only [selfParsed, List.forall_mem_cons, List.not_mem_nil, false_imp_iff, implies_true, and_true, ne_eq] at h
  obtain ⟨h1, h2, h3, h4, h5, h6, h7, h8, h9, h10, h11, h12, h13⟩ := h
  have hs : parsedWith (provider m .mix_parse == some ·) q p = p := by
    simp only [parsedWith, beq_iff_eq, h1, h2, h3, h4, h5, h6, h7, h8, h9, h10, h11, h12, h13, if_false]
  rw [hs]
  unfold mixParse
  split <;> first | rfl | contradiction

theorem noManifest_of_lenProviders {c : Cls} {exp : List MixinName} (h : lenProvidersAre c.lenProviders exp = true)
    (h1 : .Mbi_MixinManifest ∉ exp) (h2 : .Mbi_MixinManifestDigest ∉ exp) : c.has .Mbi_MixinManifest = false := by
  refine Bool.eq_false_iff.mpr fun hh => ?_
  obtain ⟨m, hm, hd⟩ := has_iff.1 hh
  have hp : isData m = true ∧ (provider m .mix_len = some .Mbi_MixinManifest
      ∨ provider m .mix_len = some .Mbi_MixinManifestDigest) := by revert hd; cases m <;> decide
  have key : ∀ Y, provider m .mix_len = some Y → Y ∈ exp := fun Y hY =>
    (perm_of_lenProvidersAre _ _ h).subset
      (List.mem_filterMap.2 ⟨some Y, List.mem_map.2 ⟨m, List.mem_filter.2 ⟨hm, hp.1⟩, hY⟩, rfl⟩)
  exact hp.2.elim (fun e => h1 (key _ e)) (fun e => h2 (key _ e))

/-- the parsed object before `disassemble_image` -/
def preCanon (c : Cls) (cfg : Cfg) (dek : Option Bytes) : Parsed := { canon c cfg dek with app := none, reloc := none }

theorem ite_ite_self {α : Type} (b : Bool) (x y : α) : (if b then (if b then x else y) else y) = if b then x else y := by
  cases b <;> rfl

/-- calling every data mixin of a class gives the settings the image carries; `T` is the TrustZone setting the calls find
    (the encrypted family finds custom data still encrypted) -/
theorem parsedWith_canon_tz (c : Cls) (cfg : Cfg) (dek : Option Bytes) (T : TzCfg) (hT : c.hasTrustZone = false → T = .enabled)
    (hman : c.manifestKind.isSome = c.has .Mbi_MixinManifest) :
    parsedWith (fun X => c.dataMixins.any (provider · .mix_parse == some X)) { canon c cfg dek with tz := T } {}
      = { preCanon c cfg dek with tz := T } := by
  have htz : c.hasTrustZone = true → (c.dataMixins.any (provider · .mix_parse == some .Mbi_MixinTrustZone)
      || c.has .Mbi_MixinManifest) = true := by
    rw [hasTrustZone_iff, has_iff, ← any_parses (X := .Mbi_MixinManifest) (by decide)]
    rintro ⟨m, hm, hd⟩
    obtain ⟨hdat, hp⟩ := (mixin_table m).2.1 hd
    have hmem : m ∈ c.dataMixins := List.mem_filter.2 ⟨hm, hdat⟩
    simp only [Bool.or_eq_true, List.any_eq_true, beq_iff_eq]
    exact hp.imp (fun h => ⟨m, hmem, h⟩) (fun h => ⟨m, hmem, h⟩)
  have hz : (if c.dataMixins.any (provider · .mix_parse == some .Mbi_MixinTrustZone) then T
      else if c.has .Mbi_MixinManifest then T else TzCfg.enabled) = T := by
    cases h : c.hasTrustZone
    · simp only [hT h, ite_self]
    · rcases Bool.or_eq_true _ _ ▸ htz h with h1 | h1 <;> simp only [h1, if_true, ite_self]
  have hc : (if c.has .Mbi_MixinCertBlockV1 then (canon c cfg dek).cert
      else if c.has .Mbi_MixinCertBlockV21 then (canon c cfg dek).cert else none) = (canon c cfg dek).cert := by
    simp only [canon]; cases c.has .Mbi_MixinCertBlockV1 <;> cases c.has .Mbi_MixinCertBlockV21 <;> rfl
  simp (disch := decide) only [parsedWith, any_parses, hz, hc]
  rw [← hman]
  simp only [preCanon, canon, ite_ite_self, Option.or_none]
  cases c.has .Mbi_MixinHwKey <;> cases c.manifestKind <;> rfl

/-- a family proves what one `mix_parse` call does; the order of the calls and their sum are the same for all -/
theorem mixParseAll_of_step_tz {env : Env} {c : Cls} {cfg : Cfg} {dek : Option Bytes} {e : Bytes} (T : TzCfg)
    (hT : c.hasTrustZone = false → T = .enabled)
    (hOrder : (parseOrder c).isSome = true) (hman : c.manifestKind.isSome = c.has .Mbi_MixinManifest)
    (step : ∀ m ∈ c.dataMixins, ∀ (p : Parsed) (done : Bool), mustWait c done m = false →
      (done = true → p.cert = (canon c cfg dek).cert) →
      mixParse env c dek e p m = .ok (parsedWith (provider m .mix_parse == some ·) { canon c cfg dek with tz := T } p)) :
    mixParseAll env c dek e = .ok { preCanon c cfg dek with tz := T } := by
  obtain ⟨order, ho⟩ := Option.isSome_iff_exists.1 hOrder
  obtain ⟨hperm, hvalid⟩ := parseOrder_spec ho
  simp only [mixParseAll, ho]
  rw [foldlM_mixParse (q := { canon c cfg dek with tz := T }) step order false {} hvalid (fun m hm => hperm.subset hm)
    (fun h => by cases h), foldl_parsedWith]
  simp only [hperm.any_eq]
  rw [parsedWith_canon_tz c cfg dek T hT hman]

theorem mixParseAll_of_step {env : Env} {c : Cls} {cfg : Cfg} {dek : Option Bytes} {e : Bytes}
    (hOrder : (parseOrder c).isSome = true) (hman : c.manifestKind.isSome = c.has .Mbi_MixinManifest)
    (step : ∀ m ∈ c.dataMixins, ∀ (p : Parsed) (done : Bool), mustWait c done m = false →
      (done = true → p.cert = (canon c cfg dek).cert) →
      mixParse env c dek e p m = .ok (parsedWith (provider m .mix_parse == some ·) (canon c cfg dek) p)) :
    mixParseAll env c dek e = .ok (preCanon c cfg dek) :=
  mixParseAll_of_step_tz (canon c cfg dek).tz (fun h => by simp only [canon, h]; rfl) hOrder hman step

/-! ### examples used for non-vacuity in Properties/C01.lean -/

def exampleCrcClass : Cls :=
  ⟨5, [.Mbi_MixinApp, .Mbi_MixinIvt, .Mbi_MixinLoadAddress, .Mbi_MixinTrustZoneMandatory, .Mbi_MixinImageSubType,
       .Mbi_ExportMixinAppTrustZone, .Mbi_ExportMixinCrcSign], 1100⟩

def exampleCrcCfg : Cfg :=
  { app := (List.range 61).map (fun i => UInt8.ofNat (i * 7 + 1)), loadAddress := 0x20001000, subType := 1,
    tz := .custom (List.replicate 1100 0xA5) }

def exampleSignedClass : Cls :=
  ⟨1, [.Mbi_MixinApp, .Mbi_MixinRelocTable, .Mbi_MixinLoadAddress, .Mbi_MixinIvt, .Mbi_MixinTrustZone, .Mbi_MixinCertBlockV1,
       .Mbi_MixinHmacMandatory, .Mbi_MixinKeyStore, .Mbi_MixinHwKey, .Mbi_ExportMixinAppTrustZoneCertBlock,
       .Mbi_ExportMixinRsaSign, .Mbi_ExportMixinHmacKeyStoreFinalize], 1140⟩

def exampleEncClass : Cls :=
  ⟨3, [.Mbi_MixinApp, .Mbi_MixinRelocTable, .Mbi_MixinLoadAddress, .Mbi_MixinIvt, .Mbi_MixinTrustZone, .Mbi_MixinCertBlockV1,
       .Mbi_MixinHwKey, .Mbi_MixinKeyStore, .Mbi_MixinHmacMandatory, .Mbi_MixinCtrInitVector,
       .Mbi_ExportMixinAppTrustZoneCertBlockEncrypt, .Mbi_ExportMixinRsaSign, .Mbi_ExportMixinHmacKeyStoreFinalize], 1140⟩

/-- a structurally valid (fake) v1 certificate block: header with one 4-byte "certificate" entry + RKH table = 164 bytes -/
def exampleCert : Bytes :=
  [0x63, 0x65, 0x72, 0x74, 1, 0, 0, 0] ++ le32 32 ++ zeros 16 ++ le32 4 ++ List.replicate 132 0x5A

def exampleSignedCfg : Cfg :=
  { app := (List.range 100).map (fun i => UInt8.ofNat (i * 3 + 2)), loadAddress := 0x1000, tz := .disabled, hwKey := true,
    keyStore := some (List.replicate 1424 0x33), hmacKey := some ((List.range 32).map UInt8.ofNat),
    reloc := some [⟨[1, 2, 3], 0x20001000⟩, ⟨[], 0x30000000⟩], cert := exampleCert, sigLen := 256 }

end SpsdkVerif.Mbi
