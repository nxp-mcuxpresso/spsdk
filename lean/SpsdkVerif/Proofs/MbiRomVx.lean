/-
C02 for the header-less "Vx" images (mc56f81xxx / mwct20x2): the independent ROM model `Spec.MbiRomVx.romVx`
(Spec/MbiRomVx.lean, own constants) accepts every image the Vx model (Model/MbiVx.lean, tied to /repo by the C01
correspondence stream `vx`) exports; what the ROM reads in a signed and in a CRC export, and that a changed byte of the signed
ranges changes the signed data, for the tamper reductions of Properties/C02.lean.
-/
import SpsdkVerif.Proofs.MbiVx
import SpsdkVerif.Proofs.MbiRomFlags
import SpsdkVerif.Spec.MbiRomVx
import SpsdkVerif.Crypto.Break

namespace SpsdkVerif.Mbi.Vx
open SpsdkVerif SpsdkVerif.Misc SpsdkVerif.Crypto SpsdkVerif.Mbi
open SpsdkVerif.Generated.IvtConsts

/-- the ROM side's name of the three Vx image kinds -/
def romKind : Kind → Spec.MbiRomVx.Kind
  | .plain => .plain
  | .crc => .crc
  | .signed => .signed

/-- the (opaque) ISK certificate block handed to the builder is an ISK certificate of the format (size, magic, version) and
    `cert_hash` is what the format stores: the first 16 bytes of its SHA-256 -/
def VxCertOK (co : CryptoOps) (cfg : Cfg) : Prop :=
  cfg.cert.length = Spec.MbiRomVx.iskCertSize
  ∧ Spec.MbiRom.rd16 cfg.cert 0 = Spec.MbiRomVx.iskMagic ∧ Spec.MbiRom.rd16 cfg.cert 2 = Spec.MbiRomVx.iskVersion
  ∧ (cfg.addHash = true → cfg.certHash = (co.hash .sha256 cfg.cert).take Spec.MbiRomVx.iskHashSize)

/-- what the ROM answers for an accepted signed image -/
def vxAccepted (rootPub img : Bytes) : Spec.MbiRom.Accepted :=
  { obligations := [.ecdsa rootPub (slice img 1040 1112) (slice img 1112 1176),
                    .ecdsa (slice img 1048 1112) (dataToSign img) (slice img 896 960)]
    authenticated := [(0, 1024), (1040, 1176), (1184, 1200), (3072, img.length)] }

theorem vxrom_signedData (img : Bytes) : Spec.MbiRomVx.signedData img = dataToSign img := rfl

theorem vxrom_need_ok {b : Bool} {w : String} (h : b = true) : Spec.MbiRom.need b w = .ok () := by
  simp [Spec.MbiRom.need, h]

theorem vxrom_dataToSign_length (img : Bytes) (h : 3072 ≤ img.length) : (dataToSign img).length = img.length - 2144 := by
  simp only [dataToSign, slice, vxImgDigestOffset, vxImgBcaOffset, vxImgSignedHeaderEnd, vxImgDataStart,
    List.length_append, List.length_take, List.length_drop]
  omega

/-- the acceptance conditions of the signed ROM check, read off the definition -/
theorem vxrom_signed_ok (co : CryptoOps) (env : Spec.MbiRomVx.VxEnv) (img : Bytes) (h1 : 3072 ≤ img.length)
    (h2 : rd32 img 992 = (dataToSign img).length) (h3 : slice img 864 896 = co.hash .sha256 (dataToSign img))
    (h4 : Spec.MbiRom.rd16 img 1040 = 0x4D43) (h5 : Spec.MbiRom.rd16 img 1042 = 1)
    (h6 : env.iskHash = true → slice img 1184 1200 = (co.hash .sha256 (slice img 1040 1176)).take 16) :
    Spec.MbiRomVx.romVxSigned co env img = .ok (vxAccepted env.rootPub img) := by
  unfold Spec.MbiRomVx.romVxSigned
  have e5 : (!env.iskHash) = true ∨
      (Spec.MbiRom.sub img Spec.MbiRomVx.iskHashOff (Spec.MbiRomVx.iskHashOff + Spec.MbiRomVx.iskHashSize)
        == (co.hash .sha256 (Spec.MbiRom.sub img Spec.MbiRomVx.iskOff (Spec.MbiRomVx.iskOff + Spec.MbiRomVx.iskCertSize))).take
              Spec.MbiRomVx.iskHashSize) = true := by
    cases hi : env.iskHash
    · exact .inl rfl
    · exact .inr (beq_iff_eq.2 (h6 hi))
  simp only [need_ok (decide_eq_true (show img.length ≥ Spec.MbiRomVx.dataStart from h1)),
    need_ok (beq_iff_eq.2 (show Spec.MbiRom.rd32 img (Spec.MbiRomVx.bcaOff + Spec.MbiRomVx.bcaImageLength)
      = (Spec.MbiRomVx.signedData img).length from h2)),
    need_ok (beq_iff_eq.2 (show Spec.MbiRom.sub img Spec.MbiRomVx.digestOff Spec.MbiRomVx.sigOff
      = co.hash .sha256 (Spec.MbiRomVx.signedData img) from h3)),
    need_ok (decide_eq_true (show (Spec.MbiRom.rd16 img Spec.MbiRomVx.iskOff == Spec.MbiRomVx.iskMagic) = true
      ∧ (Spec.MbiRom.rd16 img (Spec.MbiRomVx.iskOff + 2) == Spec.MbiRomVx.iskVersion) = true from
        ⟨beq_iff_eq.2 h4, beq_iff_eq.2 h5⟩)),
    need_ok (decide_eq_true e5), bind, Except.bind]
  rfl

/-- ... and the converse: what an accepted signed image looks like -/
theorem vxrom_signed_inv (co : CryptoOps) (env : Spec.MbiRomVx.VxEnv) (img : Bytes) (a : Spec.MbiRom.Accepted)
    (h : Spec.MbiRomVx.romVxSigned co env img = .ok a) :
    3072 ≤ img.length ∧ rd32 img 992 = (dataToSign img).length
      ∧ slice img 864 896 = co.hash .sha256 (dataToSign img) ∧ a = vxAccepted env.rootPub img := by
  unfold Spec.MbiRomVx.romVxSigned at h
  simp only [need_bind_ok, pure, Except.pure, Except.ok.injEq] at h
  obtain ⟨h1, h2, h3, _, _, rfl⟩ := h
  exact ⟨by simpa [Spec.MbiRomVx.dataStart] using h1, beq_iff_eq.mp h2, beq_iff_eq.mp h3, rfl⟩

/-- the signed export as the ROM reads it (offsets as numbers: the ROM spec has its own) -/
structure VxSigned (co : CryptoOps) (cfg : Cfg) (signer : Signer) (e : Bytes) : Prop where
  len : 3072 ≤ e.length
  bca : rd32 e 992 = (dataToSign e).length
  digest : slice e 864 896 = co.hash .sha256 (dataToSign e)
  sig : slice e 896 960 = signer (dataToSign e)
  cert : slice e 1040 (1040 + cfg.cert.length) = cfg.cert
  hash : cfg.addHash = true → slice e 1184 1200 = cfg.certHash

theorem vx_signed_facts (co : CryptoOps) (cfg : Cfg) (signer : Signer) (hw : cfgWF .signed cfg = true)
    (hj : cfg.justHeader = false) (hs : ∀ m, (signer m).length = vxImgBcaOffset - vxImgSignatureOffset)
    (hh : ∀ m, (co.hash .sha256 m).length = vxImgDigestSize) :
    ∃ e, exportImage co .signed cfg signer = .ok e ∧ VxSigned co cfg signer e := by
  obtain ⟨e, hE, d1, _, d3, d4, d5, d6⟩ := vx_signed_describes co cfg signer hw hj hs hh
  obtain ⟨e', hE', l1, _⟩ := vx_export_frame co .signed cfg signer hw hs hh
  obtain rfl : e' = e := Except.ok.inj (hE'.symm.trans hE)
  have hlen : 3072 ≤ e'.length := by
    rw [l1, hj, if_neg Bool.false_ne_true]; exact (vxCfg .signed cfg hw).hn
  refine ⟨e', hE, hlen, ?_, d3, d4, d5, d6⟩
  rw [vxrom_dataToSign_length e' hlen]
  simp only [vxImgBcaImageLengthOffset, vxImgDataStart, vxImgDigestOffset, vxImgFcfOffset, vxImgBcaOffset] at d1
  omega

/-- the CRC export as the ROM reads it: the three BCA words describe the whole data part -/
theorem vx_crc_rom_facts (co : CryptoOps) (cfg : Cfg) (signer : Signer) (hw : cfgWF .crc cfg = true) :
    ∃ e, exportImage co .crc cfg signer = .ok e ∧ 3072 ≤ e.length ∧ rd32 e 964 = 3072
      ∧ rd32 e 968 = e.length - 3072 ∧ rd32 e 972 = crc32m (e.drop 3072) := by
  obtain ⟨e, hE, w1, w2, w3⟩ := vx_crc_describes co cfg signer hw
  have h := vxCfg .crc cfg hw
  -- the emitted length (the signature provider plays no role for CRC images)
  have hlen : 3072 ≤ e.length := by
    have hrl := vx_raw_length h
    rw [(h.hns (by decide)).2.2, if_neg Bool.false_ne_true] at hrl
    obtain rfl : crcSignBca (vxRaw .crc cfg) = e := Except.ok.inj ((vx_export_crc co h signer).symm.trans hE)
    rw [(vx_crc_facts (vxRaw .crc cfg) (by rw [hrl]; exact h.hn)).1, hrl]
    exact h.hn
  exact ⟨e, hE, hlen, w1, w2.trans List.length_drop, w3⟩

theorem vxrom_rd16_of_slice (img c : Bytes) (a n off : Nat) (h : slice img a (a + n) = c) (ho : off + 2 ≤ n) :
    Spec.MbiRom.rd16 img (a + off) = Spec.MbiRom.rd16 c off := by
  have := vx_slice_slice img c a (a + n) off (off + 2) h (by omega)
  unfold Spec.MbiRom.rd16
  have e1 : (img.drop (a + off)).take 2 = slice img (a + off) (a + (off + 2)) := by
    unfold slice
    rw [List.take_drop]
    congr 2
    all_goals omega
  have e2 : (c.drop off).take 2 = slice c off (off + 2) := by
    unfold slice
    rw [List.take_drop]
  rw [e1, e2, this]

/-- signed Vx images pass the ROM checks; what is left are exactly the two signature obligations root key → ISK certificate
    and ISK key → image, the latter over `dataToSign e` with the signature the provider returned -/
theorem vx_rom_accepts_signed (co : CryptoOps) (cfg : Cfg) (signer : Signer) (hw : cfgWF .signed cfg = true)
    (hj : cfg.justHeader = false) (hs : ∀ m, (signer m).length = vxImgBcaOffset - vxImgSignatureOffset)
    (hh : ∀ m, (co.hash .sha256 m).length = vxImgDigestSize) (hc : VxCertOK co cfg) (rootPub : Bytes) :
    ∃ e a, exportImage co .signed cfg signer = .ok e
      ∧ Spec.MbiRomVx.romVx co ⟨rootPub, cfg.addHash⟩ .signed e = .ok a
      ∧ a.obligations = [.ecdsa rootPub (cfg.cert.take 72) (cfg.cert.drop 72),
                         .ecdsa (slice cfg.cert 8 72) (dataToSign e) (signer (dataToSign e))] := by
  obtain ⟨e, hE, S⟩ := vx_signed_facts co cfg signer hw hj hs hh
  obtain ⟨c1, c2, c3, c4⟩ := hc
  have hcert : slice e 1040 (1040 + 136) = cfg.cert := by have := S.cert; rwa [c1] at this
  refine ⟨e, vxAccepted rootPub e, hE, ?_, ?_⟩
  · refine vxrom_signed_ok co ⟨rootPub, cfg.addHash⟩ e S.len S.bca S.digest ?_ ?_ ?_
    · exact (vxrom_rd16_of_slice e cfg.cert 1040 136 0 hcert (by decide)).trans c2
    · exact (vxrom_rd16_of_slice e cfg.cert 1040 136 2 hcert (by decide)).trans c3
    · intro ha
      rw [show slice e 1040 1176 = cfg.cert from hcert, S.hash ha, c4 ha]; rfl
  · show [_, _] = [_, _]
    have hl : cfg.cert.length = 136 := c1
    have t1 : slice e 1040 1112 = cfg.cert.take 72 :=
      (vx_slice_slice e cfg.cert 1040 1176 0 72 hcert (by decide)).trans List.drop_zero
    have t2 : slice e 1112 1176 = cfg.cert.drop 72 :=
      (vx_slice_slice e cfg.cert 1040 1176 72 136 hcert (by decide)).trans
        (by unfold slice; rw [List.take_of_length_le (by omega)])
    rw [t1, t2, show slice e 1048 1112 = _ from vx_slice_slice e cfg.cert 1040 1176 8 72 hcert (by decide), S.sig]

/-- CRC Vx images pass the ROM's CRC check, which insists that the protected range is the whole data part -/
theorem vx_rom_accepts_crc (co : CryptoOps) (env : Spec.MbiRomVx.VxEnv) (cfg : Cfg) (signer : Signer)
    (hw : cfgWF .crc cfg = true) :
    ∃ e a, exportImage co .crc cfg signer = .ok e ∧ Spec.MbiRomVx.romVx co env .crc e = .ok a
      ∧ a.authenticated = [(964, 976), (3072, e.length)] := by
  obtain ⟨e, hE, hlen, w1, w2, w3⟩ := vx_crc_rom_facts co cfg signer hw
  refine ⟨e, { authenticated := [(964, 976), (3072, e.length)] }, hE, ?_, rfl⟩
  show Spec.MbiRomVx.romVxCrc e = _
  have r1 : Spec.MbiRom.rd32 e (Spec.MbiRomVx.bcaOff + Spec.MbiRomVx.bcaCrcStart) = Spec.MbiRomVx.dataStart := w1
  have r2 : Spec.MbiRom.rd32 e (Spec.MbiRomVx.bcaOff + Spec.MbiRomVx.bcaCrcCount) = e.length - Spec.MbiRomVx.dataStart := w2
  have r3 : Spec.MbiRom.rd32 e (Spec.MbiRomVx.bcaOff + Spec.MbiRomVx.bcaCrcValue)
      = Crc.crc Spec.MbiRom.crcParams (Spec.MbiRom.sub e Spec.MbiRomVx.dataStart e.length) := by
    unfold Spec.MbiRom.sub
    rw [List.take_of_length_le (Nat.le_refl _)]; exact w3
  have hadd : Spec.MbiRomVx.dataStart + (e.length - Spec.MbiRomVx.dataStart) = e.length := Nat.add_sub_cancel' hlen
  unfold Spec.MbiRomVx.romVxCrc
  simp only [r1, r2, hadd, r3, need_ok (decide_eq_true (show e.length ≥ Spec.MbiRomVx.dataStart from hlen)),
    beq_self_eq_true, and_self, decide_true, need_ok, bind, Except.bind]
  rfl

/-- plain Vx images: nothing to authenticate -/
theorem vx_rom_accepts_plain (co : CryptoOps) (env : Spec.MbiRomVx.VxEnv) (cfg : Cfg) (signer : Signer)
    (hw : cfgWF .plain cfg = true) :
    ∃ e a, exportImage co .plain cfg signer = .ok e ∧ Spec.MbiRomVx.romVx co env .plain e = .ok a := by
  have h := vxCfg .plain cfg hw
  have hrl := vx_raw_length h
  rw [(h.hns (by decide)).2.2, if_neg Bool.false_ne_true] at hrl
  refine ⟨_, {}, vx_export_plain co h signer, ?_⟩
  show (Spec.MbiRom.need _ _ >>= fun _ => pure ({} : Spec.MbiRom.Accepted)) = _
  rw [need_ok (decide_eq_true (show (vxRaw .plain cfg).length ≥ Spec.MbiRomVx.dataStart from hrl ▸ h.hn))]
  rfl

/-- position `i` lies in what digest and signature cover -/
def vxSignedPos (i : Nat) : Prop := i < 864 ∨ (960 ≤ i ∧ i < 1024) ∨ 3072 ≤ i

/-- a changed byte inside the signed ranges changes the signed data -/
theorem vxrom_dataToSign_set (l : Bytes) (i : Nat) (y : UInt8) (hi : i < l.length) (hne : l[i]? ≠ some y)
    (hp : vxSignedPos i) : dataToSign l ≠ dataToSign (l.set i y) := by
  intro he
  simp only [dataToSign, slice, vxImgDigestOffset, vxImgBcaOffset, vxImgSignedHeaderEnd, vxImgDataStart] at he
  have hy : (l.set i y)[i]? = some y := List.getElem?_set_self hi
  have lA : (l.take 864).length = ((l.set i y).take 864).length := by simp
  have lB : ((l.take 1024).drop 960).length = (((l.set i y).take 1024).drop 960).length := by simp
  have h12 := List.append_inj he (by simp only [List.length_append]; rw [lA, lB])
  have h1 := List.append_inj h12.1 lA
  -- the piece that holds position `i` differs there
  rcases hp with hp | hp | hp
  · have := congrArg (fun z => z[i]?) h1.1
    simp only [List.getElem?_take, if_pos hp, hy] at this
    exact hne this
  · have := congrArg (fun z => z[i - 960]?) h1.2
    simp only [List.getElem?_drop, List.getElem?_take, show 960 + (i - 960) = i by omega, if_pos hp.2, hy] at this
    exact hne this
  · have := congrArg (fun z => z[i - 3072]?) h12.2
    simp only [List.getElem?_drop, show 3072 + (i - 3072) = i by omega, hy] at this
    exact hne this

end SpsdkVerif.Mbi.Vx
