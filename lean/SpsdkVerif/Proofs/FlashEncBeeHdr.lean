/-
C13 — BEE region header: `BeeRegionHeader.export()` (EKIB = AES-ECB(sw_key, KIB), EPRDB = AES-CBC(kib_key, kib_iv, PRDB))
parses back on the ROM side to the engine configuration (SW key, counter, FAC regions).
-/
import SpsdkVerif.Proofs.FlashEncCommon

namespace SpsdkVerif.FlashEnc
open SpsdkVerif SpsdkVerif.Crypto
open SpsdkVerif.Misc (beEnc beDec leEnc leDec leEnc_length leDec_leEnc)
open SpsdkVerif.Generated.FlashEncConsts

variable {c : CryptoOps}

theorem beehdr_facBytes_length (f : Fac) (l : Nat) : (BeeHdr.facBytes f l).length = 32 := by
  simp [BeeHdr.facBytes, leEnc_length]

theorem beehdr_facsBytes_length : ∀ (fs : List Fac) (ls : List Nat), (BeeHdr.facsBytes fs ls).length = 32 * fs.length
  | [], _ => rfl
  | f :: fs, ls => by
    simp only [BeeHdr.facsBytes, List.length_append, beehdr_facBytes_length, beehdr_facsBytes_length fs, List.length_cons]
    omega

theorem beehdr_facsOk : ∀ (fs : List Fac) (ls : List Nat), (∀ l ∈ ls, l ≤ 3) →
    (∀ f ∈ fs, f.start % 1024 = 0 ∧ 0 < f.length ∧ f.start + f.length ≤ 0xFFFFFFFF) → BeeHdr.facsOk fs ls = true
  | [], _, _, _ => rfl
  | f :: fs, ls, hls, hfs => by
    have hf := hfs f List.mem_cons_self
    have hl : ls.headD 0 ≤ 3 := by
      cases ls with
      | nil => simp
      | cons l t => exact hls l List.mem_cons_self
    have htl : ∀ l ∈ ls.tail, l ≤ 3 := fun l hl => hls l (List.mem_of_mem_tail hl)
    have ih := beehdr_facsOk fs ls.tail htl (fun x hx => hfs x (List.mem_cons_of_mem _ hx))
    simp only [BeeHdr.facsOk, ih, Bool.and_true, BeeHdr.facOk, Fac.end_, beeEncrBlockSize]
    generalize ls.headD 0 = l0 at hl
    simp [hf.1, hf.2.1, hf.2.2, hl]

theorem beehdr_parseFacs : ∀ (fs : List Fac) (ls : List Nat) (tail : Bytes), (∀ f ∈ fs, f.start + f.length < 2 ^ 32) →
    beeParseFacs fs.length (BeeHdr.facsBytes fs ls ++ tail) = fs
  | [], _, _, _ => rfl
  | f :: fs, ls, tail, hfs => by
    have hf := hfs f List.mem_cons_self
    have hp : (256 : Nat) ^ 4 = 2 ^ 32 := by decide
    have ih := beehdr_parseFacs fs ls.tail tail (fun x hx => hfs x (List.mem_cons_of_mem _ hx))
    have hl := beehdr_facBytes_length f (ls.headD 0)
    simp only [List.length_cons, beeParseFacs, BeeHdr.facsBytes, List.append_assoc]
    rw [List.drop_left' hl, ih]
    have e1 : (BeeHdr.facBytes f (ls.headD 0) ++ (BeeHdr.facsBytes fs ls.tail ++ tail)).take 4 = leEnc 4 f.start := by
      simp [BeeHdr.facBytes, leEnc_length]
    have e2 : ((BeeHdr.facBytes f (ls.headD 0) ++ (BeeHdr.facsBytes fs ls.tail ++ tail)).drop 4).take 4 = leEnc 4 f.end_ := by
      simp [BeeHdr.facBytes, leEnc_length]
    rw [e1, e2, leDec_leEnc _ _ (by omega), leDec_leEnc _ _ (by unfold Fac.end_; omega)]
    cases f with
    | mk s l => simp [Fac.end_]

/-- the ten fixed fields at the head of the plain PRDB -/
def beehdr_fields (h : BeeHdr) : List Bytes :=
  [leEnc 4 beeTagL, leEnc 4 beeTagH, leEnc 4 beeVersion, leEnc 4 h.engine.facs.length, leEnc 4 h.engine.envStart,
    leEnc 4 h.engine.envEnd, leEnc 4 beeModeCtr, leEnc 4 h.lockOptions, h.engine.counter.reverse, zeros 32]

theorem beehdr_prdb_length (h : BeeHdr) (hw : h.WF) : h.prdbPlain.length = 256 := by
  have := hw.nfac
  have := hw.eng.ctr_len
  simp only [BeeHdr.prdbPlain, zeroPadTo, beePrdbSize, List.length_append, leEnc_length, zeros_length,
    List.length_reverse, beehdr_facsBytes_length]
  omega

/-- the exported 0x200-byte header decrypts (SW key → KIB → PRDB) and parses to the configured engine -/
theorem bee_header_unwraps (hl : CryptoLaws c) (h : BeeHdr) (hw : h.WF) :
    ∃ b, h.export c = .ok b ∧ b.length = 512 ∧ beeHeaderUnwrap c h.engine.key b = some h.engine := by
  have hkk := hw.kib_key
  have hki := hw.kib_iv
  have hKl : (h.kibKey ++ h.kibIv).length = 32 := by simp [hkk, hki]
  have hE : (ecbEnc c h.engine.key (h.kibKey ++ h.kibIv)).length = 32 := by rw [ecbEnc_length hl, hKl]
  have hP := beehdr_prdb_length h hw
  have hC : (cbcEnc c h.kibKey h.kibIv h.prdbPlain).length = 256 := by rw [cbcEnc_length hl, hP]
  generalize hEK : ecbEnc c h.engine.key (h.kibKey ++ h.kibIv) = EK at hE
  generalize hEP : cbcEnc c h.kibKey h.kibIv h.prdbPlain = EP at hC
  have hfacs : ∀ f ∈ h.engine.facs, f.start % 1024 = 0 ∧ 0 < f.length ∧ f.start + f.length ≤ 0xFFFFFFFF :=
    fun f hf => ⟨(hw.eng.facs f hf).1, (hw.eng.facs f hf).2.2.1, hw.fac_end f hf⟩
  refine ⟨zeroPadTo 512 (zeroPadTo 128 EK ++ EP), ?_, ?_, ?_⟩
  · unfold BeeHdr.export
    have g1 : ¬ (h.kibKey.length ≠ 16 ∨ h.kibIv.length ≠ 16) := by omega
    have g2 : ¬ h.engine.counter.length ≠ 16 := by have := hw.eng.ctr_len; omega
    have g3 : ¬ h.engine.counter.drop 12 ≠ [0, 0, 0, 0] := by simp [hw.eng.ctr_low]
    have g4 : ¬ (h.engine.facs.length = 0 ∨ h.engine.facs.length > beeFacRegions) := by
      have := hw.nfac; simp only [beeFacRegions]; omega
    have g5 : (!BeeHdr.facsOk h.engine.facs h.levels) = false := by
      rw [beehdr_facsOk _ _ hw.levels hfacs]; rfl
    have g6 : ¬ h.engine.key.length ≠ 16 := by have := hw.eng.key_len; omega
    have g7 : ¬ h.lockOptions ≥ 2 ^ 32 := by have := hw.lock; omega
    simp only [g1, g2, g3, g4, g5, g6, g7, if_false, Bool.false_eq_true, hEK, hEP, beeHdrSize, beeHdrPrdbOffset]
  · simp [zeroPadTo, hE, hC]
  · have hlen : (zeroPadTo 512 (zeroPadTo 128 EK ++ EP)).length = 512 := by simp [zeroPadTo, hE, hC]
    have hz : (zeroPadTo 128 EK).length = 128 := by simp [zeroPadTo, hE]
    have t1 : (zeroPadTo 512 (zeroPadTo 128 EK ++ EP)).take 32 = EK := by
      unfold zeroPadTo
      rw [List.append_assoc, List.append_assoc]
      exact List.take_left' hE
    have t2 : ((zeroPadTo 512 (zeroPadTo 128 EK ++ EP)).drop 0x80).take 0x100 = EP := by
      rw [zeroPadTo, List.append_assoc, List.drop_left' hz]
      exact List.take_left' hC
    have hkib : ecbDec c h.engine.key EK = h.kibKey ++ h.kibIv := by
      rw [← hEK]; exact ecb_inv hl _ _ (by omega)
    have hp : cbcDec c h.kibKey h.kibIv EP = h.prdbPlain := by
      rw [← hEP]; exact cbc_inv hl _ _ _ hki (by omega)
    unfold beeHeaderUnwrap
    simp only [t1, t2, hkib, List.take_left' hkk, List.drop_left' hkk, hp, hlen]
    have hn4 : h.engine.facs.length < 256 ^ 4 := by have := hw.nfac; omega
    have hcl : h.engine.counter.reverse.length = 16 := by rw [List.length_reverse, hw.eng.ctr_len]
    -- the PRDB is the ten fixed fields `export` packed, then the FAC regions, then padding
    obtain ⟨pad, hpp⟩ : ∃ pad, h.prdbPlain = (beehdr_fields h).flatten ++ (BeeHdr.facsBytes h.engine.facs h.levels ++ pad) :=
      ⟨_, by simp only [BeeHdr.prdbPlain, zeroPadTo, beehdr_fields, List.flatten_cons, List.flatten_nil, List.append_nil,
        List.append_assoc]; rfl⟩
    have hcut := cutFields_flatten (beehdr_fields h) (BeeHdr.facsBytes h.engine.facs h.levels ++ pad)
    have hdrop : h.prdbPlain.drop 80 = BeeHdr.facsBytes h.engine.facs h.levels ++ pad := by
      rw [hpp]; exact List.drop_left' (by simp [beehdr_fields, leEnc_length, hcl])
    rw [← hpp] at hcut
    simp only [beehdr_fields, List.map, leEnc_length, hcl, zeros_length, cutFields, List.drop_drop, List.cons.injEq,
      and_true] at hcut
    obtain ⟨f1, f2, f3, f4, -, -, f7, -, f9, -⟩ := hcut
    rw [f1, f2, f3, f4, f7, f9, hdrop, leDec_leEnc _ _ (by decide), leDec_leEnc _ _ (by decide),
      leDec_leEnc _ _ (by decide), leDec_leEnc _ _ (by decide), leDec_leEnc _ _ hn4, List.reverse_reverse,
      beehdr_parseFacs _ _ _ (fun f hf => by have := hw.fac_end f hf; omega)]
    simp [beeTagL, beeTagH, beeVersion, beeModeCtr]

end SpsdkVerif.FlashEnc
