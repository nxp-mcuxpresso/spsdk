/- Proofs about the lexer model (C19), part 2: every piece of concrete syntax (`CTok`), followed by a blank, makes the lexer deliver
exactly the tokens the piece denotes (`Step`); hence `lex (renderC cts) = tokensC cts` for every list of pieces, and the canonical
text of a token list (`render`) as the special case of canonical pieces. -/
import SpsdkVerif.Proofs.BdLex
open SpsdkVerif SpsdkVerif.Bd SpsdkVerif.Generated

namespace SpsdkVerif.Bd

/-- wherever `chars` is followed by a blank, the lexer (standing at the start of the text or after a blank) delivers `toks`
    and stands before that blank, having used at most one unit of fuel per character -/
def Step (srcs : List String) (chars : List Char) (toks : List Tok) : Prop :=
  ∃ k, 1 ≤ k ∧ k ≤ chars.length ∧
    ∀ (f : Nat) (rest : List Char) (p1 p2 : Option Char) (acc : List Tok), (p1 = none ∨ p1 = some ' ') →
      ∃ q1 q2, lexAux srcs (f + k) (chars ++ ' ' :: rest) p1 p2 acc = lexAux srcs f (' ' :: rest) q1 q2 (toks.reverse ++ acc)

theorem step_word (srcs : List String) (w : String) (hw : isWordS w = true) : Step srcs w.toList [wordTok srcs w] := by
  unfold isWordS at hw
  cases hx : w.toList with
  | nil => simp [hx] at hw
  | cons c0 cs =>
    simp only [hx, Bool.and_eq_true] at hw
    refine ⟨1, Nat.le_refl 1, by simp, fun f rest p1 p2 acc hp1 => ?_⟩
    obtain ⟨q2, h⟩ := lex_word_step srcs f c0 cs ' ' rest p1 p2 acc hw.1 hw.2 hp1 rfl
    rw [← hx, String.ofList_toList] at h
    exact ⟨_, q2, by rw [← hx]; exact h⟩

theorem step_numlit (srcs : List String) (n : Nat) (d0 : Char) (dt : List Char) (hd0 : d0.isDigit = true)
    (hnum : ∀ rest, lexNumber ((d0 :: dt) ++ ' ' :: rest) = some (.ok n, ' ' :: rest)) : Step srcs (d0 :: dt) [.num n] :=
  ⟨1, Nat.le_refl 1, by simp, fun f rest p1 p2 acc hp1 =>
    let ⟨q2, h⟩ := lex_numlit_step srcs f n d0 dt ' ' rest p1 p2 acc hd0 hp1 (hnum rest)
    ⟨_, q2, h⟩⟩

theorem step_dec (srcs : List String) (ds : List Char) (h : decOk ds = true) : Step srcs ds [.num (decVal ds)] := by
  obtain ⟨hne, hall, _⟩ := decOk_parts h
  match ds, hne with
  | d0 :: dt, _ =>
    exact step_numlit srcs _ d0 dt (by simp at hall; exact hall.1) (fun rest => (lexNumber_dec h rest).1 ' ' rfl)

theorem step_kilo (srcs : List String) (ds : List Char) (h : decOk ds = true) :
    Step srcs (ds ++ ['K']) [.num (decVal ds * 1024)] := by
  obtain ⟨hne, hall, _⟩ := decOk_parts h
  match ds, hne with
  | d0 :: dt, _ =>
    refine step_numlit srcs _ d0 (dt ++ ['K']) (by simp at hall; exact hall.1) (fun rest => ?_)
    simpa using (lexNumber_dec h rest).2

theorem lexNumber_hex (u : Bool) (ds : List Char) (rest : List Char) (hne : ds ≠ []) (hall : ds.all isHexDigit = true) :
    lexNumber ('0' :: (if u then 'X' else 'x') :: ds ++ ' ' :: rest) = some (.ok (hexVal ds), ' ' :: rest) := by
  obtain ⟨ht, hd⟩ := takeWhile_append_stop ds ' ' rest hall (by decide)
  have hemp : ds.isEmpty = false := by cases ds with | nil => exact absurd rfl hne | cons _ _ => rfl
  -- the decimal alternative reads `0` and fails at the letter; the second alternative takes the hexadecimal digits
  cases u <;> simp [lexNumber, List.dropWhile, isIdChar, ht, hd, hemp]

theorem step_hex (srcs : List String) (u : Bool) (ds : List Char) (hne : ds ≠ []) (hall : ds.all isHexDigit = true) :
    Step srcs ('0' :: (if u then 'X' else 'x') :: ds) [.num (hexVal ds)] :=
  step_numlit srcs _ '0' _ (by decide) (fun rest => by simpa using lexNumber_hex u ds rest hne hall)

/-- closed check for a fixed-spelling token: no earlier rule applies to `text␣`, the table search finds the whole text, and the token
    it makes is `punctTok name` (for `@`: the search fails and the character is a literal of the lexer) -/
def punctOk (name : String) : Bool :=
  match punctChars name with
  | [c] =>
    punctStart c ' ' && (match matchSimple [c, ' '] with
      | some (n, len) => len == 1 && simpleTok n == punctTok name
      | none => BdGrammar.literals.contains (String.singleton c) && punctTok name == .other (String.singleton c))
  | [c, c2] =>
    punctStart c c2 && (match matchSimple [c, c2, ' '] with
      | some (n, len) => len == 2 && simpleTok n == punctTok name
      | none => false)
  | _ => false

theorem punct_table : punctNames.all punctOk = true := by decide +kernel

theorem step_of_punctOk (srcs : List String) (name : String) (h : punctOk name = true) : Step srcs (punctChars name) [punctTok name] := by
  unfold punctOk at h
  split at h
  · next c hc =>
    rw [hc]
    refine ⟨1, Nat.le_refl 1, Nat.le_refl 1, fun f rest p1 p2 acc _ => ?_⟩
    simp only [Bool.and_eq_true] at h
    rw [List.singleton_append, lexAux_table srcs f rest p1 p2 acc h.1, show c :: ' ' :: rest = [c, ' '] ++ rest from rfl,
      matchSimple_local [c, ' '] rest (Nat.le_refl 2)]
    have h2 := h.2
    split at h2
    · next n len hm =>
      simp only [Bool.and_eq_true, beq_iff_eq] at h2
      simp only [hm, h2.1, h2.2]
      exact ⟨_, _, rfl⟩
    · next hm =>
      simp only [Bool.and_eq_true, beq_iff_eq] at h2
      simp only [hm, if_pos h2.1, h2.2]
      exact ⟨_, _, rfl⟩
  · next c c2 hc =>
    rw [hc]
    refine ⟨1, Nat.le_refl 1, Nat.le_add_left 1 1, fun f rest p1 p2 acc _ => ?_⟩
    simp only [Bool.and_eq_true] at h
    rw [show [c, c2] ++ ' ' :: rest = c :: c2 :: ' ' :: rest from rfl, lexAux_table srcs f _ p1 p2 acc h.1,
      show c :: c2 :: ' ' :: rest = [c, c2, ' '] ++ rest from rfl, matchSimple_local [c, c2, ' '] rest (Nat.le_add_left 2 1)]
    have h2 := h.2
    split at h2
    · next n len hm =>
      simp only [Bool.and_eq_true, beq_iff_eq] at h2
      simp only [hm, h2.1, h2.2]
      exact ⟨_, _, rfl⟩
    · cases h2
  · cases h

theorem step_punct (srcs : List String) (name : String) (h : punctNames.contains name = true) :
    Step srcs (punctChars name) [punctTok name] :=
  step_of_punctOk srcs name (List.all_eq_true.mp punct_table name (by simpa using h))

theorem step_lineComment (srcs : List String) (hash : Bool) (body : List Char) (hb : body.all (· != '\n') = true) :
    Step srcs ((if hash then ['#'] else ['/', '/']) ++ body ++ ['\n']) [] := by
  -- `c0 :: tl` is the comment sign
  have key : ∀ (c0 : Char) (tl : List Char), isWs c0 = false → (∀ cs, isLineComment c0 (tl ++ cs) = true) →
      (c0 :: tl).all (· != '\n') = true → Step srcs ((c0 :: tl) ++ body ++ ['\n']) [] := by
    intro c0 tl hw hl hpre
    refine ⟨2, by omega, by simp; omega, fun f rest p1 p2 acc _ => ?_⟩
    have hall : (c0 :: (tl ++ body)).all (· != '\n') = true := by
      simp only [List.all_cons, List.all_append, Bool.and_eq_true] at hpre ⊢; exact ⟨hpre.1, hpre.2, hb⟩
    obtain ⟨ht, _⟩ := takeWhile_append_stop (c0 :: (tl ++ body)) '\n' (' ' :: rest) hall (by decide)
    have hdrop : List.drop (c0 :: (tl ++ body)).length (c0 :: (tl ++ body) ++ '\n' :: ' ' :: rest) = '\n' :: ' ' :: rest :=
      List.drop_left' rfl
    refine ⟨some '\n', (prevAfter (c0 :: (tl ++ body)) p1 p2).1, ?_⟩
    have e : (c0 :: tl) ++ body ++ ['\n'] ++ ' ' :: rest = c0 :: (tl ++ (body ++ '\n' :: ' ' :: rest)) := by simp
    have e' : c0 :: (tl ++ body) ++ '\n' :: ' ' :: rest = c0 :: (tl ++ (body ++ '\n' :: ' ' :: rest)) := by simp
    rw [e'] at ht hdrop
    rw [e, show f + 2 = f + 1 + 1 from rfl]
    simp only [lexAux, hw, hl, ht, hdrop, if_true, Bool.false_eq_true, if_false]
    simp [isWs]
  cases hash
  · exact key '/' ['/'] (by decide) (fun cs => by simp [isLineComment]) (by decide)
  · exact key '#' [] (by decide) (fun cs => by simp [isLineComment]) (by decide)

theorem step_secname (srcs : List String) (body : List Char) (hne : body ≠ []) (hb : body.all isSectionNameChar = true) :
    Step srcs ('$' :: body) [.secname (String.ofList ('$' :: body))] := by
  match body, hne with
  | b :: bs, _ =>
    refine ⟨1, Nat.le_refl 1, by simp, fun f rest p1 p2 acc _ => ?_⟩
    obtain ⟨ht, _⟩ := takeWhile_append_stop (b :: bs) ' ' rest hb (by decide)
    have hb0 : isSectionNameChar b = true := by simp at hb; exact hb.1
    refine ⟨(prevAfter ('$' :: b :: bs) p1 p2).1, (prevAfter ('$' :: b :: bs) p1 p2).2, ?_⟩
    simp only [List.cons_append] at ht ⊢
    simp [lexAux, isWs, isLineComment, isBlockComment, isSizeAt, isIdStart, ht, hb0]

theorem firstIdx_quote (q : Char) : ∀ (body l : List Char), body.all (· != q) = true →
    ((List.range (body ++ q :: l).length).filter (fun i => (body ++ q :: l)[i]? == some q)).head? = some body.length := by
  intro body
  induction body with
  | nil => intro l _; simp [List.range_succ_eq_map]
  | cons b bs ih =>
    intro l hb
    simp only [List.all_cons, Bool.and_eq_true, bne_iff_ne, ne_eq] at hb
    have hbq : (some b == some q) = false := by simpa using hb.1
    have := ih l hb.2
    simp only [List.cons_append, List.length_cons, List.range_succ_eq_map, List.filter_cons, List.getElem?_cons_zero, hbq,
      Bool.false_eq_true, if_false, List.filter_map, List.head?_map]
    have hf : ((fun i => (b :: (bs ++ q :: l))[i]? == some q) ∘ Nat.succ) = (fun i => (bs ++ q :: l)[i]? == some q) := by
      funext i; simp
    rw [hf, this]
    rfl

theorem quoted_first (q : Char) (body rest : List Char) (hq : (q != '\n') = true) (hb : body.all (fun c => c != q && c != '\n') = true) :
    quoted q false (body ++ q :: rest) = some (body, rest) := by
  simp only [List.all_eq_true, Bool.and_eq_true] at hb
  have hb1 : body.all (· != q) = true := List.all_eq_true.mpr fun c hc => (hb c hc).1
  have hb2 : ∀ c ∈ body ++ [q], (c != '\n') = true := by
    intro c hc
    rcases List.mem_append.mp hc with h | h
    · exact (hb c h).2
    · rw [List.mem_singleton.mp h]; exact hq
  obtain ⟨l, hl⟩ : ∃ l, (body ++ q :: rest).takeWhile (· != '\n') = body ++ q :: l :=
    ⟨rest.takeWhile (· != '\n'), by
      rw [show body ++ q :: rest = (body ++ [q]) ++ rest by simp, List.takeWhile_append_of_pos hb2]; simp⟩
  simp only [quoted, hl, Bool.false_eq_true, if_false, firstIdx_quote q body l hb1]
  simp

theorem step_chr (srcs : List String) (body : List Char) (hne : body ≠ []) (hb : body.all (fun c => c != '\'' && c != '\n') = true) :
    Step srcs ('\'' :: body ++ ['\'']) [.num (charLitVal body)] := by
  refine ⟨1, Nat.le_refl 1, by simp, fun f rest p1 p2 acc _ => ?_⟩
  have hq := quoted_first '\'' body (' ' :: rest) (by decide) hb
  have hng : nonGreedyChars = true := by decide
  have hemp : body.isEmpty = false := by cases body with | nil => exact absurd rfl hne | cons _ _ => rfl
  refine ⟨(prevAfter ('\'' :: body ++ ['\'']) p1 p2).1, (prevAfter ('\'' :: body ++ ['\'']) p1 p2).2, ?_⟩
  rw [show '\'' :: body ++ ['\''] ++ ' ' :: rest = '\'' :: (body ++ '\'' :: ' ' :: rest) by simp]
  simp [lexAux, isWs, isLineComment, isBlockComment, isSizeAt, isIdStart, hng, hq, hemp]

theorem step_str (srcs : List String) (body : List Char) (hb : body.all (fun c => c != '"' && c != '\n') = true) :
    Step srcs ('"' :: body ++ ['"']) [.str (String.ofList body)] := by
  refine ⟨1, Nat.le_refl 1, by simp, fun f rest p1 p2 acc _ => ?_⟩
  have hq := quoted_first '"' body (' ' :: rest) (by decide) hb
  have hng : nonGreedyQuotes = true := by decide
  refine ⟨(prevAfter ('"' :: body ++ ['"']) p1 p2).1, (prevAfter ('"' :: body ++ ['"']) p1 p2).2, ?_⟩
  rw [show '"' :: body ++ ['"'] ++ ' ' :: rest = '"' :: (body ++ '"' :: ' ' :: rest) by simp]
  simp [lexAux, isWs, isLineComment, isBlockComment, isSizeAt, isIdStart, scanBlob, hng, hq]

theorem wordTok_reserved (srcs : List String) {w : String} (h : (BdGrammar.reserved.find? (fun p => p.1 == w)).isSome = true) :
    wordTok srcs w = wordTok [] w := by
  unfold wordTok
  split
  · rfl
  · next hn => rw [hn] at h; cases h

theorem validIdent_parts {srcs : List String} {x : String} (h : validIdent srcs x = true) :
    isWordS x = true ∧ wordTok srcs x = .ident x := by
  simp only [validIdent, Bool.and_eq_true, Bool.not_eq_true', Option.isNone_iff_eq_none] at h
  exact ⟨h.1.1, by simp only [wordTok, h.1.2, h.2]; rfl⟩

/-- a canonical token that is the row `name` of the operator table -/
theorem step_row (srcs : List String) (name : String) (t : Tok)
    (h : punctNames.contains name = true ∧ punctChars name = tokChars t ∧ punctTok name = t) : Step srcs (tokChars t) [t] := by
  have := step_punct srcs name h.1
  rwa [h.2.1, h.2.2] at this

/-- a canonical token is a decimal literal, a word, or a row of the operator table -/
theorem step_tok (srcs : List String) (t : Tok) (ht : simpleTokOk srcs t = true) : Step srcs (tokChars t) [t] := by
  cases t with
  | num n =>
    have := step_dec srcs _ (decOk_decDigits n)
    rwa [(decDigits_spec n).2.2.1] at this
  | ident x =>
    have := step_word srcs x (validIdent_parts ht).1
    rwa [(validIdent_parts ht).2] at this
  | op o => exact step_row srcs o.tokName _ (by cases o <;> decide +kernel)
  | cmp o => exact step_row srcs o.tokName _ (by cases o <;> decide +kernel)
  | lnot => exact step_row srcs "LNOT" _ (by decide +kernel)
  | lparen => exact step_row srcs "LPAREN" _ (by decide +kernel)
  | rparen => exact step_row srcs "RPAREN" _ (by decide +kernel)
  | defined => exact step_word srcs "defined" (by decide)
  | _ => cases ht

/-- a host of an int-size suffix: its text ends in a hexadecimal digit `d`, which the lexer remembers when it stands before the `.` -/
theorem suffixHost_ok {srcs : List String} {t : Tok} (h : suffixHostOk srcs t = true) :
    ∃ c0 w d, tokChars t = c0 :: w ∧ isHexDigit d = true ∧
      ∀ f rest p1 p2 acc, (p1 = none ∨ p1 = some ' ') →
        ∃ q2, lexAux srcs (f + 1) ((c0 :: w) ++ '.' :: rest) p1 p2 acc = lexAux srcs f ('.' :: rest) (some d) q2 (t :: acc) := by
  cases t with
  | num n =>
    obtain ⟨hall, hne, hval, _, k, hk⟩ := decDigits_spec n
    match hd : decDigits n, hne with
    | d0 :: dt, _ =>
      rw [hd] at hall hk hval
      refine ⟨d0, dt, _, hd, digitChar_hex k, fun f rest p1 p2 acc hp1 => ?_⟩
      have hnum := (lexNumber_dec (decOk_decDigits n) rest).1 '.' rfl
      rw [hd, hval] at hnum
      rw [← hk]
      exact lex_numlit_step srcs f n d0 dt '.' rest p1 p2 acc (by simp at hall; exact hall.1) hp1 hnum
  | ident x =>
    simp only [suffixHostOk, Bool.and_eq_true] at h
    obtain ⟨hw, htok⟩ := validIdent_parts h.1
    unfold isWordS at hw
    match hx : x.toList, hw with
    | c0 :: w, hw =>
      simp only [Bool.and_eq_true] at hw
      cases hl : x.toList.getLast? with
      | none => simp [hl] at h
      | some d =>
        refine ⟨c0, w, d, hx, by simpa [hl] using h.2, fun f rest p1 p2 acc hp1 => ?_⟩
        have := lex_word_step srcs f c0 w '.' rest p1 p2 acc hw.1 hw.2 hp1 rfl
        rwa [← hx, String.ofList_toList, htok, hl, hx] at this
  | _ => cases h

theorem step_sized (srcs : List String) (t : Tok) (s : IntSz) (ht : suffixHostOk srcs t = true) :
    Step srcs (tokChars t ++ (tokChars .dot ++ tokChars (.isize s))) [t, .dot, .isize s] := by
  obtain ⟨c0, w, d, hc, hdx, hstep⟩ := suffixHost_ok ht
  have hil : (tokChars (.isize s)).length = 1 := by cases s <;> rfl
  have hdot : tokChars .dot = ['.'] := by decide
  refine ⟨3, by omega, by rw [hc]; simp only [List.length_append, hil, hdot, List.length_cons, List.length_nil]; omega, ?_⟩
  intro f rest p1 p2 acc hp1
  obtain ⟨q2, h1⟩ := hstep (f + 2) (tokChars (.isize s) ++ ' ' :: rest) p1 p2 acc hp1
  have h2 := lex_dot_step srcs (f + 1) s (' ' :: rest) (some d) q2 (t :: acc)
  obtain ⟨r1, r2, h3⟩ := lex_isize_step srcs f s (' ' :: rest) d hdx (.dot :: t :: acc)
  refine ⟨r1, r2, ?_⟩
  rw [hdot] at h2 ⊢
  simp only [List.cons_append, List.nil_append] at h2
  rw [hc, show (c0 :: w ++ (['.'] ++ tokChars (.isize s))) ++ ' ' :: rest = (c0 :: w) ++ '.' :: (tokChars (.isize s) ++ ' ' :: rest) by simp,
    show f + 3 = f + 2 + 1 from rfl, h1, show f + 2 = f + 1 + 1 from rfl, h2, h3]
  rfl

theorem step_ctok (srcs : List String) (ct : CTok) (h : ct.ok srcs = true) : Step srcs ct.chars (ct.toks srcs) := by
  cases ct with
  | tok t => exact step_tok srcs t h
  | sized t s => exact step_sized srcs t s h
  | word w => exact step_word srcs w h
  | dec ds => exact step_dec srcs ds h
  | kilo ds => exact step_kilo srcs ds h
  | hex u ds =>
    simp only [CTok.ok, Bool.and_eq_true, Bool.not_eq_true', List.isEmpty_eq_false_iff] at h
    exact step_hex srcs u ds h.1 h.2
  | chr body =>
    simp only [CTok.ok, Bool.and_eq_true, Bool.not_eq_true', List.isEmpty_eq_false_iff] at h
    exact step_chr srcs body h.1 h.2
  | str body => exact step_str srcs body h
  | secname body =>
    simp only [CTok.ok, Bool.and_eq_true, Bool.not_eq_true', List.isEmpty_eq_false_iff] at h
    exact step_secname srcs body h.1 h.2
  | punct name => exact step_punct srcs name h
  | lineComment hash body => exact step_lineComment srcs hash body h

theorem lex_ws_step (srcs : List String) (f : Nat) (cs : List Char) (p1 p2 : Option Char) (acc : List Tok) :
    lexAux srcs (f + 1) (' ' :: cs) p1 p2 acc = lexAux srcs f cs (some ' ') p1 acc := rfl

theorem lex_renderC (srcs : List String) : ∀ (cts : List CTok) (fuel : Nat) (p1 p2 : Option Char) (acc : List Tok),
    allOkC srcs cts = true → (p1 = none ∨ p1 = some ' ') → (renderC cts).length + 1 ≤ fuel →
    lexAux srcs fuel (renderC cts) p1 p2 acc = .ok (acc.reverse ++ tokensC srcs cts) := by
  intro cts
  induction cts with
  | nil =>
    intro fuel p1 p2 acc _ _ hf
    cases fuel with
    | zero => simp [renderC] at hf
    | succ f => simp [renderC, tokensC, lexAux]
  | cons ct rest ih =>
    intro fuel p1 p2 acc hok hp1 hf
    simp only [allOkC, Bool.and_eq_true] at hok
    obtain ⟨k, hk1, hk2, hstep⟩ := step_ctok srcs ct hok.1
    simp only [renderC, List.length_append, List.length_cons] at hf ⊢
    obtain ⟨f2, rfl⟩ : ∃ f2, fuel = f2 + 1 + k := ⟨fuel - 1 - k, by omega⟩
    obtain ⟨q1, q2, hs⟩ := hstep (f2 + 1) (renderC rest) p1 p2 acc hp1
    rw [hs, lex_ws_step, ih f2 (some ' ') q1 _ hok.2 (Or.inr rfl) (by omega)]
    simp [tokensC]

/-- the canonical pieces whose text is the canonical text of a token list -/
def toC : List Tok → List CTok
  | [] => []
  | t :: .dot :: .isize s :: rest => .sized t s :: toC rest
  | t :: rest => .tok t :: toC rest

theorem toC_spec (srcs : List String) (ts : List Tok) :
    renderC (toC ts) = render ts ∧ tokensC srcs (toC ts) = ts ∧ allOkC srcs (toC ts) = Lexable srcs ts := by
  induction ts using render.induct with
  | case1 => exact ⟨rfl, rfl, rfl⟩
  | case2 t s rest ih => simp [toC, render, renderC, tokensC, allOkC, Lexable, CTok.chars, CTok.toks, CTok.ok, ih]
  | case3 t rest hno ih => simp [toC, render, renderC, tokensC, allOkC, Lexable, CTok.chars, CTok.toks, CTok.ok, ih]

end SpsdkVerif.Bd
