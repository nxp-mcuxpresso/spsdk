/-
C18 — the step bound: every action, kill or I/O failure strictly decreases `Proc.measure` of the acting process
(`rank` falls along the control flow, and every local program lands below the rank of the action that runs it),
so a schedule is never longer than the initial bound.
-/
import SpsdkVerif.Proofs.DbCacheBase
namespace SpsdkVerif.DbCache.Sched
open SpsdkVerif

variable (env : Env) (G : Guards)

theorem afterWAcquire_rank : (afterWAcquire G).rank ≤ 7 := by
  unfold afterWAcquire; repeat' split
  all_goals decide

theorem writerStart_rank : (writerStart G).rank ≤ 8 := by
  unfold writerStart; split
  · decide
  · exact Nat.le_succ_of_le (afterWAcquire_rank G)

/-- `r` is within `K` actions of the end of a query list of length `n` -/
def Lands (n K : Nat) (r : Proc) : Prop := r.measure ≤ n * 32 + K

theorem Lands.mono {n K K' : Nat} {r : Proc} (h : Lands n K r) (hK : K ≤ K') : Lands n K' r :=
  Nat.le_trans h (Nat.add_le_add_left hK _)

theorem Lands.at {n K : Nat} {r : Proc} (ht : r.todo.length = n) (hr : r.pc.rank ≤ K) : Lands n K r := by
  simp only [Lands, Proc.measure, ht]; omega

theorem runQueries_lands (p : Proc) (qs : List Nat) : Lands qs.length 0 (runQueries env G p qs) := by
  induction qs generalizing p with
  | nil => exact .at rfl (Nat.le_refl _)
  | cons k rest ih =>
    have next {r} (h : Lands rest.length 0 r) : Lands (rest.length + 1) 0 r := Nat.le_trans h (by omega)
    simp only [runQueries, List.length_cons]
    split
    · exact next (ih _)
    · split
      · exact next (ih _)
      · have := writerStart_rank G
        simp only [Lands, Proc.measure]; omega

/-- the instance at the process's own list, stated apart: finding `qs := p.todo` is slow for the unifier -/
theorem runQueries_todo_lands (p : Proc) : Lands p.todo.length 0 (runQueries env G p p.todo) := runQueries_lands ..

theorem finishLoader_lands (p : Proc) : Lands p.todo.length 0 (finishLoader env G p) := runQueries_lands ..

theorem loaderRaise_lands (p : Proc) (e : Exc) : Lands p.todo.length 14 (loaderRaise env G p e) := by
  unfold loaderRaise
  split
  · dsimp only
    by_cases hr : G.l.handlerRemoves = true
    · rw [if_pos hr]
      exact .at (by cases G.l.handlerClearsLoaded <;> rfl) (by cases G.l.handlerExistsGuard <;> simp [PC.rank])
    · rw [if_neg hr]; split <;> exact (finishLoader_lands ..).mono (Nat.zero_le _)
  · exact .at rfl (Nat.zero_le _)

theorem loaderChecks_lands (p : Proc) : Lands p.todo.length 15 (loaderChecks env G p) := by
  unfold loaderChecks
  split
  · exact (finishLoader_lands ..).mono (Nat.zero_le _)
  · split
    · split
      · exact (loaderRaise_lands ..).mono (by omega)
      · exact .at rfl (Nat.zero_le _)
    · split
      · exact (finishLoader_lands ..).mono (Nat.zero_le _)
      · dsimp only
        by_cases hrs : G.l.removeStale = true
        · rw [if_pos hrs]; exact .at (by split <;> rfl) (Nat.le_refl _)
        · rw [if_neg hrs]; split <;> exact (finishLoader_lands ..).mono (Nat.zero_le _)

theorem afterRead_lands (p : Proc) (c : Cont) : Lands p.todo.length 15 (afterRead env G p c) := by
  cases c
  · exact loaderChecks_lands ..
  · exact (loaderRaise_lands ..).mono (by omega)

theorem leaveRead_lands (p : Proc) (c : Cont) : Lands p.todo.length 16 (leaveRead env G p c) := by
  rw [leaveRead_eq]; split
  · exact .at rfl (Nat.le_refl _)
  · exact (afterRead_lands ..).mono (by omega)

theorem writerRaise_lands (p : Proc) (e : Exc) : Lands p.todo.length 0 (writerRaise env G p e) := by
  unfold writerRaise; split
  · exact runQueries_todo_lands ..
  · exact .at rfl (Nat.le_refl _)

theorem afterWrite_lands (p : Proc) (c : Cont) : Lands p.todo.length 0 (afterWrite env G p c) := by
  cases c
  · exact runQueries_todo_lands ..
  · exact writerRaise_lands ..

theorem leaveWrite_lands (p : Proc) (c : Cont) : Lands p.todo.length 2 (leaveWrite env G p c) := by
  rw [leaveWrite_eq]; split
  · exact .at rfl (Nat.le_refl _)
  · exact (afterWrite_lands ..).mono (Nat.zero_le _)

variable {env G}

/-- a local program run by an action of higher rank than where it lands -/
theorem Lands.lt {p r : Proc} {K : Nat} (h : Lands p.todo.length K r) (hK : K < p.pc.rank) : r.measure < p.measure := by
  unfold Lands Proc.measure at *; omega

/-- a move to a program counter of lower rank inside the current query -/
theorem lower {p r : Proc} (ht : r.todo = p.todo) (hr : r.pc.rank < p.pc.rank) : r.measure < p.measure := by
  simp only [Proc.measure, ht]; omega

theorem rank_pos {pc : PC} (h : pc.terminal = false) : 0 < pc.rank := by
  cases pc <;> simp [PC.terminal, PC.rank] at h ⊢

theorem sum_set_lt {α} (f : α → Nat) {l : List α} {i : Nat} {a b : α} (h : l[i]? = some a) (hlt : f b < f a) :
    ((l.set i b).map f).sum < (l.map f).sum := by
  induction l generalizing i with
  | nil => simp at h
  | cons x xs ih =>
    cases i with
    | zero => simp at h; subst h; simp; omega
    | succ i =>
      simp only [List.getElem?_cons_succ] at h
      have := ih h
      simp only [List.set_cons_succ, List.map_cons, List.sum_cons]; omega

end SpsdkVerif.DbCache.Sched

namespace SpsdkVerif.DbCache
open SpsdkVerif Sched

/-- every action strictly decreases the bound of the acting process -/
theorem pstep_measure (env : Env) (G : Guards) (i : Nat) (sh sh' : Sh) (p p' : Proc)
    (h : pstep env G i sh p = some (sh', p')) : p'.measure < p.measure := by
  obtain ⟨pc, loaded, buf, mem, selfFp, todo, answers, asked⟩ := p
  cases pc <;> simp only [pstep, reduceCtorEq] at h
  case lExists =>
    cases h; split
    · exact lower rfl (by split <;> simp [PC.rank])
    · exact (finishLoader_lands ..).lt (by simp [PC.rank])
  case lAcquire => split at h <;> cases h; exact lower rfl (by simp [PC.rank])
  case lOpen =>
    split at h <;> cases h
    · exact (leaveRead_lands ..).lt (by simp [PC.rank])
    · exact lower rfl (by simp [PC.rank])
  case lUnpickle => split at h <;> cases h <;> exact (leaveRead_lands ..).lt (by simp [PC.rank])
  case lRelease c =>
    cases h; cases c
    · exact (loaderChecks_lands ..).lt (by simp [PC.rank])
    · exact (loaderRaise_lands ..).lt (by simp [PC.rank])
  case lRemoveStale =>
    split at h <;> cases h
    · exact (finishLoader_lands ..).lt (by simp [PC.rank])
    · split
      · exact (loaderRaise_lands ..).lt (by simp [PC.rank])
      · exact lower rfl (by simp [PC.rank])
  case hExists =>
    cases h; split
    · exact lower rfl (by simp [PC.rank])
    · exact (finishLoader_lands ..).lt (by simp [PC.rank])
  case hRemove =>
    split at h <;> cases h
    · exact (finishLoader_lands ..).lt (by simp [PC.rank])
    · split
      · exact (finishLoader_lands ..).lt (by simp [PC.rank])
      · exact lower rfl (by simp [PC.rank])
  case wAcquire => split at h <;> cases h; exact lower rfl (Nat.lt_succ_of_le (afterWAcquire_rank G))
  case wExists => cases h; exact lower rfl (by split <;> simp [PC.rank])
  case wOpenR =>
    split at h <;> cases h
    · exact (leaveWrite_lands ..).lt (by simp [PC.rank])
    · exact lower rfl (by simp [PC.rank])
  case wUnpickle =>
    split at h
    · cases h; exact (leaveWrite_lands ..).lt (by simp [PC.rank])
    · split at h <;> cases h
      · exact (leaveWrite_lands ..).lt (by simp [PC.rank])
      · exact lower rfl (by simp [PC.rank])
  case wTrunc => cases h; exact lower rfl (by simp [PC.rank])
  case wWrite => cases h; exact (leaveWrite_lands ..).lt (by simp [PC.rank])
  case wRelease c =>
    cases h; cases c
    · exact (runQueries_todo_lands ..).lt (by simp [PC.rank])
    · exact (writerRaise_lands ..).lt (by simp [PC.rank])

theorem crashStep_measure {env : Env} {G : Guards} {i n : Nat} {sh sh' : Sh} {p p' : Proc}
    (h : crashStep env G i n sh p = some (sh', p')) : p'.measure < p.measure := by
  unfold crashStep at h
  split at h
  · cases h
  · rename_i ht; cases h; exact lower rfl (rank_pos (by simpa using ht))

theorem failStep_measure {env : Env} {G : Guards} {e : Exc} {n : Nat} {sh sh' : Sh} {p p' : Proc}
    (h : failStep env G e n sh p = some (sh', p')) : p'.measure < p.measure := by
  obtain ⟨pc, loaded, buf, mem, selfFp, todo, answers, asked⟩ := p
  unfold failStep at h
  split at h
  · cases h
  · cases pc <;> cases h
    · exact (loaderRaise_lands ..).lt (by simp [PC.rank])
    · exact (leaveRead_lands ..).lt (by simp [PC.rank])
    · exact (writerRaise_lands ..).lt (by simp [PC.rank])
    all_goals exact (leaveWrite_lands ..).lt (by simp [PC.rank])

theorem Acts.measure {env : Env} {G : Guards} {i : Nat} {sh : Sh} {p : Proc} {r : Sh × Proc}
    (h : Acts env G i sh p r) : r.2.measure < p.measure := by
  cases h with
  | run h => exact pstep_measure _ _ _ _ _ _ _ h
  | crash n h => exact crashStep_measure h
  | fail e n h => exact failStep_measure h

theorem gstep_measure (env : Env) (G : Guards) (s s' : St) (l : Lbl) (hl : l.isWipe = false)
    (h : gstep env G s l = some s') : s'.totalMeasure < s.totalMeasure :=
  gstep_elim (motive := fun s' => s'.totalMeasure < s.totalMeasure) h (fun hw => by rw [hw] at hl; cases hl)
    fun _ _ _ hp ha => sum_set_lt _ hp ha.measure

/-- a schedule is never longer than the initial bound (wipes do not count: they do not change the processes) -/
theorem sched_length_le (env : Env) (G : Guards) (s s' : St) (sched : List Lbl)
    (h : runSched env G s sched = some s') :
    (sched.filter (fun l => !l.isWipe)).length + s'.totalMeasure ≤ s.totalMeasure := by
  induction sched generalizing s with
  | nil => simp [runSched] at h; subst h; simp
  | cons l ls ih =>
    simp only [runSched] at h
    split at h
    · cases h
    · rename_i s1 hs1
      have := ih s1 h
      cases hw : l.isWipe with
      | false =>
        have := gstep_measure env G s s1 l hw hs1
        simp only [List.filter_cons, hw, Bool.not_false, if_true, List.length_cons]; omega
      | true =>
        have hl : l = .wipe := by cases l <;> simp [Lbl.isWipe] at hw ⊢
        subst hl
        simp only [gstep, Option.some.injEq] at hs1
        subst hs1
        simp only [List.filter_cons, hw, Bool.not_true]
        exact this

end SpsdkVerif.DbCache
