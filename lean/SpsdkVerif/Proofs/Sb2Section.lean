/-
C04 helper lemmas, section layer: AES-CTR with the SB2 block counter (builder's running counter = ROM's
`nonce counter + file offset / 16`), MAC table, one boot section through the ROM model (`buildSection_parts`, `readSection_parts`):
round trip and refusal after one of its three regions was replaced; a list of boot sections.
-/
import SpsdkVerif.Proofs.Sb2Cmd
import SpsdkVerif.Crypto.Break

namespace SpsdkVerif.Sb2
open SpsdkVerif SpsdkVerif.Sb2.Rom
open SpsdkVerif.Misc (Bytes beEnc beDec leEnc leDec)
open SpsdkVerif.Crypto (CryptoOps CryptoLaws xorBytes zeroPad16 zeros hmac Break)
open SpsdkVerif.Generated

variable {c : CryptoOps}

theorem slice_mid (a b d : Bytes) (off len : Nat) (ho : off = a.length) (hl : len = b.length) :
    Rom.slice (a ++ b ++ d) off len = b := by
  subst ho hl
  simp [Rom.slice, List.append_assoc]

theorem slice_head (a d : Bytes) (len : Nat) (hl : len = a.length) : Rom.slice (a ++ d) 0 len = a := by
  subst hl; simp [Rom.slice]

theorem slice_tail (a b : Bytes) (off len : Nat) (ho : off = a.length) (hl : len = b.length) :
    Rom.slice (a ++ b) off len = b := by
  subst ho hl; simp [Rom.slice]

/-- reading the piece `x` of length `n` at offset `off`, and what follows it: applied piece after piece this walks a file
    that is written as a right-nested concatenation -/
theorem slice_of_drop {file x rest : Bytes} {off n : Nat} (h : file.drop off = x ++ rest) (hn : x.length = n) :
    Rom.slice file off n = x ∧ file.drop (off + n) = rest := by
  subst hn
  rw [Rom.slice, ← List.drop_drop, h, List.take_left, List.drop_left]
  exact ⟨rfl, rfl⟩

/-- the four pieces of a section (header, its MAC, MAC table, body) behind `pre`, as both readers address them -/
theorem section_slices {pre eh hm tbl ec post : Bytes} {nt ne : Nat} (leh : eh.length = 16) (lhm : hm.length = 32)
    (ltbl : tbl.length = nt) (lec : ec.length = ne) :
    (pre ++ (eh ++ hm ++ tbl ++ ec) ++ post).length = pre.length + 48 + nt + ne + post.length ∧
    Rom.slice (pre ++ (eh ++ hm ++ tbl ++ ec) ++ post) pre.length 16 = eh ∧
    Rom.slice (pre ++ (eh ++ hm ++ tbl ++ ec) ++ post) (pre.length + 16) 32 = hm ∧
    Rom.slice (pre ++ (eh ++ hm ++ tbl ++ ec) ++ post) (pre.length + 48) nt = tbl ∧
    Rom.slice (pre ++ (eh ++ hm ++ tbl ++ ec) ++ post) (pre.length + 48 + nt) ne = ec := by
  have d0 : (pre ++ (eh ++ hm ++ tbl ++ ec) ++ post).drop pre.length = eh ++ (hm ++ (tbl ++ (ec ++ post))) := by
    simp only [List.append_assoc, List.drop_left]
  obtain ⟨s1, d1⟩ := slice_of_drop d0 leh
  obtain ⟨s2, d2⟩ := slice_of_drop d1 lhm
  obtain ⟨s3, d3⟩ := slice_of_drop d2 ltbl
  exact ⟨by simp only [List.length_append, leh, lhm, ltbl, lec]; omega, s1, s2, s3, (slice_of_drop d3 lec).1⟩

theorem ksAt_eq_ksBlock (dek nonce : Bytes) (off : Nat) :
    Rom.ksAt c dek nonce off = ksBlock c dek nonce (nonceCtr nonce + off / 16) := rfl

theorem ksBlock_length (h : CryptoLaws c) (dek nonce : Bytes) (ctr : Nat) :
    (ksBlock c dek nonce ctr).length = 16 := h.enc_len _ _

theorem ctrBlocks_length (h : CryptoLaws c) (dek nonce : Bytes) (n ctr : Nat) (d : Bytes) (hd : d.length = 16 * n) :
    (ctrBlocks c dek nonce n ctr d).length = 16 * n := by
  induction n generalizing ctr d with
  | zero => rfl
  | succ n ih =>
    rw [ctrBlocks, List.length_append, Crypto.xorBytes_length, List.length_take, ksBlock_length h,
      ih _ _ (by rw [List.length_drop]; omega)]
    omega

/-- encrypting twice with the same counter gives the plaintext back: what the ROM and SPSDK's parser both do to a section body -/
theorem ctrBlocks_invol (h : CryptoLaws c) (dek nonce : Bytes) (n ctr : Nat) (d : Bytes) (hd : d.length = 16 * n) :
    ctrBlocks c dek nonce n ctr (ctrBlocks c dek nonce n ctr d) = d := by
  induction n generalizing ctr d with
  | zero => exact (List.eq_nil_of_length_eq_zero hd).symm
  | succ n ih =>
    have hB : (xorBytes (d.take 16) (ksBlock c dek nonce ctr)).length = 16 := by
      rw [Crypto.xorBytes_length, List.length_take, ksBlock_length h]; omega
    rw [ctrBlocks, ctrBlocks, List.take_left' hB, List.drop_left' hB,
      Crypto.xorBytes_cancel _ _ (by rw [List.length_take, ksBlock_length h]; omega),
      ih _ _ (by rw [List.length_drop]; omega), List.take_append_drop]

/-- counter agreement: decrypting `n` blocks at file offset `off` the ROM's way is the builder's CTR pass over those bytes with
    the counter of that offset; `(off + 16) / 16 = off / 16 + 1` whatever `off` is, so no alignment is needed -/
theorem decryptAt_eq_ctrBlocks (dek nonce file : Bytes) (n off : Nat) :
    Rom.decryptAt c dek nonce file n off
      = ctrBlocks c dek nonce n (nonceCtr nonce + off / 16) (Rom.slice file off (16 * n)) := by
  induction n generalizing off with
  | zero => rfl
  | succ n ih =>
    have e1 : (Rom.slice file off (16 * (n + 1))).take 16 = (file.drop off).take 16 := by
      rw [Rom.slice, List.take_take, Nat.min_eq_left (by omega)]
    have e2 : (Rom.slice file off (16 * (n + 1))).drop 16 = Rom.slice file (off + 16) (16 * n) := by
      rw [Rom.slice, Rom.slice, List.drop_take, List.drop_drop, show 16 * (n + 1) - 16 = 16 * n by omega]
    rw [Rom.decryptAt, ctrBlocks, ih, e1, e2, show (off + 16) / 16 = off / 16 + 1 by omega]
    rfl

/-- `hmac_count` of SPSDK (requested count, 0 meaning 1, capped by the number of blocks) is the `min`/`max` of the expectation -/
theorem effHmacCount_eq (s : Section) (wf : Spec.WFsection s) :
    s.effHmacCount = Spec.macCount s ∧ 1 ≤ Spec.macCount s ∧ Spec.macCount s ≤ Spec.cmdsLen s.cmds / 16 := by
  have ⟨h2, h3⟩ := cmdsLen_facts s.cmds wf.2.1
  have e1 : (if s.hmacCount = 0 then 1 else s.hmacCount) = max s.hmacCount 1 := by split <;> omega
  have e2 : (Spec.cmdsLen s.cmds + 15) / 16 = Spec.cmdsLen s.cmds / 16 := by omega
  refine ⟨?_, ?_, Nat.min_le_right _ _⟩
  · simp only [Section.effHmacCount, Spec.macCount, rawSize_sum, e1, e2]
    rw [if_pos (by omega), Nat.min_def]
  · unfold Spec.macCount; omega

theorem rawSize_eq_sectionLen (s : Section) (wf : Spec.WFsection s) :
    s.rawSize = Spec.sectionLen s ∧ Spec.sectionLen s % 16 = 0 ∧ 96 ≤ Spec.sectionLen s := by
  have ⟨e1, e2, e3⟩ := effHmacCount_eq s wf
  have ⟨h2, h3⟩ := cmdsLen_facts s.cmds wf.2.1
  unfold Section.rawSize Spec.sectionLen
  rw [rawSize_sum, e1, align16_of_mod (by omega)]
  omega

theorem hmacSha_length (h : CryptoLaws c) (k m : Bytes) : (hmac c .sha256 k m).length = 32 :=
  Crypto.hmac_length h .sha256 k m

theorem hmac256_length (h : CryptoLaws c) (k m : Bytes) : (hmac256 c k m).length = 32 := hmacSha_length h k m

theorem hmacEntries_length (h : CryptoLaws c) (mac : Bytes) (hc bs : Nat) (d : Bytes) :
    (hmacEntries c mac hc bs d).length = 32 * hc := by
  induction hc generalizing d with
  | zero => rfl
  | succ n ih =>
    cases n with
    | zero => exact hmac256_length h mac d
    | succ m => rw [hmacEntries, List.length_append, hmac256_length h, ih]; omega

theorem checkMacs_iff (h : CryptoLaws c) (mac : Bytes) (hc bs : Nat) (tbl ec : Bytes) (ltbl : tbl.length = 32 * hc) :
    Rom.checkMacs c mac hc bs tbl ec = true ↔ tbl = hmacEntries c mac hc bs ec := by
  induction hc generalizing tbl ec with
  | zero => simp [checkMacs, hmacEntries, List.eq_nil_of_length_eq_zero ltbl]
  | succ n ih =>
    cases n with
    | zero => simp [checkMacs, hmacEntries, hmac256, List.take_of_length_le (Nat.le_of_eq ltbl)]
    | succ m =>
      have l := hmac256_length h mac (ec.take bs)
      rw [checkMacs, hmacEntries, Bool.and_eq_true, ih _ _ (by rw [List.length_drop, ltbl]; omega), beq_iff_eq]
      constructor
      · rintro ⟨e1, e2⟩
        rw [← List.take_append_drop 32 tbl, e1, e2]; rfl
      · intro e
        rw [e, List.take_left' l, List.drop_left' l]
        exact ⟨rfl, rfl⟩

/-- a MAC table computed over `ec` that also passes for a different `ec'` of the same length exhibits an HMAC forgery -/
theorem checkMacs_forgery (h : CryptoLaws c) (mac : Bytes) (hc bs : Nat) (ec ec' : Bytes) (hpos : 1 ≤ hc)
    (hl : ec'.length = ec.length) (hne : ec' ≠ ec)
    (hck : Rom.checkMacs c mac hc bs (hmacEntries c mac hc bs ec) ec' = true) : Break c := by
  induction hc generalizing ec ec' with
  | zero => omega
  | succ n ih =>
    cases n with
    | zero =>
      rw [checkMacs, hmacEntries, List.take_of_length_le (Nat.le_of_eq (hmac256_length h mac ec)), beq_iff_eq] at hck
      exact Break.hmacForgery .sha256 mac ec ec' (Ne.symm hne) hck
    | succ m =>
      have l := hmac256_length h mac (ec.take bs)
      rw [checkMacs, hmacEntries, List.take_left' l, List.drop_left' l, Bool.and_eq_true, beq_iff_eq] at hck
      by_cases ht : ec.take bs = ec'.take bs
      · refine ih (ec.drop bs) (ec'.drop bs) (by omega) (by rw [List.length_drop, List.length_drop, hl]) ?_ hck.2
        intro hd
        apply hne
        rw [← List.take_append_drop bs ec', ← List.take_append_drop bs ec, ht, hd]
      · exact Break.hmacForgery .sha256 mac _ _ ht hck.1

/-- header of a boot section as the image builders export it -/
def sectionHdr (s : Section) : CmdHdr :=
  ⟨Sb2Consts.tagTag, imageSectionFlags, s.uid, Spec.cmdsLen s.cmds / 16, Spec.macCount s⟩

theorem sectionHdr_inRange (s : Section) (wf : Spec.WFsection s) : (sectionHdr s).inRange = true := by
  have ⟨_, _, e3⟩ := effHmacCount_eq s wf
  obtain ⟨wuid, _, _, wlen⟩ := wf
  simp only [inRange_iff, sectionHdr, Sb2Consts.tagTag, imageSectionFlags, Sb2Consts.sectFlagBootable, Sb2Consts.sectFlagLastSect]
  exact ⟨by decide, by decide, wuid, wlen, by omega⟩

/-- the four pieces of a built section — encrypted header, its MAC, the MAC table over the ciphertext, the ciphertext — and what
    header and ciphertext decrypt to under the counters of their blocks -/
theorem buildSection_parts (h : CryptoLaws c) (dek mac nonce : Bytes) (ctr : Nat) (s : Section) (wf : Spec.WFsection s) :
    ∃ eh ec : Bytes,
      buildSection c dek mac nonce ctr s
        = eh ++ hmac c .sha256 mac eh ++
            hmacEntries c mac (Spec.macCount s) (Spec.cmdsLen s.cmds / 16 / Spec.macCount s * 16) ec ++ ec ∧
      eh.length = 16 ∧ ec.length = Spec.cmdsLen s.cmds ∧
      xorBytes eh (ksBlock c dek nonce ctr) = encodeHdr (sectionHdr s) ∧
      ctrBlocks c dek nonce (Spec.cmdsLen s.cmds / 16) (ctr + (1 + (Spec.macCount s + 1) * 2)) ec = cmdsData s.cmds := by
  have ⟨e1, _, _⟩ := effHmacCount_eq s wf
  have ⟨l1, l2⟩ := cmdsData_length s.cmds
  have ld : (cmdsData s.cmds).length = 16 * (Spec.cmdsLen s.cmds / 16) := by omega
  refine ⟨xorBytes (encodeHdr (sectionHdr s)) (ksBlock c dek nonce ctr),
    ctrBlocks c dek nonce (Spec.cmdsLen s.cmds / 16) (ctr + (1 + (Spec.macCount s + 1) * 2)) (cmdsData s.cmds), ?_, ?_, ?_, ?_, ?_⟩
  · simp only [buildSection, buildSectionWith, e1, l1]
    rfl
  · rw [Crypto.xorBytes_length, encodeHdr_length, ksBlock_length h]; rfl
  · rw [ctrBlocks_length h _ _ _ _ _ ld]; omega
  · exact Crypto.xorBytes_cancel _ _ (by rw [encodeHdr_length, ksBlock_length h]; exact Nat.le_refl 16)
  · exact ctrBlocks_invol h _ _ _ _ _ ld

theorem buildSectionWith_length (h : CryptoLaws c) (dek mac nonce : Bytes) (ctr flags : Nat) (s : Section)
    (wf : Spec.WFsection s) : (buildSectionWith c dek mac nonce ctr flags s).length = Spec.sectionLen s := by
  have ⟨e1, e2, e3⟩ := effHmacCount_eq s wf
  have ⟨l1, l2⟩ := cmdsData_length s.cmds
  unfold buildSectionWith Spec.sectionLen
  simp only [List.length_append, Crypto.xorBytes_length, encodeHdr_length, ksBlock_length h, hmac256_length h,
    hmacEntries_length h]
  rw [ctrBlocks_length h _ _ _ _ _ (by omega), e1, l1]
  omega

theorem readSection_hdrMac_bad (dek mac nonce pre eh hm rest : Bytes) (leh : eh.length = 16) (lhm : hm.length = 32)
    (hne : hm ≠ hmac c .sha256 mac eh) :
    Rom.readSection c dek mac nonce (pre ++ eh ++ hm ++ rest) pre.length = .error .badSectionMac := by
  have F1 : (pre ++ eh ++ hm ++ rest).length = pre.length + 48 + rest.length := by
    simp only [List.length_append, leh, lhm]
  have F2 : Rom.slice (pre ++ eh ++ hm ++ rest) pre.length 16 = eh := by
    rw [List.append_assoc (pre ++ eh)]; exact slice_mid _ _ _ _ _ rfl leh.symm
  have F3 : Rom.slice (pre ++ eh ++ hm ++ rest) (pre.length + 16) 32 = hm :=
    slice_mid _ _ _ _ _ (by rw [List.length_append, leh]) lhm.symm
  rw [Rom.readSection, if_neg (by omega)]
  simp only [F2, F3]
  rw [if_pos hne]

/-- ROM side: on a file cut into the pieces of a section of `s` — header MAC right, header decrypting to the header of `s` — what
    is left of `readSection` is the MAC table against the ciphertext, then the command stream decrypted with the builder's counter -/
theorem readSection_parts (h : CryptoLaws c) (dek mac nonce pre eh tbl ec post : Bytes) (s : Section) (wf : Spec.WFsection s)
    (hpre : pre.length % 16 = 0) (leh : eh.length = 16)
    (hx : xorBytes eh (ksBlock c dek nonce (nonceCtr nonce + pre.length / 16)) = encodeHdr (sectionHdr s))
    (ltbl : tbl.length = 32 * Spec.macCount s) (lec : ec.length = Spec.cmdsLen s.cmds) :
    Rom.readSection c dek mac nonce (pre ++ (eh ++ hmac c .sha256 mac eh ++ tbl ++ ec) ++ post) pre.length =
      if Rom.checkMacs c mac (Spec.macCount s) (Spec.cmdsLen s.cmds / 16 / Spec.macCount s * 16) tbl ec = true then
        match Rom.readCmds (Spec.cmdsLen s.cmds / 16) (ctrBlocks c dek nonce (Spec.cmdsLen s.cmds / 16)
            (nonceCtr nonce + pre.length / 16 + (1 + (Spec.macCount s + 1) * 2)) ec) with
        | .error e => .error e
        | .ok cmds => .ok (⟨s.uid, imageSectionFlags, Spec.macCount s, cmds⟩, pre.length + Spec.sectionLen s)
      else .error .badSectionMac := by
  have ⟨_, e2, e3⟩ := effHmacCount_eq s wf
  have l3 := (cmdsLen_facts s.cmds wf.2.1).1
  obtain ⟨F1, F2, F3, F6, F7⟩ := section_slices (pre := pre) (post := post) leh (hmacSha_length h mac eh) ltbl lec
  have F5 := readHdr_encodeHdr (sectionHdr s) (sectionHdr_inRange s wf) []
  rw [List.append_nil, ← hx] at F5
  have hend : pre.length + 48 + 32 * Spec.macCount s + Spec.cmdsLen s.cmds = pre.length + Spec.sectionLen s := by
    unfold Spec.sectionLen; omega
  -- the layout arithmetic of the reader: counter of the body offset, body length, and its three bounds checks
  obtain ⟨hctr, hlen, a1, a2, a3⟩ : nonceCtr nonce + (pre.length + 48 + 32 * Spec.macCount s) / 16
        = nonceCtr nonce + pre.length / 16 + (1 + (Spec.macCount s + 1) * 2) ∧
      16 * (Spec.cmdsLen s.cmds / 16) = Spec.cmdsLen s.cmds ∧
      ¬ (pre ++ (eh ++ hmac c .sha256 mac eh ++ tbl ++ ec) ++ post).length < pre.length + 48 ∧
      ¬ (Spec.macCount s = 0 ∨ Spec.cmdsLen s.cmds / 16 < Spec.macCount s) ∧
      ¬ (pre ++ (eh ++ hmac c .sha256 mac eh ++ tbl ++ ec) ++ post).length < pre.length + Spec.sectionLen s := by omega
  rw [Rom.readSection, if_neg a1]
  simp only [F2, F3, ksAt_eq_ksBlock, F5, sectionHdr, decryptAt_eq_ctrBlocks, hlen, F6, F7, hctr, hend]
  rw [if_neg (fun hne => hne rfl), if_neg (fun hne => hne rfl), if_neg a2, if_neg a3]
  cases Rom.checkMacs c mac (Spec.macCount s) (Spec.cmdsLen s.cmds / 16 / Spec.macCount s * 16) tbl ec <;> rfl

theorem readSection_buildSection (h : CryptoLaws c) (dek mac nonce pre post : Bytes) (s : Section)
    (wf : Spec.WFsection s) (hpre : pre.length % 16 = 0) :
    Rom.readSection c dek mac nonce
        (pre ++ buildSection c dek mac nonce (nonceCtr nonce + pre.length / 16) s ++ post) pre.length
      = .ok (Spec.expectedSection s, pre.length + Spec.sectionLen s) := by
  obtain ⟨eh, ec, hS, leh, lec, hx, hd⟩ := buildSection_parts h dek mac nonce (nonceCtr nonce + pre.length / 16) s wf
  have ltbl := hmacEntries_length h mac (Spec.macCount s) (Spec.cmdsLen s.cmds / 16 / Spec.macCount s * 16) ec
  rw [hS, readSection_parts h dek mac nonce pre eh _ ec post s wf hpre leh hx ltbl lec,
    if_pos ((checkMacs_iff h _ _ _ _ _ ltbl).2 rfl), hd, readCmds_cmdsData s.cmds wf.2.2.1 _ (cmds_length_le s.cmds)]
  rfl

/-- the regions of a section `S = eh ‖ hm ‖ tbl ‖ ec` as the tamper statements cut them out -/
theorem section_regions {S eh hm tbl ec : Bytes} {n : Nat} (hS : S = eh ++ hm ++ tbl ++ ec) (leh : eh.length = 16)
    (lhm : hm.length = 32) (ltbl : tbl.length = n) :
    S.take 16 = eh ∧ S.drop 16 = hm ++ tbl ++ ec ∧ (S.drop 16).take (32 + n) = hm ++ tbl ∧
    S.take (48 + n) = eh ++ hm ++ tbl ∧ S.drop (48 + n) = ec := by
  have l32 : (hm ++ tbl).length = 32 + n := by rw [List.length_append, lhm, ltbl]
  have l48 : (eh ++ hm ++ tbl).length = 48 + n := by rw [List.length_append, List.length_append, leh, lhm, ltbl]
  have e : S = eh ++ ((hm ++ tbl) ++ ec) := by rw [hS]; simp only [List.append_assoc]
  refine ⟨by rw [e, List.take_left' leh], by rw [e, List.drop_left' leh], by rw [e, List.drop_left' leh, List.take_left' l32],
    by rw [hS, List.take_left' l48], by rw [hS, List.drop_left' l48]⟩

theorem readSection_body_tampered (h : CryptoLaws c) (dek mac nonce pre post : Bytes) (s : Section)
    (wf : Spec.WFsection s) (hpre : pre.length % 16 = 0) (body' : Bytes)
    (hlen : body'.length = Spec.cmdsLen s.cmds)
    (hne : body' ≠ (buildSection c dek mac nonce (nonceCtr nonce + pre.length / 16) s).drop (48 + 32 * Spec.macCount s)) :
    Rom.readSection c dek mac nonce
        (pre ++ (buildSection c dek mac nonce (nonceCtr nonce + pre.length / 16) s).take (48 + 32 * Spec.macCount s) ++ body' ++ post)
        pre.length = .error .badSectionMac ∨ Break c := by
  have e2 := (effHmacCount_eq s wf).2.1
  obtain ⟨eh, ec, hS, leh, lec, hx, -⟩ := buildSection_parts h dek mac nonce (nonceCtr nonce + pre.length / 16) s wf
  have ltbl := hmacEntries_length h mac (Spec.macCount s) (Spec.cmdsLen s.cmds / 16 / Spec.macCount s * 16) ec
  obtain ⟨-, -, -, r4, r5⟩ := section_regions hS leh (hmacSha_length h mac eh) ltbl
  rw [r5] at hne
  rw [r4, List.append_assoc pre, readSection_parts h dek mac nonce pre eh _ body' post s wf hpre leh hx ltbl hlen]
  by_cases hck : Rom.checkMacs c mac (Spec.macCount s) (Spec.cmdsLen s.cmds / 16 / Spec.macCount s * 16)
      (hmacEntries c mac (Spec.macCount s) (Spec.cmdsLen s.cmds / 16 / Spec.macCount s * 16) ec) body' = true
  · exact Or.inr (checkMacs_forgery h mac _ _ ec body' e2 (by rw [hlen, lec]) hne hck)
  · exact Or.inl (if_neg hck)

theorem readSection_header_tampered (h : CryptoLaws c) (dek mac nonce pre post : Bytes) (s : Section)
    (wf : Spec.WFsection s) (eh' : Bytes) (hlen : eh'.length = 16)
    (hne : eh' ≠ (buildSection c dek mac nonce (nonceCtr nonce + pre.length / 16) s).take 16) :
    Rom.readSection c dek mac nonce
        (pre ++ eh' ++ (buildSection c dek mac nonce (nonceCtr nonce + pre.length / 16) s).drop 16 ++ post)
        pre.length = .error .badSectionMac ∨ Break c := by
  obtain ⟨eh, ec, hS, leh, -, -, -⟩ := buildSection_parts h dek mac nonce (nonceCtr nonce + pre.length / 16) s wf
  have lhm := hmacSha_length h mac eh
  generalize hmacEntries c mac (Spec.macCount s) (Spec.cmdsLen s.cmds / 16 / Spec.macCount s * 16) ec = tbl at hS
  obtain ⟨r1, r2, -, -, -⟩ := section_regions hS leh lhm rfl
  rw [r1] at hne
  rw [r2]
  by_cases he : hmac c .sha256 mac eh = hmac c .sha256 mac eh'
  · exact Or.inr (Break.hmacForgery .sha256 mac eh eh' (Ne.symm hne) he)
  · left
    have := readSection_hdrMac_bad (c := c) dek mac nonce pre eh' (hmac c .sha256 mac eh) (tbl ++ ec ++ post) hlen lhm he
    simpa only [List.append_assoc] using this

/-- header MAC / MAC table replaced (no crypto assumption: the ROM recomputes and compares) -/
theorem readSection_macs_tampered (h : CryptoLaws c) (dek mac nonce pre post : Bytes) (s : Section)
    (wf : Spec.WFsection s) (hpre : pre.length % 16 = 0) (macs' : Bytes)
    (hlen : macs'.length = 32 + 32 * Spec.macCount s)
    (hne : macs' ≠ ((buildSection c dek mac nonce (nonceCtr nonce + pre.length / 16) s).drop 16).take (32 + 32 * Spec.macCount s)) :
    Rom.readSection c dek mac nonce
        (pre ++ (buildSection c dek mac nonce (nonceCtr nonce + pre.length / 16) s).take 16 ++ macs' ++
          (buildSection c dek mac nonce (nonceCtr nonce + pre.length / 16) s).drop (48 + 32 * Spec.macCount s) ++ post)
        pre.length = .error .badSectionMac := by
  obtain ⟨eh, ec, hS, leh, lec, hx, -⟩ := buildSection_parts h dek mac nonce (nonceCtr nonce + pre.length / 16) s wf
  have ltbl := hmacEntries_length h mac (Spec.macCount s) (Spec.cmdsLen s.cmds / 16 / Spec.macCount s * 16) ec
  obtain ⟨r1, -, r3, -, r5⟩ := section_regions hS leh (hmacSha_length h mac eh) ltbl
  rw [r3] at hne
  rw [r1, r5]
  obtain ⟨m1, m2, rfl, lt, ld⟩ : ∃ m1 m2 : Bytes, macs' = m1 ++ m2 ∧ m1.length = 32 ∧ m2.length = 32 * Spec.macCount s :=
    ⟨macs'.take 32, macs'.drop 32, (List.take_append_drop 32 macs').symm, by rw [List.length_take]; omega,
      by rw [List.length_drop]; omega⟩
  by_cases he : m1 = hmac c .sha256 mac eh
  · subst he
    have hck : ¬ Rom.checkMacs c mac (Spec.macCount s) (Spec.cmdsLen s.cmds / 16 / Spec.macCount s * 16) m2 ec = true :=
      fun hb => hne (by rw [(checkMacs_iff h _ _ _ _ _ ld).1 hb])
    have := readSection_parts h dek mac nonce pre eh m2 ec post s wf hpre leh hx ld lec
    rw [if_neg hck] at this
    simpa only [List.append_assoc] using this
  · have := readSection_hdrMac_bad (c := c) dek mac nonce pre eh m1 (m2 ++ ec ++ post) leh lt he
    simpa only [List.append_assoc] using this

theorem sectionsLen_cons (s : Section) (rest : List Section) :
    Spec.sectionsLen (s :: rest) = Spec.sectionLen s + Spec.sectionsLen rest := by
  simp only [Spec.sectionsLen, List.map_cons, List.sum_cons]

theorem sectionsLen_facts (ss : List Section) (wf : ∀ s ∈ ss, Spec.WFsection s) :
    Spec.sectionsLen ss % 16 = 0 ∧ ss.length * 96 ≤ Spec.sectionsLen ss := by
  induction ss with
  | nil => exact ⟨rfl, Nat.le_refl 0⟩
  | cons s rest ih =>
    have := ih (fun x hx => wf x (List.mem_cons_of_mem _ hx))
    have := rawSize_eq_sectionLen s (wf s List.mem_cons_self)
    rw [sectionsLen_cons, List.length_cons]
    omega

/-- the first of a list of sections built behind `pre`: the others are built behind `pre ++ b` with the counter of that offset -/
theorem buildSections_cons (h : CryptoLaws c) (dek mac nonce pre : Bytes) (s : Section) (rest : List Section)
    (wfs : Spec.WFsection s) :
    (pre ++ buildSection c dek mac nonce (nonceCtr nonce + pre.length / 16) s).length = pre.length + Spec.sectionLen s ∧
    buildSections c dek mac nonce (nonceCtr nonce + pre.length / 16) (s :: rest) =
      buildSection c dek mac nonce (nonceCtr nonce + pre.length / 16) s ++
        buildSections c dek mac nonce
          (nonceCtr nonce + (pre ++ buildSection c dek mac nonce (nonceCtr nonce + pre.length / 16) s).length / 16) rest := by
  have hl : (buildSection c dek mac nonce (nonceCtr nonce + pre.length / 16) s).length = Spec.sectionLen s :=
    buildSectionWith_length h _ _ _ _ _ s wfs
  have r2 := (rawSize_eq_sectionLen s wfs).2.1
  refine ⟨by rw [List.length_append, hl], ?_⟩
  rw [buildSections, List.length_append, hl,
    show (pre.length + Spec.sectionLen s) / 16 = pre.length / 16 + Spec.sectionLen s / 16 by omega, Nat.add_assoc]

theorem buildSections_length (h : CryptoLaws c) (dek mac nonce : Bytes) (ss : List Section)
    (wf : ∀ s ∈ ss, Spec.WFsection s) (ctr : Nat) :
    (buildSections c dek mac nonce ctr ss).length = Spec.sectionsLen ss := by
  induction ss generalizing ctr with
  | nil => rfl
  | cons s rest ih =>
    rw [buildSections, List.length_append, ih (fun x hx => wf x (List.mem_cons_of_mem _ hx)), sectionsLen_cons]
    exact congrArg (· + _) (buildSectionWith_length h _ _ _ _ _ s (wf s List.mem_cons_self))

theorem rawSize_sum_sections (ss : List Section) (wf : ∀ s ∈ ss, Spec.WFsection s) :
    (ss.map Section.rawSize).sum = Spec.sectionsLen ss ∧ maxMacCount ss = (ss.map Spec.macCount).sum := by
  induction ss with
  | nil => exact ⟨rfl, rfl⟩
  | cons s rest ih =>
    have wfs := wf s List.mem_cons_self
    have ⟨i1, i2⟩ := ih (fun x hx => wf x (List.mem_cons_of_mem _ hx))
    unfold maxMacCount at *
    simp only [List.map_cons, List.sum_cons, sectionsLen_cons, i1, i2, (rawSize_eq_sectionLen s wfs).1, (effHmacCount_eq s wfs).1,
      and_self]

/-- sections are read back one after the other up to `stop`, the counter running on across sections -/
theorem readSections_buildSections (h : CryptoLaws c) (dek mac nonce post : Bytes) (ss : List Section)
    (wf : ∀ s ∈ ss, Spec.WFsection s) (pre : Bytes) (hpre : pre.length % 16 = 0) (fuel : Nat) (hf : ss.length ≤ fuel) :
    Rom.readSections c dek mac nonce
        (pre ++ buildSections c dek mac nonce (nonceCtr nonce + pre.length / 16) ss ++ post)
        (pre.length + Spec.sectionsLen ss) fuel pre.length
      = .ok (ss.map Spec.expectedSection) := by
  induction ss generalizing pre fuel with
  | nil => cases fuel <;> simp [Rom.readSections, Spec.sectionsLen]
  | cons s rest ih =>
    have wfs := wf s List.mem_cons_self
    have ⟨_, r2, r3⟩ := rawSize_eq_sectionLen s wfs
    obtain ⟨hl, hB⟩ := buildSections_cons h dek mac nonce pre s rest wfs
    cases fuel with
    | zero => simp at hf
    | succ f =>
      have hrs := readSection_buildSection h dek mac nonce pre
        (buildSections c dek mac nonce
          (nonceCtr nonce + (pre ++ buildSection c dek mac nonce (nonceCtr nonce + pre.length / 16) s).length / 16) rest ++ post)
        s wfs hpre
      have hih := ih (fun x hx => wf x (List.mem_cons_of_mem _ hx))
        (pre ++ buildSection c dek mac nonce (nonceCtr nonce + pre.length / 16) s) (by rw [hl]; omega) f (Nat.le_of_succ_le_succ hf)
      rw [hB, ← List.append_assoc pre, List.append_assoc _ _ post, sectionsLen_cons, Rom.readSections, if_neg (by omega),
        if_neg (by omega), hrs]
      simp only []
      rw [← List.append_assoc, ← Nat.add_assoc, ← hl, hih]
      rfl

end SpsdkVerif.Sb2
