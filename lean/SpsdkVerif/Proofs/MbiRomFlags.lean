/-
C02, what every family shares on the ROM side (Spec/MbiRom.lean).  The flag fields as the ROM spec reads them equal the getters
GENERATED from the source, by the `*_shape` lemmas of Proofs/MbiBase.lean and not by unfolding, so a rewrite of a getter in the
source does not break the ROM proofs.  `romCheck` is three checks of the IVT (`ivtOk`), then a dispatch on the type bits
(`romByType`); an image with the IVT words of a built image (`BuiltIvt`) passes the first and is dispatched by the type of its
class, also after a change outside the layout words: the common start of every acceptance and every tamper proof.
-/
import SpsdkVerif.Proofs.MbiBase
import SpsdkVerif.Proofs.MbiRomDefs
import SpsdkVerif.Spec.MbiRom

namespace SpsdkVerif.Mbi
open SpsdkVerif SpsdkVerif.Misc SpsdkVerif.Crypto

section flags
open SpsdkVerif.Generated.IvtConsts

theorem rom_type (f : Nat) : f &&& Spec.MbiRom.maskImageType = getImageType f := by rw [getImageType_shape]; rfl
theorem rom_tz (f : Nat) : f >>> Spec.MbiRom.shiftTzType &&& Spec.MbiRom.maskTzType = getTzType f := by rw [getTzType_shape]; rfl
theorem rom_sub (f : Nat) : f >>> Spec.MbiRom.shiftSubType &&& Spec.MbiRom.maskSubType = getSubType f := by rw [getSubType_shape]; rfl
theorem rom_ks (f : Nat) : (f &&& Spec.MbiRom.flagKeyStore != 0) = getKeyStorePresented f := by rw [getKeyStorePresented_shape]; rfl
theorem rom_hwkey (f : Nat) : (f &&& Spec.MbiRom.flagHwUserKey != 0) = getHwKeyEnabled f := by rw [getHwKeyEnabled_shape]; rfl
theorem rom_reloc (f : Nat) : (f &&& Spec.MbiRom.flagRelocTable != 0) = getAppTablePresented f := by rw [getAppTablePresented_shape]; rfl

/-- companion of `getTzType_flagsOf` (Proofs/MbiBase.lean) -/
theorem getImageType_flagsOf {co : CryptoOps} {env : Env} {c : Cls} {cfg : Cfg} {signer : Signer}
    (h : Hyp co env c cfg signer) : getImageType (flagsOf c cfg) = c.imageType :=
  (flags_fields c.imageType cfg.tz.tag cfg.subType cfg.imageVersion _ c.hasTrustZone _ _ _ _ _ _ _ _ _ _
    (classWF_imageType_le h.hcls) (tzTag_le cfg.tz) (cfgWF_subType_le h.hcfg) (cfgWF_imageVersion_le h.hcfg)).1

theorem signedTypeOk_cases {c : Cls} (ht : signedTypeOk c = true) (hs : c.signKind = .rsa ∨ c.signKind = .ecc) :
    if c.family = some .encrypted then c.imageType = 3 else c.imageType = 1 ∨ c.imageType = 4 ∨ c.imageType = 8 := by
  unfold signedTypeOk at ht
  rcases hs with hs | hs <;> split <;> simp_all [or_assoc]

end flags

section monad
open SpsdkVerif.Spec.MbiRom (need Rom)

theorem need_ok {b : Bool} {w : String} (h : b = true) : need b w = .ok () := by rw [need, if_pos h]

theorem need_bind_ok {α : Type} {b : Bool} {w : String} {f : Unit → Rom α} {a : α} :
    (need b w >>= f) = .ok a ↔ b = true ∧ f () = .ok a := by
  cases b <;> simp [need, bind, Except.bind]

theorem ok_bind {α β : Type} (x : β) (f : β → Rom α) : ((Except.ok x : Rom β) >>= f) = f x := rfl

/-- also matches `need … >>= …`: next to it in a simp set write `↓need_bind_ok` -/
theorem bind_ok {α β : Type} {x : Rom α} {f : α → Rom β} {b : β} : (x >>= f) = .ok b ↔ ∃ r, x = .ok r ∧ f r = .ok b := by
  cases x <;> simp [bind, Except.bind]

end monad

theorem spec_rd32_eq (b : Bytes) (off : Nat) : Spec.MbiRom.rd32 b off = rd32 b off := rfl
theorem spec_sub_eq (b : Bytes) (i j : Nat) : Spec.MbiRom.sub b i j = slice b i j := rfl

theorem rd32_set (l : Bytes) (i off : Nat) (y : UInt8) (h : i < off ∨ off + 4 ≤ i) : rd32 (l.set i y) off = rd32 l off := by
  unfold rd32
  rcases h with h | h
  · rw [List.drop_set_of_lt h]
  · rw [List.drop_set, if_neg (by omega), List.take_set_of_le (by omega)]

theorem slice_set (l : Bytes) (i a b : Nat) (y : UInt8) (h : i < a ∨ b ≤ i) : slice (l.set i y) a b = slice l a b := by
  unfold slice
  rcases h with h | h
  · rw [List.take_set, List.drop_set_of_lt h]
  · rw [List.take_set_of_le h]

theorem set_ne (l : Bytes) (i : Nat) (y : UInt8) (hi : i < l.length) (h : l[i]? ≠ some y) : l ≠ l.set i y :=
  fun e => h (e ▸ List.getElem?_set_self hi)

theorem slice_slice (b : Bytes) (a c i k : Nat) (h : a + k ≤ c) : slice (slice b a c) i k = slice b (a + i) (a + k) := by
  unfold slice
  rw [List.take_drop, List.take_take, Nat.min_eq_left h, List.drop_drop]

theorem slice_append_left (a b : Bytes) (i j : Nat) (h : j ≤ a.length) : slice (a ++ b) i j = slice a i j := by
  unfold slice
  rw [List.take_append_of_le_length h]

section check
open SpsdkVerif.Spec.MbiRom

/-- the dispatch of `romCheck` on the type bits `t` of the flag word -/
def romByType (co : CryptoOps) (env : RomEnv) (img : Bytes) (t : Nat) : Rom Accepted :=
  if t == typePlain then do
    need (Spec.MbiRom.rd32 img offCrcOrCert == 0) "plain image with a CRC / certificate word"
    pure {}
  else if t == typeCrcRam ∨ t == typeCrcXip then romCrc img
  else if t == typeSignedRam ∨ t == typeSignedXip ∨ t == typeSignedXipNxp then
    match env.certKind with
    | .v21 => romSignedV21 co env img
    | .v1 =>
      if env.hmacHeader then do
        let (body, strip, _) ← romHmac co env img
        romSignedV1 co env body strip
      else romSignedV1 co env img 0
    | .none => .error "device without certificate blocks"
  else if t == typeEncryptedRam then do
    need (env.certKind == .v1) "device without certificate block v1"
    let (body, strip, ks) ← romHmac co env img
    romEncrypted co env body strip ks
  else .error "unknown image type"

/-- the checks of `romCheck` on the IVT alone: present, total-length word, TrustZone type -/
def ivtOk (env : RomEnv) (img : Bytes) : Prop :=
  ivtSize ≤ img.length ∧ Spec.MbiRom.rd32 img offTotalLength = (if env.zeroTotalLength then 0 else img.length)
    ∧ (Spec.MbiRom.rd32 img offFlags >>> shiftTzType) &&& maskTzType ≤ 2

theorem romCheck_ok_iff {co : CryptoOps} {env : RomEnv} {img : Bytes} {a : Accepted} :
    romCheck co env img = .ok a
      ↔ ivtOk env img ∧ romByType co env img (Spec.MbiRom.rd32 img offFlags &&& maskImageType) = .ok a := by
  have e : romCheck co env img = (need (img.length ≥ ivtSize) "no IVT" >>= fun _ =>
      need (if env.zeroTotalLength then Spec.MbiRom.rd32 img offTotalLength == 0
        else Spec.MbiRom.rd32 img offTotalLength == img.length) "total length word" >>= fun _ =>
      need (decide ((Spec.MbiRom.rd32 img offFlags >>> shiftTzType) &&& maskTzType == tzEnabled
        ∨ (Spec.MbiRom.rd32 img offFlags >>> shiftTzType) &&& maskTzType == tzCustom
        ∨ (Spec.MbiRom.rd32 img offFlags >>> shiftTzType) &&& maskTzType == tzDisabled)) "TrustZone type" >>= fun _ =>
      romByType co env img (Spec.MbiRom.rd32 img offFlags &&& maskImageType)) := rfl
  rw [e]
  simp only [need_bind_ok, ivtOk, and_assoc, decide_eq_true_eq, beq_iff_eq, tzEnabled, tzCustom, tzDisabled]
  refine and_congr_right fun _ => and_congr ?_ (and_congr_left' ?_)
  · cases env.zeroTotalLength <;> simp
  · omega

variable {co : CryptoOps} {menv : Env} {c : Cls} {cfg : Cfg} {signer : Signer} {env : RomEnv} {img : Bytes} {t : Nat}

theorem romByType_plain : romByType co env img 0
    = (need (Spec.MbiRom.rd32 img offCrcOrCert == 0) "plain image with a CRC / certificate word" >>= fun _ => pure {}) := rfl

theorem romByType_crc (ht : t = 2 ∨ t = 5) : romByType co env img t = romCrc img := by
  rcases ht with rfl | rfl <;> rfl

theorem romByType_v21 (ht : t = 1 ∨ t = 4 ∨ t = 8) (hk : env.certKind = .v21) :
    romByType co env img t = romSignedV21 co env img := by
  rcases ht with rfl | rfl | rfl <;> simp only [romByType, hk] <;> rfl

theorem romByType_v1 (ht : t = 1 ∨ t = 4 ∨ t = 8) (hk : env.certKind = .v1) :
    romByType co env img t = (if env.hmacHeader then romHmac co env img >>= fun v => romSignedV1 co env v.1 v.2.1
      else romSignedV1 co env img 0) := by
  rcases ht with rfl | rfl | rfl <;> simp only [romByType, hk] <;> rfl

theorem romByType_enc (hk : env.certKind = .v1) :
    romByType co env img 3 = romHmac co env img >>= fun v => romEncrypted co env v.1 v.2.1 v.2.2 := by
  simp only [romByType, hk]; rfl

/-- `img` carries the IVT of an image built for `c` and `cfg`: long enough, flag word, total-length word -/
structure BuiltIvt (c : Cls) (cfg : Cfg) (img : Bytes) : Prop where
  len : ivtSize ≤ img.length
  flags : Spec.MbiRom.rd32 img offFlags = flagsOf c cfg
  total : Spec.MbiRom.rd32 img offTotalLength = if c.zeroTotalLength then 0 else img.length

theorem BuiltIvt.set {img : Bytes} (b : BuiltIvt c cfg img) {i : Nat} (hi : ¬ layoutWord i) (y : UInt8) :
    BuiltIvt c cfg (img.set i y) := by
  have hi : i < 0x20 ∨ 0x2C ≤ i := by unfold layoutWord at hi; omega
  refine ⟨by rw [List.length_set]; exact b.len, ?_, ?_⟩
  · exact (rd32_set img i _ y (by simp only [offFlags]; omega)).trans b.flags
  · rw [List.length_set]
    exact (rd32_set img i _ y (by simp only [offTotalLength]; omega)).trans b.total

theorem romCheck_built (h : Hyp co menv c cfg signer) {img : Bytes} (b : BuiltIvt c cfg img) (rkth : Bytes)
    (uk : Option Bytes) {a : Accepted} :
    romCheck co (romEnvOf c rkth uk) img = .ok a ↔ romByType co (romEnvOf c rkth uk) img c.imageType = .ok a := by
  have hiv : ivtOk (romEnvOf c rkth uk) img := by
    refine ⟨b.len, b.total, ?_⟩
    rw [b.flags, rom_tz, getTzType_flagsOf h]
    split
    · cases cfg.tz <;> simp only [TzCfg.tag] <;> decide
    · omega
  rw [romCheck_ok_iff, b.flags, rom_type, getImageType_flagsOf h]
  exact and_iff_right hiv

end check

end SpsdkVerif.Mbi
