/-
Helper lemmas tying the GENERATED geometry part of C16 (Generated/BinImageGeo.lean, re-read from
spsdk/utils/images.py on every run by tools/extract/gen_C16.py) to the hand model (Model/BinImage.lean).

Proof style (tools/ROBUSTNESS_BRIEF.md): nothing here depends on the syntactic shape of a generated body.
Decision functions are compared as propositions (`Bool.eq_iff_iff`, `simp` to arithmetic, `omega`), so
`not (a < b or c > d)` and `a >= b and c <= d` are the same to them; reductions over the children are used
only through "the result is an element of the list and bounds every element" (`maxOf_spec` / `minOf_spec`)
and a membership characterisation of whatever list expression the generator emitted; `align` is used only
through C20's contract (`C20.align_spec`), never through its body.
-/
import SpsdkVerif.Generated.BinImageGeo
import SpsdkVerif.Model.BinImage
import SpsdkVerif.Proofs.BinImage
import SpsdkVerif.Properties.C20

set_option linter.unusedSimpArgs false

namespace SpsdkVerif.BinImg
open SpsdkVerif SpsdkVerif.Misc SpsdkVerif.GeoComb SpsdkVerif.Generated.BinImageGeo

/-- `bool(self.binary)` -/
def binTruthy : Option Bytes → Bool
  | some b => !b.isEmpty
  | none => false
/-- `len(self.binary)` where it is evaluated (only behind `self.binary and …` / `… if self.binary else …`) -/
def rawLen : Option Bytes → Nat
  | some b => b.length
  | none => 0
/-- (offset, length) of every child, what the generated functions take for `self.sub_images` -/
def kidsOf (l : List Img) : List (Int × Int) := l.map (fun c => ((c.offset : Int), (c.len : Int)))

theorem vChildErr_eq (b l pl : Nat) : vChildErr b l pl = decide ((b : Int) + l - 1 ≥ pl) := by
  rw [Bool.eq_iff_iff]; simp [vChildErr] <;> omega

theorem vSiblingErr_eq (b l sb sl : Nat) :
    vSiblingErr b l sb sl = !(decide (((b : Int) + l - 1 < sb) ∨ ((b : Int) > sb + sl - 1))) := by
  rw [Bool.eq_iff_iff]; simp [vSiblingErr] <;> omega

theorem genInsertBefore_eq (a b : Nat) : genInsertBefore a b = decide (a < b) := by
  rw [Bool.eq_iff_iff]; simp [genInsertBefore] <;> omega

theorem binLen_cast (bin : Option Bytes) : (binLen bin : Int) = if binTruthy bin then (rawLen bin : Int) else 0 := by
  cases bin with
  | none => rfl
  | some b => cases b <;> simp [binLen, binTruthy, rawLen]

theorem vSelfErr_eq (off len : Nat) (bin : Option Bytes) :
    vSelfErr off len (binTruthy bin) (rawLen bin) = decide (binLen bin > len) := by
  have h := binLen_cast bin
  rw [Bool.eq_iff_iff]
  cases ht : binTruthy bin <;> simp [vSelfErr, ht] at h ⊢ <;> omega

theorem foldl_max_spec (l : List Int) : ∀ x, (l.foldl max x = x ∨ l.foldl max x ∈ l) ∧ x ≤ l.foldl max x ∧ ∀ y ∈ l, y ≤ l.foldl max x := by
  induction l with
  | nil => intro x; simp
  | cons a as ih =>
    intro x
    obtain ⟨h1, h2, h3⟩ := ih (max x a)
    simp only [List.foldl_cons, List.mem_cons]
    refine ⟨?_, by omega, ?_⟩
    · rcases h1 with h1 | h1
      · rw [h1]
        rcases Int.le_total x a with h | h
        · right; left; omega
        · left; omega
      · right; right; exact h1
    · intro y hy
      rcases hy with rfl | hy
      · omega
      · exact h3 y hy

theorem maxOf_spec (l : List Int) (h : l ≠ []) : ∃ m, maxOf l = some m ∧ m ∈ l ∧ ∀ x ∈ l, x ≤ m := by
  cases l with
  | nil => exact absurd rfl h
  | cons x xs =>
    obtain ⟨h1, h2, h3⟩ := foldl_max_spec xs x
    refine ⟨_, rfl, ?_, ?_⟩
    · rcases h1 with h1 | h1
      · rw [h1]; simp
      · exact List.mem_cons_of_mem _ h1
    · intro y hy
      rw [List.mem_cons] at hy
      rcases hy with rfl | hy
      · exact h2
      · exact h3 y hy

theorem foldl_min_spec (l : List Int) : ∀ x, (l.foldl min x = x ∨ l.foldl min x ∈ l) ∧ l.foldl min x ≤ x ∧ ∀ y ∈ l, l.foldl min x ≤ y := by
  induction l with
  | nil => intro x; simp
  | cons a as ih =>
    intro x
    obtain ⟨h1, h2, h3⟩ := ih (min x a)
    simp only [List.foldl_cons, List.mem_cons]
    refine ⟨?_, by omega, ?_⟩
    · rcases h1 with h1 | h1
      · rw [h1]
        rcases Int.le_total x a with h | h
        · left; omega
        · right; left; omega
      · right; right; exact h1
    · intro y hy
      rcases hy with rfl | hy
      · omega
      · exact h3 y hy

theorem minOf_spec (l : List Int) (h : l ≠ []) : ∃ m, minOf l = some m ∧ m ∈ l ∧ ∀ x ∈ l, m ≤ x := by
  cases l with
  | nil => exact absurd rfl h
  | cons x xs =>
    obtain ⟨h1, h2, h3⟩ := foldl_min_spec xs x
    refine ⟨_, rfl, ?_, ?_⟩
    · rcases h1 with h1 | h1
      · rw [h1]; simp
      · exact List.mem_cons_of_mem _ h1
    · intro y hy
      rw [List.mem_cons] at hy
      rcases hy with rfl | hy
      · exact h2
      · exact h3 y hy

theorem childrenEnd_ge (ch : List Img) : ∀ c ∈ ch, c.offset + c.len ≤ childrenEnd ch := by
  induction ch with
  | nil => intro c hc; cases hc
  | cons x xs ih =>
    intro c hc
    rw [childrenEnd]
    rw [List.mem_cons] at hc
    rcases hc with rfl | hc
    · omega
    · have := ih c hc; omega

theorem childrenEnd_attained (ch : List Img) : childrenEnd ch = 0 ∨ ∃ c ∈ ch, childrenEnd ch = c.offset + c.len := by
  induction ch with
  | nil => left; rfl
  | cons x xs ih =>
    rw [childrenEnd]
    rcases Nat.le_total (x.offset + x.len) (childrenEnd xs) with h | h
    · rw [Nat.max_eq_right h]
      rcases ih with ih | ⟨c, hc, he⟩
      · right; exact ⟨x, by simp, by omega⟩
      · right; exact ⟨c, by simp [hc], he⟩
    · rw [Nat.max_eq_left h]
      right; exact ⟨x, by simp, rfl⟩

/-- two multiples of `a` in the same window of width `a` are equal -/
theorem mult_unique (a n r1 r2 : Int) (ha : 0 < a) (h1 : a ∣ r1) (h2 : a ∣ r2)
    (b1 : n ≤ r1 ∧ r1 < n + a) (b2 : n ≤ r2 ∧ r2 < n + a) : r1 = r2 := by
  obtain ⟨k1, rfl⟩ := h1
  obtain ⟨k2, rfl⟩ := h2
  have : k1 = k2 := by
    rcases Int.lt_trichotomy k1 k2 with h | h | h
    · have : a * (k1 + 1) ≤ a * k2 := Int.mul_le_mul_of_nonneg_left (by omega) (by omega)
      rw [Int.mul_add] at this; omega
    · exact h
    · have : a * (k2 + 1) ≤ a * k1 := Int.mul_le_mul_of_nonneg_left (by omega) (by omega)
      rw [Int.mul_add] at this; omega
  rw [this]

theorem align_eq_alignNat (n a : Nat) (ha : 0 < a) : Generated.PyFuns.align n a = .ok (alignNat n a : Int) := by
  obtain ⟨r, hr, hd, h1, h2⟩ := C20.align_spec (n : Int) (a : Int) (by omega) (by omega)
  rw [hr]
  obtain ⟨s1, s2, s3⟩ := alignNat_spec n a ha
  have hdvd : (a : Int) ∣ (alignNat n a : Int) := by
    exact Int.natCast_dvd_natCast.mpr (Nat.dvd_of_mod_eq_zero s1)
  congr 1
  exact mult_unique a n r _ (by omega) hd hdvd ⟨h1, h2⟩ ⟨by omega, by omega⟩

/-- the `size` setter and the constructor, as the source has them now, both store the size rounded up to the alignment -/
theorem genSetSize_eq (n a : Nat) (ha : 0 < a) : genSetSize n a = .ok (alignNat n a : Int) := by
  unfold genSetSize; rw [align_eq_alignNat n a ha]

theorem genCtorSize_eq (n a : Nat) (ha : 0 < a) : genCtorSize n a = .ok (alignNat n a : Int) := by
  unfold genCtorSize; rw [align_eq_alignNat n a ha]

/-- `__len__` as the source computes it now is the model's `len` -/
theorem genLen_eq (i : Img) (ha : 0 < i.alignment) :
    genLen i.size (binTruthy i.binary) (rawLen i.binary) i.alignment (kidsOf i.children) = .ok (i.len : Int) := by
  cases i with
  | mk s o al bin pat ch =>
    simp only [Img.size, Img.binary, Img.alignment, Img.children] at ha ⊢
    rw [Img.len]
    unfold genLen
    by_cases hs : s = 0
    · subst hs
      simp only [Int.natCast_zero, ne_eq, not_true_eq_false, decide_false, Bool.false_eq_true, if_false]
      -- the maximum, whatever scalars the generator collected in front of the per-child list (the own binary's length, possibly
      -- literal zeros from a `default=0` / an initial value) and however it wrote the per-child expression
      generalize hown : (if binTruthy bin = true then (rawLen bin : Int) else 0) = own
      have hb : (binLen bin : Int) = own := by rw [← hown]; exact binLen_cast bin
      have key : ∀ (S P : List Int), (∀ x ∈ S, x = own ∨ x = 0) → own ∈ S →
          (∀ x, x ∈ P ↔ ∃ c ∈ ch, x = (c.offset : Int) + c.len) →
          maxOf (S ++ P) = some ((max (binLen bin) (childrenEnd ch) : Nat) : Int) := by
        intro S P hS hown' hP
        obtain ⟨m, hm, hmem, hub⟩ := maxOf_spec (S ++ P) (by intro h; rw [List.append_eq_nil_iff] at h; rw [h.1] at hown'; cases hown')
        rw [hm]; congr 1
        have h1 : (binLen bin : Int) ≤ m := by rw [hb]; exact hub _ (List.mem_append_left _ hown')
        apply Int.le_antisymm
        · rcases List.mem_append.mp hmem with hmem | hmem
          · rcases hS m hmem with h | h <;> omega
          · obtain ⟨c, hc, hmem⟩ := (hP m).mp hmem
            have := childrenEnd_ge ch c hc
            omega
        · have h2 : (childrenEnd ch : Int) ≤ m := by
            rcases childrenEnd_attained ch with h0 | ⟨c, hc, he⟩
            · omega
            · rw [he]
              have := hub ((c.offset : Int) + c.len) (List.mem_append_right _ ((hP _).mpr ⟨c, hc, rfl⟩))
              omega
          omega
      rw [key _ _
        (by intro x hx; simp only [List.mem_cons, List.not_mem_nil, or_false] at hx; omega)
        (by simp only [List.mem_cons, List.not_mem_nil, or_false, true_or, or_true])
        (by
          intro x
          simp only [List.mem_map, kidsOf, List.map_map, Function.comp]
          constructor
          · rintro ⟨c, hc, h⟩; exact ⟨c, hc, h.symm⟩
          · rintro ⟨c, hc, h⟩; exact ⟨c, hc, h.symm⟩)]
      simp only [ofOption]
      rw [align_eq_alignNat _ _ ha]
    · have : ((s : Int) ≠ 0) := by omega
      simp [hs]

theorem floorTrueDiv_nat (x a : Nat) : floorTrueDiv x a = ((x / a : Nat) : Int) := by
  unfold floorTrueDiv
  rw [Int.fdiv_eq_ediv_of_nonneg _ (by omega)]
  exact (Int.natCast_ediv x a).symm

theorem ceilTrueDiv_nat (x a : Nat) (ha : 0 < a) : ceilTrueDiv x a * a = (alignNat x a : Int) := by
  -- the least multiple of `a` not below `x`, characterised rather than computed
  have hpos : (0 : Int) < a := by omega
  obtain ⟨s1, s2, s3⟩ := alignNat_spec x a ha
  have hdvd : (a : Int) ∣ (alignNat x a : Int) := Int.natCast_dvd_natCast.mpr (Nat.dvd_of_mod_eq_zero s1)
  unfold ceilTrueDiv
  have e := Int.emod_add_mul_ediv (-(x : Int)) a
  have l := Int.emod_lt_of_pos (-(x : Int)) hpos
  have g := Int.emod_nonneg (-(x : Int)) (Int.ne_of_gt hpos)
  rw [Int.fdiv_eq_ediv_of_nonneg _ (Int.le_of_lt hpos)]
  apply mult_unique a x _ _ hpos (Int.dvd_mul_left _ _) hdvd
  · rw [Int.neg_mul, Int.mul_comm]; constructor <;> omega
  · constructor <;> omega

theorem genAlignedStart_eq (abs al : Nat) : genAlignedStart abs al = ((abs / al * al : Nat) : Int) := by
  unfold genAlignedStart
  rw [floorTrueDiv_nat]
  simp

theorem genAlignedLength_eq (abs len al : Nat) (ha : 0 < al) :
    genAlignedLength abs len al = (alignNat (abs + len) al : Int) - ((abs / al * al : Nat) : Int) := by
  unfold genAlignedLength
  have h := ceilTrueDiv_nat (abs + len) al ha
  rw [Int.natCast_add] at h
  rw [h, floorTrueDiv_nat]
  simp

theorem genMinOffset_spec (kids : List (Int × Int)) (h : kids ≠ []) :
    ∃ m, genMinOffset kids = .ok m ∧ (∃ k ∈ kids, k.1 = m) ∧ ∀ k ∈ kids, m ≤ k.1 := by
  have key : ∀ (L : List Int), (∀ x, x ∈ L ↔ ∃ k ∈ kids, k.1 = x) → ∀ mo, minOf L = mo →
      ∃ m, mo = some m ∧ (∃ k ∈ kids, k.1 = m) ∧ ∀ k ∈ kids, m ≤ k.1 := by
    intro L hchar mo hmo
    have hne : L ≠ [] := by
      obtain ⟨k, hk⟩ := List.exists_mem_of_ne_nil kids h
      intro hn
      have := (hchar k.1).mpr ⟨k, hk, rfl⟩
      rw [hn] at this; cases this
    obtain ⟨m, hm, hmem, hlb⟩ := minOf_spec L hne
    exact ⟨m, by rw [← hmo, hm], (hchar m).mp hmem, fun k hk => hlb _ ((hchar _).mpr ⟨k, hk, rfl⟩)⟩
  unfold genMinOffset
  generalize hL : minOf _ = mo
  obtain ⟨m, rfl, h1, h2⟩ := key _ (by intro x; simp only [List.mem_map, List.mem_append, List.not_mem_nil, false_or, or_false]) _ hL
  exact ⟨m, by simp [ofOption], h1, h2⟩

theorem genExportFast_eq (bin : Option Bytes) (L size n : Nat) :
    genExportFast (binTruthy bin) (rawLen bin) L size n = (binTruthy bin && decide (L = rawLen bin) && decide (n = 0)) := by
  rw [Bool.eq_iff_iff]; simp [genExportFast] <;> omega

end SpsdkVerif.BinImg
