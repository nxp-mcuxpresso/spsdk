/-
The DER `ECDSA-Sig-Value` codec (round trip, lengths in closed form), `ECDSASignature` on raw and DER signatures,
`verify_signature`'s candidate list and `SignatureProvider.get_signature`.
-/
import SpsdkVerif.Proofs.KeysBase

namespace SpsdkVerif.Keys
open SpsdkVerif SpsdkVerif.Misc SpsdkVerif.Generated

theorem beEnc_head (k v : Nat) : (beEnc (k + 1) v).head? = some (UInt8.ofNat (v / 256 ^ k % 256)) := by
  induction k generalizing v with
  | zero => simp [beEnc]
  | succ k ih =>
    rw [beEnc, List.head?_append, ih (v / 256)]
    simp [Nat.div_div_eq_div_mul, Nat.pow_succ, Nat.mul_comm]

theorem beDec_zero_cons (l : Bytes) : beDec (0 :: l) = beDec l := by
  simp [beDec]

theorem beDec_singleton (b : UInt8) : beDec [b] = b.toNat := by
  simp [beDec]

theorem minBE_zero : minBE 0 = [] := rfl

theorem minBE_length (n : Nat) : (minBE n).length = byteLen n := by simp [minBE, beEnc_length']

theorem beDec_minBE (n : Nat) : beDec (minBE n) = n := beDec_beEnc _ _ (lt_pow_byteLen n)

theorem minBE_pos (n : Nat) (h : 0 < n) :
    ∃ b rest, minBE n = b :: rest ∧ 0 < b.toNat ∧ b.toNat = n / 256 ^ (byteLen n - 1) := by
  have hk := byteLen_pos n (by omega)
  obtain ⟨k, hk'⟩ := Nat.exists_eq_succ_of_ne_zero (by omega : byteLen n ≠ 0)
  have hh := beEnc_head k n
  have hlo := pow_byteLen_le n h
  have hhi := lt_pow_byteLen n
  rw [hk'] at hlo hhi
  simp only [Nat.succ_eq_add_one, Nat.add_sub_cancel] at hlo
  have hq1 : 0 < n / 256 ^ k := Nat.div_pos hlo (Nat.pow_pos (by omega))
  have hq2 : n / 256 ^ k < 256 := by
    rw [Nat.div_lt_iff_lt_mul (Nat.pow_pos (by omega))]
    rw [Nat.pow_succ] at hhi; rw [Nat.mul_comm]; exact hhi
  unfold minBE
  rw [hk']
  cases hb : beEnc (k + 1) n with
  | nil => rw [hb] at hh; simp at hh
  | cons b rest =>
    rw [hb] at hh
    simp at hh
    have hv : b.toNat = n / 256 ^ k := by rw [hh, UInt8.toNat_ofNat']; omega
    exact ⟨b, rest, rfl, hv ▸ hq1, hv⟩

theorem encInt_cons (n : Nat) (b : UInt8) (rest : Bytes) (h : minBE n = b :: rest) :
    encIntContent n = if 128 ≤ b.toNat then 0 :: b :: rest else b :: rest := by
  unfold encIntContent; rw [h]

theorem decInt_encInt (n : Nat) : decIntContent (encIntContent n) = some n := by
  by_cases hn : n = 0
  · subst hn; simp [encIntContent, minBE_zero, decIntContent]
  · obtain ⟨b, rest, hb, hpos⟩ := minBE_pos n (by omega)
    have hv := beDec_minBE n
    rw [hb] at hv
    rw [encInt_cons n b rest hb]
    by_cases hhi : 128 ≤ b.toNat
    · rw [if_pos hhi]
      have h0 : ¬ 128 ≤ (0 : UInt8).toNat := by decide
      simp only [decIntContent, h0, if_false]
      have : ¬ (True ∧ b.toNat < 128) := by omega
      simp only [this, if_false]
      rw [beDec_zero_cons, hv]
    · rw [if_neg hhi]
      cases rest with
      | nil =>
        have : b.toNat < 128 := by omega
        simp only [decIntContent, this, if_true]
        rw [beDec_singleton] at hv; rw [hv]
      | cons b1 r =>
        have hb0 : ¬ b = 0 := by
          intro e; rw [e] at hpos; simp at hpos
        simp only [decIntContent, hhi, if_false, hb0, false_and, hv]

theorem readLen_encLen (l : Nat) (rest : Bytes) (h : l < 2 ^ 32) :
    readLen (encLen l ++ rest) = some (l, rest) := by
  unfold encLen
  by_cases hs : l < 128
  · simp only [hs, if_true, List.cons_append, List.nil_append, readLen]
    have : (UInt8.ofNat l).toNat = l := by rw [UInt8.toNat_ofNat']; omega
    simp [this, hs]
  · simp only [hs, if_false, List.cons_append, readLen]
    have hk1 := byteLen_pos l (by omega)
    have hk4 : byteLen l ≤ 4 := (byteLen_le_iff l 4).2 (by omega)
    have hb : (UInt8.ofNat (128 + byteLen l)).toNat = 128 + byteLen l := by
      rw [UInt8.toNat_ofNat']; omega
    rw [hb]
    have c1 : ¬ (128 + byteLen l < 128) := by omega
    have c2 : ¬ (128 + byteLen l - 128 = 0 ∨ 4 < 128 + byteLen l - 128) := by omega
    have hlen : (minBE l ++ rest).length = byteLen l + rest.length := by
      rw [List.length_append, minBE_length]
    have c3 : ¬ ((minBE l ++ rest).length < 128 + byteLen l - 128) := by omega
    simp only [c1, c2, c3, if_false]
    have e : 128 + byteLen l - 128 = (minBE l).length := by rw [minBE_length]; omega
    rw [e, List.take_left', List.drop_left', beDec_minBE] <;> try rfl
    obtain ⟨b, r, hbr, hpos⟩ := minBE_pos l (by omega)
    have c4 : ¬ ((minBE l).head? = some 0 ∨ l < 128) := by
      rw [hbr]
      simp only [List.head?_cons, Option.some.injEq]
      intro hh
      rcases hh with hh | hh
      · rw [hh] at hpos; simp at hpos
      · omega
    simp only [c4, if_false]

theorem readTLV_encTLV (tag : UInt8) (c rest : Bytes) (h : c.length < 2 ^ 32) :
    readTLV tag (encTLV tag c ++ rest) = some (c, rest) := by
  unfold encTLV
  simp only [List.cons_append, readTLV, ne_eq, not_true_eq_false, if_false, List.append_assoc]
  rw [readLen_encLen _ _ h]
  simp only
  have : ¬ ((c ++ rest).length < c.length) := by rw [List.length_append]; omega
  simp only [this, if_false, List.take_left', List.drop_left']

theorem encTLV_length (tag : UInt8) (c : Bytes) : (encTLV tag c).length = tlvLen c.length := by
  simp [encTLV, tlvLen]; omega

theorem derEncode_length (r s : Nat) : (derEncode r s).length = derLen r s := by
  unfold derEncode derLen
  rw [encTLV_length, List.length_append, encTLV_length, encTLV_length]
  rfl

theorem lt_tlvLen (l : Nat) : l < tlvLen l := by unfold tlvLen; omega

/-- the DER codec round trip; the hypothesis says the encoding is at most 4 GiB long (rust-asn1 refuses
    longer length-of-length forms), see Properties/C08.lean -/
theorem derDecode_derEncode (r s : Nat) (h : derLen r s < 2 ^ 32) : derDecode (derEncode r s) = some (r, s) := by
  have hbody : tlvLen (intLen r) + tlvLen (intLen s) < 2 ^ 32 := by
    have := lt_tlvLen (tlvLen (intLen r) + tlvLen (intLen s)); unfold derLen at h; omega
  have hr : intLen r < 2 ^ 32 := by have := lt_tlvLen (intLen r); omega
  have hs : intLen s < 2 ^ 32 := by have := lt_tlvLen (intLen s); omega
  unfold derDecode derEncode
  have e0 := readTLV_encTLV 0x30 (encTLV 0x02 (encIntContent r) ++ encTLV 0x02 (encIntContent s)) []
    (by rw [List.length_append, encTLV_length, encTLV_length]; exact hbody)
  rw [List.append_nil] at e0
  rw [e0]
  simp only
  rw [readTLV_encTLV 0x02 (encIntContent r) _ hr]
  simp only
  have e2 := readTLV_encTLV 0x02 (encIntContent s) [] hs
  rw [List.append_nil] at e2
  rw [e2]
  simp only [decInt_encInt]

/-- content octets of the INTEGER `n > 0`: its bytes, and a zero in front when the top bit of the first one is set -/
theorem intLen_eq (n : Nat) (h : 0 < n) :
    intLen n = byteLen n + if 128 ≤ n / 256 ^ (byteLen n - 1) then 1 else 0 := by
  obtain ⟨b, rest, hb, _, hv⟩ := minBE_pos n h
  have hl := minBE_length n
  rw [hb, List.length_cons] at hl
  rw [intLen, encInt_cons n b rest hb, hv, ← hl]
  split <;> simp

theorem intLen_zero : intLen 0 = 1 := rfl

theorem tlvLen_eq (l : Nat) : tlvLen l = l + if l < 128 then 2 else 2 + byteLen l := by
  unfold tlvLen encLen
  split <;> simp [minBE_length] <;> omega

theorem intLen_le (n k : Nat) (h : n < 256 ^ k) : intLen n ≤ k + 1 := by
  have hb := (byteLen_le_iff n k).2 h
  by_cases hn : n = 0
  · subst hn; rw [intLen_zero]; omega
  · rw [intLen_eq n (by omega)]; split <;> omega

theorem intLen_pos (n : Nat) : 0 < intLen n := by
  by_cases hn : n = 0
  · subst hn; decide
  · have := byteLen_pos n hn
    rw [intLen_eq n (by omega)]; omega

theorem tlvLen_le (l : Nat) (h : l < 2 ^ 32) : tlvLen l ≤ l + 6 := by
  have : byteLen l ≤ 4 := (byteLen_le_iff l 4).2 (by omega)
  rw [tlvLen_eq]; split <;> omega

/-- numbers below `256 ^ k` (k up to 2^30 bytes) always have a DER signature the decoder can read -/
theorem derLen_le (r s k : Nat) (hk : k ≤ 2 ^ 30) (hr : r < 256 ^ k) (hs : s < 256 ^ k) : derLen r s ≤ 2 * k + 20 := by
  have h1 := intLen_le r k hr
  have h2 := intLen_le s k hs
  have e30 : (2 : Nat) ^ 32 = 4 * 2 ^ 30 := by decide
  have t1 := tlvLen_le (intLen r) (by omega)
  have t2 := tlvLen_le (intLen s) (by omega)
  have t3 := tlvLen_le (tlvLen (intLen r) + tlvLen (intLen s)) (by omega)
  unfold derLen; omega

theorem rawSig_length (c : Curve) (r s : Nat) : (rawSig c r s).length = 2 * c.cl := pair_length _ _ _

theorem raw_window_facts (c : Curve) :
    KeysTables.sigSniffNxp (2 * c.cl) = true ∧ sigCurve (2 * c.cl) = .ok c ∧ sigCoordLen c = c.cl ∧
      2 * c.cl / 2 = c.cl ∧ c.sigSize = 2 * c.cl ∧ KeysTables.verifyCoordinateSize c.keySize = c.cl := by
  cases c <;> decide

theorem sigSniff_raw (c : Curve) (r s : Nat) : sigSniff (rawSig c r s) = .ok .nxp := by
  simp [sigSniff, rawSig_length, (raw_window_facts c).1]

theorem sigParse_raw (c : Curve) (r s : Nat) (hr : r < 256 ^ c.cl) (hs : s < 256 ^ c.cl) :
    sigParse (rawSig c r s) = .ok ⟨r, s, c⟩ := by
  obtain ⟨_, h2, _, h4, _, _⟩ := raw_window_facts c
  unfold sigParse
  rw [sigSniff_raw]
  simp only [rawSig_length, h2, h4]
  unfold rawSig
  rw [take_pair, drop_pair, beDec_beEnc _ _ hr, beDec_beEnc _ _ hs]

theorem sigExport_raw (c : Curve) (r s : Nat) (hr : r < 256 ^ c.cl) (hs : s < 256 ^ c.cl) :
    sigExport ⟨r, s, c⟩ .nxp = .ok (rawSig c r s) := by
  simp only [sigExport, (raw_window_facts c).2.2.1]
  exact rawPair_ok _ _ _ hr hs

/-- a signature whose length is one of the raw lengths is cut in halves, whatever it contains -/
theorem sigParse_of_sniff_nxp (b : Bytes) (h : KeysTables.sigSniffNxp b.length = true) :
    sigParse b =
      (match sigCurve b.length with
       | .ok c => .ok ⟨beDec (b.take (b.length / 2)), beDec (b.drop (b.length / 2)), c⟩
       | .error e => .error e) := by
  unfold sigParse sigSniff
  simp only [h, if_true]
  cases sigCurve b.length <;> rfl

/-- inside the window of curve `c` the length is not taken for raw and `get_ecc_curve` answers `c` -/
theorem der_window_facts (c : Curve) (L : Nat) (h : 2 * c.cl + 3 ≤ L ∧ L ≤ 2 * c.cl + 8) :
    KeysTables.sigSniffNxp L = false ∧ sigCurve L = .ok c := by
  refine ⟨Bool.eq_false_iff.2 (fun hs => ?_), (sigCurve_ok_iff L c).2 (.inr h)⟩
  have := (sniffed_raw_lengths L).1 hs
  have := cl_values
  simp only [List.mem_cons, List.not_mem_nil, or_false] at *
  cases c <;> omega

theorem sigParse_der (c : Curve) (r s : Nat) (hw : LenWindow c r s) :
    sigParse (derEncode r s) = .ok ⟨r, s, c⟩ := by
  obtain ⟨f1, f2⟩ := der_window_facts c (derLen r s) hw
  have hdec := derDecode_derEncode r s (by have := cl_values; have := hw.2; cases c <;> omega)
  unfold sigParse sigSniff
  simp only [derEncode_length, f1, hdec, f2]
  simp

theorem verifyCandidates_raw (c : Curve) (r s : Nat) (hr : r < 256 ^ c.cl) (hs : s < 256 ^ c.cl) :
    verifyCandidates c (rawSig c r s) = [derEncode r s, rawSig c r s] := by
  obtain ⟨_, _, _, _, h5, h6⟩ := raw_window_facts c
  unfold verifyCandidates
  simp only [rawSig_length, h5, h6, if_true]
  unfold rawSig
  rw [take_pair, drop_pair, beDec_beEnc _ _ hr, beDec_beEnc _ _ hs]

theorem getSignature_raw (c : Curve) (r s : Nat) (hr : r < 256 ^ c.cl) (hs : s < 256 ^ c.cl) (e : Option Enc) :
    getSignature (rawSig c r s) e =
      match e with
      | none | some .nxp => .ok (rawSig c r s)
      | some .der => .ok (derEncode r s)
      | some .pem => .ok (rawSig c r s) := by
  unfold getSignature
  rw [sigParse_raw c r s hr hs]
  have hx := sigExport_raw c r s hr hs
  rcases e with _ | e
  · simp only [Option.getD_none, hx]
  · cases e
    · simp only [Option.getD_some, hx]
    · simp [sigExport]
    · simp [sigExport]

theorem getSignature_der (c : Curve) (r s : Nat) (hr : r < 256 ^ c.cl) (hs : s < 256 ^ c.cl)
    (hw : LenWindow c r s) : getSignature (derEncode r s) none = .ok (rawSig c r s) := by
  unfold getSignature
  rw [sigParse_der c r s hw]
  simp only [Option.getD_none, sigExport_raw c r s hr hs]

end SpsdkVerif.Keys
