/-
C18 — nobody is ever fatal, whatever is in the cache file and whoever removes it: with guards that catch
every `Exception` (`CatchAll`) no schedule — kills, I/O errors, `wipe`s by cache-disabled processes, any
file content (garbage included) — drives a process into `fatal`.
-/
import SpsdkVerif.Proofs.DbCacheBase

namespace SpsdkVerif.DbCache.Fatal
open SpsdkVerif SpsdkVerif.DbCache

/-- a pending exception (carried over a lock release) is a subclass of `Exception` -/
def ContOK : Cont → Prop
  | .normal => True
  | .exc e => Exc.isSub e .Exception = true

/-- per-process invariant, a function of the program counter only -/
def PCOK (G : Guards) : PC → Prop
  | .fatal _ => False
  | .lRelease c => ContOK c
  | .wRelease c => ContOK c
  | .lRemoveStale => G.l.removeStale = true
  | .hExists => G.l.handlerRemoves = true
  | .hRemove => G.l.handlerRemoves = true
  | _ => True

theorem fnf_sub : Exc.isSub .FileNotFoundError .Exception = true := by decide

theorem io_sub : ∀ e ∈ ioExcs, Exc.isSub e .Exception = true := by decide

variable {env : Env} {G : Guards}

theorem afterWAcquire_ok : PCOK G (afterWAcquire G) := by
  unfold afterWAcquire; repeat' split
  all_goals trivial

theorem writerStart_ok : PCOK G (writerStart G) := by
  unfold writerStart; split
  · trivial
  · exact afterWAcquire_ok

theorem runQueries_ok (qs : List Nat) (p : Proc) : PCOK G (runQueries env G p qs).pc := by
  induction qs generalizing p with
  | nil => trivial
  | cons k rest ih =>
    simp only [runQueries]
    split
    · exact ih _
    · split
      · exact ih _
      · exact writerStart_ok

theorem finishLoader_ok (p : Proc) : PCOK G (finishLoader env G p).pc := runQueries_ok ..

theorem loaderRaise_ok (hC : CatchAll G) (p : Proc) {e : Exc} (he : Exc.isSub e .Exception = true) :
    PCOK G (loaderRaise env G p e).pc := by
  simp only [loaderRaise, (hC.1 e he).1, if_true]
  split
  · rename_i hr; split <;> exact hr
  · exact finishLoader_ok _

theorem loaderChecks_ok (hC : CatchAll G) (p : Proc) : PCOK G (loaderChecks env G p).pc := by
  have ⟨_, htry, _, _, _, htex, _⟩ := hC
  unfold loaderChecks
  split
  · exact finishLoader_ok _
  · split
    · rename_i hty
      rw [if_pos (htry (Bool.and_eq_true_iff.mp hty).1)]
      exact loaderRaise_ok hC p htex
    · split
      · exact finishLoader_ok _
      · dsimp only
        by_cases hrs : G.l.removeStale = true
        · rw [if_pos hrs]; exact hrs
        · rw [if_neg hrs]; exact finishLoader_ok _

theorem afterRead_ok (hC : CatchAll G) (p : Proc) {c : Cont} (hc : ContOK c) : PCOK G (afterRead env G p c).pc := by
  cases c
  · exact loaderChecks_ok hC p
  · exact loaderRaise_ok hC p hc

theorem leaveRead_ok (hC : CatchAll G) (p : Proc) {c : Cont} (hc : ContOK c) : PCOK G (leaveRead env G p c).pc := by
  rw [leaveRead_eq]; split
  · exact hc
  · exact afterRead_ok hC p hc

theorem afterWrite_ok (hC : CatchAll G) (p : Proc) {c : Cont} (hc : ContOK c) : PCOK G (afterWrite env G p c).pc := by
  cases c
  · exact runQueries_ok ..
  · simp only [afterWrite, writerRaise, hC.2.2.2.2.1, (hC.1 _ hc).2, Bool.and_self, if_true]
    exact runQueries_ok ..

theorem leaveWrite_ok (hC : CatchAll G) (p : Proc) {c : Cont} (hc : ContOK c) : PCOK G (leaveWrite env G p c).pc := by
  rw [leaveWrite_eq]; split
  · exact hc
  · exact afterWrite_ok hC p hc

theorem pstep_ok (hC : CatchAll G) (hR : RaisesOnlyExceptions env) {i : Nat} {sh sh' : Sh} {p p' : Proc}
    (hp : PCOK G p.pc) (h : pstep env G i sh p = some (sh', p')) : PCOK G p'.pc := by
  obtain ⟨pc, loaded, buf, mem, selfFp, todo, answers, asked⟩ := p
  cases pc <;> simp only [pstep, reduceCtorEq] at h
  case lExists =>
    cases h; split
    · split <;> trivial
    · exact finishLoader_ok _
  case lAcquire => split at h <;> cases h; trivial
  case lOpen =>
    split at h <;> cases h
    · exact leaveRead_ok hC _ fnf_sub
    · trivial
  case lUnpickle =>
    split at h <;> cases h
    · exact leaveRead_ok hC _ trivial
    · exact leaveRead_ok hC _ (hR _ _ ‹_›)
  case lRelease c => cases h; exact afterRead_ok hC _ hp
  case lRemoveStale =>
    split at h <;> cases h
    · exact finishLoader_ok _
    · rw [if_pos (hC.2.2.1 hp)]; exact loaderRaise_ok hC _ fnf_sub
  case hExists =>
    cases h; split
    · exact hp
    · exact finishLoader_ok _
  case hRemove =>
    split at h <;> cases h
    · exact finishLoader_ok _
    · rw [if_pos (hC.2.2.2.1 hp)]; exact finishLoader_ok _
  case wAcquire => split at h <;> cases h; exact afterWAcquire_ok
  case wExists => cases h; split <;> trivial
  case wOpenR =>
    split at h <;> cases h
    · exact leaveWrite_ok hC _ fnf_sub
    · trivial
  case wUnpickle =>
    split at h
    · cases h; exact leaveWrite_ok hC _ (hR _ _ ‹_›)
    · split at h <;> cases h
      · exact leaveWrite_ok hC _ hC.2.2.2.2.2.2
      · trivial
  case wTrunc => cases h; trivial
  case wWrite => cases h; exact leaveWrite_ok hC _ trivial
  case wRelease c => cases h; exact afterWrite_ok hC _ hp

theorem acts_ok (hC : CatchAll G) (hR : RaisesOnlyExceptions env) {i : Nat} {sh : Sh} {p : Proc} {r : Sh × Proc}
    (hp : PCOK G p.pc) (h : Acts env G i sh p r) : PCOK G r.2.pc := by
  cases h with
  | run h => exact pstep_ok hC hR hp h
  | crash n h =>
    unfold crashStep at h
    split at h <;> cases h
    trivial
  | fail e n h =>
    obtain ⟨pc, loaded, buf, mem, selfFp, todo, answers, asked⟩ := p
    unfold failStep at h
    split at h
    · cases h
    · rename_i hio
      have he := io_sub e (by simpa using hio)
      cases pc <;> cases h
      · exact loaderRaise_ok hC _ he
      · exact leaveRead_ok hC _ he
      · exact afterWrite_ok hC _ (c := .exc e) he
      all_goals exact leaveWrite_ok hC _ he

theorem gstep_ok (hC : CatchAll G) (hR : RaisesOnlyExceptions env) {s s' : St} {l : Lbl}
    (hs : ∀ p ∈ s.procs, PCOK G p.pc) (h : gstep env G s l = some s') : ∀ p ∈ s'.procs, PCOK G p.pc :=
  gstep_elim (motive := fun s' => ∀ p ∈ s'.procs, PCOK G p.pc) h (fun _ => hs) fun i p r hp ha q hq => by
    rcases List.mem_or_eq_of_mem_set hq with hq | rfl
    · exact hs q hq
    · exact acts_ok hC hR (hs p (List.mem_of_getElem? hp)) ha

theorem initPC_ok : PCOK G (initPC G) := by
  unfold initPC; repeat' split
  all_goals trivial

end SpsdkVerif.DbCache.Fatal

namespace SpsdkVerif.DbCache
open SpsdkVerif

theorem never_fatal (env : Env) (G : Guards) (hC : CatchAll G) (hR : RaisesOnlyExceptions env)
    (f0 : Option Bytes) (queries : List (List Nat)) (sched : List Lbl) (s : St)
    (hrun : runSched env G (initSt G f0 queries) sched = some s) :
    ∀ p ∈ s.procs, ∀ e, p.pc ≠ .fatal e := by
  have hinit : ∀ p ∈ (initSt G f0 queries).procs, Fatal.PCOK G p.pc := by
    intro p hp
    obtain ⟨qs, _, rfl⟩ := List.mem_map.mp hp
    exact Fatal.initPC_ok
  intro p hp e he
  have := runSched_induct (fun _ _ _ _ hs => Fatal.gstep_ok hC hR hs) hinit hrun p hp
  rw [he] at this
  exact this

end SpsdkVerif.DbCache
