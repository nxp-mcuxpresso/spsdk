/-
C13 — OTFAD image encryption: the code (`Otfad.encryptImage`, chunk walk + blob loop + slice assignment) refines
the block-wise specification `otfadSpecImage`; the hardware model inverts the specification.
-/
import SpsdkVerif.Proofs.FlashEncCommon

namespace SpsdkVerif.FlashEnc
open SpsdkVerif SpsdkVerif.Crypto
open SpsdkVerif.Misc (beEnc beDec leEnc leDec beEnc_length)
open SpsdkVerif.Generated.FlashEncConsts

variable {c : CryptoOps}

theorem otfad_or_mask (k x : Nat) : x ||| (2 ^ k - 1) = x / 2 ^ k * 2 ^ k + (2 ^ k - 1) := by
  have hlt : 2 ^ k - 1 < 2 ^ k := by have := Nat.two_pow_pos k; omega
  rw [← Nat.shiftLeft_eq, Nat.shiftLeft_add_eq_or_of_lt hlt]
  refine Nat.eq_of_testBit_eq fun i => ?_
  simp only [Nat.testBit_or, Nat.testBit_shiftLeft, Nat.testBit_two_pow_sub_one, Nat.testBit_div_two_pow]
  by_cases hi : i < k
  · simp [hi]
  · simp [hi, Nat.sub_add_cancel (Nat.le_of_not_lt hi), Nat.le_of_not_lt hi]

theorem otfad_or_1016 (e f : Nat) (hf : f < 8) : ((e / 8 * 8) ||| f) ||| 1016 = e / 1024 * 1024 + 1016 + f := by
  have h1 : e / 8 * 8 = (e / 8) <<< 3 := by rw [Nat.shiftLeft_eq]
  have h2 : (1016 : Nat) = 127 <<< 3 := by decide
  have h3 := otfad_or_mask 7 (e / 8)
  have hf' : f < 2 ^ 3 := hf
  rw [h1, h2, Nat.or_assoc, Nat.or_comm f, ← Nat.or_assoc, ← Nat.shiftLeft_or_distrib,
    ← Nat.shiftLeft_add_eq_or_of_lt hf', Nat.shiftLeft_eq]
  have : (2:Nat) ^ 7 - 1 = 127 := by decide
  rw [this] at h3
  rw [h3]
  omega

theorem otfad_effEnd (kb : KeyBlob) : kb.effEnd = (kb.end_ - 1) / 1024 * 1024 + 1023 :=
  otfad_or_mask 10 _

section Blob
variable (kb : KeyBlob) (h : kb.WF)
include h

/-- the window of a well-formed blob is a union of whole 1 KiB units -/
theorem otfad_containsAddr_iff (a : Nat) :
    kb.containsAddr a = true ↔ kb.end_ ≠ 0 ∧ kb.start / 1024 ≤ a / 1024 ∧ a / 1024 ≤ (kb.end_ - 1) / 1024 := by
  have := h.start_al
  simp only [KeyBlob.containsAddr, otfad_effEnd, Bool.and_eq_true, bne_iff_ne, decide_eq_true_eq]
  omega

theorem otfad_containsAddr_unit (a a' : Nat) (hu : a / 1024 = a' / 1024) : kb.containsAddr a = kb.containsAddr a' := by
  rw [Bool.eq_iff_iff, otfad_containsAddr_iff kb h, otfad_containsAddr_iff kb h, hu]

theorem otfad_matchesRange_unit (addr e : Nat) (hu : addr / 1024 = e / 1024) :
    kb.matchesRange addr e = kb.containsAddr addr := by
  simp [KeyBlob.matchesRange, ← otfad_containsAddr_unit kb h addr e hu]

theorem otfad_isEncrypted_eq : kb.isEncrypted = (kb.vld && kb.adeFlag) := by
  have key : ∀ f < 8, ((f &&& (2 ||| 1)) == (2 ||| 1)) = (f % 2 == 1 && f / 2 % 2 == 1) := by decide
  exact key kb.flags h.flags_lt

/-- the ENDADDR register word exported for the blob: RO/ADE/VLD in the low bits, bits [31:10] of the last address above -/
theorem otfad_ctx_endaddr :
    kb.ctx.endaddr % 8 = kb.flags ∧ (kb.end_ ≠ 0 → kb.ctx.endaddr / 1024 = (kb.end_ - 1) / 1024) := by
  have hf := h.flags_lt
  by_cases h0 : kb.end_ = 0
  · simp [KeyBlob.ctx, KeyBlob.endAddrWithFlags, h0, h.exportable h0]
  · simp only [KeyBlob.ctx, KeyBlob.endAddrWithFlags, otfadKeyFlagMask, otfadEndAddrMask, h0, false_and, if_false,
      otfad_or_1016 _ _ hf]
    omega

theorem otfad_ctx_range (a : Nat) :
    kb.ctx.hit a = (kb.vld && kb.containsAddr a) ∧ kb.ctx.ade = kb.adeFlag ∧ kb.ctx.key = kb.key ∧ kb.ctx.ctr = kb.ctr := by
  obtain ⟨hfl, hend⟩ := otfad_ctx_endaddr kb h
  have hv : kb.ctx.vld = kb.vld := by rw [OtfadCtx.vld, KeyBlob.vld, ← hfl]; congr 1; omega
  have ha : kb.ctx.ade = kb.adeFlag := by rw [OtfadCtx.ade, KeyBlob.adeFlag, ← hfl]; congr 1; omega
  refine ⟨?_, ha, rfl, rfl⟩
  have hs : kb.ctx.srtaddr = kb.start := rfl
  by_cases h0 : kb.end_ = 0
  · have : kb.vld = false := by simp [KeyBlob.vld, h.exportable h0]
    rw [OtfadCtx.hit, hv, this]; rfl
  · rw [OtfadCtx.hit, hv, hs, hend h0, Bool.and_assoc]
    congr 1
    rw [Bool.eq_iff_iff, otfad_containsAddr_iff kb h a]
    simp [h0]

theorem otfad_counter_eq (a : Nat) (ha : a % 16 = 0) : counterValue kb.ctrNonce a = kb.ctx.counter a := by
  have hl := h.ctr_len
  have ha' : a / 16 * 16 = a := by omega
  simp only [counterValue, KeyBlob.ctrNonce, OtfadCtx.counter, KeyBlob.ctx, ha']
  generalize kb.ctr = ct at hl
  match ct, hl with
  | [c0, c1, c2, c3, c4, c5, c6, c7], _ => simp [xorBytes, zeros, beDec]

theorem otfad_counter_length (a : Nat) : (kb.ctx.counter a).length = 16 := by
  simp [OtfadCtx.counter, KeyBlob.ctx, h.ctr_len, beEnc_length]

/-- what the engine computes for a block encrypted under the blob is the block -/
theorem otfad_hw_encBlock (hc : CryptoLaws c) (swap : Bool) (a : Nat) (ha : a % 16 = 0) (z : Bytes) (hz : z.length = 16) :
    (if swap then swap8 (xorBytes (if swap then swap8 (kb.encBlock c swap a z) else kb.encBlock c swap a z)
        (c.encBlk kb.ctx.key (kb.ctx.counter a)))
      else xorBytes (if swap then swap8 (kb.encBlock c swap a z) else kb.encBlock c swap a z)
        (c.encBlk kb.ctx.key (kb.ctx.counter a))) = z := by
  have hcl := otfad_counter_length kb h a
  have hkey : kb.ctx.key = kb.key := rfl
  have hK := hc.enc_len kb.key (kb.ctx.counter a)
  unfold KeyBlob.encBlock
  rw [otfad_counter_eq kb h a ha, hkey]
  cases swap
  · simp only [Bool.false_eq_true, if_false]
    rw [ctrXor_block c _ _ _ hcl hz, xorBytes_cancel_eq _ _ (by rw [hz, hK])]
  · simp only [if_true]
    have hs := swap8_length z hz
    rw [ctrXor_block c _ _ _ hcl hs, swap8_swap8 _ (by simp [hs, hK]),
      xorBytes_cancel_eq _ _ (by rw [hs, hK]), swap8_swap8 _ hz]

theorem otfad_kb_encryptImage (addr : Nat) (ha : addr % 16 = 0) (hc : kb.containsAddr addr = true) (block : Bytes) (swap : Bool) :
    kb.encryptImage c addr block swap (some addr) =
      .ok (kb.encBlocks c swap (blocksFor block.length) addr (zeroPad 16 block)) := by
  have hcv : (if addr = 0 then kb.start else addr) = addr := by
    split
    · next h0 =>
      simp only [KeyBlob.containsAddr, Bool.and_eq_true, decide_eq_true_eq] at hc
      omega
    · rfl
  have hlen : (zeroPad 16 block).length / 16 = blocksFor block.length := by
    rw [zeroPad16_length]; simp only [blocksFor]; omega
  simp only [KeyBlob.encryptImage, otfadEncBlockSize, hcv, hlen, h.ctr_len, validAesKeyLen, h.key_len]
  simp [ha]

end Blob

theorem otfad_active_unit (bs : List KeyBlob) (hwf : ∀ kb ∈ bs, kb.WF) (a a' : Nat) (hu : a / 1024 = a' / 1024) :
    otfadActive bs a = otfadActive bs a' :=
  find?_congr fun kb hkb => by rw [otfad_containsAddr_unit kb (hwf kb hkb) a a' hu]

theorem otfad_overlaps_of_common (x y : KeyBlob) (a : Nat) (hx : (x.vld && x.containsAddr a) = true)
    (hy : (y.vld && y.containsAddr a) = true) : x.overlaps y = true := by
  simp only [KeyBlob.containsAddr, Bool.and_eq_true, bne_iff_ne, decide_eq_true_eq] at hx hy
  simp only [KeyBlob.overlaps, Bool.and_eq_true, bne_iff_ne, decide_eq_true_eq, Nat.max_le, Nat.le_min]
  refine ⟨⟨⟨⟨hx.1, hy.1⟩, hx.2.1.1⟩, hy.2.1.1⟩, ?_⟩
  omega

/-- next to a valid blob whose window holds `a`, no other blob encrypts `a` -/
theorem otfad_rest_inactive {x : KeyBlob} {rest : List KeyBlob} (hwf : ∀ kb ∈ rest, kb.WF)
    (hxr : ∀ y ∈ rest, x.overlaps y = false) {a : Nat} (hx : (x.vld && x.containsAddr a) = true) :
    ∀ y ∈ rest, (y.containsAddr a && y.isEncrypted) = false := fun y hy => by
  have := hxr y hy
  rw [otfad_isEncrypted_eq y (hwf y hy)]
  cases hv : y.vld <;> cases hc : y.containsAddr a <;> simp
  rw [otfad_overlaps_of_common x y a hx (by simp [hv, hc])] at this
  cases this

theorem otfadSpec_eq (bs : List KeyBlob) (swap : Bool) : ∀ (n a : Nat) (m : Bytes),
    otfadSpec c bs swap n a m = mapPieces 16 (otfadSpecPiece c bs swap) n a m
  | 0, _, _ => rfl
  | n + 1, a, m => congrArg _ (otfadSpec_eq bs swap n (a + 16) (m.drop 16))

theorem otfadSpecImage_eq (bs : List KeyBlob) (swap : Bool) :
    otfadSpecImage c bs swap = mapImage 16 (otfadSpecPiece c bs swap) :=
  funext fun _ => funext fun _ => otfadSpec_eq bs swap _ _ _

theorem otfadHwRead_eq (ctxs : List OtfadCtx) (swap : Bool) : ∀ (n a : Nat) (ct : Bytes),
    otfadHwRead c ctxs swap n a ct = mapPieces 16 (otfadHw c ctxs swap) n a ct
  | 0, _, _ => rfl
  | n + 1, a, ct => congrArg _ (otfadHwRead_eq ctxs swap n (a + 16) (ct.drop 16))

theorem otfad_encBlocks_eq (kb : KeyBlob) (swap : Bool) : ∀ (n a : Nat) (d : Bytes),
    kb.encBlocks c swap n a d = mapPieces 16 (kb.encBlock c swap) n a d
  | 0, _, _ => rfl
  | n + 1, a, d => congrArg _ (otfad_encBlocks_eq kb swap n (a + 16) (d.drop 16))

theorem otfad_encBlock_length (h : CryptoLaws c) (kb : KeyBlob) (swap : Bool) (cv : Nat) (blk : Bytes)
    (hb : blk.length = 16) : (kb.encBlock c swap cv blk).length = 16 := by
  unfold KeyBlob.encBlock
  cases swap
  · simp [ctrXor_length h, hb]
  · simp only [if_true]
    rw [swap8_length]
    rw [ctrXor_length h, swap8_length _ hb]

section Blobs
variable (h : CryptoLaws c) (bs : List KeyBlob) (hwf : ∀ kb ∈ bs, kb.WF) (hd : BlobsDisjoint bs) (swap : Bool)

include h in
theorem otfad_specPiece_len : PieceLen 16 (otfadSpecPiece c bs swap) :=
  ⟨rfl, fun a p h0 h16 => by
    unfold otfadSpecPiece
    split
    · rw [otfad_encBlock_length h _ _ _ _ (zeroPad16_length_piece p h0 h16)]; omega
    · omega⟩

include h in
theorem otfad_spec_length (base : Nat) (img : Bytes) :
    img.length ≤ (otfadSpecImage c bs swap base img).length ∧
    (otfadSpecImage c bs swap base img).length ≤ (img.length + 15) / 16 * 16 := by
  rw [otfadSpecImage_eq]
  exact mapImage_length (otfad_specPiece_len h bs swap) base img

/-- the specification is position independent at 16-byte granularity -/
theorem otfad_spec_append (base : Nat) (p q : Bytes) (hp : p.length % 16 = 0) :
    otfadSpecImage c bs swap base (p ++ q) =
      otfadSpecImage c bs swap base p ++ otfadSpecImage c bs swap (base + p.length) q := by
  rw [otfadSpecImage_eq]
  exact mapImage_append q base p hp

include h hwf in
/-- a byte whose own address lies in no window of an encrypting (ADE∧VLD) blob is left as it is -/
theorem otfad_spec_outside (base : Nat) (hb : base % 16 = 0) (img : Bytes) (i : Nat) (hi : i < img.length)
    (hout : ∀ kb ∈ bs, kb.isEncrypted = true → kb.containsAddr (base + i) = false) :
    (otfadSpecImage c bs swap base img)[i]? = img[i]? := by
  have hact : otfadActive bs (base + i / 16 * 16) = none := by
    refine List.find?_eq_none.mpr fun kb hkb => ?_
    rw [otfad_containsAddr_unit kb (hwf kb hkb) _ (base + i) (by omega)]
    cases he : kb.isEncrypted
    · simp
    · simp [hout kb hkb he]
  rw [otfadSpecImage_eq]
  exact mapImage_outside (otfad_specPiece_len h bs swap) base img i hi
    fun p => by simp only [otfadSpecPiece, hact]

include hwf in
theorem otfad_find_ctx (a : Nat) :
    (bs.map KeyBlob.ctx).find? (fun x => x.hit a) =
      (bs.find? (fun kb => kb.vld && kb.containsAddr a)).map KeyBlob.ctx := by
  rw [List.find?_map]
  exact congrArg _ (find?_congr fun kb hkb => (otfad_ctx_range kb (hwf kb hkb) a).1)

/-- among disjoint blobs the encrypting blob for an address is the (only) valid blob whose window holds it, if that
    one has ADE set -/
theorem otfad_active_of_vld (a : Nat) : ∀ (bs : List KeyBlob), (∀ kb ∈ bs, kb.WF) → BlobsDisjoint bs →
    otfadActive bs a =
      (bs.find? (fun kb => kb.vld && kb.containsAddr a)).bind (fun kb => if kb.adeFlag then some kb else none)
  | [], _, _ => rfl
  | x :: rest, hwf, hd => by
    have hwf' : ∀ kb ∈ rest, kb.WF := fun y hy => hwf y (List.mem_cons_of_mem _ hy)
    obtain ⟨hxr, hd'⟩ := List.pairwise_cons.mp hd
    have ih := otfad_active_of_vld a rest hwf' hd'
    unfold otfadActive at ih ⊢
    rw [List.find?_cons, List.find?_cons, otfad_isEncrypted_eq x (hwf x List.mem_cons_self), Bool.and_left_comm,
      ← Bool.and_assoc]
    cases hv : (x.vld && x.containsAddr a)
    · exact ih
    · cases hade : x.adeFlag <;> simp only [Bool.and_true, Bool.and_false, Option.bind_some, hade, if_true, if_false,
        Bool.false_eq_true]
      exact List.find?_eq_none.mpr fun y hy => by simp [otfad_rest_inactive hwf' hxr hv y hy]

include h hwf hd in
theorem otfad_hw_specPiece (a : Nat) (ha : a % 16 = 0) (p : Bytes) (h0 : 0 < p.length) (h16 : p.length ≤ 16) :
    otfadHw c (bs.map KeyBlob.ctx) swap a (otfadSpecPiece c bs swap a p) = p ∨
    otfadHw c (bs.map KeyBlob.ctx) swap a (otfadSpecPiece c bs swap a p) = zeroPad 16 p := by
  unfold otfadHw otfadSpecPiece
  rw [otfad_find_ctx bs hwf a, otfad_active_of_vld a bs hwf hd]
  cases hf : bs.find? (fun kb => kb.vld && kb.containsAddr a) with
  | none => exact .inl rfl
  | some kb =>
    have hk := hwf kb (List.mem_of_find?_eq_some hf)
    simp only [Option.map_some, Option.bind_some, (otfad_ctx_range kb hk a).2.1]
    cases hade : kb.adeFlag
    · exact .inl rfl
    · exact .inr (otfad_hw_encBlock kb hk h swap a ha _ (zeroPad16_length_piece p h0 h16))

include h hwf hd in
/-- the engine reading the specified ciphertext returns the plaintext (followed by the zero padding of a short last
    block inside a region) -/
theorem otfad_spec_hw (base : Nat) (hb : base % 16 = 0) (img : Bytes) :
    (otfadHwReadAll c (bs.map KeyBlob.ctx) swap base (otfadSpecImage c bs swap base img)).take img.length = img := by
  rw [otfadHwReadAll, otfadHwRead_eq, otfadSpecImage_eq]
  exact mapImage_inv (otfad_specPiece_len h bs swap) (A := (· % 16 = 0)) (fun a ha => by omega)
    (fun a p ha => otfad_hw_specPiece h bs hwf hd swap a ha p) base img hb

end Blobs

theorem otfad_encBlocks_spec (bs : List KeyBlob) (swap : Bool) (kb : KeyBlob) :
    ∀ (n a : Nat) (m : Bytes), n = blocksFor m.length → (∀ j, j < n → otfadActive bs (a + 16 * j) = some kb) →
      kb.encBlocks c swap n a (zeroPad 16 m) = otfadSpec c bs swap n a m := by
  intro n a m hn hact
  subst hn
  rw [otfad_encBlocks_eq, otfadSpec_eq, blocksFor_eq, mapPieces_zeroPad16]
  exact mapImage_congr a m fun j p hj => by
    simp only [otfadSpecPiece, hact j (by unfold blocksFor; omega)]

theorem otfad_spec_none (bs : List KeyBlob) (swap : Bool) :
    ∀ (n a : Nat) (m : Bytes), n = blocksFor m.length → (∀ j, j < n → otfadActive bs (a + 16 * j) = none) →
      otfadSpec c bs swap n a m = m := by
  intro n a m hn hact
  subst hn
  rw [otfadSpec_eq]
  exact (mapImage_congr a m fun j p hj => by
    simp only [otfadSpecPiece, hact j (by unfold blocksFor; omega)]).trans (mapImage_id a m)

theorem otfad_blobsStep_none (swap : Bool) (base addr : Nat) (block : Bytes) :
    ∀ (bs : List KeyBlob) (data : Bytes),
      (∀ kb ∈ bs, (kb.matchesRange addr (addr + block.length - 1) && kb.isEncrypted) = false) →
      otfadBlobsStep c swap base addr block bs data = .ok data
  | [], _, _ => rfl
  | x :: rest, data, hno => by
    simp only [otfadBlobsStep, hno x List.mem_cons_self, Bool.false_eq_true, if_false]
    exact otfad_blobsStep_none swap base addr block rest data (fun y hy => hno y (List.mem_cons_of_mem _ hy))

theorem otfad_blobsStep_unit (swap : Bool) (base addr : Nat) (ha : addr % 16 = 0) (block : Bytes)
    (hu : addr / 1024 = (addr + block.length - 1) / 1024) :
    ∀ (bs : List KeyBlob), (∀ kb ∈ bs, kb.WF) → BlobsDisjoint bs → ∀ (data : Bytes),
      otfadBlobsStep c swap base addr block bs data =
        .ok (match otfadActive bs addr with
          | none => data
          | some kb => sliceAssign data (addr - base) (block.length + addr - base)
              (kb.encBlocks c swap (blocksFor block.length) addr (zeroPad 16 block)))
  | [], _, _, _ => rfl
  | x :: rest, hwf, hd, data => by
    have hx := hwf x List.mem_cons_self
    have hwf' : ∀ kb ∈ rest, kb.WF := fun y hy => hwf y (List.mem_cons_of_mem _ hy)
    obtain ⟨hxr, hd'⟩ := List.pairwise_cons.mp hd
    simp only [otfadBlobsStep, otfadActive, List.find?_cons, otfad_matchesRange_unit x hx addr _ hu]
    cases hcond : (x.containsAddr addr && x.isEncrypted)
    · simp only [Bool.false_eq_true, if_false]
      exact otfad_blobsStep_unit swap base addr ha block hu rest hwf' hd' data
    · simp only [Bool.and_eq_true] at hcond
      simp only [if_true, otfad_kb_encryptImage x hx addr ha hcond.1 block swap]
      refine otfad_blobsStep_none swap base addr block rest _ fun y hy => ?_
      rw [otfad_matchesRange_unit y (hwf' y hy) addr _ hu]
      rw [otfad_isEncrypted_eq x hx, Bool.and_eq_true] at hcond
      exact otfad_rest_inactive hwf' hxr (by simp [hcond.1, hcond.2.1]) y hy

section Walk
variable (h : CryptoLaws c) (bs : List KeyBlob) (hwf : ∀ kb ∈ bs, kb.WF) (hd : BlobsDisjoint bs) (swap : Bool) (base : Nat)

include hwf hd in
/-- one block that lies inside one 1 KiB unit: the blob loop writes the specified bytes over the block -/
theorem otfad_blobsStep_spec (done block tail : Bytes) (ha : (base + done.length) % 16 = 0) (h0 : block ≠ [])
    (hu : (base + done.length) % 1024 + block.length ≤ 1024) :
    otfadBlobsStep c swap base (base + done.length) block bs (done ++ (block ++ tail)) =
      .ok (done ++ mapImage 16 (otfadSpecPiece c bs swap) (base + done.length) block ++ tail) := by
  have h0 := List.length_pos_iff.mpr h0
  have hunit : ∀ j, j < blocksFor block.length →
      otfadActive bs (base + done.length + 16 * j) = otfadActive bs (base + done.length) := fun j hj =>
    otfad_active_unit bs hwf _ _ (by unfold blocksFor at hj; omega)
  rw [otfad_blobsStep_unit swap base _ ha block (by omega) bs hwf hd, ← otfadSpecImage_eq, otfadSpecImage]
  cases hact : otfadActive bs (base + done.length) with
  | none =>
    simp only
    rw [otfad_spec_none bs swap _ _ block rfl (fun j hj => by rw [hunit j hj, hact]), List.append_assoc]
  | some kb =>
    simp only
    rw [Nat.add_sub_cancel_left, (by omega : block.length + (base + done.length) - base = block.length + done.length),
      sliceAssign_prefix, List.drop_left,
      otfad_encBlocks_spec bs swap kb _ _ block rfl (fun j hj => by rw [hunit j hj, hact])]

theorem otfadLoop_eq : ∀ (f addr : Nat) (rest data : Bytes),
    otfadLoop c bs swap base f addr rest data =
      unitLoop 1024 (fun a block d => otfadBlobsStep c swap base a block bs d) f addr rest data
  | 0, _, _, _ => rfl
  | f + 1, addr, rest, data => by
    simp only [otfadLoop, unitLoop, otfadDataUnit, otfadLoop_eq f]
    rfl

include h hwf hd in
/-- `Otfad.encrypt_image` with any first piece `fl` that ends inside the unit of `base` and, if the image goes on, at its end -/
theorem otfad_first_then_walk (hb : base % 16 = 0) (img : Bytes) (fl : Nat) (hfl : fl ≤ img.length)
    (hfu : base % 1024 + fl ≤ 1024) (hal : fl < img.length → (base + fl) % 1024 = 0) :
    (match (if fl = 0 then .ok img else otfadBlobsStep c swap base base (img.take fl) bs img : PyRes Bytes) with
      | .error e => (.error e : PyRes Bytes)
      | .ok data => otfadLoop c bs swap base img.length (base + fl) (img.drop fl) data) =
      .ok (otfadSpecImage c bs swap base img) := by
  have hlen := fun a {p : Bytes} => mapImage_length_aligned (otfad_specPiece_len h bs swap) a (m := p)
  have ht : (img.take fl).length = fl := by rw [List.length_take, Nat.min_eq_left hfl]
  have hstep := fun done block tail h0 (ha : (base + done.length) % 1024 = 0) (hl : block.length ≤ 1024) =>
    otfad_blobsStep_spec (c := c) bs hwf hd swap base done block tail (by omega) h0 (by omega)
  -- the image after the first piece, whether there is one or not
  have h1 : (if fl = 0 then .ok img else otfadBlobsStep c swap base base (img.take fl) bs img) =
      .ok (mapImage 16 (otfadSpecPiece c bs swap) base (img.take fl) ++ img.drop fl) := by
    split
    · next h0 => rw [h0, List.take_zero, mapImage_nil, List.drop_zero, List.nil_append]
    · next h0 =>
      have := otfad_blobsStep_spec (c := c) bs hwf hd swap base [] (img.take fl) (img.drop fl) hb
      rw [List.nil_append, List.take_append_drop, List.length_nil, Nat.add_zero] at this
      exact this (List.length_pos_iff.mp (by omega)) (by omega)
  have hl : img.drop fl ≠ [] → fl < img.length := fun hne => by
    have := List.length_pos_iff.mpr hne; rw [List.length_drop] at this; omega
  have hfl16 : fl < img.length → fl % 16 = 0 := fun hl => by have := hal hl; omega
  simp only [h1, otfadLoop_eq]
  rw [otfadSpecImage_eq, mapImage_first base img fl hfl16, ← mapImage_regroup (U := 1024) (by decide) (base + fl)]
  exact unitLoop_spec (step := fun a block d => otfadBlobsStep c swap base a block bs d) base
    (fun a p hp => by rw [hlen a (by rw [hp]), hp]) hstep img.length _ _ _ (by rw [List.length_drop]; omega) fun hne =>
      ⟨by rw [hlen base (by rw [ht]; exact hfl16 (hl hne)), ht], hal (hl hne)⟩

include h hwf hd in
/-- REFINEMENT: the code computes the block-wise specification -/
theorem otfad_refines_spec (hb : base % 16 = 0) (img : Bytes) :
    Otfad.encryptImage c bs img base swap = .ok (otfadSpecImage c bs swap base img) :=
  otfad_first_then_walk h bs hwf hd swap base hb img _ (firstLen_le ..) (firstLen_unit (u := 1024) base img.length)
    (firstLen_aligned (u := 1024))

end Walk

end SpsdkVerif.FlashEnc
