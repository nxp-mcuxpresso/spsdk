/- Byte, integer and digit-string lemmas about Model/Misc.lean: the base of Properties/C20.lean and of every proof file that
   handles big-endian fields. -/
import SpsdkVerif.Generated.PyFuns
import SpsdkVerif.Model.Misc
import SpsdkVerif.Proofs.ByteCodec

namespace SpsdkVerif.Misc
open SpsdkVerif SpsdkVerif.Generated.PyFuns

theorem pyShl_nat (a : Nat) (b : Int) : pyShl (a : Int) b = ((a <<< b.toNat : Nat) : Int) := by
  simp [pyShl]
theorem pyShr_nat (a : Nat) (b : Int) : pyShr (a : Int) b = ((a >>> b.toNat : Nat) : Int) := by
  simp [pyShr]
theorem pyAnd_nat (a : Nat) (b : Int) : pyAnd (a : Int) b = ((a &&& b.toNat : Nat) : Int) := by
  simp [pyAnd]
theorem pyOr_nat (a b : Nat) : pyOr (a : Int) (b : Int) = ((a ||| b : Nat) : Int) := by
  simp [pyOr]

theorem and_15 (x : Nat) : x &&& 15 = x % 16 := Nat.and_two_pow_sub_one_eq_mod x 4
theorem and_255 (x : Nat) : x &&& 255 = x % 256 := Nat.and_two_pow_sub_one_eq_mod x 8

/-- a mask that is a multiple of 256 acts on the part above the low byte -/
theorem shl8_and (x m : Nat) : (x <<< 8) &&& (m * 256) = (x &&& m) * 256 := by
  rw [← Nat.shiftLeft_eq _ 8, ← Nat.shiftLeft_eq _ 8, Nat.shiftLeft_and_distrib]

theorem shl8_or (a b : Nat) (hb : b < 256) : a * 256 ||| b = a * 256 + b := by
  rw [← Nat.shiftLeft_eq a 8, Nat.shiftLeft_add_eq_or_of_lt hb]

theorem memId_nat (d g : Nat) (hd : d < 256) (hg : g < 16) :
    let m := ((g <<< 8) &&& 3840) ||| ((d <<< 0) &&& 255)
    ((m &&& 255) >>> 0 = d) ∧ ((m &&& 3840) >>> 8 = g) := by
  intro m
  have hm : m = g * 256 + d := by
    show ((g <<< 8) &&& (15 * 256)) ||| ((d <<< 0) &&& 255) = _
    rw [shl8_and, and_15, and_255, Nat.shiftLeft_zero, Nat.mod_eq_of_lt hg, Nat.mod_eq_of_lt hd, shl8_or _ _ hd]
  rw [hm, and_255, show (3840 : Nat) = 15 <<< 8 from rfl]
  constructor
  · rw [Nat.shiftRight_zero]; omega
  · rw [Nat.shiftRight_and_distrib]
    show _ &&& 15 = g
    rw [and_15, Nat.shiftRight_eq_div_pow]; omega

theorem swap16_nat (k : Nat) (h : k < 65536) :
    ((k <<< 8) &&& 65280) ||| ((k >>> 8) &&& 255) = k % 256 * 256 + k / 256 := by
  show ((k <<< 8) &&& (255 * 256)) ||| _ = _
  rw [shl8_and, and_255, and_255, Nat.shiftRight_eq_div_pow, shl8_or _ _ (Nat.mod_lt _ (by omega))]
  omega

theorem beEnc_length' (n v : Nat) : (beEnc n v).length = n := beEnc_length n v

theorem byteLenF_zero (f : Nat) : byteLenF f 0 = 0 := by
  cases f <;> simp [byteLenF]

theorem byteLenF_min (f v : Nat) (h : v ≤ f) :
    v < 256 ^ byteLenF f v ∧ (0 < v → 256 ^ (byteLenF f v - 1) ≤ v) := by
  induction f generalizing v with
  | zero =>
    have : v = 0 := by omega
    subst this; simp [byteLenF]
  | succ f ih =>
    by_cases hv : v = 0
    · subst hv; simp [byteLenF]
    · have h' : v / 256 ≤ f := by omega
      obtain ⟨i1, i2⟩ := ih (v / 256) h'
      simp only [byteLenF, hv, if_false]
      rw [Nat.add_comm 1, Nat.pow_succ, Nat.add_sub_cancel]
      refine ⟨by omega, fun _ => ?_⟩
      by_cases hq : v / 256 = 0
      · rw [hq, byteLenF_zero]; simp; omega
      · have := i2 (by omega)
        have hL : byteLenF f (v / 256) ≠ 0 := by
          intro e; rw [e] at i1; simp at i1; omega
        obtain ⟨L, hL'⟩ := Nat.exists_eq_succ_of_ne_zero hL
        rw [hL'] at this ⊢
        rw [Nat.pow_succ]
        simp at this
        omega

theorem lt_pow_byteLen (v : Nat) : v < 256 ^ byteLen v := (byteLenF_min v v (Nat.le_refl v)).1

theorem pow_byteLen_le (v : Nat) (h : 0 < v) : 256 ^ (byteLen v - 1) ≤ v := (byteLenF_min v v (Nat.le_refl v)).2 h

theorem byteLen_zero : byteLen 0 = 0 := rfl

theorem byteLen_pos (v : Nat) (h : v ≠ 0) : 1 ≤ byteLen v := by
  unfold byteLen
  cases v with
  | zero => simp at h
  | succ n => simp [byteLenF]

theorem byteLen_le_iff (v n : Nat) : byteLen v ≤ n ↔ v < 256 ^ n := by
  constructor
  · exact fun h => Nat.lt_of_lt_of_le (lt_pow_byteLen v) (Nat.pow_le_pow_right (by omega) h)
  · intro h
    by_cases hv : v = 0
    · subst hv; exact Nat.zero_le n
    · have := Nat.lt_of_le_of_lt (pow_byteLen_le v (by omega)) h
      have := (Nat.pow_lt_pow_iff_right (by omega : 1 < 256)).1 this
      omega

theorem le_byteLen_of_le (v k : Nat) (h : 256 ^ (k - 1) ≤ v) (hk : 0 < k) : k ≤ byteLen v := by
  have := (Nat.pow_lt_pow_iff_right (by omega : 1 < 256)).1 (Nat.lt_of_le_of_lt h (lt_pow_byteLen v))
  omega

theorem getBytesCnt_cases (v : Nat) (a2n : Bool) (bc : Nat)
    (hfit : a2n = true → 2 < byteLen v → byteLen v ≤ bc → (byteLen v + 3) / 4 * 4 ≤ bc) :
    (∃ n, getBytesCnt v a2n bc = .ok n ∧ v < 256 ^ n ∧ (bc ≠ 0 → n = bc))
    ∨ (getBytesCnt v a2n bc = .error .spsdk ∧ bc ≠ 0 ∧ 256 ^ bc ≤ v) := by
  by_cases hv : v = 0
  · subst hv
    left
    refine ⟨if bc = 0 then 1 else bc, by simp [getBytesCnt], Nat.pow_pos (by omega), ?_⟩
    intro h; simp [h]
  · have hpos := byteLen_pos v hv
    simp only [getBytesCnt, hv, if_false]
    generalize hc : (if (a2n && decide (byteLen v > 2)) = true then (byteLen v + 3) / 4 * 4 else byteLen v) = c
    have hcc : byteLen v ≤ c := by
      rw [← hc]; split <;> omega
    by_cases hb : bc ≠ 0 ∧ c > bc
    · right
      rw [if_pos hb]
      refine ⟨rfl, hb.1, ?_⟩
      have : bc < byteLen v := by
        by_cases ha : (a2n && decide (byteLen v > 2)) = true
        · rw [if_pos ha] at hc
          simp at ha
          have := hfit ha.1 ha.2
          omega
        · rw [if_neg ha] at hc
          omega
      exact Nat.le_of_not_lt (fun h => by have := (byteLen_le_iff v bc).2 h; omega)
    · left
      rw [if_neg hb]
      refine ⟨_, rfl, (byteLen_le_iff v _).1 ?_, fun h => by simp [h]⟩
      split <;> omega

/- The splitter of the documented grammar, `C20.splitUs`, is defined next to the property; the lemmas take any `split`
   with its two defining equations. -/
section Groups
variable (split : List Char → List (List Char))
  (h_nil : split [] = [[]])
  (h_cons : ∀ c cs, split (c :: cs) =
    if c == '_' then [] :: split cs
    else match split cs with
      | g :: gs => (c :: g) :: gs
      | [] => [[c]])
include h_nil h_cons

theorem split_ne_nil (s : List Char) : split s ≠ [] := by
  cases s with
  | nil => simp [h_nil]
  | cons c cs =>
    rw [h_cons]
    split
    · simp
    · split <;> simp

theorem digitsValue_gen (base : Nat) (s : List Char) (p : Bool) (acc : Nat) :
    digitsValue base s p acc =
      match split s with
      | [] => none
      | g :: gs =>
        if (!p || !g.isEmpty) && g.all (fun c => decide (digitVal c < base))
            && gs.all (fun g => !g.isEmpty && g.all (fun c => decide (digitVal c < base)))
        then some ((s.filter (· != '_')).foldl (fun acc c => acc * base + digitVal c) acc)
        else none := by
  induction s generalizing p acc with
  | nil => cases p <;> simp [digitsValue, h_nil]
  | cons c cs ih =>
    have hne := split_ne_nil split h_nil h_cons cs
    rw [h_cons, digitsValue]
    by_cases hc : c = '_'
    · subst hc
      simp only [beq_self_eq_true, if_true]
      cases p
      · rw [ih]
        cases hs : split cs with
        | nil => exact absurd hs hne
        | cons g gs => simp
      · simp
    · have hc' : (c == '_') = false := by simp [hc]
      simp only [hc', if_false, Bool.false_eq_true]
      rw [ih]
      cases hs : split cs with
      | nil => exact absurd hs hne
      | cons g gs =>
        by_cases hd : digitVal c < base
        · simp [hd, hc]
        · simp [hd]

theorem digitsValue_groups_gen (base : Nat) (s : List Char) (hs : s ≠ []) :
    (if s.head? = some '_' then none else digitsValue base s false 0) =
      if (split s).all (fun g => !g.isEmpty && g.all (fun c => decide (digitVal c < base)))
      then some ((s.filter (· != '_')).foldl (fun acc c => acc * base + digitVal c) 0) else none := by
  cases s with
  | nil => exact absurd rfl hs
  | cons c cs =>
    have hne := split_ne_nil split h_nil h_cons cs
    rw [digitsValue_gen split h_nil h_cons, h_cons]
    by_cases hc : c = '_'
    · subst hc; simp
    · have hc' : (c == '_') = false := by simp [hc]
      simp only [hc', if_false, Bool.false_eq_true]
      cases hs : split cs with
      | nil => exact absurd hs hne
      | cons g gs => simp [hc]

end Groups

theorem pyIntOf_eq_groups (G : Nat → List Char → Option Nat)
    (hG : ∀ base s, s ≠ [] → (if s.head? = some '_' then none else digitsValue base s false 0) = G base s)
    (base : Nat) (num : List Char) :
    pyIntOf base num =
      (let num' := if base == 2 then
          (match num with
           | '0' :: 'b' :: '_' :: r => r
           | '0' :: 'b' :: r => r
           | r => r) else num
       if num'.isEmpty || num'.head? = some '_' then none else G base num') := by
  have hG' : ∀ (c : Char) (cs : List Char), c ≠ '_' →
      digitsValue base (c :: cs) false 0 = G base (c :: cs) := by
    intro c cs hc
    have := hG base (c :: cs) (by simp)
    simpa [hc] using this
  rcases num with _ | ⟨c0, r0⟩
  · simp [pyIntOf]
  by_cases h0 : c0 = '0'
  case neg =>
    by_cases hu : c0 = '_'
    · simp [pyIntOf, hu]
    · simp [pyIntOf, hG', h0, hu]
  subst h0
  rcases r0 with _ | ⟨c1, r1⟩
  · simp [pyIntOf, hG']
  by_cases h1 : c1 = 'b'
  case neg => simp [pyIntOf, hG', h1]
  subst h1
  by_cases hb : base = 2
  case neg => simp [pyIntOf, hG', hb]
  subst hb
  rcases r1 with _ | ⟨c2, r2⟩
  · simp [pyIntOf]
  by_cases h2 : c2 = '_'
  case neg => simp [pyIntOf, hG', h2]
  subst h2
  rcases r2 with _ | ⟨c3, r3⟩
  · simp [pyIntOf]
  by_cases h3 : c3 = '_'
  case neg => simp [pyIntOf, hG', h3]
  subst h3
  simp [pyIntOf]

theorem char_le_iff_toNat (a c : Char) : a ≤ c ↔ a.toNat ≤ c.toNat := by
  simp [Char.le_def, UInt32.le_iff_toNat_le]

/-- a character in a range of `k` code points is the `n`-th of them: turns a fact about the range into `k` evaluations -/
theorem char_range_cases (lo k : Nat) (c : Char) (h : lo ≤ c.toNat ∧ c.toNat < lo + k) :
    ∃ n : Fin k, c = Char.ofNat (lo + n.val) :=
  ⟨⟨c.toNat - lo, by omega⟩, by simp [show lo + (c.toNat - lo) = c.toNat by omega]⟩

theorem digit_cases (c : Char) (h : '0' ≤ c ∧ c ≤ '9') : ∃ n : Fin 10, c = Char.ofNat (48 + n.val) :=
  char_range_cases 48 10 c ⟨(char_le_iff_toNat _ _).1 h.1, Nat.lt_succ_of_le ((char_le_iff_toNat _ _).1 h.2)⟩

theorem digit_facts (c : Char) (h : '0' ≤ c ∧ c ≤ '9') :
    isWs c = false ∧ lowerCh c = c ∧ isNumCh c = true ∧ c ≠ '_' ∧ digitVal c < 10 ∧
    c ≠ 'b' ∧ c ≠ 'o' ∧ c ≠ 'x' := by
  obtain ⟨n, rfl⟩ := digit_cases c h
  revert n
  decide

theorem dropWhile_head_false {α} (p : α → Bool) (l : List α) (h : ∀ x, l.head? = some x → p x = false) :
    l.dropWhile p = l := by
  cases l with
  | nil => rfl
  | cons a l => simp [List.dropWhile, h a rfl]

theorem takeWhile_all {α} (p : α → Bool) (l : List α) (h : ∀ x ∈ l, p x = true) :
    l.takeWhile p = l := by
  induction l with
  | nil => rfl
  | cons a l ih => simp [List.takeWhile, h a (by simp), ih (fun x hx => h x (by simp [hx]))]

theorem dropWhile_all {α} (p : α → Bool) (l : List α) (h : ∀ x ∈ l, p x = true) :
    l.dropWhile p = [] := by
  induction l with
  | nil => rfl
  | cons a l ih => simp [List.dropWhile, h a (by simp), ih (fun x hx => h x (by simp [hx]))]

theorem strip_eq_self (s : List Char) (h : ∀ c ∈ s, isWs c = false) : strip s = s := by
  unfold strip
  rw [dropWhile_head_false isWs s, dropWhile_head_false isWs s.reverse, List.reverse_reverse]
  · intro x hx; exact h x (by simpa using List.mem_of_mem_head? hx)
  · intro x hx; exact h x (List.mem_of_mem_head? hx)

theorem digitsValue_digits (base : Nat) (s : List Char) (acc : Nat)
    (h : ∀ c ∈ s, c ≠ '_' ∧ digitVal c < base) :
    digitsValue base s false acc = some (s.foldl (fun acc c => acc * base + digitVal c) acc) := by
  induction s generalizing acc with
  | nil => simp [digitsValue]
  | cons c cs ih =>
    have hc := h c (by simp)
    simp only [digitsValue, beq_iff_eq, hc.1, if_false, hc.2, if_true, List.foldl_cons]
    exact ih _ (fun c hc => h c (by simp [hc]))

theorem matchNumSuf_all (ds : List Char) (hne : ds ≠ []) (h : ∀ c ∈ ds, isNumCh c = true) :
    matchNumSuf ds = some ds := by
  have he : ds.isEmpty = false := by cases ds <;> simp_all
  simp [matchNumSuf, takeWhile_all _ _ h, dropWhile_all _ _ h, he]

/-- without a base-2 prefix to look for, `int(ds, base)` on plain digits is the positional value -/
theorem pyIntOf_digits (base : Nat) (hb : base ≠ 2) (ds : List Char) (hne : ds ≠ [])
    (hd : ∀ c ∈ ds, c ≠ '_' ∧ digitVal c < base) :
    pyIntOf base ds = some (ds.foldl (fun acc c => acc * base + digitVal c) 0) := by
  rw [← digitsValue_digits base ds 0 hd]
  obtain ⟨c, cs, rfl⟩ := List.exists_cons_of_ne_nil hne
  have hc : c ≠ '_' := (hd c (by simp)).1
  unfold pyIntOf
  split <;> simp [hb, hc]

/-- a text that `strip` and `lower` leave alone: once the regex has picked base and digit group, the value is positional -/
theorem valueToInt_clean (s ds : List Char) (base : Nat) (hb : base ≠ 2) (hs : s ≠ [])
    (hws : ∀ c ∈ s, isWs c = false ∧ lowerCh c = c) (hr : regexMatch s = some (base, ds)) (hne : ds ≠ [])
    (hd : ∀ c ∈ ds, c ≠ '_' ∧ digitVal c < base) :
    valueToInt s = some (ds.foldl (fun acc c => acc * base + digitVal c) 0) := by
  have he : s.isEmpty = false := by cases s <;> simp_all
  have h2 : s.map lowerCh = s := (List.map_congr_left (fun c hc => (hws c hc).2)).trans (List.map_id' s)
  simp only [valueToInt, he, strip_eq_self s (fun c hc => (hws c hc).1), h2, hr, Bool.false_eq_true, if_false]
  exact pyIntOf_digits base hb ds hne hd

theorem valueToInt_digits (ds : List Char) (h : ds ≠ []) (hd : ∀ c ∈ ds, '0' ≤ c ∧ c ≤ '9') :
    valueToInt ds = some (ds.foldl (fun acc c => acc * 10 + digitVal c) 0) := by
  have hf := fun c hc => digit_facts c (hd c hc)
  have hm := matchNumSuf_all ds h (fun c hc => (hf c hc).2.2.1)
  refine valueToInt_clean ds ds 10 (by decide) h (fun c hc => ⟨(hf c hc).1, (hf c hc).2.1⟩) ?_ h
    (fun c hc => ⟨(hf c hc).2.2.2.1, (hf c hc).2.2.2.2.1⟩)
  -- the second character is a digit, so no `0b`/`0o`/`0x` prefix is seen
  rcases ds with _ | ⟨c0, _ | ⟨c1, rest⟩⟩
  · exact absurd rfl h
  · simp [regexMatch, hm]
  · have := hf c1 (by simp)
    by_cases h0 : c0 = '0'
    · subst h0; simp [regexMatch, hm, this]
    · simp [regexMatch, hm, h0]

/-- little-endian value of a bit list -/
def leVal : List Bool → Nat
  | [] => 0
  | b :: l => (if b then 1 else 0) + 2 * leVal l

theorem ofBitsBE_append_single (l : List Bool) (b : Bool) :
    ofBitsBE (l ++ [b]) = ofBitsBE l * 2 + (if b then 1 else 0) := by
  simp [ofBitsBE, List.foldl_append]

theorem ofBitsBE_reverse (l : List Bool) : ofBitsBE l.reverse = leVal l := by
  induction l with
  | nil => rfl
  | cons b l ih => rw [List.reverse_cons, ofBitsBE_append_single, ih, leVal]; omega

theorem bitsOf_length (n x : Nat) : (bitsOf n x).length = n := by
  induction n generalizing x with
  | zero => rfl
  | succ n ih => simp [bitsOf, ih]

theorem leVal_bitsOf (n x : Nat) : leVal (bitsOf n x) = x % 2 ^ n := by
  induction n generalizing x with
  | zero => simp [bitsOf, leVal, Nat.mod_one]
  | succ n ih =>
    have hp : 2 ^ (n + 1) = 2 * 2 ^ n := by rw [Nat.pow_succ, Nat.mul_comm]
    rw [bitsOf, leVal, ih, hp, Nat.mod_mul]
    have : (if (x % 2 == 1) = true then 1 else 0) = x % 2 := by
      rcases Nat.mod_two_eq_zero_or_one x with h | h <;> simp [h]
    rw [this]

theorem bitsOf_leVal (l : List Bool) (n : Nat) (h : l.length = n) : bitsOf n (leVal l) = l := by
  induction l generalizing n with
  | nil => subst h; rfl
  | cons b l ih =>
    subst h
    simp only [List.length_cons, bitsOf, leVal]
    have h1 : ((if b = true then 1 else 0) + 2 * leVal l) / 2 = leVal l := by cases b <;> simp <;> omega
    have h2 : (((if b = true then 1 else 0) + 2 * leVal l) % 2 == 1) = b := by cases b <;> simp <;> omega
    rw [h1, h2, ih _ rfl]

theorem leVal_lt (l : List Bool) : leVal l < 2 ^ l.length := by
  induction l with
  | nil => simp [leVal]
  | cons b l ih =>
    simp only [leVal, List.length_cons, Nat.pow_succ]
    cases b <;> simp <;> omega

theorem bitLenF_le (f x n : Nat) (h : x < 2 ^ n) : bitLenF f x ≤ n := by
  induction f generalizing x n with
  | zero => simp [bitLenF]
  | succ f ih =>
    by_cases hx : x = 0
    · simp [bitLenF, hx]
    · simp only [bitLenF, hx, if_false]
      cases n with
      | zero => simp at h; omega
      | succ m =>
        have := ih (x / 2) m (by rw [Nat.pow_succ] at h; omega)
        omega

theorem reverseBits_eq (x n : Nat) (h : x < 2 ^ n) (hn : 0 < n) :
    reverseBits x n = leVal (bitsOf n x).reverse := by
  have hb : bitLen x ≤ n := bitLenF_le x x n h
  have hN : max n (max (bitLen x) 1) = n := by omega
  simp only [reverseBits, hN]
  rw [← ofBitsBE_reverse, List.reverse_reverse]

theorem reverseBits_invol' (x n : Nat) (h : x < 2 ^ n) (hn : 0 < n) :
    reverseBits (reverseBits x n) n = x := by
  have hl : (bitsOf n x).reverse.length = n := by simp [bitsOf_length]
  have hy : reverseBits x n < 2 ^ n := by
    rw [reverseBits_eq x n h hn]
    have := leVal_lt (bitsOf n x).reverse
    rwa [hl] at this
  rw [reverseBits_eq _ n hy hn, reverseBits_eq x n h hn, bitsOf_leVal _ n hl, List.reverse_reverse,
    leVal_bitsOf, Nat.mod_eq_of_lt h]

/-- the body of `reverseBytesInLongs` -/
def revLongs (b : Bytes) : Bytes := ((chunk4 b).map List.reverse).flatten

theorem revLongs_spec : ∀ (b : Bytes), b.length % 4 = 0 →
    (revLongs b).length = b.length ∧ revLongs (revLongs b) = b
  | [], _ => by simp [revLongs, chunk4]
  | [_], h => by simp at h
  | [_, _], h => by simp at h
  | [_, _, _], h => by simp at h
  | a :: b :: c :: d :: rest, h => by
    have h' : rest.length % 4 = 0 := by simp at h; omega
    obtain ⟨i1, i2⟩ := revLongs_spec rest h'
    have e : revLongs (a :: b :: c :: d :: rest) = d :: c :: b :: a :: revLongs rest := by
      simp [revLongs, chunk4]
    rw [e]
    constructor
    · simp [i1]
    · have e' : revLongs (d :: c :: b :: a :: revLongs rest) = a :: b :: c :: d :: revLongs (revLongs rest) := by
        simp [revLongs, chunk4]
      rw [e', i2]

theorem swapPairs_spec : ∀ (b : Bytes), (swapPairs b).length = b.length ∧ swapPairs (swapPairs b) = b
  | [] => by simp [swapPairs]
  | [_] => by simp [swapPairs]
  | a :: b :: rest => by
    obtain ⟨i1, i2⟩ := swapPairs_spec rest
    simp [swapPairs, i1, i2]

/-- `change_endianness` by width: one or two bytes reversed, multiples of four word-wise, everything else refused -/
theorem changeEndianness_eq (b : Bytes) :
    changeEndianness b =
      if b.length = 1 ∨ b.length = 2 then .ok b.reverse
      else if b.length % 4 = 0 then .ok (revLongs b) else .error .spsdk := by
  unfold changeEndianness reverseBytesInLongs revLongs
  by_cases h1 : b.length = 1
  · obtain ⟨x, rfl⟩ := List.length_eq_one_iff.1 h1; simp
  by_cases h2 : b.length = 2
  · simp [h2]
  by_cases h3 : b.length = 3
  · simp [h3]
  by_cases h4 : b.length % 4 = 0 <;> simp [h1, h2, h3, h4]

theorem alignNat_spec (n a : Nat) (ha : 0 < a) :
    alignNat n a % a = 0 ∧ n ≤ alignNat n a ∧ alignNat n a < n + a := by
  unfold alignNat
  refine ⟨Nat.mul_mod_left _ _, ?_, ?_⟩
  all_goals
    have e := Nat.mod_add_div (n + (a - 1)) a
    have l := Nat.mod_lt (n + (a - 1)) ha
    rw [Nat.mul_comm] at e
    omega

theorem cycleTake_length (p : Bytes) (n i : Nat) : (cycleTake p n i).length = n := by
  induction n generalizing i with
  | zero => rfl
  | succ n ih => simp [cycleTake, ih]

theorem bcd_char (d : Nat) (h : d ≤ 9) :
    (decide ('0' ≤ Char.ofNat (48 + d)) && decide (Char.ofNat (48 + d) ≤ '9')) = true ∧
      (Char.ofNat (48 + d)).toNat - 48 = d := by
  have : ∀ k : Fin 10, (decide ('0' ≤ Char.ofNat (48 + k.val)) && decide (Char.ofNat (48 + k.val) ≤ '9')) = true ∧
      (Char.ofNat (48 + k.val)).toNat - 48 = k.val := by decide
  exact this ⟨d, by omega⟩

theorem bcd_foldl (L : List Nat) (hL : ∀ d ∈ L, d ≤ 9) (acc : Nat) :
    (L.map (fun d => Char.ofNat (48 + d))).foldl (fun acc c => acc * 16 + (c.toNat - 48)) acc =
      L.foldl (fun acc d => acc * 16 + d) acc := by
  induction L generalizing acc with
  | nil => rfl
  | cons d L ih =>
    simp only [List.map_cons, List.foldl_cons, (bcd_char d (hL d (by simp))).2]
    exact ih (fun x hx => hL x (by simp [hx])) _

theorem bcdFromDigits_map (L : List Nat) (hlen : L.length ≤ 4) (hL : ∀ d ∈ L, d ≤ 9) :
    bcdFromDigits (L.map (fun d => Char.ofNat (48 + d))) = .ok (L.foldl (fun acc d => acc * 16 + d) 0) := by
  have h1 : ¬ (L.map (fun d => Char.ofNat (48 + d))).length > 4 := by simp; omega
  have h2 : (L.map (fun d => Char.ofNat (48 + d))).all (fun c => decide ('0' ≤ c) && decide (c ≤ '9')) = true := by
    rw [List.all_eq_true]
    intro c hc
    obtain ⟨d, hd, rfl⟩ := List.mem_map.1 hc
    exact (bcd_char d (hL d hd)).1
  unfold bcdFromDigits
  rw [if_neg h1, if_pos h2, bcd_foldl L hL]

theorem foldl_dropWhile_zero (b : Nat) (l : List Nat) :
    (l.dropWhile (· == 0)).foldl (fun a d => a * b + d) 0 = l.foldl (fun a d => a * b + d) 0 := by
  induction l with
  | nil => rfl
  | cons d l ih =>
    by_cases hd : d = 0
    · subst hd; simpa [List.dropWhile] using ih
    · rw [List.dropWhile_cons_of_neg (by simpa using hd)]

/-- `"%X" % n` as a digit list: the four hex digits without leading zeros (`[0]` for 0), each decimal, of value `n` -/
theorem bcdToDigits_eq (n : Nat) (h : bcdDigitOk n = true) :
    ∃ L : List Nat, bcdToDigits n = L.map (fun d => Char.ofNat (48 + d)) ∧ L ≠ [] ∧ L.length ≤ 4 ∧
      (∀ d ∈ L, d ≤ 9) ∧ L.foldl (fun a d => a * 16 + d) 0 = n := by
  simp only [bcdDigitOk, Bool.and_eq_true, decide_eq_true_eq] at h
  obtain ⟨⟨⟨⟨h0, h1⟩, h2⟩, h3⟩, h4⟩ := h
  generalize hds : [n / 4096 % 16, n / 256 % 16, n / 16 % 16, n % 16] = ds
  have hval : ds.foldl (fun a d => a * 16 + d) 0 = n := by subst hds; simp only [List.foldl]; omega
  have hle : ∀ d ∈ ds, d ≤ 9 := by
    subst hds; intro d hd
    simp only [List.mem_cons, List.not_mem_nil, or_false] at hd
    rcases hd with rfl | rfl | rfl | rfl <;> assumption
  have hlen : ds.length = 4 := by subst hds; rfl
  have hsub : ∀ d ∈ ds.dropWhile (· == 0), d ≤ 9 := fun d hd => hle d ((List.dropWhile_sublist _).subset hd)
  have hdl : (ds.dropWhile (· == 0)).length ≤ 4 := hlen ▸ (List.dropWhile_sublist _).length_le
  rw [← foldl_dropWhile_zero] at hval
  simp only [bcdToDigits, hds]
  split
  · rename_i he
    rw [List.isEmpty_iff.1 he] at hval
    exact ⟨[0], rfl, by simp, by simp, by simp, by simpa using hval⟩
  · rename_i he
    exact ⟨_, rfl, by simpa using he, hdl, hsub, hval⟩

theorem bcd_roundtrip' (n : Nat) (h : bcdDigitOk n = true) :
    bcdFromDigits (bcdToDigits n) = .ok n := by
  obtain ⟨L, e, _, hlen, hle, hval⟩ := bcdToDigits_eq n h
  rw [e, bcdFromDigits_map L hlen hle, hval]

end SpsdkVerif.Misc
