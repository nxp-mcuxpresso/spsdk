/-
C13 — IEE: `Iee.encryptImage` refines the page-wise specification; the hardware model (XTS with the page
number as tweak / CTR with address binding / bypass) inverts it; the encrypted key-blob area parses back.
-/
import SpsdkVerif.Proofs.FlashEncCommon

namespace SpsdkVerif.FlashEnc
open SpsdkVerif SpsdkVerif.Crypto
open SpsdkVerif.Misc (beEnc beDec leEnc leDec beEnc_length leEnc_length leDec_leEnc)
open SpsdkVerif.Generated.FlashEncConsts

variable {c : CryptoOps} (h : CryptoLaws c) (b : IeeBlob) (bs : List IeeBlob)

theorem iee_word_eq (k : Bytes) (hk : k.length % 4 = 0) : IeeCtx.word k = Misc.revLongs k := by
  simp [IeeCtx.word, Misc.reverseBytesInLongs, Misc.revLongs, hk]

theorem iee_word_length (k : Bytes) (hk : k.length % 4 = 0) : (IeeCtx.word k).length = k.length := by
  rw [iee_word_eq k hk]; exact (Misc.revLongs_spec k hk).1

theorem iee_word_inj (a b : Bytes) (ha : a.length % 4 = 0) (hb : b.length % 4 = 0) (he : IeeCtx.word a = IeeCtx.word b) : a = b := by
  rw [iee_word_eq a ha, iee_word_eq b hb] at he
  rw [← (Misc.revLongs_spec a ha).2, he, (Misc.revLongs_spec b hb).2]

theorem iee_rev_ok (k : Bytes) (hk : k.length % 4 = 0) : Misc.reverseBytesInLongs k = .ok (IeeCtx.word k) := by
  simp [IeeCtx.word, Misc.reverseBytesInLongs, hk]

/-- the XTS key check passes for two different keys of the same length 16 or 32 -/
theorem iee_xtsKeyCheck (k1 k2 : Bytes) (hl : k1.length = k2.length) (h16 : k1.length = 16 ∨ k1.length = 32) (hne : k1 ≠ k2)
    (k : Bytes → Bytes → PyRes Bytes) : xtsKeyCheck (k1 ++ k2) k = k k1 k2 := by
  have hlen : (k1 ++ k2).length / 2 = k1.length := by simp; omega
  have ht : (k1 ++ k2).take ((k1 ++ k2).length / 2) = k1 := by rw [hlen]; exact List.take_left' rfl
  have hd : (k1 ++ k2).drop ((k1 ++ k2).length / 2) = k2 := by rw [hlen]; exact List.drop_left' rfl
  unfold xtsKeyCheck
  rw [ht, hd]
  have h1 : ¬ ((k1 ++ k2).length ≠ 32 ∧ (k1 ++ k2).length ≠ 64) := by simp; omega
  have h2 : (k1 == k2) = false := by simpa using hne
  rw [if_neg h1, h2]; simp

theorem iee_key1Size : b.key1Size = 16 ∨ b.key1Size = 32 := by
  unfold IeeBlob.key1Size; cases b.keySize <;> simp
theorem iee_key2Size : b.key2Size = 16 ∨ b.key2Size = 32 := by
  unfold IeeBlob.key2Size; cases b.keySize <;> simp
theorem iee_key2Size_ctr (hc : b.mode.isCtr = true) : b.key2Size = 16 := by
  unfold IeeBlob.key2Size; cases b.keySize <;> simp [hc]
theorem iee_key2Size_nctr (hc : b.mode.isCtr = false) : b.key2Size = b.key1Size := by
  unfold IeeBlob.key2Size IeeBlob.key1Size; cases b.keySize <;> simp [hc]

theorem iee_mode_cases : b.mode = .bypass ∨ b.mode = .xts ∨ b.mode.isCtr = true := by
  cases b.mode <;> simp [IeeMode.isCtr]

/-- the key fields of a well-formed blob as the AES engine takes them -/
theorem iee_key_lengths (hwf : b.WF) :
    b.key1.length % 4 = 0 ∧ b.key2.length % 4 = 0 ∧ (IeeCtx.word b.key1).length = b.key1Size ∧
      (IeeCtx.word b.key2).length = b.key2Size := by
  have h1 : b.key1.length % 4 = 0 := by have := hwf.k1; have := iee_key1Size b; omega
  have h2 : b.key2.length % 4 = 0 := by have := hwf.k2; have := iee_key2Size b; omega
  exact ⟨h1, h2, by rw [iee_word_length _ h1, hwf.k1], by rw [iee_word_length _ h2, hwf.k2]⟩

/-- the 16-byte piece at address `a` under key `K` and initial counter block `N` -/
def iee_ctrPiece (c : CryptoOps) (K N : Bytes) (a : Nat) (p : Bytes) : Bytes := ctrXor c K (counterValue N (a / 16)) p

theorem iee_ctrBlocks_nil (k n : Bytes) (f cv : Nat) : IeeBlob.ctrBlocks c k n f cv [] = [] := by
  cases f <;> simp [IeeBlob.ctrBlocks]

/-- one `Counter` step per 16-byte block = the piece-wise map with the counter word bound to the address -/
theorem iee_ctrBlocks_eq (K N : Bytes) : ∀ (a : Nat) (D : Bytes) (f : Nat), D.length ≤ f →
    IeeBlob.ctrBlocks c K N f (a / 16) D = mapImage 16 (iee_ctrPiece c K N) a D :=
  pieces_ind 16 (fun a f _ => by rw [iee_ctrBlocks_nil, mapImage_nil]) fun a D hD ih f hf => by
    have := List.length_pos_iff.mpr hD
    cases f with
    | zero => omega
    | succ f =>
      rw [IeeBlob.ctrBlocks, if_neg (by simpa using hD), mapImage_cons hD, ← ih f (by rw [List.length_drop]; omega),
        (by rw [ieeEncBlockSize, Nat.shiftRight_eq_div_pow]; omega : a / 16 + ieeEncBlockSize >>> 4 = (a + 16) / 16)]
      rfl

theorem ieeCtrPage_eq (x : IeeCtx) : ∀ (n a : Nat) (ct : Bytes), ieeCtrPage c x n a ct = mapPieces 16 (ieeCtrBlock c x) n a ct
  | 0, _, _ => rfl
  | n + 1, a, ct => congrArg _ (ieeCtrPage_eq x n (a + 16) (ct.drop 16))

include h in
theorem iee_ctrPiece_len (K N : Bytes) : PieceLen 16 (iee_ctrPiece c K N) :=
  ⟨rfl, fun a p _ _ => by rw [iee_ctrPiece, ctrXor_length h]; omega⟩

include h in
/-- the engine's CTR read of whole blocks inverts the CTR encryption when the context holds the same key and counter -/
theorem iee_ctrPage_inv (x : IeeCtx) (K N : Bytes) (hK : IeeCtx.word (x.key1.take x.keyLen) = K)
    (hN : IeeCtx.word (x.key2.take 16) = N) (hNl : N.length = 16) (a : Nat) (D : Bytes) (hD : D.length % 16 = 0) :
    ieeCtrPage c x (blocksFor D.length) a (mapImage 16 (iee_ctrPiece c K N) a D) = D := by
  have hl := mapImage_length (iee_ctrPiece_len h K N) a D
  rw [ieeCtrPage_eq, (by unfold blocksFor piecesFor; omega :
    blocksFor D.length = piecesFor 16 (mapImage 16 (iee_ctrPiece c K N) a D).length)]
  refine mapImage_inv_exact (fun a p hp => ?_) a D hD
  have hiv : (counterValue N (a / 16)).length = 16 := by simp [counterValue, beEnc_length, hNl]
  rw [iee_ctrPiece, ctrXor_block c K _ _ hiv hp]
  exact ⟨by rw [ieeCtrBlock, hK, hN]; exact xorBytes_cancel_eq _ _ (by rw [hp, h.enc_len]),
    by rw [xorBytes_length, hp, h.enc_len]; rfl⟩

theorem iee_xtsChunks_nil (k1 k2 : Bytes) (f a : Nat) : IeeBlob.xtsChunks c k1 k2 f a [] = [] := by
  cases f <;> simp [IeeBlob.xtsChunks]

theorem iee_xtsChunks_single (k1 k2 : Bytes) (f a : Nat) (d : Bytes) (h0 : d ≠ []) (hf : d.length ≤ f) (hd : d.length ≤ 4096) :
    IeeBlob.xtsChunks c k1 k2 f a d = xtsEnc c k1 k2 (IeeBlob.tweak a) d := by
  cases f with
  | zero => exact absurd (List.eq_nil_of_length_eq_zero (Nat.le_zero.mp hf)) h0
  | succ f =>
    rw [IeeBlob.xtsChunks, if_neg (by simpa using h0), ieeXtsBlockSize, List.take_of_length_le hd, List.drop_of_length_le hd,
      iee_xtsChunks_nil, List.append_nil]

theorem iee_encPage_bypass (hm : b.mode = .bypass) (a : Nat) (d : Bytes) : b.encPage c a d = d := by
  simp only [IeeBlob.encPage, hm]

theorem iee_encPage_xts (hm : b.mode = .xts) (a : Nat) (d : Bytes) :
    b.encPage c a d = xtsEnc c (IeeCtx.word b.key1) (IeeCtx.word b.key2) (IeeBlob.tweak a) (zeroPad 16 d) := by
  simp only [IeeBlob.encPage, hm]

theorem iee_encPage_ctr (hc : b.mode.isCtr = true) (a : Nat) (d : Bytes) :
    b.encPage c a d = mapImage 16 (iee_ctrPiece c (IeeCtx.word b.key1) (IeeCtx.word b.key2)) a (zeroPad 16 d) := by
  rw [← iee_ctrBlocks_eq _ _ a _ _ (Nat.le_refl _)]
  unfold IeeBlob.encPage
  cases hm : b.mode <;> first | rfl | (rw [hm] at hc; cases hc)

/-- in the CTR modes at ANY 16-byte aligned address, for any length -/
theorem iee_encryptImage_ctr (hwf : b.WF) (hc : b.mode.isCtr = true) (L : Nat) (hL : L % 16 = 0) (d : Bytes) :
    b.encryptImage c L d = .ok (b.encPage c L d) := by
  obtain ⟨hk1m, hk2m, hk1, hk2⟩ := iee_key_lengths b hwf
  have hm : b.mode ≠ .bypass := fun e => by rw [e] at hc; cases hc
  have hn : ¬ (IeeCtx.word b.key2).length ≠ 16 := by rw [hk2, iee_key2Size_ctr b hc]; simp
  have hv : (!validAesKeyLen (IeeCtx.word b.key1)) = false := by
    rcases iee_key1Size b with e | e <;> simp [validAesKeyLen, hk1, e]
  rw [iee_encPage_ctr b hc, ← iee_ctrBlocks_eq _ _ L _ _ (Nat.le_refl _)]
  simp only [IeeBlob.encryptImage, IeeBlob.encryptImageCtr, if_neg (by omega : ¬ L % 16 ≠ 0), hm, if_false, hc, if_true,
    ieeEncBlockSize, iee_rev_ok _ hk1m, iee_rev_ok _ hk2m, hn, hv, Bool.false_eq_true, ieeCtrAddrShift,
    Nat.shiftRight_eq_div_pow]
  cases hz : zeroPad 16 d with
  | nil => simp [iee_ctrBlocks_nil]
  | cons x t => simp

theorem iee_encryptImage_xts (hwf : b.WF) (hx : b.mode = .xts) (a : Nat) (ha : a % 16 = 0) (d : Bytes)
    (h0 : 0 < d.length) (hd : d.length ≤ 4096) : b.encryptImage c a d = .ok (b.encPage c a d) := by
  obtain ⟨hk1m, hk2m, hk1, hk2⟩ := iee_key_lengths b hwf
  have hc : b.mode.isCtr = false := by rw [hx]; rfl
  have hpne : zeroPad 16 d ≠ [] := List.length_pos_iff.mp (by rw [zeroPad_length]; omega)
  rw [iee_encPage_xts b hx]
  simp only [IeeBlob.encryptImage, IeeBlob.encryptImageXts, if_neg (by omega : ¬ a % 16 ≠ 0), hx, reduceCtorEq, if_false,
    IeeMode.isCtr, Bool.false_eq_true, ieeEncBlockSize, iee_rev_ok _ hk1m, iee_rev_ok _ hk2m, List.isEmpty_iff, hpne]
  rw [iee_xtsKeyCheck _ _ (by rw [hk1, hk2, iee_key2Size_nctr b hc]) (by rw [hk1]; exact iee_key1Size b)
      (fun e => hwf.keys_ne hx (iee_word_inj _ _ hk1m hk2m e)),
    iee_xtsChunks_single _ _ _ _ _ hpne (Nat.le_refl _) (by rw [zeroPad16_length]; omega)]

/-- `IeeKeyBlob.encrypt_image` on one page of a well-formed blob is the page specification -/
theorem iee_encryptImage_page (hwf : b.WF) (a : Nat) (ha : a % 16 = 0) (d : Bytes)
    (h0 : 0 < d.length) (hd : d.length ≤ 4096) : b.encryptImage c a d = .ok (b.encPage c a d) := by
  rcases iee_mode_cases b with hm | hm | hc
  · simp [IeeBlob.encryptImage, hm, iee_encPage_bypass b hm, ha]
  · exact iee_encryptImage_xts b hwf hm a ha d h0 hd
  · exact iee_encryptImage_ctr b hwf hc a ha d

theorem ieeSpec_eq : ∀ (f a : Nat) (m : Bytes), ieeSpec c bs f a m = ieeHwReadWith (ieeSpecPage c bs) f a m
  | 0, _, _ => rfl
  | f + 1, a, m => by rw [ieeSpec, ieeHwReadWith, ieeSpec_eq f]

/-- the page walk of the Spec file covers the image when the fuel does -/
theorem ieeHwReadWith_eq (page : Nat → Bytes → Bytes) : ∀ (a : Nat) (m : Bytes) (fuel : Nat), m.length ≤ fuel →
    ieeHwReadWith page fuel a m = mapImage 4096 page a m :=
  pieces_ind 4096 (fun a fuel _ => by cases fuel <;> simp [ieeHwReadWith, mapImage_nil])
    fun a m hm ih fuel hf => by
      have := List.length_pos_iff.mpr hm
      cases fuel with
      | zero => omega
      | succ fuel =>
        rw [ieeHwReadWith, if_neg (by simpa using hm), mapImage_cons hm,
          ih fuel (by rw [List.length_drop]; omega)]

theorem ieeSpecImage_eq : ieeSpecImage c bs = mapImage 4096 (ieeSpecPage c bs) :=
  funext fun a => funext fun m => (ieeSpec_eq bs _ a m).trans (ieeHwReadWith_eq _ a m _ (Nat.le_refl _))

include h in
theorem iee_encPage_length (a : Nat) (d : Bytes) :
    (b.encPage c a d).length = d.length ∨ (b.encPage c a d).length = (d.length + 15) / 16 * 16 := by
  have hz := zeroPad16_length d
  rcases iee_mode_cases b with hm | hm | hc
  · rw [iee_encPage_bypass b hm]; exact .inl rfl
  · rw [iee_encPage_xts b hm, xtsEnc_length h]; omega
  · have := mapImage_length (iee_ctrPiece_len h (IeeCtx.word b.key1) (IeeCtx.word b.key2)) a
      (zeroPad 16 d)
    rw [iee_encPage_ctr b hc]; omega

include h in
theorem iee_specPage_len : PieceLen 4096 (ieeSpecPage c bs) :=
  ⟨rfl, fun a p _ _ => by
    unfold ieeSpecPage
    cases ieeActive bs a with
    | none => dsimp only; omega
    | some b => have := iee_encPage_length h b a p; dsimp only; omega⟩

include h in
theorem iee_spec_length (base : Nat) (img : Bytes) :
    img.length ≤ (ieeSpecImage c bs base img).length ∧
    (ieeSpecImage c bs base img).length ≤ (img.length + 15) / 16 * 16 := by
  rw [ieeSpecImage_eq]
  exact mapImage_length (iee_specPage_len h bs) base img

/-- the specification is position independent at page granularity -/
theorem iee_spec_append (base : Nat) (p q : Bytes) (hp : p.length % 4096 = 0) :
    ieeSpecImage c bs base (p ++ q) = ieeSpecImage c bs base p ++ ieeSpecImage c bs (base + p.length) q := by
  rw [ieeSpecImage_eq]
  exact mapImage_append q base p hp

include h in
/-- a byte in no region, or in a bypass region, is left as it is -/
theorem iee_spec_outside (hwf : ∀ b ∈ bs, b.WF)
    (base : Nat) (hb : base % 4096 = 0) (img : Bytes) (i : Nat) (hi : i < img.length)
    (hout : ∀ b ∈ bs, b.mode ≠ .bypass → ¬ (b.start ≤ base + i ∧ base + i < b.end_)) :
    (ieeSpecImage c bs base img)[i]? = img[i]? := by
  rw [ieeSpecImage_eq]
  refine mapImage_outside (iee_specPage_len h bs) base img i hi fun p => ?_
  unfold ieeSpecPage
  cases hact : ieeActive bs (base + i / 4096 * 4096) with
  | none => rfl
  | some b =>
    have hmem := List.mem_of_find?_eq_some hact
    have hin := List.find?_some hact
    have := (hwf b hmem).start_al
    have := (hwf b hmem).end_al
    simp only [Bool.and_eq_true, decide_eq_true_eq] at hin
    exact iee_encPage_bypass b (Classical.byContradiction fun hne => hout b hmem hne (by omega)) _ p

theorem iee_matches_iff (hwf : b.WF) (a len : Nat) (ha : a % 4096 = 0) (h0 : 0 < len) (hl : len ≤ 4096) :
    b.matchesRange a (a + len) = (decide (b.start ≤ a) && decide (a < b.end_)) := by
  have := hwf.start_al
  have := hwf.end_al
  rw [Bool.eq_iff_iff]
  simp only [IeeBlob.matchesRange, IeeBlob.containsAddr, Bool.and_eq_true, decide_eq_true_eq]
  omega

theorem iee_blobsStep (base a : Nat) (ha : a % 4096 = 0) (block : Bytes) (h0 : 0 < block.length)
    (hl : block.length ≤ 4096) : ∀ (bs : List IeeBlob) (data : Bytes), (∀ b ∈ bs, b.WF) → IeeDisjoint bs →
    ieeBlobsStep c base a block bs data = .ok (match ieeActive bs a with
      | none => data
      | some b => sliceAssign data (a - base) (block.length + a - base) (b.encPage c a block))
  | [], data, _, _ => by simp [ieeBlobsStep, ieeActive]
  | b :: rest, data, hwf, hd => by
    have hb := hwf b List.mem_cons_self
    have hrest : ∀ x ∈ rest, x.WF := fun x hx => hwf x (List.mem_cons_of_mem _ hx)
    have hd' : IeeDisjoint rest := (List.pairwise_cons.mp hd).2
    have hrel := (List.pairwise_cons.mp hd).1
    unfold ieeBlobsStep
    rw [iee_matches_iff b hb a _ ha h0 hl]
    by_cases hit : (decide (b.start ≤ a) && decide (a < b.end_)) = true
    · have hnone : ieeActive rest a = none := by
        unfold ieeActive
        rw [List.find?_eq_none]
        intro x hx
        have := hrel x hx
        simp at hit ⊢
        omega
      simp only [hit, if_true, iee_encryptImage_page b hb a (by omega) block h0 hl]
      rw [iee_blobsStep base a ha block h0 hl rest _ hrest hd', hnone]
      simp [ieeActive, hit]
    · have hit' : (decide (b.start ≤ a) && decide (a < b.end_)) = false := by simpa using hit
      simp only [hit', Bool.false_eq_true, if_false]
      rw [iee_blobsStep base a ha block h0 hl rest _ hrest hd']
      simp [ieeActive, hit']

/-- one page: the region loop writes the specified bytes over the block -/
theorem iee_blobsStep_spec (hwf : ∀ b ∈ bs, b.WF) (hd : IeeDisjoint bs) (base : Nat)
    (done block tail : Bytes) (h0 : block ≠ []) (ha : (base + done.length) % 4096 = 0) (hl : block.length ≤ 4096) :
    ieeBlobsStep c base (base + done.length) block bs (done ++ (block ++ tail)) =
      .ok (done ++ ieeSpecPage c bs (base + done.length) block ++ tail) := by
  rw [iee_blobsStep base _ ha block (List.length_pos_iff.mpr h0) hl bs _ hwf hd, ieeSpecPage]
  cases ieeActive bs (base + done.length) with
  | none => simp only; rw [List.append_assoc]
  | some b =>
    simp only
    rw [Nat.add_sub_cancel_left, (by omega : block.length + (base + done.length) - base = block.length + done.length),
      sliceAssign_prefix, List.drop_left]

theorem ieeLoop_eq (base : Nat) : ∀ (f addr : Nat) (rest data : Bytes),
    ieeLoop c bs base f addr rest data = unitLoop 4096 (fun a block d => ieeBlobsStep c base a block bs d) f addr rest data
  | 0, _, _, _ => rfl
  | f + 1, addr, rest, data => by
    simp only [ieeLoop, unitLoop, ieeDataUnit, ieeLoop_eq base f]
    rfl

include h in
/-- REFINEMENT: the code computes the page-wise specification (4 KiB aligned base and ranges) -/
theorem iee_refines_spec (hwf : ∀ b ∈ bs, b.WF) (hd : IeeDisjoint bs)
    (base : Nat) (hb : base % 4096 = 0) (img : Bytes) :
    Iee.encryptImage c bs img base = .ok (ieeSpecImage c bs base img) := by
  have := unitLoop_spec (step := fun a block d => ieeBlobsStep c base a block bs d) base
    (fun a _ => (iee_specPage_len h bs).whole a)
    (iee_blobsStep_spec bs hwf hd base) img.length base img [] (Nat.le_refl _) fun _ => ⟨rfl, hb⟩
  rwa [List.nil_append, List.nil_append, ← ieeLoop_eq, ← ieeSpecImage_eq] at this

theorem iee_ctx_keyLen : b.ctx.keyLen = b.key1Size := by
  unfold IeeCtx.keyLen IeeBlob.ctx IeeBlob.key1Size
  cases b.keySize <;> simp [IeeKeySize.tag, ieeKey128, ieeKey256]

theorem iee_ctx_key1 (hwf : b.WF) : b.ctx.key1.take b.ctx.keyLen = b.key1 := by
  rw [iee_ctx_keyLen, ← hwf.k1]; exact zeroPad_take_self 32 b.key1

theorem iee_ctx_key2_xts (hwf : b.WF) (hm : b.mode.isCtr = false) :
    b.ctx.key2.take b.ctx.keyLen = b.key2 := by
  rw [iee_ctx_keyLen, ← iee_key2Size_nctr b hm, ← hwf.k2]; exact zeroPad_take_self 32 b.key2

theorem iee_ctx_key2_ctr (hwf : b.WF) (hm : b.mode.isCtr = true) : b.ctx.key2.take 16 = b.key2 := by
  rw [← iee_key2Size_ctr b hm, ← hwf.k2]; exact zeroPad_take_self 32 b.key2

theorem iee_tweak_eq (a : Nat) : IeeBlob.tweak a = leEnc 16 (a / 4096) := by
  simp [IeeBlob.tweak, ieeTweakShift, Nat.shiftRight_eq_div_pow]

include h in
/-- XTS: decrypting with the context's keys and the tweak of page `a` what was encrypted for page `a` -/
theorem iee_xtsDec_encPage (hwf : b.WF) (hm : b.mode = .xts) (a : Nat) (d : Bytes) :
    xtsDec c (IeeCtx.word (b.ctx.key1.take b.ctx.keyLen)) (IeeCtx.word (b.ctx.key2.take b.ctx.keyLen)) (leEnc 16 (a / 4096))
      (b.encPage c a d) = zeroPad 16 d := by
  rw [iee_encPage_xts b hm, iee_ctx_key1 b hwf, iee_ctx_key2_xts b hwf (by rw [hm]; rfl), iee_tweak_eq,
    xts_inv h _ _ _ _ (zeroPad_length_mod 16 (by omega) d)]

include h in
/-- CTR (any of the three modes): reading block by block from `a` what was encrypted for `a` -/
theorem iee_ctrPage_encPage (hwf : b.WF) (hc : b.mode.isCtr = true) (a : Nat) (d : Bytes) :
    ieeCtrPage c b.ctx (blocksFor (b.encPage c a d).length) a (b.encPage c a d) = zeroPad 16 d := by
  have hN : (IeeCtx.word b.key2).length = 16 := by rw [(iee_key_lengths b hwf).2.2.2, iee_key2Size_ctr b hc]
  have hz := zeroPad_length_mod 16 (by decide) d
  have hl := mapImage_length (iee_ctrPiece_len h (IeeCtx.word b.key1) (IeeCtx.word b.key2)) a
    (zeroPad 16 d)
  rw [iee_encPage_ctr b hc, (by unfold blocksFor; omega : blocksFor (mapImage 16 _ a (zeroPad 16 d)).length =
    blocksFor (zeroPad 16 d).length)]
  exact iee_ctrPage_inv h b.ctx _ _ (by rw [iee_ctx_key1 b hwf]) (by rw [iee_ctx_key2_ctr b hwf hc]) hN a _ hz

include h in
/-- what the engine returns for the specified ciphertext page of blob `b` when `b`'s context is the one selected -/
theorem iee_hwPage_blob (ctxs : List IeeCtx) (hwf : b.WF) (hcl : b.claimed) (a : Nat)
    (hf : ctxs.find? (fun x => x.hit a) = some b.ctx) (d : Bytes) :
    ieeHwPage c ctxs a (b.encPage c a d) = if b.mode = .bypass then d else zeroPad 16 d := by
  have htag : b.ctx.modeTag = b.mode.tag := rfl
  rw [ieeHwPage, hf]
  simp only [htag]
  rcases hcl with hm | hm | hm
  · simp [hm, IeeMode.tag, ieeModeBypass, iee_encPage_bypass b hm]
  · simp [hm, IeeMode.tag, ieeModeXts, iee_xtsDec_encPage h b hwf hm]
  · simp [hm, IeeMode.tag, ieeModeCtrAddr, iee_ctrPage_encPage h b hwf (by rw [hm]; rfl)]

theorem iee_find_ctx (a : Nat) :
    (bs.map IeeBlob.ctx).find? (fun x => x.hit a) = (ieeActive bs a).map IeeBlob.ctx := by
  unfold ieeActive
  rw [List.find?_map]
  rfl

/-- a page function that inverts every blob's page specification when that blob's context is selected, and passes
    pages of no region through, inverts the page specification -/
theorem iee_page_spec (page : Nat → Bytes → Bytes) (a : Nat) (d : Bytes)
    (hnone : (bs.map IeeBlob.ctx).find? (fun x => x.hit a) = none → page a d = d)
    (hblob : ∀ b ∈ bs, (bs.map IeeBlob.ctx).find? (fun x => x.hit a) = some b.ctx →
      page a (b.encPage c a d) = if b.mode = .bypass then d else zeroPad 16 d) :
    page a (ieeSpecPage c bs a d) = d ∨ page a (ieeSpecPage c bs a d) = zeroPad 16 d := by
  have hfind := iee_find_ctx bs a
  unfold ieeSpecPage
  cases hact : ieeActive bs a with
  | none => rw [hact] at hfind; exact .inl (hnone hfind)
  | some b =>
    rw [hact] at hfind
    simp only
    rw [hblob b (List.mem_of_find?_eq_some hact) hfind]
    by_cases hm : b.mode = .bypass
    · exact .inl (if_pos hm)
    · exact .inr (if_neg hm)

theorem ieeHwRead_eq (ctxs : List IeeCtx) : ∀ (f a : Nat) (ct : Bytes),
    ieeHwRead c ctxs f a ct = ieeHwReadWith (ieeHwPage c ctxs) f a ct
  | 0, _, _ => rfl
  | f + 1, a, ct => by rw [ieeHwRead, ieeHwReadWith, ieeHwRead_eq ctxs f]

include h in
/-- page-by-page read of the specified ciphertext with ANY page function that inverts the page specification -/
theorem ieex_readWith_spec (page : Nat → Bytes → Bytes)
    (hpg : ∀ a d, page a (ieeSpecPage c bs a d) = d ∨ page a (ieeSpecPage c bs a d) = zeroPad 16 d) (base : Nat) (img : Bytes) :
    (ieeHwReadWith page (ieeSpecImage c bs base img).length base (ieeSpecImage c bs base img)).take img.length = img := by
  rw [ieeHwReadWith_eq _ _ _ _ (Nat.le_refl _), ieeSpecImage_eq]
  exact mapImage_inv (iee_specPage_len h bs) (A := fun _ => True) (fun _ _ => trivial)
    (fun a p _ _ _ => hpg a p) base img trivial

include h in
/-- the engine reading the specified ciphertext returns the plaintext -/
theorem iee_spec_hw (hwf : ∀ b ∈ bs, b.WF ∧ b.claimed) (base : Nat) (img : Bytes) :
    (ieeHwReadAll c (bs.map IeeBlob.ctx) base (ieeSpecImage c bs base img)).take img.length = img := by
  rw [ieeHwReadAll, ieeHwRead_eq]
  exact ieex_readWith_spec h bs _ (fun a d => iee_page_spec bs _ a d (fun hn => by rw [ieeHwPage, hn])
    fun b hb hf => iee_hwPage_blob h b _ (hwf b hb).1 (hwf b hb).2 a hf d) base img

include h in
/-- one page under a blob in a claimed mode: the engine returns the plaintext -/
theorem iee_page_inv (hwf : b.WF) (hcl : b.claimed) (a : Nat)
    (hin : b.start ≤ a ∧ a < b.end_) (d : Bytes) :
    (ieeHwPage c [b.ctx] a (b.encPage c a d)).take d.length = d := by
  have hf : [b.ctx].find? (fun x => x.hit a) = some b.ctx := by
    simp [IeeCtx.hit, IeeBlob.ctx, hin.1, hin.2]
  rw [iee_hwPage_blob h b [b.ctx] hwf hcl a hf d]
  split
  · exact List.take_of_length_le (Nat.le_refl _)
  · exact zeroPad_take_self 16 d

/-- the nine fields of a plain key blob in front of its CRC -/
def iee_plainFields (b : IeeBlob) : List Bytes :=
  [leEnc 4 ieeHeaderTag, leEnc 4 ieeKeyblobVersion, b.attrBytes, leEnc 4 b.pageOffset, zeroPad 32 b.key1,
    zeroPad 32 b.key2, leEnc 4 b.start, leEnc 4 b.end_, leEnc 4 0]

def iee_plainHead (b : IeeBlob) : Bytes := (iee_plainFields b).flatten

def iee_plainBytes (b : IeeBlob) : Bytes := iee_plainHead b ++ leEnc 4 (crc32Mpeg (iee_plainHead b))

theorem iee_plainData (hwf : b.WF) : b.plainData = .ok (iee_plainBytes b) := by
  have h1 := hwf.range
  have h2 := hwf.end_lt
  have h3 := hwf.po_lt
  have hc : ¬ (b.pageOffset ≥ 2 ^ 32 ∨ b.start ≥ 2 ^ 32 ∨ b.end_ ≥ 2 ^ 32) := by omega
  simp only [IeeBlob.plainData, if_neg hc, iee_plainBytes, iee_plainHead, iee_plainFields, ieeKeyFieldSize,
    List.flatten_cons, List.flatten_nil, List.append_nil, List.append_assoc]

theorem iee_plainFields_length (hwf : b.WF) : (iee_plainFields b).map List.length = [4, 4, 4, 4, 32, 32, 4, 4, 4] := by
  have hk : ∀ k : Bytes, k.length = 16 ∨ k.length = 32 → (zeroPad 32 k).length = 32 := fun k hk => by
    rw [zeroPad_length]; omega
  simp [iee_plainFields, leEnc_length, IeeBlob.attrBytes, hk _ (hwf.k1 ▸ iee_key1Size b), hk _ (hwf.k2 ▸ iee_key2Size b)]

theorem iee_plainHead_length (hwf : b.WF) : (iee_plainHead b).length = 92 := by
  rw [iee_plainHead, List.length_flatten, iee_plainFields_length b hwf]; rfl

theorem iee_plainBytes_length (hwf : b.WF) : (iee_plainBytes b).length = 96 := by
  rw [iee_plainBytes, List.length_append, iee_plainHead_length b hwf, leEnc_length]

theorem iee_parse_plain (hwf : b.WF) : ieeParseBlob (iee_plainBytes b) = some b.ctx := by
  have h1 := hwf.range
  have h2 := hwf.end_lt
  have h3 := hwf.po_lt
  have hp : (256 : Nat) ^ 4 = 2 ^ 32 := by decide
  have ht1 : (UInt8.ofNat b.keySize.tag).toNat = b.keySize.tag := by
    cases b.keySize <;> simp [IeeKeySize.tag, ieeKey128, ieeKey256]
  have ht2 : (UInt8.ofNat b.mode.tag).toNat = b.mode.tag := by
    cases b.mode <;> simp [IeeMode.tag, ieeModeBypass, ieeModeXts, ieeModeCtrAddr, ieeModeCtrNoAddr, ieeModeCtrKeystream]
  -- the fields the parser cuts out are the fields `plain_data` packed
  have hcut : cutFields _ (iee_plainBytes b) = _ := cutFields_flatten (iee_plainFields b) _
  rw [iee_plainFields_length b hwf] at hcut
  simp only [iee_plainFields, cutFields, List.drop_drop, List.cons.injEq, and_true] at hcut
  obtain ⟨f1, f2, f3, f4, f5, f6, f7, f8, -⟩ := hcut
  have g1 : (iee_plainBytes b).take 92 = iee_plainHead b := List.take_left' (iee_plainHead_length b hwf)
  have g2 : ((iee_plainBytes b).drop 92).take 4 = leEnc 4 (crc32Mpeg (iee_plainHead b)) := by
    rw [iee_plainBytes, List.drop_left' (iee_plainHead_length b hwf)]
    exact List.take_of_length_le (Nat.le_of_eq (leEnc_length _ _))
  have a1 : (iee_plainBytes b).getD 9 0 = UInt8.ofNat b.keySize.tag := by
    have := congrArg (·[1]?) f3
    simpa [IeeBlob.attrBytes, List.getD_eq_getElem?_getD, List.getElem?_take, List.getElem?_drop] using congrArg (·.getD 0) this
  have a2 : (iee_plainBytes b).getD 10 0 = UInt8.ofNat b.mode.tag := by
    have := congrArg (·[2]?) f3
    simpa [IeeBlob.attrBytes, List.getD_eq_getElem?_getD, List.getElem?_take, List.getElem?_drop] using congrArg (·.getD 0) this
  unfold ieeParseBlob
  rw [g1, g2, f1, f2, f4, f5, f6, f7, f8, a1, a2, ht1, ht2, leDec_leEnc _ _ (by decide), leDec_leEnc _ _ (by decide),
    leDec_leEnc _ _ (by rw [hp]; exact crc32Mpeg_lt _), leDec_leEnc _ _ (by omega), leDec_leEnc _ _ (by omega),
    leDec_leEnc _ _ (by omega), iee_plainBytes_length b hwf]
  simp [ieeHeaderTag, ieeKeyblobVersion, IeeBlob.ctx]

theorem iee_plainAux : ∀ (acc : Bytes), (∀ b ∈ bs, b.WF) →
    ieePlainAux bs acc = .ok (acc ++ (bs.map iee_plainBytes).flatten) := by
  induction bs with
  | nil => intro acc _; simp [ieePlainAux]
  | cons b rest ih =>
    intro acc hwf
    simp only [ieePlainAux, iee_plainData b (hwf b List.mem_cons_self)]
    rw [ih _ (fun x hx => hwf x (List.mem_cons_of_mem _ hx))]
    simp

theorem iee_flat_length (hwf : ∀ b ∈ bs, b.WF) :
    ((bs.map iee_plainBytes).flatten).length = 96 * bs.length := by
  induction bs with
  | nil => rfl
  | cons b rest ih =>
    simp only [List.map_cons, List.flatten_cons, List.length_append, List.length_cons,
      iee_plainBytes_length b (hwf b List.mem_cons_self), ih (fun x hx => hwf x (List.mem_cons_of_mem _ hx))]
    omega

theorem iee_parseTable_plain : ∀ (tail : Bytes), (∀ b ∈ bs, b.WF) →
    ieeParseTable bs.length ((bs.map iee_plainBytes).flatten ++ tail) = bs.map (fun b => some b.ctx) := by
  induction bs with
  | nil => intro tail _; simp [ieeParseTable]
  | cons b rest ih =>
    intro tail hwf
    have hb := hwf b List.mem_cons_self
    have hl := iee_plainBytes_length b hb
    simp only [List.length_cons, ieeParseTable, List.map_cons, List.flatten_cons, List.append_assoc]
    rw [List.take_left' hl, List.drop_left' hl, iee_parse_plain b hb,
      ih tail (fun x hx => hwf x (List.mem_cons_of_mem _ hx))]

/-- the encrypted key-blob area decrypts (AES-XTS, IBKEKs, tweak = sector of the key-blob address) and parses back
    to the configured regions -/
theorem iee_keyblobs_unwrap (h : CryptoLaws c) (bs : List IeeBlob) (hne : bs ≠ []) (hwf : ∀ b ∈ bs, b.WF)
    (k1 k2 : Bytes) (hk1 : k1.length = 32) (hk2 : k2.length = 32) (hk : k1 ≠ k2) (addr : Nat) :
    ∃ t, Iee.encryptKeyBlobs c bs k1 k2 addr = .ok t ∧
      ieeUnwrapTable c k1 k2 addr bs.length t = bs.map (fun b => some b.ctx) := by
  obtain ⟨P, hflat, hfl, hparse⟩ : ∃ P, ieePlainAux bs [] = .ok P ∧ P.length = 96 * bs.length ∧
      ∀ tail, ieeParseTable bs.length (P ++ tail) = bs.map (fun b => some b.ctx) :=
    ⟨_, iee_plainAux bs [] hwf, iee_flat_length bs hwf, fun t => iee_parseTable_plain bs t hwf⟩
  have hn : 0 < bs.length := List.length_pos_iff.mpr hne
  have hmod : (zeroPad 384 P).length % 384 = 0 := zeroPad_length_mod 384 (by omega) _
  have hge : 96 ≤ (zeroPad 384 P).length := by rw [zeroPad_length]; omega
  have hk1m : k1.length % 4 = 0 := by omega
  have hk2m : k2.length % 4 = 0 := by omega
  refine ⟨xtsEnc c (IeeCtx.word k1) (IeeCtx.word k2) (IeeBlob.tweak addr) (zeroPad 384 P), ?_, ?_⟩
  · have hc : ¬ ((zeroPad 384 P).length < 16 ∨ (zeroPad 384 P).length % 16 ≠ 0) := by omega
    simp only [Iee.encryptKeyBlobs, Iee.getKeyBlobs, hflat, Except.map, ieeKeyBlobsSize, iee_rev_ok k1 hk1m,
      iee_rev_ok k2 hk2m]
    rw [iee_xtsKeyCheck _ _ (by rw [iee_word_length _ hk1m, iee_word_length _ hk2m, hk1, hk2])
      (by rw [iee_word_length _ hk1m, hk1]; exact Or.inr rfl)
      (fun e => hk (iee_word_inj _ _ hk1m hk2m e)), if_neg hc]
  · rw [ieeUnwrapTable, ← iee_tweak_eq, xts_inv h _ _ _ _ (by omega)]
    exact hparse _

end SpsdkVerif.FlashEnc
