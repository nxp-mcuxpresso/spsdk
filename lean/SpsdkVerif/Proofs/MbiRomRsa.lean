/-
C02, what the two RSA families (signed with a v1 certificate block, encrypted) share on the ROM side: the HMAC-protected header
of load-to-RAM images, the answer of the walk over the (opaque) v1 block, and the RSA obligation over `pre ++ sign pre`.
The lemmas speak of byte lists; the families put their images in.  At the end two facts about the builder both families need.
-/
import SpsdkVerif.Proofs.MbiRomFlags
import SpsdkVerif.Crypto.Break

namespace SpsdkVerif.Mbi
open SpsdkVerif SpsdkVerif.Misc SpsdkVerif.Crypto
open SpsdkVerif.Spec.MbiRom

variable {co : CryptoOps} {env : RomEnv}

/-- what `romHmac` strips behind offset 64: the HMAC, and the key store when the flag word announces one -/
def stripOf (img : Bytes) : Nat :=
  hmacSize + if Spec.MbiRom.rd32 img offFlags &&& flagKeyStore != 0 then keyStoreSize else 0

theorem romHmac_ok_iff {k : Bytes} (huk : env.userKey = some k) {img : Bytes} {v : Bytes × Nat × Bool} :
    romHmac co env img = .ok v ↔
      hmacOffset + stripOf img ≤ img.length ∧ k.length = userKeySize
      ∧ sub img hmacOffset (hmacOffset + hmacSize) = hmac co .sha256 (ecbEnc co k hmacKeyDerivation) (img.take hmacOffset)
      ∧ v = (img.take hmacOffset ++ img.drop (hmacOffset + stripOf img), stripOf img,
              Spec.MbiRom.rd32 img offFlags &&& flagKeyStore != 0) := by
  unfold romHmac stripOf
  simp only [huk, need_bind_ok, decide_eq_true_eq, beq_iff_eq, ge_iff_le, pure, Except.pure, Except.ok.injEq]
  exact and_congr_right fun _ => and_congr_right fun _ => and_congr_right fun _ => eq_comm

/-- `img` is `body` with HMAC and key store (`s` bytes) inserted at offset 64, as `romHmac` under the user key `k` wants it -/
structure HmacImage (co : CryptoOps) (k img body : Bytes) (s : Nat) : Prop where
  key : k.length = userKeySize
  len : hmacOffset + s ≤ img.length
  strip : stripOf img = s
  mac : sub img hmacOffset (hmacOffset + hmacSize) = hmac co .sha256 (ecbEnc co k hmacKeyDerivation) (img.take hmacOffset)
  body : img.take hmacOffset ++ img.drop (hmacOffset + s) = body

section hmac
variable {k img body : Bytes} {s : Nat} (H : HmacImage co k img body s) (huk : env.userKey = some k)
include H huk

theorem HmacImage.romHmac : romHmac co env img = .ok (body, s, Spec.MbiRom.rd32 img offFlags &&& flagKeyStore != 0) := by
  rw [romHmac_ok_iff huk, H.strip, H.body]
  exact ⟨H.len, H.key, H.mac, rfl⟩

/-- a changed byte of the first 64 bytes that still passes `romHmac` is an HMAC forgery -/
theorem HmacImage.header_forgery {i : Nat} {y : UInt8} (hi : i < hmacOffset) (hne : img[i]? ≠ some y)
    {v : Bytes × Nat × Bool} (hacc : Spec.MbiRom.romHmac co env (img.set i y) = .ok v) : Break co := by
  obtain ⟨_, _, hm, _⟩ := (romHmac_ok_iff huk).1 hacc
  have hlen := H.len
  rw [spec_sub_eq, slice_set _ _ _ _ _ (.inl hi), ← spec_sub_eq, H.mac, List.take_set] at hm
  exact Break.hmacForgery .sha256 _ _ _
    (set_ne _ i y (by rw [List.length_take]; omega) (by rwa [List.getElem?_take_of_lt hi])) hm

omit huk in
/-- behind the inserted block the body is the image, `s` places lower; so is a change there -/
theorem HmacImage.body_set {i : Nat} (hi : hmacOffset + s ≤ i) (y : UInt8) :
    body[i - s]? = img[i]?
    ∧ (img.set i y).take hmacOffset ++ (img.set i y).drop (hmacOffset + s) = body.set (i - s) y := by
  have hl : (img.take hmacOffset).length = hmacOffset := by rw [List.length_take]; have := H.len; omega
  -- `i = 64 + s + d`: position `d` behind the block, `64 + d` in the body
  obtain ⟨d, rfl⟩ := Nat.exists_eq_add_of_le hi
  have hd : hmacOffset + s + d - s = hmacOffset + d := by omega
  have hle : (img.take hmacOffset).length ≤ hmacOffset + d := by rw [hl]; exact Nat.le_add_right _ _
  rw [← H.body, hd, List.getElem?_append_right hle, List.set_append_right _ _ hle, hl, Nat.add_sub_cancel_left,
    List.getElem?_drop, List.take_set_of_le (Nat.le_trans (Nat.le_add_right _ s) (Nat.le_add_right _ d)), List.drop_set,
    if_neg (Nat.not_lt.2 (Nat.le_add_right _ d)), Nat.add_sub_cancel_left]
  exact ⟨rfl, rfl⟩

/-- `romHmac` on an image changed behind the inserted block: the flag word is not touched -/
theorem HmacImage.romHmac_set {i : Nat} {y : UInt8} (hi : hmacOffset + s ≤ i) {v : Bytes × Nat × Bool}
    (hacc : Spec.MbiRom.romHmac co env (img.set i y) = .ok v) : v.1 = body.set (i - s) y ∧ v.2.1 = s := by
  obtain ⟨_, _, _, rfl⟩ := (romHmac_ok_iff huk).1 hacc
  have hs : stripOf (img.set i y) = s := by
    unfold stripOf
    rw [spec_rd32_eq, rd32_set _ _ _ _ (.inr (by simp only [offFlags, hmacOffset] at hi ⊢; omega))]
    exact H.strip
  simp only [hs]
  exact ⟨(H.body_set hi y).2, trivial⟩

end hmac

theorem certEntries_bounds (body : Bytes) : ∀ (n off limit : Nat) (cs : List (Nat × Nat)) (e : Nat),
    certEntries body n off limit = .ok (cs, e) → off ≤ e ∧ ∀ q ∈ cs, q.1 + q.2 ≤ e
  | 0, off, limit, cs, e, h => by
    simp only [certEntries, Except.ok.injEq, Prod.mk.injEq] at h
    obtain ⟨rfl, rfl⟩ := h
    exact ⟨Nat.le_refl _, by simp⟩
  | n + 1, off, limit, cs, e, h => by
    unfold certEntries at h
    simp only [↓need_bind_ok, bind_ok, pure, Except.pure, Except.ok.injEq, Prod.mk.injEq, Prod.exists] at h
    obtain ⟨_, _, rest, e', hr, rfl, rfl⟩ := h
    obtain ⟨i1, i2⟩ := certEntries_bounds body n _ limit rest e' hr
    refine ⟨by omega, fun q hq => ?_⟩
    rcases List.mem_cons.1 hq with rfl | hq
    · simp only; omega
    · exact i2 q hq

/-- the certificates the ROM finds lie inside the block -/
theorem romCertV1_bounds {body : Bytes} {off : Nat} {ci : CertV1Info} (h : romCertV1 co env body off = .ok ci) :
    ∀ q ∈ ci.certs, q.1 + q.2 ≤ ci.blockEnd := by
  unfold romCertV1 at h
  simp only [↓need_bind_ok, bind_ok, pure, Except.pure, Except.ok.injEq, Prod.exists] at h
  obtain ⟨_, _, _, _, _, certs, tblEnd, hr, _, _, _, rfl⟩ := h
  obtain ⟨i1, i2⟩ := certEntries_bounds body _ _ _ certs tblEnd hr
  intro q hq
  have := i2 q hq
  simp only [certV1HeaderSize, Spec.MbiRom.align4] at i1 ⊢
  omega

/-- the answer of the walk over a block that satisfies `RomCertV1OK`, as one record; its last certificate (the signer's)
    lies inside the block -/
theorem RomCertV1OK.walk {cert : Bytes} {certs : List (Nat × Nat)} {table : List Bytes}
    (h : RomCertV1OK co env cert certs table) {body : Bytes} {off il : Nat}
    (hat : certAt body (certSetImageLength cert il) off) (hil : il < 2 ^ 32) :
    ∃ p, certs.getLast? = some p ∧ p.1 + p.2 ≤ cert.length
      ∧ romCertV1 co env body off = .ok ⟨certs.map (fun q => (off + q.1, q.2)), table, il, off + cert.length⟩ := by
  obtain ⟨ci, h1, h2, h3, h4, h5⟩ := h.2 body off il hat hil
  obtain ⟨p, hp⟩ : ∃ p, certs.getLast? = some p := by
    cases hl : certs.getLast? with
    | none => exact absurd (List.getLast?_eq_none_iff.1 hl) h.1
    | some p => exact ⟨p, rfl⟩
  have := romCertV1_bounds h1 (off + p.1, p.2) (by rw [h2]; exact List.mem_map.2 ⟨p, List.mem_of_getLast? hp, rfl⟩)
  refine ⟨p, hp, by rw [h5] at this; simp only at this; omega, ?_⟩
  rw [h1]; cases ci; simp only at h2 h3 h4 h5; rw [h2, h3, h4, h5]

/-- what `romSignedV1` and `romEncrypted` both leave to the environment for `body`: the chain and the signature by the last
    certificate over the announced length, as the walk over the block at the certificate word answered -/
def RsaObligations (co : CryptoOps) (env : RomEnv) (body : Bytes) (a : Accepted) : Prop :=
  ∃ ci last, romCertV1 co env body (Spec.MbiRom.rd32 body offCrcOrCert) = .ok ci ∧ ci.certs.getLast? = some last
    ∧ a.obligations = [.x509Chain ci.certs ci.table, .rsaByCert last ci.imageLength]

theorem romSignedV1_obligations {body : Bytes} {s : Nat} {a : Accepted} (h : romSignedV1 co env body s = .ok a) :
    RsaObligations co env body a ∧ a.stripped = s := by
  unfold romSignedV1 at h
  simp only [↓need_bind_ok, bind_ok] at h
  obtain ⟨_, ci, hci, _, h⟩ := h
  cases hl : ci.certs.getLast? with
  | none => rw [hl] at h; cases h
  | some last =>
    rw [hl] at h
    obtain rfl := Except.ok.inj h
    exact ⟨⟨ci, last, hci, hl, rfl⟩, rfl⟩

theorem romEncrypted_obligations {body : Bytes} {s : Nat} {ks : Bool} {a : Accepted}
    (h : romEncrypted co env body s ks = .ok a) : RsaObligations co env body a := by
  unfold romEncrypted at h
  simp only [↓need_bind_ok, bind_ok] at h
  obtain ⟨_, ci, hci, _, h⟩ := h
  cases hk : env.userKey with
  | none => rw [hk] at h; cases h
  | some k =>
    cases hl : ci.certs.getLast? with
    | none => rw [hk, hl] at h; cases h
    | some last =>
      rw [hk, hl] at h
      obtain rfl := Except.ok.inj (need_bind_ok.1 h).2
      exact ⟨ci, last, hci, hl, rfl⟩

/-- `pre` is a signed prefix with the v1 block `cert`, image-length field set to `|pre|`, at `A` -/
structure SignedPrefix (cert pre : Bytes) (A : Nat) : Prop where
  block : slice pre A (A + cert.length) = certSetImageLength cert pre.length
  inside : A + cert.length ≤ pre.length
  certLen : (certSetImageLength cert pre.length).length = cert.length
  lt : pre.length < 2 ^ 32

section signedPrefix
variable {cert pre : Bytes} {A : Nat} {certs : List (Nat × Nat)} {table : List Bytes}

/-- the block is found at `A` whatever follows the prefix, also after a change in front of it -/
theorem SignedPrefix.certAt (P : SignedPrefix cert pre A) (sig : Bytes) :
    Mbi.certAt (pre ++ sig) (certSetImageLength cert pre.length) A := by
  unfold Mbi.certAt
  rw [P.certLen, spec_sub_eq, slice_append_left _ _ _ _ P.inside]; exact P.block

theorem SignedPrefix.certAt_set (P : SignedPrefix cert pre A) (sig : Bytes) {j : Nat} (hj : j < A) (y : UInt8) :
    Mbi.certAt ((pre ++ sig).set j y) (certSetImageLength cert pre.length) A := by
  have := P.certAt sig
  unfold Mbi.certAt at this ⊢
  rwa [spec_sub_eq, slice_set _ _ _ _ _ (.inl hj), ← spec_sub_eq]

/-- `romSignedV1` accepts `pre ++ sig`; what it leaves are the chain and the signature `sig` over `pre` -/
theorem SignedPrefix.romSignedV1 (P : SignedPrefix cert pre A) (hrom : RomCertV1OK co env cert certs table) {sig : Bytes}
    (hA : Spec.MbiRom.rd32 (pre ++ sig) offCrcOrCert = A) (h56 : ivtSize ≤ A) (h4 : A % 4 = 0) (hs : 0 < sig.length)
    (s : Nat) :
    ∃ p a, certs.getLast? = some p ∧ romSignedV1 co env (pre ++ sig) s = .ok a ∧ a.stripped = s
      ∧ a.obligations = [.x509Chain (certs.map fun q => (A + q.1, q.2)) table, .rsaByCert (A + p.1, p.2) pre.length] := by
  obtain ⟨p, hp, _, hw⟩ := hrom.walk (P.certAt sig) P.lt
  refine ⟨p, { stripped := s, authenticated := [(0, (pre ++ sig).length + s)]
               obligations := [.x509Chain (certs.map fun q => (A + q.1, q.2)) table, .rsaByCert (A + p.1, p.2) pre.length] },
    hp, ?_, rfl, rfl⟩
  have hin := P.inside
  unfold Spec.MbiRom.romSignedV1
  simp only [hA, hw, need_ok (decide_eq_true (show A ≥ ivtSize ∧ (A % 4 == 0) = true from ⟨h56, by simp [h4]⟩)),
    need_ok (decide_eq_true (show A + cert.length ≤ pre.length ∧ pre.length < (pre ++ sig).length from
      ⟨hin, by rw [List.length_append]; omega⟩)), bind, Except.bind, List.getLast?_map, hp]
  rfl

/-- a changed byte in front of the block, accepted with the RSA obligation holding under the key of the block's last
    certificate, makes the genuine signature verify for another message: word, block and signature are where they were, only
    the signed prefix differs -/
theorem SignedPrefix.forgery (P : SignedPrefix cert pre A) (hrom : RomCertV1OK co env cert certs table)
    (alg : SigAlg) (sk : PrivKey) (r : Rand) (certPub : Bytes → PubKey)
    (hA : Spec.MbiRom.rd32 (pre ++ co.sign alg sk pre r) offCrcOrCert = A)
    (hpub : ∀ last, certs.getLast? = some last →
      certPub (slice (certSetImageLength cert pre.length) last.1 (last.1 + last.2)) = co.pubOf sk)
    {j : Nat} {y : UInt8} (hjA : j < A) (hj : j < 0x28 ∨ 0x2C ≤ j) (hne : pre[j]? ≠ some y) {a : Accepted}
    (hob : RsaObligations co env ((pre ++ co.sign alg sk pre r).set j y) a)
    (hv : ∀ ob ∈ a.obligations, holdsRsa co alg certPub ((pre ++ co.sign alg sk pre r).set j y) ob) : Break co := by
  generalize hsig : co.sign alg sk pre r = sig at *
  have hin := P.inside
  have hjp : j < pre.length := by omega
  obtain ⟨ci, last, hci, hlast, hobl⟩ := hob
  rw [spec_rd32_eq, rd32_set _ _ _ _ (by simp only [offCrcOrCert]; omega), ← spec_rd32_eq, hA] at hci
  obtain ⟨p, hp, hpl, hw⟩ := hrom.walk (P.certAt_set sig hjA y) P.lt
  obtain rfl := Except.ok.inj (hci.symm.trans hw)
  simp only [List.getLast?_map, hp, Option.map_some, Option.some.injEq] at hlast
  subst hlast
  have hv := hv (.rsaByCert (A + p.1, p.2) pre.length) (by rw [hobl]; simp)
  simp only [holdsRsa] at hv
  rw [spec_sub_eq, slice_set _ _ _ _ _ (.inl (by omega)), slice_append_left _ _ _ _ (by omega), Nat.add_assoc,
    ← slice_slice pre A (A + cert.length) p.1 (p.1 + p.2) (by omega), P.block, hpub p hp,
    List.set_append_left _ _ hjp, List.take_left' (List.length_set ..), List.drop_left' (List.length_set ..)] at hv
  subst hsig
  exact Break.sigForgery alg sk _ _ r (set_ne _ j y hjp hne) hv

end signedPrefix

/-- the image-length field of the block reads back what was put there -/
theorem rd32_certSetImageLength (cert : Bytes) (v : Nat) (hc : certImageLengthOffset + 4 ≤ cert.length) (hv : v < 2 ^ 32) :
    rd32 (certSetImageLength cert v) certImageLengthOffset = v := by
  unfold certSetImageLength setAt
  exact rd32_at _ _ _ _ _ rfl (by rw [List.length_take]; omega) hv

/-- for the ROM's alignment check of the certificate word (`appLen`: application and relocation table) -/
theorem relocLen_mod4 (c : Cls) (cfg : Cfg) : relocLen c cfg % 4 = 0 := by
  have him : ∀ es : List RelocEntry, (relocImages es).length % 4 = 0 := by
    intro es
    induction es with
    | nil => rfl
    | cons e es ih =>
      have := align4_length_mod e.image
      rw [relocImages_cons, List.length_append]; omega
  unfold relocLen
  cases cfg.reloc with
  | none => rfl
  | some es => have := him es; simp only [relocExport_length]; omega

end SpsdkVerif.Mbi
