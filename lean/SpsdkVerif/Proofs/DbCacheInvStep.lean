/-
C18 — interleavings: what ONE action (`pstep`), kill (`crashStep`) or I/O failure (`failStep`) of one process does to
the per-process invariant, the lock, and the cache file (`StepIn` ⟹ `StepOut`).  The few ways an action can touch the
shared state are the `out_*` lemmas; `pstep_out` goes through the program counters with them.
-/
import SpsdkVerif.Proofs.DbCacheInvBase
namespace SpsdkVerif.DbCache.Sched
open SpsdkVerif

/-- what the global invariant tells about the acting process `i` and the shared state -/
structure StepIn (env : Env) (G : Guards) (f0 : Option Bytes) (i : Nat) (sh : Sh) (p : Proc) : Prop where
  inv : PInv env G p
  harmless : ∀ b, sh.file = some b → Harmless env G b
  good : G.w.mergesExisting = true → FileGood env G sh.file ∨ (sh.file = f0 ∧ PreW env f0 p)
  lock : inLock G p.pc = true ↔ sh.lock = some i
  wr : p.pc = .wWrite → G.w.atomicWrite = false → sh.file = none ∨ sh.file = some []

/-- the action keeps the disjunct "nobody has seen more than the initial file" — or has shown the file mergeable -/
def Keeps (env : Env) (G : Guards) (f0 f : Option Bytes) (p p' : Proc) : Prop :=
  G.w.mergesExisting = true → f = f0 → PreW env f0 p → FileGood env G f ∨ PreW env f0 p'

/-- what one action (or a kill) of process `i` guarantees -/
structure StepOut (env : Env) (G : Guards) (f0 : Option Bytes) (i : Nat) (sh : Sh) (p : Proc)
    (sh' : Sh) (p' : Proc) : Prop where
  inv : PInv env G p'
  asked : p'.asked = p.asked
  lockSelf : inLock G p'.pc = true ↔ sh'.lock = some i
  lockOther : ∀ j, j ≠ i → (sh'.lock = some j ↔ sh.lock = some j)
  wrSelf : p'.pc = .wWrite → G.w.atomicWrite = false → sh'.file = none ∨ sh'.file = some []
  fileOther : inLock G p.pc = false → sh'.file = sh.file ∨ sh'.file = none
  file : FileGood env G sh'.file ∨ (sh'.file = sh.file ∧ Keeps env G f0 sh.file p p')

variable {env : Env} {G : Guards} {f0 : Option Bytes} {i : Nat} {sh : Sh} {p : Proc}

theorem Keeps.of_not {f : Option Bytes} {p' : Proc} (h : ¬ PreW env f0 p) : Keeps env G f0 f p p' :=
  fun _ _ hp => absurd hp h

theorem Keeps.of_preW {f : Option Bytes} {p' : Proc} (h : PreW env f0 p') : Keeps env G f0 f p p' :=
  fun _ _ _ => Or.inr h

theorem Keeps.of_good {f : Option Bytes} {p' : Proc} (h : FileGood env G f) : Keeps env G f0 f p p' :=
  fun _ _ _ => Or.inl h

theorem Keeps.trans {f : Option Bytes} {q r : Proc} (h : Keeps env G f0 f p q)
    (h' : G.w.mergesExisting = true → PreW env f0 q → FileGood env G f0 ∨ PreW env f0 r) : Keeps env G f0 f p r :=
  fun hm h0 hp => (h hm h0 hp).elim Or.inl fun hq => (h' hm hq).imp_left (h0 ▸ ·)

theorem ne_wWrite_of_nolock {pc : PC} (h : inLock G pc = false) : pc ≠ .wWrite := by
  rintro rfl; cases h

/-- a step that leaves the shared state alone and does not change whether `i` is in a lock region -/
theorem out_same (hin : StepIn env G f0 i sh p) {p' : Proc} (hinv : PInv env G p') (hasked : p'.asked = p.asked)
    (hl : inLock G p'.pc = inLock G p.pc) (hnw : p'.pc ≠ .wWrite) (hk : Keeps env G f0 sh.file p p') :
    StepOut env G f0 i sh p sh p' :=
  ⟨hinv, hasked, hl ▸ hin.lock, fun _ _ => Iff.rfl, fun h => absurd h hnw, fun _ => Or.inl rfl, Or.inr ⟨rfl, hk⟩⟩

theorem out_same_exit (hin : StepIn env G f0 i sh p) {p' : Proc} (hf : Exit env G p.asked p')
    (hl : inLock G p.pc = false) (hk : Keeps env G f0 sh.file p p') : StepOut env G f0 i sh p sh p' :=
  out_same hin hf.inv hf.asked (hf.nolock.trans hl.symm) (ne_wWrite_of_nolock hf.nolock) hk

/-- leaving a `with FileLock` block -/
theorem out_release (hin : StepIn env G f0 i sh p) {p' : Proc} (hf : Exit env G p.asked p')
    (hl : inLock G p.pc = true) (hk : Keeps env G f0 sh.file p p') :
    StepOut env G f0 i sh p { sh with lock := none } p' := by
  refine ⟨hf.inv, hf.asked, by simp [hf.nolock], fun j hj => ?_, fun h => absurd h (ne_wWrite_of_nolock hf.nolock),
    fun _ => Or.inl rfl, Or.inr ⟨rfl, hk⟩⟩
  simp only [hin.lock.mp hl, Option.some.injEq, reduceCtorEq, false_iff]; exact fun h => hj h.symm

/-- entering a `with FileLock` block -/
theorem out_acquire (hfree : sh.lock = none) {p' : Proc} (hinv : PInv env G p') (hasked : p'.asked = p.asked)
    (hl' : inLock G p'.pc = true) (hnw : p'.pc ≠ .wWrite) (hk : Keeps env G f0 sh.file p p') :
    StepOut env G f0 i sh p { sh with lock := some i } p' := by
  refine ⟨hinv, hasked, by simp [hl'], fun j hj => ?_, fun h => absurd h hnw, fun _ => Or.inl rfl, Or.inr ⟨rfl, hk⟩⟩
  simp only [hfree, Option.some.injEq, reduceCtorEq, iff_false]; exact fun h => hj h.symm

/-- removing the file outside the lock -/
theorem out_remove (hin : StepIn env G f0 i sh p) {p' : Proc} (hf : Exit env G p.asked p')
    (hl : inLock G p.pc = false) : StepOut env G f0 i sh p { sh with file := none } p' :=
  ⟨hf.inv, hf.asked, (hf.nolock.trans hl.symm) ▸ hin.lock, fun _ _ => Iff.rfl,
   fun h => absurd h (ne_wWrite_of_nolock hf.nolock), fun _ => Or.inr rfl, Or.inl FileGood.none⟩

/-- changing the file inside the writer's lock region (nobody there has only seen the initial file) -/
theorem out_write (hin : StepIn env G f0 i sh p) (hl : inLock G p.pc = true) (hnp : ¬ PreW env f0 p) {p' : Proc}
    {f' : Option Bytes} (hinv : PInv env G p') (hasked : p'.asked = p.asked) (hl' : inLock G p'.pc = true)
    (hwr : p'.pc = .wWrite → G.w.atomicWrite = false → f' = none ∨ f' = some [])
    (hf : FileGood env G f' ∨ f' = sh.file) : StepOut env G f0 i sh p { sh with file := f' } p' :=
  ⟨hinv, hasked, iff_of_true hl' (hin.lock.mp hl), fun _ _ => Iff.rfl, hwr, fun h => (by rw [hl] at h; cases h),
   hf.imp_right fun h => ⟨h, .of_not hnp⟩⟩

/-- the end of the loader's read, inside the lock region or without one -/
theorem out_leaveRead (hw : WF G) (hin : StepIn env G f0 i sh p) (hl : inLock G p.pc = G.l.lockRead) {q : Proc}
    {c : Cont} (hb : Base env q) (hq : q.asked = p.asked) (hc : PcInv env G { q with pc := .lRelease c })
    (hk : Keeps env G f0 sh.file p { q with pc := .lRelease c }) :
    StepOut env G f0 i sh p sh (leaveRead env G q c) := by
  rw [leaveRead_eq]
  split
  · rename_i hlr
    exact out_same hin ⟨⟨hb.ans, hb.mem, hb.keys⟩, hc⟩ hq (by rw [hl, hlr]; rfl) (by simp) hk
  · rename_i hlr
    have := afterRead_exit (f0 := f0) hw q hb hc
    exact out_same_exit hin (hq ▸ this.1) (by rw [hl]; simpa using hlr) (hk.trans this.2)

/-- a process in front of the read with nothing loaded -/
theorem readStart {q : Proc} (hl : q.loaded = none)
    (hc : q.pc = .lExists ∨ q.pc = if G.l.lockRead then .lAcquire else .lOpen) :
    PcInv env G q ∧ inLock G q.pc = false ∧ q.pc ≠ .wWrite ∧ PreW env f0 q := by
  rcases hc with h | h
  · simp [PcInv, inLock, PreW, h, hl]
  · cases hlr : G.l.lockRead <;> simp [PcInv, inLock, PreW, h, hl, hlr]

/-- a process that has just taken the writer's lock -/
theorem writeStart {q : Proc} (hc : q.pc = afterWAcquire G) :
    PcInv env G q ∧ inLock G q.pc = true ∧ q.pc ≠ .wWrite := by
  unfold afterWAcquire at hc
  cases hm : G.w.mergesExisting <;> cases hg : G.w.mergeExistsGuard <;> simp [PcInv, inLock, hc, hm, hg]

attribute [local irreducible] runQueries finishLoader loaderRaise loaderChecks leaveRead writerRaise

theorem pstep_out (hw : WF G) (he : EnvOK env G) (hin : StepIn env G f0 i sh p) {sh' : Sh} {p' : Proc}
    (h : pstep env G i sh p = some (sh', p')) : StepOut env G f0 i sh p sh' p' := by
  have hb := hin.inv.toBase
  have hpi := hin.inv.pc
  obtain ⟨pc, loaded, buf, mem, selfFp, todo, answers, asked⟩ := p
  cases pc
  case lExists =>
    replace hpi : loaded = none := hpi
    simp only [pstep] at h; cases h
    split
    · have := readStart (env := env) (f0 := f0) hpi (.inr rfl)
        (q := ⟨if G.l.lockRead then .lAcquire else .lOpen, loaded, buf, mem, selfFp, todo, answers, asked⟩)
      exact out_same hin ⟨⟨hb.ans, hb.mem, hb.keys⟩, this.1⟩ rfl this.2.1 this.2.2.1 (.of_preW this.2.2.2)
    · rename_i hf
      exact out_same_exit hin (finishLoader_exit hw _ hb (by simp [hpi])) rfl (.of_good fun b hb' => by simp [hb'] at hf)
  case lAcquire =>
    replace hpi : loaded = none ∧ G.l.lockRead = true := hpi
    simp only [pstep] at h
    split at h <;> cases h
    exact out_acquire ‹_› ⟨⟨hb.ans, hb.mem, hb.keys⟩, hpi.1⟩ rfl hpi.2 (by simp) (.of_preW trivial)
  case lOpen =>
    replace hpi : loaded = none := hpi
    simp only [pstep] at h
    split at h <;> cases h
    · rename_i hf
      exact out_leaveRead hw hin rfl hb rfl hw.fnfL (.of_good (hf ▸ FileGood.none))
    · rename_i b hf
      exact out_same hin ⟨⟨hb.ans, hb.mem, hb.keys⟩, hpi, hin.harmless b hf⟩ rfl rfl (by simp)
        fun _ h0 _ => Or.inr (h0 ▸ hf)
  case lUnpickle =>
    replace hpi : loaded = none ∧ Harmless env G buf := hpi
    have hharm := hpi.2
    unfold Harmless at hharm
    simp only [pstep] at h
    split at h <;> cases h <;> (rename_i hu; rw [hu] at hharm)
    · exact out_leaveRead hw hin rfl ⟨hb.ans, hb.mem, hb.keys⟩ rfl (fun _ hv => Option.some.inj hv ▸ hharm)
        fun _ _ hp => Or.inr ⟨hp, _, rfl, hu⟩
    · refine out_leaveRead hw hin rfl hb rfl hharm.1 fun _ h0 hp => Or.inl ?_
      rw [h0, show f0 = some buf from hp]
      exact FileGood.some (by unfold BytesGood; rw [hu]; exact hharm)
  case lRelease c =>
    rw [pstep_lRelease rfl] at h; cases h
    have := afterRead_exit (f0 := f0) hw _ hb hpi
    exact out_release hin this.1 rfl fun hm h0 hp => (this.2 hm hp).imp_left (h0 ▸ ·)
  case lRemoveStale =>
    replace hpi : loaded = none ∧ G.l.removeStale = true := hpi
    simp only [pstep] at h
    split at h <;> cases h
    · exact out_remove hin (finishLoader_exit hw _ hb (by simp [hpi.1])) rfl
    · rename_i hf
      rw [if_pos (hw.staleInTry hpi.2)]
      exact out_same_exit hin (loaderRaise_exit hw _ _ hb hw.fnfL) rfl (.of_good (hf ▸ FileGood.none))
  case hExists =>
    replace hpi : loaded = none ∧ G.l.handlerRemoves = true := hpi
    simp only [pstep] at h; cases h
    split
    · exact out_same hin ⟨⟨hb.ans, hb.mem, hb.keys⟩, hpi⟩ rfl rfl (by simp) (.of_preW trivial)
    · rename_i hf
      exact out_same_exit hin (finishLoader_exit hw _ hb (by simp [hpi.1])) rfl (.of_good fun b hb' => by simp [hb'] at hf)
  case hRemove =>
    replace hpi : loaded = none ∧ G.l.handlerRemoves = true := hpi
    simp only [pstep] at h
    split at h <;> cases h
    · exact out_remove hin (finishLoader_exit hw _ hb (by simp [hpi.1])) rfl
    · rename_i hf
      rw [if_pos (hw.tolerates hpi.2)]
      exact out_same_exit hin (finishLoader_exit hw _ hb (by simp [hpi.1])) rfl (.of_good (hf ▸ FileGood.none))
  case wAcquire =>
    simp only [pstep] at h
    split at h <;> cases h
    have := writeStart (env := env) (q := ⟨afterWAcquire G, loaded, buf, mem, selfFp, todo, answers, asked⟩) rfl
    exact out_acquire ‹_› ⟨⟨hb.ans, hb.mem, hb.keys⟩, this.1⟩ rfl this.2.1 this.2.2 (.of_not id)
  case wExists =>
    replace hpi : G.w.mergesExisting = true := hpi
    simp only [pstep] at h; cases h
    exact out_same hin ⟨⟨hb.ans, hb.mem, hb.keys⟩, by split <;> simp [PcInv, hpi]⟩ rfl (by split <;> rfl)
      (by split <;> simp) (.of_not id)
  case wOpenR =>
    replace hpi : G.w.mergesExisting = true := hpi
    simp only [pstep, leaveWrite_eq, hw.lockWrite, if_true] at h
    split at h <;> cases h
    · exact out_same hin ⟨⟨hb.ans, hb.mem, hb.keys⟩, hw.fnfW⟩ rfl rfl (by simp) (.of_not id)
    · rename_i b hf
      refine out_same hin ⟨⟨hb.ans, hb.mem, hb.keys⟩, hpi, ?_⟩ rfl rfl (by simp) (.of_not id)
      exact (hin.good hpi).elim (· b hf) fun hg => hg.2.elim
  case wUnpickle =>
    replace hpi : G.w.mergesExisting = true ∧ BytesGood env G buf := hpi
    have hgood := hpi.2
    unfold BytesGood at hgood
    simp only [pstep, leaveWrite_eq, hw.lockWrite, if_true] at h
    split at h
    · rename_i e hu; cases h; rw [hu] at hgood
      exact out_same hin ⟨⟨hb.ans, hb.mem, hb.keys⟩, hgood.2 hpi.1⟩ rfl rfl (by simp) (.of_not id)
    · rename_i v hu; rw [hu] at hgood
      split at h <;> cases h
      · rename_i hty
        exact out_same hin ⟨⟨hb.ans, hb.mem, hb.keys⟩,
          hw.mergeTypeCaught hpi.1 (Bool.and_eq_true_iff.mp hty).1⟩ rfl rfl (by simp) (.of_not id)
      · exact out_same hin ⟨⟨hb.ans, merged_ok hb.mem hgood, hb.keys⟩, trivial⟩ rfl rfl (by simp) (.of_not id)
  case wTrunc =>
    simp only [pstep] at h; cases h
    split
    · exact out_write (f' := sh.file) hin rfl id ⟨⟨hb.ans, hb.mem, hb.keys⟩, trivial⟩ rfl rfl
        (fun _ ha => by simp_all) (.inr rfl)
    · exact out_write hin rfl id ⟨⟨hb.ans, hb.mem, hb.keys⟩, trivial⟩ rfl rfl (fun _ _ => .inr rfl)
        (.inl (FileGood.some he.empty))
  case wWrite =>
    simp only [pstep, leaveWrite_eq, hw.lockWrite, if_true] at h; cases h
    refine out_write hin rfl id ⟨⟨hb.ans, hb.mem, hb.keys⟩, trivial⟩ rfl rfl (fun h => by cases h) (.inl ?_)
    split
    · exact FileGood.some (he.full _ (written_good hb.mem))
    · rename_i ha
      rcases hin.wr rfl (by simpa using ha) with hf | hf <;> rw [hf]
      · exact FileGood.none
      · exact FileGood.some (he.full _ (written_good hb.mem))
  case wRelease c =>
    rw [pstep_wRelease rfl] at h; cases h
    exact out_release hin (afterWrite_exit hw _ hb hpi) rfl (.of_not id)
  all_goals simp [pstep] at h

theorem crashStep_out (he : EnvOK env G) (hin : StepIn env G f0 i sh p) {n : Nat} {sh' : Sh} {p' : Proc}
    (h : crashStep env G i n sh p = some (sh', p')) : StepOut env G f0 i sh p sh' p' := by
  simp only [crashStep] at h
  split at h <;> cases h
  have hb := hin.inv.toBase
  refine ⟨⟨⟨hb.ans, hb.mem, hb.keys⟩, trivial⟩, rfl, ?_, ?_, fun h' => (by cases h'), ?_, ?_⟩
  · simp only [inLock]; split <;> simp_all
  · intro j hj; simp only; split
    · rename_i hl; simp only [hl, Option.some.injEq, reduceCtorEq, false_iff]; exact fun h => hj h.symm
    · exact Iff.rfl
  · intro hnl; simp [ne_wWrite_of_nolock hnl]
  · simp only
    split
    · split
      · exact Or.inl (FileGood.some (he.dump _ _ (written_good hb.mem)))
      · exact Or.inr ⟨rfl, .of_preW trivial⟩
    · exact Or.inr ⟨rfl, .of_preW trivial⟩

theorem failStep_out (hw : WF G) (he : EnvOK env G) (hin : StepIn env G f0 i sh p) {e : Exc} {n : Nat}
    {sh' : Sh} {p' : Proc}
    (h : failStep env G e n sh p = some (sh', p')) : StepOut env G f0 i sh p sh' p' := by
  have hb := hin.inv.toBase
  obtain ⟨pc, loaded, buf, mem, selfFp, todo, answers, asked⟩ := p
  simp only [failStep, leaveWrite_eq, hw.lockWrite, if_true] at h
  split at h
  · cases h
  · rename_i hio
    have hio : e ∈ ioExcs := by simpa using hio
    have hL := hw.ioL e hio
    have hW := hw.ioW e hio
    cases pc <;> cases h
    · -- lAcquire: the lock is not taken, the handler runs
      exact out_same_exit hin (loaderRaise_exit hw _ e hb hL) rfl fun hm _ _ => Or.inr (loaderRaise_preW hw _ e hL hm)
    · exact out_leaveRead hw hin rfl hb rfl hL (.of_preW trivial)
    · exact out_same_exit hin (afterWrite_exit hw _ (c := .exc e) hb hW) rfl (.of_not id)
    · exact out_same hin ⟨⟨hb.ans, hb.mem, hb.keys⟩, hW⟩ rfl rfl (by simp) (.of_not id)
    · exact out_same hin ⟨⟨hb.ans, hb.mem, hb.keys⟩, hW⟩ rfl rfl (by simp) (.of_not id)
    · -- wWrite: a prefix of the dump may have reached the file
      refine out_write hin rfl id ⟨⟨hb.ans, hb.mem, hb.keys⟩, hW⟩ rfl rfl (fun h => by cases h) ?_
      split
      · exact .inr rfl
      · split
        · exact .inl (FileGood.some (he.dump _ _ (written_good hb.mem)))
        · exact .inr rfl

theorem Acts.out (hw : WF G) (he : EnvOK env G) (hin : StepIn env G f0 i sh p) {r : Sh × Proc}
    (h : Acts env G i sh p r) : StepOut env G f0 i sh p r.1 r.2 := by
  cases h with
  | run h => exact pstep_out hw he hin h
  | crash n h => exact crashStep_out he hin h
  | fail e n h => exact failStep_out hw he hin h

end SpsdkVerif.DbCache.Sched
