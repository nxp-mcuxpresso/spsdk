/-
`Certificate.parse` removes the NXP zero padding BY THE DECLARED LENGTH of the DER element (Model/KeysGlue.lean: `derTotalLen`,
`derLoad`, `certLoadDerG`, `certLoadDer` over the generated `certPad…` constants): the retry loop over a loader that cuts the
element at its declared length drops a tail iff it is all zeros (`certLoadDerF_derLoad`).
-/
import SpsdkVerif.Proofs.KeysGlue

namespace SpsdkVerif.Keys
open SpsdkVerif SpsdkVerif.Misc SpsdkVerif.Generated

theorem u8_toNat_zero_iff (b : UInt8) : ([0] : List Nat).contains b.toNat = true ↔ b = 0 := by
  simp only [List.contains_cons, List.contains_nil, Bool.or_false, beq_iff_eq]
  constructor
  · intro h; exact UInt8.toNat_inj.mp (by simpa using h)
  · intro h; rw [h]; rfl

theorem certLoadDerG_eq_F {γ : Type} (load : Bytes → LoadRes γ) (fuel : Nat) (data : Bytes) :
    certLoadDerG true [0] load fuel data = certLoadDerF load fuel data := by
  -- both loops unfold alike; with fuel left the recursive calls agree by induction
  induction fuel generalizing data <;> unfold certLoadDerG certLoadDerF <;> cases load data <;> try rfl
  all_goals
    cases hl : data.getLast? with
    | none => simp
    | some b =>
      by_cases hb : b = 0
      · simp [*]
      · have hb' : ¬ b.toNat = 0 := fun h => hb (UInt8.toNat_inj.mp (by simpa using h))
        simp [hb, hb']

/-- on the current source (`certPadMode = 0`, pad byte 0, `ExtraData` required) `load_der_certificate` is the retry loop -/
theorem certLoadDer_eq {γ : Type} (load : Bytes → LoadRes γ) (data : Bytes) :
    certLoadDer load data = certLoadDerF load data.length data := by
  unfold certLoadDer
  rw [if_pos (by decide)]
  exact certLoadDerG_eq_F load data.length data

/-- length octets are read from the front: what follows them is returned untouched, so bytes appended to the data
    reappear behind the rest -/
theorem readLen_spec (a : Bytes) (l : Nat) (r : Bytes) (h : readLen a = some (l, r)) :
    r.length ≤ a.length ∧ ∀ t, readLen (a ++ t) = some (l, r ++ t) := by
  cases a with
  | nil => simp [readLen] at h
  | cons b rest =>
    simp only [List.cons_append, readLen] at h ⊢
    by_cases hb : b.toNat < 128
    · simp only [hb, if_true, Option.some.injEq, Prod.mk.injEq] at h ⊢
      obtain ⟨rfl, rfl⟩ := h
      exact ⟨Nat.le_succ _, fun t => ⟨rfl, rfl⟩⟩
    · simp only [hb, if_false] at h ⊢
      by_cases hk : b.toNat - 128 = 0 ∨ 4 < b.toNat - 128
      · simp [hk] at h
      · simp only [hk, if_false] at h ⊢
        by_cases hl : rest.length < b.toNat - 128
        · simp [hl] at h
        · simp only [hl, if_false] at h
          by_cases hm : (rest.take (b.toNat - 128)).head? = some 0 ∨ beDec (rest.take (b.toNat - 128)) < 128
          · simp [hm] at h
          · simp only [hm, if_false, Option.some.injEq, Prod.mk.injEq] at h
            obtain ⟨rfl, rfl⟩ := h
            refine ⟨by rw [List.length_drop, List.length_cons]; omega, fun t => ?_⟩
            have hl' : ¬ (rest ++ t).length < b.toNat - 128 := by rw [List.length_append]; omega
            rw [if_neg hl', List.take_append_of_le_length (by omega), List.drop_append_of_le_length (by omega), if_neg hm]

/-- the declared length depends on the header only: bytes appended to the data do not change it -/
theorem derTotalLen_append (d t : Bytes) (n : Nat) (h : derTotalLen d = some n) : derTotalLen (d ++ t) = some n := by
  cases d with
  | nil => simp [derTotalLen] at h
  | cons b rest =>
    simp only [List.cons_append, derTotalLen] at h ⊢
    by_cases hb : b ≠ 0x30
    · simp [hb] at h
    · simp only [hb, if_false] at h ⊢
      cases hr : readLen rest with
      | none => simp [hr] at h
      | some p =>
        obtain ⟨l, r⟩ := p
        obtain ⟨hle, happ⟩ := readLen_spec rest l r hr
        rw [hr] at h
        rw [happ t]
        simp only [Option.some.injEq] at h ⊢
        rw [List.length_append, List.length_append]
        omega

/-- every DER SEQUENCE produced by a canonical encoder declares exactly its own length -/
theorem derTotalLen_encTLV (c : Bytes) (h : c.length < 2 ^ 32) : derTotalLen (encTLV 0x30 c) = some (encTLV 0x30 c).length := by
  unfold encTLV
  simp only [derTotalLen, ne_eq, not_true_eq_false, if_false]
  rw [readLen_encLen _ _ h]
  simp only [Option.some.injEq, List.length_cons, List.length_append]
  omega

/-- outcome of the loader on exactly the element as a Python result -/
def loadExact {γ : Type} (syn : Bytes → SynRes) (body : Bytes → Option γ) (el : Bytes) : PyRes γ :=
  match syn el with
  | .ok => (match body el with | some c => .ok c | none => .error .spsdk)
  | _ => .error .spsdk

theorem derLoad_exact {γ : Type} (syn : Bytes → SynRes) (body : Bytes → Option γ) (el : Bytes)
    (hn : derTotalLen el = some el.length) :
    derLoad syn body el =
      (match syn el with
       | .bad => .fail
       | .extra => .extraData
       | .ok => (match body el with | some c => .ok c | none => .fail)) := by
  unfold derLoad
  rw [hn]
  simp only [Nat.lt_irrefl, if_false, List.take_length]
  cases syn el <;> rfl

theorem derLoad_longer {γ : Type} (syn : Bytes → SynRes) (body : Bytes → Option γ) (el t : Bytes) (b : UInt8)
    (hn : derTotalLen el = some el.length) :
    derLoad syn body (el ++ (t ++ [b])) = (match syn el with | .bad => .fail | _ => .extraData) := by
  unfold derLoad
  rw [derTotalLen_append el _ _ hn]
  have h1 : ¬ (el ++ (t ++ [b])).length < el.length := by rw [List.length_append]; omega
  have h2 : el.length < (el ++ (t ++ [b])).length := by
    rw [List.length_append, List.length_append, List.length_singleton]; omega
  simp only [h1, if_false, List.take_left', h2, if_true]
  cases syn el <;> rfl

/-- an element cut short is a plain failure (never `ExtraData`) -/
theorem derLoad_short {γ : Type} (syn : Bytes → SynRes) (body : Bytes → Option γ) (p : Bytes) (b : UInt8)
    (hn : derTotalLen (p ++ [b]) = some (p ++ [b]).length) : derLoad syn body p = .fail := by
  unfold derLoad
  cases hp : derTotalLen p with
  | none => rfl
  | some m =>
    have := derTotalLen_append p [b] m hp
    rw [hn] at this
    simp only [Option.some.injEq, List.length_append, List.length_singleton] at this
    have hlt : p.length < m := by omega
    simp [hlt]

/-- an `ExtraData` error raised inside the element: the loop may eat zero bytes of the element itself, but the outcome is an error -/
theorem certLoadDerF_syn_extra {γ : Type} (syn : Bytes → SynRes) (body : Bytes → Option γ) (el : Bytes)
    (hn : derTotalLen el = some el.length) (hs : syn el = .extra) (tail : Bytes) (fuel : Nat) :
    certLoadDerF (derLoad syn body) fuel (el ++ tail) = .error .spsdk := by
  induction fuel generalizing tail with
  | zero =>
    unfold certLoadDerF
    rcases List.eq_nil_or_concat tail with rfl | ⟨t, b, rfl⟩
    · rw [List.append_nil, derLoad_exact syn body el hn, hs]; simp only; split <;> rfl
    · rw [List.concat_eq_append, derLoad_longer syn body el t b hn, hs]; simp only; split <;> rfl
  | succ f ih =>
    unfold certLoadDerF
    rcases List.eq_nil_or_concat tail with rfl | ⟨t, b, rfl⟩
    · rw [List.append_nil, derLoad_exact syn body el hn, hs]
      simp only
      split
      · rcases List.eq_nil_or_concat el with rfl | ⟨p, b, rfl⟩
        · simp [derTotalLen] at hn
        · rw [List.concat_eq_append] at hn ⊢
          rw [List.dropLast_concat]
          unfold certLoadDerF
          rw [derLoad_short syn body p b hn]
      · rfl
    · rw [List.concat_eq_append, derLoad_longer syn body el t b hn, hs]
      simp only
      split
      · rw [← List.append_assoc, List.dropLast_concat]; exact ih t
      · rfl

/-- the retry loop on `element ++ tail`: the tail is removed iff it consists of zero bytes only, and then the answer is the
    loader's answer on exactly the element, whatever bytes the element itself ends with -/
theorem certLoadDerF_derLoad {γ : Type} (syn : Bytes → SynRes) (body : Bytes → Option γ) (el : Bytes)
    (hn : derTotalLen el = some el.length) (tail : Bytes) (fuel : Nat) (hf : tail.length ≤ fuel) :
    certLoadDerF (derLoad syn body) fuel (el ++ tail) =
      if tail.all (· == 0) then loadExact syn body el else .error .spsdk := by
  cases hs : syn el with
  | extra =>
    rw [certLoadDerF_syn_extra syn body el hn hs]
    unfold loadExact; rw [hs]; simp
  | bad =>
    have hl : loadExact syn body el = .error .spsdk := by unfold loadExact; rw [hs]
    rw [hl]
    unfold certLoadDerF
    rcases List.eq_nil_or_concat tail with rfl | ⟨t, b, rfl⟩
    · rw [List.append_nil, derLoad_exact syn body el hn, hs]; simp
    · rw [List.concat_eq_append, derLoad_longer syn body el t b hn, hs]; simp
  | ok =>
    have hl : loadExact syn body el = (match body el with | some c => .ok c | none => .error .spsdk) := by
      unfold loadExact; rw [hs]
    have hnil : ∀ fuel, certLoadDerF (derLoad syn body) fuel (el ++ []) =
        if ([] : Bytes).all (· == 0) then loadExact syn body el else .error .spsdk := fun fuel => by
      unfold certLoadDerF
      rw [List.append_nil, derLoad_exact syn body el hn, hs, hl]
      simp only [List.all_nil, if_true]
      cases body el <;> rfl
    induction fuel generalizing tail with
    | zero => rw [List.eq_nil_of_length_eq_zero (Nat.le_zero.1 hf)]; exact hnil 0
    | succ f ih =>
      rcases List.eq_nil_or_concat tail with rfl | ⟨t, b, rfl⟩
      · exact hnil _
      · rw [List.concat_eq_append] at hf ⊢
        unfold certLoadDerF
        rw [derLoad_longer syn body el t b hn, hs]
        simp only
        rw [← List.append_assoc, List.getLast?_concat, List.dropLast_concat]
        rw [List.length_append, List.length_singleton] at hf
        by_cases hb : b = 0
        · subst hb
          simp only [if_true]
          rw [ih t (by omega)]
          simp [List.all_append]
        · have : (some b = some (0 : UInt8)) = False := by simp [hb]
          simp only [this, if_false]
          simp [List.all_append, hb]

end SpsdkVerif.Keys
