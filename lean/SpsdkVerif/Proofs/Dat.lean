/-
Helper lemmas for Properties/C15.lean (debug authentication codec, Model/Dat.lean).  Core Lean only.
-/
import SpsdkVerif.Model.Dat
import SpsdkVerif.Proofs.Misc
import SpsdkVerif.Crypto.Break
import SpsdkVerif.Spec.Rotkh
namespace SpsdkVerif.Dat
open SpsdkVerif SpsdkVerif.Misc SpsdkVerif.Generated
open SpsdkVerif.Crypto (CryptoOps CryptoLaws Break SigAlg HashAlg PrivKey Rand)

/-! ### little-endian integers -/

theorem leDec_leEnc2 (v : Nat) (h : v < 65536) : leDec (leEnc 2 v) = v := leDec_leEnc 2 v h
theorem leDec_leEnc4 (v : Nat) (h : v < 4294967296) : leDec (leEnc 4 v) = v := leDec_leEnc 4 v h

@[simp] theorem zeros_length (n : Nat) : (zeros n).length = n := by simp [zeros]
theorem fitS_length (n : Nat) (b : Bytes) : (fitS n b).length = n := by simp [fitS]
theorem fitS_self (n : Nat) (b : Bytes) (h : b.length = n) : fitS n b = b := by simp [fitS, ← h]

theorem rd_append (n : Nat) (a r : Bytes) (h : a.length = n) : rd n (a ++ r) = .ok (a, r) := by
  subst h; simp [rd]

@[simp] theorem bind_ok' {α β : Type} (a : α) (f : α → PyRes β) : (Except.ok a >>= f) = f a := rfl
@[simp] theorem bind_err' {α β : Type} (e : PyErr) (f : α → PyRes β) : ((Except.error e : PyRes α) >>= f) = .error e := rfl
theorem map_ok' {α β : Type} (f : α → β) (a : α) : f <$> (Except.ok a : PyRes α) = Except.ok (f a) := rfl

/-- reading a field off the front of a buffer, in continuation form: a parser applied to an encoding is rewritten
    field by field at the root of the term -/
theorem rd_bind {β : Type} {n : Nat} {a : Bytes} (h : a.length = n) (r : Bytes) (f : Bytes × Bytes → PyRes β) :
    (rd n (a ++ r) >>= f) = f (a, r) := by rw [rd_append n a r h]; rfl

theorem flatten_length_const (l : List Bytes) (w : Nat) (h : ∀ x ∈ l, x.length = w) : l.flatten.length = l.length * w := by
  induction l with
  | nil => simp
  | cons a r ih =>
    simp only [List.flatten_cons, List.length_append, List.length_cons]
    rw [ih (fun x hx => h x (by simp [hx])), h a (by simp), Nat.succ_mul, Nat.add_comm]

theorem zeros_drop (k w : Nat) : (zeros k).drop w = zeros (k - w) := by simp [zeros]
theorem zeros_append (a b : Nat) : zeros a ++ zeros b = zeros (a + b) := by simp [zeros]

theorem rsaMetaFill_spec (w : Nat) : ∀ (items : List Bytes) (pre : Bytes) (i k : Nat),
    pre.length = i * w → (∀ it ∈ items, it.length = w) → items.length * w ≤ k →
    rsaMetaFill w (pre ++ zeros k) i items = pre ++ items.flatten ++ zeros (k - items.length * w)
  | [], pre, i, k, _, _, _ => by simp [rsaMetaFill]
  | it :: rest, pre, i, k, hp, hit, hk => by
    have hl : it.length = w := hit it (by simp)
    have hk' : w + rest.length * w ≤ k := by
      have : (rest.length + 1) * w = w + rest.length * w := by rw [Nat.add_mul, Nat.one_mul, Nat.add_comm]
      simpa [this] using hk
    have h1 : sliceSet (pre ++ zeros k) (i * w) ((i + 1) * w) it = (pre ++ it) ++ zeros (k - w) := by
      have hmax : max (i * w) ((i + 1) * w) = pre.length + w := by
        rw [hp, Nat.add_mul, Nat.one_mul]; exact Nat.max_eq_right (Nat.le_add_right _ _)
      simp only [sliceSet, hmax]
      rw [← hp, List.take_left', List.drop_append]
      simp [zeros_drop]
      rfl
    rw [rsaMetaFill, h1]
    rw [rsaMetaFill_spec w rest (pre ++ it) (i + 1) (k - w) (by simp [hp, hl, Nat.add_mul]) (fun x hx => hit x (by simp [hx])) (by omega)]
    simp only [List.flatten_cons, List.append_assoc, List.length_cons]
    congr 3
    have : (rest.length + 1) * w = w + rest.length * w := by rw [Nat.add_mul, Nat.one_mul, Nat.add_comm]
    rw [this, Nat.sub_add_eq]

theorem allZero_of_forall (b : Bytes) (h : ∀ x ∈ b, x = 0) : allZero b = true := by
  simp only [allZero, List.all_eq_true]; intro x hx; simp [h x hx]

theorem rsaMetaItems_zeros (w : Nat) (data : Bytes) : ∀ (n i : Nat), (∀ x ∈ data.drop (i * w), x = 0) →
    rsaMetaItems w data n i = []
  | 0, _, _ => by simp [rsaMetaItems]
  | n + 1, i, h => by
    have hz : allZero ((data.drop (i * w)).take w) = true :=
      allZero_of_forall _ (fun x hx => h x (List.mem_of_mem_take hx))
    have hn : ∀ x ∈ data.drop ((i + 1) * w), x = 0 := by
      intro x hx
      have : data.drop ((i + 1) * w) = (data.drop (i * w)).drop w := by
        rw [List.drop_drop, Nat.add_mul, Nat.one_mul]
      rw [this] at hx
      exact h x (List.mem_of_mem_drop hx)
    simp only [rsaMetaItems, hz, if_true]
    exact rsaMetaItems_zeros w data n (i + 1) hn

theorem rsaMetaItems_spec (w : Nat) : ∀ (items : List Bytes) (pre : Bytes) (i m z : Nat),
    pre.length = i * w → (∀ it ∈ items, it.length = w ∧ allZero it = false) →
    rsaMetaItems w (pre ++ items.flatten ++ zeros z) (items.length + m) i = items
  | [], pre, i, m, z, hp, _ => by
    simp only [List.flatten_nil, List.append_nil, List.length_nil, Nat.zero_add]
    apply rsaMetaItems_zeros
    intro x hx
    rw [← hp, List.drop_left] at hx
    simp [zeros] at hx; exact hx.2
  | it :: rest, pre, i, m, z, hp, hit => by
    obtain ⟨hl, hnz⟩ := hit it (by simp)
    have hs : ((pre ++ (it :: rest).flatten ++ zeros z).drop (i * w)).take w = it := by
      rw [← hp]; simp [List.append_assoc, List.drop_left', ← hl]
    have hlen : (it :: rest).length + m = (rest.length + m) + 1 := by simp; omega
    rw [hlen, rsaMetaItems]
    simp only [hs, hnz]
    have := rsaMetaItems_spec w rest (pre ++ it) (i + 1) m z (by simp [hp, hl, Nat.add_mul])
      (fun x hx => hit x (by simp [hx]))
    simp only [List.flatten_cons, List.append_assoc] at this ⊢
    simp [this]

theorem rsaConsts : DatConsts.rotMetaRsaCount * DatConsts.rotMetaRsaItem = DatConsts.rotMetaRsaSize ∧
    DatConsts.rotMetaRsaMinLen ≤ DatConsts.rotMetaRsaSize := by decide

theorem rsaMeta_roundtrip (items : List Bytes) (hn : items.length ≤ DatConsts.rotMetaRsaCount)
    (hit : ∀ it ∈ items, it.length = DatConsts.rotMetaRsaItem ∧ allZero it = false) :
    (rsaMetaExport items).length = DatConsts.rotMetaRsaSize ∧ rsaMetaParse (rsaMetaExport items) = .ok (.rsa items) := by
  obtain ⟨hc, hm⟩ := rsaConsts
  have hle : items.length * DatConsts.rotMetaRsaItem ≤ DatConsts.rotMetaRsaSize := by
    rw [← hc]; exact Nat.mul_le_mul_right _ hn
  have he : rsaMetaExport items = items.flatten ++ zeros (DatConsts.rotMetaRsaSize - items.length * DatConsts.rotMetaRsaItem) := by
    have := rsaMetaFill_spec DatConsts.rotMetaRsaItem items [] 0 DatConsts.rotMetaRsaSize (by simp) (fun it h => (hit it h).1) hle
    simpa [rsaMetaExport] using this
  have hlen : (rsaMetaExport items).length = DatConsts.rotMetaRsaSize := by
    rw [he, List.length_append, zeros_length, flatten_length_const items _ fun it h => (hit it h).1]; omega
  refine ⟨hlen, ?_⟩
  have hnl : ¬ (rsaMetaExport items).length < DatConsts.rotMetaRsaMinLen := by omega
  simp only [rsaMetaParse, hnl, if_false]
  obtain ⟨m, hm2⟩ : ∃ m, DatConsts.rotMetaRsaCount = items.length + m := ⟨_, (Nat.add_sub_cancel' hn).symm⟩
  rw [he, hm2]
  have := rsaMetaItems_spec DatConsts.rotMetaRsaItem items [] 0 m
    (DatConsts.rotMetaRsaSize - items.length * DatConsts.rotMetaRsaItem) (by simp) hit
  simp only [List.nil_append] at this
  rw [this]

theorem lookup_mem (k v : Nat) : ∀ (l : List (Nat × Nat)), lookup k l = some v → (k, v) ∈ l
  | [], h => by simp [lookup] at h
  | (a, b) :: r, h => by
    simp only [lookup] at h
    split at h
    · rename_i e; injection h with h; subst e; subst h; simp
    · exact List.mem_cons_of_mem _ (lookup_mem k v r h)

theorem versionOk_lt {major minor : Nat} (h : versionOk major minor = true) : major < 65536 ∧ minor < 65536 := by
  simp only [versionOk, DatConsts.versions] at h
  simp at h
  omega

theorem packFields_append (dc : DC) (l₁ l₂ : List (DatFld × DatArg)) (b : Bytes) :
    packFields dc (l₁ ++ l₂) = .ok b ↔ ∃ b₁ b₂, packFields dc l₁ = .ok b₁ ∧ packFields dc l₂ = .ok b₂ ∧ b = b₁ ++ b₂ := by
  simp only [packFields, List.all_append, Bool.and_eq_true, List.flatMap_append]
  by_cases h1 : l₁.all (fieldOk dc) = true <;> by_cases h2 : l₂.all (fieldOk dc) = true <;> simp [h1, h2, eq_comm]

/-- the signature field of each class's export layout -/
def sigField : Cls → DatFld × DatArg
  | .rsa => (.bytes .rsaSig, .sig)
  | .ecc => (.bytes .lenSig, .sig)
  | .ele => (.bytes .lenSig, .sig)

theorem layout_split (c : Cls) : exportLayout c = signLayout c ++ [sigField c] := by
  cases c <;> decide

theorem signed_range (dc : DC) (b : Bytes) (h : exportDC dc = .ok b) :
    ∃ m, dataToSign dc = .ok m ∧ b = m ++ fieldBytes dc (sigField dc.cls) := by
  unfold exportDC at h
  split at h
  · cases h
  · rw [layout_split] at h
    obtain ⟨b₁, b₂, h1, h2, hb⟩ := (packFields_append dc _ _ b).mp h
    refine ⟨b₁, h1, ?_⟩
    simp only [packFields, List.all_cons, List.all_nil, Bool.and_true, List.flatMap_cons, List.flatMap_nil, List.append_nil] at h2
    split at h2
    · injection h2 with h2; rw [hb, h2]
    · cases h2

theorem exportDC_of_sign {dc : DC} {m : Bytes} (h : dataToSign dc = .ok m) (hne : dc.sig ≠ [])
    (hf : fieldOk dc (sigField dc.cls) = true) : exportDC dc = .ok (m ++ fieldBytes dc (sigField dc.cls)) := by
  have he : dc.sig.isEmpty = false := by cases hs : dc.sig <;> simp_all
  rw [exportDC, he, layout_split]
  exact (packFields_append dc _ _ _).mpr ⟨m, _, h, by simp [packFields, hf], rfl⟩

theorem rsa_sign (dc : DC) (h : WFRsa dc) :
    ∃ items, dc.rotMeta = .rsa items ∧ dataToSign dc = .ok (specTbsRsa dc items) := by
  obtain ⟨hc, hcls, items, ks, ss, hrm, hn, hit, hks, hss, hdck, hrot, hsig⟩ := h
  have hmlen := (rsaMeta_roundtrip items hn hit).1
  have h128 : DatConsts.rotMetaRsaSize = 128 := by decide
  have hmaj := versionOk_lt hc.ver
  refine ⟨items, hrm, ?_⟩
  simp only [dataToSign, hcls, signLayout, packFields, DatConsts.rsaSign]
  simp [fieldOk, fieldBytes, argNat, argBytes, widthVal, hrm, rotMetaExport, hks, hmaj.1, hmaj.2, hc.socc,
    hc.socu, hc.vu, hc.beacon, specTbsRsa, fitS_self, hc.uuid, hdck, hrot, hmlen, h128]

theorem rsa_parse (dc : DC) (h : WFRsa dc) (items : List Bytes) (hrm : dc.rotMeta = .rsa items) (t : Bytes) :
    parseRsa ((specTbsRsa dc items ++ dc.sig) ++ t) = .ok dc := by
  obtain ⟨hc, hcls, items', ks, ss, hrm', hn, hit, hks, hss, hdck, hrot, hsig⟩ := h
  obtain rfl : items' = items := by rw [hrm] at hrm'; injection hrm' with h; exact h.symm
  obtain ⟨hmlen, hmp⟩ := rsaMeta_roundtrip items' hn hit
  have hmaj := versionOk_lt hc.ver
  simp only [specTbsRsa, List.append_assoc, parseRsa]
  rw [rd_bind (leEnc_length 2 _), rd_bind (leEnc_length 2 _), leDec_leEnc2 _ hmaj.1, leDec_leEnc2 _ hmaj.2, hc.ver]
  simp only [Bool.not_true, Bool.false_eq_true, if_false, hks, hss, bind_ok', pure, Except.pure]
  rw [rd_bind (leEnc_length 4 _), rd_bind hc.uuid, rd_bind hmlen, rd_bind hdck, rd_bind (leEnc_length 4 _),
    rd_bind (leEnc_length 4 _), rd_bind (leEnc_length 4 _), rd_bind hrot, rd_bind hsig, hmp, bind_ok',
    leDec_leEnc4 _ hc.socc, leDec_leEnc4 _ hc.socu, leDec_leEnc4 _ hc.vu, leDec_leEnc4 _ hc.beacon, ← hcls, ← hrm]

theorem flags_rt_fin : ∀ c : Fin 5, ∀ u : Fin 5, u.val < c.val →
    flagsBytes u.val c.val = .ok (specFlags u.val c.val) ∧ flagsParse (specFlags u.val c.val) = .ok (u.val, c.val) := by
  decide +kernel

theorem flags_rt (used cnt : Nat) (h : used < cnt) (hc : cnt ≤ 4) :
    flagsBytes used cnt = .ok (specFlags used cnt) ∧ flagsParse (specFlags used cnt) = .ok (used, cnt) :=
  flags_rt_fin ⟨cnt, by omega⟩ ⟨used, by omega⟩ h

/-- `flagsParse` of a packed word, as arithmetic on the word (no byte list is built) -/
def flagsOfWord (w : Nat) : PyRes (Nat × Nat) :=
  let f := w % 4294967296
  if f / 2147483648 % 2 = 0 then .error .spsdk
  else if flagsValid (f / 256 % 16) (f / 16 % 16) then .ok (f / 256 % 16, f / 16 % 16) else .error .spsdk

theorem flagsParse_leEnc (w : Nat) : flagsParse (leEnc 4 w) = flagsOfWord w := by
  have h : leDec (leEnc 4 w) = w % 4294967296 := by simp [leDec, leEnc, beDec_beEnc_mod]
  simp only [flagsParse, leEnc_length, h, flagsOfWord, (by decide : DatConsts.flagsLen = 4), ne_eq, not_true_eq_false, if_false]

theorem specFlags_length (u c : Nat) : (specFlags u c).length = DatConsts.flagsLen := leEnc_length 4 _

theorem withFlags_ok (used cnt : Nat) (tail : Bytes) (h : used < cnt) (hc : cnt ≤ 4) :
    withFlags used cnt tail = .ok (specFlags used cnt ++ tail) := by
  rw [withFlags, (flags_rt used cnt h hc).1]

theorem flagsParse_take (used cnt : Nat) (rest : Bytes) (h : used < cnt) (hc : cnt ≤ 4) :
    flagsParse ((specFlags used cnt ++ rest).take DatConsts.flagsLen) = .ok (used, cnt) ∧
    (specFlags used cnt ++ rest).drop DatConsts.flagsLen = rest := by
  rw [List.take_left' (specFlags_length _ _), List.drop_left' (specFlags_length _ _)]
  exact ⟨(flags_rt used cnt h hc).2, rfl⟩

theorem rdItems_append (w : Nat) : ∀ (items : List Bytes) (rest : Bytes), (∀ it ∈ items, it.length = w) →
    rdItems w items.length (items.flatten ++ rest) = .ok (items, rest)
  | [], rest, _ => by simp [rdItems]
  | it :: r, rest, h => by
    have hl := h it (by simp)
    simp only [List.length_cons, rdItems, List.flatten_cons, List.append_assoc, rd_append w it _ hl]
    rw [rdItems_append w r rest (fun x hx => h x (by simp [hx]))]

theorem eccMeta_roundtrip (coord w used cnt : Nat) (items : List Bytes) (rest : Bytes)
    (hw : eccItemWidth coord = some w) (hu : used < cnt) (hc : cnt ≤ 4)
    (h1 : cnt = 1 → items = []) (h2 : 1 < cnt → items.length = cnt ∧ ∀ it ∈ items, it.length = w) :
    eccMetaParse coord (specFlags used cnt ++ (crtkTable items ++ rest)) = .ok (.ecc used cnt items, rest) := by
  obtain ⟨hf, hd⟩ := flagsParse_take used cnt (crtkTable items ++ rest) hu hc
  rw [eccMetaParse, hf, hd]
  by_cases hc1 : 1 < cnt
  · obtain ⟨hl, hit⟩ := h2 hc1
    have hct : crtkTable items = items.flatten := by simp [crtkTable, hl, hc1]
    simp only [hc1, if_true, hw, hct]
    rw [← hl, rdItems_append w items rest hit]
  · have : cnt = 1 := by omega
    have hi := h1 this
    subst hi
    simp [hc1, crtkTable]

/-- the head that the ECC and EdgeLock classes share, in continuation form -/
theorem parseHead_spec {β : Type} (dc : DC) (hc : WFCommon dc) (rest : Bytes) (f : Head × Bytes → PyRes β) :
    (parseHead (leEnc 2 dc.major ++ (leEnc 2 dc.minor ++ (leEnc 4 dc.socc ++ (dc.uuid ++ (leEnc 4 dc.ccSocu ++
      (leEnc 4 dc.ccVu ++ (leEnc 4 dc.beacon ++ rest))))))) >>= f) =
      f (⟨dc.major, dc.minor, dc.socc, dc.uuid, dc.ccSocu, dc.ccVu, dc.beacon⟩, rest) := by
  have hmaj := versionOk_lt hc.ver
  simp only [parseHead]
  rw [rd_bind (leEnc_length 2 _), rd_bind (leEnc_length 2 _), rd_bind (leEnc_length 4 _), rd_bind hc.uuid,
    rd_bind (leEnc_length 4 _), rd_bind (leEnc_length 4 _), rd_bind (leEnc_length 4 _), leDec_leEnc2 _ hmaj.1,
    leDec_leEnc2 _ hmaj.2, hc.ver, leDec_leEnc4 _ hc.socc, leDec_leEnc4 _ hc.socu, leDec_leEnc4 _ hc.vu,
    leDec_leEnc4 _ hc.beacon]
  rfl

theorem ecc_sign (dc : DC) (h : WFEcc dc) :
    ∃ used cnt items, dc.rotMeta = .ecc used cnt items ∧ dataToSign dc = .ok (specTbsEcc dc used cnt items) := by
  obtain ⟨hc, hcls, used, cnt, items, coord, w, hrm, hco, hhb, hw, hu, hcn, h1, h2, hrot, hdck, hsig⟩ := h
  have hmaj := versionOk_lt hc.ver
  have hme : rotMetaExport dc.rotMeta = .ok (specFlags used cnt ++ crtkTable items) := by
    rw [hrm]; exact withFlags_ok used cnt _ hu hcn
  have hmb : rotMetaBytes dc = specFlags used cnt ++ crtkTable items := by simp [rotMetaBytes, hme]
  refine ⟨used, cnt, items, hrm, ?_⟩
  simp only [dataToSign, hcls, signLayout, packFields, DatConsts.eccSign]
  simp [fieldOk, fieldBytes, argNat, argBytes, widthVal, hme, hmb, hmaj.1, hmaj.2, hc.socc,
    hc.socu, hc.vu, hc.beacon, specTbsEcc, fitS_self, hc.uuid]

theorem ecc_parse (dc : DC) (h : WFEcc dc) (used cnt : Nat) (items : List Bytes) (hrm : dc.rotMeta = .ecc used cnt items)
    (t : Bytes) : parseEcc ((specTbsEcc dc used cnt items ++ dc.sig) ++ t) = .ok dc := by
  obtain ⟨hc, hcls, used', cnt', items', coord, w, hrm', hco, hhb, hw, hu, hcn, h1, h2, hrot, hdck, hsig⟩ := h
  obtain ⟨rfl, rfl, rfl⟩ : used' = used ∧ cnt' = cnt ∧ items' = items := by
    rw [hrm] at hrm'; injection hrm' with a b c; exact ⟨a.symm, b.symm, c.symm⟩
  simp only [specTbsEcc, List.append_assoc, parseEcc]
  rw [parseHead_spec dc hc]
  simp only [hco, pure, Except.pure, bind_ok', Option.isNone_iff_eq_none]
  rw [if_neg (fun e => by rw [e] at hhb; cases hhb), eccMeta_roundtrip coord w used' cnt' items' _ hw hu hcn h1 h2, bind_ok',
    rd_bind hrot, rd_bind hdck, rd_bind hsig, ← hcls, ← hrm]

theorem ele_sign (o : SrkOracle) (dc : DC) (h : WFEle o dc) :
    ∃ used cnt srk, dc.rotMeta = .ele used cnt srk ∧ dataToSign dc = .ok (specTbsEle dc used cnt srk) := by
  obtain ⟨hc, hcls, used, cnt, srk, hrm, hu, hcn, ho, hdck⟩ := h
  have hmaj := versionOk_lt hc.ver
  have hme : rotMetaExport dc.rotMeta = .ok (specFlags used cnt ++ srk) := by
    rw [hrm]; exact withFlags_ok used cnt _ hu hcn
  have hmb : rotMetaBytes dc = specFlags used cnt ++ srk := by simp [rotMetaBytes, hme]
  refine ⟨used, cnt, srk, hrm, ?_⟩
  simp only [dataToSign, hcls, signLayout, packFields, DatConsts.eleSign]
  simp [fieldOk, fieldBytes, argNat, argBytes, widthVal, hme, hmb, hmaj.1, hmaj.2, hc.socc,
    hc.socu, hc.vu, hc.beacon, specTbsEle, fitS_self, hc.uuid]

theorem ele_parse (o : SrkOracle) (dc : DC) (h : WFEle o dc) (used cnt : Nat) (srk : Bytes)
    (hrm : dc.rotMeta = .ele used cnt srk) (t : Bytes) :
    parseEle o ((specTbsEle dc used cnt srk ++ dc.sig) ++ t) = .ok dc := by
  obtain ⟨hc, hcls, used', cnt', srk', hrm', hu, hcn, ho, hdck⟩ := h
  obtain ⟨rfl, rfl, rfl⟩ : used' = used ∧ cnt' = cnt ∧ srk' = srk := by
    rw [hrm] at hrm'; injection hrm' with a b c; exact ⟨a.symm, b.symm, c.symm⟩
  simp only [specTbsEle, List.append_assoc, parseEle]
  obtain ⟨hf, hd⟩ := flagsParse_take used' cnt' (srk' ++ (dc.dck ++ (dc.sig ++ t))) hu hcn
  rw [parseHead_spec dc hc]
  simp only [hf, hd, bind_ok', ho, pure, Except.pure]
  rw [rd_bind rfl, rd_bind hdck, rd_bind rfl, ← hcls, ← hrm]

theorem wf_common (o : SrkOracle) (dc : DC) (h : WF o dc) : WFCommon dc := by
  unfold WF at h
  split at h <;> exact h.common

theorem sigField_wf (o : SrkOracle) (dc : DC) (h : WF o dc) :
    fieldOk dc (sigField dc.cls) = true ∧ fieldBytes dc (sigField dc.cls) = dc.sig := by
  unfold WF at h
  split at h
  · rename_i hc
    obtain ⟨_, _, _, _, ss, _, _, _, _, hss, _, _, hsig⟩ := h
    simp [hc, sigField, fieldOk, fieldBytes, argBytes, widthVal, hss, fitS_self, hsig]
  all_goals (rename_i hc; simp [hc, sigField, fieldOk, fieldBytes, argBytes, widthVal, fitS_self])

theorem sign_spec (o : SrkOracle) (dc : DC) (h : WF o dc) : dataToSign dc = .ok (specTbs dc) := by
  unfold WF at h
  split at h
  · obtain ⟨items, hrm, h1⟩ := rsa_sign dc h
    rw [specTbs, hrm]; exact h1
  · obtain ⟨u, c, items, hrm, h1⟩ := ecc_sign dc h
    rw [specTbs, hrm]; exact h1
  · obtain ⟨u, c, srk, hrm, h1⟩ := ele_sign o dc h
    rw [specTbs, hrm]; exact h1

theorem export_spec (o : SrkOracle) (dc : DC) (h : WF o dc) :
    dataToSign dc = .ok (specTbs dc) ∧ exportDC dc = .ok (specTbs dc ++ dc.sig) := by
  obtain ⟨hf, hb⟩ := sigField_wf o dc h
  exact ⟨sign_spec o dc h, hb ▸ exportDC_of_sign (sign_spec o dc h) (wf_common o dc h).sigNe hf⟩

theorem roundtrip_ext (o : SrkOracle) (dc : DC) (h : WF o dc) (t : Bytes) :
    parseCls o dc.cls ((specTbs dc ++ dc.sig) ++ t) = .ok dc := by
  unfold WF at h
  split at h <;> rename_i hc <;> rw [hc, parseCls, specTbs]
  · obtain ⟨_, _, items, _, _, hrm, _⟩ := id h
    rw [hrm]; exact rsa_parse dc h items hrm t
  · obtain ⟨_, _, u, n, items, _, _, hrm, _⟩ := id h
    rw [hrm]; exact ecc_parse dc h u n items hrm t
  · obtain ⟨_, _, u, n, srk, hrm, _⟩ := id h
    rw [hrm]; exact ele_parse o dc h u n srk hrm t

theorem dataToSign_sig (dc : DC) (s : Bytes) : dataToSign { dc with sig := s } = dataToSign dc := by
  cases hc : dc.cls <;>
  simp [dataToSign, signLayout, hc, packFields, DatConsts.rsaSign, DatConsts.eccSign, DatConsts.eleSign, fieldOk, fieldBytes, argNat, argBytes,
    widthVal, rotMetaBytes]

/-- credential ‖ beacon (LE32) ‖ [UUID] : the documented common part of a response -/
def specDarCommon (r : DAR) : Bytes :=
  (specTbs r.dc ++ r.dc.sig) ++ (leEnc 4 r.authBeacon ++ (if r.usesEcc then r.uuid else []))

theorem darCommon_spec (o : SrkOracle) (r : DAR) (h : WFDar o r) : darCommon r = .ok (specDarCommon r) := by
  have he := (export_spec o r.dc h.dc).2
  cases hu : r.usesEcc <;>
  simp [darCommon, he, darCommonLayout, hu, DatConsts.darCommonBase, DatConsts.darCommonEcc, darFieldOk, darFieldBytes, h.beacon,
    specDarCommon, fitS_self, h.uuid]

theorem darMsg_spec (o : SrkOracle) (r : DAR) (h : WFDar o r) : darMsg r = .ok (specDarCommon r ++ r.challenge) := by
  have hl : DatConsts.darSignLayout = [(.raw, .skip), (.raw, .dacChallenge)] := by decide
  simp [darMsg, hl, darCommon_spec o r h]

theorem leEnc4_inj (a b : Nat) (ha : a < 4294967296) (hb : b < 4294967296) (h : leEnc 4 a = leEnc 4 b) : a = b := by
  have := congrArg leDec h
  rwa [leDec_leEnc4 a ha, leDec_leEnc4 b hb] at this

theorem export_inj (o : SrkOracle) (d₁ d₂ : DC) (h₁ : WF o d₁) (h₂ : WF o d₂) (hc : d₁.cls = d₂.cls)
    (he : specTbs d₁ ++ d₁.sig = specTbs d₂ ++ d₂.sig) : d₁ = d₂ := by
  have p₁ := roundtrip_ext o d₁ h₁ []
  have p₂ := roundtrip_ext o d₂ h₂ []
  rw [he, hc, p₂] at p₁
  injection p₁ with p₁
  exact p₁.symm

theorem specTbs_head (dc : DC) : ∃ rest, specTbs dc = leEnc 2 dc.major ++ (leEnc 2 dc.minor ++ (leEnc 4 dc.socc ++ rest)) := by
  unfold specTbs
  split <;> exact ⟨_, rfl⟩

/-- the row the dispatch by SoC class ends at: latest revision of the ambassador family -/
def dispatchRow (rows : List DatRow) (socc : Nat) : Option DatRow := (ambassador rows socc).bind (latestRow rows)

/-- a latest row agrees (`agree`) with the row its SoC class dispatches to -/
def dispatchOk (agree : DatRow → DatRow → Bool) (rows : List DatRow) (r : DatRow) : Bool :=
  r.revision != "latest" || match dispatchRow rows r.socc with | none => false | some r' => agree r' r

/-- the same check with the dispatch row computed once per SoC class instead of once per row (finding it compares
    family names, and strings are slow to compare by evaluation) -/
def dispatchOkBySocc (agree : DatRow → DatRow → Bool) (rows : List DatRow) : Bool :=
  (rows.map (·.socc)).eraseDups.all fun s =>
    match dispatchRow rows s with
    | none => rows.all fun r => r.socc != s || r.revision != "latest"
    | some r' => rows.all fun r => r.socc != s || r.revision != "latest" || agree r' r

theorem dispatchOk_of_bySocc (agree : DatRow → DatRow → Bool) (rows : List DatRow) (h : dispatchOkBySocc agree rows = true) :
    rows.all (dispatchOk agree rows) = true := by
  rw [List.all_eq_true]
  intro r hr
  have hs := List.all_eq_true.mp h r.socc (List.mem_eraseDups.mpr (List.mem_map_of_mem hr))
  unfold dispatchOk
  cases hd : dispatchRow rows r.socc <;> rw [hd] at hs <;> have := List.all_eq_true.mp hs r hr <;> simp_all

/-- the documented challenge layout; `(wmaj, wmin)` = the version words as they are on the wire -/
def specDacBytes (wmaj wmin : Nat) (a : DAC) : Bytes :=
  leEnc 2 wmaj ++ (leEnc 2 wmin ++ (leEnc 4 a.socc ++ (a.uuid ++ (leEnc 4 a.revocation ++ (a.rkthHash ++
    (leEnc 4 a.socPinned ++ (leEnc 4 a.socDefault ++ (leEnc 4 a.ccVu ++ a.challenge))))))))

structure WFDacInts (a : DAC) : Prop where
  ver : versionOk a.major a.minor = true
  socc : a.socc < 4294967296
  rev : a.revocation < 4294967296
  pinned : a.socPinned < 4294967296
  dflt : a.socDefault < 4294967296
  vu : a.ccVu < 4294967296
  uuid : a.uuid.length = 16
  challenge : a.challenge.length = 32

/-- parsing a challenge whose two version words `wmaj`, `wmin` are on the wire in the order the family uses -/
theorem dacParse_wire (rows : List DatRow) (a : DAC) (h : WFDacInts a) (fam : String) (row : DatRow)
    (ha : ambassador rows a.socc = some fam) (hr : latestRow rows fam = some row) (wmaj wmin : Nat)
    (hw : (if row.dacVersionSwapped then (wmin, wmaj) else (wmaj, wmin)) = (a.major, a.minor))
    (hlen : a.rkthHash.length = dacRotHashLen row.basedOnEle row.sha256Always wmaj wmin) (t : Bytes) :
    dacParse rows (specDacBytes wmaj wmin a ++ t) = .ok a := by
  have hv : wmaj < 65536 ∧ wmin < 65536 := by
    have := versionOk_lt h.ver
    split at hw <;> cases hw
    · exact ⟨this.2, this.1⟩
    · exact this
  simp only [specDacBytes, List.append_assoc, dacParse]
  rw [rd_bind (leEnc_length 2 _), rd_bind (leEnc_length 2 _), rd_bind (leEnc_length 4 _), rd_bind h.uuid,
    rd_bind (leEnc_length 4 _), leDec_leEnc4 _ h.socc, ha]
  simp only [pure, Except.pure, bind_ok', hr, leDec_leEnc2 _ hv.1, leDec_leEnc2 _ hv.2, hw]
  rw [rd_bind hlen, rd_bind (leEnc_length 4 _), rd_bind (leEnc_length 4 _), rd_bind (leEnc_length 4 _), rd_bind h.challenge,
    h.ver, leDec_leEnc4 _ h.rev, leDec_leEnc4 _ h.pinned, leDec_leEnc4 _ h.dflt, leDec_leEnc4 _ h.vu]
  rfl

/-- the bytes SPSDK hashes for one RoT key: RSA `export(exp_length=3)` = modulus ‖ 3-byte exponent, ECC `export()` = X ‖ Y -/
def dcKeyBytes : Spec.Key → Bytes
  | .rsa n e => Spec.beMin n ++ beEnc 3 e
  | .ecc cv x y => beEnc cv.coordSize x ++ beEnc cv.coordSize y

theorem flatten_replicate_zeros (m w : Nat) : (List.replicate m (List.replicate w (0 : UInt8))).flatten = zeros (m * w) := by
  induction m with
  | zero => simp [zeros]
  | succ m ih =>
    rw [List.replicate_succ, List.flatten_cons, ih, Nat.succ_mul, Nat.add_comm]
    simp [zeros, List.replicate_append_replicate]

theorem rot_hash_rsa (c : CryptoOps) (hl : CryptoLaws c) (ks : List Spec.Key) (hn : ks.length ≤ 4)
    (hr : ∀ k ∈ ks, ∃ n e, k = .rsa n e ∧ byteLen e = 3) (dc : DC) (hcls : dc.cls = .rsa)
    (hm : rsaMetaOfKeys c (ks.map dcKeyBytes) = .ok dc.rotMeta) :
    calculateHash c dc = .ok (Spec.rotkh c .certBlock1 ks) := by
  have hmax : DatConsts.rotMetaRsaMaxKeys = 4 := by decide
  have hitems : (ks.map dcKeyBytes).map (c.hash .sha256) = ks.map (Spec.keyHash c) := by
    rw [List.map_map]
    apply List.map_congr_left
    intro k hk
    obtain ⟨n, e, rfl, he⟩ := hr k hk
    simp [dcKeyBytes, Spec.keyHash, Spec.Key.material, Spec.Key.hashAlg, Spec.beMin, he]
  have hng : ¬ (ks.map dcKeyBytes).length > DatConsts.rotMetaRsaMaxKeys := by simp [hmax]; omega
  simp only [rsaMetaOfKeys, hng, if_false, hitems] at hm
  injection hm with hm
  have h32 : ∀ it ∈ ks.map (Spec.keyHash c), it.length = DatConsts.rotMetaRsaItem := by
    intro it hit
    obtain ⟨k, _, rfl⟩ := List.mem_map.mp hit
    simp only [Spec.keyHash]
    rw [hl.hash_len]
    obtain ⟨n, e, rfl, _⟩ := hr k ‹_›
    rfl
  have hsz : DatConsts.rotMetaRsaSize = 128 ∧ DatConsts.rotMetaRsaItem = 32 := by decide
  have hfill := rsaMetaFill_spec DatConsts.rotMetaRsaItem (ks.map (Spec.keyHash c)) [] 0 DatConsts.rotMetaRsaSize (by simp) h32
    (by simp [hsz.1, hsz.2]; omega)
  simp only [calculateHash, hcls, ← hm]
  simp only [Spec.rotkh, Spec.rotkhCa, List.map_map, Spec.rotkhV1, Spec.rkhTableV1]
  congr 2
  simp only [rsaMetaExport]
  have hid : (ks.map ((fun x => x.1) ∘ fun k => (k, false))) = ks := by
    rw [show ((fun (x : Spec.Key × Bool) => x.1) ∘ fun k => (k, false)) = id from rfl]; simp
  rw [hid]
  simp only [List.nil_append] at hfill
  rw [hfill, List.flatten_append, flatten_replicate_zeros, List.length_map, hsz.1, hsz.2]
  congr 2
  omega

theorem dcKeyBytes_ecc_length (cv : Spec.Curve) (x y : Nat) : (dcKeyBytes (.ecc cv x y)).length = cv.coordSize * 2 := by
  simp [dcKeyBytes, beEnc_length']; omega

theorem curve_tables (cv : Spec.Curve) :
    eccHashBits cv.coordSize = some (cv.hashAlg.size * 8) ∧ hashOfBits (cv.hashAlg.size * 8) = some cv.hashAlg ∧
    0 < cv.hashAlg.size ∧ cv.coordSize * 2 / 2 = cv.coordSize ∧
    eccTableHash cv.hashAlg.size = .ok cv.hashAlg ∧ eccSingleKeyHash (cv.coordSize * 2) = .ok cv.hashAlg := by
  cases cv <;> decide

/-- hash algorithm `RotMetaEcc.load_from_config` derives from the first key -/
def eccAlgOf : List Bytes → Option HashAlg
  | [] => none
  | k0 :: _ => (eccHashBits (k0.length / 2)).bind hashOfBits

/-- what `RotMetaEcc.load_from_config` builds when it succeeds -/
theorem eccMeta_ok (c : CryptoOps) (ks : List Bytes) (u : Nat) (m : RotMeta) (h : eccMetaOfKeys c ks u = .ok m) :
    ∃ a, eccAlgOf ks = some a ∧ u < ks.length ∧
      m = .ecc u ks.length (if ks.length > 1 then ks.map (c.hash a) else []) := by
  unfold eccMetaOfKeys at h
  cases ks with
  | nil => cases h
  | cons k0 r =>
    dsimp only at h
    split at h
    · cases h
    · split at h
      · cases h
      · rename_i bits hb
        split at h
        · cases h
        · rename_i a ha
          split at h
          · rename_i hv
            injection h with h
            refine ⟨a, by simp [eccAlgOf, hb, ha], ?_, h.symm⟩
            simp only [flagsValid, Bool.and_eq_true, decide_eq_true_eq] at hv
            exact hv.1
          · cases h

theorem beEnc_zero (n : Nat) : beEnc n 0 = zeros n := by
  induction n with
  | zero => simp [beEnc, zeros]
  | succ n ih =>
    rw [beEnc]; simp only [Nat.zero_div, ih, Nat.zero_mod]
    simp [zeros, List.replicate_succ']

theorem beEnc_leading_zeros : ∀ (n x k : Nat), k ≤ n → x < 256 ^ (n - k) → (beEnc n x).take k = zeros k
  | 0, x, k, hk, _ => by
    have : k = 0 := by omega
    subst this; simp [zeros]
  | n + 1, x, k, hk, hx => by
    by_cases hkn : k = n + 1
    · subst hkn
      have : x = 0 := by simpa using hx
      subst this
      rw [beEnc_zero, List.take_of_length_le (by simp)]
    · have hk' : k ≤ n := by omega
      have hsub : n + 1 - k = (n - k) + 1 := by omega
      rw [hsub, Nat.pow_succ] at hx
      have hd : x / 256 < 256 ^ (n - k) := Nat.div_lt_of_lt_mul (by rw [Nat.mul_comm]; exact hx)
      rw [beEnc, List.take_append_of_le_length (by rw [beEnc_length']; exact hk')]
      exact beEnc_leading_zeros n (x / 256) k hk' hd

end SpsdkVerif.Dat
