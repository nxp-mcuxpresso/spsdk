/-
C02, negative side for CRC images (`bitflip_rejected_crc`, Properties/C02.lean): any change of any single byte of an exported
CRC image is rejected (single-byte error detection of CRC-32/MPEG-2, `Crc.crc_burst`), except that a corruption which turns the
image type into "plain" is accepted iff the stored CRC word happens to be 0.  Here: what the dispatch accepts without
certificate blocks, and what one changed byte does to the CRC word and to the CRC input.
-/
import SpsdkVerif.Proofs.MbiRomCrc
import SpsdkVerif.Proofs.Crc

namespace SpsdkVerif.Mbi
open SpsdkVerif SpsdkVerif.Misc SpsdkVerif.Crypto

variable {co : CryptoOps} {env : Env} {c : Cls} {cfg : Cfg} {signer : Signer}

/-- what the dispatch accepts on a device without certificate blocks: plain images without CRC word, and CRC images -/
theorem romByType_none {renv : Spec.MbiRom.RomEnv} (hk : renv.certKind = .none) {img : Bytes} {a : Spec.MbiRom.Accepted}
    {t : Nat} (h : romByType co renv img t = .ok a) :
    (t = Spec.MbiRom.typePlain ∧ Spec.MbiRom.rd32 img Spec.MbiRom.offCrcOrCert = 0)
    ∨ ((t = Spec.MbiRom.typeCrcRam ∨ t = Spec.MbiRom.typeCrcXip) ∧ Spec.MbiRom.romCrc img = .ok a) := by
  unfold romByType at h
  by_cases h0 : (t == Spec.MbiRom.typePlain) = true
  · rw [if_pos h0] at h; exact .inl ⟨beq_iff_eq.1 h0, beq_iff_eq.1 (need_bind_ok.1 h).1⟩
  rw [if_neg h0] at h
  by_cases h1 : (t == Spec.MbiRom.typeCrcRam) = true ∨ (t == Spec.MbiRom.typeCrcXip) = true
  · rw [if_pos h1] at h; exact .inr ⟨by simpa using h1, h⟩
  -- the signed and the encrypted types need a certificate block generation
  rw [if_neg h1, hk] at h
  by_cases h2 : (t == Spec.MbiRom.typeSignedRam) = true ∨ (t == Spec.MbiRom.typeSignedXip) = true
      ∨ (t == Spec.MbiRom.typeSignedXipNxp) = true
  · rw [if_pos h2] at h; cases h
  rw [if_neg h2] at h
  by_cases h3 : (t == Spec.MbiRom.typeEncryptedRam) = true
  · rw [if_pos h3] at h; exact absurd (need_bind_ok.1 h).1 (by decide)
  · rw [if_neg h3] at h; cases h

open SpsdkVerif.Generated.MbiClasses (attrs) in
/-- a plain class has no certificate block mixin: both carry the `cert_block` attribute -/
theorem plain_certKind (hc : PlainCls c) (rkth : Bytes) (uk : Option Bytes) : (romEnvOf c rkth uk).certKind = .none := by
  have hd : ∀ m, derivesFrom m .Mbi_MixinCertBlockV1 = true ∨ derivesFrom m .Mbi_MixinCertBlockV21 = true →
      (attrs m).contains .cert_block = true := by intro m; cases m <;> decide
  have hV1 := plain_has_false_of_hasAttr .Mbi_MixinCertBlockV1 .cert_block (fun m hm => hd m (.inl hm)) hc.hcert
  have hV21 := plain_has_false_of_hasAttr .Mbi_MixinCertBlockV21 .cert_block (fun m hm => hd m (.inr hm)) hc.hcert
  simp only [romEnvOf, hV1, hV21, Bool.false_eq_true, if_false]

theorem leDec_inj : ∀ (a b : Bytes), a.length = b.length → leDec a = leDec b → a = b
  | [], [], _, _ => rfl
  | [], _ :: _, hl, _ => by simp at hl
  | _ :: _, [], hl, _ => by simp at hl
  | x :: a, y :: b, hl, h => by
    rw [leDec_cons, leDec_cons] at h
    have hx := x.toNat_lt
    have hy := y.toNat_lt
    rw [leDec_inj a b (by simpa using hl) (by omega), UInt8.toNat_inj.mp (by omega : x.toNat = y.toNat)]

/-- a word that contains the changed byte changes -/
theorem rd32_set_ne (b : Bytes) (n off : Nat) (x y : UInt8) (h1 : off ≤ n) (h2 : n < off + 4) (hx : b[n]? = some x)
    (hxy : x ≠ y) : rd32 (b.set n y) off ≠ rd32 b off := by
  unfold rd32
  rw [List.drop_set, if_neg (by omega), List.take_set]
  intro he
  obtain ⟨hn, -⟩ := List.getElem?_eq_some_iff.1 hx
  have hk : n - off < ((b.drop off).take 4).length := by simp only [List.length_take, List.length_drop]; omega
  have h3 := List.getElem?_set_self (a := y) hk
  rw [leDec_inj _ _ (by simp) he, List.getElem?_take, if_pos (by omega), List.getElem?_drop,
    show off + (n - off) = n by omega, hx] at h3
  exact hxy (Option.some.inj h3)

/-- the CRC sees every changed byte (`Crc.crc_burst` for a position) -/
theorem crc_set_ne {p : Crc.Params} (h : Crc.WF p) (hodd : p.poly % 2 = 1) (hinit : p.init < 2 ^ p.width)
    (l : Bytes) (i : Nat) (x y : UInt8) (hx : l[i]? = some x) (hxy : x ≠ y) : Crc.crc p (l.set i y) ≠ Crc.crc p l := by
  obtain ⟨hi, rfl⟩ := List.getElem?_eq_some_iff.1 hx
  have hl : l = l.take i ++ l[i] :: l.drop (i + 1) := by simp
  rw [List.set_eq_take_append_cons_drop, if_pos hi]
  conv => rhs; rw [hl]
  exact fun e => Crc.crc_burst h hodd hinit _ _ _ y hxy e.symm

/-- a byte in front of the CRC word sits at the same place of the CRC input … -/
theorem crcInput_set_lo (b : Bytes) (hb : 40 ≤ b.length) (n : Nat) (y : UInt8) (hn : n < 40) :
    Spec.MbiRom.crcInput (b.set n y) = (Spec.MbiRom.crcInput b).set n y ∧ (Spec.MbiRom.crcInput b)[n]? = b[n]? := by
  have hl : n < (b.take 40).length := by rw [List.length_take]; omega
  constructor
  · show (b.set n y).take 40 ++ (b.set n y).drop 44 = (b.take 40 ++ b.drop 44).set n y
    rw [List.take_set, List.drop_set_of_lt (by omega), List.set_append_left _ _ hl]
  · show (b.take 40 ++ b.drop 44)[n]? = _
    rw [List.getElem?_append_left hl, List.getElem?_take_of_lt hn]

/-- … and a byte behind it four places lower -/
theorem crcInput_set_hi (b : Bytes) (hb : 40 ≤ b.length) (n : Nat) (y : UInt8) (hn : 44 ≤ n) :
    Spec.MbiRom.crcInput (b.set n y) = (Spec.MbiRom.crcInput b).set (n - 4) y ∧ (Spec.MbiRom.crcInput b)[n - 4]? = b[n]? := by
  have hl : (b.take 40).length = 40 := by rw [List.length_take]; omega
  constructor
  · show (b.set n y).take 40 ++ (b.set n y).drop 44 = (b.take 40 ++ b.drop 44).set (n - 4) y
    rw [List.take_set_of_le (by omega), List.drop_set, if_neg (by omega), List.set_append_right _ _ (by omega), hl,
      show n - 4 - 40 = n - 44 by omega]
  · show (b.take 40 ++ b.drop 44)[n - 4]? = _
    rw [List.getElem?_append_right (by omega), hl, List.getElem?_drop, show 44 + (n - 4 - 40) = n by omega]

end SpsdkVerif.Mbi
