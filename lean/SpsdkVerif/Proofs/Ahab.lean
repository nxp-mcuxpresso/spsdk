/- The exporter model of Model/Ahab.lean: bytes (slices, `struct.pack`, slice assignment), round trips of the single records,
   flag words, layout and anatomy of the signature block, shape of an exported container, the offset loop. -/
import SpsdkVerif.Model.Ahab
import SpsdkVerif.Model.AhabVerify
import SpsdkVerif.Spec.AhabRom
import SpsdkVerif.Proofs.Misc

namespace SpsdkVerif.Ahab
open SpsdkVerif SpsdkVerif.Misc
open SpsdkVerif.Generated
open SpsdkVerif.Spec.AhabRom (slice rd)

/-! `slice b off X.length = X` is how "`X` sits in `b` at `off`" is written throughout; `slice_of_eq` / `rd_of_eq` read inside `X`. -/

theorem slice_length (b : Bytes) (off n : Nat) (h : off + n ≤ b.length) : (slice b off n).length = n := by
  simp [slice]; omega

theorem slice_slice (b : Bytes) (base L k n : Nat) (h : k + n ≤ L) : slice (slice b base L) k n = slice b (base + k) n := by
  unfold slice
  rw [List.drop_take, List.take_take, List.drop_drop]
  congr 1
  omega

theorem slice_of_eq (b X : Bytes) (base k n : Nat) (hX : slice b base X.length = X) (h : k + n ≤ X.length) :
    slice b (base + k) n = slice X k n := by
  rw [← slice_slice b base X.length k n h, hX]

theorem rd_of_eq (b X : Bytes) (base k n : Nat) (hX : slice b base X.length = X) (h : k + n ≤ X.length) :
    rd b (base + k) n = rd X k n := by
  unfold rd; rw [slice_of_eq b X base k n hX h]

theorem slice_trans {b X Y : Bytes} {base k : Nat} (hX : slice b base X.length = X) (hY : slice X k Y.length = Y)
    (h : k + Y.length ≤ X.length) : slice b (base + k) Y.length = Y :=
  (slice_of_eq b X base k _ hX h).trans hY

theorem slice_append_left (X Y : Bytes) (k n : Nat) (h : k + n ≤ X.length) : slice (X ++ Y) k n = slice X k n := by
  unfold slice
  rw [List.drop_append_of_le_length (by omega), List.take_append_of_le_length (by simp; omega)]

theorem slice_append_right (X Y : Bytes) (k n : Nat) {j : Nat} (hj : X.length = j) : slice (X ++ Y) (j + k) n = slice Y k n := by
  subst hj
  unfold slice
  rw [List.drop_append, List.drop_of_length_le (by omega)]
  simp

theorem slice_full (X : Bytes) : slice X 0 X.length = X := by simp [slice]

theorem slice_append_fst (X Y : Bytes) : slice (X ++ Y) 0 X.length = X := by
  rw [slice_append_left _ _ _ _ (by omega), slice_full]

theorem slice_append_snd (X Y : Bytes) : slice (X ++ Y) X.length Y.length = Y := by
  have := slice_append_right X Y 0 Y.length rfl
  rwa [Nat.add_zero, slice_full] at this

theorem slice_prefix {b X Y : Bytes} {off : Nat} (h : slice b off (X ++ Y).length = X ++ Y) : slice b off X.length = X := by
  have := slice_trans h (slice_append_fst X Y) (by simp)
  rwa [Nat.add_zero] at this

theorem drop_of_slice (s d : Bytes) (off : Nat) (h : slice s off d.length = d) : s.drop off = d ++ s.drop (off + d.length) := by
  have := List.take_append_drop d.length (s.drop off)
  rw [show (s.drop off).take d.length = d from h, List.drop_drop] at this
  exact this.symm

theorem fits_cons (w v : Nat) (ws vs : List Nat) :
    fits (w :: ws) (v :: vs) = true ↔ v < 256 ^ w ∧ fits ws vs = true := by
  simp [fits]

theorem packInts_length : ∀ (ws vs : List Nat), fits ws vs = true → (packInts ws vs).length = intsLen ws
  | [], [], _ => rfl
  | [], _ :: _, h => by simp [fits] at h
  | _ :: _, [], h => by simp [fits] at h
  | w :: ws, v :: vs, h => by
    rw [fits_cons] at h
    simp [packInts, intsLen, leEnc_length, packInts_length ws vs h.2]

/-- `unpack(fmt, pack(fmt, *vs) + rest)` returns the values -/
theorem unpack_pack : ∀ (ws vs : List Nat) (rest : Bytes), fits ws vs = true →
    unpackInts ws (packInts ws vs ++ rest) = some vs
  | [], [], _, _ => rfl
  | [], _ :: _, _, h => by simp [fits] at h
  | _ :: _, [], _, h => by simp [fits] at h
  | w :: ws, v :: vs, rest, h => by
    rw [fits_cons] at h
    have hl : (leEnc w v).length = w := leEnc_length w v
    simp only [unpackInts, packInts, List.append_assoc]
    rw [if_neg (by simp [hl]), List.drop_left' hl, List.take_left' hl, unpack_pack ws vs rest h.2, leDec_leEnc w v h.1]

/-- field `i` of a packed layout, read at its byte offset -/
theorem rd_packInts : ∀ (ws vs : List Nat) (rest : Bytes), fits ws vs = true → ∀ i, i < ws.length →
    rd (packInts ws vs ++ rest) (intsLen (ws.take i)) (ws.getD i 0) = vs.getD i 0
  | [], _, _, _, i, hi => by simp at hi
  | w :: ws, [], _, hf, _, _ => by simp [fits] at hf
  | w :: ws, v :: vs, rest, hf, 0, _ => by
    rw [fits_cons] at hf
    have hl := leEnc_length w v
    show leDec (((leEnc w v ++ packInts ws vs) ++ rest).drop 0 |>.take w) = v
    rw [List.drop_zero, List.append_assoc, List.take_left' hl, leDec_leEnc w v hf.1]
  | w :: ws, v :: vs, rest, hf, i + 1, hi => by
    rw [fits_cons] at hf
    have ih := rd_packInts ws vs rest hf.2 i (by simpa using hi)
    have := slice_append_right (leEnc w v) (packInts ws vs ++ rest) (intsLen (ws.take i)) (ws.getD i 0) (leEnc_length w v)
    show leDec (slice ((leEnc w v ++ packInts ws vs) ++ rest) (w + intsLen (ws.take i)) (ws.getD i 0)) = vs.getD i 0
    rw [List.append_assoc, this]
    exact ih

/-- ... of a packed layout that sits in `b` at `base` -/
theorem rd_packed {b : Bytes} {base : Nat} {ws vs : List Nat} (hf : fits ws vs = true)
    (hX : slice b base (packInts ws vs).length = packInts ws vs) (i : Nat) (hi : i < ws.length)
    (hk : intsLen (ws.take i) + ws.getD i 0 ≤ intsLen ws) :
    rd b (base + intsLen (ws.take i)) (ws.getD i 0) = vs.getD i 0 := by
  rw [rd_of_eq b _ base _ _ hX (by rw [packInts_length _ _ hf]; exact hk)]
  have := rd_packInts ws vs [] hf i hi
  rwa [List.append_nil] at this

theorem packChecked_ok {ws vs : List Nat} {b : Bytes} (h : packChecked ws vs = .ok b) :
    fits ws vs = true ∧ b = packInts ws vs := by
  unfold packChecked at h
  split at h
  · cases h; exact ⟨by assumption, rfl⟩
  · cases h

theorem drop_packInts (ws vs : List Nat) (rest : Bytes) (h : fits ws vs = true) :
    (packInts ws vs ++ rest).drop (intsLen ws) = rest :=
  List.drop_left' (packInts_length ws vs h)

theorem fitS_of_length (n : Nat) (b : Bytes) (h : b.length = n) : fitS n b = b := by
  unfold fitS
  rw [List.take_append_of_le_length (by omega), ← h, List.take_length]

theorem fitS_length (n : Nat) (b : Bytes) : (fitS n b).length = n := by
  simp [fitS]

theorem zerosB_length (n : Nat) : (zerosB n).length = n := by simp [zerosB]

theorem extendTo_length (n : Nat) (b : Bytes) (h : b.length ≤ n) : (extendTo n b).length = n := by
  simp [extendTo]; omega

theorem extendTo_self (b : Bytes) : extendTo b.length b = b := by simp [extendTo]

/-! `put buf off d` is `buf[off : off + len(d)] = d`.  Both slice assignments of the model are instances; a sequence of them is
`putAll`, and `putAll_spec` says what it leaves in the buffer when the writes are laid out in increasing order. -/

def put (buf : Bytes) (off : Nat) (d : Bytes) : Bytes := blitL buf off d.length d

theorem put_nil (buf : Bytes) (off : Nat) : put buf off [] = buf := by simp [put, blitL]

theorem blitB_eq_put (buf : Bytes) (off : Nat) (d : Bytes) : blitB buf off d = put buf off d := by
  unfold blitB
  split
  · next h => rw [List.isEmpty_iff.1 h, put_nil]
  · rfl

theorem put_length {buf : Bytes} {off : Nat} {d : Bytes} (h : off + d.length ≤ buf.length) : (put buf off d).length = buf.length := by
  simp only [put, blitL, List.length_append, List.length_take, List.length_drop]
  omega

theorem slice_put_same {buf : Bytes} {off : Nat} {d : Bytes} (h : off ≤ buf.length) : slice (put buf off d) off d.length = d := by
  have hl : (buf.take off).length = off := by simp; omega
  have := slice_append_right (buf.take off) (d ++ buf.drop (off + d.length)) 0 d.length hl
  rw [Nat.add_zero, slice_append_fst] at this
  rwa [put, blitL, List.append_assoc]

theorem slice_put_before {buf : Bytes} {off : Nat} {d : Bytes} {k n : Nat} (h : k + n ≤ off) (hb : off ≤ buf.length) :
    slice (put buf off d) k n = slice buf k n := by
  rw [put, blitL, List.append_assoc, slice_append_left _ _ _ _ (by simp; omega)]
  unfold slice
  rw [List.drop_take, List.take_take]
  congr 1; omega

def putAll (buf : Bytes) (W : List (Nat × Bytes)) : Bytes := W.foldl (fun b w => put b w.1 w.2) buf

/-- blocks `(offset, length)` laid out in increasing order behind the cursor `lo` and ending inside `n` bytes; a block of
    length 0 may have any offset (an absent block of the signature block has offset 0) -/
def Laid (n : Nat) : Nat → List (Nat × Nat) → Prop
  | lo, [] => lo ≤ n
  | lo, (off, len) :: W => (len = 0 ∨ lo ≤ off) ∧ Laid n (max lo (off + len)) W

theorem Laid.le {n : Nat} : ∀ {W : List (Nat × Nat)} {lo : Nat}, Laid n lo W → lo ≤ n
  | [], _, h => h
  | _ :: _, _, h => Nat.le_trans (Nat.le_max_left _ _) (Laid.le h.2)

theorem Laid.mono {n : Nat} : ∀ {W : List (Nat × Nat)} {lo lo' : Nat}, lo' ≤ lo → Laid n lo W → Laid n lo' W
  | [], _, _, h, hl => Nat.le_trans h hl
  | _ :: _, _, _, h, hl => ⟨hl.1.imp_right (Nat.le_trans h), Laid.mono (by omega) hl.2⟩

theorem Laid.split {n lo off a b : Nat} {W : List (Nat × Nat)} (h : Laid n lo ((off, a + b) :: W)) :
    Laid n lo ((off, a) :: (off + a, b) :: W) := by
  obtain ⟨h1, h2⟩ := h
  refine ⟨by omega, by omega, ?_⟩
  rwa [show max (max lo (off + a)) (off + a + b) = max lo (off + (a + b)) from by omega]

def lens (W : List (Nat × Bytes)) : List (Nat × Nat) := W.map (fun w => (w.1, w.2.length))

/-- writes laid out in order keep the length of the buffer and everything in front of the cursor, each one is found where it
    was written, and what lies in front of a (non-empty) write is the work of the writes before it -/
theorem putAll_spec : ∀ (W : List (Nat × Bytes)) (buf : Bytes) (lo : Nat), Laid buf.length lo (lens W) →
    (putAll buf W).length = buf.length ∧ (∀ k m, k + m ≤ lo → slice (putAll buf W) k m = slice buf k m) ∧
    (∀ w ∈ W, slice (putAll buf W) w.1 w.2.length = w.2) ∧
    ∀ W1 w W2, W = W1 ++ w :: W2 → w.2 ≠ [] → (putAll buf W).take w.1 = (putAll buf W1).take w.1
  | [], _, _, _ => ⟨rfl, fun _ _ _ => rfl, fun _ h => (nomatch h), fun W1 _ _ h _ => by cases W1 <;> cases h⟩
  | (off, d) :: W, buf, lo, h => by
    obtain ⟨h1, h2⟩ : (d.length = 0 ∨ lo ≤ off) ∧ Laid buf.length (max lo (off + d.length)) (lens W) := h
    have hle := Laid.le h2
    have hl : (put buf off d).length = buf.length := put_length (by omega)
    have ih := putAll_spec W (put buf off d) (max lo (off + d.length)) (by rw [hl]; exact h2)
    refine ⟨ih.1.trans hl, fun k m hk => ?_, fun w hw => ?_, fun W1 w W2 hW hne => ?_⟩
    · refine (ih.2.1 k m (by omega)).trans ?_
      rcases h1 with h0 | h0
      · rw [List.eq_nil_of_length_eq_zero h0, put_nil]
      · exact slice_put_before (by omega) (by omega)
    · rcases List.mem_cons.1 hw with rfl | hw
      · exact (ih.2.1 off d.length (by omega)).trans (slice_put_same (by omega))
      · exact ih.2.2.1 w hw
    · cases W1 with
      | nil =>
        cases hW
        exact (ih.2.1 0 off (by omega)).trans (slice_put_before (Nat.le_of_eq (Nat.zero_add _)) (by omega))
      | cons w1 W1 => cases hW; exact ih.2.2.2 W1 w W2 rfl hne

theorem hdrLayout_widths (v : Ver) : (v.hdrLayout).intWidths = [1, 2, 1, 4, 2, 1, 1, 2, 2] ∧ (v.hdrLayout).size = 16 := by
  cases v <;> exact ⟨rfl, rfl⟩

theorem iaeLayout_facts (v : Ver) : (v.iaeLayout).intWidths = [4, 4, 8, 8, 4, 4] ∧ (v.iaeLayout).strFields = [(6, 64), (7, 32)] ∧
    (v.iaeLayout).size = 128 := by
  cases v <;> exact ⟨rfl, rfl, rfl⟩

theorem sbLayout_widths (v : Ver) : (v.sbLayout).intWidths = [1, 2, 1, 2, 2, 2, 2, 4] ∧ (v.sbLayout).size = 16 := by
  cases v <;> exact ⟨rfl, rfl⟩

/- encoders made of fixed-size chunks: `encodeIaes`, `encodeRecords` -/
section chunks
variable {α : Type} {g : α → PyRes Bytes} {enc : List α → PyRes Bytes} (hnil : enc [] = .ok [])
  (hcons : ∀ x xs a, enc (x :: xs) = .ok a → ∃ a1 a2, g x = .ok a1 ∧ enc xs = .ok a2 ∧ a = a1 ++ a2)
include hnil hcons

/-- chunk `i` occupies `[n * i, n * i + n)` -/
theorem chunk_at (n : Nat) : ∀ (xs : List α) (a : Bytes), (∀ x ∈ xs, ∀ c, g x = .ok c → c.length = n) → enc xs = .ok a →
    a.length = n * xs.length ∧ ∀ i x, xs[i]? = some x → ∃ X, g x = .ok X ∧ slice a (n * i) n = X ∧ n * i + n ≤ a.length
  | [], a, _, h => by rw [hnil] at h; cases h; exact ⟨rfl, fun i x hi => by simp at hi⟩
  | x0 :: xs, a, hlen, h => by
    obtain ⟨a1, a2, h1, h2, rfl⟩ := hcons x0 xs a h
    have hl1 := hlen x0 List.mem_cons_self a1 h1
    obtain ⟨ihl, ih⟩ := chunk_at n xs a2 (fun x hx => hlen x (List.mem_cons_of_mem _ hx)) h2
    refine ⟨by rw [List.length_append, hl1, ihl, List.length_cons, Nat.mul_succ, Nat.add_comm], fun i x hi => ?_⟩
    cases i with
    | zero =>
      cases hi
      exact ⟨a1, h1, by rw [Nat.mul_zero, ← hl1, slice_append_fst], by simp [hl1]⟩
    | succ i =>
      obtain ⟨X, hX, hsl, hle⟩ := ih i x (by simpa using hi)
      exact ⟨X, hX, by rw [Nat.mul_succ, Nat.add_comm, slice_append_right _ _ _ _ hl1, hsl],
        by rw [List.length_append, hl1, Nat.mul_succ]; omega⟩

end chunks

def IaeWF (e : Iae) : Prop := e.hash.length = 64 ∧ e.iv.length = 32

theorem encodeIae_ok {v : Ver} {e : Iae} {b : Bytes} (h : encodeIae v.iaeLayout e = .ok b) :
    fits [4, 4, 8, 8, 4, 4] e.ints = true ∧ b = packInts [4, 4, 8, 8, 4, 4] e.ints ++ fitS 64 e.hash ++ fitS 32 e.iv := by
  unfold encodeIae at h
  simp only [hashFieldLen, ivFieldLen, (iaeLayout_facts v).1, (iaeLayout_facts v).2.1] at h
  split at h
  · cases h
  · next hp =>
    cases h
    obtain ⟨hf, rfl⟩ := packChecked_ok hp
    exact ⟨hf, rfl⟩

theorem encodeIae_length {v : Ver} {e : Iae} {b : Bytes} (h : encodeIae v.iaeLayout e = .ok b) : b.length = 128 := by
  obtain ⟨hf, rfl⟩ := encodeIae_ok h
  simp only [List.length_append, packInts_length _ _ hf, fitS_length]
  rfl

theorem encodeIae_roundtrip (v : Ver) (e : Iae) (b rest : Bytes) (hwf : IaeWF e) (h : encodeIae v.iaeLayout e = .ok b) :
    decodeIae v.iaeLayout (b ++ rest) = some e := by
  have hl := encodeIae_length h
  obtain ⟨hf, rfl⟩ := encodeIae_ok h
  obtain ⟨hw, hs, hsz⟩ := iaeLayout_facts v
  rw [fitS_of_length _ _ hwf.1, fitS_of_length _ _ hwf.2] at hl ⊢
  unfold decodeIae
  simp only [hw, hs, hsz, hashFieldLen, ivFieldLen, List.append_assoc]
  rw [if_neg (by rw [← List.append_assoc, ← List.append_assoc, List.length_append, hl]; omega), unpack_pack _ _ _ hf]
  rw [drop_packInts _ _ _ hf, List.take_left' hwf.1, List.drop_left' hwf.1, List.take_left' hwf.2]
  rfl

/-- the fields of an exported entry the ROM looks at, at their documented offsets -/
theorem iae_fields {v : Ver} {e : Iae} {X : Bytes} (hwf : IaeWF e) (h : encodeIae v.iaeLayout e = .ok X) :
    rd X 0 4 = e.imageOffset ∧ rd X 4 4 = e.imageSize ∧ rd X 0x18 4 = e.flags ∧ slice X 0x20 64 = e.hash ∧ slice X 0x60 32 = e.iv := by
  obtain ⟨hf, rfl⟩ := encodeIae_ok h
  have hpl : (packInts [4, 4, 8, 8, 4, 4] e.ints).length = 32 := packInts_length _ _ hf
  rw [fitS_of_length _ _ hwf.1, fitS_of_length _ _ hwf.2, List.append_assoc]
  refine ⟨rd_packInts _ _ _ hf 0 (by decide), rd_packInts _ _ _ hf 1 (by decide), rd_packInts _ _ _ hf 4 (by decide), ?_, ?_⟩
  · rw [slice_append_right _ _ 0 64 hpl, ← hwf.1, slice_append_fst]
  · rw [slice_append_right _ _ 64 32 hpl, ← hwf.1, ← hwf.2, slice_append_snd]

theorem encodeIaes_cons {l : AhabConsts.Layout} (e : Iae) (es : List Iae) (a : Bytes) (h : encodeIaes l (e :: es) = .ok a) :
    ∃ a1 a2, encodeIae l e = .ok a1 ∧ encodeIaes l es = .ok a2 ∧ a = a1 ++ a2 := by
  unfold encodeIaes at h
  split at h <;> cases h
  exact ⟨_, _, ‹_›, ‹_›, rfl⟩

theorem encodeIaes_at {v : Ver} {es : List Iae} {a : Bytes} (h : encodeIaes v.iaeLayout es = .ok a) :
    a.length = 128 * es.length ∧
    ∀ i e, es[i]? = some e → ∃ X, encodeIae v.iaeLayout e = .ok X ∧ slice a (128 * i) 128 = X ∧ 128 * i + 128 ≤ a.length :=
  chunk_at (g := encodeIae v.iaeLayout) (enc := encodeIaes v.iaeLayout) rfl encodeIaes_cons 128 es a (fun _ _ _ hc => encodeIae_length hc) h

theorem encodeIaes_roundtrip (v : Ver) : ∀ (es : List Iae) (a pre rest : Bytes), (∀ e ∈ es, IaeWF e) → encodeIaes v.iaeLayout es = .ok a →
    decodeIaes v.iaeLayout (pre ++ a ++ rest) es.length pre.length = some es
  | [], _, _, _, _, _ => rfl
  | e :: es, a, pre, rest, hwf, h => by
    obtain ⟨a1, a2, h1, h2, rfl⟩ := encodeIaes_cons e es a h
    have hdec := encodeIae_roundtrip v e a1 (a2 ++ rest) (hwf e List.mem_cons_self) h1
    have ih := encodeIaes_roundtrip v es a2 (pre ++ a1) rest (fun x hx => hwf x (List.mem_cons_of_mem _ hx)) h2
    rw [List.length_append, encodeIae_length h1, ← (iaeLayout_facts v).2.2] at ih
    rw [← List.append_assoc pre, List.length_cons, decodeIaes, ih, List.append_assoc, List.append_assoc, List.drop_left' rfl, hdec]

theorem encodeHeader_ok {v : Ver} {length flags sw fuse n sbo : Nat} {b : Bytes}
    (h : encodeHeader v length flags sw fuse n sbo = .ok b) :
    fits [1, 2, 1, 4, 2, 1, 1, 2, 2] [v.containerVersion, length, AhabConsts.containerTag, flags, sw, fuse, n, sbo, AhabConsts.reserved] = true ∧
    b = packInts [1, 2, 1, 4, 2, 1, 1, 2, 2] [v.containerVersion, length, AhabConsts.containerTag, flags, sw, fuse, n, sbo, AhabConsts.reserved] ∧
    b.length = 16 := by
  unfold encodeHeader at h
  rw [(hdrLayout_widths v).1] at h
  obtain ⟨hf, rfl⟩ := packChecked_ok h
  exact ⟨hf, rfl, packInts_length _ _ hf⟩

theorem encodeHeader_roundtrip (v : Ver) (length flags sw fuse n sbo : Nat) (b rest : Bytes)
    (h : encodeHeader v length flags sw fuse n sbo = .ok b) (hl : length ≤ (b ++ rest).length) :
    decodeHeader v (b ++ rest) = some ⟨v.containerVersion, length, AhabConsts.containerTag, flags, sw, fuse, n, sbo⟩ := by
  obtain ⟨hf, rfl, hb⟩ := encodeHeader_ok h
  unfold decodeHeader
  simp only [(hdrLayout_widths v).1, (hdrLayout_widths v).2]
  rw [if_neg (by rw [List.length_append, hb]; omega), unpack_pack _ _ rest hf]
  simp only
  rw [if_neg (by simp only [ne_eq, not_true_eq_false, false_or]; omega)]

structure SrkRecWF (r : SrkRecord) : Prop where
  alg1 : AhabConsts.srkRecordVersions.contains r.signAlg = true
  alg2 : AhabConsts.signAlgV1.any (fun t => t.2.1 == r.signAlg) = true
  hsh : AhabConsts.hashAlgV1.any (fun t => t.2.1 == r.hashAlg) = true
  len : r.length = AhabConsts.srkRecordLayout.size + r.params.length
  par : ∃ l1 l2, keySizes r.keySize = some (l1, l2) ∧ r.params.length = l1 + l2

theorem encodeSrkRecord_ok {r : SrkRecord} {b : Bytes} (h : encodeSrkRecord r = .ok b) :
    ∃ l1 l2, keySizes r.keySize = some (l1, l2) ∧
      fits [1, 2, 1, 1, 1, 1, 1] [AhabConsts.srkRecordTag, r.length, r.signAlg, r.hashAlg, r.keySize, AhabConsts.reserved, r.srkFlags] = true ∧
      fits [2, 2] [l1, l2] = true ∧
      b = packInts [1, 2, 1, 1, 1, 1, 1] [AhabConsts.srkRecordTag, r.length, r.signAlg, r.hashAlg, r.keySize, AhabConsts.reserved, r.srkFlags]
            ++ packInts [2, 2] [l1, l2] ++ r.params := by
  unfold encodeSrkRecord at h
  split at h
  · cases h
  · next l1 l2 hk =>
    split at h
    · cases h
    · next hp =>
      obtain ⟨hf, rfl⟩ := packChecked_ok hp
      split at h <;> cases h
      exact ⟨l1, l2, hk, hf, ‹_›, rfl⟩

theorem encodeSrkRecord_length {r : SrkRecord} {b : Bytes} (h : encodeSrkRecord r = .ok b) :
    b.length = AhabConsts.srkRecordLayout.size + r.params.length := by
  obtain ⟨l1, l2, _, hf, hf2, rfl⟩ := encodeSrkRecord_ok h
  simp only [List.length_append, packInts_length _ _ hf, packInts_length _ _ hf2]
  rfl

theorem encodeSrkRecord_roundtrip (r : SrkRecord) (b rest : Bytes) (hwf : SrkRecWF r) (h : encodeSrkRecord r = .ok b) :
    decodeSrkRecord (b ++ rest) = some r := by
  obtain ⟨l1, l2, hk, hf, hf2, rfl⟩ := encodeSrkRecord_ok h
  obtain ⟨l1', l2', hk', hpl⟩ := hwf.par
  rw [hk] at hk'; cases hk'
  have hu := unpack_pack _ _ (packInts [2, 2] [l1, l2] ++ (r.params ++ rest)) hf
  have hu2 := unpack_pack _ _ (r.params ++ rest) hf2
  have hH : (packInts _ _).length = 8 := packInts_length _ _ hf
  have hL : (packInts _ _).length = 4 := packInts_length _ _ hf2
  have hlen := hwf.len
  generalize packInts [1, 2, 1, 1, 1, 1, 1] _ = H at *
  generalize packInts [2, 2] _ = L at *
  have hsz : AhabConsts.srkRecordLayout.size = 12 := rfl
  unfold decodeSrkRecord
  simp only [List.append_assoc, hsz, show AhabConsts.srkRecordLayout.intWidths = [1, 2, 1, 1, 1, 1, 1] from rfl]
  rw [if_neg (by simp only [List.length_append, hH, hL]; omega), hu]
  simp only
  rw [if_neg (by simp only [ne_eq, not_true_eq_false, false_or, hwf.alg1, Bool.not_true, Bool.false_eq_true, List.length_append, hH, hL]; omega),
    if_neg (by simp [hwf.alg2, hwf.hsh]), show intsLen [1, 2, 1, 1, 1, 1, 1] = 8 from rfl, List.drop_left' hH, hu2]
  simp only
  rw [if_neg (by omega), ← List.append_assoc, List.drop_left' (by rw [List.length_append, hH, hL]), ← hpl, List.take_left' rfl]

theorem encodeRecords_cons (r : SrkRecord) (rs : List SrkRecord) (a : Bytes) (h : encodeRecords (r :: rs) = .ok a) :
    ∃ a1 a2, encodeSrkRecord r = .ok a1 ∧ encodeRecords rs = .ok a2 ∧ a = a1 ++ a2 := by
  unfold encodeRecords at h
  split at h <;> cases h
  exact ⟨_, _, ‹_›, ‹_›, rfl⟩

theorem encodeRecords_at {recSize : Nat} {rs : List SrkRecord} {a : Bytes}
    (hsz : ∀ x ∈ rs, AhabConsts.srkRecordLayout.size + x.params.length = recSize) (h : encodeRecords rs = .ok a) :
    a.length = recSize * rs.length ∧
    ∀ i r, rs[i]? = some r → ∃ X, encodeSrkRecord r = .ok X ∧ slice a (recSize * i) recSize = X ∧ recSize * i + recSize ≤ a.length :=
  chunk_at (g := encodeSrkRecord) (enc := encodeRecords) rfl encodeRecords_cons recSize rs a
    (fun x hx _ hc => (encodeSrkRecord_length hc).trans (hsz x hx)) h

theorem encodeRecords_roundtrip (recSize : Nat) : ∀ (rs : List SrkRecord) (a pre rest : Bytes),
    (∀ r ∈ rs, SrkRecWF r ∧ AhabConsts.srkRecordLayout.size + r.params.length = recSize) → encodeRecords rs = .ok a →
    decodeRecordsAt (pre ++ a ++ rest) recSize rs.length pre.length = some rs
  | [], _, _, _, _, _ => rfl
  | r :: rs, a, pre, rest, hwf, h => by
    obtain ⟨a1, a2, h1, h2, rfl⟩ := encodeRecords_cons r rs a h
    have hr := hwf r List.mem_cons_self
    have hdec := encodeSrkRecord_roundtrip r a1 (a2 ++ rest) hr.1 h1
    have ih := encodeRecords_roundtrip recSize rs a2 (pre ++ a1) rest (fun x hx => hwf x (List.mem_cons_of_mem _ hx)) h2
    rw [List.length_append, encodeSrkRecord_length h1, hr.2] at ih
    rw [← List.append_assoc pre, List.length_cons, decodeRecordsAt, ih, List.append_assoc, List.append_assoc, List.drop_left' rfl, hdec]

/-- a table as `update_fields` leaves it: four well-formed records of one key type, computed lengths -/
structure SrkTableWF (t : SrkTable) : Prop where
  cnt : t.records.length = AhabConsts.srkRecordsCnt
  recs : ∀ r ∈ t.records, SrkRecWF r
  same : ∃ P, ∀ r ∈ t.records, r.params.length = P
  len : t.length = SrkTable.computedLength t.records

theorem computedLength_same (P : Nat) : ∀ (rs : List SrkRecord), (∀ r ∈ rs, r.params.length = P) →
    (rs.map SrkRecord.computedLength).foldr (· + ·) 0 = (AhabConsts.srkRecordLayout.size + P) * rs.length
  | [], _ => rfl
  | r :: rs, h => by
    simp only [List.map_cons, List.foldr_cons, List.length_cons]
    rw [computedLength_same P rs (fun x hx => h x (List.mem_cons_of_mem _ hx))]
    simp only [SrkRecord.computedLength, h r (List.mem_cons_self), Nat.mul_succ]
    omega

theorem encodeSrkTable_ok {t : SrkTable} {b : Bytes} (hwf : SrkTableWF t) (h : encodeSrkTable t = .ok b) :
    ∃ P a, (∀ r ∈ t.records, r.params.length = P) ∧ t.length = 4 + (12 + P) * 4 ∧ a.length = (12 + P) * 4 ∧
      fits [1, 2, 1] [AhabConsts.srkTableTag, t.length, AhabConsts.srkTableVersion] = true ∧ encodeRecords t.records = .ok a ∧
      b = packInts [1, 2, 1] [AhabConsts.srkTableTag, t.length, AhabConsts.srkTableVersion] ++ a := by
  obtain ⟨P, hP⟩ := hwf.same
  unfold encodeSrkTable at h
  split at h <;> cases h
  next hp ha =>
  obtain ⟨hf, rfl⟩ := packChecked_ok hp
  have hcnt : t.records.length = 4 := hwf.cnt
  refine ⟨P, _, hP, ?_, ?_, hf, ha, rfl⟩
  · rw [hwf.len, SrkTable.computedLength, computedLength_same P t.records hP, hcnt]; rfl
  · rw [(encodeRecords_at (recSize := 12 + P) (fun x hx => by rw [hP x hx]; rfl) ha).1, hcnt]

theorem encodeSrkTable_roundtrip (t : SrkTable) (b rest : Bytes) (hwf : SrkTableWF t) (h : encodeSrkTable t = .ok b) :
    decodeSrkTable (b ++ rest) = some t := by
  obtain ⟨P, a, hP, htl, hal, hf, ha, rfl⟩ := encodeSrkTable_ok hwf h
  have hr := encodeRecords_roundtrip (12 + P) t.records a (packInts [1, 2, 1] [AhabConsts.srkTableTag, t.length, AhabConsts.srkTableVersion]) rest
    (fun r hr => ⟨hwf.recs r hr, by rw [hP r hr]; rfl⟩) ha
  have hu := unpack_pack _ _ (a ++ rest) hf
  have hH : (packInts _ _).length = 4 := packInts_length _ _ hf
  generalize packInts [1, 2, 1] _ = H at *
  rw [hwf.cnt, hH] at hr
  unfold decodeSrkTable
  simp only [show AhabConsts.srkTableLayout.size = 4 from rfl, show AhabConsts.srkTableLayout.intWidths = [1, 2, 1] from rfl,
    show AhabConsts.srkRecordsCnt = 4 from rfl] at hr ⊢
  rw [if_neg (by simp only [List.length_append, hH]; omega), List.append_assoc, hu]
  simp only
  rw [if_neg (by simp only [ne_eq, not_true_eq_false, false_or, List.length_append, hH, hal]; omega), if_neg (by omega),
    show (t.length - 4) / 4 = 12 + P from by omega, ← List.append_assoc, hr]
  rfl

theorem srkTable_length {t : SrkTable} {tb : Bytes} (hwf : SrkTableWF t) (h : encodeSrkTable t = .ok tb) :
    ∃ P, tb.length = 4 + (12 + P) * 4 := by
  obtain ⟨P, a, _, _, hal, hf, _, rfl⟩ := encodeSrkTable_ok hwf h
  exact ⟨P, by rw [List.length_append, hal, packInts_length _ _ hf]; rfl⟩

/-- what the ROM reads of an exported SRK table that sits in `b` at `st`: the table header, four equal records, the header of
    record `used` -/
theorem srkTable_reads (t : SrkTable) (tb : Bytes) (hwf : SrkTableWF t) (h : encodeSrkTable t = .ok tb) (b : Bytes) (st : Nat)
    (hT : slice b st tb.length = tb) (used : Nat) (hu : used < 4) :
    rd b st 1 = AhabConsts.srkTableTag ∧ rd b (st + 3) 1 = AhabConsts.srkTableVersion ∧ rd b (st + 1) 2 = tb.length ∧
    4 ≤ tb.length ∧ (tb.length - 4) % 4 = 0 ∧ rd b (st + 4 + used * ((tb.length - 4) / 4)) 1 = AhabConsts.srkRecordTag ∧
    rd b (st + 4 + used * ((tb.length - 4) / 4) + 1) 2 = (tb.length - 4) / 4 := by
  obtain ⟨P, a, hP, htl, hal, hf, ha, rfl⟩ := encodeSrkTable_ok hwf h
  have hH : (packInts [1, 2, 1] [AhabConsts.srkTableTag, t.length, AhabConsts.srkTableVersion]).length = 4 := packInts_length _ _ hf
  have hlen : (packInts [1, 2, 1] [AhabConsts.srkTableTag, t.length, AhabConsts.srkTableVersion] ++ a).length = t.length := by
    rw [List.length_append, hH, hal, htl]
  have hR : (t.length - 4) / 4 = 12 + P := by omega
  -- the selected record sits in the records at `(12 + P) * used`, the records in the table at 4, the table in `b` at `st`
  obtain ⟨r, hr⟩ : ∃ r, t.records[used]? = some r := ⟨t.records[used]'(by rw [hwf.cnt]; exact hu), by simp⟩
  obtain ⟨X, hX, hsl, hle⟩ := (encodeRecords_at (recSize := 12 + P) (fun x hx => by rw [hP x hx]; rfl) ha).2 used r hr
  have hXl : X.length = 12 + P := by rw [← hsl, slice_length _ _ _ hle]
  have hA : slice b (st + 4) a.length = a :=
    slice_trans hT (by rw [← hH]; exact slice_append_snd _ a) (by rw [List.length_append, hH]; exact Nat.le_refl _)
  have hXb := slice_trans hA (Y := X) (by rw [hXl]; exact hsl) (by rw [hXl]; exact hle)
  obtain ⟨l1, l2, _, hfr, _, hXe⟩ := encodeSrkRecord_ok hX
  rw [hXe] at hXb
  have hHr := slice_prefix (slice_prefix hXb)
  have hrl : r.length = 12 + P := by rw [(hwf.recs r (List.mem_of_getElem? hr)).len, hP r (List.mem_of_getElem? hr)]; rfl
  rw [hlen, hR, Nat.mul_comm used, ← hrl]
  exact ⟨rd_packed hf (slice_prefix hT) 0 (by decide) (by decide), rd_packed hf (slice_prefix hT) 2 (by decide) (by decide),
    rd_packed hf (slice_prefix hT) 1 (by decide) (by decide), by omega, by omega,
    hrl ▸ rd_packed hfr hHr 0 (by decide) (by decide), hrl ▸ rd_packed hfr hHr 1 (by decide) (by decide)⟩

theorem or_shl (x y n : Nat) (h : x < 2 ^ n) : x ||| (y <<< n) = x + y * 2 ^ n := by
  rw [Nat.or_comm, ← Nat.shiftLeft_add_eq_or_of_lt h, Nat.shiftLeft_eq, Nat.add_comm]

theorem getF_eq (x off size : Nat) : getF x off size = x / 2 ^ off % 2 ^ size := by
  unfold getF
  rw [Nat.one_shiftLeft, Nat.and_two_pow_sub_one_eq_mod, Nat.shiftRight_eq_div_pow]

theorem getF_field (lo f hi o w : Nat) (hlo : lo < 2 ^ o) (hf : f < 2 ^ w) : getF (lo + f * 2 ^ o + hi * 2 ^ (o + w)) o w = f := by
  have e : lo + f * 2 ^ o + hi * 2 ^ (o + w) = lo + (f + hi * 2 ^ w) * 2 ^ o := by
    rw [Nat.pow_add, Nat.add_mul, Nat.mul_assoc, Nat.mul_comm (2 ^ w), Nat.add_assoc]
  rw [getF_eq, e, Nat.add_mul_div_right _ _ (Nat.two_pow_pos o), Nat.div_eq_of_lt hlo, Nat.zero_add, Nat.add_mul_mod_self_right,
    Nat.mod_eq_of_lt hf]

/-- bit fields of the given widths packed from bit 0 upwards (what `create_flags`, `create_meta`, `set_flags` build) -/
def packBits : List Nat → List Nat → Nat
  | w :: ws, x :: xs => x + packBits ws xs * 2 ^ w
  | _, _ => 0

def bitsFit : List Nat → List Nat → Prop
  | w :: ws, x :: xs => x < 2 ^ w ∧ bitsFit ws xs
  | [], [] => True
  | _, _ => False

theorem getF_packBits : ∀ (ws xs : List Nat), bitsFit ws xs → ∀ i, i < ws.length →
    getF (packBits ws xs) (intsLen (ws.take i)) (ws.getD i 0) = xs.getD i 0
  | [], _, _, _, hi => by simp at hi
  | _ :: _, [], h, _, _ => h.elim
  | w :: ws, x :: xs, h, 0, _ => by
    have := getF_field 0 x (packBits ws xs) 0 w (Nat.two_pow_pos 0) h.1
    rwa [Nat.zero_add, Nat.zero_add, Nat.pow_zero, Nat.mul_one] at this
  | w :: ws, x :: xs, h, i + 1, hi => by
    show getF (x + packBits ws xs * 2 ^ w) (w + intsLen (ws.take i)) (ws.getD i 0) = xs.getD i 0
    rw [← getF_packBits ws xs h.2 i (by simpa using hi), getF_eq, getF_eq, Nat.pow_add, ← Nat.div_div_eq_div_mul,
      Nat.add_mul_div_right _ _ (Nat.two_pow_pos w), Nat.div_eq_of_lt h.1, Nat.zero_add]

theorem packBits_lt : ∀ (ws xs : List Nat) (n : Nat), bitsFit ws xs → intsLen ws = n → packBits ws xs < 2 ^ n
  | [], [], _, _, hn => by cases hn; exact Nat.one_pos
  | [], _ :: _, _, h, _ => h.elim
  | _ :: _, [], _, h, _ => h.elim
  | w :: ws, x :: xs, _, h, hn => by
    cases hn
    have ih := packBits_lt ws xs _ h.2 rfl
    show x + packBits ws xs * 2 ^ w < 2 ^ (w + intsLen ws)
    rw [Nat.pow_add]
    calc x + packBits ws xs * 2 ^ w < 2 ^ w + packBits ws xs * 2 ^ w := Nat.add_lt_add_right h.1 _
      _ = (packBits ws xs + 1) * 2 ^ w := by rw [Nat.add_mul, Nat.one_mul, Nat.add_comm]
      _ ≤ 2 ^ intsLen ws * 2 ^ w := Nat.mul_le_mul_right _ ih
      _ = 2 ^ w * 2 ^ intsLen ws := Nat.mul_comm _ _

/-! The value lemmas are proved in two steps so that a harmless rewrite of the Python source (other order of the `|`
    operands, one expression instead of `|=` statements) does not break them: (1) whatever OR-tree the translation produces
    equals the canonical one up to associativity / commutativity (`ac_rfl` over opaque shifted atoms), (2) the canonical
    OR-tree of disjoint fields is their sum. -/

theorem createMeta_or (a b c : Nat) :
    AhabConsts.createMeta a b c = .ok ((a ||| b <<< 10 ||| c <<< 20 : Nat) : Int) := by
  simp only [AhabConsts.createMeta, pyShl_nat, pyOr_nat, Int.reduceToNat]
  try (refine congrArg (fun n : Nat => (Except.ok (n : Int) : PyRes Int)) ?_
       generalize b <<< 10 = x; generalize c <<< 20 = y; ac_rfl)

theorem createMeta_val (a b c : Nat) (ha : a < 2 ^ 10) (hb : b < 2 ^ 10) :
    AhabConsts.createMeta a b c = .ok ((a + b * 2 ^ 10 + c * 2 ^ 20 : Nat) : Int) := by
  rw [createMeta_or, or_shl a b 10 ha, or_shl _ c 20 (by omega)]

theorem createFlagsV1_or (ty core h boot : Nat) (enc : Bool) :
    AhabConsts.createFlagsV1 ty core h enc boot =
      .ok ((ty ||| core <<< 4 ||| h <<< 8 ||| (if enc then 1 else 0) <<< 11 ||| boot <<< 16 : Nat) : Int) := by
  cases enc
  · simp only [AhabConsts.createFlagsV1, Bool.false_eq_true, if_false, pyShl_nat,
      show ((0 : Int)) = ((0 : Nat) : Int) from rfl, pyOr_nat, Int.reduceToNat, Nat.zero_shiftLeft, Nat.or_zero, Nat.zero_or]
    try (refine congrArg (fun n : Nat => (Except.ok (n : Int) : PyRes Int)) ?_
         generalize core <<< 4 = x; generalize h <<< 8 = y; generalize boot <<< 16 = z; ac_rfl)
  · simp only [AhabConsts.createFlagsV1, if_true, show ((1 : Int)) = ((1 : Nat) : Int) from rfl, pyShl_nat, pyOr_nat, Int.reduceToNat]
    try (refine congrArg (fun n : Nat => (Except.ok (n : Int) : PyRes Int)) ?_
         generalize core <<< 4 = x; generalize h <<< 8 = y; generalize boot <<< 16 = z; generalize 1 <<< 11 = w; ac_rfl)

theorem createFlagsV1_val (ty core h boot : Nat) (enc : Bool) (ht : ty < 2 ^ 4) (hc : core < 2 ^ 4) (hh : h < 2 ^ 3) :
    AhabConsts.createFlagsV1 ty core h enc boot =
      .ok ((ty + core * 2 ^ 4 + h * 2 ^ 8 + (if enc then 1 else 0) * 2 ^ 11 + boot * 2 ^ 16 : Nat) : Int) := by
  have he : (if enc = true then 1 else 0 : Nat) ≤ 1 := by cases enc <;> simp
  rw [createFlagsV1_or, or_shl ty core 4 ht, or_shl _ h 8 (by omega), or_shl _ _ 11 (by omega), or_shl _ boot 16 (by omega)]

theorem createFlagsV2_or (ty core h boot : Nat) (enc : Bool) :
    AhabConsts.createFlagsV2 ty core h enc boot =
      .ok ((ty ||| core <<< 4 ||| h <<< 8 ||| (if enc then 1 else 0) <<< 12 ||| boot <<< 16 : Nat) : Int) := by
  cases enc
  · simp only [AhabConsts.createFlagsV2, Bool.false_eq_true, if_false, pyShl_nat,
      show ((0 : Int)) = ((0 : Nat) : Int) from rfl, pyOr_nat, Int.reduceToNat, Nat.zero_shiftLeft, Nat.or_zero, Nat.zero_or]
    try (refine congrArg (fun n : Nat => (Except.ok (n : Int) : PyRes Int)) ?_
         generalize core <<< 4 = x; generalize h <<< 8 = y; generalize boot <<< 16 = z; ac_rfl)
  · simp only [AhabConsts.createFlagsV2, if_true, show ((1 : Int)) = ((1 : Nat) : Int) from rfl, pyShl_nat, pyOr_nat, Int.reduceToNat]
    try (refine congrArg (fun n : Nat => (Except.ok (n : Int) : PyRes Int)) ?_
         generalize core <<< 4 = x; generalize h <<< 8 = y; generalize boot <<< 16 = z; generalize 1 <<< 12 = w; ac_rfl)

theorem createFlagsV2_val (ty core h boot : Nat) (enc : Bool) (ht : ty < 2 ^ 4) (hc : core < 2 ^ 4) (hh : h < 2 ^ 4) :
    AhabConsts.createFlagsV2 ty core h enc boot =
      .ok ((ty + core * 2 ^ 4 + h * 2 ^ 8 + (if enc then 1 else 0) * 2 ^ 12 + boot * 2 ^ 16 : Nat) : Int) := by
  have he : (if enc = true then 1 else 0 : Nat) ≤ 1 := by cases enc <;> simp
  rw [createFlagsV2_or, or_shl ty core 4 ht, or_shl _ h 8 (by omega), or_shl _ _ 12 (by omega), or_shl _ boot 16 (by omega)]

theorem containerFlagsV2_val (s u r g ca : Nat) (hs : s < 4) (hu : u < 4) (hr : r < 16) (hca : ca < 2) :
    containerFlagsV2 s u r g ca = s + u * 2 ^ 4 + r * 2 ^ 8 + ca * 2 ^ 15 + g * 2 ^ 20 := by
  unfold containerFlagsV2
  rw [show AhabConsts.cFlagsUsedSrkIdOffset = 4 from rfl, show AhabConsts.cFlagsSrkRevokeMaskOffset = 8 from rfl,
    show AhabConsts.cFlagsCheckAllSignaturesOffset = 15 from rfl, show AhabConsts.cFlagsGdetEnableOffset = 20 from rfl,
    or_shl s u 4 (by omega), or_shl _ r 8 (by omega), or_shl _ ca 15 (by omega), or_shl _ g 20 (by omega)]

theorem al8_spec (n : Nat) : n ≤ al8 n ∧ al8 n % 8 = 0 ∧ al8 n < n + 8 := by
  have h := alignNat_spec n 8 (by decide)
  exact ⟨h.2.1, h.1, h.2.2⟩

/-- the running end `last_offset + last_block_size` after a step -/
def stEnd (st : Nat × Nat) : Nat := st.1 + st.2

theorem sbStep_zero (aligned : Bool) (st : Nat × Nat) : sbStep aligned st 0 = (0, st) := by
  simp [sbStep]

/-- one step of `update_fields`: an absent block gets offset 0 and leaves the cursor where it is; a present one is put at
    the cursor (version 1: at the next multiple of 8) and moves it to its end -/
theorem sbStep_spec (aligned : Bool) (st : Nat × Nat) (size : Nat) :
    (size = 0 → (sbStep aligned st size).1 = 0 ∧ stEnd (sbStep aligned st size).2 = stEnd st) ∧
    (size ≠ 0 → stEnd st ≤ (sbStep aligned st size).1 ∧ stEnd (sbStep aligned st size).2 = (sbStep aligned st size).1 + size) ∧
    stEnd st ≤ stEnd (sbStep aligned st size).2 ∧ (aligned = true → (sbStep aligned st size).1 % 8 = 0) := by
  by_cases h : size = 0
  · subst h; rw [sbStep_zero]; exact ⟨fun _ => ⟨rfl, rfl⟩, fun h => absurd rfl h, Nat.le_refl _, fun _ => rfl⟩
  · have := al8_spec (st.1 + st.2)
    simp only [sbStep, if_neg h, stEnd]
    cases aligned
    · exact ⟨fun h0 => absurd h0 h, fun _ => ⟨Nat.le_refl _, trivial⟩, by simp only [Bool.false_eq_true, if_false]; omega, fun h => by cases h⟩
    · exact ⟨fun h0 => absurd h0 h, fun _ => ⟨this.1, trivial⟩, by simp only [if_true]; omega, fun _ => this.2.1⟩

theorem sbStep_laid {aligned : Bool} {st : Nat × Nat} {size n : Nat} {W : List (Nat × Nat)}
    (h : Laid n (stEnd (sbStep aligned st size).2) W) : Laid n (stEnd st) (((sbStep aligned st size).1, size) :: W) := by
  obtain ⟨h0, h1, h2, _⟩ := sbStep_spec aligned st size
  refine ⟨by omega, ?_⟩
  rwa [show max (stEnd st) ((sbStep aligned st size).1 + size) = stEnd (sbStep aligned st size).2 from by omega]

theorem sbLayout_eq (v : Ver) (sb : SigBlock) :
    sbLayout v sb =
      let aligned := v == .v1
      let fixed := (v.sbLayout).size
      let st0 : Nat × Nat := (0, if aligned then al8 fixed else fixed)
      let r1 := sbStep aligned st0 sb.srk.length
      let r2 := sbStep aligned r1.2 (sb.sigSize v)
      let r3 := sbStep aligned r2.2 sb.cert.length
      let r4 := sbStep aligned r3.2 sb.blobLen
      ⟨r1.1, r2.1, r3.1, r4.1, stEnd r4.2⟩ := rfl

theorem sbLayout_start (v : Ver) : 16 ≤ stEnd (0, if (v == Ver.v1) = true then al8 (v.sbLayout).size else (v.sbLayout).size) := by
  rw [(sbLayout_widths v).2]
  have := al8_spec 16
  simp only [stEnd]
  split <;> omega

/-- the four optional blocks lie in the order SRK table, signature(s), certificate, blob behind the 16-byte header -/
theorem sbLayout_laid (v : Ver) (sb : SigBlock) :
    Laid (sbLayout v sb).length 16 [((sbLayout v sb).srkOff, sb.srk.length), ((sbLayout v sb).sigOff, sb.sigSize v),
      ((sbLayout v sb).certOff, sb.cert.length), ((sbLayout v sb).blobOff, sb.blobLen)] := by
  rw [sbLayout_eq]
  exact Laid.mono (sbLayout_start v) (sbStep_laid (sbStep_laid (sbStep_laid (sbStep_laid (Nat.le_refl _)))))

/-- offsets of the four optional blocks after `update_fields`: every present block starts after the fixed header and after
    every earlier present block, ends inside the signature block; absent blocks have offset 0 -/
theorem sigblock_layout (v : Ver) (sb : SigBlock) :
    let o := sbLayout v sb
    let s1 := sb.srk.length
    let s2 := sb.sigSize v
    let s3 := sb.cert.length
    let s4 := sb.blobLen
    (s1 = 0 → o.srkOff = 0) ∧ (s2 = 0 → o.sigOff = 0) ∧ (s3 = 0 → o.certOff = 0) ∧ (s4 = 0 → o.blobOff = 0) ∧
    (s1 ≠ 0 → 16 ≤ o.srkOff ∧ o.srkOff + s1 ≤ o.length) ∧
    (s2 ≠ 0 → 16 ≤ o.sigOff ∧ (s1 ≠ 0 → o.srkOff + s1 ≤ o.sigOff) ∧ o.sigOff + s2 ≤ o.length) ∧
    (s3 ≠ 0 → 16 ≤ o.certOff ∧ (s1 ≠ 0 → o.srkOff + s1 ≤ o.certOff) ∧ (s2 ≠ 0 → o.sigOff + s2 ≤ o.certOff) ∧
              o.certOff + s3 ≤ o.length) ∧
    (s4 ≠ 0 → 16 ≤ o.blobOff ∧ (s1 ≠ 0 → o.srkOff + s1 ≤ o.blobOff) ∧ (s2 ≠ 0 → o.sigOff + s2 ≤ o.blobOff) ∧
              (s3 ≠ 0 → o.certOff + s3 ≤ o.blobOff) ∧ o.blobOff + s4 = o.length) ∧
    16 ≤ o.length ∧
    (v = .v1 → o.srkOff % 8 = 0 ∧ o.sigOff % 8 = 0 ∧ o.certOff % 8 = 0 ∧ o.blobOff % 8 = 0) := by
  intro o s1 s2 s3 s4
  have ho : o = sbLayout v sb := rfl
  rw [sbLayout_eq] at ho
  simp only at ho
  have e0 := sbLayout_start v
  generalize ((0, if (v == Ver.v1) = true then al8 (v.sbLayout).size else (v.sbLayout).size) : Nat × Nat) = st0 at ho e0
  have f1 := sbStep_spec (v == Ver.v1) st0 sb.srk.length
  generalize sbStep (v == Ver.v1) st0 sb.srk.length = r1 at ho f1
  have f2 := sbStep_spec (v == Ver.v1) r1.2 (sb.sigSize v)
  generalize sbStep (v == Ver.v1) r1.2 (sb.sigSize v) = r2 at ho f2
  have f3 := sbStep_spec (v == Ver.v1) r2.2 sb.cert.length
  generalize sbStep (v == Ver.v1) r2.2 sb.cert.length = r3 at ho f3
  have f4 := sbStep_spec (v == Ver.v1) r3.2 sb.blobLen
  generalize sbStep (v == Ver.v1) r3.2 sb.blobLen = r4 at ho f4
  rw [ho]
  simp only
  have m1 := f1.2.2.1; have m2 := f2.2.2.1; have m3 := f3.2.2.1; have m4 := f4.2.2.1
  refine ⟨fun h => (f1.1 h).1, fun h => (f2.1 h).1, fun h => (f3.1 h).1, fun h => (f4.1 h).1, ?_, ?_, ?_, ?_, ?_, ?_⟩
  · intro h; have := f1.2.1 h; omega
  · intro h; have := f2.2.1 h
    exact ⟨by omega, fun h1 => by have := f1.2.1 h1; omega, by omega⟩
  · intro h; have := f3.2.1 h
    exact ⟨by omega, fun h1 => by have := f1.2.1 h1; omega, fun h2 => by have := f2.2.1 h2; omega, by omega⟩
  · intro h; have := f4.2.1 h
    exact ⟨by omega, fun h1 => by have := f1.2.1 h1; omega, fun h2 => by have := f2.2.1 h2; omega,
      fun h3 => by have := f3.2.1 h3; omega, by omega⟩
  · omega
  · intro hv
    have hal : (v == Ver.v1) = true := by rw [hv]; rfl
    exact ⟨f1.2.2.2 hal, f2.2.2.2 hal, f3.2.2.2 hal, f4.2.2.2 hal⟩

theorem sbLayout_absent (v : Ver) (sb : SigBlock) :
    (sb.srk.length = 0 → (sbLayout v sb).srkOff = 0) ∧ (sb.sigSize v = 0 → (sbLayout v sb).sigOff = 0) ∧
    (sb.cert.length = 0 → (sbLayout v sb).certOff = 0) ∧ (sb.blobLen = 0 → (sbLayout v sb).blobOff = 0) :=
  have L := sigblock_layout v sb
  ⟨L.1, L.2.1, L.2.2.1, L.2.2.2.1⟩

theorem sbLayout_inside (v : Ver) (sb : SigBlock) :
    (sb.srk.length ≠ 0 → 16 ≤ (sbLayout v sb).srkOff ∧ (sbLayout v sb).srkOff + sb.srk.length ≤ (sbLayout v sb).length) ∧
    (sb.sigSize v ≠ 0 → 16 ≤ (sbLayout v sb).sigOff ∧ (sbLayout v sb).sigOff + sb.sigSize v ≤ (sbLayout v sb).length) ∧
    (sb.cert.length ≠ 0 → 16 ≤ (sbLayout v sb).certOff ∧ (sbLayout v sb).certOff + sb.cert.length ≤ (sbLayout v sb).length) ∧
    (sb.blobLen ≠ 0 → 16 ≤ (sbLayout v sb).blobOff ∧ (sbLayout v sb).blobOff + sb.blobLen = (sbLayout v sb).length) :=
  have L := sigblock_layout v sb
  ⟨L.2.2.2.2.1, fun h => ⟨(L.2.2.2.2.2.1 h).1, (L.2.2.2.2.2.1 h).2.2⟩,
   fun h => ⟨(L.2.2.2.2.2.2.1 h).1, (L.2.2.2.2.2.2.1 h).2.2.2⟩,
   fun h => ⟨(L.2.2.2.2.2.2.2.1 h).1, (L.2.2.2.2.2.2.2.1 h).2.2.2.2⟩⟩

/-- only the four pairs of blocks the ROM compares -/
theorem sbLayout_order (v : Ver) (sb : SigBlock) :
    (sb.srk.length ≠ 0 → sb.sigSize v ≠ 0 → (sbLayout v sb).srkOff + sb.srk.length ≤ (sbLayout v sb).sigOff) ∧
    (sb.sigSize v ≠ 0 → sb.cert.length ≠ 0 → (sbLayout v sb).sigOff + sb.sigSize v ≤ (sbLayout v sb).certOff) ∧
    (sb.sigSize v ≠ 0 → sb.blobLen ≠ 0 → (sbLayout v sb).sigOff + sb.sigSize v ≤ (sbLayout v sb).blobOff) ∧
    (sb.cert.length ≠ 0 → sb.blobLen ≠ 0 → (sbLayout v sb).certOff + sb.cert.length ≤ (sbLayout v sb).blobOff) :=
  have L := sigblock_layout v sb
  ⟨fun h1 h2 => (L.2.2.2.2.2.1 h2).2.1 h1, fun h2 h3 => (L.2.2.2.2.2.2.1 h3).2.2.1 h2,
   fun h2 h4 => (L.2.2.2.2.2.2.2.1 h4).2.2.1 h2, fun h3 h4 => (L.2.2.2.2.2.2.2.1 h4).2.2.2.1 h3⟩

theorem encodeSignature_ok {s b : Bytes} (h : encodeSignature s = .ok b) :
    (s = [] ∧ b = []) ∨ (s ≠ [] ∧
      fits [1, 2, 1, 4] [AhabConsts.signatureVersion, 8 + s.length, AhabConsts.signatureTag, AhabConsts.reserved] = true ∧
      b = packInts [1, 2, 1, 4] [AhabConsts.signatureVersion, 8 + s.length, AhabConsts.signatureTag, AhabConsts.reserved] ++ s) := by
  unfold encodeSignature at h
  split at h
  · next he => cases h; exact Or.inl ⟨List.isEmpty_iff.1 he, rfl⟩
  · next he =>
    split at h <;> cases h
    next hp =>
    obtain ⟨hf, rfl⟩ := packChecked_ok hp
    exact Or.inr ⟨fun h0 => he (by rw [h0]; rfl), hf, rfl⟩

theorem signatureLen_eq (s : Bytes) : signatureLen s = if s = [] then 0 else 8 + s.length := by
  cases s <;> rfl

theorem encodeSignature_length {s b : Bytes} (h : encodeSignature s = .ok b) : b.length = signatureLen s := by
  rw [signatureLen_eq]
  obtain ⟨rfl, rfl⟩ | ⟨hne, hf, rfl⟩ := encodeSignature_ok h
  · rfl
  · rw [if_neg hne, List.length_append, packInts_length _ _ hf]; rfl

theorem encodeSignature_nil_iff {s b : Bytes} (h : encodeSignature s = .ok b) : b = [] ↔ s = [] := by
  obtain ⟨rfl, rfl⟩ | ⟨hne, _, rfl⟩ := encodeSignature_ok h
  · exact ⟨fun _ => rfl, fun _ => rfl⟩
  · exact ⟨fun h0 => absurd (List.append_eq_nil_iff.1 h0).2 hne, fun h0 => absurd h0 hne⟩

theorem encodeBlob_ok {b : Blob} {bl : Bytes} (h : encodeBlob b = .ok bl) :
    fits [1, 2, 1, 1, 1, 1, 1] [AhabConsts.blobVersion, b.length, AhabConsts.blobTag, b.flags, b.size / 8, b.algorithm, b.mode] = true ∧
    bl = packInts [1, 2, 1, 1, 1, 1, 1] [AhabConsts.blobVersion, b.length, AhabConsts.blobTag, b.flags, b.size / 8, b.algorithm, b.mode]
      ++ b.keyblob := by
  unfold encodeBlob at h
  split at h <;> cases h
  next hp => exact ⟨(packChecked_ok hp).1, by rw [(packChecked_ok hp).2]; rfl⟩

theorem encodeBlob_length {b : Blob} {bl : Bytes} (h : encodeBlob b = .ok bl) : bl.length = 8 + b.keyblob.length := by
  obtain ⟨hf, rfl⟩ := encodeBlob_ok h
  rw [List.length_append, packInts_length _ _ hf]
  rfl

/-- the blob's header length field describes its bytes -/
def BlobLenOK (sb : SigBlock) : Prop := ∀ b, sb.blob = some b → b.length = 8 + b.keyblob.length

theorem encodeBlobOpt_length {sb : SigBlock} {bl : Bytes} (hb : BlobLenOK sb) (h : encodeBlobOpt sb = .ok bl) :
    bl.length = sb.blobLen := by
  unfold encodeBlobOpt at h
  unfold SigBlock.blobLen
  split at h
  · next b hbs => rw [encodeBlob_length h, hb b hbs]
  · cases h; rfl

theorem sbHeader_ok {v : Ver} {o : SbOffsets} {k : Nat} {hdr : Bytes} (h : sbHeader v o k = .ok hdr) :
    fits [1, 2, 1, 2, 2, 2, 2, 4] [v.sigBlockVersion, o.length, AhabConsts.sigBlockTag, o.certOff, o.srkOff, o.sigOff, o.blobOff, k] = true ∧
    hdr = packInts [1, 2, 1, 2, 2, 2, 2, 4] [v.sigBlockVersion, o.length, AhabConsts.sigBlockTag, o.certOff, o.srkOff, o.sigOff, o.blobOff, k] ∧
    hdr.length = 16 := by
  unfold sbHeader at h
  rw [(sbLayout_widths v).1] at h
  obtain ⟨hf, rfl⟩ := packChecked_ok h
  exact ⟨hf, rfl, packInts_length _ _ hf⟩

/-- what `sig2Step` writes behind the first signature: the second (PQC) signature of a signed version-2 block, else nothing -/
def sig2Bytes (v : Ver) (sb : SigBlock) (sg2 : Bytes) : Bytes :=
  match v with
  | .v1 => []
  | .v2 => if sb.signature.isEmpty then [] else sg2

theorem sig2Bytes_of_nil {v : Ver} {sb : SigBlock} (sg2 : Bytes) (h : sb.signature = []) : sig2Bytes v sb sg2 = [] := by
  cases v <;> simp [sig2Bytes, h]

theorem sigSize_eq {v : Ver} {sb : SigBlock} {sg sg2 : Bytes} (hsg : encodeSignature sb.signature = .ok sg)
    (hsg2 : encodeSignature sb.signature2 = .ok sg2) : sb.sigSize v = sg.length + (sig2Bytes v sb sg2).length := by
  rw [encodeSignature_length hsg]
  unfold SigBlock.sigSize sig2Bytes
  cases v
  · rfl
  · simp only
    split
    · next he => rw [signatureLen_eq, if_pos (List.isEmpty_iff.1 he)]; rfl
    · rw [encodeSignature_length hsg2]

theorem sig2Step_eq (v : Ver) (sb : SigBlock) (o : SbOffsets) (buf sg sg2 : Bytes) :
    sig2Step v sb o buf sg sg2 = put buf (o.sigOff + sg.length) (sig2Bytes v sb sg2) := by
  unfold sig2Step sig2Bytes
  cases v
  · exact (put_nil _ _).symm
  · simp only [blitB_eq_put]
    split
    · exact (put_nil _ _).symm
    · rfl

theorem blobStep_eq {sb : SigBlock} {bl : Bytes} (hb : BlobLenOK sb) (hbl : encodeBlobOpt sb = .ok bl) (o : SbOffsets) (buf : Bytes) :
    blobStep sb o buf bl = put buf o.blobOff bl := by
  unfold blobStep
  unfold encodeBlobOpt at hbl
  split at hbl
  · next b hbs => rw [put, encodeBlob_length hbl, ← hb b hbs]
  · cases hbl; exact (put_nil _ _).symm

/-- the six writes of `SignatureBlock.export()` -/
def sbWrites (o : SbOffsets) (hdr srk sg sg2 cert bl : Bytes) : List (Nat × Bytes) :=
  [(0, hdr), (o.srkOff, srk), (o.sigOff, sg), (o.sigOff + sg.length, sg2), (o.certOff, cert), (o.blobOff, bl)]

/-- the exported signature block is a zero buffer of the computed length with header, SRK table (array), signature(s),
    certificate and blob written into it, and these writes are laid out in this order without overlap -/
theorem sigblock_anatomy (v : Ver) (sb : SigBlock) (s : Bytes) (hb : BlobLenOK sb)
    (h : encodeSigBlock v sb (sbLayout v sb) = .ok s) :
    ∃ hdr sg sg2 bl, sbHeader v (sbLayout v sb) sb.keyId = .ok hdr ∧ encodeSignature sb.signature = .ok sg ∧
      encodeSignature sb.signature2 = .ok sg2 ∧ encodeBlobOpt sb = .ok bl ∧
      s = putAll (zerosB (sbLayout v sb).length) (sbWrites (sbLayout v sb) hdr sb.srk sg (sig2Bytes v sb sg2) sb.cert bl) ∧
      Laid (sbLayout v sb).length 0 (lens (sbWrites (sbLayout v sb) hdr sb.srk sg (sig2Bytes v sb sg2) sb.cert bl)) := by
  unfold encodeSigBlock at h
  split at h
  · cases h
  next hdr hh =>
  split at h
  · cases h
  next sg hsg =>
  split at h
  · cases h
  next sg2 hsg2 =>
  split at h <;> cases h
  next bl hbl =>
  have hbll := encodeBlobOpt_length hb hbl
  refine ⟨hdr, sg, sg2, bl, hh, hsg, hsg2, hbl, ?_, ?_⟩
  · simp only [sbTail, sbHead, blitB_eq_put, sig2Step_eq, blobStep_eq hb hbl]
    rfl
  · have hl := sbLayout_laid v sb
    rw [sigSize_eq hsg hsg2, ← hbll] at hl
    exact ⟨Or.inr (Nat.le_refl _), by rw [(sbHeader_ok hh).2.2]; exact ⟨hl.1, Laid.split hl.2⟩⟩

/-- the bytes of the signature block in front of the signature are those of header and SRK table (array): they do not depend
    on signature(s), certificate or blob bytes -/
theorem sigblock_prefix (v : Ver) (sb : SigBlock) (s : Bytes) (hb : BlobLenOK sb)
    (h : encodeSigBlock v sb (sbLayout v sb) = .ok s) :
    ∃ hdr, sbHeader v (sbLayout v sb) sb.keyId = .ok hdr ∧
      s.take (sbLayout v sb).sigOff = (sbHead (sbLayout v sb) hdr sb.srk).take (sbLayout v sb).sigOff ∧
      s.length = (sbLayout v sb).length := by
  obtain ⟨hdr, sg, sg2, bl, hh, hsg, hsg2, _, rfl, hlaid⟩ := sigblock_anatomy v sb s hb h
  obtain ⟨hl, _, _, hpre⟩ := putAll_spec _ (zerosB _) 0 (by rw [zerosB_length]; exact hlaid)
  refine ⟨hdr, hh, ?_, hl.trans (zerosB_length _)⟩
  by_cases h0 : sg = []
  · have : sb.sigSize v = 0 := by
      rw [sigSize_eq hsg hsg2, h0, sig2Bytes_of_nil sg2 ((encodeSignature_nil_iff hsg).1 h0)]; rfl
    rw [(sigblock_layout v sb).2.1 this]; rfl
  · rw [hpre [(0, hdr), ((sbLayout v sb).srkOff, sb.srk)] ((sbLayout v sb).sigOff, sg) _ rfl h0]
    simp only [sbHead, blitB_eq_put]; rfl

theorem sbo_exact (v : Ver) (n : Nat) : sigBlockOffset v n = 16 + 128 * n := by
  unfold sigBlockOffset
  rw [(hdrLayout_widths v).2, (iaeLayout_facts v).2.2]
  have := al8_spec (16 + n * 128)
  omega

/-- header ‖ image array ‖ signature block; the header part is a multiple of 8 bytes long, so the alignment padding in front
    of the signature block is empty -/
theorem exportContainer_ok {v : Ver} {c : Container} {iaes : List Iae} {b : Bytes} (h : exportContainerWith v c iaes = .ok b) :
    ∃ hd a s,
      encodeHeader v (headerLength v iaes.length (sbLayout v c.sb).length) c.flags c.swVersion c.fuseVersion iaes.length
        (sigBlockOffset v iaes.length) = .ok hd ∧
      encodeIaes v.iaeLayout iaes = .ok a ∧ encodeSigBlock v c.sb (sbLayout v c.sb) = .ok s ∧
      b = hd ++ a ++ s ∧ (hd ++ a).length = sigBlockOffset v iaes.length := by
  unfold exportContainerWith at h
  simp only at h
  split at h
  · cases h
  next hd hh =>
  split at h
  · cases h
  next a ha =>
  split at h <;> cases h
  next s hs =>
  have hX : (hd ++ a).length = sigBlockOffset v iaes.length := by
    rw [List.length_append, (encodeHeader_ok hh).2.2, (encodeIaes_at ha).1, sbo_exact]
  exact ⟨hd, a, s, hh, ha, hs, by rw [hX, Nat.sub_self]; exact congrArg (· ++ s) (List.append_nil _), hX⟩

theorem headerLength_eq (v : Ver) (n L : Nat) : headerLength v n L = sigBlockOffset v n + L := by
  unfold headerLength
  rw [(hdrLayout_widths v).2, (iaeLayout_facts v).2.2, sbo_exact]; omega

theorem exportContainer_length {v : Ver} {c : Container} {iaes : List Iae} {b : Bytes} (hb : BlobLenOK c.sb)
    (h : exportContainerWith v c iaes = .ok b) : b.length = headerLength v iaes.length (sbLayout v c.sb).length := by
  obtain ⟨hd, a, s, _, _, hs, rfl, hX⟩ := exportContainer_ok h
  obtain ⟨_, _, _, hl⟩ := sigblock_prefix v c.sb s hb hs
  rw [List.length_append, hX, hl, headerLength_eq]

theorem isEmpty_congr {a b : Bytes} (h : a.length = b.length) : a.isEmpty = b.isEmpty := by
  cases a <;> cases b <;> simp_all

theorem signatureLen_congr {a b : Bytes} (h : a.length = b.length) : signatureLen a = signatureLen b := by
  unfold signatureLen
  rw [isEmpty_congr h, h]

theorem sbLayout_congr (v : Ver) (sb sb' : SigBlock) (h1 : sb'.srk.length = sb.srk.length)
    (h2 : sb'.signature.length = sb.signature.length) (h3 : sb'.signature2.length = sb.signature2.length)
    (h4 : sb'.cert.length = sb.cert.length) (h5 : sb'.blobLen = sb.blobLen) : sbLayout v sb' = sbLayout v sb := by
  have hs : sb'.sigSize v = sb.sigSize v := by
    unfold SigBlock.sigSize
    rw [signatureLen_congr h2, signatureLen_congr h3, isEmpty_congr h2]
  rw [sbLayout_eq, sbLayout_eq, h1, hs, h4, h5]

/-- every image sits where the loop of `update_fields` puts it: at its explicit offset, or at the cursor, and the cursor
    moves to the aligned end (+ gap) of the image -/
def Assigned (ch : Chip) (v : Ver) : Nat → List Placed → Prop
  | _, [] => True
  | cur, p :: ps =>
    p.offset = (if p.entry.offset > 0 then p.entry.offset else cur) ∧ Assigned ch v (nextCursor ch v p.entry p.ready p.offset) ps

def endCursor (ch : Chip) (v : Ver) : Nat → List Placed → Nat
  | cur, [] => cur
  | _, p :: ps => endCursor ch v (nextCursor ch v p.entry p.ready p.offset) ps

/-- no explicit offset lies behind the cursor -/
def ExplicitAhead (ch : Chip) (v : Ver) : Nat → List Placed → Prop
  | _, [] => True
  | cur, p :: ps => (p.entry.offset > 0 → cur ≤ p.entry.offset) ∧ ExplicitAhead ch v (nextCursor ch v p.entry p.ready p.offset) ps

/-- increasing and non-overlapping, starting at or after `lo` -/
def OrderedFrom : Nat → List Placed → Prop
  | _, [] => True
  | lo, p :: ps => lo ≤ p.offset ∧ OrderedFrom (p.offset + p.ready.size) ps

theorem Assigned_append (ch : Chip) (v : Ver) : ∀ (l1 l2 : List Placed) (cur : Nat),
    Assigned ch v cur (l1 ++ l2) ↔ Assigned ch v cur l1 ∧ Assigned ch v (endCursor ch v cur l1) l2
  | [], l2, cur => by simp [Assigned, endCursor]
  | p :: l1, l2, cur => by
    simp only [List.cons_append, Assigned, endCursor, Assigned_append ch v l1 l2]
    exact and_assoc.symm

theorem placeEntries_assigned (ch : Chip) (v : Ver) (base : Nat) : ∀ (ers : List (Entry × Ready)) (cur : Nat),
    Assigned ch v cur (placeEntries ch v base cur ers).1 ∧
    (placeEntries ch v base cur ers).2 = endCursor ch v cur (placeEntries ch v base cur ers).1 ∧
    (placeEntries ch v base cur ers).1.map (fun p => (p.entry, p.ready)) = ers ∧
    ∀ p ∈ (placeEntries ch v base cur ers).1, p.iae = mkIae base p.offset p.entry p.ready
  | [], cur => ⟨trivial, rfl, rfl, fun _ h => by cases h⟩
  | (e, r) :: rest, cur => by
    have ih := placeEntries_assigned ch v base rest (nextCursor ch v e r (if e.offset > 0 then e.offset else cur))
    simp only [placeEntries, Assigned, endCursor, List.map_cons]
    refine ⟨⟨trivial, ih.1⟩, ih.2.1, by rw [ih.2.2.1], ?_⟩
    intro p hp
    rcases List.mem_cons.1 hp with rfl | hp
    · rfl
    · exact ih.2.2.2 p hp

/-- one round of `AHABImage.update_fields` -/
theorem updateContainers_cons {c : Crypto.CryptoOps} {ch : Chip} {v : Ver} {ct : Container} {rest : List Container} {ix cur : Nat}
    {us : List UContainer} (h : updateContainers c ch v ix cur (ct :: rest) = .ok us) :
    ∃ base rs us', v.containerOffset ix = .ok base ∧
      readyEntries c ch v (if ct.sb.blob.isSome then ct.dek else none) ct.entries = .ok rs ∧
      updateContainers c ch v (ix + 1) (placeEntries ch v base cur (ct.entries.zip rs)).2 rest = .ok us' ∧
      us = ⟨ix, base, ct, (placeEntries ch v base cur (ct.entries.zip rs)).1⟩ :: us' := by
  unfold updateContainers at h
  split at h
  · next base rs hb hr =>
    simp only at h
    split at h <;> cases h
    exact ⟨base, rs, _, hb, hr, ‹_›, rfl⟩
  · cases h
  · cases h

theorem updateContainers_assigned (c : Crypto.CryptoOps) (ch : Chip) (v : Ver) : ∀ (cs : List Container) (ix cur : Nat)
    (us : List UContainer), updateContainers c ch v ix cur cs = .ok us → Assigned ch v cur (allPlaced us)
  | [], _, _, us, h => by cases h; trivial
  | ct :: rest, ix, cur, us, h => by
    obtain ⟨base, rs, us', _, _, hu, rfl⟩ := updateContainers_cons h
    have hp := placeEntries_assigned ch v base (ct.entries.zip rs) cur
    simp only [allPlaced, List.flatMap_cons]
    rw [Assigned_append, ← hp.2.1]
    exact ⟨hp.1, updateContainers_assigned c ch v rest (ix + 1) _ us' hu⟩

theorem validAlignment_pos (ch : Chip) (v : Ver) (flags : Nat) : 0 < max (validAlignment ch v flags) ch.row.minOffsetAlign := by
  unfold validAlignment
  split <;> omega

theorem nextCursor_ge (ch : Chip) (v : Ver) (e : Entry) (r : Ready) (off : Nat) :
    off + r.size + e.gapAfter ≤ nextCursor ch v e r off ∧
    nextCursor ch v e r off % (max (validAlignment ch v e.flags) ch.row.minOffsetAlign) = 0 := by
  unfold nextCursor validOffset
  have := alignNat_spec (off + r.size + e.gapAfter) _ (validAlignment_pos ch v e.flags)
  exact ⟨this.2.1, this.1⟩

theorem OrderedFrom_mono : ∀ (ps : List Placed) (lo lo' : Nat), lo' ≤ lo → OrderedFrom lo ps → OrderedFrom lo' ps
  | [], _, _, _, _ => trivial
  | _ :: _, _, _, h, ⟨h1, h2⟩ => ⟨Nat.le_trans h h1, h2⟩

/-- images placed by the loop never overlap as long as no explicit offset points behind the cursor -/
theorem assigned_ordered (ch : Chip) (v : Ver) : ∀ (ps : List Placed) (cur : Nat),
    Assigned ch v cur ps → ExplicitAhead ch v cur ps → OrderedFrom cur ps
  | [], _, _, _ => trivial
  | p :: ps, cur, ⟨ha, hrest⟩, ⟨he, herest⟩ => by
    have hoff : cur ≤ p.offset := by
      rw [ha]; split
      · rename_i h; exact he h
      · exact Nat.le_refl _
    refine ⟨hoff, ?_⟩
    have ih := assigned_ordered ch v ps _ hrest herest
    exact OrderedFrom_mono ps _ _ (by have := (nextCursor_ge ch v p.entry p.ready p.offset).1; omega) ih

theorem explicitAhead_of_auto (ch : Chip) (v : Ver) : ∀ (ps : List Placed) (cur : Nat),
    (∀ p ∈ ps, p.entry.offset = 0) → ExplicitAhead ch v cur ps
  | [], _, _ => trivial
  | p :: ps, cur, h => by
    refine ⟨fun hp => ?_, explicitAhead_of_auto ch v ps _ (fun q hq => h q (List.mem_cons_of_mem _ hq))⟩
    have := h p (List.mem_cons_self); omega

theorem OrderedFrom_ge : ∀ (ps : List Placed) (lo : Nat), OrderedFrom lo ps → ∀ p ∈ ps, lo ≤ p.offset
  | [], _, _, _, h => by cases h
  | q :: ps, lo, ⟨h1, h2⟩, p, hp => by
    rcases List.mem_cons.1 hp with rfl | hp
    · exact h1
    · have := OrderedFrom_ge ps _ h2 p hp; omega

theorem OrderedFrom_pairwise : ∀ (ps : List Placed) (lo : Nat), OrderedFrom lo ps →
    ps.Pairwise (fun p q => p.offset + p.ready.size ≤ q.offset)
  | [], _, _ => List.Pairwise.nil
  | _ :: ps, _, ⟨_, h2⟩ => List.Pairwise.cons (fun q hq => OrderedFrom_ge ps _ h2 q hq) (OrderedFrom_pairwise ps _ h2)

theorem containerOffset_ok (v : Ver) (ix base : Nat) (h : v.containerOffset ix = .ok base) :
    base = ix * v.containerSize ∧ ix ≤ 3 := by
  unfold Ver.containerOffset at h
  cases v
  · simp only [AhabConsts.containerOffsetV1] at h
    by_cases h1 : ((ix : Int) < 0)
    · omega
    · by_cases h2 : ((ix : Int) > 3)
      · simp [h2] at h
      · simp [h2, h1] at h
        refine ⟨?_, by omega⟩
        show _ = ix * 1024
        omega
  · simp only [AhabConsts.containerOffsetV2] at h
    by_cases h1 : ((ix : Int) < 0)
    · omega
    · by_cases h2 : ((ix : Int) > 3)
      · simp [h2] at h
      · simp [h2, h1] at h
        refine ⟨?_, by omega⟩
        show _ = ix * 16384
        omega

theorem updateContainers_bases (c : Crypto.CryptoOps) (ch : Chip) (v : Ver) : ∀ (cs : List Container) (ix cur : Nat)
    (us : List UContainer), updateContainers c ch v ix cur cs = .ok us →
    us.length = cs.length ∧ ∀ k u, us[k]? = some u → u.index = ix + k ∧ u.base = (ix + k) * v.containerSize ∧ ix + k ≤ 3 ∧
      cs[k]? = some u.cont
  | [], _, _, us, h => by cases h; exact ⟨rfl, fun k u hk => by simp at hk⟩
  | ct :: rest, ix, cur, us, h => by
    obtain ⟨base, rs, us', hb, _, hu, rfl⟩ := updateContainers_cons h
    have ih := updateContainers_bases c ch v rest (ix + 1) _ us' hu
    have hco := containerOffset_ok v ix base hb
    refine ⟨by simp [ih.1], fun k u hk => ?_⟩
    cases k with
    | zero => cases hk; exact ⟨rfl, hco.1, hco.2, rfl⟩
    | succ k =>
      have := ih.2 k u (by simpa using hk)
      rw [show ix + (k + 1) = ix + 1 + k from by omega]
      exact ⟨this.1, this.2.1, this.2.2.1, by simpa using this.2.2.2⟩

end SpsdkVerif.Ahab
