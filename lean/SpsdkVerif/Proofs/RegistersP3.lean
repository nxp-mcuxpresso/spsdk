/-
Helper lemmas for the phase-3 part of C11 (Model/RegistersP3.lean): `get_config(diff)`.
-/
import SpsdkVerif.Model.RegistersP3
import SpsdkVerif.Proofs.RegistersCfg

namespace SpsdkVerif.Regs
open SpsdkVerif SpsdkVerif.Misc

theorem hideAll_alts (rm : RegMeta) (n : Nat) : (hideAll rm n).alts = rm.alts := rfl

theorem hideAll_field (rm : RegMeta) (n j : Nat) :
    (hideAll rm n).field j =
      if j < max n rm.fields.length then { rm.field j with hidden := true } else rm.field j := by
  unfold hideAll RegMeta.field
  simp only [List.getD_eq_getElem?_getD, List.getElem?_map]
  by_cases h : j < max n rm.fields.length
  · rw [if_pos h]
    simp [h]
  · rw [if_neg h]
    have h1 : ¬ j < rm.fields.length := by omega
    simp [h, List.getElem?_eq_none (Nat.le_of_not_lt h1)]

theorem hideAll_names (rm : RegMeta) (n j : Nat) : ((hideAll rm n).field j).names = (rm.field j).names := by
  rw [hideAll_field]; split <;> rfl

theorem hideAll_hidden (rm : RegMeta) (n j : Nat) (h : j < n) : ((hideAll rm n).field j).hidden = true := by
  rw [hideAll_field, if_pos (by omega)]

theorem enumConst_names (f : Field) (fm fm' : FieldMeta) (h : fm'.names = fm.names) (x : Nat) :
    enumConst f fm' x = enumConst f fm x := by
  simp [enumConst, FieldMeta.nameOf, h]

theorem enumValueOf_names (r : Reg) (f : Field) (fm fm' : FieldMeta) (h : fm'.names = fm.names) :
    enumValueOf r f fm' = enumValueOf r f fm := by
  simp [enumValueOf, FieldMeta.nameOf, h, enumConst_names f fm fm' h]

theorem loadField_names (r : Reg) (f : Field) (fm fm' : FieldMeta) (h : fm'.names = fm.names) (c : CfgVal) :
    loadField r f fm' c = loadField r f fm c := by
  cases c <;> simp [loadField, enumConst_names f fm fm' h]

theorem loadFields_hideAll (rm : RegMeta) (n : Nat) (l : List (Nat × CfgVal)) (r : Reg) :
    loadFields r (hideAll rm n) l = loadFields r rm l := by
  induction l generalizing r with
  | nil => rfl
  | cons e l ih =>
    obtain ⟨j, c⟩ := e
    simp only [loadFields]
    cases r.fields[j]? with
    | none => rfl
    | some f =>
      simp only []
      rw [loadField_names r f (rm.field j) _ (hideAll_names rm n j)]
      cases loadField r f (rm.field j) c with
      | error e => rfl
      | ok r' => exact ih r'

theorem loadReg_hideAll (rm : RegMeta) (n : Nat) (c : RegCfg) (r : Reg) :
    loadReg r (hideAll rm n) c = loadReg r rm c := by
  cases c with
  | value v => rfl
  | fields l => simp only [loadReg, loadFields_hideAll, hideAll_alts]

/-! ### `diff = false` is the older model; `diff = true` is the older model with every bit-field hidden -/

theorem fieldsConfigD_false (r : Reg) (rm : RegMeta) (fs : List Field) (j : Nat) :
    fieldsConfigD false r rm fs j = fieldsConfig r rm fs j := by
  induction fs generalizing j with
  | nil => rfl
  | cons f fs ih =>
    simp only [fieldsConfigD, fieldsConfig, Bool.false_or, ih]
    rfl

theorem regConfigD_false (r : Reg) (rm : RegMeta) : regConfigD false r rm = regConfig r rm := by
  simp only [regConfigD, regConfig, fieldsConfigD_false]
  rfl

theorem getConfigDFrom_false (m : Meta) (rf : RegFile) (i : Nat) :
    getConfigDFrom false m rf i = getConfigFrom m rf i := by
  induction rf generalizing i with
  | nil => rfl
  | cons r rs ih =>
    simp only [getConfigDFrom, getConfigFrom, regConfigD_false, ih, Bool.false_and, Bool.false_eq_true, if_false]
    rfl

theorem fieldsConfigD_true (r : Reg) (rm : RegMeta) (n : Nat) (fs : List Field) (j : Nat) (h : j + fs.length ≤ n) :
    fieldsConfigD true r rm fs j = fieldsConfig r (hideAll rm n) fs j := by
  induction fs generalizing j with
  | nil => rfl
  | cons f fs ih =>
    have hj : j < n := by simp at h; omega
    have h' : j + 1 + fs.length ≤ n := by simp at h; omega
    simp only [fieldsConfigD, fieldsConfig, Bool.true_or, hideAll_hidden rm n j hj, ih (j + 1) h',
      enumValueOf_names r f (rm.field j) _ (hideAll_names rm n j)]
    rfl

theorem regConfigD_true (r : Reg) (rm : RegMeta) :
    regConfigD true r rm = regConfig r (hideAll rm r.fields.length) := by
  simp only [regConfigD, regConfig, hideAll_alts]
  rw [fieldsConfigD_true r rm r.fields.length r.fields 0 (by omega)]
  rfl

/-! ### what a configuration names (any `diff`; `diff = false` is `get_config()` itself) -/

/-- what a successful `fieldsConfigD` did with the first bit-field: left it out (at its reset value, and hidden or `diff`), or
    put an entry for it in front -/
theorem fieldsConfigD_cons_ok {diff : Bool} {r : Reg} {rm : RegMeta} {f : Field} {fs : List Field} {j : Nat}
    {l : List (Nat × CfgVal)} (h : fieldsConfigD diff r rm (f :: fs) j = .ok l) :
    (((diff || (rm.field j).hidden) = true ∧ fieldGet r f = .ok f.reset) ∧ fieldsConfigD diff r rm fs (j + 1) = .ok l) ∨
    (¬ ((diff || (rm.field j).hidden) = true ∧ fieldGet r f = .ok f.reset) ∧
      ∃ c rest, fieldsConfigD diff r rm fs (j + 1) = .ok rest ∧ l = (j, c) :: rest) := by
  unfold fieldsConfigD at h
  cases hg : fieldGet r f with
  | error e => rw [hg] at h; cases h
  | ok v =>
    simp only [hg, Bool.and_eq_true, beq_iff_eq, Except.ok.injEq] at h ⊢
    split at h
    · exact .inl ⟨‹_›, h⟩
    · split at h
      · cases h
      · cases h
      · next c rest _ hr => cases h; exact .inr ⟨‹_›, c, rest, hr, rfl⟩

/-- the keys of a bit-field dictionary: the bit-fields that are not left out -/
theorem fieldsConfigD_mem {diff : Bool} {r : Reg} {rm : RegMeta} : ∀ {fs : List Field} {j : Nat} {l : List (Nat × CfgVal)},
    fieldsConfigD diff r rm fs j = .ok l → ∀ i, (∃ c, (i, c) ∈ l) ↔
      ∃ t f, i = j + t ∧ fs[t]? = some f ∧ ¬ ((diff || (rm.field i).hidden) = true ∧ fieldGet r f = .ok f.reset)
  | [], _, _, h, i => by cases h; simp
  | f :: fs, j, l, h, i => by
    have shift : (∃ t g, i = j + 1 + t ∧ fs[t]? = some g ∧ ¬ ((diff || (rm.field i).hidden) = true ∧ fieldGet r g = .ok g.reset)) ↔
        ∃ t g, i = j + (t + 1) ∧ (f :: fs)[t + 1]? = some g ∧ ¬ ((diff || (rm.field i).hidden) = true ∧ fieldGet r g = .ok g.reset) := by
      simp only [Nat.add_assoc, Nat.add_comm 1, List.getElem?_cons_succ]
    rcases fieldsConfigD_cons_ok h with ⟨hs, h'⟩ | ⟨hs, c, rest, h', rfl⟩
    · rw [fieldsConfigD_mem h' i, shift]
      constructor
      · rintro ⟨t, g, h1⟩; exact ⟨t + 1, g, h1⟩
      · rintro ⟨_ | t, g, h1, h2, h3⟩
        · cases h2; cases h1; exact absurd hs h3
        · exact ⟨t, g, h1, h2, h3⟩
    · have ih := (fieldsConfigD_mem h' i).trans shift
      constructor
      · rintro ⟨c', hc'⟩
        rcases List.mem_cons.1 hc' with hc' | hc'
        · cases hc'; exact ⟨0, f, rfl, rfl, hs⟩
        · obtain ⟨t, g, h1⟩ := ih.1 ⟨c', hc'⟩; exact ⟨t + 1, g, h1⟩
      · rintro ⟨_ | t, g, h1, h2, h3⟩
        · cases h1; exact ⟨c, List.mem_cons_self ..⟩
        · obtain ⟨c', hc'⟩ := ih.2 ⟨t, g, h1, h2, h3⟩; exact ⟨c', List.mem_cons_of_mem _ hc'⟩

theorem regConfigD_fields_ok {diff : Bool} {r : Reg} {rm : RegMeta} {l : List (Nat × CfgVal)}
    (h : regConfigD diff r rm = .ok (.fields l)) : r.fields ≠ [] ∧ fieldsConfigD diff r rm r.fields 0 = .ok l := by
  unfold regConfigD at h
  split at h
  · split at h <;> cases h
  · next he =>
    split at h
    · cases h
    · next l' hl => cases h; exact ⟨fun hn => he (by simp [hn]), hl⟩

/-- what a successful `getConfigDFrom` did with the first register: left it out, or put its configuration in front -/
theorem getConfigDFrom_cons_ok {diff : Bool} {m : Meta} {r : Reg} {rs : RegFile} {i : Nat} {cfg : Cfg}
    (h : getConfigDFrom diff m (r :: rs) i = .ok cfg) :
    ((diff && regAtReset r (m.reg i)) = true ∧ getConfigDFrom diff m rs (i + 1) = .ok cfg) ∨
    ((diff && regAtReset r (m.reg i)) = false ∧ ∃ c rest, regConfigD diff r (m.reg i) = .ok c ∧
      getConfigDFrom diff m rs (i + 1) = .ok rest ∧ cfg = (.top i, c) :: rest) := by
  unfold getConfigDFrom at h
  split at h
  · exact .inl ⟨‹_›, h⟩
  · split at h
    · cases h
    · cases h
    · next c rest hc hr => cases h; exact .inr ⟨Bool.eq_false_iff.2 ‹_›, c, rest, hc, hr, rfl⟩

/-- the entries of a configuration: one for every register that is not left out, holding that register's configuration -/
theorem getConfigDFrom_mem {diff : Bool} {m : Meta} : ∀ {rs : RegFile} {i : Nat} {cfg : Cfg},
    getConfigDFrom diff m rs i = .ok cfg →
    (∀ ref c, (ref, c) ∈ cfg → ∃ t r, ref = .top (i + t) ∧ rs[t]? = some r ∧
      (diff && regAtReset r (m.reg (i + t))) = false ∧ regConfigD diff r (m.reg (i + t)) = .ok c) ∧
    (∀ t r, rs[t]? = some r → (diff && regAtReset r (m.reg (i + t))) = false → ∃ c, (RegRef.top (i + t), c) ∈ cfg)
  | [], _, _, h => by cases h; simp
  | r :: rs, i, cfg, h => by
    have e : ∀ t, i + 1 + t = i + (t + 1) := by omega
    rcases getConfigDFrom_cons_ok h with ⟨hs, h'⟩ | ⟨hs, c, rest, hc, h', rfl⟩ <;>
      obtain ⟨ih1, ih2⟩ := getConfigDFrom_mem h' <;> simp only [e] at ih1 ih2
    · refine ⟨fun ref c hm => ?_, fun t a ha hns => ?_⟩
      · obtain ⟨t, a, h1, h2, h3⟩ := ih1 ref c hm
        exact ⟨t + 1, a, h1, h2, h3⟩
      · cases t with
        | zero => cases ha; cases hs.symm.trans hns
        | succ t => exact ih2 t a ha hns
    · refine ⟨fun ref c' hm => ?_, fun t a ha hns => ?_⟩
      · rcases List.mem_cons.1 hm with hm | hm
        · cases hm; exact ⟨0, r, rfl, rfl, hs, hc⟩
        · obtain ⟨t, a, h1, h2, h3⟩ := ih1 ref c' hm
          exact ⟨t + 1, a, h1, h2, h3⟩
      · cases t with
        | zero => exact ⟨c, List.mem_cons_self ..⟩
        | succ t => obtain ⟨c', hc'⟩ := ih2 t a ha hns; exact ⟨c', List.mem_cons_of_mem _ hc'⟩

/-- a per-register round trip `hreg` (configuration of `r`, loaded into `r0`, gives some `r'` with `Q`) lifted to register files:
    the configuration of `rs` loads into `rs0`; a register left out keeps what `rs0` holds, every other one satisfies `Q`.
    `pre` is the part of the file already dealt with (the entries carry absolute indices). -/
theorem roundtrip_lift (diff : Bool) (m : Meta) (P : RegMeta → Reg → Reg → Prop) (Q : RegMeta → Reg → Reg → Reg → Prop)
    (hreg : ∀ rm r r0, P rm r r0 → ∃ c r', regConfigD diff r rm = .ok c ∧ loadReg r0 rm c = .ok r' ∧ Q rm r r0 r')
    (rs rs0 pre : RegFile) (hlen : rs0.length = rs.length)
    (hok : ∀ t r r0, rs[t]? = some r → rs0[t]? = some r0 → P (m.reg (pre.length + t)) r r0) :
    ∃ cfg rs', getConfigDFrom diff m rs pre.length = .ok cfg ∧ loadConfig m (pre ++ rs0) cfg = .ok (pre ++ rs') ∧
      rs'.length = rs.length ∧
      ∀ t r r0, rs[t]? = some r → rs0[t]? = some r0 →
        ∃ r', rs'[t]? = some r' ∧
          (((diff && regAtReset r (m.reg (pre.length + t))) = true ∧ r' = r0) ∨
           ((diff && regAtReset r (m.reg (pre.length + t))) = false ∧ Q (m.reg (pre.length + t)) r r0 r')) := by
  induction rs generalizing rs0 pre with
  | nil => cases rs0 with
    | nil => exact ⟨[], [], rfl, rfl, rfl, by simp⟩
    | cons _ _ => cases hlen
  | cons r rs ih => cases rs0 with
    | nil => cases hlen
    | cons r0 rs0 =>
      -- whatever the head `x` of the result is, the tail follows from the induction hypothesis with `pre ++ [x]`
      have tail (x : Reg) (hx : ((diff && regAtReset r (m.reg pre.length)) = true ∧ x = r0) ∨
            ((diff && regAtReset r (m.reg pre.length)) = false ∧ Q (m.reg pre.length) r r0 x)) :
          ∃ cfg rs', getConfigDFrom diff m rs (pre.length + 1) = .ok cfg ∧
            loadConfig m (pre ++ x :: rs0) cfg = .ok (pre ++ x :: rs') ∧ (x :: rs').length = (r :: rs).length ∧
            ∀ t a a0, (r :: rs)[t]? = some a → (r0 :: rs0)[t]? = some a0 → ∃ a', (x :: rs')[t]? = some a' ∧
              (((diff && regAtReset a (m.reg (pre.length + t))) = true ∧ a' = a0) ∨
               ((diff && regAtReset a (m.reg (pre.length + t))) = false ∧ Q (m.reg (pre.length + t)) a a0 a')) := by
        have e (t : Nat) : (pre ++ [x]).length + t = pre.length + (t + 1) := by simp; omega
        obtain ⟨cfg, rs', h1, h2, h3, h4⟩ := ih rs0 (pre ++ [x]) (by simpa using hlen)
          (fun t a a0 ha ha0 => e t ▸ hok (t + 1) a a0 ha ha0)
        simp only [e, List.append_assoc, List.singleton_append] at h1 h2 h4
        refine ⟨cfg, rs', by simpa using h1, h2, by simp [h3], fun t a a0 ha ha0 => ?_⟩
        cases t with
        | zero => cases ha; cases ha0; exact ⟨x, rfl, hx⟩
        | succ t => exact h4 t a a0 ha ha0
      cases hs : (diff && regAtReset r (m.reg pre.length)) with
      | true =>
        obtain ⟨cfg, rs', h1, h2, h3⟩ := tail r0 (.inl ⟨hs, rfl⟩)
        exact ⟨cfg, r0 :: rs', by simp only [getConfigDFrom, hs, if_true, h1], h2, h3⟩
      | false =>
        obtain ⟨c, r', hc, hl, hq⟩ := hreg _ r r0 (hok 0 r r0 rfl rfl)
        obtain ⟨cfg, rs', h1, h2, h3⟩ := tail r' (.inr ⟨hs, hq⟩)
        refine ⟨(.top pre.length, c) :: cfg, r' :: rs', ?_, ?_, h3⟩
        · simp only [getConfigDFrom, hs, Bool.false_eq_true, if_false, show regConfigD diff r (m.reg pre.length) = .ok c from hc, h1]
        · simp only [loadConfig, loadEntry, updAt_append pre rs0 r0 r' (fun r => loadReg r (m.reg pre.length) c) hl, h2]

theorem shl_shr_of_mod (v s : Nat) (h : v % 2 ^ s = 0) : (v >>> s) <<< s = v := by
  rw [Nat.shiftLeft_eq, Nat.shiftRight_eq_div_pow]
  exact Nat.div_mul_cancel (Nat.dvd_of_mod_eq_zero h)

/-! ### reset: every bit-field of `_bitfields` (hidden or not) contributes its reset value -/

theorem resetFold_testBit (fs : List Field) (acc k : Nat) :
    (fs.foldl (fun acc f => acc ||| ((f.reset &&& mask f.width) <<< f.offset)) acc).testBit k = true ↔
      (acc.testBit k = true ∨ ∃ (i : Nat) (g : Field), fs[i]? = some g ∧ g.offset ≤ k ∧ k < g.offset + g.width ∧
        g.reset.testBit (k - g.offset) = true) := by
  induction fs generalizing acc with
  | nil => simp
  | cons f fs ih =>
    simp only [List.foldl_cons]
    rw [ih]
    have hx : ((f.reset &&& mask f.width) <<< f.offset).testBit k = true ↔
        (f.offset ≤ k ∧ k < f.offset + f.width ∧ f.reset.testBit (k - f.offset) = true) := by
      simp only [Nat.testBit_shiftLeft, Nat.testBit_and, testBit_mask, Bool.and_eq_true, decide_eq_true_eq, ge_iff_le]
      constructor
      · rintro ⟨h1, h2, h3⟩; exact ⟨h1, by omega, h2⟩
      · rintro ⟨h1, h2, h3⟩; exact ⟨h1, h3, by omega⟩
    rw [Nat.testBit_or, Bool.or_eq_true, hx]
    constructor
    · rintro ((h | h) | ⟨i, g, h1, h2⟩)
      · exact Or.inl h
      · exact Or.inr ⟨0, f, by simp, h⟩
      · exact Or.inr ⟨i + 1, g, by simpa using h1, h2⟩
    · rintro (h | ⟨i, g, h1, h2⟩)
      · exact Or.inl (Or.inl h)
      · cases i with
        | zero => simp at h1; subst h1; exact Or.inl (Or.inr h2)
        | succ i => exact Or.inr ⟨i, g, by simpa using h1, h2⟩

/-- the slice of the reset value at a bit-field is that bit-field's reset value, provided the other bit-fields are disjoint
    from it and the register-level reset value has no bits there -/
theorem resetValue_slice (r : Reg) (j : Nat) (f : Field) (hf : r.fields[j]? = some f)
    (hd : r.fields.Pairwise (fun f g => f.offset + f.width ≤ g.offset ∨ g.offset + g.width ≤ f.offset))
    (hraw : ∀ k, f.offset ≤ k → k < f.offset + f.width → r.resetRaw.testBit k = false) :
    (r.resetValue >>> f.offset) &&& mask f.width = f.reset &&& mask f.width := by
  apply Nat.eq_of_testBit_eq
  intro t
  rw [slice_testBit, Nat.testBit_and, testBit_mask]
  by_cases ht : t < f.width
  · simp only [ht, decide_true, Bool.and_true]
    rw [Bool.eq_iff_iff]
    unfold Reg.resetValue
    rw [resetFold_testBit]
    constructor
    · rintro (h | ⟨i, g, h1, h2, h3, h4⟩)
      · rw [hraw _ (by omega) (by omega)] at h; cases h
      · by_cases hij : i = j
        · subst hij
          rw [hf] at h1; cases h1
          have e : f.offset + t - f.offset = t := by omega
          rw [e] at h4; exact h4
        · have := pairwise_disjoint_ne r.fields i j g f hd h1 hf hij
          omega
    · intro h
      refine Or.inr ⟨j, f, hf, by omega, by omega, ?_⟩
      have e : f.offset + t - f.offset = t := by omega
      rw [e]; exact h
  · simp [ht]

/-- `ref` names something in `names` that carries `x` as name, alias or uid; a group member only when those are searched -/
def RefHit (x : Nat) (incl : Bool) (names : List RegName) : RegRef → Prop
  | .top i => ∃ r, names[i]? = some r ∧ nameHit x r.name r.aliases r.uid = true
  | .sub i k => incl = true ∧ ∃ r n a u, names[i]? = some r ∧ r.subs[k]? = some (n, a, u) ∧ nameHit x n a u = true

/-- what `findRegFrom` answers with is a hit; `pre` are the registers already passed over -/
theorem findRegFrom_hit {x : Nat} {incl : Bool} {ref : RegRef} : ∀ (l pre : List RegName),
    findRegFrom x incl l pre.length = some ref → RefHit x incl (pre ++ l) ref
  | [], _, h => by cases h
  | r :: rs, pre, h => by
    have hr : (pre ++ r :: rs)[pre.length]? = some r := by simp
    unfold findRegFrom at h
    split at h
    · next hh => cases h; exact ⟨r, hr, hh⟩
    · split at h
      · next k hf =>
        cases h
        cases incl with
        | false => cases hf
        | true =>
          have hk := List.find?_some hf
          unfold subHit at hk
          split at hk
          · next n a u hs => exact ⟨rfl, r, n, a, u, hr, hs, hk⟩
          · cases hk
      · have := findRegFrom_hit rs (pre ++ [r]) (by simpa using h)
        simpa using this
end SpsdkVerif.Regs
