/-
Helper lemmas for Properties/C05.lean (Secure Binary 3.1).  Core Lean only.

The loader's readers (`takeB`, `takeU`, `takeData`, `takeWordRes3`) get one lemma each in CONTINUATION form
(`(reader (enc ++ r) >>= f) = f (value, r)`): a parser applied to an encoding is then rewritten at the root of the
term, one field after the other, and the continuation is never rewritten under.
-/
import SpsdkVerif.Model.Sb31
import SpsdkVerif.Proofs.Misc
import SpsdkVerif.Proofs.Crypto
import SpsdkVerif.Crypto.Break

namespace SpsdkVerif.Sb31
open SpsdkVerif SpsdkVerif.Misc SpsdkVerif.Crypto SpsdkVerif.Generated
open Rom Spec

/-- little-endian fields concatenate like digits -/
theorem leEnc_append (a b x y : Nat) (hx : x < 256 ^ a) : leEnc a x ++ leEnc b y = leEnc (a + b) (x + 256 ^ a * y) := by
  induction a generalizing x with
  | zero => simp [Nat.lt_one_iff.mp hx, leEnc, beEnc]
  | succ a ih =>
    rw [Nat.add_right_comm, leEnc_succ, leEnc_succ, Nat.pow_succ, Nat.mul_comm _ 256, Nat.mul_assoc,
      Nat.add_mul_mod_self_left, Nat.add_mul_div_left _ _ (by decide), List.cons_append,
      ih _ (Nat.div_lt_of_lt_mul (by rwa [Nat.pow_succ, Nat.mul_comm] at hx))]

@[simp] theorem u16_length (v : Nat) : (u16 v).length = 2 := leEnc_length 2 v
@[simp] theorem u32_length (v : Nat) : (u32 v).length = 4 := leEnc_length 4 v
@[simp] theorem u64_length (v : Nat) : (u64 v).length = 8 := leEnc_length 8 v

theorem ok_bind {α β : Type} (a : α) (f : α → R β) : (Except.ok a >>= f) = f a := rfl

theorem check_true (e : RomErr) : check true e = .ok () := rfl

theorem takeB_append (x r : Bytes) (n : Nat) (h : x.length = n) : takeB n (x ++ r) = .ok (x, r) := by
  subst h; simp [takeB]

theorem takeB_self (x : Bytes) (n : Nat) (h : x.length = n) : takeB n x = .ok (x, []) := by
  simpa using takeB_append x [] n h

section readers
variable {β : Type}

theorem takeB_bind {x : Bytes} {n : Nat} (h : x.length = n) (r : Bytes) (f : Bytes × Bytes → R β) :
    (takeB n (x ++ r) >>= f) = f (x, r) := by rw [takeB_append x r n h]; rfl

theorem takeU_bind {n v : Nat} (h : v < 256 ^ n) (r : Bytes) (f : Nat × Bytes → R β) :
    (takeU n (leEnc n v ++ r) >>= f) = f (v, r) := by
  simp [takeU, leEnc_length, leDec_leEnc n v h, ok_bind]

theorem takeU_u16 {v : Nat} (h : v < 65536) (r : Bytes) (f : Nat × Bytes → R β) :
    (takeU 2 (u16 v ++ r) >>= f) = f (v, r) := takeU_bind (n := 2) h r f

theorem takeU_u32 {v : Nat} (h : v < 4294967296) (r : Bytes) (f : Nat × Bytes → R β) :
    (takeU 4 (u32 v ++ r) >>= f) = f (v, r) := takeU_bind (n := 4) h r f

theorem takeU_u64 {v : Nat} (h : v < 18446744073709551616) (r : Bytes) (f : Nat × Bytes → R β) :
    (takeU 8 (u64 v ++ r) >>= f) = f (v, r) := takeU_bind (n := 8) h r f

theorem allZero_zeros (n : Nat) : allZero (zeros n) = true := by
  simp [allZero, zeros]

theorem takeWordRes3_enc {m : Nat} (h : m < 4294967296) (r : Bytes) (f : Nat × Bytes → R β) :
    (takeWordRes3 (u32 m ++ (u32 0 ++ (u32 0 ++ (u32 0 ++ r)))) >>= f) = f (m, r) := by
  have e : u32 0 ++ (u32 0 ++ (u32 0 ++ r)) = zeros 12 ++ r := rfl
  simp only [takeWordRes3, takeU_u32 h, e, takeB_bind (zeros_length 12), allZero_zeros, check_true, ok_bind]
  rfl

theorem takeData_enc' (n : Nat) (d r : Bytes) (h : n = d.length) :
    takeData n (d ++ (zeros (pad16 d.length) ++ r)) = .ok (d, r) := by
  subst h
  simp only [takeData, takeB_bind rfl, takeB_bind (zeros_length _), allZero_zeros, check_true, ok_bind]
  rfl

theorem takeData_enc (d r : Bytes) (f : Bytes × Bytes → R β) :
    (takeData d.length (d ++ (zeros (pad16 d.length) ++ r)) >>= f) = f (d, r) := by
  rw [takeData_enc' _ d r rfl]; rfl

end readers

theorem zeroPad16_prefix (x d : Bytes) (hx : x.length % 16 = 0) :
    zeroPad 16 (x ++ d) = x ++ (d ++ zeros (pad16 d.length)) := by
  simp only [zeroPad, List.length_append, pad16, List.append_assoc]
  rw [Nat.add_mod, hx, Nat.zero_add, Nat.mod_mod]

@[simp] theorem baseHdr_length (a b t : Nat) : (baseHdr a b t).length = 16 := by simp [baseHdr]
@[simp] theorem words4_length (a b c d : Nat) : (words4 a b c d).length = 16 := by simp [words4]

theorem loadLike_some (tag a len m : Nat) (d : Bytes) :
    loadLike tag a len (some m) d = baseHdr a len tag ++ (words4 m 0 0 0 ++ (d ++ zeros (pad16 d.length))) := by
  simp only [loadLike, Sb31Consts.loadAlign]
  rw [← List.append_assoc, zeroPad16_prefix _ _ (by simp), List.append_assoc]

theorem loadLike_none (tag a len : Nat) (d : Bytes) :
    loadLike tag a len none d = baseHdr a len tag ++ (d ++ zeros (pad16 d.length)) := by
  simp only [loadLike, Sb31Consts.loadAlign, List.append_nil]
  rw [zeroPad16_prefix _ _ (by simp)]

theorem parse_hdr (a b t : Nat) (ha : a < 4294967296) (hb : b < 4294967296) (ht : t < 4294967296)
    (r : Bytes) (k : Nat → Nat → Nat → Bytes → R (Cmd × Bytes)) :
    (do let (magic, b1) ← takeU 4 (baseHdr a b t ++ r)
        check (magic == 0x55AAAA55) .cmdMagic
        let (w1, b2) ← takeU 4 b1
        let (w2, b3) ← takeU 4 b2
        let (tag, b4) ← takeU 4 b3
        k w1 w2 tag b4) = k a b t r := by
  simp only [baseHdr, List.append_assoc, Sb31Consts.cmdMagic]
  rw [takeU_u32 (by decide)]
  simp only [Nat.reduceBEq, check_true, ok_bind]
  rw [takeU_u32 ha, takeU_u32 hb, takeU_u32 ht]

theorem parseCmd_baseHdr {a b t : Nat} (ha : a < 4294967296) (hb : b < 4294967296) (ht : t < 4294967296) (r : Bytes) :
    parseCmd (baseHdr a b t ++ r) = parseTail t a b r :=
  parse_hdr a b t ha hb ht r fun w1 w2 tag b => parseTail tag w1 w2 b

theorem encKeyBlob_eq (off kw : Nat) (d : Bytes) :
    encCmd (.loadKeyBlob off d kw) =
      u32 Sb31Consts.cmdMagic ++ (u16 off ++ (u16 kw ++ (u32 d.length ++ (u32 Sb31Consts.tagLoadKeyBlob ++
        (d ++ zeros (pad16 d.length)))))) := by
  simp only [encCmd, Sb31Consts.keyBlobAlign]
  rw [zeroPad16_prefix _ _ (by simp)]
  simp only [List.append_assoc]

/-- LOAD_KEY_BLOB has the common header too: its word 1 is the 16-bit offset with the key wrap id in the upper half -/
theorem encKeyBlob_baseHdr {off : Nat} (ho : off < 65536) (kw : Nat) (d : Bytes) :
    encCmd (.loadKeyBlob off d kw) =
      baseHdr (off + 65536 * kw) d.length Sb31Consts.tagLoadKeyBlob ++ (d ++ zeros (pad16 d.length)) := by
  rw [encKeyBlob_eq, ← List.append_assoc (u16 off), show u16 off ++ u16 kw = _ from leEnc_append 2 2 off kw ho]
  simp only [baseHdr, List.append_assoc]
  rfl

/-- the common header first (`parseCmd_baseHdr`), then the tail of each kind -/
theorem parseCmd_enc (cmd : Cmd) (h : cmd.wf = true) (rest : Bytes) :
    parseCmd (encCmd cmd ++ rest) = .ok (cmd, rest) := by
  cases cmd with
  | progFuses a d =>
    obtain ⟨⟨ha, hd⟩, h4⟩ : (a < 4294967296 ∧ d.length < 4294967296) ∧ d.length % 4 = 0 := by
      simpa [Cmd.wf, Cmd.inRange, isU32] using h
    rw [encCmd, loadLike_none, List.append_assoc, List.append_assoc,
      parseCmd_baseHdr ha (Nat.lt_of_le_of_lt (Nat.div_le_self _ _) hd) (by decide)]
    simp only [parseTail, Sb31Consts.tagProgFuses, Sb31Consts.fuseWordSize, Nat.reduceBEq, Bool.false_eq_true, ↓reduceIte,
      takeData_enc' (4 * (d.length / 4)) d rest (by omega), ok_bind]
    rfl
  | loadKeyBlob o d k =>
    obtain ⟨⟨ho, hk⟩, hd⟩ : (o < 65536 ∧ k < 65536) ∧ d.length < 4294967296 := by
      simpa [Cmd.wf, Cmd.inRange, isU32, isU16] using h
    rw [encKeyBlob_baseHdr ho, List.append_assoc, List.append_assoc, parseCmd_baseHdr (by omega) hd (by decide)]
    simp only [parseTail, Sb31Consts.tagLoadKeyBlob, Nat.reduceBEq, Bool.false_eq_true, ↓reduceIte, takeData_enc,
      Nat.add_mul_mod_self_left, Nat.mod_eq_of_lt ho, Nat.add_mul_div_left _ _ (by decide : 0 < 65536), Nat.div_eq_of_lt ho,
      Nat.zero_add]
    rfl
  | _ =>
    simp only [Cmd.wf, Cmd.inRange, isU32, Bool.and_eq_true, decide_eq_true_eq, Bool.and_true] at h
    simp only [encCmd, loadLike_some, loadLike_none, words4, List.append_assoc, parseCmd_baseHdr, parseTail,
      Sb31Consts.tagErase, Sb31Consts.tagLoad, Sb31Consts.tagExecute, Sb31Consts.tagCall, Sb31Consts.tagProgIfr,
      Sb31Consts.tagLoadCmac, Sb31Consts.tagCopy, Sb31Consts.tagLoadHashLocking, Sb31Consts.tagConfigureMemory,
      Sb31Consts.tagFillMemory, Sb31Consts.tagFwVersionCheck, Sb31Consts.tagReset, Sb31Consts.hashLockTail,
      Nat.reduceBEq, Nat.reduceLT, Bool.false_eq_true, ↓reduceIte, ok_bind, check_true, takeWordRes3_enc, takeData_enc,
      takeU_u32, takeB_bind, zeros_length, allZero_zeros, h]
    rfl

theorem encCmd_length (cmd : Cmd) : (encCmd cmd).length = cmdSize cmd := by
  cases cmd with
  | loadKeyBlob off d kw => rw [encKeyBlob_eq]; simp [cmdSize, a16]; omega
  | _ => simp [encCmd, cmdSize, a16, loadLike_some, loadLike_none, Sb31Consts.hashLockTail] <;> omega

theorem cmdSize_ge (cmd : Cmd) : 16 ≤ cmdSize cmd := by
  cases cmd <;> simp [cmdSize] <;> omega

theorem a16_mod (n : Nat) : a16 n % 16 = 0 := by unfold a16 pad16; omega

theorem cmdSize_mod (cmd : Cmd) : cmdSize cmd % 16 = 0 := by
  cases cmd <;> simp [cmdSize, Nat.add_mod, a16_mod]

theorem cmdBytes_cons (cmd : Cmd) (cs : List Cmd) : cmdBytes (cmd :: cs) = encCmd cmd ++ cmdBytes cs := by
  simp [cmdBytes]

theorem cmdBytes_length_ge (cs : List Cmd) : cs.length ≤ (cmdBytes cs).length := by
  induction cs with
  | nil => simp [cmdBytes]
  | cons c cs ih =>
    rw [cmdBytes_cons, List.length_append, encCmd_length]
    have := cmdSize_ge c
    simp only [List.length_cons]; omega

theorem parseCmds_enc (cs : List Cmd) (h : ∀ c ∈ cs, c.wf = true) :
    ∀ f, cs.length ≤ f → parseCmds f (cmdBytes cs) = .ok cs := by
  induction cs with
  | nil => intro f _; cases f <;> rfl
  | cons c cs ih =>
    intro f hf
    cases f with
    | zero => simp at hf
    | succ f =>
      have hne : (cmdBytes (c :: cs)).isEmpty = false := by
        have := cmdBytes_length_ge (c :: cs)
        cases hb : cmdBytes (c :: cs) with
        | nil => simp [hb] at this
        | cons _ _ => rfl
      rw [parseCmds, hne, cmdBytes_cons]
      simp only [Bool.false_eq_true, if_false, parseCmd_enc c (h c (by simp)), ok_bind,
        ih (fun x hx => h x (by simp [hx])) f (by simpa using hf)]
      rfl

theorem cmdBytes_length (cs : List Cmd) : (cmdBytes cs).length = (cs.map cmdSize).sum := by
  induction cs with
  | nil => simp [cmdBytes]
  | cons c cs ih => rw [cmdBytes_cons, List.length_append, encCmd_length, ih]; simp

theorem cmdStream_length (cs : List Cmd) : (cmdStream cs).length = streamLen cs := by
  simp [cmdStream, sectionHdr, streamLen, cmdBytes_length]; omega

theorem zeroPad_eq (n : Nat) (m : Bytes) : zeroPad n m = m ++ zeros ((n - m.length % n) % n) := rfl

theorem parseStream_enc (cs : List Cmd) (h : ∀ c ∈ cs, c.wf = true) (hlen : (cmdBytes cs).length < 4294967296) :
    parseStream (zeroPad 256 (cmdStream cs)) = .ok cs := by
  rw [zeroPad_eq]
  have hk : (256 - (cmdStream cs).length % 256) % 256 < 256 := Nat.mod_lt _ (by decide)
  generalize (256 - (cmdStream cs).length % 256) % 256 = k at hk
  simp only [cmdStream, sectionHdr, List.append_assoc, parseStream, Sb31Consts.sectionUid, Sb31Consts.sectionType,
    takeU_u32 hlen, takeU_u32 (by decide : 1 < 4294967296), takeU_u32 (by decide : 0 < 4294967296), ok_bind,
    Nat.reduceBEq, Bool.and_self, check_true, takeB_bind (rfl : (cmdBytes cs).length = _), allZero_zeros, zeros_length,
    decide_eq_true hk,
    parseCmds_enc cs h _ (cmdBytes_length_ge cs)]

theorem splitBlocks_length (sz n : Nat) (b : Bytes) : (splitBlocks sz n b).length = n := by
  induction n generalizing b with
  | zero => rfl
  | succ n ih => simp [splitBlocks, ih]

theorem splitBlocks_flatten (sz n : Nat) (b : Bytes) (h : b.length = sz * n) : (splitBlocks sz n b).flatten = b := by
  induction n generalizing b with
  | zero => simp at h; simp [splitBlocks, h]
  | succ n ih =>
    simp only [splitBlocks, List.flatten_cons]
    rw [ih (b.drop sz) (by simp [h, Nat.mul_succ])]
    exact List.take_append_drop sz b

theorem splitBlocks_mem (sz n : Nat) (b : Bytes) (h : b.length = sz * n) : ∀ x ∈ splitBlocks sz n b, x.length = sz := by
  induction n generalizing b with
  | zero => simp [splitBlocks]
  | succ n ih =>
    intro x hx
    simp only [splitBlocks, List.mem_cons] at hx
    rcases hx with rfl | hx
    · simp [h, Nat.mul_succ]
    · exact ih (b.drop sz) (by simp [h, Nat.mul_succ]) x hx

theorem zeroPad256_length (m : Bytes) : (zeroPad 256 m).length = 256 * ((zeroPad 256 m).length / 256) := by
  have := zeroPad_length_mod 256 (by decide) m
  omega

theorem dataBlocks_flatten (total : Bytes) : (dataBlocks total).flatten = zeroPad 256 total :=
  splitBlocks_flatten _ _ _ (zeroPad256_length total)

theorem dataBlocks_mem (total : Bytes) : ∀ x ∈ dataBlocks total, x.length = 256 :=
  splitBlocks_mem _ _ _ (zeroPad256_length total)

theorem dataBlocks_length (total : Bytes) : (dataBlocks total).length = (total.length + 255) / 256 := by
  simp only [dataBlocks, Sb31Consts.chunkLen, splitBlocks_length, zeroPad, List.length_append, zeros_length]
  omega

/-- `kdfData` is translated from the source: both sides are unfolded by name and, for each of the 16 parameter
    values, compared as byte lists around the two variable fields — no assumption on how the translation spells them -/
theorem kdfInput_eq (const rights : Nat) (blk : Bool) (keyBits iter : Nat) (hr : rights < 4)
    (hk : keyBits = 128 ∨ keyBits = 256) :
    kdfInput const rights blk keyBits iter =
      Sb31Consts.kdfData const rights (if blk then Sb31Consts.kdfModeBlk else Sb31Consts.kdfModeKdk) keyBits iter := by
  have hr' : rights = 0 ∨ rights = 1 ∨ rights = 2 ∨ rights = 3 := by omega
  simp only [kdfInput, Sb31Consts.kdfData, List.append_assoc]
  generalize leEnc 12 const = label
  generalize beEnc 4 iter = counter
  rcases hr' with rfl | rfl | rfl | rfl <;> rcases hk with rfl | rfl <;> cases blk <;> rfl

theorem kdf_eq (c : CryptoOps) (key : Bytes) (const rights : Nat) (blk : Bool) (keyBits : Nat) (hr : rights < 4)
    (hk : keyBits = 128 ∨ keyBits = 256) :
    kdf c key const rights blk keyBits =
      deriveKey c key const rights (if blk then Sb31Consts.kdfModeBlk else Sb31Consts.kdfModeKdk) keyBits := by
  have e1 := kdfInput_eq const rights blk keyBits 1 hr hk
  have e2 := kdfInput_eq const rights blk keyBits 2 hr hk
  rcases hk with rfl | rfl <;>
    simp [kdf, deriveKey, Sb31Consts.kdfIterationsFor, List.find?, List.flatMap, e1, e2]

theorem encPayload_length {c : CryptoOps} (hc : CryptoLaws c) (s : ObjState) (j : Nat) (b : Bytes) (hb : b.length = 256) :
    (encPayload c s j b).length = 256 := by
  unfold encPayload
  split
  · rw [cbcEnc_length hc, zeroPad16, zeroPad_of_aligned 16 b (by omega), hb]
  · exact hb

theorem keyBitsOf_cases (hl : Nat) : keyBitsOf hl = 128 ∨ keyBitsOf hl = 256 := by
  unfold keyBitsOf; split <;> simp

/-- the device decrypts block `j` with the key the exporter encrypted it with -/
theorem decFn_encPayload {c : CryptoOps} (hc : CryptoLaws c) (s : ObjState) (hg : Good c s) (dev : Dev)
    (hpck : dev.pck = s.cfg.pck) (hr : dev.rights = s.cfg.rights) (he : dev.encrypted = s.cfg.encrypted)
    (j : Nat) (b : Bytes) (hb : b.length = 256) :
    decFn c dev s.cfg.timestamp s.cfg.hashLen j (encPayload c s j b) = b := by
  unfold decFn encPayload
  simp only [he]
  cases henc : s.cfg.encrypted with
  | false => simp
  | true =>
    have hr4 := hg.rights henc
    simp only [if_true, hpck, hr]
    rw [kdf_eq c _ _ _ false _ hr4 (keyBitsOf_cases _), kdf_eq c _ _ _ true _ hr4 (keyBitsOf_cases _)]
    simp only [Bool.false_eq_true, if_false, if_true, blockKey, deriveVia, Sb31Consts.blkCall, hg.kdk henc, hg.keyLen]
    rw [zeroPad16, zeroPad_of_aligned 16 b (by omega)]
    exact cbc_inv hc _ _ b (by simp) (by omega)

theorem algOfCoord_size {hl : Nat} (h : hl = 32 ∨ hl = 48) : (algOfCoord hl).size = hl := by
  rcases h with rfl | rfl <;> rfl

theorem hashAlgOf_eq (hl : Nat) : hashAlgOf hl = algOfCoord hl := rfl

section chain
variable {c : CryptoOps} (hc : CryptoLaws c) (s : ObjState) (hhl : s.cfg.hashLen = 32 ∨ s.cfg.hashLen = 48)
include hc hhl

theorem buildChain_fst_length {start : Bytes} (hs : start.length = s.cfg.hashLen) (i : Nat) (blocks : List Bytes) :
    (buildChain c s start i blocks).1.length = s.cfg.hashLen := by
  cases blocks with
  | nil => exact hs
  | cons b bs => simp only [buildChain, hc.hash_len, hashAlgOf_eq, algOfCoord_size hhl]

theorem buildChain_block_length {start : Bytes} (hs : start.length = s.cfg.hashLen) :
    ∀ (blocks : List Bytes) (i : Nat), (∀ b ∈ blocks, b.length = 256) →
      ∀ x ∈ (buildChain c s start i blocks).2, x.length = 4 + s.cfg.hashLen + 256 := by
  intro blocks
  induction blocks with
  | nil => intro i _ x hx; simp [buildChain] at hx
  | cons b bs ih =>
    intro i hb x hx
    simp only [buildChain, List.mem_cons] at hx
    rcases hx with rfl | hx
    · simp only [fullBlock, List.length_append, u32_length, buildChain_fst_length hc s hhl hs,
        encPayload_length hc s i b (hb b (by simp))]
    · exact ih (i + 1) (fun y hy => hb y (by simp [hy])) x hx
end chain

theorem buildChain_chained {c : CryptoOps} (hc : CryptoLaws c) (s : ObjState) (hhl : s.cfg.hashLen = 32 ∨ s.cfg.hashLen = 48) :
    ∀ (blocks : List Bytes) (i : Nat), (∀ b ∈ blocks, b.length = 256) →
      Chained c (algOfCoord s.cfg.hashLen) s.cfg.hashLen i
        (buildChain c s (zeros s.cfg.hashLen) i blocks).1 (buildChain c s (zeros s.cfg.hashLen) i blocks).2 := by
  intro blocks
  induction blocks with
  | nil => intro i _; exact Chained.last i
  | cons b bs ih =>
    intro i hb
    simp only [buildChain, fullBlock, List.append_assoc, hashAlgOf_eq]
    exact Chained.block i _ _ _ (buildChain_fst_length hc s hhl (zeros_length _) _ _)
      (encPayload_length hc s i b (hb b (by simp))) (ih (i + 1) (fun y hy => hb y (by simp [hy])))

theorem buildChain_length (c : CryptoOps) (s : ObjState) (start : Bytes) :
    ∀ (blocks : List Bytes) (i : Nat), (buildChain c s start i blocks).2.length = blocks.length := by
  intro blocks
  induction blocks with
  | nil => intro i; rfl
  | cons b bs ih => intro i; simp [buildChain, ih]

theorem flatten_length_const (l : List Bytes) (n : Nat) (h : ∀ x ∈ l, x.length = n) : l.flatten.length = l.length * n := by
  induction l with
  | nil => simp
  | cons x xs ih =>
    simp only [List.flatten_cons, List.length_append, List.length_cons]
    rw [ih (fun y hy => h y (by simp [hy])), h x (by simp), Nat.succ_mul]; omega

/-- the forward walk of the loader over the chain built backwards by the exporter returns the plaintext -/
theorem walk_buildChain {c : CryptoOps} (hc : CryptoLaws c) (s : ObjState) (hhl : s.cfg.hashLen = 32 ∨ s.cfg.hashLen = 48)
    (dec : Nat → Bytes → Bytes) (hdec : ∀ j b, b.length = 256 → dec j (encPayload c s j b) = b) :
    ∀ (blocks : List Bytes) (i : Nat), (∀ b ∈ blocks, b.length = 256) → i + blocks.length ≤ 4294967296 →
      walk c (algOfCoord s.cfg.hashLen) s.cfg.hashLen dec blocks.length i (buildChain c s (zeros s.cfg.hashLen) i blocks).1
        (buildChain c s (zeros s.cfg.hashLen) i blocks).2.flatten = .ok blocks.flatten := by
  intro blocks
  induction blocks with
  | nil => intro i _ _; simp [buildChain, walk, check_true, ok_bind, pure, Except.pure]
  | cons b bs ih =>
    intro i hb hi
    have hb0 : b.length = 256 := hb b (by simp)
    have hfl := buildChain_fst_length hc s hhl (zeros_length _) (i + 1) bs
    simp only [List.length_cons] at hi
    simp only [buildChain, List.flatten_cons, List.length_cons, walk, fullBlock, List.append_assoc]
    rw [← List.append_assoc (u32 i), ← List.append_assoc (u32 i ++ _),
      takeB_bind (by simp only [List.length_append, u32_length, hfl, encPayload_length hc s i b hb0])]
    simp only [ok_bind, hashAlgOf_eq, beq_self_eq_true, check_true, List.append_assoc, takeU_u32 (show i < _ by omega),
      takeB_append _ _ _ hfl, ih (i + 1) (fun y hy => hb y (by simp [hy])) (by omega), hdec i b hb0]
    rfl

theorem parseHeader_enc (h : Header) (wf : HeaderWF h) (rest : Bytes) :
    parseHeader (encHeader h ++ rest) = .ok (h, rest) := by
  simp only [encHeader, List.append_assoc, parseHeader, Sb31Consts.hdrMagic, Sb31Consts.hdrVersionMajor,
    Sb31Consts.hdrVersionMinor]
  rw [takeB_bind (by rfl)]
  simp only [ok_bind, beq_self_eq_true, check_true]
  rw [takeU_u16 (by decide), takeU_u16 (by decide)]
  simp only [ok_bind, Nat.reduceBEq, Bool.and_self, check_true]
  rw [takeU_u32 wf.flags, takeU_u32 wf.blockCount, takeU_u32 wf.blockSize, takeU_u64 wf.timestamp, takeU_u32 wf.fwVersion,
    takeU_u32 wf.totalLength, takeU_u32 wf.imageType, takeU_u32 wf.certOffset, takeB_bind wf.description]
  rfl

theorem adjustDesc_length (d : Bytes) : (adjustDesc d).length = 16 := by
  simp [adjustDesc, Sb31Consts.descLen]; omega

theorem encHeader_length (h : Header) (hd : h.description.length = 16) : (encHeader h).length = 60 := by
  simp [encHeader, Sb31Consts.hdrMagic, hd]

theorem parseBlock0_gen (c : CryptoOps) (rotkh : Bytes) (H : Header) (hwf : HeaderWF H) (hl : Nat)
    (hhl : hl = 32 ∨ hl = 48) (hbs : H.blockSize = 260 + hl) (hco : H.certOffset = 60 + hl)
    (hit : H.imageType = 6 ∨ H.imageType = 7) (hbc : 1 ≤ H.blockCount)
    (h1 cert sig data : Bytes) (hh1 : h1.length = hl) (htot : H.totalLength = 60 + hl + cert.length + 2 * hl)
    (hsig : sig.length = 2 * hl) (ci : CertInfo) (obs : List SigOb) (hcert : romCert c rotkh cert = .ok (ci, obs))
    (hcoord : ci.coord = hl)
    (hver : c.verify (.ecdsa (algOfCoord hl)) ci.signPub (encHeader H ++ (h1 ++ cert)) sig = true) :
    parseBlock0 c rotkh (encHeader H ++ (h1 ++ (cert ++ (sig ++ data)))) =
      if data.length = H.blockCount * H.blockSize
      then .ok ⟨H, hl, h1, obs ++ [⟨hl, ci.signPub, encHeader H ++ (h1 ++ cert), sig⟩], data⟩
      else .error .fileLength := by
  have hsl : H.totalLength - 2 * hl = 60 + hl + cert.length := by rw [htot, Nat.add_sub_cancel]
  have htake : (encHeader H ++ (h1 ++ (cert ++ (sig ++ data)))).take (60 + hl + cert.length) = encHeader H ++ (h1 ++ cert) := by
    rw [← List.append_assoc h1, ← List.append_assoc]
    exact List.take_left' (by simp only [List.length_append, encHeader_length H hwf.description, hh1, Nat.add_assoc])
  have hhlv : hashLenOfBlockSize H.blockSize = .ok hl := by
    rcases hhl with rfl | rfl <;> rw [hashLenOfBlockSize, hbs] <;> rfl
  have hc2 : (H.imageType == 6 || H.imageType == 7) = true := by rcases hit with h | h <;> rw [h] <;> rfl
  have hle : 60 + hl + 2 * hl ≤ H.totalLength := htot ▸ Nat.add_le_add_right (Nat.le_add_right _ _) _
  simp only [parseBlock0]
  rw [parseHeader_enc H hwf, ok_bind]
  dsimp only
  rw [hhlv, ok_bind, hco, beq_self_eq_true, check_true, ok_bind, hc2, check_true, ok_bind, decide_eq_true hbc, check_true, ok_bind,
    takeB_bind hh1, decide_eq_true hle, check_true, ok_bind, hsl, Nat.add_sub_cancel_left, takeB_bind rfl, takeB_bind hsig,
    hcert, ok_bind, hcoord, beq_self_eq_true, check_true, ok_bind, htake, hver, check_true, ok_bind]
  by_cases hd : data.length = H.blockCount * H.blockSize <;> simp only [hd, beq_self_eq_true, beq_iff_eq, check, if_true, if_false] <;> rfl

/-- `update()` recomputes the length of block 0 from scratch: no dependence on the value left by an earlier export.
    (Generated from the source; an accumulating `+=` makes this lemma, and everything below, fail.) -/
theorem updTotalLength_eq (old h cert : Nat) : Sb31Consts.updTotalLength old h cert = 60 + h + cert + 2 * h := by
  simp only [Sb31Consts.updTotalLength] <;> omega

/-- the chain of every export starts from the all-zero hash, not from the hash left by an earlier export -/
theorem chainStartHash_eq (old : Bytes) (h : Nat) : Sb31Consts.chainStartHash old h = zeros h := rfl

/-- the per-hash-length layout functions (generated by executing the properties for both hash lengths) -/
theorem layout_eq (h : Nat) (hh : h = 32 ∨ h = 48) :
    Sb31Consts.certBlockOffset h = 60 + h ∧ Sb31Consts.blockSize h = 260 + h := by
  rcases hh with rfl | rfl <;> exact ⟨by decide, by decide⟩

theorem headerOf_eq (s : ObjState) (hh : s.cfg.hashLen = 32 ∨ s.cfg.hashLen = 48) :
    headerOf s (dataBlocks (cmdStream s.cmds)).length
      (Sb31Consts.updTotalLength s.totalLength s.cfg.hashLen s.cfg.cert.length) = hdrSpec s := by
  have hl := layout_eq _ hh
  have hi : (if s.cfg.isNxp then Sb31Consts.imageTypeNxp else Sb31Consts.imageTypeOem) = if s.cfg.isNxp then 7 else 6 := by
    cases s.cfg.isNxp <;> decide
  unfold headerOf hdrSpec
  rw [hl.1, hl.2, hi, dataBlocks_length, cmdStream_length, updTotalLength_eq]

theorem exportSb_bytes (c : CryptoOps) (s : ObjState) (r : Rand) (hh : s.cfg.hashLen = 32 ∨ s.cfg.hashLen = 48) :
    (exportSb c s r).2 = signedOf c s ++ (sigOf c s r ++ (chainOf c s).2.flatten) := by
  simp only [exportSb, headerOf_eq s hh, chainStartHash_eq, sigOf, signedOf, chainOf, List.append_assoc]

theorem exportSb_state (c : CryptoOps) (s : ObjState) (r : Rand) :
    (exportSb c s r).1.cfg = s.cfg ∧ (exportSb c s r).1.cmds = s.cmds ∧ (exportSb c s r).1.keyLen = s.keyLen ∧
    (exportSb c s r).1.kdk = s.kdk := ⟨rfl, rfl, rfl, rfl⟩

theorem streamLen_eq (cs : List Cmd) : streamLen cs = 16 + (cmdBytes cs).length := by
  simp [streamLen, cmdBytes_length]

theorem hdrSpec_wf {c : CryptoOps} (s : ObjState) (hg : Good c s) (wf : StateWF c s) : HeaderWF (hdrSpec s) := by
  have hsz := wf.size
  have hcert := wf.cert
  have := streamLen_eq s.cmds
  have hle : s.cfg.hashLen ≤ 48 := by rcases hg.hl with h | h <;> omega
  exact ⟨wf.flags, by simp only [hdrSpec]; omega, by simp only [hdrSpec]; omega, wf.timestamp, wf.fwVersion,
    by simp only [hdrSpec]; omega, by simp only [hdrSpec]; split <;> omega, by simp only [hdrSpec]; omega,
    adjustDesc_length _⟩

theorem chainOf_length (c : CryptoOps) (s : ObjState) : (chainOf c s).2.length = (hdrSpec s).blockCount := by
  rw [chainOf, buildChain_length, dataBlocks_length, cmdStream_length]; rfl

section exported
variable {c : CryptoOps} (hc : CryptoLaws c) (s : ObjState) (hg : Good c s)
include hc hg

theorem chainOf_fst_length : (chainOf c s).1.length = s.cfg.hashLen :=
  buildChain_fst_length hc s hg.hl (zeros_length _) _ _

theorem chainOf_flatten_length : (chainOf c s).2.flatten.length = (hdrSpec s).blockCount * (hdrSpec s).blockSize := by
  have hb : ∀ x ∈ (chainOf c s).2, x.length = 4 + s.cfg.hashLen + 256 :=
    buildChain_block_length hc s hg.hl (zeros_length _) _ 1 (dataBlocks_mem _)
  rw [flatten_length_const _ _ hb, chainOf_length, Nat.add_right_comm]; rfl

variable (wf : StateWF c s) (dev : Dev) (obs : List SigOb) (hd : DevOK c dev s obs) (r : Rand)
include wf hd

/-- block 0 of an export, followed by any data of the announced length, is accepted: certificate block against the fuses,
    container signature over the signed range -/
theorem parseBlock0_export (data : Bytes) :
    parseBlock0 c dev.rotkh (signedOf c s ++ (sigOf c s r ++ data)) =
      if data.length = (hdrSpec s).blockCount * (hdrSpec s).blockSize
      then .ok ⟨hdrSpec s, s.cfg.hashLen, (chainOf c s).1,
        obs ++ [⟨s.cfg.hashLen, c.pubOf s.cfg.sk, signedOf c s, sigOf c s r⟩], data⟩
      else .error .fileLength := by
  have h := parseBlock0_gen c dev.rotkh (hdrSpec s) (hdrSpec_wf s hg wf) s.cfg.hashLen hg.hl rfl rfl
    (by simp only [hdrSpec]; split <;> simp) (by simp only [hdrSpec, streamLen]; omega) (chainOf c s).1 s.cfg.cert (sigOf c s r) data
    (chainOf_fst_length hc s hg) rfl (wf.sigLen _ _) _ obs hd.cert rfl (hc.verify_sign _ _ _ _)
  simpa only [signedOf, List.append_assoc] using h

theorem walk_export :
    walk c (algOfCoord s.cfg.hashLen) s.cfg.hashLen (decFn c dev (hdrSpec s).timestamp s.cfg.hashLen) (hdrSpec s).blockCount 1
      (chainOf c s).1 (chainOf c s).2.flatten = .ok (zeroPad 256 (cmdStream s.cmds)) := by
  have h := walk_buildChain hc s hg.hl (decFn c dev s.cfg.timestamp s.cfg.hashLen)
    (decFn_encPayload hc s hg dev hd.pck hd.rights hd.encrypted) (dataBlocks (cmdStream s.cmds)) 1 (dataBlocks_mem _)
    (by rw [dataBlocks_length, cmdStream_length, streamLen_eq]; have := wf.size; omega)
  rwa [dataBlocks_length, cmdStream_length, dataBlocks_flatten] at h

end exported

theorem export_length {c : CryptoOps} (hc : CryptoLaws c) (s : ObjState) (hg : Good c s) (wf : StateWF c s) (r : Rand) :
    (exportSb c s r).2.length = (hdrSpec s).totalLength + (hdrSpec s).blockCount * (hdrSpec s).blockSize := by
  have hH : (encHeader (hdrSpec s)).length = 60 := encHeader_length _ (adjustDesc_length _)
  rw [exportSb_bytes _ _ _ hg.hl, ← List.append_assoc, List.length_append, chainOf_flatten_length hc s hg]
  simp only [signedOf, List.length_append, hH, chainOf_fst_length hc s hg, sigOf, wf.sigLen]
  simp only [hdrSpec]
  omega

theorem tiles_append (a m b : Nat) (l₁ l₂ : List (Nat × Nat)) (h₁ : Tiles a l₁ m) (h₂ : Tiles m l₂ b) : Tiles a (l₁ ++ l₂) b := by
  induction l₁ generalizing a with
  | nil => simp only [Tiles] at h₁; subst h₁; simpa using h₂
  | cons p ps ih => exact ⟨h₁.1, ih _ h₁.2⟩

theorem tiles_blocks (a bs : Nat) : ∀ n, Tiles a ((List.range n).map (fun i => (a + i * bs, bs))) (a + n * bs) := by
  intro n
  induction n with
  | zero => simp [Tiles]
  | succ n ih =>
    rw [List.range_succ, List.map_append]
    refine tiles_append _ _ _ _ _ ih ?_
    simp [Tiles, Nat.succ_mul]; omega

theorem tiles_cover (l : List (Nat × Nat)) : ∀ a b, Tiles a l b → ∀ j, a ≤ j → j < b → ∃ p ∈ l, p.1 ≤ j ∧ j < p.1 + p.2 := by
  induction l with
  | nil => intro a b h j h1 h2; simp only [Tiles] at h; omega
  | cons p ps ih =>
    intro a b h j h1 h2
    by_cases hj : j < a + p.2
    · exact ⟨p, by simp, by have := h.1; omega, by have := h.1; omega⟩
    · obtain ⟨q, hq, hq1, hq2⟩ := ih _ _ h.2 j (by omega) h2
      exact ⟨q, by simp [hq], hq1, hq2⟩

theorem step_frame (c : CryptoOps) (s : ObjState) (op : Op) :
    (step c s op).cfg = s.cfg ∧ (step c s op).keyLen = s.keyLen ∧ (step c s op).kdk = s.kdk ∧
    (step c s op).cmds = s.cmds ++ addsOf [op] := by
  cases op <;> simp [step, addCmd, exportSb, addsOf]

theorem addsOf_cons (op : Op) (ops : List Op) : addsOf (op :: ops) = addsOf [op] ++ addsOf ops := by
  cases op <;> simp [addsOf]

theorem run_frame (c : CryptoOps) (ops : List Op) : ∀ (s : ObjState),
    (run c s ops).cfg = s.cfg ∧ (run c s ops).keyLen = s.keyLen ∧ (run c s ops).kdk = s.kdk ∧
    (run c s ops).cmds = s.cmds ++ addsOf ops := by
  induction ops with
  | nil => intro s; simp [run, addsOf]
  | cons op ops ih =>
    intro s
    have h1 := step_frame c s op
    have h2 := ih (step c s op)
    simp only [run, List.foldl_cons] at h2 ⊢
    rw [addsOf_cons]
    refine ⟨h2.1.trans h1.1, h2.2.1.trans h1.2.1, h2.2.2.1.trans h1.2.2.1, ?_⟩
    rw [h2.2.2.2, h1.2.2.2, List.append_assoc]

/-- the invariants speak of the configuration and the derived keys only -/
theorem good_of_frame {c : CryptoOps} (s s' : ObjState) (hg : Good c s) (h1 : s'.cfg = s.cfg) (h2 : s'.keyLen = s.keyLen)
    (h3 : s'.kdk = s.kdk) : Good c s' :=
  ⟨h1 ▸ hg.hl, h1 ▸ h2 ▸ hg.keyLen, h1 ▸ hg.rights, h1 ▸ h2 ▸ h3 ▸ hg.kdk⟩

theorem run_good {c : CryptoOps} (s : ObjState) (hg : Good c s) (ops : List Op) : Good c (run c s ops) :=
  let h := run_frame c ops s
  good_of_frame s _ hg h.1 h.2.1 h.2.2.1

theorem takeB_ok {n : Nat} {b x r : Bytes} (h : takeB n b = .ok (x, r)) : b = x ++ r ∧ x.length = n := by
  unfold takeB at h
  split at h
  · injection h with h; injection h with h1 h2
    subst h1; subst h2
    exact ⟨(List.take_append_drop n b).symm, by simp; omega⟩
  · cases h

theorem takeU_ok {n : Nat} {b r : Bytes} {v : Nat} (h : takeU n b = .ok (v, r)) : b = b.take n ++ r ∧ v = leDec (b.take n) := by
  unfold takeU at h
  split at h
  · injection h with h; injection h with h1 h2
    subst h1; subst h2
    exact ⟨(List.take_append_drop n b).symm, rfl⟩
  · cases h

/-- `r` is what is left of `b` after a prefix of `n` bytes -/
def Takes (n : Nat) (b r : Bytes) : Prop := ∃ x, b = x ++ r ∧ x.length = n

theorem Takes.trans {n m : Nat} {b r r' : Bytes} (h₁ : Takes n b r) (h₂ : Takes m r r') : Takes (n + m) b r' := by
  obtain ⟨x, rfl, rfl⟩ := h₁
  obtain ⟨y, rfl, rfl⟩ := h₂
  exact ⟨x ++ y, (List.append_assoc ..).symm, List.length_append⟩

theorem Takes.length {n : Nat} {b r : Bytes} (h : Takes n b r) : r.length + n = b.length := by
  obtain ⟨x, rfl, rfl⟩ := h
  rw [List.length_append, Nat.add_comm]

theorem takeB_takes {n : Nat} {b x r : Bytes} (h : takeB n b = .ok (x, r)) : Takes n b r := ⟨x, takeB_ok h⟩

theorem takeU_takes {n : Nat} {b r : Bytes} {v : Nat} (h : takeU n b = .ok (v, r)) : Takes n b r := by
  unfold takeU at h
  split at h
  · injection h with h; injection h with _ h2
    subst h2
    exact ⟨b.take n, (List.take_append_drop n b).symm, by simp; omega⟩
  · cases h

theorem check_ok {b : Bool} {e : RomErr} (h : check b e = .ok ()) : b = true := by
  unfold check at h; split at h <;> simp_all

theorem bind_ok {α β : Type} {x : R α} {f : α → R β} {b : β} :
    (x >>= f) = .ok b ↔ ∃ a, x = .ok a ∧ f a = .ok b := by
  cases x <;> simp [bind, Except.bind]

theorem walk_binding (c : CryptoOps) (alg : HashAlg) (hl : Nat) (dec : Nat → Bytes → Bytes) :
    ∀ (k i : Nat) (expected rest₁ rest₂ out₁ out₂ : Bytes),
      walk c alg hl dec k i expected rest₁ = .ok out₁ → walk c alg hl dec k i expected rest₂ = .ok out₂ →
      rest₁ = rest₂ ∨ Break c := by
  intro k
  induction k with
  | zero =>
    intro i expected rest₁ rest₂ out₁ out₂ h₁ h₂
    simp only [walk, bind_ok] at h₁ h₂
    obtain ⟨_, _, _, a, _⟩ := h₁
    obtain ⟨_, _, _, b, _⟩ := h₂
    have a := check_ok a
    have b := check_ok b
    left
    simp only [List.isEmpty_iff] at a b
    rw [a, b]
  | succ k ih =>
    intro i expected rest₁ rest₂ out₁ out₂ h₁ h₂
    simp only [walk, bind_ok] at h₁ h₂
    obtain ⟨⟨blk₁, r₁⟩, t₁, _, hh₁, ⟨num₁, b₁⟩, u₁, _, _, ⟨next₁, pay₁⟩, n₁, more₁, w₁, _⟩ := h₁
    obtain ⟨⟨blk₂, r₂⟩, t₂, _, hh₂, ⟨num₂, b₂⟩, u₂, _, _, ⟨next₂, pay₂⟩, n₂, more₂, w₂, _⟩ := h₂
    have e₁ := takeB_ok t₁
    have e₂ := takeB_ok t₂
    have hh₁ := check_ok hh₁
    have hh₂ := check_ok hh₂
    simp only [beq_iff_eq] at hh₁ hh₂
    by_cases hb : blk₁ = blk₂
    · subst hb
      have hu : (num₁, b₁) = (num₂, b₂) := by
        have := u₁.symm.trans u₂; injection this
      injection hu with _ hb'
      subst hb'
      have hn : (next₁, pay₁) = (next₂, pay₂) := by
        have := n₁.symm.trans n₂; injection this
      injection hn with hn' _
      subst hn'
      rcases ih (i + 1) next₁ r₁ r₂ more₁ more₂ w₁ w₂ with h | h
      · left; rw [e₁.1, e₂.1, h]
      · right; exact h
    · right
      exact Break.collision alg blk₁ blk₂ hb (hh₁.trans hh₂.symm)

theorem parseHeader_inv (file b : Bytes) (hdr : Header) (h : parseHeader file = .ok (hdr, b)) :
    ∃ p, file = p ++ b ∧ p.length = 60 := by
  unfold parseHeader at h
  simp only [bind_ok] at h
  obtain ⟨⟨m1, b1⟩, t1, _, _, ⟨_, b2⟩, t2, ⟨_, b3⟩, t3, _, _, ⟨_, b4⟩, t4, ⟨_, b5⟩, t5, ⟨_, b6⟩, t6, ⟨_, b7⟩, t7,
    ⟨_, b8⟩, t8, ⟨_, b9⟩, t9, ⟨_, b10⟩, t10, ⟨_, b11⟩, t11, ⟨d12, b12⟩, t12, hp⟩ := h
  dsimp only at t1 t2 t3 t4 t5 t6 t7 t8 t9 t10 t11 t12 hp
  cases hp
  exact (takeB_takes t1).trans <| (takeU_takes t2).trans <| (takeU_takes t3).trans <| (takeU_takes t4).trans <|
    (takeU_takes t5).trans <| (takeU_takes t6).trans <| (takeU_takes t7).trans <| (takeU_takes t8).trans <|
    (takeU_takes t9).trans <| (takeU_takes t10).trans <| (takeU_takes t11).trans (takeB_takes t12)

/-- what an accepted block 0 looks like: 60 header bytes, the hash of block 1, a certificate block the loader accepted against the fused
    root-of-trust hash and that names the key of the container signature, the signature, then exactly `blockCount · blockSize` bytes -/
theorem parseBlock0_inv_cert (c : CryptoOps) (rotkh file : Bytes) (b0 : Block0) (h : parseBlock0 c rotkh file = .ok b0) :
    ∃ (p h1 cert sig : Bytes) (ci : CertInfo) (obs : List SigOb),
      file = p ++ (h1 ++ (cert ++ (sig ++ b0.rest))) ∧ p.length = 60 ∧ h1.length = b0.hl ∧ sig.length = 2 * b0.hl ∧
      60 + b0.hl + cert.length + 2 * b0.hl = b0.hdr.totalLength ∧
      romCert c rotkh cert = .ok (ci, obs) ∧ ci.coord = b0.hl ∧
      b0.obs = obs ++ [⟨b0.hl, ci.signPub, p ++ (h1 ++ cert), sig⟩] ∧
      c.verify (.ecdsa (algOfCoord b0.hl)) ci.signPub (p ++ (h1 ++ cert)) sig = true ∧
      b0.rest.length = b0.hdr.blockCount * b0.hdr.blockSize ∧
      (∃ b, parseHeader file = .ok (b0.hdr, b)) := by
  unfold parseBlock0 at h
  simp only [bind_ok] at h
  obtain ⟨⟨hdr, b⟩, hh, hl, _, _, _, _, _, _, _, ⟨h1, b1⟩, th1, _, htl, ⟨cert, b2⟩, tc, ⟨sig, b3⟩, hs, ⟨ci, obs⟩, hrc, _, hco,
    _, hv, _, hfl, hp⟩ := h
  dsimp only at th1 tc hs htl hv hp hrc hco hfl
  have hv := check_ok hv
  have htl := check_ok htl
  have hco := check_ok hco
  have hfl := check_ok hfl
  simp only [decide_eq_true_eq] at htl
  simp only [beq_iff_eq] at hco hfl
  have hs := takeB_ok hs
  have tc := takeB_ok tc
  have th1 := takeB_ok th1
  obtain ⟨p, hp60, lp⟩ := parseHeader_inv _ _ _ hh
  cases hp
  dsimp only
  have e : file = p ++ (h1 ++ (cert ++ (sig ++ b3))) := by
    rw [hp60, th1.1, tc.1, hs.1]
  have htot : 60 + hl + cert.length + 2 * hl = hdr.totalLength := by rw [tc.2]; omega
  have ht : file.take (hdr.totalLength - 2 * hl) = p ++ (h1 ++ cert) := by
    rw [e, ← List.append_assoc h1, ← List.append_assoc, ← htot, Nat.add_sub_cancel]
    exact List.take_left' (by simp only [List.length_append, lp, th1.2, Nat.add_assoc])
  rw [ht] at hv
  exact ⟨p, h1, cert, sig, ci, obs, e, lp, th1.2, hs.2, htot, hrc, hco, by rw [ht], hv, hfl, ⟨b, hh⟩⟩

theorem romLoad_inv (c : CryptoOps) (dev : Dev) (file : Bytes) (res : RomOk) (h : romLoad c dev file = .ok res) :
    ∃ b0, parseBlock0 c dev.rotkh file = .ok b0 ∧ res.hdr = b0.hdr ∧ res.obligations = b0.obs := by
  unfold romLoad at h
  simp only [bind_ok] at h
  obtain ⟨b0, hb, _, _, _, _, hp⟩ := h
  cases hp
  exact ⟨b0, hb, rfl, rfl⟩

/-- the derivation input determines the derivation constant (its first 12 bytes are the constant, little endian) -/
theorem kdfInput_inj_const (n m rights : Nat) (blk : Bool) (keyBits iter : Nat) (hn : n < 256 ^ 12) (hm : m < 256 ^ 12)
    (h : kdfInput n rights blk keyBits iter = kdfInput m rights blk keyBits iter) : n = m := by
  have h12 := congrArg (fun l => leDec (l.take 12)) h
  simp only [kdfInput, List.append_assoc] at h12
  rw [List.take_left' (leEnc_length 12 n), List.take_left' (leEnc_length 12 m), leDec_leEnc _ _ hn, leDec_leEnc _ _ hm] at h12
  exact h12

/-- the derivation input determines the access rights (byte 20 = rights · 64) -/
theorem kdfInput_inj_rights (n r₁ r₂ : Nat) (blk : Bool) (keyBits iter : Nat) (h₁ : r₁ < 4) (h₂ : r₂ < 4)
    (h : kdfInput n r₁ blk keyBits iter = kdfInput n r₂ blk keyBits iter) : r₁ = r₂ := by
  have hb := congrArg (fun l => ((l.drop 20).head?.map UInt8.toNat)) h
  simp only [kdfInput, List.append_assoc] at hb
  rw [← List.append_assoc, ← List.append_assoc (leEnc 12 n), List.drop_left' (by simp [leEnc_length]),
    List.drop_left' (by simp [leEnc_length])] at hb
  simp only [List.cons_append, List.head?_cons, Option.map_some, Option.some.injEq, UInt8.toNat_ofNat'] at hb
  omega

/-- the first CMAC block of each key is the CMAC of its input with counter 1 -/
theorem kdf_sep {c : CryptoOps} (hc : CryptoLaws c) (key : Bytes) (a₁ a₂ r₁ r₂ : Nat) (blk : Bool) (keyBits : Nat)
    (h : kdf c key a₁ r₁ blk keyBits = kdf c key a₂ r₂ blk keyBits) :
    kdfInput a₁ r₁ blk keyBits 1 = kdfInput a₂ r₂ blk keyBits 1 ∨ Break c := by
  by_cases e : kdfInput a₁ r₁ blk keyBits 1 = kdfInput a₂ r₂ blk keyBits 1
  · exact .inl e
  · simp only [kdf] at h
    exact .inr (Break.cmacForgery key _ _ e (List.append_inj_left h (by rw [cmac_length hc, cmac_length hc])))

section steps
variable {α β : Type} {out : β} {rest b : Bytes}

/-- the reader leaves no more than it was given -/
def Shrinks (p : Bytes → R (α × Bytes)) : Prop := ∀ {b : Bytes} {a : α} {r : Bytes}, p b = .ok (a, r) → r.length ≤ b.length

/-- a parser that starts with a shrinking reader: what remains after the whole parser is at most what remains after
    the reader (continuation-passing, so that it follows the `do` block it is applied to) -/
theorem Shrinks.step {p : Bytes → R (α × Bytes)} (hp : Shrinks p) {f : α × Bytes → R (β × Bytes)}
    (h : (p b >>= f) = .ok (out, rest))
    (k : ∀ v b1, b1.length ≤ b.length → f (v, b1) = .ok (out, rest) → rest.length ≤ b1.length) : rest.length ≤ b.length := by
  obtain ⟨⟨v, b1⟩, t, hf⟩ := bind_ok.mp h
  exact Nat.le_trans (k v b1 (hp t) hf) (hp t)

theorem step_C {c : Bool} {e : RomErr} {f : Unit → R (β × Bytes)} (h : (check c e >>= f) = .ok (out, rest))
    (k : f () = .ok (out, rest) → rest.length ≤ b.length) : rest.length ≤ b.length := by
  obtain ⟨_, _, hf⟩ := bind_ok.mp h
  exact k hf

theorem step_P {x : β} (h : (pure (x, b) : R (β × Bytes)) = .ok (out, rest)) : rest.length ≤ b.length := by
  cases h; exact Nat.le_refl _

theorem shrU {n : Nat} : Shrinks (takeU n) := fun h => Nat.le.intro (takeU_takes h).length
theorem shrB {n : Nat} : Shrinks (takeB n) := fun h => Nat.le.intro (takeB_takes h).length
theorem shrD {n : Nat} : Shrinks (takeData n) :=
  fun h => shrB.step h fun _ _ _ h => shrB.step h fun _ _ _ h => step_C h step_P
theorem shrW : Shrinks takeWordRes3 :=
  fun h => shrU.step h fun _ _ _ h => shrB.step h fun _ _ _ h => step_C h step_P
end steps

theorem ite_ok {p Q : Prop} [Decidable p] {x y : R α} {v : α} (h : (if p then x else y) = .ok v)
    (hx : x = .ok v → Q) (hy : y = .ok v → Q) : Q := by
  split at h
  · exact hx h
  · exact hy h

theorem parseTail_len (tag w1 w2 : Nat) (b rest : Bytes) (cmd : Cmd) (h : parseTail tag w1 w2 b = .ok (cmd, rest)) :
    rest.length ≤ b.length := by
  unfold parseTail at h
  refine ite_ok h (fun h => shrW.step h fun _ _ _ h => step_P h) fun h => ?_
  refine ite_ok h (fun h => shrW.step h fun _ _ _ h => shrD.step h fun _ _ _ h => step_P h) fun h => ?_
  refine ite_ok h (fun h => step_C h step_P) fun h => ?_
  refine ite_ok h (fun h => step_C h step_P) fun h => ?_
  refine ite_ok h (fun h => shrD.step h fun _ _ _ h => step_P h) fun h => ?_
  refine ite_ok h (fun h => shrD.step h fun _ _ _ h => step_P h) fun h => ?_
  refine ite_ok h (fun h => shrW.step h fun _ _ _ h => shrD.step h fun _ _ _ h => step_P h) fun h => ?_
  refine ite_ok h (fun h => shrU.step h fun _ _ _ h => shrU.step h fun _ _ _ h => shrU.step h fun _ _ _ h => shrU.step h fun _ _ _ h =>
    step_C h step_P) fun h => ?_
  refine ite_ok h (fun h => shrW.step h fun _ _ _ h => shrD.step h fun _ _ _ h => shrB.step h fun _ _ _ h => step_C h step_P) fun h => ?_
  refine ite_ok h (fun h => shrD.step h fun _ _ _ h => step_P h) fun h => ?_
  refine ite_ok h step_P fun h => ?_
  refine ite_ok h (fun h => shrW.step h fun _ _ _ h => step_P h) fun h => ?_
  refine ite_ok h step_P fun h => ?_
  refine ite_ok h (fun h => step_C h step_P) fun h => ?_
  cases h

theorem parseCmd_progress (b rest : Bytes) (cmd : Cmd) (h : parseCmd b = .ok (cmd, rest)) : rest.length + 16 ≤ b.length := by
  unfold parseCmd at h
  obtain ⟨⟨_, b1⟩, t1, h⟩ := bind_ok.mp h
  obtain ⟨_, _, h⟩ := bind_ok.mp h
  obtain ⟨⟨w1, b2⟩, t2, h⟩ := bind_ok.mp h
  obtain ⟨⟨w2, b3⟩, t3, h⟩ := bind_ok.mp h
  obtain ⟨⟨tag, b4⟩, t4, h⟩ := bind_ok.mp h
  have l1 := (takeU_takes t1).length; have l2 := (takeU_takes t2).length
  have l3 := (takeU_takes t3).length; have l4 := (takeU_takes t4).length
  have := parseTail_len _ _ _ _ _ _ h
  omega

/-- the fuel of the command-sequence decoder (one unit per command; the loader calls `parseCmds body.length body`) is never what
    decides: with one unit per 16 remaining bytes, any additional fuel gives the same answer -/
theorem parseCmds_fuel_suffices : ∀ (f k : Nat) (b : Bytes), b.length ≤ 16 * f → parseCmds (f + k) b = parseCmds f b := by
  intro f
  induction f with
  | zero =>
    intro k b hb
    have : b = [] := List.eq_nil_of_length_eq_zero (by omega)
    subst this
    cases k <;> simp [parseCmds]
  | succ f ih =>
    intro k b hb
    rw [show f + 1 + k = (f + k) + 1 by omega]
    unfold parseCmds
    split
    · rfl
    · cases hp : parseCmd b with
      | error e => rfl
      | ok v =>
        obtain ⟨cmd, rest⟩ := v
        have hprog := parseCmd_progress b rest cmd hp
        simp only [bind, Except.bind]
        rw [ih k rest (by omega)]

end SpsdkVerif.Sb31
