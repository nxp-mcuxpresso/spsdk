/-
No-fault refinement for C10: the host model in closed loop with the live reference device has exactly the effect `specOp`
defines.  `Host.Is` (the host after some communication, relative to a reference host) is the invariant of every step lemma.
The two links meet in a small interface: a payload arrives as a frame or as a report (`rxItem`, `readAny_serial`,
`readAny_hid`), a data packet makes the device react the same way however it is wrapped (`Dev.onData`), and what the device
still has to deliver after a command is `Owes`.  Above that interface nothing mentions the transport.
-/
import SpsdkVerif.Model.Mboot
import SpsdkVerif.Proofs.Mboot

namespace SpsdkVerif.Mboot
open SpsdkVerif H

theorem take_drop_length {α : Type} (l : List α) (a n : Nat) (h : a + n ≤ l.length) : ((l.drop a).take n).length = n := by
  rw [List.length_take, List.length_drop]; omega

theorem splice_length (mem : Bytes) (a : Nat) (d : Bytes) (h : a + d.length ≤ mem.length) :
    (splice mem a d).length = mem.length := by
  simp [splice]; omega

theorem fillBytes_length (k pat : Nat) : (fillBytes k pat).length = 4 * k := by
  induction k with
  | zero => rfl
  | succ k ih => rw [fillBytes, List.length_append, le_length, ih]; omega

theorem fillPattern_length (n pat : Nat) : (fillPattern n pat).length = n := by
  rw [fillPattern, List.length_take, fillBytes_length]; omega

section plumbing
variable {α β : Type}
@[simp] theorem pure_run (a : α) (s : Host) : (pure a : H α) s = (.ok a, s) := rfl
theorem bind_run (m : H α) (f : α → H β) (s : Host) :
    (m >>= f) s = match m s with | (.ok a, s') => f a s' | (.error e, s') => (.error e, s') := rfl
theorem bind_ok {m : H α} {f : α → H β} {s s' : Host} {a : α} (h : m s = (.ok a, s')) : (m >>= f) s = f a s' := by
  rw [bind_run, h]
theorem bind_err {m : H α} {f : α → H β} {s s' : Host} {e : HErr} (h : m s = (.error e, s')) :
    (m >>= f) s = (.error e, s') := by
  rw [bind_run, h]
@[simp] theorem fail_run (e : HErr) (s : Host) : (fail e : H α) s = (.error e, s) := rfl
@[simp] theorem get_run (s : Host) : H.get s = (.ok s, s) := rfl
@[simp] theorem modify_run (f : Host → Host) (s : Host) : H.modify f s = (.ok (), f s) := rfl
@[simp] theorem lift_run (x : Except HErr α) (s : Host) : H.lift x s = (x, s) := rfl
theorem catch_ok {m : H α} {hd : HErr → H α} {s s' : Host} {a : α} (h : m s = (.ok a, s')) :
    catch_ m hd s = (.ok a, s') := by
  unfold catch_; rw [h]
theorem catch_err {m : H α} {hd : HErr → H α} {s s' : Host} {e : HErr} (h : m s = (.error e, s')) :
    catch_ m hd s = hd e s' := by
  unfold catch_; rw [h]
@[simp] theorem ite_run (c : Prop) [Decidable c] (m1 m2 : H α) (s : Host) :
    (if c then m1 else m2) s = if c then m1 s else m2 s := by split <;> rfl
end plumbing

theorem devWrite_run (w : Bytes) (h : Host) : devWrite w h = (.ok (), h.write w) := rfl
theorem setStatus_run (st : Nat) (h : Host) : setStatus st h = (.ok (), { h with status := st }) := rfl

/-- `h'` is the reference host `h` after some communication: status `st`, peer = live device `d`,
    pending device→host bytes `rxB` / reports `rxR`; configuration fields untouched -/
structure Host.Is (h' h : Host) (st : Nat) (d : Dev) (rxB : Bytes) (rxR : List Bytes) : Prop where
  cfg : h'.cfg = h.cfg
  mps : h'.mps = h.mps
  eda : h'.eda = h.eda
  opened : h'.opened = h.opened
  fuelHint : h'.fuelHint = h.fuelHint
  status : h'.status = st
  peer : h'.peer = .live d
  rxB : h'.rxB = rxB
  rxR : h'.rxR = rxR

/-- the host after `k` more `device.read` calls that left `b` in the serial receive buffer -/
def Host.rd (h : Host) (k : Nat) (b : Bytes) : Host := { h with reads := h.reads + k, rxB := b }

/-- the host after one more `device.read` that left the reports `rs` pending -/
def Host.rdR (h : Host) (rs : List Bytes) : Host := { h with reads := h.reads + 1, rxR := rs }

section
variable {h1 h0 : Host} {st : Nat} {d : Dev} {b : Bytes} {r : List Bytes} (hI : h1.Is h0 st d b r)
include hI

theorem Host.Is.rd (k : Nat) (b' : Bytes) : (h1.rd k b').Is h0 st d b' r := { hI with rxB := rfl }

theorem Host.Is.rdR (r' : List Bytes) : (h1.rdR r').Is h0 st d b r' := { hI with rxR := rfl }

theorem Host.Is.setStatus (st' : Nat) : ({ h1 with status := st' } : Host).Is h0 st' d b r := { hI with status := rfl }

theorem Host.Is.setEda (c : Bool) : ({ h1 with eda := c } : Host).Is { h0 with eda := c } st d b r :=
  { hI with eda := rfl }

theorem Host.Is.tr : h1.cfg.tr = h0.cfg.tr := by rw [hI.cfg]

theorem Host.Is.write_serial (htr : h0.cfg.tr = .serial) (w : Bytes) :
    (h1.write w).Is h0 st (d.stepSerial w).1 (b ++ (d.stepSerial w).2) r := by
  unfold Host.write
  rw [hI.peer]
  simp only [hI.tr.trans htr]
  exact { hI with peer := rfl, rxB := by simp [hI.rxB] }

theorem Host.Is.write_hid (htr : h0.cfg.tr = .hid) (w : Bytes) :
    (h1.write w).Is h0 st (d.stepHid w).1 b (r ++ (d.stepHid w).2) := by
  unfold Host.write
  rw [hI.peer]
  simp only [hI.tr.trans htr]
  exact { hI with peer := rfl, rxR := by simp [hI.rxR] }
end

theorem Synced.is {h : Host} {d : Dev} (hs : Synced h d) : h.Is h h.status d [] [] :=
  ⟨rfl, rfl, rfl, rfl, rfl, rfl, hs.peer, hs.rxB, hs.rxR⟩

/-- the item the host receives for a payload `p` sent as a command response (`cmd`) or as data -/
def rxItem (cmd : Bool) (p : Bytes) : Except HErr RxItem :=
  if cmd then
    match parseCmdResponse p with
    | .ok r => .ok (.resp r)
    | .error e => .error e
  else .ok (.data p)

/-- frame type / report id a device→host payload travels under -/
def ftype (cmd : Bool) : Nat := if cmd then Spec.fCmd else Spec.fData
def ridIn (cmd : Bool) : Nat := if cmd then Spec.ridCmdIn else Spec.ridDataIn

theorem devRead_ok (n : Nat) (h : Host) (a b : Bytes) (hn : 0 < n) (ha : a.length = n) (hrx : h.rxB = a ++ b) :
    devRead n h = (.ok a, h.rd 1 b) := by
  have h1 : ¬ (n = 0 ∨ h.rxB.isEmpty = true) := by
    rw [hrx]; cases a with
    | nil => simp at ha; omega
    | cons x r => simp; omega
  have h2 : n ≤ h.rxB.length := by rw [hrx]; simp; omega
  unfold devRead
  simp only [h1, h2, if_false, if_true, Host.rd]
  rw [hrx, ← ha]
  simp

/-- the frame header `0x5A, t` at the front of the stream: an ABORT raises, the expected type passes -/
theorem readFrameHeader_ok (exp : Option Nat) (h : Host) (b0 b1 : UInt8) (t : Nat) (rest : Bytes)
    (hb0 : b0.toNat = Spec.startByte) (hb1 : b1.toNat = t) (ht : t ≠ Spec.startByte)
    (hexp : t = Spec.fAbort ∨ exp = none ∨ exp = some t) (hrx : h.rxB = b0 :: b1 :: rest) :
    readFrameHeader exp h =
      ((if t = Spec.fAbort then .error .abort else .ok (Spec.startByte, t)), (h.rd 1 (b1 :: rest)).rd 1 rest) := by
  have e1 : devRead 1 h = (.ok [b0], h.rd 1 (b1 :: rest)) := devRead_ok 1 h [_] _ (by omega) rfl hrx
  have e2 : devRead 1 (h.rd 1 (b1 :: rest)) = (.ok [b1], (h.rd 1 (b1 :: rest)).rd 1 rest) :=
    devRead_ok 1 _ [_] _ (by omega) rfl rfl
  have e0 : waitForData h = (.ok Spec.startByte, h.rd 1 (b1 :: rest)) := by
    unfold waitForData
    rw [hrx]
    simp only [List.length_cons, waitGo]
    rw [bind_ok e1]
    simp [fromLe, hb0]
  have e3 : (do let b ← devRead 1; pure (fromLe b) : H Nat) (h.rd 1 (b1 :: rest)) =
      (.ok t, (h.rd 1 (b1 :: rest)).rd 1 rest) := by
    rw [bind_ok e2, ← hb1]; simp [fromLe]
  unfold readFrameHeader
  rw [bind_ok e0]
  simp only [ne_eq, not_true_eq_false, false_and, if_false, show ¬ Spec.startByte = Spec.fAck by decide]
  rw [bind_ok e3, ite_run]
  by_cases hab : t = Spec.fAbort
  · rw [if_pos hab, if_pos hab]; rfl
  · rw [if_neg hab, if_neg hab]
    rcases hexp with h | rfl | rfl
    · exact absurd h hab
    · rfl
    · simp only [if_neg ht, not_true_eq_false, if_false]; rfl

/-- a frame the device answers with `reply` followed by `out`: ACK lets the send pass, ABORT raises -/
theorem serialSendFrame_run {h1 h0 : Host} {st d r} (hI : h1.Is h0 st d [] r) (htr : h0.cfg.tr = .serial)
    (t : Nat) (data : Bytes) (hlen : data.length < 65536) (d' : Dev) (reply : Nat) (out : Bytes)
    (hrep : reply = Spec.fAck ∨ reply = Spec.fAbort)
    (hstep : d.stepSerial (mkFrame t data) = (d', [UInt8.ofNat Spec.startByte, UInt8.ofNat reply] ++ out)) :
    ∃ h2, serialSendFrame t data h1 = ((if reply = Spec.fAbort then .error .abort else .ok ()), h2) ∧
      h2.Is h0 st d' out r := by
  have hw := hI.write_serial htr (mkFrame t data)
  rw [hstep] at hw
  have hb1 : (UInt8.ofNat reply).toNat = reply := by rcases hrep with rfl | rfl <;> decide
  refine ⟨_, ?_, (hw.rd 1 (UInt8.ofNat reply :: out)).rd 1 out⟩
  rw [serialSendFrame, if_neg (by omega), bind_run, devWrite_run]
  simp only []
  rw [bind_run, readFrameHeader_ok (some Spec.fAck) _ _ _ reply out startByte_toNat hb1
    (by rcases hrep with rfl | rfl <;> decide) (by rcases hrep with rfl | rfl <;> simp) hw.rxB]
  rcases hrep with rfl | rfl <;> rfl

theorem readAny_tr (h : Host) : readAny h = match h.cfg.tr with | .serial => serialRead h | .hid => hidRead h := by
  unfold readAny; rw [bind_ok (get_run _)]; cases h.cfg.tr <;> rfl

/-- `readAny` when the serial link holds the frame of the payload `p`: the host ACKs it, which makes the device move on -/
theorem readAny_serial {h1 h0 : Host} {st d r} (cmd : Bool) {p : Bytes}
    (hI : h1.Is h0 st d (mkFrame (ftype cmd) p) r) (htr : h0.cfg.tr = .serial)
    (hp0 : p ≠ []) (hp : p.length < 65536) :
    ∃ h2, readAny h1 = (rxItem cmd p, h2) ∧ h2.Is h0 st (d.stepSerial ackFrame).1 (d.stepSerial ackFrame).2 r := by
  have hbt : (UInt8.ofNat (ftype cmd)).toNat = ftype cmd := by cases cmd <;> decide
  have hplen : 0 < p.length := List.length_pos_iff.mpr hp0
  have hl1 : fromLe (le 2 p.length) = p.length := fromLe_le_of_lt 2 _ hp
  have hl2 : fromLe (le 2 (frameCrc (ftype cmd) p)) = frameCrc (ftype cmd) p := fromLe_le_of_lt 2 _ (crc16_lt _)
  have hrx : h1.rxB = UInt8.ofNat Spec.startByte :: UInt8.ofNat (ftype cmd) ::
      (le 2 p.length ++ (le 2 (frameCrc (ftype cmd) p) ++ p)) := by
    rw [hI.rxB]; simp [mkFrame]
  have e1 := readFrameHeader_ok none h1 _ _ (ftype cmd) _ startByte_toNat hbt (by cases cmd <;> decide) (.inr (.inl rfl)) hrx
  rw [if_neg (by cases cmd <;> decide)] at e1
  have hI1 := (hI.rd 1 (UInt8.ofNat (ftype cmd) :: (le 2 p.length ++ (le 2 (frameCrc (ftype cmd) p) ++ p)))).rd 1
    (le 2 p.length ++ (le 2 (frameCrc (ftype cmd) p) ++ p))
  have e2 := devRead_ok 2 _ (le 2 p.length) _ (by omega) (le_length _ _) hI1.rxB
  have hI2 := hI1.rd 1 (le 2 (frameCrc (ftype cmd) p) ++ p)
  have e3 := devRead_ok 2 _ (le 2 (frameCrc (ftype cmd) p)) _ (by omega) (le_length _ _) hI2.rxB
  have hI3 := hI2.rd 1 p
  have e4 := devRead_ok p.length _ p [] hplen rfl (hI3.rxB.trans (List.append_nil p).symm)
  refine ⟨_, ?_, (hI3.rd 1 []).write_serial htr ackFrame⟩
  rw [readAny_tr, hI.tr.trans htr]
  show serialRead h1 = _
  unfold serialRead
  rw [bind_ok e1]
  simp only []
  rw [bind_ok e2, bind_ok e3, hl1, if_neg (by omega), bind_ok e4]
  unfold sendAck
  rw [bind_ok (devWrite_run _ _), hl2]
  simp only [ne_eq, not_true_eq_false, if_false]
  cases cmd
  · rw [if_neg (by decide)]; rfl
  · rw [if_pos (show ftype true = Spec.fCmd from rfl)]; unfold rxItem; rw [if_pos rfl]; cases parseCmdResponse p <;> rfl

theorem frame_facts (t : Nat) (p : Bytes) (ht : t < 256) (hlen : p.length < 65536) :
    mkFrame t p ≠ pingFrame ∧ mkFrame t p ≠ ackFrame ∧ parseFrame (mkFrame t p) = .ok (t, p, []) := by
  have hl := mkFrame_length t p
  refine ⟨fun e => ?_, fun e => ?_, by simpa using frame_roundtrip' t p [] ht hlen⟩ <;>
    · rw [e] at hl; simp [pingFrame, ackFrame] at hl; omega

theorem stepSerial_cmd (d : Dev) (pkt : CmdPkt) (hwf : pkt.WF) :
    d.stepSerial (mkFrame Spec.fCmd pkt.encode) =
      match d.exec pkt with
      | .single d' r => (d', ackFrame ++ mkFrame Spec.fCmd r)
      | .toHost d' r data fs =>
        ({ d' with phase := .send pkt.tag (split d'.maxPacket data) fs }, ackFrame ++ mkFrame Spec.fCmd r)
      | .fromHost d' r a n fs =>
        (if n = 0 then { d'.finishData pkt.tag with phase := .send pkt.tag [] fs } else { d' with phase := .recv pkt.tag a n fs },
          ackFrame ++ mkFrame Spec.fCmd r) := by
  obtain ⟨h1, h2, h3⟩ := frame_facts Spec.fCmd pkt.encode (by decide) (by rw [encode_length]; have := hwf.count; omega)
  unfold Dev.stepSerial
  rw [if_neg h1, if_neg h2, h3]
  simp only [if_true, cmd_roundtrip' pkt hwf]
  cases d.exec pkt <;> rfl

theorem stepSerial_ack (d : Dev) :
    d.stepSerial ackFrame =
      match d.phase with
      | .send tag (c :: cs) fs => ({ d with phase := .send tag cs fs }, mkFrame Spec.fData c)
      | .send tag [] fs => ({ d with phase := .idle }, mkFrame Spec.fCmd (genericResp fs tag))
      | _ => (d, []) := by
  unfold Dev.stepSerial
  rw [if_neg (by decide), if_pos rfl]
  rcases d.phase with _ | _ | ⟨tag, _ | ⟨c, cs⟩, fs⟩ <;> rfl

theorem stepSerial_ack_idle (d : Dev) (h : d.phase = .idle) : d.stepSerial ackFrame = (d, []) := by
  rw [stepSerial_ack, h]

theorem stepHid_cmd (d : Dev) (pkt : CmdPkt) (hwf : pkt.WF) :
    d.stepHid (mkReport Spec.ridCmdOut pkt.encode) =
      match d.exec pkt with
      | .single d' r => (d', [padTo d.hidPad (mkReport Spec.ridCmdIn r)])
      | .toHost d' r data fs =>
        (d', [padTo d.hidPad (mkReport Spec.ridCmdIn r)] ++
          (split d'.maxPacket data).map (fun c => padTo d.hidPad (mkReport Spec.ridDataIn c)) ++
          [padTo d.hidPad (mkReport Spec.ridCmdIn (genericResp fs pkt.tag))])
      | .fromHost d' r a n fs =>
        if n = 0 then
          (d'.finishData pkt.tag,
            [padTo d.hidPad (mkReport Spec.ridCmdIn r), padTo d.hidPad (mkReport Spec.ridCmdIn (genericResp fs pkt.tag))])
        else ({ d' with phase := .recv pkt.tag a n fs }, [padTo d.hidPad (mkReport Spec.ridCmdIn r)]) := by
  have h3 := hid_roundtrip' Spec.ridCmdOut pkt.encode [] (by decide) (by rw [encode_length]; have := hwf.count; omega)
  rw [List.append_nil] at h3
  unfold Dev.stepHid
  simp only [h3, if_true, cmd_roundtrip' pkt hwf]
  cases d.exec pkt <;> rfl

/-- the device's reaction to a data packet before it is framed: the new state, whether the packet is answered by
    ABORT, and the response that ends the data phase, if it ends; `none`: the packet is not taken at all -/
def Dev.onData (d : Dev) (p : Bytes) : Option (Dev × Bool × Option Bytes) :=
  if d.abortsNow then some (d.refuseData.1, true, some d.refuseData.2)
  else
    match d.acceptData p with
    | some (d', fin) => some (d', false, fin)
    | none =>
      match d.phase with
      | .recv _ _ _ _ => some (d.refuseData.1, false, some d.refuseData.2)
      | _ => (d.strayData p).map (·, false, none)

theorem stepSerial_data (d : Dev) (p : Bytes) (hlen : p.length < 65536) :
    d.stepSerial (mkFrame Spec.fData p) =
      match d.onData p with
      | some (d', ab, fin) =>
        (d', (if ab then abortFrame else ackFrame) ++ (fin.map (mkFrame Spec.fCmd)).getD [])
      | none => (d, nakFrame) := by
  obtain ⟨h1, h2, h3⟩ := frame_facts Spec.fData p (by decide) hlen
  unfold Dev.stepSerial Dev.onData
  rw [if_neg h1, if_neg h2, h3]
  simp only [if_true, if_neg (show ¬ Spec.fData = Spec.fCmd by decide)]
  cases d.abortsNow
  · rcases d.acceptData p with _ | ⟨d', _ | f⟩
    · cases d.phase <;> first | rfl | (cases d.strayData p <;> rfl)
    · simp
    · rfl
  · rfl

theorem stepHid_data (d : Dev) (p : Bytes) (hlen : p.length < 65536) :
    d.stepHid (mkReport Spec.ridDataOut p) =
      match d.onData p with
      | some (d', ab, fin) =>
        (d', (if ab then [padTo d.hidPad (mkReport Spec.ridCmdIn [])] else []) ++
          (fin.map fun f => padTo d.hidPad (mkReport Spec.ridCmdIn f)).toList)
      | none => (d, []) := by
  have h3 := hid_roundtrip' Spec.ridDataOut p [] (by decide) hlen
  rw [List.append_nil] at h3
  unfold Dev.stepHid Dev.onData
  simp only [h3, if_true, if_neg (show ¬ Spec.ridDataOut = Spec.ridCmdOut by decide)]
  cases d.abortsNow
  · rcases d.acceptData p with _ | ⟨d', _ | f⟩
    · cases d.phase <;> first | rfl | (cases d.strayData p <;> rfl)
    · rfl
    · rfl
  · rfl

theorem abortsNow_false (d : Dev) (h : d.abortAfter = none) : d.abortsNow = false := by
  unfold Dev.abortsNow
  rw [h]
  cases d.phase <;> rfl

theorem abortsNow_idle (d : Dev) (h : d.phase = .idle) : d.abortsNow = false := by
  unfold Dev.abortsNow; rw [h]

theorem onData_acc {d : Dev} {c : Bytes} (hab : d.abortsNow = false) {d' : Dev} {fin : Option Bytes}
    (hacc : d.acceptData c = some (d', fin)) : d.onData c = some (d', false, fin) := by
  simp only [Dev.onData, hab, hacc, Bool.false_eq_true, if_false]

theorem onData_idle {d : Dev} (c : Bytes) (hph : d.phase = .idle) :
    d.onData c = (d.strayData c).map (·, false, none) := by
  simp only [Dev.onData, abortsNow_idle d hph, Dev.acceptData, hph, Bool.false_eq_true, if_false]

theorem hidParseFrame_report (k : Nat) (cmd : Bool) (p : Bytes) (hp0 : p ≠ []) (hp : p.length < 65536) :
    hidParseFrame (padTo k (mkReport (ridIn cmd) p)) = rxItem cmd p := by
  have hplen : 0 < p.length := List.length_pos_iff.mpr hp0
  have h1 : fromLe (le 2 p.length) = p.length := fromLe_le_of_lt 2 _ hp
  rw [le2_cases] at h1
  simp only [padTo, mkReport, le2_cases, List.cons_append, List.nil_append, hidParseFrame, h1]
  rw [if_neg (by omega), if_neg (by simp), List.take_left' rfl]
  cases cmd
  · rfl
  · unfold rxItem; rw [if_pos (by decide), if_pos rfl]; cases parseCmdResponse p <;> rfl

theorem padTo_isEmpty (k rid : Nat) (p : Bytes) : (padTo k (mkReport rid p)).isEmpty = false := by
  simp [padTo, mkReport]

theorem readAny_hid {h1 h0 : Host} {st d b} (k : Nat) (cmd : Bool) {p : Bytes} {rs : List Bytes}
    (hI : h1.Is h0 st d b (padTo k (mkReport (ridIn cmd) p) :: rs)) (htr : h0.cfg.tr = .hid)
    (hp0 : p ≠ []) (hp : p.length < 65536) :
    ∃ h2, readAny h1 = (rxItem cmd p, h2) ∧ h2.Is h0 st d b rs := by
  have e1 : hidDevRead h1 = (.ok (padTo k (mkReport (ridIn cmd) p)), h1.rdR rs) := by
    unfold hidDevRead
    simp only [hI.rxR, padTo_isEmpty, Bool.false_eq_true, if_false, Host.rdR]
  refine ⟨_, ?_, hI.rdR rs⟩
  rw [readAny_tr, hI.tr.trans htr]
  show hidRead h1 = _
  rw [hidRead, bind_ok e1, lift_run, hidParseFrame_report k cmd p hp0 hp]

/-- `resp` is a response payload the links can carry, and `parse_cmd_response` reads it as `rr` -/
structure Parses (resp : Bytes) (rr : Resp) : Prop where
  parse : parseCmdResponse resp = .ok rr
  short : resp.length < 65536

theorem Parses.ne_nil {resp : Bytes} {rr : Resp} (h : Parses resp rr) : resp ≠ [] := by
  intro e; have := h.parse; rw [e] at this; cases this

theorem Parses.rx {resp : Bytes} {rr : Resp} (h : Parses resp rr) : rxItem true resp = .ok (.resp rr) := by
  rw [rxItem, if_pos rfl, h.parse]

theorem genericResp_parses (s tag : Nat) (hs : s < 4294967296) (ht : tag < 4294967296) :
    Parses (genericResp s tag) { kind := .generic, tag := Spec.rGeneric, pc := 2, status := s, cmdTag := tag } :=
  ⟨genericResp_parse s tag hs ht, by simp [genericResp]⟩

theorem lenResp_parses (t st len : Nat) (h1 : st < 4294967296) (h2 : len < 4294967296)
    (ht : t = Spec.rReadMemory ∨ t = Spec.rFlashReadResource ∨ t = Spec.rKeyProv) :
    Parses (lenResp t st len) { kind := kindOf t, tag := t, pc := 2, status := st, length := len } :=
  ⟨lenResp_parse t st len h1 h2 ht, by simp [lenResp]⟩

theorem getPropResp_parses (s v : Nat) (hs : s < 4294967296) (hv : v < 4294967296) :
    Parses (getPropResp s [v]) { kind := .getProperty, tag := Spec.rGetProperty, pc := 1 + [v].length, status := s, values := [v] } :=
  ⟨getPropResp_parse s [v] hs (by simp [hv]) (by simp), by simp [getPropResp]⟩

theorem readOnceResp_parses (vals : List Nat) (hv : ∀ v ∈ vals, v < 4294967296) (hn : vals.length < 254)
    (hpos : 0 < vals.length) :
    Parses (readOnceResp 0 (4 * vals.length) vals)
      { kind := .flashReadOnce, tag := Spec.rFlashReadOnce, pc := 2 + vals.length, status := 0,
        length := 4 * vals.length, values := vals, data := vals.flatMap (le 4) } :=
  ⟨readOnceResp_parse 0 vals (by omega) hv hn hpos, by
    simp only [readOnceResp, List.length_append, List.length_cons, List.length_nil, le_length, flatMap_le4_length]; omega⟩

theorem requireOpen_ok (h : Host) (ho : h.opened = true) : requireOpen h = (.ok (), h) := by
  rw [requireOpen, bind_ok (get_run h), ho]; rfl

/-- the result `_process_cmd` returns for a parsed response -/
def cmdResult (ce : Bool) (r : Resp) : Except HErr Resp :=
  if ce = true ∧ r.status ≠ Spec.stSuccess then .error (.cmd r.status) else .ok r

theorem cmdResult_ok (ce : Bool) (r : Resp) (h : r.status = 0) : cmdResult ce r = .ok r := by
  unfold cmdResult; rw [if_neg (by simp [h])]

theorem cmdResult_fail (ce : Bool) (r : Resp) (h : r.status ≠ 0) :
    cmdResult ce r = if ce then .error (.cmd r.status) else .ok r := by
  unfold cmdResult; cases ce <;> simp [h]

theorem processCmd_run {h1 h2 h3 : Host} {pkt : CmdPkt} {rr : Resp} (hop : h1.opened = true)
    (ew : writeCommand pkt h1 = (.ok (), h2)) (er : readAny h2 = (.ok (.resp rr), h3)) :
    processCmd pkt h1 = (cmdResult h3.cfg.cmdExc rr, { h3 with status := rr.status }) := by
  unfold processCmd
  rw [bind_ok (requireOpen_ok h1 hop), bind_ok (catch_ok (by rw [bind_ok ew]; exact er))]
  simp only []
  rw [bind_ok (setStatus_run _ _), bind_ok (get_run _)]
  unfold cmdResult
  simp only [ite_run, fail_run, pure_run]
  split <;> rfl

theorem writeCommand_tr (pkt : CmdPkt) (hwf : pkt.WF) (h : Host) :
    writeCommand pkt h = match h.cfg.tr with
      | .serial => serialSendFrame Spec.fCmd pkt.encode h
      | .hid => hidWriteReport Spec.ridCmdOut pkt.encode h := by
  unfold writeCommand
  rw [toBytes_ok pkt hwf, bind_ok (lift_run _ _), bind_ok (get_run _)]
  cases h.cfg.tr <;> rfl

theorem processCmd_serial {h1 h0 : Host} {st d} (hI : h1.Is h0 st d [] []) (htr : h0.cfg.tr = .serial)
    (hop : h0.opened = true) (pkt : CmdPkt) (hwf : pkt.WF) (dX : Dev) (resp : Bytes)
    (hstep : d.stepSerial (mkFrame Spec.fCmd pkt.encode) = (dX, ackFrame ++ mkFrame Spec.fCmd resp))
    (rr : Resp) (hrr : Parses resp rr) :
    ∃ h2, processCmd pkt h1 = (cmdResult h0.cfg.cmdExc rr, h2) ∧
      h2.Is h0 rr.status (dX.stepSerial ackFrame).1 (dX.stepSerial ackFrame).2 [] := by
  obtain ⟨h2, e2, hI2⟩ := serialSendFrame_run hI htr Spec.fCmd pkt.encode
    (by rw [encode_length]; have := hwf.count; omega) dX Spec.fAck _ (.inl rfl) hstep
  rw [if_neg (by decide)] at e2
  obtain ⟨h3, e3, hI3⟩ := readAny_serial true hI2 htr hrr.ne_nil hrr.short
  rw [hrr.rx] at e3
  refine ⟨_, ?_, hI3.setStatus _⟩
  rw [← hI3.cfg]
  exact processCmd_run (hI.opened.trans hop) (by rw [writeCommand_tr pkt hwf, hI.tr.trans htr]; exact e2) e3

theorem processCmd_hid {h1 h0 : Host} {st d} (hI : h1.Is h0 st d [] []) (htr : h0.cfg.tr = .hid)
    (hop : h0.opened = true) (pkt : CmdPkt) (hwf : pkt.WF) (dX : Dev) (k : Nat) (resp : Bytes) (rs : List Bytes)
    (hstep : d.stepHid (mkReport Spec.ridCmdOut pkt.encode) = (dX, padTo k (mkReport Spec.ridCmdIn resp) :: rs))
    (rr : Resp) (hrr : Parses resp rr) :
    ∃ h2, processCmd pkt h1 = (cmdResult h0.cfg.cmdExc rr, h2) ∧ h2.Is h0 rr.status dX [] rs := by
  have hI2 := hI.write_hid htr (mkReport Spec.ridCmdOut pkt.encode)
  rw [hstep] at hI2
  obtain ⟨h3, e3, hI3⟩ := readAny_hid k true hI2 htr hrr.ne_nil hrr.short
  rw [hrr.rx] at e3
  refine ⟨_, ?_, hI3.setStatus _⟩
  rw [← hI3.cfg]
  refine processCmd_run (hI.opened.trans hop) ?_ e3
  rw [writeCommand_tr pkt hwf, hI.tr.trans htr]
  show hidWriteReport _ _ _ = _
  rw [hidWriteReport, if_neg (by rw [encode_length]; have := hwf.count; omega)]
  rfl

/-- The data packets `L` and then the final response (status `fs`) of command `tag` are still to be read; the device
    is `d` once they have been.  Serial link: the device hands out one frame per ACK, the first one is there already;
    USB-HID: all reports are queued. -/
def Owes (h1 h0 : Host) (st : Nat) (d : Dev) (L : List Bytes) (tag fs : Nat) : Prop :=
  match h0.cfg.tr with
  | .serial =>
    h1.Is h0 st (Dev.stepSerial { d with phase := .send tag L fs } ackFrame).1
      (Dev.stepSerial { d with phase := .send tag L fs } ackFrame).2 []
  | .hid =>
    ∃ k, h1.Is h0 st d [] (L.map (fun c => padTo k (mkReport Spec.ridDataIn c)) ++
      [padTo k (mkReport Spec.ridCmdIn (genericResp fs tag))])

section
variable {h1 h0 : Host} {st : Nat} {d : Dev} {L : List Bytes} {tag fs : Nat}

theorem Owes.is (hP : Owes h1 h0 st d L tag fs) : ∃ d' b r, h1.Is h0 st d' b r := by
  unfold Owes at hP
  cases htr : h0.cfg.tr <;> rw [htr] at hP
  · exact ⟨_, _, _, hP⟩
  · exact hP.elim fun _ hP => ⟨_, _, _, hP⟩

theorem Owes.setEda (hP : Owes h1 h0 st d L tag fs) (c : Bool) :
    Owes { h1 with eda := c } { h0 with eda := c } st d L tag fs := by
  unfold Owes at hP ⊢
  cases htr : h0.cfg.tr <;> rw [htr] at hP <;> simp only []
  · exact hP.setEda c
  · exact hP.elim fun k hP => ⟨k, hP.setEda c⟩

theorem set_phase_idle (d : Dev) (h : d.phase = .idle) (ph : Phase) :
    { { d with phase := ph } with phase := .idle } = d := by
  rw [← h]

theorem Owes.of_serial (htr : h0.cfg.tr = .serial) (hid : d.phase = .idle)
    (hI : h1.Is h0 st d (mkFrame Spec.fCmd (genericResp fs tag)) []) : Owes h1 h0 st d [] tag fs := by
  unfold Owes; rw [htr, stepSerial_ack, set_phase_idle d hid]; exact hI

theorem Owes.of_hid (htr : h0.cfg.tr = .hid) (k : Nat)
    (hI : h1.Is h0 st d [] [padTo k (mkReport Spec.ridCmdIn (genericResp fs tag))]) : Owes h1 h0 st d [] tag fs := by
  unfold Owes; rw [htr]; exact ⟨k, hI⟩

theorem readAny_data {c : Bytes} {cs : List Bytes} (hP : Owes h1 h0 st d (c :: cs) tag fs)
    (hc0 : c ≠ []) (hc : c.length < 65536) :
    ∃ h2, readAny h1 = (.ok (.data c), h2) ∧ Owes h2 h0 st d cs tag fs := by
  unfold Owes at hP ⊢
  cases htr : h0.cfg.tr <;> rw [htr] at hP <;> simp only []
  · rw [stepSerial_ack] at hP
    exact readAny_serial false hP htr hc0 hc
  · obtain ⟨k, hP⟩ := hP
    obtain ⟨h2, e2, hI2⟩ := readAny_hid k false hP htr hc0 hc
    exact ⟨h2, e2, k, hI2⟩

theorem readAny_final (hP : Owes h1 h0 st d [] tag fs) (hid : d.phase = .idle)
    (hfs : fs < 4294967296) (htag : tag < 4294967296) :
    ∃ h2, readAny h1 = (.ok (.resp { kind := .generic, tag := Spec.rGeneric, pc := 2, status := fs, cmdTag := tag }), h2) ∧
      h2.Is h0 st d [] [] := by
  have hrr := genericResp_parses fs tag hfs htag
  unfold Owes at hP
  cases htr : h0.cfg.tr <;> rw [htr] at hP
  · rw [stepSerial_ack, set_phase_idle d hid] at hP
    obtain ⟨h2, e2, hI2⟩ := readAny_serial true hP htr hrr.ne_nil hrr.short
    rw [stepSerial_ack_idle d hid] at hI2
    exact ⟨h2, hrr.rx ▸ e2, hI2⟩
  · obtain ⟨k, hP⟩ := hP
    obtain ⟨h2, e2, hI2⟩ := readAny_hid k true hP htr hrr.ne_nil hrr.short
    exact ⟨h2, hrr.rx ▸ e2, hI2⟩
end

section
variable {h1 h0 : Host} {st : Nat} {d : Dev} (hI : h1.Is h0 st d [] []) (hop : h0.opened = true)
  (pkt : CmdPkt) (hwf : pkt.WF) {d1 : Dev} {resp : Bytes} {rr : Resp} (hrr : Parses resp rr)
include hI hop hwf hrr

theorem processCmd_single (hexec : d.exec pkt = .single d1 resp) (hid1 : d1.phase = .idle) :
    ∃ h2, processCmd pkt h1 = (cmdResult h0.cfg.cmdExc rr, h2) ∧ h2.Is h0 rr.status d1 [] [] := by
  cases htr : h0.cfg.tr with
  | serial =>
    have hstep := stepSerial_cmd d pkt hwf
    rw [hexec] at hstep
    obtain ⟨h2, e2, hI2⟩ := processCmd_serial hI htr hop pkt hwf d1 resp hstep rr hrr
    rw [stepSerial_ack_idle d1 hid1] at hI2
    exact ⟨h2, e2, hI2⟩
  | hid =>
    have hstep := stepHid_cmd d pkt hwf
    rw [hexec] at hstep
    exact processCmd_hid hI htr hop pkt hwf d1 _ resp [] hstep rr hrr

theorem processCmd_toHost {data : Bytes} {fs : Nat} (hexec : d.exec pkt = .toHost d1 resp data fs) :
    ∃ h2, processCmd pkt h1 = (cmdResult h0.cfg.cmdExc rr, h2) ∧
      Owes h2 h0 rr.status d1 (split d1.maxPacket data) pkt.tag fs := by
  unfold Owes
  cases htr : h0.cfg.tr with
  | serial =>
    have hstep := stepSerial_cmd d pkt hwf
    rw [hexec] at hstep
    exact processCmd_serial hI htr hop pkt hwf _ resp hstep rr hrr
  | hid =>
    have hstep := stepHid_cmd d pkt hwf
    rw [hexec] at hstep
    obtain ⟨h2, e2, hI2⟩ := processCmd_hid hI htr hop pkt hwf _ _ resp _ hstep rr hrr
    exact ⟨h2, e2, _, hI2⟩

/-- a command followed by a host→device data phase of `n` bytes (none: the final response follows at once) -/
theorem processCmd_fromHost {a n fs : Nat} (hexec : d.exec pkt = .fromHost d1 resp a n fs) :
    ∃ h2, processCmd pkt h1 = (cmdResult h0.cfg.cmdExc rr, h2) ∧
      if n = 0 then Owes h2 h0 rr.status (d1.finishData pkt.tag) [] pkt.tag fs
      else h2.Is h0 rr.status { d1 with phase := .recv pkt.tag a n fs } [] [] := by
  unfold Owes
  cases htr : h0.cfg.tr with
  | serial =>
    have hstep := stepSerial_cmd d pkt hwf
    rw [hexec] at hstep
    obtain ⟨h2, e2, hI2⟩ := processCmd_serial hI htr hop pkt hwf _ resp hstep rr hrr
    refine ⟨h2, e2, ?_⟩
    by_cases hn : n = 0
    · rw [if_pos hn]; rw [if_pos hn] at hI2; exact hI2
    · rw [if_neg hn]; rw [if_neg hn, stepSerial_ack] at hI2; exact hI2
  | hid =>
    have hstep := stepHid_cmd d pkt hwf
    rw [hexec] at hstep
    by_cases hn : n = 0
    · simp only [if_pos hn] at hstep ⊢
      obtain ⟨h2, e2, hI2⟩ := processCmd_hid hI htr hop pkt hwf _ _ resp _ hstep rr hrr
      exact ⟨h2, e2, _, hI2⟩
    · simp only [if_neg hn] at hstep ⊢
      exact processCmd_hid hI htr hop pkt hwf _ _ resp _ hstep rr hrr
end

/-- the device after `k` data packets in all, the last ones carrying `c` (written at `a` / appended) -/
def Dev.store (d : Dev) (tag a : Nat) (c : Bytes) (k : Nat) : Dev :=
  if tag = Spec.cWriteMemory then { d with pktCount := k, mem := splice d.mem a c }
  else if tag = Spec.cKeyProvisioning then { d with pktCount := k, kpBuf := d.kpBuf ++ c }
  else { d with pktCount := k, sb := d.sb ++ c }

/-- the device after the whole data `l` (in `k` packets) of a data phase starting at `a` -/
def Dev.afterData (d : Dev) (tag a : Nat) (l : Bytes) (k : Nat) : Dev :=
  { (d.store tag a l k).finishData tag with phase := .idle }

theorem store_fields (d : Dev) (tag a : Nat) (c : Bytes) (k : Nat) :
    (d.store tag a c k).maxPacket = d.maxPacket ∧ (d.store tag a c k).abortAfter = d.abortAfter ∧
      (d.store tag a c k).pktCount = k ∧ (d.store tag a c k).imageMode = d.imageMode ∧
      (a + c.length ≤ d.mem.length → (d.store tag a c k).mem.length = d.mem.length) := by
  unfold Dev.store
  split
  · exact ⟨rfl, rfl, rfl, rfl, splice_length _ _ _⟩
  · split <;> exact ⟨rfl, rfl, rfl, rfl, fun _ => rfl⟩

theorem acceptData_last (d : Dev) (tag a fs : Nat) (c : Bytes) (hph : d.phase = .recv tag a c.length fs)
    (hc0 : c ≠ []) (hc : c.length ≤ d.maxPacket) :
    d.acceptData c = some (d.afterData tag a c (d.pktCount + 1), some (genericResp fs tag)) := by
  have h1 : ¬ (c.isEmpty = true ∨ d.maxPacket < c.length ∨ c.length < c.length) := by
    simp [hc0]; omega
  unfold Dev.acceptData Dev.afterData Dev.store
  rw [hph]
  simp only [h1, if_false, if_true]

theorem acceptData_more (d : Dev) (tag a rem fs : Nat) (c : Bytes) (hph : d.phase = .recv tag a rem fs)
    (hc0 : c ≠ []) (hc : c.length ≤ d.maxPacket) (hrem : c.length < rem) :
    d.acceptData c =
      some ({ d.store tag a c (d.pktCount + 1) with phase := .recv tag (a + c.length) (rem - c.length) fs }, none) := by
  have h1 : ¬ (c.isEmpty = true ∨ d.maxPacket < c.length ∨ rem < c.length) := by
    simp [hc0]; omega
  unfold Dev.acceptData Dev.store
  rw [hph]
  simp only [h1, if_false, Nat.ne_of_gt hrem]

theorem splice_splice (mem : Bytes) (a : Nat) (x y : Bytes) (h : a ≤ mem.length) :
    splice (splice mem a x) (a + x.length) y = splice mem a (x ++ y) := by
  have h1 : (mem.take a ++ x).length = a + x.length := by rw [List.length_append, List.length_take]; omega
  unfold splice
  rw [List.take_left' h1, ← h1, List.drop_length_add_append, List.drop_drop, List.length_append, Nat.add_assoc,
    List.append_assoc _ x y, List.length_take, Nat.min_eq_left h, List.length_append]

/-- storing `c` and then `l` behind it is storing `c ++ l` -/
theorem store_step (d : Dev) (tag a : Nat) (c l : Bytes) (j k : Nat) (ph : Phase)
    (hmem : tag = Spec.cWriteMemory → a ≤ d.mem.length) :
    Dev.store { d.store tag a c j with phase := ph } tag (a + c.length) l k =
      { d.store tag a (c ++ l) k with phase := ph } := by
  unfold Dev.store
  by_cases ht : tag = Spec.cWriteMemory
  · simp only [if_pos ht, splice_splice _ _ _ _ (hmem ht)]
  · simp only [if_neg ht]
    by_cases hk : tag = Spec.cKeyProvisioning
    · simp only [if_pos hk, List.append_assoc]
    · simp only [if_neg hk, List.append_assoc]

theorem writeData_tr (ab : Bool) (c : Bytes) (h : Host) :
    writeData ab c h = match h.cfg.tr with
      | .serial => serialSendFrame Spec.fData c h
      | .hid => hidWriteData ab c h := by
  unfold writeData; rw [bind_ok (get_run _)]; cases h.cfg.tr <;> rfl

/-- serial link: the device answers the data frame by ACK or ABORT, followed by the final response if the phase ends -/
theorem writeData_serial {h1 h0 : Host} {st d r} (hI : h1.Is h0 st d [] r) (htr : h0.cfg.tr = .serial)
    (ab : Bool) (c : Bytes) (hlen : c.length < 65536) {d' : Dev} {abort : Bool} {fin : Option Bytes}
    (hon : d.onData c = some (d', abort, fin)) :
    ∃ h2, writeData ab c h1 = ((if abort then .error .abort else .ok ()), h2) ∧
      h2.Is h0 st d' ((fin.map (mkFrame Spec.fCmd)).getD []) r := by
  have hstep := stepSerial_data d c hlen
  rw [hon] at hstep
  rw [writeData_tr, hI.tr.trans htr]
  cases abort
  · exact serialSendFrame_run hI htr Spec.fData c hlen d' Spec.fAck _ (.inl rfl) hstep
  · exact serialSendFrame_run hI htr Spec.fData c hlen d' Spec.fAbort _ (.inr rfl) hstep

/-- USB-HID: a data report goes out whenever no report is pending -/
theorem writeData_hid {h1 h0 : Host} {st d} (hI : h1.Is h0 st d [] []) (htr : h0.cfg.tr = .hid)
    (ab : Bool) (c : Bytes) (hlen : c.length < 65536) :
    ∃ h2, writeData ab c h1 = (.ok (), h2) ∧
      h2.Is h0 st (d.stepHid (mkReport Spec.ridDataOut c)).1 [] (d.stepHid (mkReport Spec.ridDataOut c)).2 := by
  rw [writeData_tr, hI.tr.trans htr]
  show ∃ h2, hidWriteData ab c h1 = _ ∧ _
  rw [hidWriteData, if_neg (by omega)]
  cases ab
  · exact ⟨_, rfl, hI.write_hid htr _⟩
  · have hIg : ({ h1 with reads := h1.reads + 1 } : Host).Is h0 st d [] [] := { hI with }
    have e1 : hidDevRead h1 = (.error .timeout, { h1 with reads := h1.reads + 1 }) := by
      unfold hidDevRead; simp only [hI.rxR]
    refine ⟨_, ?_, hIg.write_hid htr _⟩
    simp only [if_true]
    rw [bind_ok (catch_err (bind_err e1))]
    rfl

theorem writeData_quiet {h1 h0 : Host} {st d} (hI : h1.Is h0 st d [] []) (ab : Bool) (c : Bytes)
    (hlen : c.length < 65536) {d' : Dev} (hon : d.onData c = some (d', false, none)) :
    ∃ h2, writeData ab c h1 = (.ok (), h2) ∧ h2.Is h0 st d' [] [] := by
  cases htr : h0.cfg.tr with
  | serial => exact writeData_serial hI htr ab c hlen hon
  | hid =>
    obtain ⟨h2, e2, hI2⟩ := writeData_hid hI htr ab c hlen
    rw [stepHid_data d c hlen, hon] at hI2
    exact ⟨h2, e2, hI2⟩

theorem writeData_last {h1 h0 : Host} {st d} (hI : h1.Is h0 st d [] []) (ab : Bool) (c : Bytes)
    (hlen : c.length < 65536) {d' : Dev} {tag fs : Nat} (hon : d.onData c = some (d', false, some (genericResp fs tag)))
    (hid : d'.phase = .idle) :
    ∃ h2, writeData ab c h1 = (.ok (), h2) ∧ Owes h2 h0 st d' [] tag fs := by
  cases htr : h0.cfg.tr with
  | serial =>
    obtain ⟨h2, e2, hI2⟩ := writeData_serial hI htr ab c hlen hon
    exact ⟨h2, e2, .of_serial htr hid hI2⟩
  | hid =>
    obtain ⟨h2, e2, hI2⟩ := writeData_hid hI htr ab c hlen
    rw [stepHid_data d c hlen, hon] at hI2
    exact ⟨h2, e2, .of_hid htr _ hI2⟩

theorem sendChunks_cons_ok {ab : Bool} {c : Bytes} {cs : List Bytes} {sent : Nat} {h h' : Host}
    (e : writeData ab c h = (.ok (), h')) :
    sendChunks ab (c :: cs) sent h = sendChunks ab cs (sent + c.length) h' := by
  rw [sendChunks]
  simp only [e]

/-- in a data phase the forced abort hits the packet whose number it names -/
theorem abortsNow_recv {d : Dev} {tag a r fs : Nat} (hph : d.phase = .recv tag a r fs) :
    d.abortsNow = true ↔ d.abortAfter = some d.pktCount := by
  unfold Dev.abortsNow
  rw [hph]
  cases d.abortAfter with
  | none => exact ⟨(nomatch ·), (nomatch ·)⟩
  | some k => exact beq_iff_eq.trans ⟨fun e => e ▸ rfl, fun e => (Option.some.inj e).symm⟩

theorem store_nil (d : Dev) (tag a : Nat) : d.store tag a [] d.pktCount = d := by
  unfold Dev.store splice
  simp only [List.append_nil, List.length_nil, Nat.add_zero, List.take_append_drop]
  split
  · rfl
  · split <;> rfl

/-- The data packets `cs` do not exhaust the data phase and none of them is aborted: the device stores them, the host
    sees nothing but their acknowledgement and goes on with the remaining packets. -/
theorem sendChunks_quiet {h0 : Host} (ab : Bool) (tag fs mp : Nat) (abortAt : Option Nat) (rest : List Bytes) :
    ∀ (cs : List Bytes) (d : Dev) (a rem pc : Nat) (h1 : Host) (sent st : Nat),
      h1.Is h0 st d [] [] → d.phase = .recv tag a rem fs → d.maxPacket = mp → d.abortAfter = abortAt → d.pktCount = pc →
      (∀ c ∈ cs, c ≠ [] ∧ c.length ≤ mp ∧ c.length < 65536) → cs.flatten.length < rem →
      (∀ i < cs.length, abortAt ≠ some (pc + i)) → (tag = Spec.cWriteMemory → a + rem ≤ d.mem.length) →
      ∃ h2, sendChunks ab (cs ++ rest) sent h1 = sendChunks ab rest (sent + (cs.map List.length).sum) h2 ∧
        h2.Is h0 st { d.store tag a cs.flatten (pc + cs.length) with
          phase := .recv tag (a + cs.flatten.length) (rem - cs.flatten.length) fs } [] [] := by
  intro cs
  induction cs with
  | nil =>
    intro d a rem pc h1 sent st hI hph _ _ hpc _ _ _ _
    refine ⟨h1, rfl, ?_⟩
    rw [List.flatten_nil, ← hpc]
    show h1.Is h0 st { d.store tag a [] d.pktCount with phase := .recv tag a rem fs } [] []
    rw [store_nil, ← hph]
    exact hI
  | cons c cs ih =>
    intro d a rem pc h1 sent st hI hph hmp hab hpc hcs hlt hna hmem
    obtain ⟨hc0, hcmp, hc⟩ := hcs c List.mem_cons_self
    rw [List.flatten_cons, List.length_append] at hlt
    have habn : d.abortsNow = false :=
      Bool.eq_false_iff.mpr fun e => hna 0 (Nat.succ_pos _) (by rw [← hab, ← hpc]; exact (abortsNow_recv hph).mp e)
    obtain ⟨h2, e2, hI2⟩ := writeData_quiet hI ab c hc
      (onData_acc habn (acceptData_more d tag a rem fs c hph hc0 (hmp ▸ hcmp) (by omega)))
    obtain ⟨hs1, hs2, hs3, -, hs5⟩ := store_fields d tag a c (d.pktCount + 1)
    obtain ⟨h3, e3, hI3⟩ := ih _ (a + c.length) (rem - c.length) (pc + 1) h2 (sent + c.length) st hI2 rfl
      (hs1.trans hmp) (hs2.trans hab) (hs3.trans (by rw [hpc])) (fun x hx => hcs x (List.mem_cons_of_mem _ hx)) (by omega)
      (fun i hi => by rw [Nat.add_assoc, Nat.add_comm 1]; exact hna (i + 1) (Nat.succ_lt_succ hi))
      (fun ht => by
        have := hmem ht
        show _ ≤ (d.store tag a c (d.pktCount + 1)).mem.length
        rw [hs5 (by omega)]; omega)
    refine ⟨h3, ?_, ?_⟩
    · rw [List.cons_append, sendChunks_cons_ok e2, e3, List.map_cons, List.sum_cons, Nat.add_assoc]
    · rw [store_step d tag a c _ _ _ _ (fun ht => by have := hmem ht; omega), Nat.add_assoc a, Nat.sub_sub,
        Nat.add_assoc pc, Nat.add_comm 1] at hI3
      rw [List.flatten_cons, List.length_append, List.length_cons]
      exact hI3

theorem finishData_phase (d : Dev) (tag : Nat) : (d.finishData tag).phase = d.phase := by
  unfold Dev.finishData
  split
  · split <;> rfl
  · rfl

theorem finishData_setPhase (d : Dev) (tag : Nat) (ph : Phase) :
    ({ Dev.finishData { d with phase := ph } tag with phase := .idle } : Dev) = { d.finishData tag with phase := .idle } := by
  unfold Dev.finishData
  split
  · split <;> rfl
  · rfl

theorem store_setPhase (d : Dev) (tag a : Nat) (c : Bytes) (k : Nat) (ph : Phase) :
    Dev.store { d with phase := ph } tag a c k = { d.store tag a c k with phase := ph } := by
  unfold Dev.store
  split
  · rfl
  · split <;> rfl

theorem afterData_setPhase (d : Dev) (tag a : Nat) (l : Bytes) (k : Nat) (ph : Phase) :
    Dev.afterData { d with phase := ph } tag a l k = d.afterData tag a l k := by
  unfold Dev.afterData
  rw [store_setPhase, finishData_setPhase]

theorem afterData_step (d : Dev) (tag a : Nat) (c l : Bytes) (j k : Nat) (ph : Phase)
    (hmem : tag = Spec.cWriteMemory → a ≤ d.mem.length) :
    Dev.afterData { d.store tag a c j with phase := ph } tag (a + c.length) l k = d.afterData tag a (c ++ l) k := by
  unfold Dev.afterData
  rw [store_step d tag a c l j k ph hmem, finishData_setPhase]

/-- The data packets `cs ++ [c]` carry exactly the data the device expects: it has taken all of it and its final
    response is on the way. -/
theorem sendChunks_whole {h0 h1 : Host} {st : Nat} {d : Dev} (ab : Bool) (tag fs mp a : Nat) (cs : List Bytes) (c : Bytes)
    (hall : ∀ x ∈ cs ++ [c], x ≠ [] ∧ x.length ≤ mp ∧ x.length < 65536) (hI : h1.Is h0 st d [] [])
    (hph : d.phase = .recv tag a (cs.flatten ++ c).length fs) (hmpd : d.maxPacket = mp) (hnoab : d.abortAfter = none)
    (hpc : d.pktCount = 0) (hmem : tag = Spec.cWriteMemory → a + (cs.flatten ++ c).length ≤ d.mem.length) :
    ∃ h2, sendChunks ab (cs ++ [c]) 0 h1 = (.ok (((cs ++ [c]).map List.length).sum, none), h2) ∧
      Owes h2 h0 st (d.afterData tag a (cs.flatten ++ c) (cs.length + 1)) [] tag fs := by
  obtain ⟨hc0, hcmp, hc⟩ := hall c (List.mem_append_right _ List.mem_cons_self)
  have hlen : (cs.flatten ++ c).length = cs.flatten.length + c.length := List.length_append
  obtain ⟨h2, e2, hI2⟩ := sendChunks_quiet ab tag fs mp none [c] cs d a _ 0 h1 0 st hI hph hmpd hnoab hpc
    (fun x hx => hall x (List.mem_append_left _ hx)) (by have := List.length_pos_iff.mpr hc0; omega) (fun _ _ => nofun) hmem
  rw [hlen, Nat.add_sub_cancel_left, Nat.zero_add] at hI2
  obtain ⟨hs1, hs2, hs3, -⟩ := store_fields d tag a cs.flatten cs.length
  obtain ⟨dk, hdk⟩ : ∃ dk : Dev, dk = { d.store tag a cs.flatten cs.length with
      phase := .recv tag (a + cs.flatten.length) c.length fs } := ⟨_, rfl⟩
  rw [← hdk] at hI2
  obtain ⟨h3, e3, hP3⟩ := writeData_last hI2 ab c hc
    (onData_acc (abortsNow_false dk (by rw [hdk]; exact hs2.trans hnoab))
      (acceptData_last dk tag (a + cs.flatten.length) fs c (by rw [hdk]) hc0
        (by rw [hdk]; exact (hs1.trans hmpd).symm ▸ hcmp))) rfl
  rw [show dk.pktCount = cs.length by rw [hdk]; exact hs3, hdk,
    afterData_step d tag a _ _ _ _ _ (fun ht => by have := hmem ht; omega)] at hP3
  refine ⟨h3, ?_, hP3⟩
  rw [e2, sendChunks_cons_ok e3, sendChunks, List.map_append, List.sum_append]
  simp

theorem split_chunks_lt (mp : Nat) (hmp : 0 < mp) (hmp2 : mp < 65536) (l : Bytes) :
    ∀ c ∈ split mp l, c ≠ [] ∧ c.length ≤ mp ∧ c.length < 65536 := fun c hc =>
  have := split_chunks' mp hmp l c hc
  ⟨this.2, this.1, by omega⟩

theorem split_snoc (mp : Nat) (hmp : 0 < mp) (l : Bytes) (hl : l ≠ []) :
    ∃ cs c, split mp l = cs ++ [c] ∧ cs.flatten ++ c = l := by
  have hne : split mp l ≠ [] := by rw [split_cons mp hmp l hl]; exact List.cons_ne_nil _ _
  refine ⟨_, _, (List.dropLast_concat_getLast hne).symm, ?_⟩
  have := split_flatten' mp hmp l
  rw [← List.dropLast_concat_getLast hne, List.flatten_append, List.flatten_singleton] at this
  exact this

theorem sendData_ok {h1 h2 h3 : Host} (cs : List Bytes) (hop : h1.opened = true) (rr : Resp)
    (hst : rr.status = 0)
    (e1 : sendChunks h1.eda cs 0 h1 = (.ok ((cs.map List.length).sum, none), h2))
    (e2 : readAny h2 = (.ok (.resp rr), h3)) :
    sendData cs h1 = (.ok true, { h3 with status := 0 }) := by
  unfold sendData
  rw [bind_ok (requireOpen_ok h1 hop), bind_ok (get_run _)]
  simp only []
  rw [bind_ok e1]
  simp only []
  rw [bind_ok (catch_ok e2)]
  simp only []
  rw [bind_ok (setStatus_run _ _), hst]
  simp

/-- `_send_data` after a command that opened a host→device data phase for exactly `data` -/
theorem sendData_dataOut {h2 h0 : Host} (hop : h0.opened = true) (mp : Nat) (hmp : 0 < mp) (hmp2 : mp < 65536)
    (d1 : Dev) (tag a : Nat) (data : Bytes) (htag : tag < 4294967296) (hid1 : d1.phase = .idle)
    (hmp1 : d1.maxPacket = mp) (hnoab : d1.abortAfter = none) (hpc : d1.pktCount = 0)
    (hmem : tag = Spec.cWriteMemory → a + data.length ≤ d1.mem.length)
    (hmid : if data.length = 0 then Owes h2 h0 0 (d1.finishData tag) [] tag 0
            else h2.Is h0 0 { d1 with phase := .recv tag a data.length 0 } [] []) :
    ∃ h3, sendData (split mp data) h2 = (.ok true, h3) ∧
      h3.Is h0 0 (d1.afterData tag a data (split mp data).length) [] [] := by
  by_cases hn : data = []
  · subst hn
    rw [if_pos (by rfl)] at hmid
    obtain ⟨_, _, _, hI2⟩ := hmid.is
    obtain ⟨h3, e3, hI3⟩ := readAny_final hmid ((finishData_phase d1 tag).trans hid1) (by omega) htag
    refine ⟨_, sendData_ok [] (hI2.opened.trans hop) _ rfl rfl e3, ?_⟩
    have : d1.afterData tag a [] 0 = d1.finishData tag := by
      rw [Dev.afterData, ← hpc, store_nil, ← (finishData_phase d1 tag).trans hid1]
    rw [split_nil, List.length_nil, this]
    exact hI3.setStatus 0
  · rw [if_neg (fun e => hn (List.length_eq_zero_iff.mp e))] at hmid
    obtain ⟨cs, c, hsp, hfl⟩ := split_snoc mp hmp data hn
    have hall := split_chunks_lt mp hmp hmp2 data
    rw [hsp] at hall ⊢
    rw [← hfl] at hmid hmem ⊢
    obtain ⟨h3, e3, hP3⟩ := sendChunks_whole h2.eda tag 0 mp a cs c hall hmid rfl hmp1 hnoab hpc hmem
    obtain ⟨h4, e4, hI4⟩ := readAny_final hP3 rfl (by omega) htag
    refine ⟨_, sendData_ok _ (hmid.opened.trans hop) _ rfl e3 e4, ?_⟩
    rw [afterData_setPhase] at hI4
    rw [List.length_append]
    exact hI4.setStatus 0

theorem getMaxPacketSize_ok (h : Host) (mp : Nat) (hmps : h.mps = some mp) : getMaxPacketSize h = (.ok mp, h) := by
  unfold getMaxPacketSize
  rw [bind_ok (get_run _)]
  simp only [hmps]
  rfl

theorem splitData_ok (data : Bytes) (h : Host) (mp : Nat) (hmps : h.mps = some mp) (hmp : 0 < mp) :
    splitData data h = (.ok (split mp data), h) := by
  rw [splitData, bind_ok (getMaxPacketSize_ok h mp hmps), if_neg (by omega)]
  rfl

theorem readDataLoop_data {tag f : Nat} {acc b : Bytes} {h h' : Host} (e : readAny h = (.ok (.data b), h')) :
    readDataLoop tag (f + 1) acc h = readDataLoop tag f (acc ++ b) h' := by
  have e1 : (do let x ← readAny; pure (some x) : H (Option RxItem)) h = (.ok (some (.data b)), h') := by
    rw [bind_ok e]; rfl
  rw [readDataLoop, bind_ok (catch_ok e1)]

theorem readDataLoop_final {tag f : Nat} {acc : Bytes} {h h' : Host} {r : Resp} (e : readAny h = (.ok (.resp r), h'))
    (hk : r.kind = .generic) (ht : r.cmdTag = tag) :
    readDataLoop tag (f + 1) acc h = (.ok acc, { h' with status := r.status }) := by
  have e1 : (do let x ← readAny; pure (some x) : H (Option RxItem)) h = (.ok (some (.resp r)), h') := by
    rw [bind_ok e]; rfl
  rw [readDataLoop, bind_ok (catch_ok e1)]
  simp only [hk, if_true]
  rw [bind_ok (setStatus_run _ _), if_pos ht]
  rfl

/-- the loop of `_read_data` collects the data packets the device owes and stops at the final response -/
theorem readDataLoop_ok {h0 : Host} {d : Dev} {tag fs : Nat} (hid : d.phase = .idle) (hfs : fs < 4294967296)
    (htag : tag < 4294967296) :
    ∀ (L : List Bytes) (h1 : Host) (st : Nat) (acc : Bytes) (fuel : Nat), Owes h1 h0 st d L tag fs →
      (∀ c ∈ L, c ≠ [] ∧ c.length < 65536) → L.length < fuel →
      ∃ h2, readDataLoop tag fuel acc h1 = (.ok (acc ++ L.flatten), h2) ∧ h2.Is h0 fs d [] [] := by
  intro L
  induction L with
  | nil =>
    intro h1 st acc fuel hP _ hfuel
    obtain ⟨f, rfl⟩ : ∃ f, fuel = f + 1 := ⟨fuel - 1, by omega⟩
    obtain ⟨h2, e2, hI2⟩ := readAny_final hP hid hfs htag
    exact ⟨_, by rw [readDataLoop_final e2 rfl rfl, List.flatten_nil, List.append_nil], hI2.setStatus fs⟩
  | cons c cs ih =>
    intro h1 st acc fuel hP hL hfuel
    obtain ⟨f, rfl⟩ : ∃ f, fuel = f + 1 := ⟨fuel - 1, by omega⟩
    obtain ⟨hc0, hc⟩ := hL c List.mem_cons_self
    obtain ⟨h2, e2, hP2⟩ := readAny_data hP hc0 hc
    obtain ⟨h3, e3, hI3⟩ := ih h2 st (acc ++ c) f hP2 (fun x hx => hL x (List.mem_cons_of_mem _ hx))
      (Nat.lt_of_succ_lt_succ hfuel)
    exact ⟨h3, by rw [readDataLoop_data e2, e3, List.flatten_cons, List.append_assoc], hI3⟩

theorem readData_ok {h1 h2 : Host} (tag n : Nat) (data : Bytes) (hop : h1.opened = true)
    (e : readDataLoop tag (n + h1.fuelHint + h1.rxB.length + h1.rxR.length + 8) [] h1 = (.ok data, h2))
    (hst : h2.status = 0) (hlen : data.length = n) :
    readData tag n h1 = (.ok data, h2) := by
  unfold readData
  rw [bind_ok (requireOpen_ok h1 hop), bind_ok (get_run _), bind_ok e, bind_ok (get_run _)]
  rw [if_neg (by simp [hst, hlen])]
  rw [← hlen, List.take_length]
  rfl

/-- a command with a device→host data phase followed by `_read_data`, from any in-step state -/
theorem cmd_readData {h1 h0 : Host} {st d} (hI : h1.Is h0 st d [] []) (hop : h0.opened = true)
    (pkt : CmdPkt) (hwf : pkt.WF) {d1 : Dev} {resp data : Bytes}
    (hexec : d.exec pkt = .toHost d1 resp data 0) (hid1 : d1.phase = .idle)
    (hmp : 0 < d1.maxPacket) (hmp2 : d1.maxPacket < 65536)
    {rr : Resp} (hrr : Parses resp rr) (hst : rr.status = 0) :
    ∃ h2, processCmd pkt h1 = (.ok rr, h2) ∧
      ∃ h3, readData pkt.tag data.length h2 = (.ok data, h3) ∧ h3.Is h0 0 d1 [] [] := by
  obtain ⟨h2, e2, hP2⟩ := processCmd_toHost hI hop pkt hwf hrr hexec
  rw [cmdResult_ok _ _ hst] at e2
  refine ⟨h2, e2, ?_⟩
  have hL := split_chunks_lt d1.maxPacket hmp hmp2 data
  have hfuel : (split d1.maxPacket data).length < data.length + h2.fuelHint + h2.rxB.length + h2.rxR.length + 8 := by
    have := split_length_le d1.maxPacket hmp data
    omega
  obtain ⟨h3, e3, hI3⟩ := readDataLoop_ok hid1 (by omega) (by have := hwf.tag; omega) _ h2 _ [] _ hP2
    (fun c hc => ⟨(hL c hc).1, (hL c hc).2.2⟩) hfuel
  rw [List.nil_append, split_flatten' _ hmp] at e3
  obtain ⟨_, _, _, hI2⟩ := hP2.is
  exact ⟨h3, readData_ok pkt.tag data.length _ (hI2.opened.trans hop) e3 hI3.status rfl, hI3⟩

/-- the device after it has taken one more command -/
def Dev.next (d : Dev) : Dev := { d with ncmd := d.ncmd + 1, phase := .idle, pktCount := 0 }

theorem nofault_eta {d : Dev} (hf : d.faults = []) : d = { d with faults := [] } := by rw [← hf]

theorem idle_eta {d : Dev} (h : d.phase = .idle) : d = { d with phase := .idle } := by rw [← h]

/- With `faults := []` in the record `Dev.exec` computes: both fault lookups and the tests of the command tag reduce. -/

theorem exec_fillMemory (d : Dev) (hf : d.faults = []) (a n pat : Nat) :
    d.exec ⟨Spec.cFillMemory, 0, [a, n, pat]⟩ =
      if a + n ≤ d.mem.length then
        .single { d.next with mem := splice d.mem a (fillPattern n pat) } (genericResp 0 Spec.cFillMemory)
      else .single d.next (genericResp Spec.stMemoryRangeInvalid Spec.cFillMemory) := by
  rw [nofault_eta hf]; rfl

theorem exec_eraseRegion (d : Dev) (hf : d.faults = []) (a n m : Nat) :
    d.exec ⟨Spec.cFlashEraseRegion, 0, [a, n, m]⟩ =
      if a + n ≤ d.mem.length then
        .single { d.next with mem := splice d.mem a (List.replicate n 0xFF) } (genericResp 0 Spec.cFlashEraseRegion)
      else .single d.next (genericResp Spec.stMemoryRangeInvalid Spec.cFlashEraseRegion) := by
  rw [nofault_eta hf]; rfl

theorem exec_eraseAll (d : Dev) (hf : d.faults = []) (m : Nat) :
    d.exec ⟨Spec.cFlashEraseAll, 0, [m]⟩ =
      .single { d.next with mem := List.replicate d.mem.length 0xFF } (genericResp 0 Spec.cFlashEraseAll) := by
  rw [nofault_eta hf]; rfl

theorem exec_getProperty (d : Dev) (hf : d.faults = []) (t i : Nat) :
    d.exec ⟨Spec.cGetProperty, 0, [t, i]⟩ =
      if t = Spec.propMaxPacketSize then .single d.next (getPropResp 0 [d.maxPacket])
      else match d.props.lookup t with
        | some v => .single d.next (getPropResp 0 [v])
        | none => .single d.next (getPropResp Spec.stUnknownProperty [0]) := by
  rw [nofault_eta hf]; rfl

theorem exec_setProperty (d : Dev) (hf : d.faults = []) (t v : Nat) :
    d.exec ⟨Spec.cSetProperty, 0, [t, v]⟩ =
      if d.rwProps.contains t then
        .single { d.next with props := (t, v) :: d.props.filter (fun q => q.1 != t) } (genericResp 0 Spec.cSetProperty)
      else if (d.props.lookup t).isSome ∨ t = Spec.propMaxPacketSize then
        .single d.next (genericResp Spec.stReadOnlyProperty Spec.cSetProperty)
      else .single d.next (genericResp Spec.stUnknownProperty Spec.cSetProperty) := by
  rw [nofault_eta hf]; rfl

theorem exec_readMemory (d : Dev) (hf : d.faults = []) (a n m : Nat) :
    d.exec ⟨Spec.cReadMemory, 0, [a, n, m]⟩ =
      if a + n ≤ d.mem.length then .toHost d.next (readMemResp 0 n) ((d.mem.drop a).take n) 0
      else .single d.next (genericResp Spec.stMemoryRangeInvalid Spec.cReadMemory) := by
  rw [nofault_eta hf]; rfl

theorem exec_writeMemory (d : Dev) (hf : d.faults = []) (a n m : Nat) :
    d.exec ⟨Spec.cWriteMemory, Spec.flagHasDataPhase, [a, n, m]⟩ =
      if a + n ≤ d.mem.length then .fromHost d.next (genericResp 0 Spec.cWriteMemory) a n 0
      else .single d.next (genericResp Spec.stMemoryRangeInvalid Spec.cWriteMemory) := by
  rw [nofault_eta hf]; rfl

theorem exec_receiveSbFile (d : Dev) (hf : d.faults = []) (n : Nat) :
    d.exec ⟨Spec.cReceiveSbFile, Spec.flagHasDataPhase, [n]⟩ =
      .fromHost { d.next with sb := [] } (genericResp 0 Spec.cReceiveSbFile) 0 n 0 := by
  rw [nofault_eta hf]; rfl

/-- the commands the reference device only records in its log -/
inductive LogOnly : Nat → List Nat → Prop
  | execute (ps) : LogOnly Spec.cExecute ps
  | call (ps) : LogOnly Spec.cCall ps
  | eraseAllUnsecure (ps) : LogOnly Spec.cFlashEraseAllUnsecure ps
  | configureMemory (ps) : LogOnly Spec.cConfigureMemory ps
  | reliableUpdate (ps) : LogOnly Spec.cReliableUpdate ps
  | updateLifeCycle (ps) : LogOnly Spec.cUpdateLifeCycle ps
  | eleMessage (ps) : LogOnly Spec.cEleMessage ps
  | trust (op rest) : op = Spec.tpOemSetMasterShare ∨ op = Spec.tpHsmEncBlock → LogOnly Spec.cTrustProvisioning (op :: rest)
  | kpEnroll : LogOnly Spec.cKeyProvisioning [Spec.kpEnroll]
  | kpWriteNonvolatile (m) : LogOnly Spec.cKeyProvisioning [Spec.kpWriteNonVolatile, m]
  | kpReadNonvolatile (m) : LogOnly Spec.cKeyProvisioning [Spec.kpReadNonVolatile, m]
  | kpSetIntrinsicKey (t z) : LogOnly Spec.cKeyProvisioning [Spec.kpSetIntrinsicKey, t, z]

theorem exec_logged (d : Dev) (hf : d.faults = []) (tag : Nat) (ps : List Nat) (ht : LogOnly tag ps) :
    d.exec ⟨tag, 0, ps⟩ = .single { d.next with log := d.log ++ [(tag, ps)] } (genericResp 0 tag) := by
  rw [nofault_eta hf]
  cases ht with
  | trust op rest h => rcases h with rfl | rfl <;> rfl
  | _ => rfl

theorem exec_kpData (d : Dev) (hf : d.faults = []) (op t n : Nat) (hop : op = Spec.kpSetUserKey ∨ op = Spec.kpWriteKeyStore) :
    d.exec ⟨Spec.cKeyProvisioning, Spec.flagHasDataPhase, [op, t, n]⟩ =
      .fromHost { d.next with kpTarget := (op, t), kpBuf := [] } (genericResp 0 Spec.cKeyProvisioning) 0 n 0 := by
  rw [nofault_eta hf]; rcases hop with rfl | rfl <;> rfl

theorem exec_kpReadKeyStore (d : Dev) (hf : d.faults = []) :
    d.exec ⟨Spec.cKeyProvisioning, 0, [Spec.kpReadKeyStore]⟩ =
      .toHost d.next (lenResp Spec.rKeyProv 0 d.keyStore.length) d.keyStore 0 := by
  rw [nofault_eta hf]; rfl

theorem exec_flashReadResource (d : Dev) (hf : d.faults = []) (a n o : Nat) :
    d.exec ⟨Spec.cFlashReadResource, 0, [a, n, o]⟩ =
      if a + n ≤ d.resource.length then
        .toHost d.next (lenResp Spec.rFlashReadResource 0 n) ((d.resource.drop a).take n) 0
      else .single d.next (genericResp Spec.stMemoryRangeInvalid Spec.cFlashReadResource) := by
  rw [nofault_eta hf]; rfl

theorem exec_flashReadOnce4 (d : Dev) (hf : d.faults = []) (i : Nat) :
    d.exec ⟨Spec.cFlashReadOnce, 0, [i, 4]⟩ = .single d.next (readOnceResp 0 4 [(d.fuses.lookup i).getD 0]) := by
  rw [nofault_eta hf]; rfl

theorem exec_flashReadOnce8 (d : Dev) (hf : d.faults = []) (i : Nat) :
    d.exec ⟨Spec.cFlashReadOnce, 0, [i, 8]⟩ =
      .single d.next (readOnceResp 0 8 [(d.fuses.lookup i).getD 0, (d.fuses.lookup (i + 1)).getD 0]) := by
  rw [nofault_eta hf]; rfl

theorem exec_flashProgramOnce4 (d : Dev) (hf : d.faults = []) (i v : Nat) :
    d.exec ⟨Spec.cFlashProgramOnce, 0, [i, 4, v]⟩ =
      .single (d.next.programFuse i v) (genericResp 0 Spec.cFlashProgramOnce) := by
  rw [nofault_eta hf]; rfl

theorem exec_fuseRead (d : Dev) (hf : d.faults = []) (a n m : Nat) :
    d.exec ⟨Spec.cFuseRead, 0, [a, n, m]⟩ =
      if a + n ≤ d.resource.length then .toHost d.next (readMemResp 0 n) ((d.resource.drop a).take n) 0
      else .single d.next (genericResp Spec.stMemoryRangeInvalid Spec.cFuseRead) := by
  rw [nofault_eta hf]; rfl

theorem exec_fuseProgram (d : Dev) (hf : d.faults = []) (a n m : Nat) :
    d.exec ⟨Spec.cFuseProgram, Spec.flagHasDataPhase, [a, n, m]⟩ =
      .fromHost { d.next with sb := [], log := d.log ++ [(Spec.cFuseProgram, [a, n, m])] }
        (genericResp 0 Spec.cFuseProgram) 0 n 0 := by
  rw [nofault_eta hf]; rfl

theorem words_nil : ∀ v ∈ ([] : List Nat), v < 4294967296 := nofun

theorem words_cons {a : Nat} {l : List Nat} (ha : a < 4294967296) (hl : ∀ v ∈ l, v < 4294967296) :
    ∀ v ∈ a :: l, v < 4294967296 :=
  List.forall_mem_cons.2 ⟨ha, hl⟩

theorem words1 {a : Nat} (h : a < 4294967296) : ∀ v ∈ [a], v < 4294967296 := words_cons h words_nil

theorem words2 {a b : Nat} (h : a < 4294967296 ∧ b < 4294967296) : ∀ v ∈ [a, b], v < 4294967296 :=
  words_cons h.1 (words1 h.2)

theorem words3 {a b c : Nat} (h : a < 4294967296 ∧ b < 4294967296 ∧ c < 4294967296) : ∀ v ∈ [a, b, c], v < 4294967296 :=
  words_cons h.1 (words2 h.2)

theorem wf_mk {tag fl : Nat} {ps : List Nat} (h4 : ∀ v ∈ ps, v < 4294967296) (h1 : tag < 256 := by decide)
    (h2 : fl < 256 := by decide) (h3 : ps.length < 256 := by simp) : (⟨tag, fl, ps⟩ : CmdPkt).WF := ⟨h1, h2, h3, h4⟩

section
variable {h1 h0 : Host} {st : Nat} {d d1 : Dev} (hI : h1.Is h0 st d [] []) (hop : h0.opened = true)
include hI hop

/-- a command the device refuses (status ≠ 0): `_process_cmd` raises with `cmd_exception`, otherwise what follows it in
    the method (`f`) sees the failure and returns `v` -/
theorem cmd_refused {α : Type} (pkt : CmdPkt) (hwf : pkt.WF) {resp : Bytes} {rr : Resp} (hrr : Parses resp rr)
    (hexec : d.exec pkt = .single d1 resp) (hid1 : d1.phase = .idle) (hs0 : rr.status ≠ 0)
    (f : Resp → H α) (v : α) (hf : ∀ h, f rr h = (.ok v, h)) :
    ∃ h2, (processCmd pkt >>= f) h1 = ((if h0.cfg.cmdExc then .error (.cmd rr.status) else .ok v), h2) ∧
      h2.Is h0 rr.status d1 [] [] := by
  obtain ⟨h2, e2, hI2⟩ := processCmd_single hI hop pkt hwf hrr hexec hid1
  rw [cmdResult_fail _ _ hs0] at e2
  refine ⟨h2, ?_, hI2⟩
  cases hce : h0.cfg.cmdExc <;> rw [hce] at e2
  · rw [bind_ok e2]; exact hf _
  · rw [bind_err e2]; rfl

/-- `return self._process_cmd(...).status == SUCCESS` for a command the device carries out -/
theorem simpleCmd_ok {tag : Nat} {ps : List Nat} (hwf : (⟨tag, 0, ps⟩ : CmdPkt).WF)
    (hexec : d.exec ⟨tag, 0, ps⟩ = .single d1 (genericResp 0 tag)) (hid1 : d1.phase = .idle) :
    ∃ h2, simpleCmd tag ps h1 = (.ok (.bool true), h2) ∧ h2.Is h0 0 d1 [] [] := by
  obtain ⟨h2, e2, hI2⟩ := processCmd_single hI hop _ hwf
    (genericResp_parses 0 tag (by omega) (by have := hwf.tag; simp at this; omega)) hexec hid1
  rw [cmdResult_ok _ _ rfl] at e2
  exact ⟨h2, by rw [simpleCmd, bind_ok e2]; rfl, hI2⟩

theorem simpleCmd_refused {tag : Nat} {ps : List Nat} (hwf : (⟨tag, 0, ps⟩ : CmdPkt).WF) {s : Nat}
    (hexec : d.exec ⟨tag, 0, ps⟩ = .single d1 (genericResp s tag)) (hid1 : d1.phase = .idle) (hs0 : s ≠ 0)
    (hs1 : s < 4294967296) :
    ∃ h2, simpleCmd tag ps h1 = (specFail h0.cfg.cmdExc s (.bool false), h2) ∧ h2.Is h0 s d1 [] [] := by
  unfold simpleCmd specFail
  exact cmd_refused hI hop _ hwf (genericResp_parses s tag hs1 (by have := hwf.tag; simp at this; omega)) hexec hid1 hs0
    _ _ fun h => by simp [hs0]

theorem dataInCmd_refused {tag : Nat} {ps : List Nat} (kind : RKind) (hwf : (⟨tag, 0, ps⟩ : CmdPkt).WF) {s : Nat}
    (hexec : d.exec ⟨tag, 0, ps⟩ = .single d1 (genericResp s tag)) (hid1 : d1.phase = .idle) (hs0 : s ≠ 0)
    (hs1 : s < 4294967296) :
    ∃ h2, dataInCmd tag ps kind h1 = (specFail h0.cfg.cmdExc s .none, h2) ∧ h2.Is h0 s d1 [] [] := by
  unfold dataInCmd specFail
  exact cmd_refused hI hop _ hwf (genericResp_parses s tag hs1 (by have := hwf.tag; simp at this; omega)) hexec hid1 hs0
    _ _ fun h => by simp [hs0]
end

/-- a command with a host→device data phase the device accepts (`dataOutCmd`, `write_memory`) -/
theorem dataOutCmd_ok {h : Host} {d : Dev} (hs : Synced h d) (hd : d.OK) (hmps : h.mps = some d.maxPacket)
    {tag : Nat} {params : List Nat} (data : Bytes) (hwf : (⟨tag, Spec.flagHasDataPhase, params⟩ : CmdPkt).WF)
    {d1 : Dev} {a : Nat}
    (hexec : d.exec ⟨tag, Spec.flagHasDataPhase, params⟩ = .fromHost d1 (genericResp 0 tag) a data.length 0)
    (hid1 : d1.phase = .idle) (hmp1 : d1.maxPacket = d.maxPacket) (hnoab : d1.abortAfter = none) (hpc : d1.pktCount = 0)
    (hmem : tag = Spec.cWriteMemory → a + data.length ≤ d1.mem.length) :
    ∃ h3, dataOutCmd tag params data h = (.ok (.bool true), h3) ∧
      h3.Is h 0 (d1.afterData tag a data (split d.maxPacket data).length) [] [] := by
  have htag : tag < 4294967296 := by have := hwf.tag; simp at this; omega
  obtain ⟨h2, e2, hmid⟩ := processCmd_fromHost hs.is hs.opened _ hwf (genericResp_parses 0 tag (by omega) htag) hexec
  rw [cmdResult_ok _ _ rfl] at e2
  obtain ⟨h3, e3, hI3⟩ := sendData_dataOut hs.opened d.maxPacket hd.mp_pos hd.mp_lt d1 tag a data
    htag hid1 hmp1 hnoab hpc hmem hmid
  refine ⟨h3, ?_, hI3⟩
  rw [dataOutCmd, bind_ok (splitData_ok data h d.maxPacket hmps hd.mp_pos), bind_ok e2]
  simp only [if_true]
  rw [bind_ok e3]
  rfl

theorem dataOutCmd_refused {h : Host} {d : Dev} (hs : Synced h d) (hd : d.OK) (hmps : h.mps = some d.maxPacket)
    {tag : Nat} {params : List Nat} (data : Bytes) (hwf : (⟨tag, Spec.flagHasDataPhase, params⟩ : CmdPkt).WF)
    {d1 : Dev} {s : Nat} (hexec : d.exec ⟨tag, Spec.flagHasDataPhase, params⟩ = .single d1 (genericResp s tag))
    (hid1 : d1.phase = .idle) (hs0 : s ≠ 0) (hs1 : s < 4294967296) :
    ∃ h3, dataOutCmd tag params data h = (specFail h.cfg.cmdExc s (.bool false), h3) ∧ h3.Is h s d1 [] [] := by
  rw [dataOutCmd, bind_ok (splitData_ok data h d.maxPacket hmps hd.mp_pos)]
  unfold specFail
  exact cmd_refused hs.is hs.opened _ hwf (genericResp_parses s tag hs1 (by have := hwf.tag; simp at this; omega)) hexec
    hid1 hs0 _ _ fun h => by simp [hs0]

/-- a command with a device→host data phase (`dataInCmd`, `read_memory`) -/
theorem dataInCmd_ok {h : Host} {d : Dev} (hs : Synced h d) (hd : d.OK)
    {tag : Nat} {params : List Nat} (kind : RKind) (hwf : (⟨tag, 0, params⟩ : CmdPkt).WF)
    {d1 : Dev} {resp data : Bytes}
    (hexec : d.exec ⟨tag, 0, params⟩ = .toHost d1 resp data 0) (hid1 : d1.phase = .idle)
    (hmp1 : d1.maxPacket = d.maxPacket)
    {rr : Resp} (hrr : Parses resp rr) (hst : rr.status = 0) (hkind : rr.kind = kind) (hlen : rr.length = data.length) :
    ∃ h3, dataInCmd tag params kind h = (.ok (.bytes data), h3) ∧ h3.Is h 0 d1 [] [] := by
  obtain ⟨h2, e2, h3, e3, hI3⟩ := cmd_readData hs.is hs.opened _ hwf hexec hid1
    (hmp1 ▸ hd.mp_pos) (hmp1 ▸ hd.mp_lt) hrr hst
  refine ⟨h3, ?_, hI3⟩
  rw [dataInCmd, bind_ok e2]
  simp only [hst, hkind, hlen, if_true]
  rw [bind_ok e3]
  rfl

theorem clampMemId_lt {m : Nat} (h : m < 4294967296) : clampMemId m < 4294967296 := by
  unfold clampMemId; split <;> omega

theorem lookup_mem {t v : Nat} {l : List (Nat × Nat)} (h : l.lookup t = some v) : (t, v) ∈ l := by
  induction l with
  | nil => cases h
  | cons q r ih =>
    rw [List.lookup_cons] at h
    split at h
    · rename_i e; cases h; rw [beq_iff_eq] at e; rw [e]; exact List.mem_cons_self
    · exact List.mem_cons_of_mem _ (ih h)

theorem fuse_lt (fuses : List (Nat × Nat)) (hf : ∀ q ∈ fuses, q.2 < 4294967296) (i : Nat) :
    (fuses.lookup i).getD 0 < 4294967296 := by
  cases hl : fuses.lookup i with
  | none => exact Nat.zero_lt_succ _
  | some v => exact hf _ (lookup_mem hl)

section
variable {h1 h0 : Host} {st : Nat} {d d1 : Dev} (hI : h1.Is h0 st d [] []) (hop : h0.opened = true)
include hI hop

/-- `get_property`, answered with status `s` and value `v` -/
theorem getProperty_run (t i : Nat) (hwf : (⟨Spec.cGetProperty, 0, [t, i]⟩ : CmdPkt).WF) {s v : Nat}
    (hs : s < 4294967296) (hv : v < 4294967296)
    (hexec : d.exec ⟨Spec.cGetProperty, 0, [t, i]⟩ = .single d1 (getPropResp s [v])) (hid1 : d1.phase = .idle) :
    ∃ h2, runOp (.getProperty t i) h1 = ((if s = 0 then .ok (.ints [v]) else specFail h0.cfg.cmdExc s .none), h2) ∧
      h2.Is h0 s d1 [] [] := by
  have hrr := getPropResp_parses s v hs hv
  by_cases hs0 : s = 0
  · subst hs0
    obtain ⟨h2, e2, hI2⟩ := processCmd_single hI hop _ hwf hrr hexec hid1
    rw [cmdResult_ok _ _ rfl] at e2
    refine ⟨h2, ?_, hI2⟩
    show (getProperty t i >>= _) h1 = _
    rw [bind_ok (show getProperty t i h1 = (.ok (some [v]), h2) by rw [getProperty, bind_ok e2]; rfl)]
    rfl
  · obtain ⟨h2, e2, hI2⟩ := cmd_refused hI hop _ hwf hrr hexec hid1 hs0
      (fun r : Resp => (if r.status = Spec.stSuccess then
          if r.kind = .getProperty then pure (some r.values) else fail .mboot else pure none : H (Option (List Nat))))
      none (fun h => by simp [hs0])
    refine ⟨h2, ?_, hI2⟩
    show (getProperty t i >>= _) h1 = _
    rw [if_neg hs0, specFail]
    cases hce : h0.cfg.cmdExc <;> rw [hce] at e2
    · rw [bind_ok (show getProperty t i h1 = (.ok none, h2) from e2)]; rfl
    · rw [bind_err (show getProperty t i h1 = (.error (.cmd s), h2) from e2)]; rfl

theorem efuseReadOnce_ok (i : Nat) (hi : i < 4294967296) (hf : d.faults = []) (hfl : ∀ q ∈ d.fuses, q.2 < 4294967296) :
    ∃ h2, efuseReadOnce i h1 = (.ok (some ((d.fuses.lookup i).getD 0)), h2) ∧ h2.Is h0 0 d.next [] [] := by
  obtain ⟨h2, e2, hI2⟩ := processCmd_single hI hop _ (wf_mk (tag := Spec.cFlashReadOnce) (ps := [i, 4]) (words_cons hi (words1 (by decide))))
    (readOnceResp_parses [(d.fuses.lookup i).getD 0] (by simpa using fuse_lt d.fuses hfl i) (by simp) (by simp))
    (exec_flashReadOnce4 d hf i) rfl
  rw [cmdResult_ok _ _ rfl] at e2
  exact ⟨h2, by rw [efuseReadOnce, bind_ok e2]; rfl, hI2⟩

theorem flashReadOnce_ok (i : Nat) (vals : List Nat) (hv : ∀ v ∈ vals, v < 4294967296)
    (hn : vals.length = 1 ∨ vals.length = 2) (hw : ∀ v ∈ [i, 4 * vals.length], v < 4294967296)
    (hexec : d.exec ⟨Spec.cFlashReadOnce, 0, [i, 4 * vals.length]⟩ = .single d1 (readOnceResp 0 (4 * vals.length) vals))
    (hid1 : d1.phase = .idle) :
    ∃ h2, flashReadOnce i (4 * vals.length) h1 = (.ok (.bytes (vals.flatMap (le 4))), h2) ∧ h2.Is h0 0 d1 [] [] := by
  obtain ⟨h2, e2, hI2⟩ := processCmd_single hI hop _ (wf_mk (tag := Spec.cFlashReadOnce) hw)
    (readOnceResp_parses vals hv (by omega) (by omega)) hexec hid1
  rw [cmdResult_ok _ _ rfl] at e2
  refine ⟨h2, ?_, hI2⟩
  rw [flashReadOnce, if_neg (by omega), bind_ok e2]
  simp
end

theorem programFuse_fuses_lt (d : Dev) (i v : Nat) (hf : ∀ q ∈ d.fuses, q.2 < 4294967296) (hv : v < 4294967296) :
    ∀ q ∈ (d.programFuse i v).fuses, q.2 < 4294967296 := by
  unfold Dev.programFuse
  split
  · exact hf
  · intro q hq
    rcases List.mem_cons.mp hq with rfl | hq
    · exact Nat.or_lt_two_pow (n := 32) (fuse_lt d.fuses hf i) hv
    · exact hf q (List.mem_filter.mp hq).1

theorem programFuse_phase (d : Dev) (i v : Nat) : (d.programFuse i v).phase = d.phase := by
  unfold Dev.programFuse; split <;> rfl
theorem programFuse_faults (d : Dev) (i v : Nat) : (d.programFuse i v).faults = d.faults := by
  unfold Dev.programFuse; split <;> rfl
theorem programFuse_ncmd (d : Dev) (i v : Nat) : (d.programFuse i v).ncmd = d.ncmd := by
  unfold Dev.programFuse; split <;> rfl

/-- programming a word and counting a command commute -/
theorem programFuse_next (d : Dev) (i v k : Nat) :
    ({ d with ncmd := d.ncmd + k, phase := .idle, pktCount := 0 } : Dev).programFuse i v =
      { d.programFuse i v with ncmd := d.ncmd + k, phase := .idle, pktCount := 0 } := by
  unfold Dev.programFuse; split <;> rfl

/-- the conclusion of the refinement theorems -/
def Refines (h : Host) (op : Op) (d' : Dev) (res : Except HErr Val) (st : Nat) : Prop :=
  ∃ h', runOp op h = (res, h') ∧ Synced h' d' ∧ h'.status = st ∧ h'.cfg = h.cfg ∧ h'.mps = h.mps ∧ h'.eda = false

/-- A run that ends in step with a device `d1` which is the specified `d'` up to the phase field; the phase of `d'` is
    that of the idle device the run started from. -/
theorem Host.Is.synced {h h2 : Host} {d d1 d' : Dev} {st : Nat} (hI : h2.Is h st d1 [] []) (hs : Synced h d)
    (hd1 : d1 = { d' with phase := .idle }) (hid : d'.phase = .idle) :
    Synced h2 d' ∧ h2.status = st ∧ h2.cfg = h.cfg ∧ h2.mps = h.mps ∧ h2.eda = h.eda := by
  rw [hd1, ← idle_eta hid] at hI
  exact ⟨⟨hI.peer, hid, hI.rxB, hI.rxR, hI.opened.trans hs.opened⟩, hI.status, hI.cfg, hI.mps, hI.eda⟩

theorem Refines.of_run {h : Host} {d d1 d' : Dev} {op : Op} {res : Except HErr Val} {st : Nat} (hs : Synced h d)
    (heda : h.eda = false) (hx : ∃ h2, runOp op h = (res, h2) ∧ h2.Is h st d1 [] [])
    (hd1 : d1 = { d' with phase := .idle }) (hid : d'.phase = .idle) : Refines h op d' res st := by
  obtain ⟨h2, e, hI⟩ := hx
  obtain ⟨s1, s2, s3, s4, s5⟩ := hI.synced hs hd1 hid
  exact ⟨h2, e, s1, s2, s3, s4, s5.trans heda⟩

/-- `runOp op` does what the specification says, where it says anything -/
def RefinesSpec (h : Host) (op : Op) : Option (Dev × Except HErr Val × Nat) → Prop
  | none => True
  | some (d', res, st) => Refines h op d' res st

theorem RefinesSpec.ite {h : Host} {op : Op} {c : Prop} [Decidable c] {x y}
    (hx : c → RefinesSpec h op x) (hy : ¬ c → RefinesSpec h op y) : RefinesSpec h op (if c then x else y) := by
  split
  · exact hx ‹_›
  · exact hy ‹_›

theorem refines_logged {h : Host} {d : Dev} (op : Op) (tag : Nat) (ps : List Nat) (hs : Synced h d) (hd : d.OK)
    (heda : h.eda = false) (hwf : (⟨tag, 0, ps⟩ : CmdPkt).WF) (hlog : LogOnly tag ps)
    (hrun : runOp op h = simpleCmd tag ps h) :
    Refines h op (d.logged tag ps) (.ok (.bool true)) Spec.stSuccess :=
  .of_run hs heda (hrun ▸ simpleCmd_ok hs.is hs.opened hwf (exec_logged d hd.nofault tag ps hlog) rfl) rfl hs.idle

/-- `receive_sb_file`: `enable_data_abort` is set for the data phase only -/
theorem refines_receiveSbFile {h : Host} {d : Dev} (hs : Synced h d) (hd : d.OK) (hmps : h.mps = some d.maxPacket)
    (heda : h.eda = false) (data : Bytes) (c : Bool) (hn : data.length < 4294967296) :
    Refines h (.receiveSbFile data c)
      { d with ncmd := d.ncmd + 1, sb := data, pktCount := (split d.maxPacket data).length } (.ok (.bool true)) Spec.stSuccess := by
  obtain ⟨h2, e2, hmid⟩ := processCmd_fromHost hs.is hs.opened _
    (wf_mk (tag := Spec.cReceiveSbFile) (fl := Spec.flagHasDataPhase) (words1 hn))
    (genericResp_parses 0 Spec.cReceiveSbFile (by omega) (by decide)) (exec_receiveSbFile d hd.nofault data.length)
  rw [cmdResult_ok _ _ rfl] at e2
  have hmid' : if data.length = 0 then
        Owes { h2 with eda := c } { h with eda := c } 0 (Dev.finishData { d.next with sb := [] } Spec.cReceiveSbFile) []
          Spec.cReceiveSbFile 0
      else ({ h2 with eda := c } : Host).Is { h with eda := c } 0
        { ({ d.next with sb := [] } : Dev) with phase := .recv Spec.cReceiveSbFile 0 data.length 0 } [] [] := by
    by_cases hc : data.length = 0
    · rw [if_pos hc] at hmid ⊢; exact hmid.setEda c
    · rw [if_neg hc] at hmid ⊢; exact hmid.setEda c
  obtain ⟨h3, e3, hI3⟩ := sendData_dataOut (h0 := { h with eda := c }) hs.opened d.maxPacket hd.mp_pos hd.mp_lt
    { d.next with sb := [] } Spec.cReceiveSbFile 0 data (by decide) rfl rfl hd.noabort rfl (fun e => absurd e (by decide)) hmid'
  refine .of_run hs heda ⟨{ h3 with eda := false }, ?_, { hI3 with eda := heda.symm }⟩ rfl hs.idle
  show receiveSbFile data c h = _
  rw [receiveSbFile, bind_ok (splitData_ok data h d.maxPacket hmps hd.mp_pos), bind_ok e2]
  simp only [if_true]
  rw [bind_ok (modify_run _ _), bind_ok e3, bind_ok (modify_run _ _)]
  rfl

/-! ### `load_image`: data packets without a command, collected by a device in image mode -/

theorem sendChunks_stray {h0 : Host} (ab : Bool) :
    ∀ (cs : List Bytes) (d : Dev) (h1 : Host) (sent st : Nat),
      (∀ c ∈ cs, c ≠ [] ∧ c.length ≤ d.maxPacket ∧ c.length < 65536) → d.imageMode = true → d.phase = .idle →
      h1.Is h0 st d [] [] →
      ∃ h2, sendChunks ab cs sent h1 = (.ok (sent + (cs.map List.length).sum, none), h2) ∧
        h2.Is h0 st { d with image := d.image ++ cs.flatten } [] [] := by
  intro cs
  induction cs with
  | nil =>
    intro d h1 sent st _ _ _ hI
    exact ⟨h1, rfl, by rw [List.flatten_nil, List.append_nil]; exact hI⟩
  | cons c cs ih =>
    intro d h1 sent st hcs him hph hI
    obtain ⟨hc0, hc, hc2⟩ := hcs c List.mem_cons_self
    have hstray : d.strayData c = some { d with image := d.image ++ c } := by
      rw [Dev.strayData, if_pos ⟨him, hph, by simpa using hc0, hc⟩]
    obtain ⟨h2, e2, hI2⟩ := writeData_quiet hI ab c hc2 (by rw [onData_idle c hph, hstray]; rfl)
    obtain ⟨h3, e3, hI3⟩ := ih { d with image := d.image ++ c } h2 (sent + c.length) st
      (fun x hx => hcs x (List.mem_cons_of_mem _ hx)) him hph hI2
    refine ⟨h3, ?_, ?_⟩
    · rw [sendChunks_cons_ok e2, e3, List.map_cons, List.sum_cons, Nat.add_assoc]
    · rw [List.flatten_cons, ← List.append_assoc]; exact hI3

theorem refines_loadImage {h : Host} {d : Dev} (hs : Synced h d) (hd : d.OK) (hmps : h.mps = some d.maxPacket)
    (heda : h.eda = false) (data : Bytes) (him : d.imageMode = true) :
    Refines h (.loadImage data) { d with image := d.image ++ data } (.ok (.bool true)) Spec.stSuccess := by
  obtain ⟨h2, e2, hI2⟩ := sendChunks_stray (h0 := h) h.eda (split d.maxPacket data) d _ 0 0
    (split_chunks_lt _ hd.mp_pos hd.mp_lt data) him hs.idle (hs.is.setStatus 0)
  rw [split_flatten' _ hd.mp_pos] at hI2
  rw [Nat.zero_add] at e2
  refine .of_run hs heda ⟨h2, ?_, hI2⟩ (idle_eta hs.idle) hs.idle
  show loadImage data h = _
  rw [loadImage, bind_ok (splitData_ok data h d.maxPacket hmps hd.mp_pos), bind_ok (setStatus_run _ _)]
  have e3 : sendDataNoResp (split d.maxPacket data) { h with status := Spec.stSuccess } = (.ok true, h2) := by
    rw [sendDataNoResp, bind_ok (requireOpen_ok { h with status := Spec.stSuccess } hs.opened), bind_ok (get_run _)]
    simp only []
    rw [bind_ok e2]
    simp
  rw [bind_ok e3]
  rfl

/-! ### `read_memory` over `UsbDevice`: one READ_MEMORY command per packet-size chunk -/

/-- the `i`-th of the `P` chunks of `n` bytes: it lies within the `n` bytes and ends where the next one starts -/
theorem chunk_arith (n mp : Nat) (hmp : 0 < mp) (i : Nat) (hi : i < n / mp + (if n % mp ≠ 0 then 1 else 0)) :
    i * mp + (if i = n / mp + (if n % mp ≠ 0 then 1 else 0) - 1 ∧ n % mp ≠ 0 then n % mp else mp) =
      min ((i + 1) * mp) n := by
  have hn := Nat.div_add_mod' n mp
  have hrlt := Nat.mod_lt n hmp
  generalize n / mp = q at *
  generalize n % mp = r at *
  have full : ∀ {i}, i + 1 ≤ q → i * mp + mp = min ((i + 1) * mp) n := fun h => by
    rw [← Nat.succ_mul, Nat.min_eq_left]
    exact hn ▸ Nat.le_trans (Nat.mul_le_mul_right mp h) (Nat.le_add_right _ r)
  by_cases hr : r ≠ 0
  · rw [if_pos hr] at hi ⊢
    rw [Nat.add_sub_cancel]
    by_cases hiq : i = q
    · rw [if_pos ⟨hiq, hr⟩, hiq, hn, Nat.min_eq_right]
      rw [Nat.succ_mul, ← hn]; exact Nat.add_le_add_left (Nat.le_of_lt hrlt) _
    · rw [if_neg (fun h => hiq h.1)]; exact full (Nat.lt_of_le_of_ne (Nat.le_of_lt_succ hi) hiq)
  · rw [if_neg hr, Nat.add_zero] at hi
    rw [if_neg (fun h => hr h.2)]; exact full hi

theorem chunks_cover (n mp : Nat) (hmp : 0 < mp) (hn : 0 < n) :
    0 < n / mp + (if n % mp ≠ 0 then 1 else 0) ∧ n ≤ (n / mp + (if n % mp ≠ 0 then 1 else 0)) * mp := by
  have hdm := Nat.div_add_mod' n mp
  have hrlt := Nat.mod_lt n hmp
  generalize n / mp = q at *
  generalize n % mp = r at *
  by_cases hr : r ≠ 0
  · rw [if_pos hr, Nat.succ_mul]
    exact ⟨Nat.succ_pos q, hdm ▸ Nat.add_le_add_left (Nat.le_of_lt hrlt) _⟩
  · rw [if_neg hr, Nat.add_zero]
    rw [Decidable.not_not.mp hr, Nat.add_zero] at hdm
    refine ⟨Nat.pos_of_ne_zero fun hq => ?_, Nat.le_of_eq hdm.symm⟩
    rw [hq, Nat.zero_mul] at hdm; omega

theorem chunk_bounds {x len n a M : Nat} (h : x + len ≤ n) (hrange : a + n ≤ M) (hM : M < 4294967296) :
    a + x < 4294967296 ∧ len < 4294967296 ∧ a + x + len ≤ M :=
  have hin : a + x + len ≤ M := Nat.add_assoc a x len ▸ Nat.le_trans (Nat.add_le_add_left h a) hrange
  ⟨Nat.lt_of_le_of_lt (Nat.le_trans (Nat.le_add_right _ len) hin) hM,
    Nat.lt_of_le_of_lt (Nat.le_trans (Nat.le_add_left len (a + x)) hin) hM, hin⟩

theorem readChunks_ok {h0 : Host} (hop : h0.opened = true) (a m mp rem n : Nat) (mem : Bytes)
    (hmp : 0 < mp) (hmp2 : mp < 65536) (hm : m < 4294967296) (hrange : a + n ≤ mem.length)
    (hmemlt : mem.length < 4294967296) (P : Nat)
    (harith : ∀ i < P, i * mp + (if i = P - 1 ∧ rem ≠ 0 then rem else mp) = min ((i + 1) * mp) n) :
    ∀ (k : Nat) (e : Dev) (h1 : Host) (acc : Bytes) (st : Nat), k ≤ P → e.mem = mem → e.maxPacket = mp →
      e.faults = [] → h1.Is h0 st e [] [] → acc = (mem.drop a).take (min ((P - k) * mp) n) →
      ∃ h2, readChunks a m mp rem P k acc h1 = (.ok ((mem.drop a).take (min (P * mp) n)), h2) ∧
        h2.Is h0 (if k = 0 then st else 0)
          (if k = 0 then e else { e with ncmd := e.ncmd + k, phase := .idle, pktCount := 0 }) [] [] := by
  intro k
  induction k with
  | zero =>
    intro e h1 acc st _ _ _ _ hI hacc
    exact ⟨h1, by rw [hacc]; rfl, hI⟩
  | succ k ih =>
    intro e h1 acc st hk hmem hemp hef hI hacc
    have hi := harith (P - (k + 1)) (Nat.sub_lt_of_pos_le (Nat.succ_pos k) hk)
    rw [show P - (k + 1) + 1 = P - k by omega] at hi
    generalize hlen : (if P - (k + 1) = P - 1 ∧ rem ≠ 0 then rem else mp) = len at hi
    have hoff : (P - (k + 1)) * mp + len ≤ n := hi ▸ Nat.min_le_right _ _
    have hpre := Nat.min_eq_left (Nat.le_trans (Nat.le_add_right _ len) hoff)
    obtain ⟨hw1, hw2, hin⟩ := chunk_bounds hoff hrange hmemlt
    obtain ⟨h2, e2, h3, e3, hI3⟩ := cmd_readData hI hop ⟨Spec.cReadMemory, 0, [a + (P - (k + 1)) * mp, len, m]⟩
      (wf_mk (words3 ⟨hw1, hw2, hm⟩)) ((exec_readMemory e hef _ len m).trans (if_pos (hmem ▸ hin))) rfl (hemp ▸ hmp)
      (hemp ▸ hmp2) (lenResp_parses _ 0 len (Nat.zero_lt_succ _) hw2 (.inl rfl)) rfl
    rw [take_drop_length _ _ _ (hmem ▸ hin), hmem] at e3
    obtain ⟨h4, e4, hI4⟩ := ih e.next h3 (acc ++ (mem.drop (a + (P - (k + 1)) * mp)).take len) 0 (Nat.le_of_succ_le hk) hmem hemp hef hI3
      (by rw [← hi, List.take_add, List.drop_drop, hacc, hpre])
    refine ⟨h4, ?_, ?_⟩
    · rw [readChunks, hlen, bind_ok e2]
      simp only [if_true]
      rw [bind_ok e3, bind_ok (get_run _), if_neg (by rw [hI3.status]; simp)]
      exact e4
    · rw [if_neg (Nat.succ_ne_zero k), if_neg (Nat.succ_ne_zero k)]
      by_cases hk0 : k = 0
      · rw [hk0]; rw [if_pos hk0, if_pos hk0] at hI4; exact hI4
      · rw [if_neg hk0, if_neg hk0] at hI4
        rw [Nat.add_comm k 1, ← Nat.add_assoc]
        exact hI4

theorem op_refines_spec (h : Host) (d : Dev) (op : Op)
    (hs : Synced h d) (hd : d.OK) (hmps : h.mps = some d.maxPacket) (heda : h.eda = false) (hargs : op.argsOK) :
    RefinesSpec h op (specOp h.cfg.cmdExc h.cfg.usb d op) := by
  have hf := hd.nofault
  have hI := hs.is
  have hop := hs.opened
  -- a run that ends in step with the specified device, up to its phase field
  have fin : ∀ {op d1 d' res st}, (∃ h2, runOp op h = (res, h2) ∧ h2.Is h st d1 [] []) →
      d1 = { d' with phase := .idle } → d'.phase = .idle → Refines h op d' res st :=
    fun hx h1 h2 => .of_run hs heda hx h1 h2
  have hst : Spec.stMemoryRangeInvalid ≠ 0 ∧ Spec.stMemoryRangeInvalid < 4294967296 := by decide
  cases op with
  | open_ | reset => trivial
  | fillMemory a n pat =>
    have hwf : (⟨Spec.cFillMemory, 0, [a, n, pat]⟩ : CmdPkt).WF := wf_mk (words3 hargs)
    have hex := exec_fillMemory d hf a n pat
    exact .ite (fun hc => fin (simpleCmd_ok hI hop hwf (hex.trans (if_pos hc)) rfl) rfl hs.idle) fun hc =>
      fin (simpleCmd_refused hI hop hwf (hex.trans (if_neg hc)) rfl hst.1 hst.2) rfl hs.idle
  | eraseRegion a n m =>
    have hwf : (⟨Spec.cFlashEraseRegion, 0, [a, n, clampMemId m]⟩ : CmdPkt).WF :=
      wf_mk (words3 ⟨hargs.1, hargs.2.1, clampMemId_lt hargs.2.2⟩)
    have hex := exec_eraseRegion d hf a n (clampMemId m)
    exact .ite (fun hc => fin (simpleCmd_ok hI hop hwf (hex.trans (if_pos hc)) rfl) rfl hs.idle) fun hc =>
      fin (simpleCmd_refused hI hop hwf (hex.trans (if_neg hc)) rfl hst.1 hst.2) rfl hs.idle
  | eraseAll m => exact fin (simpleCmd_ok hI hop (wf_mk (words1 hargs)) (exec_eraseAll d hf m) rfl) rfl hs.idle
  | setProperty t v =>
    have hwf : (⟨Spec.cSetProperty, 0, [t, v]⟩ : CmdPkt).WF := wf_mk (words2 hargs)
    have hex := exec_setProperty d hf t v
    exact .ite (fun hc => fin (simpleCmd_ok hI hop hwf (hex.trans (if_pos hc)) rfl) rfl hs.idle) fun hc =>
      .ite (fun hc2 => fin (simpleCmd_refused hI hop hwf (hex.trans ((if_neg hc).trans (if_pos hc2))) rfl
          (by decide) (by decide)) rfl hs.idle) fun hc2 =>
        fin (simpleCmd_refused hI hop hwf (hex.trans ((if_neg hc).trans (if_neg hc2))) rfl (by decide) (by decide)) rfl hs.idle
  | getProperty t i =>
    have hwf : (⟨Spec.cGetProperty, 0, [t, i]⟩ : CmdPkt).WF := wf_mk (words2 hargs)
    have hex := exec_getProperty d hf t i
    have hmp := hd.mp_lt
    refine .ite (fun hc => fin (getProperty_run hI hop t i hwf (by omega) (by omega) (hex.trans (if_pos hc)) rfl) rfl hs.idle)
      fun hc => ?_
    rw [if_neg hc] at hex
    cases hl : d.props.lookup t <;> rw [hl] at hex
    · exact fin (getProperty_run hI hop t i hwf (by decide) (by omega) hex rfl) rfl hs.idle
    · exact fin (getProperty_run hI hop t i hwf (by omega) (hd.props_lt _ (lookup_mem hl)) hex rfl) rfl hs.idle
  | execute a g sp => exact refines_logged _ _ _ hs hd heda (wf_mk (words3 hargs)) (.execute [a, g, sp]) rfl
  | call a g => exact refines_logged _ _ _ hs hd heda (wf_mk (words2 hargs)) (.call [a, g]) rfl
  | eraseAllUnsecure => exact refines_logged _ _ _ hs hd heda (wf_mk words_nil) (.eraseAllUnsecure []) rfl
  | configureMemory a m => exact refines_logged _ _ _ hs hd heda (wf_mk (words2 hargs.symm)) (.configureMemory [m, a]) rfl
  | reliableUpdate a => exact refines_logged _ _ _ hs hd heda (wf_mk (words1 hargs)) (.reliableUpdate [a]) rfl
  | kpEnroll => exact refines_logged _ _ _ hs hd heda (wf_mk (words1 (by decide))) .kpEnroll rfl
  | kpSetIntrinsicKey t z =>
    exact refines_logged _ _ _ hs hd heda (wf_mk (words_cons (by decide) (words2 hargs))) (.kpSetIntrinsicKey t z) rfl
  | kpWriteNonvolatile m =>
    exact refines_logged _ _ _ hs hd heda (wf_mk (words_cons (by decide) (words1 hargs))) (.kpWriteNonvolatile m) rfl
  | kpReadNonvolatile m =>
    exact refines_logged _ _ _ hs hd heda (wf_mk (words_cons (by decide) (words1 hargs))) (.kpReadNonvolatile m) rfl
  | logCmd t ps =>
    refine .ite (fun hc => refines_logged _ t ps hs hd heda (wf_mk hargs.2.2 hargs.1 (by decide) (by have := hargs.2.1; omega))
      ?_ rfl) fun _ => trivial
    rcases hc with rfl | rfl | ⟨rfl, hp⟩
    · exact .updateLifeCycle ps
    · exact .eleMessage ps
    · cases ps with
      | nil => cases hp <;> contradiction
      | cons op rest => exact .trust op rest (by simpa using hp)
  | writeMemory a data m =>
    have hwf : (⟨Spec.cWriteMemory, Spec.flagHasDataPhase, [a, data.length, clampMemId m]⟩ : CmdPkt).WF :=
      wf_mk (words3 ⟨hargs.1, hargs.2.1, clampMemId_lt hargs.2.2⟩)
    have hex := exec_writeMemory d hf a data.length (clampMemId m)
    exact .ite (fun hc => fin (dataOutCmd_ok hs hd hmps data hwf (hex.trans (if_pos hc)) rfl rfl hd.noabort rfl fun _ => hc)
      rfl hs.idle) fun hc => fin (dataOutCmd_refused hs hd hmps data hwf (hex.trans (if_neg hc)) rfl hst.1 hst.2) rfl hs.idle
  | receiveSbFile data c => exact refines_receiveSbFile hs hd hmps heda data c hargs
  | loadImage data => exact .ite (refines_loadImage hs hd hmps heda data) fun _ => trivial
  | kpSetUserKey t data =>
    exact fin (dataOutCmd_ok hs hd hmps data (wf_mk (words_cons (by decide) (words2 hargs)))
      (exec_kpData d hf Spec.kpSetUserKey t data.length (.inl rfl)) rfl rfl hd.noabort rfl (fun e => absurd e (by decide)))
      rfl hs.idle
  | kpWriteKeyStore data =>
    exact fin (dataOutCmd_ok hs hd hmps data (wf_mk (words_cons (by decide) (words_cons (by decide) (words1 hargs))))
      (exec_kpData d hf Spec.kpWriteKeyStore 0 data.length (.inr rfl)) rfl rfl hd.noabort rfl (fun e => absurd e (by decide)))
      rfl hs.idle
  | fuseProgram a data m =>
    exact fin (dataOutCmd_ok hs hd hmps data (wf_mk (words3 ⟨hargs.1, hargs.2.1, clampMemId_lt hargs.2.2⟩))
      (exec_fuseProgram d hf a data.length (clampMemId m)) rfl rfl hd.noabort rfl (fun e => absurd e (by decide)))
      rfl hs.idle
  | kpReadKeyStore =>
    exact fin (dataInCmd_ok hs hd .keyProv (wf_mk (words1 (by decide))) (exec_kpReadKeyStore d hf) rfl rfl
      (lenResp_parses _ 0 _ (by omega) hd.keystore_lt (.inr (.inr rfl))) rfl rfl rfl) rfl hs.idle
  | fuseRead a n m =>
    have hwf : (⟨Spec.cFuseRead, 0, [a, n, clampMemId m]⟩ : CmdPkt).WF :=
      wf_mk (words3 ⟨hargs.1, hargs.2.1, clampMemId_lt hargs.2.2⟩)
    have hex := exec_fuseRead d hf a n (clampMemId m)
    exact .ite (fun hc => fin (dataInCmd_ok hs hd .readMemory hwf (hex.trans (if_pos hc)) rfl rfl
        (lenResp_parses _ 0 n (by omega) hargs.2.1 (.inl rfl)) rfl rfl (take_drop_length _ a n hc).symm) rfl hs.idle)
      fun hc => fin (dataInCmd_refused hI hop .readMemory hwf (hex.trans (if_neg hc)) rfl hst.1 hst.2) rfl hs.idle
  | flashReadResource a n o =>
    have hwf : (⟨Spec.cFlashReadResource, 0, [a, n, o]⟩ : CmdPkt).WF := wf_mk (words3 hargs)
    have hex := exec_flashReadResource d hf a n o
    refine .ite (fun _ => trivial) fun hmod => ?_
    have hrun : runOp (.flashReadResource a n o) h = dataInCmd Spec.cFlashReadResource [a, n, o] .flashReadResource h :=
      congrFun (if_neg hmod) h
    exact .ite (fun hc => fin (hrun ▸ dataInCmd_ok hs hd .flashReadResource hwf (hex.trans (if_pos hc)) rfl rfl
        (lenResp_parses _ 0 n (by omega) hargs.2.1 (.inr (.inl rfl))) rfl rfl (take_drop_length _ a n hc).symm) rfl hs.idle)
      fun hc => fin (hrun ▸ dataInCmd_refused hI hop .flashReadResource hwf (hex.trans (if_neg hc)) rfl hst.1 hst.2) rfl hs.idle
  | readMemory a n m fast =>
    have hm' := clampMemId_lt hargs.2.2
    refine .ite (fun husb => .ite (fun hc => ?_) fun _ => trivial) fun husb => ?_
    · have hmp := hd.mp_pos
      obtain ⟨P, hP⟩ : ∃ P, P = n / d.maxPacket + (if n % d.maxPacket ≠ 0 then 1 else 0) := ⟨_, rfl⟩
      have hPn : 0 < P ∧ n ≤ P * d.maxPacket := hP ▸ chunks_cover n d.maxPacket hmp hc.1
      obtain ⟨h2, e2, hI2⟩ := readChunks_ok hop a (clampMemId m) d.maxPacket (n % d.maxPacket) n d.mem hmp hd.mp_lt hm' hc.2
        hd.mem_lt P (hP ▸ chunk_arith n d.maxPacket hmp) P d h [] h.status (Nat.le_refl _) rfl rfl hf hI
        (by rw [Nat.sub_self, Nat.zero_mul, Nat.zero_min]; rfl)
      rw [if_neg (by omega), if_neg (by omega)] at hI2
      rw [Nat.min_eq_right hPn.2] at e2
      rw [← hP]
      refine fin ⟨h2, ?_, hI2⟩ rfl hs.idle
      show readMemory a n m fast h = _
      rw [readMemory, bind_ok (get_run _), if_pos (by simpa using husb), bind_ok (getMaxPacketSize_ok h _ hmps),
        if_neg (by omega), ← hP, bind_ok e2]
      rfl
    · have hrun : runOp (.readMemory a n m fast) h = dataInCmd Spec.cReadMemory [a, n, clampMemId m] .readMemory h := by
        show readMemory a n m fast h = _
        rw [readMemory, bind_ok (get_run _), if_neg (by simpa using husb)]
        rfl
      have hwf : (⟨Spec.cReadMemory, 0, [a, n, clampMemId m]⟩ : CmdPkt).WF := wf_mk (words3 ⟨hargs.1, hargs.2.1, hm'⟩)
      have hex := exec_readMemory d hf a n (clampMemId m)
      exact .ite (fun hc => fin (hrun ▸ dataInCmd_ok hs hd .readMemory hwf (hex.trans (if_pos hc)) rfl rfl
          (lenResp_parses _ 0 n (by omega) hargs.2.1 (.inl rfl)) rfl rfl (take_drop_length _ a n hc).symm) rfl hs.idle)
        fun hc => fin (hrun ▸ dataInCmd_refused hI hop .readMemory hwf (hex.trans (if_neg hc)) rfl hst.1 hst.2) rfl hs.idle
  | efuseReadOnce i =>
    obtain ⟨h2, e2, hI2⟩ := efuseReadOnce_ok hI hop i hargs hf hd.fuses_lt
    exact fin ⟨h2, (bind_ok e2 : (efuseReadOnce i >>= _) h = _), hI2⟩ rfl hs.idle
  | flashReadOnce i c =>
    have hv := fuse_lt d.fuses hd.fuses_lt i
    have hw := fuse_lt d.fuses hd.fuses_lt (i + 1)
    refine .ite (fun hc4 => ?_) fun _ => .ite (fun hc8 => ?_) fun _ => trivial
    · subst hc4
      exact fin (flashReadOnce_ok hI hop i [_] (words1 hv) (.inl rfl) (words2 ⟨hargs, by simp⟩)
        (exec_flashReadOnce4 d hf i) rfl) rfl hs.idle
    · subst hc8
      exact fin (flashReadOnce_ok hI hop i [_, _] (words2 ⟨hv, hw⟩) (.inr rfl) (words2 ⟨hargs, by simp⟩)
        (exec_flashReadOnce8 d hf i) rfl) rfl hs.idle
  | flashProgramOnce i data =>
    dsimp only [specOp]
    split
    · rename_i a b c e
      refine fin ?_ (programFuse_next d i _ 1) ((programFuse_phase ..).trans hs.idle)
      show ∃ h2, flashProgramOnce i [a, b, c, e] h = _ ∧ _
      rw [flashProgramOnce, if_neg (by simp)]
      exact simpleCmd_ok hI hop (wf_mk (ps := [i, 4, fromLe [a, b, c, e]])
        (words3 ⟨hargs, by decide, by simpa using fromLe_lt [a, b, c, e]⟩)) (exec_flashProgramOnce4 d hf i _) (programFuse_phase ..)
    · trivial
  | efuseProgramOnce i v verify =>
    obtain ⟨h2, e2, hI2⟩ := processCmd_single hI hop _
      (wf_mk (tag := Spec.cFlashProgramOnce) (ps := [i, 4, v]) (words3 ⟨hargs.1, by decide, hargs.2⟩))
      (genericResp_parses 0 Spec.cFlashProgramOnce (by omega) (by decide)) (exec_flashProgramOnce4 d hf i v)
      (programFuse_phase ..)
    rw [cmdResult_ok _ _ rfl] at e2
    have hphd : (d.programFuse i v).phase = .idle := (programFuse_phase ..).trans hs.idle
    cases verify with
    | false =>
      refine fin ⟨h2, ?_, hI2⟩ (programFuse_next d i v 1) hphd
      show efuseProgramOnce i v false h = _
      rw [efuseProgramOnce, bind_ok e2]
      simp
    | true =>
      obtain ⟨h3, e3, hI3⟩ := efuseReadOnce_ok hI2 hop (i % 16777216) (by omega)
        ((programFuse_faults ..).trans hf) (programFuse_fuses_lt d.next i v hd.fuses_lt hargs.2)
      rw [show d.next.programFuse i v = _ from programFuse_next d i v 1] at e3 hI3
      have hrun : ∀ x h', (if (List.lookup (i % 16777216) (d.programFuse i v).fuses).getD 0 &&& v = v then
            (pure (.bool true) : H Val) else do setStatus Spec.stOtpVerifyFail; pure (.bool false)) h3 = (x, h') →
          runOp (.efuseProgramOnce i v true) h = (x, h') := fun x h' e => by
        show efuseProgramOnce i v true h = _
        rw [efuseProgramOnce, bind_ok e2]
        simp only [ne_eq, not_true_eq_false, if_false, if_true]
        rw [bind_ok e3]
        exact e
      exact .ite (fun hc => fin ⟨h3, hrun _ _ (by rw [if_pos hc]; rfl), hI3⟩ rfl hphd) fun hc =>
        fin ⟨_, hrun _ _ (by rw [if_neg hc, bind_ok (setStatus_run _ _)]; rfl), hI3.setStatus Spec.stOtpVerifyFail⟩ rfl hphd

/-- One operation against the live reference device, either transport. -/
theorem op_refines (h : Host) (d d' : Dev) (op : Op) (res : Except HErr Val) (st : Nat)
    (hs : Synced h d) (hd : d.OK) (hmps : h.mps = some d.maxPacket) (heda : h.eda = false)
    (hargs : op.argsOK) (hspec : specOp h.cfg.cmdExc h.cfg.usb d op = some (d', res, st)) :
    Refines h op d' res st := by
  have := op_refines_spec h d op hs hd hmps heda hargs
  rw [hspec] at this
  exact this

set_option linter.unusedVariables false in
/-- One operation, serial link: `McuBoot` + `MbootSerialProtocol` against the live reference device. -/
theorem op_refines_serial (h : Host) (d d' : Dev) (op : Op) (res : Except HErr Val) (st : Nat)
    (htr : h.cfg.tr = .serial)
    (hs : Synced h d) (hd : d.OK) (hmps : h.mps = some d.maxPacket) (heda : h.eda = false)
    (hargs : op.argsOK) (hspec : specOp h.cfg.cmdExc h.cfg.usb d op = some (d', res, st)) :
    ∃ h', runOp op h = (res, h') ∧ Synced h' d' ∧ h'.status = st ∧ h'.cfg = h.cfg ∧ h'.mps = h.mps ∧ h'.eda = false :=
  op_refines h d d' op res st hs hd hmps heda hargs hspec

set_option linter.unusedVariables false in
/-- One operation, USB-HID link. -/
theorem op_refines_hid (h : Host) (d d' : Dev) (op : Op) (res : Except HErr Val) (st : Nat)
    (htr : h.cfg.tr = .hid)
    (hs : Synced h d) (hd : d.OK) (hmps : h.mps = some d.maxPacket) (heda : h.eda = false)
    (hargs : op.argsOK) (hspec : specOp h.cfg.cmdExc h.cfg.usb d op = some (d', res, st)) :
    ∃ h', runOp op h = (res, h') ∧ Synced h' d' ∧ h'.status = st ∧ h'.cfg = h.cfg ∧ h'.mps = h.mps ∧ h'.eda = false :=
  op_refines h d d' op res st hs hd hmps heda hargs hspec

/-- what `specOp_OK` says of a specified outcome -/
def Keeps (d : Dev) : Option (Dev × Except HErr Val × Nat) → Prop
  | none => True
  | some (d', _, _) => d'.OK ∧ d'.maxPacket = d.maxPacket ∧ d'.phase = .idle

theorem Keeps.ite {d : Dev} {c : Prop} [Decidable c] {x y} (hx : c → Keeps d x) (hy : ¬ c → Keeps d y) :
    Keeps d (if c then x else y) := by
  split
  · exact hx ‹_›
  · exact hy ‹_›

/-- an outcome whose device differs from the well-formed idle `d` at most in memory contents, properties and key store -/
theorem Keeps.of_fields {d d' : Dev} {r s} (hd : d.OK) (hidle : d.phase = .idle) (hmem : d'.mem.length = d.mem.length)
    (hp : ∀ q ∈ d'.props, q.2 < 4294967296) (hk : d'.keyStore.length < 4294967296)
    (h : (d'.maxPacket, d'.phase, d'.faults, d'.fuses, d'.abortAfter) = (d.maxPacket, d.phase, d.faults, d.fuses, d.abortAfter)) :
    Keeps d (some (d', r, s)) := by
  simp only [Prod.mk.injEq] at h
  obtain ⟨h1, h2, h3, h4, h5⟩ := h
  exact ⟨⟨h1 ▸ hd.mp_pos, h1 ▸ hd.mp_lt, hmem ▸ hd.mem_lt, h3 ▸ hd.nofault, hp, h4 ▸ hd.fuses_lt, h5 ▸ hd.noabort, hk⟩,
    h1, h2.trans hidle⟩

theorem programFuse_keeps {d : Dev} (hd : d.OK) (hidle : d.phase = .idle) (i v : Nat) (hv : v < 4294967296) {n k r s} :
    Keeps d (some ({ d.programFuse i v with ncmd := n, pktCount := k }, r, s)) := by
  have hf := programFuse_fuses_lt d i v hd.fuses_lt hv
  unfold Dev.programFuse at hf ⊢
  split <;> rename_i hl
  · exact ⟨⟨hd.mp_pos, hd.mp_lt, hd.mem_lt, hd.nofault, hd.props_lt, hd.fuses_lt, hd.noabort, hd.keystore_lt⟩, rfl, hidle⟩
  · rw [if_neg hl] at hf
    exact ⟨⟨hd.mp_pos, hd.mp_lt, hd.mem_lt, hd.nofault, hd.props_lt, hf, hd.noabort, hd.keystore_lt⟩, rfl, hidle⟩

theorem specOp_keeps (ce usb : Bool) (d : Dev) (op : Op) (hd : d.OK) (hidle : d.phase = .idle) (hargs : op.argsOK) :
    Keeps d (specOp ce usb d op) := by
  have same : ∀ {d' : Dev} {r s}, (d'.mem, d'.props, d'.keyStore, d'.maxPacket, d'.phase, d'.faults, d'.fuses, d'.abortAfter) =
      (d.mem, d.props, d.keyStore, d.maxPacket, d.phase, d.faults, d.fuses, d.abortAfter) → Keeps d (some (d', r, s)) := fun h => by
    simp only [Prod.mk.injEq] at h
    obtain ⟨h1, h2, h3, h⟩ := h
    exact .of_fields hd hidle (h1 ▸ rfl) (h2 ▸ hd.props_lt) (h3 ▸ hd.keystore_lt) (by simp only [h])
  have mem : ∀ {r s pc} (m : Bytes), m.length = d.mem.length →
      Keeps d (some ({ d with ncmd := d.ncmd + 1, pktCount := pc, mem := m }, r, s)) := fun m hm =>
    .of_fields hd hidle hm hd.props_lt hd.keystore_lt rfl
  cases op with
  | execute | call | eraseAllUnsecure | configureMemory | reliableUpdate | kpEnroll | kpSetIntrinsicKey
  | kpWriteNonvolatile | kpReadNonvolatile | kpSetUserKey | kpReadKeyStore | efuseReadOnce | fuseProgram
  | receiveSbFile => exact same rfl
  | open_ | reset => trivial
  | fuseRead => exact .ite (fun _ => same rfl) fun _ => same rfl
  | loadImage | logCmd => exact .ite (fun _ => same rfl) fun _ => trivial
  | flashReadResource => exact .ite (fun _ => trivial) fun _ => .ite (fun _ => same rfl) fun _ => same rfl
  | flashReadOnce => exact .ite (fun _ => same rfl) fun _ => .ite (fun _ => same rfl) fun _ => trivial
  | readMemory =>
    exact .ite (fun _ => .ite (fun _ => same rfl) fun _ => trivial) fun _ => .ite (fun _ => same rfl) fun _ => same rfl
  | getProperty t i => exact .ite (fun _ => same rfl) fun _ => by cases d.props.lookup t <;> exact same rfl
  | eraseAll => exact mem _ (List.length_replicate ..)
  | fillMemory a n pat => exact .ite (fun hc => mem _ (splice_length _ _ _ (by rw [fillPattern_length]; exact hc))) fun _ => same rfl
  | eraseRegion a n m => exact .ite (fun hc => mem _ (splice_length _ _ _ (by rw [List.length_replicate]; exact hc))) fun _ => same rfl
  | writeMemory a data m => exact .ite (fun hc => mem _ (splice_length _ _ _ hc)) fun _ => same rfl
  | kpWriteKeyStore data => exact .of_fields hd hidle rfl hd.props_lt hargs rfl
  | setProperty t v =>
    refine .ite (fun _ => .of_fields hd hidle rfl (fun q hq => ?_) hd.keystore_lt rfl) fun _ => .ite (fun _ => same rfl) fun _ => same rfl
    rcases List.mem_cons.mp hq with rfl | hq
    · exact hargs.2
    · exact hd.props_lt q (List.mem_filter.mp hq).1
  | flashProgramOnce i data =>
    dsimp only [specOp]
    split
    · exact programFuse_keeps hd hidle i _ (by simpa using fromLe_lt [_, _, _, _])
    · trivial
  | efuseProgramOnce i v verify =>
    exact .ite (fun _ => .ite (fun _ => programFuse_keeps hd hidle i v hargs.2) fun _ => programFuse_keeps hd hidle i v hargs.2)
      fun _ => programFuse_keeps hd hidle i v hargs.2

theorem specOp_OK (ce usb : Bool) (d d' : Dev) (op : Op) (res : Except HErr Val) (st : Nat)
    (hd : d.OK) (hidle : d.phase = .idle) (hargs : op.argsOK) (hspec : specOp ce usb d op = some (d', res, st)) :
    d'.OK ∧ d'.maxPacket = d.maxPacket ∧ d'.phase = .idle := by
  have := specOp_keeps ce usb d op hd hidle hargs
  rw [hspec] at this
  exact this

end SpsdkVerif.Mboot
