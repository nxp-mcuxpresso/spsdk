/- Lemmas about Model/Misc3.lean: `str.split`, the text form of `BcdVersion3` (`_num_from_str` as one test, and what it accepts),
   the file branch of `load_hex_string`, round-half-even, the `size_fmt` loop. -/
import SpsdkVerif.Model.Misc3
import SpsdkVerif.Proofs.Misc
import SpsdkVerif.Proofs.Misc2

namespace SpsdkVerif.Misc
open SpsdkVerif SpsdkVerif.Generated.PyFuns2 SpsdkVerif.Generated.PyFuns3

theorem splitOn_ne_nil (sep : Char) (s : List Char) : splitOn sep s ≠ [] := by
  cases s with
  | nil => simp [splitOn]
  | cons c cs =>
    rw [splitOn]
    split
    · simp
    · split <;> simp

theorem splitOn_nosep (sep : Char) (a : List Char) (ha : sep ∉ a) : splitOn sep a = [a] := by
  induction a with
  | nil => rfl
  | cons c cs ih =>
    have hc : (c == sep) = false := by
      simp only [List.mem_cons, not_or] at ha
      simp; exact fun h => ha.1 h.symm
    have := ih (fun h => ha (List.mem_cons_of_mem _ h))
    simp [splitOn, hc, this]

theorem splitOn_append (sep : Char) (a rest : List Char) (ha : sep ∉ a) :
    splitOn sep (a ++ sep :: rest) = a :: splitOn sep rest := by
  induction a with
  | nil => simp [splitOn]
  | cons c cs ih =>
    have hc : (c == sep) = false := by
      simp only [List.mem_cons, not_or] at ha
      simp; exact fun h => ha.1 h.symm
    have := ih (fun h => ha (List.mem_cons_of_mem _ h))
    simp [splitOn, hc, this]

theorem dec_facts (c : Char) (h : '0' ≤ c ∧ c ≤ '9') :
    lowerCh c = c ∧ digitVal c = c.toNat - 48 ∧ c ≠ '.' ∧ Generated.Misc3Tables.bcdNumAlphabet.contains c = true := by
  obtain ⟨n, rfl⟩ := digit_cases c h
  revert n
  decide

/-- every character of the generated alphabet is a hex digit, and only the decimal ones have a value ≤ 9 -/
theorem alpha_facts : ∀ c ∈ Generated.Misc3Tables.bcdNumAlphabet,
    digitVal (lowerCh c) < 16 ∧ (digitVal (lowerCh c) ≤ 9 → '0' ≤ c ∧ c ≤ '9') := by
  decide

theorem bcdToDigits_facts (n : Nat) (h : bcdDigitOk n = true) :
    bcdToDigits n ≠ [] ∧ (bcdToDigits n).length ≤ 4 ∧ (∀ c ∈ bcdToDigits n, '0' ≤ c ∧ c ≤ '9') ∧
    (bcdToDigits n).foldl (fun acc c => acc * 16 + (c.toNat - 48)) 0 = n := by
  obtain ⟨L, e, hne, hlen, hle, hval⟩ := bcdToDigits_eq n h
  rw [e, bcd_foldl L hle, hval]
  refine ⟨by simpa using hne, by simpa using hlen, fun c hc => ?_, rfl⟩
  obtain ⟨d, hd, rfl⟩ := List.mem_map.1 hc
  simpa using (bcd_char d (hle d hd)).1

theorem bcdNumFromStrGuard_eq (n : Nat) :
    bcdNumFromStrGuard n = if 1 ≤ n ∧ n ≤ 4 then .ok true else .error .spsdk := by
  unfold bcdNumFromStrGuard
  by_cases h : 1 ≤ n ∧ n ≤ 4
  · have h1 : ¬ ((n : Int) < 1) := by omega
    have h2 : ¬ ((n : Int) > 4) := by omega
    simp [h, h1, h2]
  · have h2 : (n : Int) < 1 ∨ (n : Int) > 4 := by omega
    rcases h2 with h2 | h2 <;> simp [h, h2]

/-- `_num_from_str` in one test: 1–4 characters of the alphabet whose base-16 value is a BCD number -/
theorem bcdNumFromStr_eq (t : List Char) :
    bcdNumFromStr t =
      if (1 ≤ t.length ∧ t.length ≤ 4) ∧ t.all (fun c => Generated.Misc3Tables.bcdNumAlphabet.contains c) = true ∧
          bcdDigitOk (hexTextValue t) = true
      then .ok (hexTextValue t) else .error .spsdk := by
  simp only [bcdNumFromStr, bcdNumFromStrGuard_eq, bcdCheckNumber_eq, Int.toNat_natCast]
  have h0 : (0 : Int) ≤ (hexTextValue t : Nat) := Int.natCast_nonneg _
  by_cases h1 : 1 ≤ t.length ∧ t.length ≤ 4 <;>
    by_cases h3 : bcdDigitOk (hexTextValue t) = true <;> simp [h0, h1, h3]

theorem bcdNumFromStr_digits (n : Nat) (h : bcdDigitOk n = true) : bcdNumFromStr (bcdToDigits n) = .ok n := by
  obtain ⟨hne, hlen, hd, hv⟩ := bcdToDigits_facts n h
  have hf : ∀ (l : List Char) (acc : Nat), (∀ c ∈ l, '0' ≤ c ∧ c ≤ '9') →
      l.foldl (fun acc c => acc * 16 + digitVal (lowerCh c)) acc = l.foldl (fun acc c => acc * 16 + (c.toNat - 48)) acc := by
    intro l
    induction l with
    | nil => intros; rfl
    | cons c l ih =>
      intro acc hl
      have := dec_facts c (hl c (by simp))
      simp only [List.foldl_cons, this.1, this.2.1]
      exact ih _ (fun c hc => hl c (by simp [hc]))
  have hval : hexTextValue (bcdToDigits n) = n := by rw [hexTextValue, hf _ 0 hd, hv]
  have hall : (bcdToDigits n).all (fun c => Generated.Misc3Tables.bcdNumAlphabet.contains c) = true :=
    List.all_eq_true.2 (fun c hc => (dec_facts c (hd c hc)).2.2.2)
  rw [bcdNumFromStr_eq, hval, if_pos ⟨⟨List.length_pos_iff.2 hne, hlen⟩, hall, h⟩]

theorem loadHexFile_eq (content : Bytes) (n : Int) (hn : 1 ≤ n) :
    loadHexFile content n =
      match (asciiText content).bind (fun t => if t.isEmpty then none else valueToInt (with0x t)) with
      | some v => if v < 256 ^ n.toNat then .ok (some (beEnc n.toNat v))
                  else if (content.length : Int) = n then .ok (some content) else .error .spsdk
      | none => if (content.length : Int) = n then .ok (some content) else .error .spsdk := by
  unfold loadHexFile
  cases ht : asciiText content with
  | none => simp
  | some t =>
    by_cases he : t.isEmpty = true
    · have : t = [] := by simpa using he
      subst this; simp
    · have hne : t ≠ [] := by intro h; subst h; simp at he
      simp only [he, Bool.false_eq_true, if_false, Option.bind_some]
      rw [loadHexString_str t n hne hn]
      cases hv : valueToInt (with0x t) with
      | none => simp
      | some v => by_cases hw : v < 256 ^ n.toNat <;> simp [hw]

theorem roundHalfEven_spec (a d : Nat) (hd : 0 < d) :
    2 * (roundHalfEven a d * d) ≤ 2 * a + d ∧ 2 * a ≤ 2 * (roundHalfEven a d * d) + d := by
  have e := Nat.div_add_mod a d
  have l := Nat.mod_lt a hd
  rw [Nat.mul_comm] at e
  unfold roundHalfEven
  by_cases h1 : 2 * (a % d) > d
  · rw [if_pos h1, Nat.add_mul, Nat.one_mul]; omega
  · rw [if_neg h1]
    by_cases h2 : 2 * (a % d) = d
    · rw [if_pos h2]
      rcases Nat.mod_two_eq_zero_or_one (a / d) with h | h <;> rw [h]
      · rw [Nat.add_zero]; omega
      · rw [Nat.add_mul, Nat.one_mul]; omega
    · rw [if_neg h2]; omega

theorem bcdNumFromStr_ok (x : List Char) (n : Nat) (h : bcdNumFromStr x = .ok n) : bcdDigitOk n = true := by
  rw [bcdNumFromStr_eq] at h
  split at h
  · rename_i hc; cases h; exact hc.2.2
  · cases h

/-- every refusal of a component is an SPSDK error (fix 619e9e1; `int()` can no longer raise) -/
theorem bcdNumFromStr_err (x : List Char) (e : PyErr) (h : bcdNumFromStr x = .error e) : e = .spsdk := by
  rw [bcdNumFromStr_eq] at h
  split at h <;> cases h
  rfl

/-- every hex digit of a valid BCD number is a decimal digit (above the fourth they are zero) -/
theorem bcdDigitOk_nibble (n : Nat) (h : bcdDigitOk n = true) (k : Nat) : n / 16 ^ k % 16 ≤ 9 := by
  simp only [bcdDigitOk, Bool.and_eq_true, decide_eq_true_eq] at h
  obtain ⟨⟨⟨⟨h0, h1⟩, h2⟩, h3⟩, h4⟩ := h
  match k with
  | 0 => simpa using h1
  | 1 => simpa using h2
  | 2 => exact h3
  | 3 => exact h4
  | k + 4 =>
    have : n < 16 ^ (k + 4) := Nat.lt_of_lt_of_le (by omega) (Nat.pow_le_pow_right (by omega) (Nat.le_add_left 4 k))
    rw [Nat.div_eq_of_lt this]; omega

/-- a base-16 digit string (least significant digit first) shows its digits: if every hex digit of the value is decimal,
    so is every digit of the string -/
theorem hexDigits_decimal (l : List Nat) (hl : ∀ d ∈ l, d < 16)
    (h : ∀ k, l.foldr (fun d a => a * 16 + d) 0 / 16 ^ k % 16 ≤ 9) : ∀ d ∈ l, d ≤ 9 := by
  induction l with
  | nil => intro d hd; cases hd
  | cons d l ih =>
    have hd := hl d (by simp)
    simp only [List.foldr_cons] at h
    intro x hx
    rcases List.mem_cons.1 hx with rfl | hx
    · have := h 0; simp at this; omega
    · refine ih (fun y hy => hl y (by simp [hy])) (fun k => ?_) x hx
      have e : ∀ v, (v * 16 + d) / 16 ^ (k + 1) = v / 16 ^ k := fun v => by
        rw [Nat.pow_succ, Nat.mul_comm (16 ^ k), ← Nat.div_div_eq_div_mul]; congr 1; omega
      exact e _ ▸ h (k + 1)

/-- an accepted component is 1–4 DECIMAL digits — the documented grammar (hex letters pass the alphabet test but fail
    `_check_number`: each character is a hex digit of the value, and those are all decimal) -/
theorem bcdNumFromStr_grammar (t : List Char) (n : Nat) (h : bcdNumFromStr t = .ok n) :
    1 ≤ t.length ∧ t.length ≤ 4 ∧ ∀ c ∈ t, '0' ≤ c ∧ c ≤ '9' := by
  rw [bcdNumFromStr_eq] at h
  split at h
  · rename_i hc
    obtain ⟨hlen, hall, hok⟩ := hc
    have hm := fun c hc => alpha_facts c (by simpa using List.all_eq_true.1 hall c hc)
    have hdec := hexDigits_decimal (t.map (fun c => digitVal (lowerCh c))).reverse
      (by simpa using fun c hc => (hm c hc).1)
      (fun k => by rw [List.foldr_reverse, List.foldl_map]; exact bcdDigitOk_nibble _ hok k)
    exact ⟨hlen.1, hlen.2, fun c hc => (hm c hc).2 (hdec _ (by simpa using ⟨c, hc, rfl⟩))⟩
  · cases h

/-- `from_str` accepts exactly the texts with three components that `_num_from_str` accepts -/
theorem bcdFromStr_ok_iff (t : List Char) (v : Nat × Nat × Nat) :
    bcdFromStr t = .ok v ↔ ∃ a b c, splitOn '.' t = [a, b, c] ∧
      bcdNumFromStr a = .ok v.1 ∧ bcdNumFromStr b = .ok v.2.1 ∧ bcdNumFromStr c = .ok v.2.2 := by
  obtain ⟨x, y, z⟩ := v
  unfold bcdFromStr
  split
  · rename_i a b c hs
    have e : (∃ a' b' c', [a, b, c] = [a', b', c'] ∧ bcdNumFromStr a' = .ok x ∧ bcdNumFromStr b' = .ok y ∧
        bcdNumFromStr c' = .ok z) ↔ bcdNumFromStr a = .ok x ∧ bcdNumFromStr b = .ok y ∧ bcdNumFromStr c = .ok z :=
      ⟨fun ⟨_, _, _, e, h⟩ => by cases e; exact h, fun h => ⟨a, b, c, rfl, h⟩⟩
    rw [hs, e]
    cases bcdNumFromStr a <;> cases bcdNumFromStr b <;> cases bcdNumFromStr c <;> simp
  · rename_i hs
    simp only [reduceCtorEq, false_iff]
    rintro ⟨a, b, c, e, _⟩
    exact hs a b c e

/-- the division count of the `size_fmt` loop: `k ≤ r ≤ k + #units`; the value is at least `base^r` (unless nothing was
    divided), and below `base^(r+1)` UNLESS the loop ran off the end of the unit list (`r = k + #units`) -/
theorem sizeFmtLoop_spec (base n : Nat) (units : List (List Char)) :
    ∀ (k : Nat) (last : List Char), (k = 0 ∨ base ^ k ≤ n) →
      (((sizeFmtLoop base n units k last).1 = 0 ∨ base ^ (sizeFmtLoop base n units k last).1 ≤ n) ∧
       ((sizeFmtLoop base n units k last).1 < k + units.length → n < base ^ ((sizeFmtLoop base n units k last).1 + 1)) ∧
       k ≤ (sizeFmtLoop base n units k last).1 ∧ (sizeFmtLoop base n units k last).1 ≤ k + units.length) := by
  induction units with
  | nil => intro k last h; simp [sizeFmtLoop, h]
  | cons u us ih =>
    intro k last h
    by_cases hlt : n < base ^ (k + 1)
    · simp [sizeFmtLoop, hlt, h]
    · have hge : base ^ (k + 1) ≤ n := by omega
      obtain ⟨a, b, c, d⟩ := ih (k + 1) u (Or.inr hge)
      simp only [sizeFmtLoop, hlt, if_false, List.length_cons]
      exact ⟨a, fun hh => b (by omega), by omega, by omega⟩

end SpsdkVerif.Misc
