/-
Fixed-width big/little-endian integer codecs of `Model/Misc.lean` (`beEnc`, `beDec`, `leEnc`, `leDec`): lengths, the two
round trips and the range of the decoder.  Imports the model only, so every proof file can use it.
-/
import SpsdkVerif.Model.Misc

namespace SpsdkVerif.Misc

theorem beEnc_length (n v : Nat) : (beEnc n v).length = n := by
  induction n generalizing v with
  | zero => rfl
  | succ n ih => simp [beEnc, ih]

theorem leEnc_length (n v : Nat) : (leEnc n v).length = n := by
  simp [leEnc, beEnc_length]

theorem beDec_append_single (l : Bytes) (x : UInt8) : beDec (l ++ [x]) = beDec l * 256 + x.toNat := by
  simp [beDec, List.foldl_append]

theorem leEnc_succ (n v : Nat) : leEnc (n + 1) v = UInt8.ofNat (v % 256) :: leEnc n (v / 256) := by
  simp [leEnc, beEnc]

theorem leDec_cons (x : UInt8) (l : Bytes) : leDec (x :: l) = x.toNat + 256 * leDec l := by
  simp [leDec, beDec_append_single]; omega

/-- the encoder keeps the value modulo `256 ^ n` -/
theorem beDec_beEnc_mod (n v : Nat) : beDec (beEnc n v) = v % 256 ^ n := by
  induction n generalizing v with
  | zero => simp [beEnc, beDec, Nat.mod_one]
  | succ n ih =>
    have hp : 256 ^ (n + 1) = 256 * 256 ^ n := by rw [Nat.pow_succ, Nat.mul_comm]
    rw [beEnc, beDec_append_single, ih, UInt8.toNat_ofNat', hp, Nat.mod_mul]
    omega

theorem beDec_beEnc (n v : Nat) (h : v < 256 ^ n) : beDec (beEnc n v) = v := by
  rw [beDec_beEnc_mod, Nat.mod_eq_of_lt h]

theorem leDec_leEnc_mod (n v : Nat) : leDec (leEnc n v) = v % 256 ^ n := by
  simp [leDec, leEnc, beDec_beEnc_mod]

theorem leDec_leEnc (n v : Nat) (h : v < 256 ^ n) : leDec (leEnc n v) = v := by
  rw [leDec_leEnc_mod, Nat.mod_eq_of_lt h]

/-- decoding a reversed list, by induction on the list: the value is in range and encodes back -/
theorem beDec_reverse_spec (l : Bytes) :
    beDec l.reverse < 256 ^ l.length ∧ beEnc l.length (beDec l.reverse) = l.reverse := by
  induction l with
  | nil => simp [beDec, beEnc]
  | cons x l ih =>
    have hx := x.toNat_lt
    rw [List.reverse_cons, beDec_append_single, List.length_cons, Nat.pow_succ, beEnc]
    have e1 : (beDec l.reverse * 256 + x.toNat) / 256 = beDec l.reverse := by omega
    have e2 : (beDec l.reverse * 256 + x.toNat) % 256 = x.toNat := by omega
    rw [e1, e2, ih.2, UInt8.ofNat_toNat]
    exact ⟨by omega, rfl⟩

theorem beDec_lt (b : Bytes) : beDec b < 256 ^ b.length := by
  simpa using (beDec_reverse_spec b.reverse).1

theorem beEnc_beDec (b : Bytes) : beEnc b.length (beDec b) = b := by
  simpa using (beDec_reverse_spec b.reverse).2

theorem leDec_lt (b : Bytes) : leDec b < 256 ^ b.length := by
  simpa [leDec] using beDec_lt b.reverse

theorem leEnc_leDec (b : Bytes) : leEnc b.length (leDec b) = b := by
  simpa [leDec, leEnc] using congrArg List.reverse (beEnc_beDec b.reverse)

end SpsdkVerif.Misc
