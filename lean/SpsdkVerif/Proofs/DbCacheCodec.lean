/-
C18 — non-vacuity of the hypothesis `PickleOK`: a concrete (computable) codec satisfies it.

A `Val` is serialised as the list of numbers `[ty, fp, k₁, c₁, k₂, c₂, …]`, each number `n` in unary
(`n` zeros, then a `1`), terminated by a single `2`.  Every dump ends with its only `2`, so a strict
prefix of a dump contains no `2` and is not a dump; the empty file is not a dump either.
-/
import SpsdkVerif.Proofs.DbCacheSpec

namespace SpsdkVerif.DbCache.Codec
open SpsdkVerif SpsdkVerif.DbCache

def unary (n : Nat) : Bytes := List.replicate n 0 ++ [1]

def encNums : List Nat → Bytes
  | [] => []
  | n :: ns => unary n ++ encNums ns

def flat : List (Nat × Nat) → List Nat
  | [] => []
  | (k, c) :: r => k :: c :: flat r

def unflat : List Nat → List (Nat × Nat)
  | k :: c :: r => (k, c) :: unflat r
  | _ => []

def nums (v : Val) : List Nat := v.ty :: v.fp :: flat v.ents

def ofNums : List Nat → Val
  | ty :: fp :: r => { ty := ty, fp := fp, ents := unflat r }
  | _ => default

def enc (v : Val) : Bytes := encNums (nums v) ++ [2]

/-- read unary numbers up to the first byte that is neither `0` nor `1` -/
def decNums : Nat → Bytes → List Nat
  | _, [] => []
  | acc, x :: xs => if x = 0 then decNums (acc + 1) xs else if x = 1 then acc :: decNums 0 xs else []

def dec (b : Bytes) : Outcome :=
  let v := ofNums (decNums 0 b)
  if enc v = b then .ok v else .raises .EOFError

theorem unflat_flat : ∀ e : List (Nat × Nat), unflat (flat e) = e
  | [] => rfl
  | (k, c) :: r => by simp [flat, unflat, unflat_flat r]

theorem ofNums_nums (v : Val) : ofNums (nums v) = v := by
  simp [nums, ofNums, unflat_flat]

theorem decNums_unary (n : Nat) : ∀ (acc : Nat) (rest : Bytes),
    decNums acc (unary n ++ rest) = (acc + n) :: decNums 0 rest := by
  induction n with
  | zero => intro acc rest; simp [unary, decNums]
  | succ n ih =>
    intro acc rest
    have := ih (acc + 1) rest
    simp only [unary, List.replicate_succ, List.cons_append, decNums, if_true] at this ⊢
    rw [this]; congr 1; omega

theorem decNums_enc : ∀ ns : List Nat, decNums 0 (encNums ns ++ [2]) = ns
  | [] => by simp [encNums, decNums]
  | n :: ns => by
    simp only [encNums, List.append_assoc]
    rw [decNums_unary, decNums_enc ns]; simp

theorem dec_enc (v : Val) : dec (enc v) = .ok v := by
  have h : ofNums (decNums 0 (enc v)) = v := by
    unfold enc; rw [decNums_enc, ofNums_nums]
  simp [dec, h]

theorem two_not_mem_encNums : ∀ ns : List Nat, (2 : UInt8) ∉ encNums ns
  | [] => by simp [encNums]
  | n :: ns => by
    have := two_not_mem_encNums ns
    simp only [encNums, unary, List.mem_append, List.mem_replicate, List.mem_singleton, not_or]
    refine ⟨⟨?_, ?_⟩, this⟩
    · intro h; exact absurd h.2 (by decide)
    · decide

theorem two_mem_enc (v : Val) : (2 : UInt8) ∈ enc v := by simp [enc]

theorem dec_of_not_mem (b : Bytes) (h : (2 : UInt8) ∉ b) : dec b = .raises .EOFError := by
  unfold dec
  simp only
  split
  · rename_i he
    exact absurd (he ▸ two_mem_enc _) h
  · rfl

theorem dec_prefix (v : Val) (n : Nat) (hn : n < (enc v).length) :
    dec ((enc v).take n) = .raises .EOFError := by
  apply dec_of_not_mem
  have hlen : n ≤ (encNums (nums v)).length := by
    simp [enc] at hn; omega
  have : (enc v).take n = (encNums (nums v)).take n := by
    unfold enc; rw [List.take_append_of_le_length hlen]
  rw [this]
  intro h
  exact two_not_mem_encNums _ (List.mem_of_mem_take h)

/-- the codec as an environment (the other components are irrelevant for `PickleOK`) -/
def codecEnv : Env :=
  { pickle := enc, unpickle := dec, loadCfg := fun k => k, fpOf := fun ks => ks.length, expectedTy := 0,
    garbage := [] }

theorem codec_pickleOK : PickleOK codecEnv [Exc.EOFError, Exc.UnpicklingError] := by
  -- unfold `codecEnv` first: left to the unifier, `dec (enc v)` is unfolded instead
  refine ⟨?_, ?_, ?_⟩ <;> simp only [codecEnv]
  · exact dec_enc
  · exact fun v n hn => ⟨.EOFError, dec_prefix v n hn, by simp⟩
  · exact ⟨.EOFError, dec_of_not_mem [] (by simp), by simp⟩

end SpsdkVerif.DbCache.Codec

namespace SpsdkVerif.DbCache

/-- `PickleOK` is satisfiable (for the measured classes of `Properties/C18.lean`). -/
theorem pickleOK_inhabited : ∃ env : Env, PickleOK env [Exc.EOFError, Exc.UnpicklingError] :=
  ⟨Codec.codecEnv, Codec.codec_pickleOK⟩

end SpsdkVerif.DbCache
