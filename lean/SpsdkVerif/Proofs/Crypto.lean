/-
Inversion / length theorems for the modes of `Crypto/Modes.lean`, for EVERY `c : CryptoOps`
satisfying `CryptoLaws c` (all keys, IVs, nonces, tweaks, messages, lengths).
The generic `…With` versions need only the two laws of the block permutation that is plugged in.
Core Lean only (no Mathlib), so model files may import this module too.
-/
import SpsdkVerif.Crypto.Modes
import SpsdkVerif.Proofs.ByteCodec

namespace SpsdkVerif.Crypto
open SpsdkVerif
open SpsdkVerif.Misc (beEnc beDec leEnc leDec)

section folds
variable {α β : Type} {P : α → Prop} {Q : β → Prop} {f : α → β → α} {g : β → α → α}

theorem foldl_invariant (hf : ∀ a b, P a → Q b → P (f a b)) :
    ∀ (l : List β) (a : α), P a → (∀ b ∈ l, Q b) → P (l.foldl f a)
  | [], _, ha, _ => ha
  | b :: l, a, ha, hl =>
    foldl_invariant hf l _ (hf a b ha (hl b List.mem_cons_self)) fun x hx => hl x (List.mem_cons_of_mem _ hx)

theorem foldr_invariant (hg : ∀ a b, P a → Q b → P (g b a)) :
    ∀ (l : List β) (a : α), P a → (∀ b ∈ l, Q b) → P (l.foldr g a)
  | [], _, ha, _ => ha
  | b :: l, a, ha, hl =>
    hg _ b (foldr_invariant hg l a ha fun x hx => hl x (List.mem_cons_of_mem _ hx)) (hl b List.mem_cons_self)

/-- undoing the steps of a left fold in reverse order, where each step is undone on states satisfying an invariant -/
theorem foldr_foldl_cancel (hf : ∀ a b, P a → Q b → P (f a b)) (hgf : ∀ a b, P a → Q b → g b (f a b) = a) :
    ∀ (l : List β) (a : α), P a → (∀ b ∈ l, Q b) → l.foldr g (l.foldl f a) = a
  | [], _, _, _ => rfl
  | b :: l, a, ha, hl => by
    have hb := hl b List.mem_cons_self
    rw [List.foldl_cons, List.foldr_cons,
      foldr_foldl_cancel hf hgf l _ (hf a b ha hb) fun x hx => hl x (List.mem_cons_of_mem _ hx), hgf a b ha hb]

theorem foldl_foldr_cancel (hg : ∀ a b, P a → Q b → P (g b a)) (hfg : ∀ a b, P a → Q b → f (g b a) b = a) :
    ∀ (l : List β) (a : α), P a → (∀ b ∈ l, Q b) → l.foldl f (l.foldr g a) = a
  | [], _, _, _ => rfl
  | b :: l, a, ha, hl => by
    have hl' : ∀ x ∈ l, Q x := fun x hx => hl x (List.mem_cons_of_mem _ hx)
    rw [List.foldr_cons, List.foldl_cons, hfg _ b (foldr_invariant hg l a ha hl') (hl b List.mem_cons_self),
      foldl_foldr_cancel hg hfg l a ha hl']

end folds

@[simp] theorem xorBytes_length (a b : Bytes) : (xorBytes a b).length = min a.length b.length := by
  simp [xorBytes]

@[simp] theorem zeros_length (n : Nat) : (zeros n).length = n := by simp [zeros]

theorem xorBytes_nil_left (b : Bytes) : xorBytes [] b = [] := by simp [xorBytes]

theorem xorBytes_cancel : ∀ (a b : Bytes), a.length ≤ b.length → xorBytes (xorBytes a b) b = a
  | [], _, _ => by simp [xorBytes]
  | x :: a, [], h => by simp at h
  | x :: a, y :: b, h => by
    have ih := xorBytes_cancel a b (by simpa using h)
    simp only [xorBytes, List.zipWith_cons_cons] at ih ⊢
    rw [ih, UInt8.xor_assoc, UInt8.xor_self, UInt8.xor_zero]

theorem xorBytes_cancel_eq (a b : Bytes) (h : a.length = b.length) : xorBytes (xorBytes a b) b = a :=
  xorBytes_cancel a b (by omega)

theorem xorBytes_comm (a b : Bytes) : xorBytes a b = xorBytes b a := by
  unfold xorBytes
  rw [List.zipWith_comm]
  congr 1
  funext x y
  exact UInt8.xor_comm y x

theorem xorBytes_append (a b c d : Bytes) (h : a.length = c.length) :
    xorBytes (a ++ b) (c ++ d) = xorBytes a c ++ xorBytes b d := by
  unfold xorBytes
  exact List.zipWith_append h

theorem xorBytes_take (a b : Bytes) (n : Nat) : xorBytes (a.take n) b = (xorBytes a b).take n := by
  unfold xorBytes
  induction a generalizing b n with
  | nil => simp
  | cons x a ih =>
    cases b with
    | nil => simp
    | cons y b =>
      cases n with
      | zero => simp
      | succ n => simp [ih]

theorem zeroPad_length_mod (n : Nat) (hpos : 0 < n) (m : Bytes) : (zeroPad n m).length % n = 0 := by
  have hlt := Nat.mod_lt m.length hpos
  have hd := Nat.div_add_mod m.length n
  simp only [zeroPad, List.length_append, zeros_length]
  by_cases h0 : m.length % n = 0
  · simp [h0]
  · have e : (n - m.length % n) % n = n - m.length % n := Nat.mod_eq_of_lt (by omega)
    rw [e]
    have : m.length + (n - m.length % n) = n * (m.length / n + 1) := by
      rw [Nat.mul_add]; omega
    rw [this]; simp

theorem zeroPad16_length_mod (m : Bytes) : (zeroPad16 m).length % 16 = 0 := zeroPad_length_mod 16 (by omega) m

theorem zeroPad_of_aligned (n : Nat) (m : Bytes) (h : m.length % n = 0) : zeroPad n m = m := by
  simp [zeroPad, h, zeros]

theorem take_drop_block {m : Bytes} {n : Nat} (h : m.length = 16 * (n + 1)) :
    (m.take 16).length = 16 ∧ (m.drop 16).length = 16 * n := by
  rw [List.length_take, List.length_drop]; omega

/-- the length of a block-aligned message, as the block recursions count it -/
theorem length_of_aligned {m : Bytes} (hm : m.length % 16 = 0) : m.length = 16 * (m.length / 16) := by omega

section blocks
variable {f g : Bytes → Bytes}

theorem mapBlocks_length (hf : ∀ b, (f b).length = 16) : ∀ (n : Nat) (m : Bytes), (mapBlocks f n m).length = 16 * n
  | 0, _ => by simp [mapBlocks]
  | n + 1, m => by simp [mapBlocks, hf, mapBlocks_length hf n]; omega

theorem mapBlocks_inv (hgf : ∀ b, b.length = 16 → g (f b) = b) (hf : ∀ b, (f b).length = 16) :
    ∀ (n : Nat) (m : Bytes), m.length = 16 * n → mapBlocks g n (mapBlocks f n m) = m
  | 0, m, h => by rw [List.eq_nil_of_length_eq_zero h]; rfl
  | n + 1, m, h => by
    obtain ⟨h1, h2⟩ := take_drop_block h
    simp only [mapBlocks]
    rw [List.take_left' (hf _), List.drop_left' (hf _), hgf _ h1, mapBlocks_inv hgf hf n _ h2,
      List.take_append_drop]

theorem streamOf_length (hf : ∀ b, (f b).length = 16) (blk : Nat → Bytes) :
    ∀ (n i : Nat), (streamOf f blk n i).length = 16 * n
  | 0, _ => by simp [streamOf]
  | n + 1, i => by simp [streamOf, hf, streamOf_length hf blk n]; omega

end blocks

theorem blocksFor_ge (len : Nat) : len ≤ 16 * blocksFor len := by unfold blocksFor; omega

theorem ecbEncWith_length {enc : Bytes → Bytes} (he : ∀ b, (enc b).length = 16) (m : Bytes) :
    (ecbEncWith enc m).length = 16 * (m.length / 16) := mapBlocks_length he _ _

theorem ecbWith_inv {enc dec : Bytes → Bytes} (hde : ∀ b, b.length = 16 → dec (enc b) = b)
    (he : ∀ b, (enc b).length = 16) (m : Bytes) (hm : m.length % 16 = 0) :
    ecbDecWith dec (ecbEncWith enc m) = m := by
  rw [ecbDecWith, ecbEncWith_length he, Nat.mul_div_cancel_left _ (by decide)]
  exact mapBlocks_inv hde he _ _ (length_of_aligned hm)

theorem cbcEncAux_length {enc : Bytes → Bytes} (he : ∀ b, (enc b).length = 16) :
    ∀ (n : Nat) (iv m : Bytes), (cbcEncAux enc n iv m).length = 16 * n
  | 0, _, _ => by simp [cbcEncAux]
  | n + 1, iv, m => by simp [cbcEncAux, he, cbcEncAux_length he n]; omega

theorem cbcAux_inv {enc dec : Bytes → Bytes} (hde : ∀ b, b.length = 16 → dec (enc b) = b)
    (he : ∀ b, (enc b).length = 16) :
    ∀ (n : Nat) (iv m : Bytes), iv.length = 16 → m.length = 16 * n →
      cbcDecAux dec n iv (cbcEncAux enc n iv m) = m
  | 0, iv, m, _, h => by rw [List.eq_nil_of_length_eq_zero h]; rfl
  | n + 1, iv, m, hiv, h => by
    obtain ⟨h1, h2⟩ := take_drop_block h
    have hx : (xorBytes (m.take 16) iv).length = 16 := by rw [xorBytes_length, h1, hiv]; rfl
    simp only [cbcEncAux, cbcDecAux]
    rw [List.take_left' (he _), List.drop_left' (he _), hde _ hx,
      xorBytes_cancel_eq _ _ (by rw [h1, hiv]), cbcAux_inv hde he n _ _ (he _) h2, List.take_append_drop]

theorem cbcEncWith_length {enc : Bytes → Bytes} (he : ∀ b, (enc b).length = 16) (iv m : Bytes) :
    (cbcEncWith enc iv m).length = 16 * (m.length / 16) := cbcEncAux_length he _ _ _

theorem cbcWith_inv {enc dec : Bytes → Bytes} (hde : ∀ b, b.length = 16 → dec (enc b) = b)
    (he : ∀ b, (enc b).length = 16) (iv m : Bytes) (hiv : iv.length = 16) (hm : m.length % 16 = 0) :
    cbcDecWith dec iv (cbcEncWith enc iv m) = m := by
  rw [cbcDecWith, cbcEncWith_length he, Nat.mul_div_cancel_left _ (by decide)]
  exact cbcAux_inv hde he _ _ _ hiv (length_of_aligned hm)

theorem xor_stream_invol (m ks : Bytes) (h : m.length ≤ ks.length) : xorBytes (xorBytes m ks) ks = m :=
  xorBytes_cancel m ks h

theorem ctrXorWith_length {enc : Bytes → Bytes} (he : ∀ b, (enc b).length = 16) (iv m : Bytes) :
    (ctrXorWith enc iv m).length = m.length := by
  have := blocksFor_ge m.length
  simp [ctrXorWith, ctrStream, streamOf_length he]; omega

theorem ctrWith_invol {enc : Bytes → Bytes} (he : ∀ b, (enc b).length = 16) (iv m : Bytes) :
    ctrXorWith enc iv (ctrXorWith enc iv m) = m := by
  have hl := ctrXorWith_length he iv m
  have key : ∀ x : Bytes, x.length = m.length →
      ctrXorWith enc iv x = xorBytes x (ctrStream enc iv (blocksFor m.length) 0) := by
    intro x hx; unfold ctrXorWith; rw [hx]
  rw [key _ hl, key m rfl]
  apply xorBytes_cancel
  have := blocksFor_ge m.length
  simp [ctrStream, streamOf_length he]; omega

theorem gfDouble_length (t : Bytes) : (gfDouble t).length = 16 := by simp [gfDouble, Misc.leEnc_length]

theorem xtsAux_length {f : Bytes → Bytes} (hf : ∀ b, (f b).length = 16) :
    ∀ (n : Nat) (t m : Bytes), t.length = 16 → (xtsAux f n t m).length = 16 * n
  | 0, _, _, _ => by simp [xtsAux]
  | n + 1, t, m, ht => by
    simp [xtsAux, hf, ht, xtsAux_length hf n _ _ (gfDouble_length t)]; omega

theorem xtsAux_inv {f g : Bytes → Bytes} (hgf : ∀ b, b.length = 16 → g (f b) = b) (hf : ∀ b, (f b).length = 16) :
    ∀ (n : Nat) (t m : Bytes), t.length = 16 → m.length = 16 * n → xtsAux g n t (xtsAux f n t m) = m
  | 0, t, m, _, h => by rw [List.eq_nil_of_length_eq_zero h]; rfl
  | n + 1, t, m, ht, h => by
    obtain ⟨h1, h2⟩ := take_drop_block h
    have hx : (xorBytes (m.take 16) t).length = 16 := by rw [xorBytes_length, h1, ht]; rfl
    have hy : (xorBytes (f (xorBytes (m.take 16) t)) t).length = 16 := by rw [xorBytes_length, hf, ht]; rfl
    simp only [xtsAux]
    rw [List.take_left' hy, List.drop_left' hy, xorBytes_cancel_eq _ _ (by rw [hf, ht]), hgf _ hx,
      xorBytes_cancel_eq _ _ (by rw [h1, ht]), xtsAux_inv hgf hf n _ _ (gfDouble_length t) h2,
      List.take_append_drop]

theorem xtsEncWith_length {enc1 enc2 : Bytes → Bytes} (h1 : ∀ b, (enc1 b).length = 16)
    (h2 : ∀ b, (enc2 b).length = 16) (tweak m : Bytes) :
    (xtsEncWith enc1 enc2 tweak m).length = 16 * (m.length / 16) := xtsAux_length h1 _ _ _ (h2 _)

theorem xtsWith_inv {enc1 dec1 enc2 : Bytes → Bytes} (hde : ∀ b, b.length = 16 → dec1 (enc1 b) = b)
    (h1 : ∀ b, (enc1 b).length = 16) (h2 : ∀ b, (enc2 b).length = 16) (tweak m : Bytes)
    (hm : m.length % 16 = 0) : xtsDecWith dec1 enc2 tweak (xtsEncWith enc1 enc2 tweak m) = m := by
  rw [xtsDecWith, xtsEncWith_length h1 h2, Nat.mul_div_cancel_left _ (by decide)]
  exact xtsAux_inv hde h1 _ _ _ (h2 _) (length_of_aligned hm)

theorem cbcMacAux_length {enc : Bytes → Bytes} (he : ∀ b, (enc b).length = 16) :
    ∀ (n : Nat) (x m : Bytes), x.length = 16 → (cbcMacAux enc n x m).length = 16
  | 0, _, _, hx => by simpa [cbcMacAux] using hx
  | n + 1, x, m, _ => by simp only [cbcMacAux]; exact cbcMacAux_length he n _ _ (he _)

theorem cbcMac_length {enc : Bytes → Bytes} (he : ∀ b, (enc b).length = 16) (m : Bytes) :
    (cbcMac enc m).length = 16 := cbcMacAux_length he _ _ _ (by simp)

theorem ccmTag_length {enc : Bytes → Bytes} (he : ∀ b, (enc b).length = 16) (nonce aad : Bytes)
    (tagLen : Nat) (m : Bytes) (ht : tagLen ≤ 16) : (ccmTag enc nonce aad tagLen m).length = tagLen := by
  simp [ccmTag, ccmMac, cbcMac_length he, he]; omega

theorem ccmEncWith_length {enc : Bytes → Bytes} (he : ∀ b, (enc b).length = 16) (nonce aad : Bytes)
    (tagLen : Nat) (m : Bytes) (ht : tagLen ≤ 16) :
    (ccmEncWith enc nonce aad tagLen m).length = m.length + tagLen := by
  have := blocksFor_ge m.length
  simp [ccmEncWith, ccmTag_length he _ _ _ _ ht, ccmStream, streamOf_length he]; omega

theorem ccmWith_inv {enc : Bytes → Bytes} (he : ∀ b, (enc b).length = 16) (nonce aad : Bytes)
    (tagLen : Nat) (m : Bytes) (ht : tagLen ≤ 16) :
    ccmDecWith enc nonce aad tagLen (ccmEncWith enc nonce aad tagLen m) = some m := by
  have hb := blocksFor_ge m.length
  have hl := ccmEncWith_length he nonce aad tagLen m ht
  have hbody : (xorBytes m (ccmStream enc nonce (blocksFor m.length))).length = m.length := by
    simp [ccmStream, streamOf_length he]; omega
  unfold ccmDecWith
  rw [hl]
  have e1 : m.length + tagLen - tagLen = m.length := by omega
  simp only [e1, show ¬ (m.length + tagLen < tagLen) by omega, if_false]
  unfold ccmEncWith
  rw [List.take_left' hbody, List.drop_left' hbody, hbody,
    xorBytes_cancel _ _ (by simp [ccmStream, streamOf_length he]; omega)]
  simp

/-- invariant of the RFC 3394 wrap state: `A` is 8 bytes, there are `n` registers of 8 bytes -/
def KwInv (n : Nat) (s : Bytes × List Bytes) : Prop :=
  s.1.length = 8 ∧ s.2.length = n ∧ ∀ r ∈ s.2, r.length = 8

theorem KwInv.getD_length {n : Nat} {s : Bytes × List Bytes} (h : KwInv n s) {i : Nat} (hi : i < n) :
    (s.2.getD i []).length = 8 := by
  obtain ⟨_, h2, h3⟩ := h
  have hi' : i < s.2.length := by omega
  rw [List.getD_eq_getElem?_getD, List.getElem?_eq_getElem hi']
  exact h3 _ (List.getElem_mem hi')

theorem kwStepEnc_inv {enc : Bytes → Bytes} (he : ∀ b, (enc b).length = 16) {n : Nat}
    {s : Bytes × List Bytes} (h : KwInv n s) (ti : Nat × Nat) : KwInv n (kwStepEnc enc ti s) := by
  obtain ⟨h1, h2, h3⟩ := h
  refine ⟨?_, ?_, ?_⟩
  · simp [kwStepEnc, he, Misc.beEnc_length]
  · simp [kwStepEnc, h2]
  · intro r hr
    simp only [kwStepEnc] at hr
    rcases List.mem_or_eq_of_mem_set hr with hr | hr
    · exact h3 r hr
    · subst hr; simp [he]

theorem kwStep_dec_enc {enc dec : Bytes → Bytes} (hde : ∀ b, b.length = 16 → dec (enc b) = b)
    (he : ∀ b, (enc b).length = 16) {n : Nat} {s : Bytes × List Bytes} (h : KwInv n s) (ti : Nat × Nat)
    (hi : ti.2 < n) : kwStepDec dec ti (kwStepEnc enc ti s) = s := by
  have hr := h.getD_length hi
  obtain ⟨h1, h2, h3⟩ := h
  have hi' : ti.2 < s.2.length := by omega
  have hb : (s.1 ++ s.2.getD ti.2 []).length = 16 := by rw [List.length_append, h1, hr]
  have hx : xorBytes (xorBytes ((enc (s.1 ++ s.2.getD ti.2 [])).take 8) (beEnc 8 ti.1)) (beEnc 8 ti.1)
      = (enc (s.1 ++ s.2.getD ti.2 [])).take 8 :=
    xorBytes_cancel_eq _ _ (by simp [he, Misc.beEnc_length])
  have hget : (s.2.set ti.2 ((enc (s.1 ++ s.2.getD ti.2 [])).drop 8)).getD ti.2 []
      = (enc (s.1 ++ s.2.getD ti.2 [])).drop 8 := by
    rw [List.getD_eq_getElem?_getD, List.getElem?_set_self hi']; rfl
  simp only [kwStepDec, kwStepEnc]
  rw [hx, hget, List.take_append_drop, hde _ hb, List.set_set]
  have e1 : (s.1 ++ s.2.getD ti.2 []).take 8 = s.1 := List.take_left' h1
  have e2 : (s.1 ++ s.2.getD ti.2 []).drop 8 = s.2.getD ti.2 [] := List.drop_left' h1
  rw [e1, e2]
  have e3 : s.2.set ti.2 (s.2.getD ti.2 []) = s.2 := by
    rw [List.getD_eq_getElem?_getD, List.getElem?_eq_getElem hi']
    exact List.set_getElem_self hi'
  rw [e3]

theorem chunksF_spec (n : Nat) (hn : 0 < n) :
    ∀ (k f : Nat) (l : Bytes), l.length = n * k → k ≤ f →
      (chunksF n f l).length = k ∧ (∀ r ∈ chunksF n f l, r.length = n) ∧ (chunksF n f l).flatten = l
  | 0, f, l, hl, _ => by
    have : l = [] := List.eq_nil_of_length_eq_zero (by simpa using hl)
    subst this
    cases f <;> simp [chunksF]
  | k + 1, 0, _, _, hf => by omega
  | k + 1, f + 1, l, hl, hf => by
    have hpos : 0 < l.length := by rw [hl]; exact Nat.mul_pos hn (by omega)
    have hne : l.isEmpty = false := by
      cases l with
      | nil => simp at hpos
      | cons _ _ => rfl
    have hle : n ≤ l.length := by rw [hl, Nat.mul_add]; omega
    have hd : (l.drop n).length = n * k := by simp [hl, Nat.mul_add]
    obtain ⟨i1, i2, i3⟩ := chunksF_spec n hn k f (l.drop n) hd (by omega)
    simp only [chunksF, hne, Bool.false_eq_true, if_false]
    refine ⟨by simp [i1], ?_, ?_⟩
    · intro r hr
      rcases List.mem_cons.mp hr with hr | hr
      · subst hr; simp; omega
      · exact i2 r hr
    · simp [i3]

theorem chunks_spec (n : Nat) (hn : 0 < n) (k : Nat) (l : Bytes) (hl : l.length = n * k) :
    (chunks n l).length = k ∧ (∀ r ∈ chunks n l, r.length = n) ∧ (chunks n l).flatten = l := by
  apply chunksF_spec n hn k l.length l hl
  rw [hl]
  exact Nat.le_mul_of_pos_left k hn

theorem kwSteps_idx (n : Nat) (hn : 0 < n) : ∀ ti ∈ kwSteps n, ti.2 < n := by
  intro ti h
  simp only [kwSteps, List.mem_map, List.mem_range] at h
  obtain ⟨s, _, rfl⟩ := h
  exact Nat.mod_lt _ hn

theorem flatten_length8 : ∀ (r : List Bytes), (∀ x ∈ r, x.length = 8) → r.flatten.length = 8 * r.length
  | [], _ => rfl
  | x :: r, h => by
    simp [h x List.mem_cons_self, flatten_length8 r (fun y hy => h y (List.mem_cons_of_mem _ hy))]
    omega

theorem chunks_flatten8 (r : List Bytes) (hr : ∀ x ∈ r, x.length = 8) : chunks 8 r.flatten = r := by
  suffices h : ∀ (f : Nat) (r : List Bytes), (∀ x ∈ r, x.length = 8) → r.length ≤ f → chunksF 8 f r.flatten = r from
    h _ r hr (by rw [flatten_length8 r hr]; omega)
  intro f
  induction f with
  | zero => intro r _ hl; rw [List.eq_nil_of_length_eq_zero (Nat.le_zero.mp hl)]; rfl
  | succ f ih =>
    intro r hr hl
    cases r with
    | nil => rfl
    | cons x r =>
      have hx := hr x List.mem_cons_self
      have hne : (x ++ r.flatten).isEmpty = false := by
        cases x with
        | nil => simp at hx
        | cons _ _ => rfl
      simp only [List.flatten_cons, chunksF, hne, Bool.false_eq_true, if_false]
      rw [List.take_left' hx, List.drop_left' hx,
        ih r (fun y hy => hr y (List.mem_cons_of_mem _ hy)) (by simpa using hl)]

/-- the wrap state before and after all `6·n` steps: `A` of 8 bytes and `n` registers of 8 bytes -/
theorem kwWrap_state {enc : Bytes → Bytes} (he : ∀ b, (enc b).length = 16) (iv p : Bytes) (hiv : iv.length = 8)
    (hp : p.length % 8 = 0) :
    KwInv (p.length / 8) (iv, chunks 8 p) ∧
    KwInv (p.length / 8) ((kwSteps (chunks 8 p).length).foldl (fun s ti => kwStepEnc enc ti s) (iv, chunks 8 p)) := by
  obtain ⟨c1, c2, _⟩ := chunks_spec 8 (by omega) (p.length / 8) p (by omega)
  have hinv : KwInv (p.length / 8) (iv, chunks 8 p) := ⟨hiv, c1, c2⟩
  exact ⟨hinv, foldl_invariant (P := KwInv (p.length / 8)) (Q := fun _ => True) (fun s ti hs _ => kwStepEnc_inv he hs ti)
    _ _ hinv fun _ _ => trivial⟩

theorem kwWrapWith_length {enc : Bytes → Bytes} (he : ∀ b, (enc b).length = 16) (iv p : Bytes)
    (hiv : iv.length = 8) (hp : p.length % 8 = 0) : (kwWrapWith enc iv p).length = p.length + 8 := by
  obtain ⟨f1, f2, f3⟩ := (kwWrap_state he iv p hiv hp).2
  simp only [kwWrapWith, List.length_append]
  rw [flatten_length8 _ f3, f1, f2]
  omega

theorem kwWith_inv {enc dec : Bytes → Bytes} (hde : ∀ b, b.length = 16 → dec (enc b) = b)
    (he : ∀ b, (enc b).length = 16) (iv p : Bytes) (hiv : iv.length = 8)
    (hp : p.length % 8 = 0) (hp16 : 16 ≤ p.length) :
    kwUnwrapWith dec iv (kwWrapWith enc iv p) = some p := by
  obtain ⟨hinv, f1, f2, f3⟩ := kwWrap_state he iv p hiv hp
  obtain ⟨c1, _, c3⟩ := chunks_spec 8 (by omega) (p.length / 8) p (by omega)
  unfold kwUnwrapWith
  rw [kwWrapWith_length he iv p hiv hp]
  have hc : ¬ (p.length + 8 < 24 ∨ (p.length + 8) % 8 ≠ 0) := by omega
  simp only [hc, if_false]
  unfold kwWrapWith
  simp only []
  rw [List.take_left' f1, List.drop_left' f1, chunks_flatten8 _ f3, f2, ← c1,
    foldr_foldl_cancel (P := KwInv (chunks 8 p).length) (Q := fun ti => ti.2 < (chunks 8 p).length)
      (fun s ti hs _ => kwStepEnc_inv he hs ti) (fun s ti hs hi => kwStep_dec_enc hde he hs ti hi) _ _
      (c1 ▸ hinv) (kwSteps_idx _ (by omega))]
  simp [c3]

theorem cmacWith_length {enc : Bytes → Bytes} (he : ∀ b, (enc b).length = 16) (m : Bytes) :
    (cmacWith enc m).length = 16 := cbcMac_length he _

section ops
variable {c : CryptoOps}

theorem ecbEnc_length (h : CryptoLaws c) (k m : Bytes) : (ecbEnc c k m).length = 16 * (m.length / 16) :=
  ecbEncWith_length (h.enc_len k) m

/-- ECB: decrypt ∘ encrypt = id on block multiples, every key -/
theorem ecb_inv (h : CryptoLaws c) (k m : Bytes) (hm : m.length % 16 = 0) : ecbDec c k (ecbEnc c k m) = m :=
  ecbWith_inv (h.dec_enc k) (h.enc_len k) m hm

theorem cbcEnc_length (h : CryptoLaws c) (k iv m : Bytes) : (cbcEnc c k iv m).length = 16 * (m.length / 16) :=
  cbcEncWith_length (h.enc_len k) iv m

/-- CBC: decrypt ∘ encrypt = id on block multiples, every key and 16-byte IV -/
theorem cbc_inv (h : CryptoLaws c) (k iv m : Bytes) (hiv : iv.length = 16) (hm : m.length % 16 = 0) :
    cbcDec c k iv (cbcEnc c k iv m) = m :=
  cbcWith_inv (h.dec_enc k) (h.enc_len k) iv m hiv hm

/-- CBC with SPSDK's zero padding: any message length; the result is the zero-padded message -/
theorem cbc_inv_pad (h : CryptoLaws c) (k iv m : Bytes) (hiv : iv.length = 16) :
    cbcDec c k iv (cbcEnc c k iv (zeroPad16 m)) = zeroPad16 m :=
  cbc_inv h k iv _ hiv (zeroPad16_length_mod m)

theorem sm4cbc_inv (h : Sm4Laws c) (k iv m : Bytes) (hiv : iv.length = 16) (hm : m.length % 16 = 0) :
    sm4CbcDec c k iv (sm4CbcEnc c k iv m) = m :=
  cbcWith_inv (h.dec_enc k) (h.enc_len k) iv m hiv hm

theorem sm4cbc_inv_pad (h : Sm4Laws c) (k iv m : Bytes) (hiv : iv.length = 16) :
    sm4CbcDec c k iv (sm4CbcEnc c k iv (zeroPad16 m)) = zeroPad16 m :=
  sm4cbc_inv h k iv _ hiv (zeroPad16_length_mod m)

theorem ctrXor_length (h : CryptoLaws c) (k iv m : Bytes) : (ctrXor c k iv m).length = m.length :=
  ctrXorWith_length (h.enc_len k) iv m

/-- CTR is an involution: every key, every counter block, every message length -/
theorem ctr_invol (h : CryptoLaws c) (k iv m : Bytes) : ctrXor c k iv (ctrXor c k iv m) = m :=
  ctrWith_invol (h.enc_len k) iv m

theorem xtsEnc_length (h : CryptoLaws c) (k1 k2 t m : Bytes) :
    (xtsEnc c k1 k2 t m).length = 16 * (m.length / 16) :=
  xtsEncWith_length (h.enc_len k1) (h.enc_len k2) t m

/-- XTS (no stealing): every key pair, tweak, block-multiple data unit -/
theorem xts_inv (h : CryptoLaws c) (k1 k2 t m : Bytes) (hm : m.length % 16 = 0) :
    xtsDec c k1 k2 t (xtsEnc c k1 k2 t m) = m :=
  xtsWith_inv (h.dec_enc k1) (h.enc_len k1) (h.enc_len k2) t m hm

theorem ccmEnc_length (h : CryptoLaws c) (k n a : Bytes) (t : Nat) (m : Bytes) (ht : t ≤ 16) :
    (ccmEnc c k n a t m).length = m.length + t :=
  ccmEncWith_length (h.enc_len k) n a t m ht

/-- CCM: decrypt-and-verify of an encryption returns the plaintext — every key, nonce, AAD, tag length ≤ 16, message -/
theorem ccm_inv (h : CryptoLaws c) (k n a : Bytes) (t : Nat) (m : Bytes) (ht : t ≤ 16) :
    ccmDec c k n a t (ccmEnc c k n a t m) = some m :=
  ccmWith_inv (h.enc_len k) n a t m ht

theorem kwWrap_length (h : CryptoLaws c) (kek p : Bytes) (hp : p.length % 8 = 0) :
    (kwWrap c kek p).length = p.length + 8 :=
  kwWrapWith_length (h.enc_len kek) _ p (by simp [kwDefaultIV]) hp

/-- RFC 3394: unwrap ∘ wrap = some, every KEK, every key of ≥ 16 bytes that is a multiple of 8 -/
theorem kw_inv (h : CryptoLaws c) (kek p : Bytes) (hp : p.length % 8 = 0) (hp16 : 16 ≤ p.length) :
    kwUnwrap c kek (kwWrap c kek p) = some p :=
  kwWith_inv (h.dec_enc kek) (h.enc_len kek) _ p (by simp [kwDefaultIV]) hp hp16

theorem cmac_length (h : CryptoLaws c) (k m : Bytes) : (cmac c k m).length = 16 :=
  cmacWith_length (h.enc_len k) m

theorem hmac_length (h : CryptoLaws c) (a : HashAlg) (k m : Bytes) : (hmac c a k m).length = a.size := by
  simp [hmac, h.hash_len]

theorem hkdfExpandAux_length (h : CryptoLaws c) (a : HashAlg) (prk info : Bytes) :
    ∀ (n i : Nat) (prev : Bytes), (hkdfExpandAux c a prk info n i prev).length = a.size * n
  | 0, _, _ => by simp [hkdfExpandAux]
  | n + 1, i, prev => by
    simp only [hkdfExpandAux, List.length_append, hmac_length h, hkdfExpandAux_length h a prk info n]
    rw [Nat.mul_add]; omega

theorem hkdf_length (h : CryptoLaws c) (a : HashAlg) (salt ikm info : Bytes) (len : Nat) :
    (hkdf c a salt ikm info len).length = len := by
  have hs : 0 < a.size := by cases a <;> simp [HashAlg.size]
  simp only [hkdf, hkdfExpand, List.length_take, hkdfExpandAux_length h]
  have := Nat.div_add_mod (len + a.size - 1) a.size
  have := Nat.mod_lt (len + a.size - 1) hs
  apply Nat.min_eq_left
  -- len ≤ size * ((len + size - 1) / size)
  omega

end ops

section macs
variable {c : CryptoOps}

theorem hashSize_le_block (a : HashAlg) : a.size ≤ a.blockSize := by
  cases a <;> simp [HashAlg.size, HashAlg.blockSize]

/-- RFC 2104 key normalisation: a key longer than one block is replaced by its digest -/
theorem hmac_long_key (h : CryptoLaws c) (a : HashAlg) (k m : Bytes) (hk : k.length > a.blockSize) :
    hmac c a k m = hmac c a (c.hash a k) m := by
  have hs := hashSize_le_block a
  have e : hmacKey0 c a k = hmacKey0 c a (c.hash a k) := by
    have : ¬ a.size > a.blockSize := by omega
    simp only [hmacKey0, hk, if_true, h.hash_len, this, if_false]
  simp only [hmac, e]

/-- … and a key of at most one block may be extended by zero bytes up to the block size without changing the MAC -/
theorem hmac_key_zero_pad (a : HashAlg) (k m : Bytes) (j : Nat) (hk : k.length + j ≤ a.blockSize) :
    hmac c a (k ++ zeros j) m = hmac c a k m := by
  have e : hmacKey0 c a (k ++ zeros j) = hmacKey0 c a k := by
    have h1 : ¬ (k.length + j > a.blockSize) := by omega
    have h2 : ¬ k.length > a.blockSize := by omega
    have h3 : a.blockSize - (k.length + j) = (a.blockSize - k.length) - j := by omega
    have h4 : j + (a.blockSize - k.length - j) = a.blockSize - k.length := by omega
    simp only [hmacKey0, zeros, List.length_append, List.length_replicate, h1, h2, if_false, List.append_assoc,
      List.replicate_append_replicate, h3, h4]
  simp only [hmac, e]

/-- RFC 5869 §2.2: an absent / empty salt is a string of `HashLen` zeros — and under HMAC that is the empty key -/
theorem hkdfExtract_empty_salt (a : HashAlg) (ikm : Bytes) :
    hkdfExtract c a [] ikm = hmac c a (zeros a.size) ikm ∧ hkdfExtract c a [] ikm = hmac c a [] ikm := by
  have := hmac_key_zero_pad (c := c) a [] ikm a.size (by simpa using hashSize_le_block a)
  simp only [List.nil_append] at this
  exact ⟨by simp [hkdfExtract], by simp [hkdfExtract, this]⟩

theorem hkdfExpandAux_take (h : CryptoLaws c) (a : HashAlg) (prk info : Bytes) :
    ∀ (n k i : Nat) (prev : Bytes),
      (hkdfExpandAux c a prk info (n + k) i prev).take (a.size * n) = hkdfExpandAux c a prk info n i prev
  | 0, _, _, _ => by simp [hkdfExpandAux]
  | n + 1, k, i, prev => by
    have e : n + 1 + k = (n + k) + 1 := by omega
    have hl : (hmac c a prk (prev ++ info ++ [UInt8.ofNat i])).length = a.size := hmac_length h a prk _
    rw [e]
    simp only [hkdfExpandAux]
    rw [List.take_append, hl, List.take_of_length_le (by rw [hl]; rw [Nat.mul_add]; omega)]
    have e2 : a.size * (n + 1) - a.size = a.size * n := by rw [Nat.mul_add]; omega
    rw [e2, hkdfExpandAux_take h a prk info n k]

theorem hkdf_prefix (h : CryptoLaws c) (a : HashAlg) (salt ikm info : Bytes) (len len' : Nat) (hl : len ≤ len') :
    hkdf c a salt ikm info len = (hkdf c a salt ikm info len').take len := by
  have hs : 0 < a.size := by cases a <;> simp [HashAlg.size]
  simp only [hkdf, hkdfExpand]
  generalize hkdfExtract c a salt ikm = prk
  have hn : (len + a.size - 1) / a.size ≤ (len' + a.size - 1) / a.size := Nat.div_le_div_right (by omega)
  obtain ⟨k, hk⟩ := Nat.exists_eq_add_of_le hn
  have ht := hkdfExpandAux_take h a prk info ((len + a.size - 1) / a.size) k 1 []
  rw [← hk] at ht
  rw [← ht, List.take_take, List.take_take]
  have h1 := Nat.div_add_mod (len + a.size - 1) a.size
  have h2 := Nat.mod_lt (len + a.size - 1) hs
  have : len ≤ a.size * ((len + a.size - 1) / a.size) := by omega
  congr 1
  omega

/-- the first block of output keying material is `HMAC(PRK, info ‖ 0x01)` -/
theorem hkdf_first_block (a : HashAlg) (salt ikm info : Bytes) (len : Nat) (h0 : 0 < len) (h1 : len ≤ a.size) :
    hkdf c a salt ikm info len = (hmac c a (hkdfExtract c a salt ikm) (info ++ [1])).take len := by
  have e : (len + a.size - 1) / a.size = 1 := by
    apply Nat.div_eq_of_lt_le <;> omega
  simp [hkdf, hkdfExpand, e, hkdfExpandAux]

/-- SP 800-38B, complete final block: mask with K1 = dbl(E_K(0)) -/
theorem cmacWith_complete (enc : Bytes → Bytes) (m : Bytes) (n : Nat) (hn : 0 < n) (hm : m.length = 16 * n) :
    cmacWith enc m = cbcMac enc (m.take (16 * (n - 1)) ++
      xorBytes (m.drop (16 * (n - 1))) (cmacDbl (enc (zeros 16)))) := by
  have h0 : m.length ≠ 0 := by omega
  have hb : blocksFor m.length = n := by unfold blocksFor; omega
  have hl : (m.drop (16 * (n - 1))).length = 16 := by simp; omega
  simp [cmacWith, h0, hb, hl]

/-- SP 800-38B, incomplete (or absent) final block: pad `10…0`, mask with K2 = dbl(K1) -/
theorem cmacWith_partial (enc : Bytes → Bytes) (m : Bytes) (hm : m.length % 16 ≠ 0 ∨ m.length = 0) :
    cmacWith enc m = cbcMac enc (m.take (16 * (m.length / 16)) ++
      xorBytes (m.drop (16 * (m.length / 16)) ++ [0x80] ++ zeros (15 - m.length % 16))
        (cmacDbl (cmacDbl (enc (zeros 16))))) := by
  by_cases h0 : m.length = 0
  · have : m = [] := List.eq_nil_of_length_eq_zero h0
    subst this
    simp [cmacWith]
  · have hr : m.length % 16 ≠ 0 := by
      rcases hm with h | h
      · exact h
      · exact absurd h h0
    have hb : blocksFor m.length - 1 = m.length / 16 := by unfold blocksFor; omega
    have hl : (m.drop (16 * (m.length / 16))).length = m.length % 16 := by simp; omega
    have hne : ¬ m.length % 16 = 16 := by omega
    simp [cmacWith, h0, hb, hl, hne]

theorem cmacDbl_length (b : Bytes) : (cmacDbl b).length = 16 := by simp [cmacDbl, Misc.beEnc_length]

end macs

end SpsdkVerif.Crypto
