/-
The executable instance `execOps` (Crypto/Exec.lean) satisfies `CryptoLaws` and `Sm4Laws`:
AES and SM4 decryption invert encryption for every key and block (Proofs/AesInv.lean, Proofs/Sm4Inv.lean),
digests have the stated length, and the placeholder signature verifies what it signed.
-/
import SpsdkVerif.Crypto.Exec
import SpsdkVerif.Proofs.AesInv
import SpsdkVerif.Proofs.Sm4Inv

namespace SpsdkVerif.Crypto
open SpsdkVerif

theorem execOps_laws : CryptoLaws execOps where
  dec_enc := Aes.decBlk_encBlk
  enc_dec := Aes.encBlk_decBlk
  enc_len := Aes.encBlk_length
  dec_len := Aes.decBlk_length
  hash_len := Sha.hash_len
  verify_sign := by intro a sk m r; simp [execOps]

theorem execOps_sm4Enc : execOps.sm4Enc = Sm4.encBlk := rfl
theorem execOps_sm4Dec : execOps.sm4Dec = Sm4.decBlk := rfl

/- the two inversion fields are rewritten first: left to the unifier, `execOps.sm4Dec k (execOps.sm4Enc k b)` against
   `Sm4.decBlk k (Sm4.encBlk k b)` unfolds the SM4 rounds before it unfolds `execOps` -/
theorem execOps_sm4Laws : Sm4Laws execOps where
  dec_enc := by rw [execOps_sm4Enc, execOps_sm4Dec]; exact Sm4.decBlk_encBlk
  enc_dec := by rw [execOps_sm4Enc, execOps_sm4Dec]; exact Sm4.encBlk_decBlk
  enc_len := Sm4.encBlk_length
  dec_len := Sm4.decBlk_length

end SpsdkVerif.Crypto
