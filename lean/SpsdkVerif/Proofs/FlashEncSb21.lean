/-
C13 — OTFAD through SB2.1 (`SB21Helper._encrypt` / `_keywrap`) and the `KeyBlob` constructor.
-/
import SpsdkVerif.Proofs.FlashEncOtfad
import SpsdkVerif.Proofs.FlashEncKeyBlob

namespace SpsdkVerif.FlashEnc
open SpsdkVerif SpsdkVerif.Crypto
open SpsdkVerif.Misc (beEnc beDec leEnc leDec)
open SpsdkVerif.Generated.FlashEncConsts

variable {c : CryptoOps}

theorem sb21_ctorOk_of_wf (kb : KeyBlob) (h : kb.WF) : kb.ctorOk = true := by
  have := h.flags_lt
  have := h.end_lt
  simp [KeyBlob.ctorOk, h.key_len, h.ctr_len, h.range, h.start_al, otfadKeySize, otfadCtrSize, otfadKeyFlagMask,
    otfadStartAddrMask]
  omega

theorem sb21_wf_of_ctorOk (kb : KeyBlob) (h : kb.ctorOk = true) (he : kb.end_ = 0 → kb.flags = 0) : kb.WF := by
  simp only [KeyBlob.ctorOk, otfadKeySize, otfadCtrSize, otfadKeyFlagMask, otfadStartAddrMask, Bool.and_eq_true,
    decide_eq_true_eq, beq_iff_eq, Bool.not_eq_true', Bool.or_eq_false_iff, bne_eq_false_iff_eq] at h
  obtain ⟨⟨⟨⟨⟨hk, hc⟩, h1⟩, h2⟩, h3⟩, h4⟩ := h
  exact ⟨hk, hc, by omega, h1, by omega, by omega, he⟩

theorem sb21_and3 (e : Nat) : e &&& 3 = e % 4 := Nat.and_two_pow_sub_one_eq_mod e 2

theorem sb21_and_flags (e : Nat) : (e &&& otfadFlagADE ≠ 0 ∧ e &&& otfadFlagVLD ≠ 0) ↔ e % 4 = 3 := by
  have key : ∀ r < 4, (r &&& 2 ≠ 0 ∧ r &&& 1 ≠ 0) ↔ r = 3 := by decide
  have h2 : e &&& 2 = e % 4 &&& 2 := by rw [← sb21_and3, Nat.and_assoc]; rfl
  have h1 : e &&& 1 = e % 4 &&& 1 := by rw [← sb21_and3, Nat.and_assoc]; rfl
  rw [otfadFlagADE, otfadFlagVLD, h2, h1]
  exact key _ (Nat.mod_lt _ (by decide))

/-- the blob `keywrap` exports (flags = low bits of `end`) -/
abbrev sb21K (s e : Nat) (k ct : Bytes) : KeyBlob := Sb21.blob s e k ct (e &&& otfadKeyFlagMask)
/-- the blob `encrypt` builds (always VLD and ADE) -/
abbrev sb21E (s e : Nat) (k ct : Bytes) : KeyBlob := Sb21.blob s e k ct (otfadFlagVLD ||| otfadFlagADE)

/-- the flags exported by `keywrap` make the blob "encrypting" exactly when `encrypt` encrypts -/
theorem sb21_kw_isEncrypted (s e : Nat) (k ct : Bytes) : (sb21K s e k ct).isEncrypted = decide (e % 4 = 3) := by
  have h7 : (e &&& 7) &&& 3 = e % 4 := by
    rw [Nat.and_assoc]; exact sb21_and3 e
  simp only [Sb21.blob, KeyBlob.isEncrypted, otfadFlagADE, otfadFlagVLD, otfadKeyFlagMask]
  have : (2 ||| 1 : Nat) = 3 := by decide
  rw [this, h7]
  by_cases h : e % 4 = 3 <;> simp [h]

theorem sb21_containsAddr_flags (s e : Nat) (k ct : Bytes) (f g : Nat) (a : Nat) :
    (Sb21.blob s e k ct f).containsAddr a = (Sb21.blob s e k ct g).containsAddr a := rfl

/-- the ciphertext depends on the key and the counter of the blob only, not on its flags -/
theorem sb21_encBlocks_flags (s e : Nat) (k ct : Bytes) (f g : Nat) (swap : Bool) (n cv : Nat) (d : Bytes) :
    (Sb21.blob s e k ct f).encBlocks c swap n cv d = (Sb21.blob s e k ct g).encBlocks c swap n cv d := by
  rw [otfad_encBlocks_eq, otfad_encBlocks_eq]; rfl

/-- SB2.1 `encrypt (id) { load data > address; }` followed by `keywrap (id)`: the engine programmed with the context of
    the WRAPPED blob (flags = low bits of `end`) reads the data back at the LOAD address — for every 16-byte aligned load
    address whose padded data fit the blob's window, whether the `end` value enables decryption or not -/
theorem sb21_encrypt_inverts (h : CryptoLaws c) (start end_ : Nat) (key ctr : Bytes) (swap : Bool)
    (address : Nat) (data : Bytes) (hwf : (Sb21.blob start end_ key ctr (end_ &&& otfadKeyFlagMask)).WF)
    (ha16 : address % 16 = 0) (hne : 0 < data.length)
    (hfit : Sb21.fits (Sb21.blob start end_ key ctr (end_ &&& otfadKeyFlagMask)) address
      (zeroPad sb21EncryptAlign data).length) :
    ∃ ct, Sb21.encrypt c start end_ key ctr swap address data = .ok ct ∧
      (otfadHwReadAll c [(Sb21.blob start end_ key ctr (end_ &&& otfadKeyFlagMask)).ctx] swap address ct).take data.length
        = data := by
  have hwf1 : ∀ kb ∈ [sb21K start end_ key ctr], kb.WF := fun kb hkb => by rw [List.mem_singleton.mp hkb]; exact hwf
  have hd1 : BlobsDisjoint [sb21K start end_ key ctr] := List.pairwise_singleton _ _
  have hEok : (sb21E start end_ key ctr).ctorOk = true := by
    have := sb21_ctorOk_of_wf _ hwf
    simp only [KeyBlob.ctorOk, Sb21.blob, otfadFlagVLD, otfadFlagADE, otfadKeyFlagMask, Bool.and_eq_true] at this ⊢
    exact ⟨⟨this.1.1, by decide⟩, this.2⟩
  have hKe := sb21_kw_isEncrypted start end_ key ctr
  have hhw := fun m => otfad_spec_hw h [sb21K start end_ key ctr] hwf1 hd1 swap address ha16 m
  by_cases hfl : end_ % 4 = 3
  · -- encrypted with the counter bound to the load address
    have hEwf : (sb21E start end_ key ctr).WF := ⟨hwf.key_len, hwf.ctr_len, hwf.start_al, hwf.range, hwf.end_lt,
      (by decide : otfadFlagVLD ||| otfadFlagADE < 8), fun h0 => by have : end_ = 0 := h0; omega⟩
    have hle : data.length ≤ (zeroPad sb21EncryptAlign data).length := by rw [zeroPad_length]; omega
    have hcE : (sb21E start end_ key ctr).containsAddr address = true :=
      hfit 0 (by unfold blocksFor; omega)
    have hact : ∀ j, j < blocksFor (zeroPad sb21EncryptAlign data).length →
        otfadActive [sb21K start end_ key ctr] (address + 16 * j) = some (sb21K start end_ key ctr) := fun j hj => by
      simp [otfadActive, hfit j hj, hKe, hfl]
    refine ⟨otfadSpecImage c [sb21K start end_ key ctr] swap address (zeroPad sb21EncryptAlign data), ?_, ?_⟩
    · simp only [Sb21.encrypt, hEok, Bool.not_true, Bool.false_eq_true, if_false]
      rw [if_pos ((sb21_and_flags end_).mpr hfl), otfad_kb_encryptImage _ hEwf address ha16 hcE,
        sb21_encBlocks_flags _ _ _ _ _ (end_ &&& otfadKeyFlagMask),
        otfad_encBlocks_spec [sb21K start end_ key ctr] swap _ _ address _ rfl hact]
      rfl
    · have := congrArg (List.take data.length) (hhw (zeroPad sb21EncryptAlign data))
      rwa [List.take_take, Nat.min_eq_left hle, zeroPad_take_self] at this
  · -- left plain; the wrapped context is not (VLD and ADE): the engine passes the data through
    have hn : ¬ (end_ &&& otfadFlagADE ≠ 0 ∧ end_ &&& otfadFlagVLD ≠ 0) := fun hh => hfl ((sb21_and_flags end_).mp hh)
    refine ⟨data, by simp only [Sb21.encrypt, hEok, Bool.not_true, Bool.false_eq_true, if_false, hn], ?_⟩
    have := hhw data
    rwa [otfadSpecImage, otfad_spec_none _ swap _ address data rfl fun j _ => by simp [otfadActive, hKe, hfl]] at this

/-- the wrapped blob unwraps to the blob's key, counter, range and the flags given in the low bits of `end` -/
theorem sb21_keywrap_unwraps (h : CryptoLaws c) (start end_ : Nat) (key ctr kek rnd : Bytes)
    (hwf : (Sb21.blob start end_ key ctr (end_ &&& otfadKeyFlagMask)).WF) (hk : kek.length = 16) (hr : rnd.length = 4) :
    ∃ e, Sb21.keywrap c start end_ key ctr kek rnd = .ok e ∧ e.length = 64 ∧
      otfadUnwrapEntry c kek 0 e = some ((Sb21.blob start end_ key ctr (end_ &&& otfadKeyFlagMask)).ctx, true) := by
  let kb' : KeyBlob := { Sb21.blob start end_ key ctr (end_ &&& otfadKeyFlagMask) with zeroFill := rnd }
  have hwf' : kb'.WF := ⟨hwf.key_len, hwf.ctr_len, hwf.start_al, hwf.range, hwf.end_lt, hwf.flags_lt, hwf.exportable⟩
  obtain ⟨e, he, hl, hu⟩ := keyblob_unwraps h kb' hwf' hr rfl kek hk 0 (by simp) rnd
  have hrne : rnd.isEmpty = false := by
    cases rnd with
    | nil => simp at hr
    | cons _ _ => rfl
  have hpd : (Sb21.blob start end_ key ctr (end_ &&& otfadKeyFlagMask)).plainData rnd = kb'.plainData rnd := by
    simp [KeyBlob.plainData, kb', Sb21.blob, KeyBlob.endAddrWithFlags, hrne, hr]
  have hctx : (Sb21.blob start end_ key ctr (end_ &&& otfadKeyFlagMask)).ctx = kb'.ctx := rfl
  refine ⟨e, ?_, hl, by rw [hctx]; exact hu⟩
  simp only [Sb21.keywrap, sb21_ctorOk_of_wf _ hwf, Bool.not_true, Bool.false_eq_true, if_false]
  simp only [KeyBlob.export, hpd] at he ⊢
  exact he

end SpsdkVerif.FlashEnc
