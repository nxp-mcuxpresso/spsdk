/-
Truncation of the device→host stream in the MIDDLE of an operation (C10): for every cut position the operation on the cut
stream (`Host.truncate`, `Host.truncateReports`) is `observable`-equal to the one on the full stream, or has not `succeeded`.
Lock-step simulation of the run on the full stream (`hf`) and on the cut one (`ht`), relation `Cut`: the runs agree until a read
on the cut side finds too little; from then on the cut host is `Silent` (nothing readable, the script releases nothing any more)
and the rest of the operation ends in a failure class.  A link that never answers (`Starved`, Proofs/MbootFault.lean) is `Silent`
too: the theorems about it at the end of the file are the `HT` halves of the simulation lemmas.
-/
import SpsdkVerif.Model.Mboot
import SpsdkVerif.Proofs.Mboot
import SpsdkVerif.Proofs.MbootFault

namespace SpsdkVerif.Mboot.Trunc
open SpsdkVerif SpsdkVerif.Mboot SpsdkVerif.Mboot.H SpsdkVerif.Mboot.Fault

/-- a replay script that releases nothing any more -/
def Mute (p : Peer) : Prop := ∃ cs, p = .script cs ∧ ∀ x ∈ cs, x = []

def truncTr : Transport → Nat → List (List Bytes) → List (List Bytes)
  | .serial => truncChunks
  | .hid => truncReports

/-- nothing readable on the link in use, and nothing will ever arrive -/
structure Dead (c : Cfg) (h : Host) : Prop where
  cfg : h.cfg = c
  peer : Mute h.peer
  rxB : c.tr = .serial → h.rxB = []
  rxR : c.tr = .hid → h.rxR = []

/-- `hf` runs on the full stream, `ht` on the cut one; everything else is equal -/
structure Cut (c : Cfg) (hf ht : Host) : Prop where
  cfgf : hf.cfg = c
  cfgt : ht.cfg = c
  status : ht.status = hf.status
  mps : ht.mps = hf.mps
  eda : ht.eda = hf.eda
  opened : ht.opened = hf.opened
  txRev : ht.txRev = hf.txRev
  fuelHint : ht.fuelHint = hf.fuelHint
  preB : ht.rxB <+: hf.rxB
  preR : ht.rxR <+: hf.rxR
  stream : Mute ht.peer ∨
    (ht.rxB = hf.rxB ∧ ht.rxR = hf.rxR ∧ ∃ j cs, hf.peer = .script cs ∧ ht.peer = .script (truncTr c.tr j cs))

/-- what a cut stream that ran dry (`Dead`) and a link that never answers (`Starved`) have in common: every read on the
    link in use fails, now and later (an empty HID report is a failed read too) -/
structure Silent (c : Cfg) (h : Host) : Prop where
  cfg : h.cfg = c
  peer : Peer.silent h.peer
  rxB : c.tr = .serial → h.rxB = []
  rxR : c.tr = .hid → ∀ r ∈ h.rxR, r = []

variable {c : Cfg}

theorem Mute.silent {p : Peer} (hm : Mute p) : Peer.silent p := by
  obtain ⟨cs, rfl, hm⟩ := hm
  intro x hx r hr
  rw [hm x hx] at hr
  cases hr

theorem Dead.silent {h : Host} (hd : Dead c h) : Silent c h :=
  ⟨hd.cfg, hd.peer.silent, hd.rxB, fun e r hr => by rw [hd.rxR e] at hr; cases hr⟩

theorem Silent.of_starved {h : Host} (hs : Starved h) : Silent h.cfg h := ⟨rfl, hs.peer, fun _ => hs.rxB, fun _ => hs.rxR⟩

theorem mute_map (cs : List (List Bytes)) : Mute (.script (cs.map (fun _ => []))) :=
  ⟨_, rfl, by intro x hx; simp only [List.mem_map] at hx; obtain ⟨_, _, rfl⟩ := hx; rfl⟩

theorem cut_truncate (h : Host) (k : Nat) (cs : List (List Bytes)) (htr : h.cfg.tr = .serial) (hpeer : h.peer = .script cs) :
    Cut h.cfg h (h.truncate k) := by
  unfold Host.truncate
  rw [hpeer]
  dsimp only
  split
  · exact ⟨rfl, rfl, rfl, rfl, rfl, rfl, rfl, rfl, List.prefix_refl _, List.prefix_refl _,
      Or.inr ⟨rfl, rfl, k - h.rxB.length, cs, hpeer, by rw [htr]; rfl⟩⟩
  · exact ⟨rfl, rfl, rfl, rfl, rfl, rfl, rfl, rfl, List.take_prefix _ _, List.prefix_refl _, Or.inl (mute_map cs)⟩

theorem cut_truncateReports (h : Host) (k : Nat) (cs : List (List Bytes)) (htr : h.cfg.tr = .hid) (hpeer : h.peer = .script cs) :
    Cut h.cfg h (h.truncateReports k) := by
  unfold Host.truncateReports
  rw [hpeer]
  dsimp only
  split
  · exact ⟨rfl, rfl, rfl, rfl, rfl, rfl, rfl, rfl, List.prefix_refl _, List.prefix_refl _,
      Or.inr ⟨rfl, rfl, k - h.rxR.length, cs, hpeer, by rw [htr]; rfl⟩⟩
  · exact ⟨rfl, rfl, rfl, rfl, rfl, rfl, rfl, rfl, List.prefix_refl _, List.take_prefix _ _, Or.inl (mute_map cs)⟩

/-- a replay peer at a host write: what it is afterwards, and what it releases -/
def next : Peer → Peer × List Bytes
  | .script (c :: cs) => (.script cs, c)
  | p => (p, [])

theorem write_serial (h : Host) (w : Bytes) (htr : h.cfg.tr = .serial) :
    ∃ p out, h.write w = { h with txRev := w :: h.txRev, relRev := out :: h.relRev, peer := p, rxB := h.rxB ++ out.flatten } ∧
      ((∀ d, h.peer ≠ .live d) → p = (next h.peer).1 ∧ out = (next h.peer).2) := by
  unfold Host.write
  cases h.peer with
  | none => exact ⟨.none, [], by simp only [htr], fun _ => ⟨rfl, rfl⟩⟩
  | live d => exact ⟨.live (d.stepSerial w).1, [(d.stepSerial w).2], by simp only [htr], fun hl => absurd rfl (hl d)⟩
  | script cs =>
    cases cs with
    | nil => exact ⟨.script [], [], by simp only [htr], fun _ => ⟨rfl, rfl⟩⟩
    | cons x r => exact ⟨.script r, x, by simp only [htr], fun _ => ⟨rfl, rfl⟩⟩

theorem write_hid (h : Host) (w : Bytes) (htr : h.cfg.tr = .hid) :
    ∃ p out, h.write w = { h with txRev := w :: h.txRev, relRev := out :: h.relRev, peer := p, rxR := h.rxR ++ out } ∧
      ((∀ d, h.peer ≠ .live d) → p = (next h.peer).1 ∧ out = (next h.peer).2) := by
  unfold Host.write
  cases h.peer with
  | none => exact ⟨.none, [], by simp only [htr], fun _ => ⟨rfl, rfl⟩⟩
  | live d => exact ⟨.live (d.stepHid w).1, (d.stepHid w).2, by simp only [htr], fun hl => absurd rfl (hl d)⟩
  | script cs =>
    cases cs with
    | nil => exact ⟨.script [], [], by simp only [htr], fun _ => ⟨rfl, rfl⟩⟩
    | cons x r => exact ⟨.script r, x, by simp only [htr], fun _ => ⟨rfl, rfl⟩⟩

theorem next_script (cs : List (List Bytes)) : next (.script cs) = (.script cs.tail, cs.headD []) := by
  cases cs <;> rfl

theorem flatten_all_nil (c : List Bytes) (h : ∀ r ∈ c, r = []) : c.flatten = [] := by
  induction c with
  | nil => rfl
  | cons x r ih =>
    rw [List.flatten_cons, h x List.mem_cons_self, ih fun q hq => h q (List.mem_cons_of_mem _ hq)]; rfl

theorem silent_next {p : Peer} (hp : Peer.silent p) : Peer.silent (next p).1 ∧ ∀ r ∈ (next p).2, r = [] := by
  cases p with
  | none => exact ⟨trivial, nofun⟩
  | live d => exact hp.elim
  | script cs =>
    cases cs with
    | nil => exact ⟨hp, nofun⟩
    | cons x r => exact ⟨fun y hy => hp y (List.mem_cons_of_mem _ hy), hp x List.mem_cons_self⟩

theorem mute_next {p : Peer} (hm : Mute p) : Mute (next p).1 ∧ (next p).2 = [] := by
  obtain ⟨cs, rfl, hm⟩ := hm
  cases cs with
  | nil => exact ⟨⟨_, rfl, hm⟩, rfl⟩
  | cons x r => exact ⟨⟨_, rfl, fun y hy => hm y (List.mem_cons_of_mem _ hy)⟩, hm x List.mem_cons_self⟩

theorem silent_write {h : Host} (w : Bytes) (hd : Silent c h) : Silent c (h.write w) := by
  obtain ⟨hcfg, hp, hb, hr⟩ := hd
  have hnl : ∀ d, h.peer ≠ .live d := fun d e => by rw [e] at hp; exact hp
  obtain ⟨s1, s2⟩ := silent_next hp
  cases htr : c.tr with
  | serial =>
    obtain ⟨p, out, e, hn⟩ := write_serial h w (by rw [hcfg]; exact htr)
    obtain ⟨rfl, rfl⟩ := hn hnl
    rw [e]
    refine ⟨hcfg, s1, fun _ => ?_, fun x => by rw [htr] at x; cases x⟩
    show h.rxB ++ (next h.peer).2.flatten = []
    rw [hb htr, flatten_all_nil _ s2]; rfl
  | hid =>
    obtain ⟨p, out, e, hn⟩ := write_hid h w (by rw [hcfg]; exact htr)
    obtain ⟨rfl, rfl⟩ := hn hnl
    rw [e]
    refine ⟨hcfg, s1, fun x => (by rw [htr] at x; cases x), fun _ r hr' => ?_⟩
    rcases List.mem_append.mp hr' with q | q
    · exact hr htr r q
    · exact s2 r q

/-- a host write against a cut script releases a prefix of what the full script releases; afterwards the cut script is mute,
    or it has released the same and is a cut of the rest -/
theorem truncChunks_next (j : Nat) (cs : List (List Bytes)) :
    ((truncChunks j cs).headD []).flatten <+: (cs.headD []).flatten ∧
      (Mute (.script (truncChunks j cs).tail) ∨
        ((truncChunks j cs).headD []).flatten = (cs.headD []).flatten ∧ ∃ j', (truncChunks j cs).tail = truncChunks j' cs.tail) := by
  cases cs with
  | nil => exact ⟨List.prefix_refl _, Or.inr ⟨rfl, j, rfl⟩⟩
  | cons x r =>
    have e : truncChunks j (x :: r) = if x.flatten.length ≤ j then x :: truncChunks (j - x.flatten.length) r
        else [x.flatten.take j] :: r.map (fun _ => []) := rfl
    rw [e]
    split
    · exact ⟨List.prefix_refl _, Or.inr ⟨rfl, _, rfl⟩⟩
    · refine ⟨?_, Or.inl (mute_map r)⟩
      show ([x.flatten.take j] : List Bytes).flatten <+: x.flatten
      rw [List.flatten_cons, List.flatten_nil, List.append_nil]
      exact List.take_prefix _ _

theorem truncReports_next (j : Nat) (cs : List (List Bytes)) :
    (truncReports j cs).headD [] <+: cs.headD [] ∧
      (Mute (.script (truncReports j cs).tail) ∨
        (truncReports j cs).headD [] = cs.headD [] ∧ ∃ j', (truncReports j cs).tail = truncReports j' cs.tail) := by
  cases cs with
  | nil => exact ⟨List.prefix_refl _, Or.inr ⟨rfl, j, rfl⟩⟩
  | cons x r =>
    have e : truncReports j (x :: r) = if x.length ≤ j then x :: truncReports (j - x.length) r
        else x.take j :: r.map (fun _ => []) := rfl
    rw [e]
    split
    · exact ⟨List.prefix_refl _, Or.inr ⟨rfl, _, rfl⟩⟩
    · exact ⟨List.take_prefix _ _, Or.inl (mute_map r)⟩

theorem cut_write {hf ht : Host} (w : Bytes) (hc : Cut c hf ht) : Cut c (hf.write w) (ht.write w) := by
  obtain ⟨c1, c2, c3, c4, c5, c6, c7, c8, pB, pR, hs⟩ := hc
  have hnt : ∀ d, ht.peer ≠ .live d := fun d e => by
    rcases hs with ⟨_, h, _⟩ | ⟨_, _, _, _, _, h⟩ <;> rw [e] at h <;> cases h
  cases htr : c.tr with
  | serial =>
    obtain ⟨pf, outf, ef, hf'⟩ := write_serial hf w (by rw [c1]; exact htr)
    obtain ⟨pt, outt, et, ht'⟩ := write_serial ht w (by rw [c2]; exact htr)
    obtain ⟨rfl, rfl⟩ := ht' hnt
    rw [ef, et]
    rcases hs with hm | ⟨eB, eR, j, cs, hpf, hpt⟩
    · obtain ⟨m1, m2⟩ := mute_next hm
      refine ⟨c1, c2, c3, c4, c5, c6, congrArg (w :: ·) c7, c8, ?_, pR, Or.inl m1⟩
      show ht.rxB ++ (next ht.peer).2.flatten <+: hf.rxB ++ outf.flatten
      rw [m2, List.flatten_nil, List.append_nil]
      exact pB.trans (List.prefix_append _ _)
    · obtain ⟨rfl, rfl⟩ := hf' fun d e => by rw [e] at hpf; cases hpf
      rw [htr] at hpt
      obtain ⟨k1, k2⟩ := truncChunks_next j cs
      rw [hpf, hpt, next_script, next_script]
      refine ⟨c1, c2, c3, c4, c5, c6, congrArg (w :: ·) c7, c8, ?_, pR, ?_⟩
      · show ht.rxB ++ _ <+: hf.rxB ++ _
        rw [eB]; exact (List.prefix_append_right_inj _).mpr k1
      · rcases k2 with m | ⟨e, j', ej⟩
        · exact Or.inl m
        · exact Or.inr ⟨by show ht.rxB ++ _ = hf.rxB ++ _; rw [eB]; exact congrArg (hf.rxB ++ ·) e, eR, j', cs.tail, rfl, by rw [htr]; exact congrArg _ ej⟩
  | hid =>
    obtain ⟨pf, outf, ef, hf'⟩ := write_hid hf w (by rw [c1]; exact htr)
    obtain ⟨pt, outt, et, ht'⟩ := write_hid ht w (by rw [c2]; exact htr)
    obtain ⟨rfl, rfl⟩ := ht' hnt
    rw [ef, et]
    rcases hs with hm | ⟨eB, eR, j, cs, hpf, hpt⟩
    · obtain ⟨m1, m2⟩ := mute_next hm
      refine ⟨c1, c2, c3, c4, c5, c6, congrArg (w :: ·) c7, c8, pB, ?_, Or.inl m1⟩
      show ht.rxR ++ (next ht.peer).2 <+: hf.rxR ++ outf
      rw [m2, List.append_nil]
      exact pR.trans (List.prefix_append _ _)
    · obtain ⟨rfl, rfl⟩ := hf' fun d e => by rw [e] at hpf; cases hpf
      rw [htr] at hpt
      obtain ⟨k1, k2⟩ := truncReports_next j cs
      rw [hpf, hpt, next_script, next_script]
      refine ⟨c1, c2, c3, c4, c5, c6, congrArg (w :: ·) c7, c8, pB, ?_, ?_⟩
      · show ht.rxR ++ _ <+: hf.rxR ++ _
        rw [eR]; exact (List.prefix_append_right_inj _).mpr k1
      · rcases k2 with m | ⟨e, j', ej⟩
        · exact Or.inl m
        · exact Or.inr ⟨eB, by show ht.rxR ++ _ = hf.rxR ++ _; rw [eR]; exact congrArg (hf.rxR ++ ·) e, j', cs.tail, rfl, by rw [htr]; exact congrArg _ ej⟩

/-- `device.read(n)` of the serial stub returns `n` bytes or times out -/
def Strict (c : Cfg) : Prop := c.tr = .serial → c.partialReads = false

/-- how the cut run may leave lock-step: with an exception on a silent link, or in the class `Q` -/
def Off (c : Cfg) {α} (Q : Except HErr α → Host → Prop) (r : Except HErr α) (h : Host) : Prop :=
  (Silent c h ∧ ∃ e, r = .error e) ∨ Q r h

/-- outcome of the pair of runs: in lock-step (same result, still related), or the cut run has left it -/
def Res (c : Cfg) {α} (Q : Except HErr α → Host → Prop) (xf xt : Except HErr α × Host) : Prop :=
  (xt.1 = xf.1 ∧ Cut c xf.2 xt.2) ∨ Off c Q xt.1 xt.2

/-- with strict reads, the runs from a related pair stay in lock-step or the cut one leaves it as `Off c Q` says -/
def LS (c : Cfg) {α} (m : H α) (Q : Except HErr α → Host → Prop) : Prop :=
  Strict c → ∀ hf ht, Cut c hf ht → Res c Q (m hf) (m ht)

def HT {α} (P : Host → Prop) (m : H α) (Q : Except HErr α → Host → Prop) : Prop :=
  ∀ h, P h → Q (m h).1 (m h).2

def G (c : Cfg) {α} (m : H α) (Q : Except HErr α → Host → Prop) : Prop := HT (Silent c) m (Off c Q) ∧ LS c m Q

/-- the standard class: a value that satisfies `S`, on a silent link -/
def QD (c : Cfg) {α} (S : α → Host → Prop) : Except HErr α → Host → Prop :=
  fun r h => Silent c h ∧ ∃ a, r = .ok a ∧ S a h

/-- no value at all: on a silent link the run raises -/
abbrev QE (c : Cfg) {α} : Except HErr α → Host → Prop := QD c (fun _ _ => False)
abbrev QT (c : Cfg) {α} : Except HErr α → Host → Prop := QD c (fun _ _ => True)

def NS : Except HErr Val → Host → Prop := fun r h => ¬ succeeded r h

theorem Off.err {α} {Q : Except HErr α → Host → Prop} {e : HErr} {h : Host} (hd : Silent c h) :
    Off c Q (.error e) h := Or.inl ⟨hd, e, rfl⟩

theorem Off.ok {α} {S : α → Host → Prop} {a : α} {h : Host} (hd : Silent c h) (hs : S a h) :
    Off c (QD c S) (.ok a) h := Or.inr ⟨hd, a, rfl, hs⟩

theorem Off.error_inv {α} {S : α → Host → Prop} {e : HErr} {h : Host} (ho : Off c (QD c S) (.error e) h) : Silent c h :=
  ho.elim (·.1) fun ⟨_, _, e', _⟩ => nomatch e'

theorem Off.ok_inv {α} {S : α → Host → Prop} {a : α} {h : Host} (ho : Off c (QD c S) (.ok a) h) : Silent c h ∧ S a h :=
  ho.elim (fun ⟨_, _, e'⟩ => nomatch e') fun ⟨hd, _, e', hs⟩ => by cases e'; exact ⟨hd, hs⟩

theorem G_mono {α} {m : H α} {Q Q' : Except HErr α → Host → Prop} (hm : G c m Q) (hQ : ∀ r h, Q r h → Q' r h) :
    G c m Q' :=
  ⟨fun h hd => (hm.1 h hd).imp_right (hQ _ _), fun hs hf ht hc => (hm.2 hs hf ht hc).imp_right (Or.imp_right (hQ _ _))⟩

theorem QD_mono {α} {S S' : α → Host → Prop} (hS : ∀ a h, S a h → S' a h) (r : Except HErr α) (h : Host)
    (hq : QD c S r h) : QD c S' r h := by
  obtain ⟨hd, a, e, hs⟩ := hq
  exact ⟨hd, a, e, hS a h hs⟩

theorem G_toQT {α} {m : H α} {S : α → Host → Prop} (hm : G c m (QD c S)) : G c m (QT c) :=
  G_mono hm (QD_mono fun _ _ _ => trivial)

theorem G_ofQE {α} {m : H α} (S : α → Host → Prop) (hm : G c m (QE c)) : G c m (QD c S) :=
  G_mono hm (QD_mono fun _ _ hF => hF.elim)

section
variable {α : Type} {Q : Except HErr α → Host → Prop}

theorem LS_pure {a : α} : LS c (pure a : H α) Q := fun _ _ _ hc => Or.inl ⟨rfl, hc⟩
theorem LS_fail {e : HErr} : LS c (fail e : H α) Q := fun _ _ _ hc => Or.inl ⟨rfl, hc⟩
theorem LS_lift {x : Except HErr α} : LS c (lift x : H α) Q := fun _ _ _ hc => Or.inl ⟨rfl, hc⟩

theorem G_pure (a : α) (hq : ∀ h, Silent c h → Q (.ok a) h) : G c (pure a : H α) Q :=
  ⟨fun h hd => Or.inr (hq h hd), LS_pure⟩

theorem G_fail (e : HErr) : G c (fail e : H α) Q := ⟨fun _ hd => Off.err hd, LS_fail⟩

theorem G_lift (x : Except HErr α) (hq : ∀ h, Silent c h → Off c Q x h) : G c (lift x : H α) Q := ⟨hq, LS_lift⟩

theorem LS_ite {p : Prop} [Decidable p] {A B : H α} (hA : LS c A Q) (hB : LS c B Q) : LS c (if p then A else B) Q := by
  split
  · exact hA
  · exact hB

theorem G_dite {p : Prop} [Decidable p] {A B : H α} (hA : p → G c A Q) (hB : ¬ p → G c B Q) :
    G c (if p then A else B) Q := by
  split
  · exact hA ‹_›
  · exact hB ‹_›

theorem G_ite {p : Prop} [Decidable p] {A B : H α} (hA : G c A Q) (hB : G c B Q) : G c (if p then A else B) Q :=
  G_dite (fun _ => hA) (fun _ => hB)

end

section
variable {α β : Type} {m : H α} {f : α → H β} {Q₁ : Except HErr α → Host → Prop} {Q : Except HErr β → Host → Prop}

/-- the rest of `m >>= f` once `m` has run -/
def andThen (x : Except HErr α × Host) (f : α → H β) : Except HErr β × Host :=
  match x with
  | (.ok a, s) => f a s
  | (.error e, s) => (.error e, s)

theorem Off.bind {r : Except HErr α} {h : Host} (ho : Off c Q₁ r h)
    (he : ∀ e h, Q₁ (.error e) h → Off c Q (.error e) h) (hk : ∀ a h, Q₁ (.ok a) h → Off c Q (f a h).1 (f a h).2) :
    Off c Q (andThen (r, h) f).1 (andThen (r, h) f).2 := by
  cases r with
  | error e =>
    rcases ho with ⟨hd, _⟩ | hq
    · exact Off.err hd
    · exact he e h hq
  | ok a =>
    rcases ho with ⟨_, e, he'⟩ | hq
    · cases he'
    · exact hk a h hq

theorem HT_bind0 {P : Host → Prop} (hm : HT P m (Off c Q₁)) (he : ∀ e h, Q₁ (.error e) h → Off c Q (.error e) h)
    (hk : ∀ a h, Q₁ (.ok a) h → Off c Q (f a h).1 (f a h).2) : HT P (m >>= f) (Off c Q) :=
  fun h hp => (hm h hp).bind he hk

/-- the pair of runs after a first part: in lock-step `hl` takes over, off lock-step `he` and `hk` -/
theorem Res.bind {g : α → H β} {xf xt : Except HErr α × Host} (hr : Res c Q₁ xf xt)
    (hl : ∀ a sf st, xf = (.ok a, sf) → xt = (.ok a, st) → Cut c sf st → Res c Q (f a sf) (g a st))
    (he : ∀ e h, Q₁ (.error e) h → Off c Q (.error e) h) (hk : ∀ a h, Q₁ (.ok a) h → Off c Q (g a h).1 (g a h).2) :
    Res c Q (andThen xf f) (andThen xt g) := by
  obtain ⟨rf, sf⟩ := xf
  obtain ⟨rt, st⟩ := xt
  rcases hr with ⟨e, hc⟩ | ho
  · cases e
    cases rf with
    | error e => exact Or.inl ⟨rfl, hc⟩
    | ok a => exact hl a sf st rfl rfl hc
  · exact Or.inr (ho.bind he hk)

theorem LS_bind0 (hm : LS c m Q₁) (hf : ∀ a, LS c (f a) Q) (he : ∀ e h, Q₁ (.error e) h → Off c Q (.error e) h)
    (hk : ∀ a h, Q₁ (.ok a) h → Off c Q (f a h).1 (f a h).2) : LS c (m >>= f) Q :=
  fun hs hf' ht' hc => (hm hs hf' ht' hc).bind (fun a sf st _ _ hc' => hf a hs sf st hc') he hk

variable {S : α → Host → Prop}

theorem HT_bind {P : Host → Prop} (hm : HT P m (Off c (QD c S)))
    (hk : ∀ a h, Silent c h → S a h → Off c Q (f a h).1 (f a h).2) : HT P (m >>= f) (Off c Q) :=
  HT_bind0 hm (fun _ _ ⟨_, _, e, _⟩ => nomatch e) (fun a h ⟨hd, _, e, hs⟩ => by cases e; exact hk a h hd hs)

theorem LS_bind (hm : LS c m (QD c S)) (hf : ∀ a, LS c (f a) Q)
    (hk : ∀ a h, Silent c h → S a h → Off c Q (f a h).1 (f a h).2) : LS c (m >>= f) Q :=
  LS_bind0 hm hf (fun _ _ ⟨_, _, e, _⟩ => nomatch e) (fun a h ⟨hd, _, e, hs⟩ => by cases e; exact hk a h hd hs)

/-- the continuation is only known to keep lock-step; what it does on a silent link after a value of class `S` is `hk` -/
theorem G_bind (hm : G c m (QD c S)) (hf : ∀ a, LS c (f a) Q)
    (hk : ∀ a h, Silent c h → S a h → Off c Q (f a h).1 (f a h).2) : G c (m >>= f) Q :=
  ⟨HT_bind hm.1 hk, LS_bind hm.2 hf hk⟩

theorem G_bindG (hm : G c m (QD c S)) (hf : ∀ a, G c (f a) Q) : G c (m >>= f) Q :=
  G_bind hm (fun a => (hf a).2) (fun a h hd _ => (hf a).1 h hd)

theorem LS_bindE (hm : LS c m (QE c)) (hf : ∀ a, LS c (f a) Q) : LS c (m >>= f) Q :=
  LS_bind hm hf (fun _ _ _ hF => hF.elim)

theorem G_bindE (hm : G c m (QE c)) (hf : ∀ a, LS c (f a) Q) : G c (m >>= f) Q :=
  G_bind hm hf (fun _ _ _ hF => hF.elim)

end

section
variable {α : Type} {Q : Except HErr α → Host → Prop}

/-- the rest of `catch_ m hd` once `m` has run -/
def orElse (x : Except HErr α × Host) (hd : HErr → H α) : Except HErr α × Host :=
  match x with
  | (.ok a, s) => (.ok a, s)
  | (.error e, s) => hd e s

theorem Off.catch {S : α → Host → Prop} {hd : HErr → H α} {r : Except HErr α} {h : Host} (ho : Off c (QD c S) r h)
    (hh : ∀ e, HT (Silent c) (hd e) (Off c Q)) (hok : ∀ a h, Silent c h → S a h → Q (.ok a) h) :
    Off c Q (orElse (r, h) hd).1 (orElse (r, h) hd).2 := by
  rcases ho with ⟨hd', e, rfl⟩ | ⟨hd', a, rfl, hs⟩
  · exact hh e h hd'
  · exact Or.inr (hok a h hd' hs)

theorem G_catch {S : α → Host → Prop} {m : H α} {hd : HErr → H α} (hm : G c m (QD c S)) (hh : ∀ e, G c (hd e) Q)
    (hok : ∀ a h, Silent c h → S a h → Q (.ok a) h) : G c (catch_ m hd) Q := by
  refine ⟨fun h hp => (hm.1 h hp).catch (fun e => (hh e).1) hok, fun hs hf ht hc => ?_⟩
  have := hm.2 hs hf ht hc
  show Res c Q (orElse (m hf) hd) (orElse (m ht) hd)
  generalize m hf = xf at this ⊢
  generalize m ht = xt at this ⊢
  obtain ⟨rf, sf⟩ := xf
  obtain ⟨rt, st⟩ := xt
  rcases this with ⟨e, hc'⟩ | ho
  · cases e
    cases rf with
    | error e => exact (hh e).2 hs sf st hc'
    | ok a => exact Or.inl ⟨rfl, hc'⟩
  · exact Or.inr (ho.catch (fun e => (hh e).1) hok)

theorem G_catchE {m : H α} {hd : HErr → H α} (hm : G c m (QE c)) (hh : ∀ e, G c (hd e) Q) : G c (catch_ m hd) Q :=
  G_catch hm hh (fun _ _ _ hF => hF.elim)

/-- `let h ← get; f h`: what `f` looks at is the same on both sides -/
theorem LS_get {f : Host → H α} (hfeq : ∀ hf ht, Cut c hf ht → f ht = f hf) (hf : ∀ h0, h0.cfg = c → LS c (f h0) Q) :
    LS c (get >>= f) Q := by
  intro hs hf' ht' hc
  show Res c Q (f hf' hf') (f ht' ht')
  rw [hfeq hf' ht' hc]
  exact hf hf' hc.cfgf hs hf' ht' hc

theorem G_get {f : Host → H α} (hfeq : ∀ hf ht, Cut c hf ht → f ht = f hf) (hf : ∀ h0, h0.cfg = c → G c (f h0) Q) :
    G c (get >>= f) Q :=
  ⟨fun h hd => (hf h hd.cfg).1 h hd, LS_get hfeq fun h0 e => (hf h0 e).2⟩

end

section
variable {Q : Except HErr Unit → Host → Prop}

theorem LS_modify {g : Host → Host} (hc : ∀ hf ht, Cut c hf ht → Cut c (g hf) (g ht)) : LS c (modify g) Q :=
  fun _ hf ht h => Or.inl ⟨rfl, hc hf ht h⟩

theorem G_modify {g : Host → Host} (hc : ∀ hf ht, Cut c hf ht → Cut c (g hf) (g ht)) (hq : ∀ h, Silent c h → Q (.ok ()) (g h)) :
    G c (modify g) Q :=
  ⟨fun h hd => Or.inr (hq h hd), LS_modify hc⟩

theorem cut_status {hf ht : Host} (st : Nat) (h : Cut c hf ht) : Cut c { hf with status := st } { ht with status := st } :=
  ⟨h.cfgf, h.cfgt, rfl, h.mps, h.eda, h.opened, h.txRev, h.fuelHint, h.preB, h.preR, h.stream⟩

theorem cut_mps {hf ht : Host} (x : Option Nat) (h : Cut c hf ht) : Cut c { hf with mps := x } { ht with mps := x } :=
  ⟨h.cfgf, h.cfgt, h.status, rfl, h.eda, h.opened, h.txRev, h.fuelHint, h.preB, h.preR, h.stream⟩

theorem cut_eda {hf ht : Host} (x : Bool) (h : Cut c hf ht) : Cut c { hf with eda := x } { ht with eda := x } :=
  ⟨h.cfgf, h.cfgt, h.status, h.mps, rfl, h.opened, h.txRev, h.fuelHint, h.preB, h.preR, h.stream⟩

theorem cut_opened {hf ht : Host} (x : Bool) (h : Cut c hf ht) : Cut c { hf with opened := x } { ht with opened := x } :=
  ⟨h.cfgf, h.cfgt, h.status, h.mps, h.eda, rfl, h.txRev, h.fuelHint, h.preB, h.preR, h.stream⟩

def bump (h : Host) : Host := { h with reads := h.reads + 1 }

theorem cut_bump {hf ht : Host} (h : Cut c hf ht) : Cut c (bump hf) (bump ht) :=
  ⟨h.cfgf, h.cfgt, h.status, h.mps, h.eda, h.opened, h.txRev, h.fuelHint, h.preB, h.preR, h.stream⟩

theorem silent_bump {h : Host} (hd : Silent c h) : Silent c (bump h) := ⟨hd.cfg, hd.peer, hd.rxB, hd.rxR⟩

theorem LS_devWrite (w : Bytes) : LS c (devWrite w) Q := LS_modify fun _ _ h => cut_write w h

theorem LS_setStatus (st : Nat) : LS c (setStatus st) Q := LS_modify fun _ _ h => cut_status st h

theorem G_devWrite (w : Bytes) : G c (devWrite w) (QT c) :=
  G_modify (fun _ _ h => cut_write w h) fun _ hd => ⟨silent_write w hd, (), rfl, trivial⟩

theorem G_setStatus (st : Nat) : G c (setStatus st) (QD c fun _ h => h.status = st) :=
  G_modify (fun _ _ h => cut_status st h) fun _ hd => ⟨⟨hd.cfg, hd.peer, hd.rxB, hd.rxR⟩, (), rfl, rfl⟩

end

theorem cut_rxB {hf ht : Host} (bf bt : Bytes) (a b : Nat) (h : Cut c hf ht) (hp : bt <+: bf)
    (he : ht.rxB = hf.rxB → bt = bf) : Cut c { hf with rxB := bf, reads := a } { ht with rxB := bt, reads := b } :=
  ⟨h.cfgf, h.cfgt, h.status, h.mps, h.eda, h.opened, h.txRev, h.fuelHint, hp, h.preR,
    h.stream.imp_right fun ⟨eB, eR, s⟩ => ⟨he eB, eR, s⟩⟩

theorem cut_rxR {hf ht : Host} (bf bt : List Bytes) (a b : Nat) (h : Cut c hf ht) (hp : bt <+: bf)
    (he : ht.rxR = hf.rxR → bt = bf) : Cut c { hf with rxR := bf, reads := a } { ht with rxR := bt, reads := b } :=
  ⟨h.cfgf, h.cfgt, h.status, h.mps, h.eda, h.opened, h.txRev, h.fuelHint, h.preB, hp,
    h.stream.imp_right fun ⟨eB, eR, s⟩ => ⟨eB, he eR, s⟩⟩

theorem devRead_nil (n : Nat) (h : Host) (hb : h.rxB = []) : devRead n h = (.error .timeout, bump h) := by
  unfold devRead bump
  simp [hb]

theorem devRead_zero (h : Host) : devRead 0 h = (.error .timeout, bump h) := by
  unfold devRead bump
  simp

/-- strict reads: too few bytes (none, or fewer than asked for) are a timeout that empties the buffer -/
theorem devRead_short (n : Nat) (h : Host) (hlt : h.rxB.length < n) (hs : h.cfg.partialReads = false) :
    devRead n h = (.error .timeout, { h with reads := h.reads + 1, rxB := [] }) := by
  unfold devRead
  have hn : n ≠ 0 := by omega
  have hle : ¬ n ≤ h.rxB.length := by omega
  cases hb : h.rxB with
  | nil => simp only [hn, List.isEmpty_nil, or_true, if_true]
  | cons x r => simp only [hn, ← hb, List.isEmpty_eq_false_iff.mpr (hb ▸ List.cons_ne_nil x r), false_or, Bool.false_eq_true, if_false, hle, hs]

theorem prefix_eq_of_length {α} {a b : List α} (hp : a <+: b) (hl : b.length ≤ a.length) : a = b := by
  obtain ⟨s, rfl⟩ := hp
  have : s = [] := List.length_eq_zero_iff.mp (by simp only [List.length_append] at hl; omega)
  simp [this]

theorem G_devRead (htr : c.tr = .serial) (n : Nat) : G c (devRead n) (QE c) := by
  refine ⟨fun h hd => ?_, fun hstrict hf ht hc => ?_⟩
  · rw [devRead_nil n h (hd.rxB htr)]
    exact Off.err (silent_bump hd)
  · have hpf : hf.cfg.partialReads = false := by rw [hc.cfgf]; exact hstrict htr
    have hpt : ht.cfg.partialReads = false := by rw [hc.cfgt]; exact hstrict htr
    have hno : ¬ c.tr = .hid := by rw [htr]; nofun
    by_cases hn : n = 0
    · subst hn
      rw [devRead_zero, devRead_zero]
      exact Or.inl ⟨rfl, cut_bump hc⟩
    · by_cases hle : n ≤ ht.rxB.length
      · rw [devRead_of_le n ht hn hle, devRead_of_le n hf hn (Nat.le_trans hle hc.preB.length_le)]
        obtain ⟨s, hs⟩ := hc.preB
        refine Or.inl ⟨?_, cut_rxB _ _ _ _ hc ?_ (fun e => by rw [e])⟩
        · simp only [← hs, List.take_append_of_le_length hle]
        · rw [← hs, List.drop_append_of_le_length hle]
          exact List.prefix_append _ _
      · rw [devRead_short n ht (by omega) hpt]
        rcases hc.stream with hm | ⟨eB, _⟩
        · exact Or.inr (Off.err (Dead.silent ⟨hc.cfgt, hm, fun _ => rfl, fun x => absurd x hno⟩))
        · rw [devRead_short n hf (by rw [← eB]; omega) hpf]
          exact Or.inl ⟨rfl, cut_rxB _ _ _ _ hc (List.prefix_refl _) (fun _ => rfl)⟩

theorem hidDevRead_nil (h : Host) (hb : h.rxR = []) : hidDevRead h = (.error .timeout, bump h) := by
  unfold hidDevRead bump
  simp [hb]

theorem hidDevRead_cons (h : Host) (x : Bytes) (r : List Bytes) (hb : h.rxR = x :: r) :
    hidDevRead h = (if x.isEmpty then .error .timeout else .ok x, { h with reads := h.reads + 1, rxR := r }) := by
  unfold hidDevRead
  simp only [hb]
  split <;> rfl

theorem G_hidDevRead (htr : c.tr = .hid) : G c hidDevRead (QE c) := by
  have hno : ¬ c.tr = .serial := by rw [htr]; nofun
  refine ⟨fun h hd => ?_, fun _ hf ht hc => ?_⟩
  · cases hb : h.rxR with
    | nil =>
      rw [hidDevRead_nil h hb]
      exact Off.err (silent_bump hd)
    | cons x r =>
      have hr := hd.rxR htr
      rw [hb] at hr
      rw [hidDevRead_cons h x r hb, hr x List.mem_cons_self]
      exact Off.err ⟨hd.cfg, hd.peer, hd.rxB, fun _ y hy => hr y (List.mem_cons_of_mem _ hy)⟩
  · cases hbt : ht.rxR with
    | nil =>
      rw [hidDevRead_nil ht hbt]
      rcases hc.stream with hm | ⟨_, eR, _⟩
      · exact Or.inr (Off.err (Dead.silent ⟨hc.cfgt, hm, fun x => absurd x hno, fun _ => hbt⟩))
      · rw [hidDevRead_nil hf (eR ▸ hbt)]
        exact Or.inl ⟨rfl, cut_bump hc⟩
    | cons x r =>
      obtain ⟨s, hs⟩ := hc.preR
      rw [hbt] at hs
      rw [hidDevRead_cons ht x r hbt, hidDevRead_cons hf x (r ++ s) hs.symm]
      refine Or.inl ⟨rfl, cut_rxR _ _ _ _ hc (List.prefix_append _ _) fun e => ?_⟩
      rw [hbt, ← hs] at e
      exact (List.cons.inj e).2

theorem devRead_len (n : Nat) (h h' : Host) (b : Bytes) (hs : h.cfg.partialReads = false)
    (hr : devRead n h = (.ok b, h')) : h'.rxB.length < h.rxB.length := by
  by_cases hn : n = 0
  · subst hn; rw [devRead_zero] at hr; cases hr
  · by_cases hle : n ≤ h.rxB.length
    · rw [devRead_of_le n h hn hle] at hr
      cases hr
      simp only [List.length_drop]
      omega
    · rw [devRead_short n h (by omega) hs] at hr; cases hr

section serial
variable (htr : c.tr = .serial)
include htr

theorem HT_waitGo (f : Nat) : HT (Silent c) (waitGo f) (Off c (QE c)) := by
  cases f with
  | zero => exact fun h hd => Off.err hd
  | succ f => exact HT_bind (G_devRead htr 1).1 fun _ _ _ hF => hF.elim

/-- the fuel is the number of readable bytes plus one on either side, and every byte skipped is consumed -/
theorem LS_waitGo (hs : Strict c) : ∀ (ft ff : Nat) (hf ht : Host), Cut c hf ht → ht.rxB.length < ft → hf.rxB.length < ff →
    Res c (QE c) (waitGo ff hf) (waitGo ft ht) := by
  intro ft
  induction ft with
  | zero => intro ff hf ht _ h; omega
  | succ ft ih =>
    intro ff hf ht hc h1 h2
    cases ff with
    | zero => omega
    | succ ff =>
      refine ((G_devRead htr 1).2 hs hf ht hc).bind (fun b sf st ef et hc' => ?_) (fun _ _ ⟨_, _, e, _⟩ => nomatch e)
        (fun _ _ ⟨_, _, _, hF⟩ => hF.elim)
      have l1 := devRead_len 1 _ _ _ (by rw [hc.cfgf]; exact hs htr) ef
      have l2 := devRead_len 1 _ _ _ (by rw [hc.cfgt]; exact hs htr) et
      split
      · exact ih ff sf st hc' (by omega) (by omega)
      · exact Or.inl ⟨rfl, hc'⟩

theorem G_waitForData : G c waitForData (QE c) :=
  ⟨fun h hd => HT_waitGo htr _ h hd,
   fun hs hf ht hc => LS_waitGo htr hs _ _ hf ht hc (Nat.lt_succ_self _) (Nat.lt_succ_self _)⟩

theorem G_readFrameHeader (e : Option Nat) : G c (readFrameHeader e) (QE c) := by
  refine G_bindE (G_waitForData htr) fun header => LS_ite LS_fail ?_
  refine LS_ite (LS_bindE LS_pure ?jp) (LS_bindE (LS_bindE (G_devRead htr 1).2 fun _ => LS_pure) ?jp)
  intro ftype
  refine LS_ite LS_fail ?_
  cases e with
  | none => exact LS_pure
  | some e => exact LS_ite LS_fail LS_pure

theorem G_serialRead : G c serialRead (QE c) := by
  refine G_bindE (G_readFrameHeader htr none) fun ⟨_, ftype⟩ => ?_
  refine LS_bindE (G_devRead htr 2).2 fun lenB => LS_bindE (G_devRead htr 2).2 fun crcB => ?_
  refine LS_ite (LS_bindE (LS_devWrite _) fun _ => LS_fail) ?_
  refine LS_bindE (G_devRead htr _).2 fun data => LS_bindE (LS_devWrite _) fun _ => ?_
  refine LS_ite LS_fail (LS_ite ?_ LS_pure)
  cases parseCmdResponse data with
  | ok r => exact LS_pure
  | error e => exact LS_fail

theorem G_serialSendFrame (t : Nat) (data : Bytes) : G c (serialSendFrame t data) (QE c) :=
  G_ite (G_fail _) (G_bindG (G_devWrite _) fun _ => G_bindE (G_readFrameHeader htr _) fun _ => LS_pure)

end serial

section hid
variable (htr : c.tr = .hid)
include htr

theorem G_hidRead : G c hidRead (QE c) := G_bindE (G_hidDevRead htr) fun _ => LS_lift

omit htr in
theorem G_hidWriteReport (rid : Nat) (data : Bytes) : G c (hidWriteReport rid data) (QT c) :=
  G_ite (G_fail _) (G_devWrite _)

theorem G_hidWriteData (a : Bool) (data : Bytes) : G c (hidWriteData a data) (QT c) := by
  refine G_ite (G_fail _) ?_
  cases a with
  | false => exact G_devWrite _
  | true =>
    refine G_bind (S := fun got _ => got = none) (G_catchE (G_bindE (G_hidDevRead htr) fun _ => LS_pure) fun e => ?_) (fun got => ?_) ?_
    · exact G_ite (G_pure _ fun h hd => ⟨hd, none, rfl, rfl⟩) (G_fail _)
    · cases got with
      | none => exact LS_devWrite _
      | some _ => exact LS_fail
    · rintro _ h hd rfl
      exact (G_devWrite (c := c) _).1 h hd

end hid

theorem G_readAny : G c readAny (QE c) := by
  refine G_get (fun hf ht hc => by simp only [hc.cfgf, hc.cfgt]) fun h0 e => ?_
  rw [e]
  cases htr : c.tr with
  | serial => exact G_serialRead htr
  | hid => exact G_hidRead htr

/-- a value is returned on a silent link only over HID (nothing is read back there) -/
theorem G_writeCommand (p : CmdPkt) : G c (writeCommand p) (QT c) := by
  refine G_bindG (S := fun _ _ => True) (G_lift _ fun h hd => ?_) fun data => ?_
  · cases p.toBytes with
    | error e => exact Off.err hd
    | ok b => exact Off.ok hd trivial
  · refine G_get (fun hf ht hc => by simp only [hc.cfgf, hc.cfgt]) fun h0 e => ?_
    rw [e]
    cases htr : c.tr with
    | serial => exact G_toQT (G_serialSendFrame htr _ _)
    | hid => exact G_hidWriteReport _ _

theorem G_writeData (a : Bool) (data : Bytes) : G c (writeData a data) (QD c fun _ _ => c.tr ≠ .serial) := by
  refine G_get (fun hf ht hc => by simp only [hc.cfgf, hc.cfgt]) fun h0 e => ?_
  rw [e]
  cases htr : c.tr with
  | serial => exact G_ofQE _ (G_serialSendFrame htr _ _)
  | hid => exact G_mono (G_hidWriteData htr a data) (QD_mono fun _ _ _ => nofun)

theorem G_requireOpen : G c requireOpen (QT c) :=
  G_get (fun hf ht hc => by simp only [hc.opened]) fun h0 _ => G_ite (G_pure _ fun h hd => ⟨hd, (), rfl, trivial⟩) (G_fail _)

/-- the check itself never ends the lock-step -/
theorem LS_requireOpen {Q : Except HErr Unit → Host → Prop} : LS c requireOpen Q :=
  LS_get (fun hf ht hc => by simp only [hc.opened]) fun h0 _ => LS_ite LS_pure LS_fail

/-- `_process_cmd` on a link that went silent: an exception, or the NO_RESPONSE pseudo response -/
def Spc : Resp → Host → Prop := fun x h => x.status = Spec.stNoResponse ∧ h.status = Spec.stNoResponse

theorem G_processCmd (p : CmdPkt) : G c (processCmd p) (QD c Spc) := by
  refine G_bindG G_requireOpen fun _ => G_bind (S := fun x h => ∃ r, x = .resp r ∧ Spc r h) ?_ (fun x => ?_) ?_
  · refine G_catchE (G_bindG (G_writeCommand p) fun _ => G_readAny) fun e => G_ite ?_ (G_fail _)
    exact G_bind (G_setStatus _) (fun _ => LS_pure) fun _ h hd hs => Off.ok hd ⟨_, rfl, rfl, hs⟩
  · cases x with
    | data _ => exact LS_fail
    | resp r =>
      exact LS_bindE (LS_setStatus _) fun _ =>
        LS_get (fun hf ht hc => by simp only [hc.cfgf, hc.cfgt]) fun h0 _ => LS_ite LS_fail LS_pure
  · rintro x h hd ⟨r, rfl, h1, h2⟩
    simp only [bind_run, setStatus_run, get_run]
    split
    · exact Off.err ⟨hd.cfg, hd.peer, hd.rxB, hd.rxR⟩
    · exact Off.ok ⟨hd.cfg, hd.peer, hd.rxB, hd.rxR⟩ ⟨h1, h1⟩

theorem Spc_ne {r : Resp} {h : Host} (hs : Spc r h) : ¬ r.status = Spec.stSuccess := by
  rw [hs.1]; decide

/-- a command and what follows if it is answered with SUCCESS: on a silent link it yields NO_RESPONSE, so `v` is returned -/
theorem G_cmd (p : CmdPkt) {β} {A : Resp → H β} {v : β} {Q : Except HErr β → Host → Prop} (hA : ∀ r, LS c (A r) Q)
    (hv : ∀ h, Silent c h → h.status = Spec.stNoResponse → Q (.ok v) h) :
    G c (do let r ← processCmd p; if r.status = Spec.stSuccess then A r else pure v) Q :=
  G_bind (G_processCmd p) (fun r => LS_ite (hA r) LS_pure) fun r h hd hs => by
    simp only [Spc_ne hs, if_false, pure_run]
    exact Or.inr (hv h hd hs.2)

theorem G_getProperty (t i : Nat) : G c (getProperty t i) (QD c fun v _ => v = none) :=
  G_cmd _ (fun _ => LS_ite LS_pure LS_fail) fun _ hd _ => ⟨hd, none, rfl, rfl⟩

theorem G_getMaxPacketSize : G c getMaxPacketSize (QT c) := by
  refine G_get (fun hf ht hc => by simp only [hc.mps]) fun h0 _ => ?_
  cases h0.mps with
  | some v => exact G_pure _ fun h hd => ⟨hd, v, rfl, trivial⟩
  | none =>
    refine G_bindG (S := fun _ _ => True) (G_catch (G_getProperty _ _) (fun e => ?_) fun a _ hd _ => ⟨hd, a, rfl, trivial⟩) fun v => ?_
    · exact G_ite (G_pure _ fun h hd => ⟨hd, none, rfl, trivial⟩) (G_fail _)
    · dsimp only
      split
      · exact G_fail _
      · exact G_bindG (S := fun _ _ => True)
          (G_modify (fun _ _ h => cut_mps _ h) fun h hd => ⟨⟨hd.cfg, hd.peer, hd.rxB, hd.rxR⟩, (), rfl, trivial⟩)
          fun _ => G_pure _ fun h hd => ⟨hd, _, rfl, trivial⟩

theorem G_splitData (data : Bytes) : G c (splitData data) (QD c fun chunks _ => data ≠ [] → chunks ≠ []) := by
  refine G_bindG G_getMaxPacketSize fun n => G_dite (fun _ => G_fail _) fun hn => G_pure _ fun h hd => ⟨hd, _, rfl, fun hd' => ?_⟩
  rw [split_cons n (Nat.pos_of_ne_zero hn) data hd']
  exact List.cons_ne_nil _ _

/-- failure class of the read side: an exception, or a status that is not SUCCESS -/
def QS {α} : Except HErr α → Host → Prop := fun r h => (∃ e, r = .error e) ∨ h.status ≠ Spec.stSuccess

theorem QS_err {α} (e : HErr) (h : Host) : QS (.error e : Except HErr α) h := Or.inl ⟨e, rfl⟩

theorem QS_of_off {α} {r : Except HErr α} {h : Host} (ho : Off c QS r h) : QS r h :=
  ho.elim (fun ⟨_, he⟩ => Or.inl he) id

/-- the loop fuel ran out on the cut side (it starts with less), or the standard class -/
def QF (c : Cfg) {α} (S : α → Host → Prop) : Except HErr α → Host → Prop :=
  fun r h => r = .error .fuel ∨ QD c S r h

/-- the tail of `_read_data` after the loop -/
def rdTail (length : Nat) (data : Bytes) : H Bytes := do
  let h ← get
  if data.length < length ∨ h.status ≠ Spec.stSuccess then do
    if h.status = Spec.stSuccess then setStatus Spec.stFail
    let h ← get
    if h.cfg.cmdExc then fail (.cmd h.status) else pure (data.take length)
  else pure (data.take length)

theorem readData_eq (tag length : Nat) :
    readData tag length = (requireOpen >>= fun _ => get >>= fun h =>
      readDataLoop tag (length + h.fuelHint + h.rxB.length + h.rxR.length + 8) [] >>= rdTail length) := rfl

theorem G_rdStep : G c rdStep (QD c fun r h => r = none ∧ h.status = Spec.stNoResponse) := by
  have hr : G c (do let x ← readAny; pure (some x)) (QE c) := G_bindE G_readAny fun _ => LS_pure
  refine G_catchE hr fun e => G_ite (G_ofQE _ hr) (G_ite ?_ (G_fail _))
  exact G_bind (G_setStatus _) (fun _ => LS_pure) fun _ h hd hs => Off.ok hd ⟨rfl, hs⟩

theorem HT_readDataLoop (tag f : Nat) (acc : Bytes) :
    HT (Silent c) (readDataLoop tag f acc) (Off c (QF c fun _ h => h.status = Spec.stNoResponse)) := by
  cases f with
  | zero => exact fun h _ => Or.inr (Or.inl rfl)
  | succ f =>
    rw [readDataLoop_succ]
    refine HT_bind G_rdStep.1 ?_
    rintro r h hd ⟨rfl, hs⟩
    exact Or.inr (Or.inr ⟨hd, acc, rfl, hs⟩)

/-- the cut side starts the loop with less fuel -/
theorem LS_readDataLoop (hs : Strict c) (tag : Nat) : ∀ (ft ff : Nat) (acc : Bytes) (hf ht : Host), Cut c hf ht → ft ≤ ff →
    Res c (QF c fun _ h => h.status = Spec.stNoResponse) (readDataLoop tag ff acc hf) (readDataLoop tag ft acc ht) := by
  intro ft
  induction ft with
  | zero => intro ff acc hf ht _ _; exact Or.inr (Or.inr (Or.inl rfl))
  | succ ft ih =>
    intro ff acc hf ht hc hle
    cases ff with
    | zero => omega
    | succ ff =>
      have hle' : ft ≤ ff := by omega
      rw [readDataLoop_succ, readDataLoop_succ]
      refine (G_rdStep.2 hs hf ht hc).bind (fun r sf st _ _ hc' => ?_) (fun _ _ ⟨_, _, e, _⟩ => nomatch e) ?_
      · match r with
        | none => exact Or.inl ⟨rfl, hc'⟩
        | some (.data b) => exact ih ff _ sf st hc' hle'
        | some (.resp r) =>
          dsimp only
          split
          · simp only [bind_run, setStatus_run]
            split
            · exact Or.inl ⟨rfl, cut_status _ hc'⟩
            · exact ih ff _ _ _ (cut_status _ hc') hle'
          · exact ih ff _ sf st hc' hle'
      · rintro r h ⟨hd, _, e, rfl, hs'⟩
        cases e
        exact Or.inr (Or.inr ⟨hd, acc, rfl, hs'⟩)

theorem LS_rdTail (length : Nat) (data : Bytes) (Q : Except HErr Bytes → Host → Prop) : LS c (rdTail length data) Q := by
  refine LS_get (fun hf ht hc => by simp only [hc.status]) fun h0 _ => LS_ite ?_ LS_pure
  extract_lets raise
  have hj : ∀ u, LS c (raise u) Q := fun _ =>
    LS_get (fun hf ht hc => by simp only [hc.cfgf, hc.cfgt, hc.status]) fun h1 _ => LS_ite LS_fail LS_pure
  exact LS_ite (LS_bindE (LS_setStatus _) hj) (hj ())

theorem rdTail_bad (length : Nat) (data : Bytes) (h : Host) (hs : h.status = Spec.stNoResponse) :
    QS (rdTail length data h).1 (rdTail length data h).2 := by
  have h1 : h.status ≠ Spec.stSuccess := by rw [hs]; decide
  unfold rdTail
  simp only [bind_run, get_run, h1, ne_eq, not_false_eq_true, or_true, if_true, if_false]
  split
  · exact QS_err _ _
  · exact Or.inr h1

/-- out of fuel, or ended by a failed read: either way `_read_data` does not end well -/
theorem QF_tail (length : Nat) (r : Except HErr Bytes) (h : Host)
    (hq : Off c (QF c fun _ h => h.status = Spec.stNoResponse) r h) :
    QS (andThen (r, h) (rdTail length)).1 (andThen (r, h) (rdTail length)).2 := by
  rcases hq with ⟨_, e, rfl⟩ | rfl | ⟨_, a, rfl, hs⟩
  · exact QS_err _ _
  · exact QS_err _ _
  · exact rdTail_bad length a h hs

theorem HT_readData_silent (tag length : Nat) : HT (Silent c) (readData tag length) QS := by
  intro h hd
  rw [readData_eq]
  simp only [bind_run, requireOpen, get_run]
  by_cases ho : h.opened = true
  · simp only [ho, if_true, pure_run]
    have := HT_readDataLoop tag (length + h.fuelHint + h.rxB.length + h.rxR.length + 8) [] h hd
    generalize readDataLoop tag _ [] h = x at this ⊢
    exact QF_tail length x.1 x.2 this
  · simp only [ho, Bool.false_eq_true, if_false, fail_run]
    exact QS_err _ _

theorem LS_readData (tag length : Nat) : LS c (readData tag length) QS := by
  intro hs hf ht hc
  rw [readData_eq]
  simp only [bind_run, requireOpen, get_run, hc.opened]
  by_cases ho : hf.opened = true
  · simp only [ho, if_true, pure_run]
    have hle : length + ht.fuelHint + ht.rxB.length + ht.rxR.length + 8 ≤
        length + hf.fuelHint + hf.rxB.length + hf.rxR.length + 8 := by
      have := hc.preB.length_le
      have := hc.preR.length_le
      rw [hc.fuelHint]
      omega
    have hr := LS_readDataLoop hs tag _ _ [] hf ht hc hle
    generalize readDataLoop tag _ [] hf = xf at hr ⊢
    generalize readDataLoop tag _ [] ht = xt at hr ⊢
    obtain ⟨rf, sf⟩ := xf
    obtain ⟨rt, st⟩ := xt
    rcases hr with ⟨e, hc'⟩ | hq
    · cases e
      cases rf with
      | error e => exact Or.inl ⟨rfl, hc'⟩
      | ok a => exact LS_rdTail length a QS hs sf st hc'
    · exact Or.inr (Or.inr (QF_tail length rt st hq))
  · simp only [ho, Bool.false_eq_true, if_false, fail_run]
    exact Or.inl ⟨rfl, hc⟩

theorem G_readChunks_succ (a m pl rem packets k : Nat) (acc : Bytes)
    (ih : ∀ acc, LS c (readChunks a m pl rem packets k acc) QS) : G c (readChunks a m pl rem packets (k + 1) acc) QS := by
  unfold readChunks
  refine G_cmd _ (fun r => ?_) fun h _ hs => Or.inr (by rw [hs]; decide)
  refine LS_bind0 (LS_readData _ _) (fun d => ?_) (fun e h _ => Or.inr (QS_err e h)) ?_
  · exact LS_get (fun hf ht hc => by simp only [hc.status]) fun h0 _ => LS_ite LS_pure (ih _)
  · rintro d h (⟨e, he⟩ | hq)
    · cases he
    · simp only [bind_run, get_run, hq, ne_eq, not_false_eq_true, if_true, pure_run]
      exact Or.inr (Or.inr hq)

theorem LS_readChunks (a m pl rem packets : Nat) : ∀ (k : Nat) (acc : Bytes), LS c (readChunks a m pl rem packets k acc) QS := by
  intro k
  induction k with
  | zero => exact fun _ => LS_pure
  | succ k ih => exact fun acc => (G_readChunks_succ a m pl rem packets k acc ih).2

/-- over the serial link every data packet waits for its ACK: a dead link is always noticed -/
def Ssc : Nat × Option HErr → Host → Prop := fun p _ => p.2 ≠ none

theorem HT_sendChunks (a : Bool) : ∀ (cs : List Bytes) (s0 : Nat),
    HT (Silent c) (sendChunks a cs s0) (Off c (QD c fun p _ => c.tr = .serial → cs ≠ [] → p.2 ≠ none)) := by
  intro cs
  induction cs with
  | nil => exact fun s0 h hd => Off.ok hd fun _ hne => absurd rfl hne
  | cons x cs ih =>
    intro s0 h hd
    have hw := (G_writeData a x).1 h hd
    simp only [sendChunks]
    generalize writeData a x h = y at hw ⊢
    obtain ⟨e | u, h'⟩ := y
    · exact Off.ok hw.error_inv fun _ _ => nofun
    · exact (ih _ h' hw.ok_inv.1).imp_right (QD_mono (fun _ _ _ hs _ => absurd hs hw.ok_inv.2) _ _)

theorem LS_sendChunks (a : Bool) : ∀ (cs : List Bytes) (s0 : Nat),
    LS c (sendChunks a cs s0) (QD c fun p _ => c.tr = .serial → p.2 ≠ none) := by
  intro cs
  induction cs with
  | nil => exact fun _ => LS_pure
  | cons x cs ih =>
    intro s0 hs hf ht hc
    have hr := (G_writeData a x).2 hs hf ht hc
    simp only [sendChunks]
    generalize writeData a x hf = xf at hr ⊢
    generalize writeData a x ht = xt at hr ⊢
    obtain ⟨rf, sf⟩ := xf
    obtain ⟨rt, st⟩ := xt
    rcases hr with ⟨e, hc'⟩ | ho
    · cases e
      cases rf with
      | error e => exact Or.inl ⟨rfl, hc'⟩
      | ok u => exact ih _ hs sf st hc'
    · cases rt with
      | error e => exact Or.inr (Off.ok ho.error_inv fun _ => nofun)
      | ok u =>
        exact Or.inr ((HT_sendChunks a cs _ st ho.ok_inv.1).imp_right (QD_mono (fun _ _ _ hs => absurd hs ho.ok_inv.2) _ _))

theorem G_sendChunks (a : Bool) (cs : List Bytes) (s0 : Nat) : G c (sendChunks a cs s0) (QT c) :=
  G_toQT ⟨HT_sendChunks a cs s0, fun hs hf ht hc => (LS_sendChunks a cs s0 hs hf ht hc).imp_right
    (Or.imp_right (QD_mono (fun _ _ hs htr _ => hs htr) _ _))⟩

theorem G_sendDataHandler (e : HErr) : G c (sendDataHandler e) (QE c) :=
  G_ite (G_bindG (G_setStatus _) fun _ => G_fail _) (G_ite G_readAny (G_fail _))

theorem G_sendData (chunks : List Bytes) : G c (sendData chunks) (QE c) := by
  refine G_bindG G_requireOpen fun _ => G_get (fun hf ht hc => by simp only [hc.cfgf, hc.cfgt, hc.eda]) fun h0 _ => ?_
  refine G_bindG (G_sendChunks _ _ _) fun ⟨sent, err⟩ => ?_
  dsimp -zeta only
  extract_lets tail
  have htail : ∀ r, LS c (tail r) (QE c) := fun r => by
    cases r with
    | data _ => exact LS_fail
    | resp r => exact LS_bindE (LS_setStatus _) fun _ => LS_ite (LS_ite LS_fail LS_pure) LS_pure
  cases err with
  | none => exact G_bindE (G_catchE G_readAny G_sendDataHandler) htail
  | some e => exact G_bindE (G_sendDataHandler e) htail

/-- what `_send_data(NO_COMMAND, …)` does with the error of a data packet never ends well -/
theorem HT_noRespTail (sent total : Nat) (e : HErr) :
    HT (fun _ => True) (if e = .timeout then do setStatus Spec.stNoResponse; fail .conn
      else if e.isSpsdk then do setStatus Spec.stSendingOperationConditionError; pure (sent == total)
      else fail e : H Bool) QS := by
  intro h _
  split
  · exact QS_err _ _
  · split
    · exact Or.inr (by simp only [bind_run, setStatus_run, pure_run]; decide)
    · exact QS_err _ _

theorem LS_sendDataNoResp (htr : c.tr = .serial) (chunks : List Bytes) : LS c (sendDataNoResp chunks) QS := by
  refine LS_bindE LS_requireOpen fun _ => LS_get (fun hf ht hc => by simp only [hc.eda]) fun h0 _ => ?_
  refine LS_bind (LS_sendChunks _ _ _) (fun ⟨sent, err⟩ => ?_) ?_
  · cases err with
    | none => exact LS_pure
    | some e =>
      exact LS_ite (LS_bindE (LS_setStatus _) fun _ => LS_fail) (LS_ite (LS_bindE (LS_setStatus _) fun _ => LS_pure) LS_fail)
  · rintro ⟨sent, err⟩ h hd hs
    cases err with
    | none => exact absurd rfl (hs htr)
    | some e => exact Or.inr (HT_noRespTail sent _ e h trivial)

theorem HT_sendDataNoResp (htr : c.tr = .serial) (chunks : List Bytes) (hne : chunks ≠ []) :
    HT (Silent c) (sendDataNoResp chunks) QS := by
  refine fun h hd => QS_of_off (HT_bind G_requireOpen.1 (fun _ h hd _ => ?_) h hd)
  refine HT_bind (HT_sendChunks h.eda chunks 0) ?_ h hd
  rintro ⟨sent, err⟩ h hd hs
  cases err with
  | none => exact absurd rfl (hs htr hne)
  | some e => exact Or.inr (HT_noRespTail sent _ e h trivial)

theorem NS_of_QS {α} (f : α → Val) {r : Except HErr α} {h : Host} (hq : QS r h) : NS (r.map f) h := by
  rcases hq with ⟨e, rfl⟩ | hq
  · exact not_succeeded_error _ _
  · exact not_succeeded_status _ _ hq

theorem NS_of_off {r : Except HErr Val} {h : Host} (ho : Off c NS r h) : NS r h :=
  ho.elim (fun ⟨_, e, he⟩ => he ▸ not_succeeded_error e h) id

/-- a result of the read side, returned as a value -/
theorem HT_val {α} {P : Host → Prop} {m : H α} (f : α → Val) (hm : HT P m (Off c QS)) :
    HT P (do let d ← m; pure (f d)) (Off c NS) :=
  HT_bind0 hm (fun e h _ => Or.inr (not_succeeded_error e h)) fun _ _ hq => Or.inr (NS_of_QS f hq)

theorem LS_val {α} {m : H α} (f : α → Val) (hm : LS c m QS) : LS c (do let d ← m; pure (f d)) NS :=
  LS_bind0 hm (fun _ => LS_pure) (fun e h _ => Or.inr (not_succeeded_error e h)) fun _ _ hq => Or.inr (NS_of_QS f hq)

theorem G_simpleCmd (tag : Nat) (ps : List Nat) : G c (simpleCmd tag ps) NS :=
  G_bind (G_processCmd _) (fun _ => LS_pure) fun r h hd hs => by
    simp only [pure_run, Spc_ne hs, decide_false]
    exact Or.inr (not_succeeded_false _)

theorem G_getPropertyOp (t i : Nat) : G c (runOp (.getProperty t i)) NS :=
  G_bind (G_getProperty t i) (fun v => by cases v <;> exact LS_pure) fun v h _ hv => by
    subst hv
    exact Or.inr (not_succeeded_none _)

theorem G_dataInCmd (tag : Nat) (ps : List Nat) (k : RKind) : G c (dataInCmd tag ps k) NS :=
  G_cmd _ (fun _ => LS_ite (LS_val _ (LS_readData _ _)) LS_fail) fun h _ _ => not_succeeded_none h

theorem packets_ne_zero {n p : Nat} (hn : n ≠ 0) : n / p + (if n % p ≠ 0 then 1 else 0) ≠ 0 := by
  split
  · exact Nat.succ_ne_zero _
  · rename_i h
    intro e
    have := Nat.div_add_mod n p
    rw [Decidable.of_not_not h, Nat.eq_zero_of_add_eq_zero_right e, Nat.mul_zero] at this
    exact hn this.symm

theorem G_readMemory (a n m : Nat) (fast : Bool) (ht : ¬ (c.usb = true ∧ fast = false ∧ n = 0)) :
    G c (readMemory a n m fast) NS := by
  rw [readMemory_eq]
  refine G_get (fun hf ht hc => by simp only [hc.cfgf, hc.cfgt]) fun h0 e => ?_
  rw [e]
  refine G_dite (fun hu => ?_) fun _ => G_dataInCmd _ _ _
  refine G_bindG G_getMaxPacketSize fun payload => G_dite (fun _ => G_fail _) fun hp => ?_
  have hn : n ≠ 0 := fun e => ht ⟨hu.1, by simpa using hu.2, e⟩
  obtain ⟨k, hk⟩ := Nat.exists_eq_succ_of_ne_zero (packets_ne_zero (p := payload) hn)
  dsimp only
  rw [hk]
  have hG := G_readChunks_succ (c := c) a (clampMemId m) payload (n % payload) (k + 1) k [] (LS_readChunks _ _ _ _ _ k)
  exact ⟨HT_val _ hG.1, LS_val _ hG.2⟩

theorem G_dataOutCmd (tag : Nat) (ps : List Nat) (data : Bytes) : G c (dataOutCmd tag ps data) NS :=
  G_bindG (G_splitData data) fun chunks =>
    G_cmd _ (fun _ => LS_bindE (G_sendData chunks).2 fun _ => LS_pure) fun h _ _ => not_succeeded_false h

theorem G_writeMemory (a : Nat) (data : Bytes) (m : Nat) : G c (writeMemory a data m) NS :=
  writeMemory_eq a data m ▸ G_dataOutCmd _ _ _

theorem G_receiveSbFile (data : Bytes) (ce : Bool) : G c (receiveSbFile data ce) NS :=
  G_bindG (G_splitData data) fun chunks =>
    G_cmd _
      (fun _ => LS_bindE (LS_modify fun _ _ h => cut_eda _ h) fun _ => LS_bindE (G_sendData chunks).2 fun _ =>
        LS_bindE (LS_modify fun _ _ h => cut_eda _ h) fun _ => LS_pure)
      fun h _ _ => not_succeeded_false h

theorem G_loadImage (htr : c.tr = .serial) (data : Bytes) (hne : data ≠ []) : G c (loadImage data) NS :=
  G_bind (G_splitData data) (fun chunks => LS_bindE (LS_setStatus _) fun _ => LS_val _ (LS_sendDataNoResp htr chunks))
    fun chunks _ hd hs =>
      HT_val Val.bool (fun h hd => Or.inr (HT_sendDataNoResp htr chunks (hs hne) h hd)) _ ⟨hd.cfg, hd.peer, hd.rxB, hd.rxR⟩

theorem G_efuseReadOnce (i : Nat) : G c (efuseReadOnce i) (QD c fun v _ => v = none) := by
  refine G_cmd _ (fun r => LS_ite ?_ LS_fail) fun _ hd _ => ⟨hd, none, rfl, rfl⟩
  split
  · exact LS_pure
  · exact LS_fail

theorem G_efuseReadOnceOp (i : Nat) : G c (runOp (.efuseReadOnce i)) NS :=
  G_bind (G_efuseReadOnce i) (fun v => by cases v <;> exact LS_pure) fun v h _ hv => by
    subst hv
    exact Or.inr (not_succeeded_none _)

theorem G_efuseProgramOnce (i v : Nat) (verify : Bool) : G c (efuseProgramOnce i v verify) NS := by
  refine G_bind (G_processCmd _) (fun r => LS_ite LS_pure (LS_ite ?_ LS_pure)) fun r h hd hs => ?_
  · refine LS_bind (G_efuseReadOnce _).2 (fun rv => ?_) fun rv h _ hv => ?_
    · cases rv with
      | none => exact LS_pure
      | some x => exact LS_ite LS_pure (LS_bindE (LS_setStatus _) fun _ => LS_pure)
    · subst hv
      exact Or.inr (not_succeeded_false _)
  · simp only [ne_eq, Spc_ne hs, not_false_eq_true, if_true, pure_run]
    exact Or.inr (not_succeeded_false _)

theorem G_flashReadOnce (i n : Nat) : G c (flashReadOnce i n) NS :=
  G_ite (G_fail _) (G_cmd _ (fun _ => LS_ite LS_pure LS_fail) fun h _ _ => not_succeeded_none h)

theorem G_flashProgramOnce (i : Nat) (d : Bytes) : G c (flashProgramOnce i d) NS :=
  flashProgramOnce_eq i d ▸ G_ite (G_fail _) (G_simpleCmd _ _)

section opening
variable (htr : c.tr = .serial)
include htr

theorem LS_pingDummyLoop : ∀ f : Nat, LS c (pingDummyLoop f) (QE c) := by
  intro f
  induction f with
  | zero => exact LS_pure
  | succ f ih =>
    unfold pingDummyLoop
    exact LS_bindE (G_devRead htr 1).2 fun b => LS_ite LS_pure ih

theorem G_pingDummyLoop (f : Nat) : G c (pingDummyLoop (f + 1)) (QE c) :=
  ⟨by unfold pingDummyLoop; exact HT_bind (G_devRead htr 1).1 fun _ _ _ hF => hF.elim, LS_pingDummyLoop htr _⟩

theorem G_ping : G c ping (QE c) := by
  refine G_bindG (G_devWrite _) fun _ => G_bindE (G_pingDummyLoop htr 49) fun found => LS_ite LS_fail ?_
  refine LS_bindE (G_devRead htr 1).2 fun t => LS_ite LS_fail (LS_ite LS_fail ?_)
  exact LS_bindE (G_devRead htr 8).2 fun body => LS_ite LS_fail (LS_ite LS_fail LS_pure)

theorem G_openSerial : ∀ k : Nat, G c (openSerial k) (QE c) := by
  intro k
  induction k with
  | zero => exact G_fail _
  | succ k ih =>
    have hm : ∀ b, G c (modify fun h => { h with opened := b }) (QT c) := fun b =>
      G_modify (fun _ _ h => cut_opened _ h) fun h hd => ⟨⟨hd.cfg, hd.peer, hd.rxB, hd.rxR⟩, (), rfl, trivial⟩
    unfold openSerial
    exact G_bindG (hm _) fun _ => G_catchE (G_ping htr) fun e => G_bindG (hm _) fun _ => G_ite ih (G_fail _)

theorem G_openOp : G c (runOp .open_) NS := by
  refine G_get (fun hf ht hc => by simp only [hc.cfgf, hc.cfgt]) fun h0 e => ?_
  rw [e, htr]
  exact G_bindE (G_openSerial htr _) fun _ => LS_pure

end opening

theorem G_runOp (op : Op) (ht : talks c op) : G c (runOp op) NS := by
  cases op with
  | open_ => exact G_openOp ht
  | getProperty t i => exact G_getPropertyOp t i
  | setProperty t v => exact G_simpleCmd _ _
  | fillMemory a n p => exact G_simpleCmd _ _
  | eraseRegion a n m => exact G_simpleCmd _ _
  | eraseAll m => exact G_simpleCmd _ _
  | execute a g s => exact G_simpleCmd _ _
  | call a g => exact G_simpleCmd _ _
  | eraseAllUnsecure => exact G_simpleCmd _ _
  | configureMemory a m => exact G_simpleCmd _ _
  | reliableUpdate a => exact G_simpleCmd _ _
  | readMemory a n m f => exact G_readMemory a n m f ht
  | writeMemory a d m => exact G_writeMemory a d m
  | receiveSbFile d ce => exact G_receiveSbFile d ce
  | loadImage d => exact G_loadImage ht.1 d ht.2
  | flashReadOnce i n => exact G_flashReadOnce i n
  | flashProgramOnce i d => exact G_flashProgramOnce i d
  | efuseReadOnce i => exact G_efuseReadOnceOp i
  | efuseProgramOnce i v ce => exact G_efuseProgramOnce i v ce
  | flashReadResource a n o => exact G_ite (G_fail _) (G_dataInCmd _ _ _)
  | kpEnroll => exact G_simpleCmd _ _
  | kpSetIntrinsicKey t z => exact G_simpleCmd _ _
  | kpWriteNonvolatile m => exact G_simpleCmd _ _
  | kpReadNonvolatile m => exact G_simpleCmd _ _
  | kpSetUserKey t d => exact G_dataOutCmd _ _ _
  | kpWriteKeyStore d => exact G_dataOutCmd _ _ _
  | kpReadKeyStore => exact G_dataInCmd _ _ _
  | reset r => exact absurd ht id
  | logCmd t ps => exact G_simpleCmd _ _
  | fuseProgram a d m => exact G_dataOutCmd _ _ _
  | fuseRead a n m => exact G_dataInCmd _ _ _

theorem observable_of_cut (xf xt : Except HErr Val × Host) (he : xt.1 = xf.1) (hc : Cut c xf.2 xt.2) :
    observable xt = observable xf := by
  unfold observable
  rw [he, hc.status, hc.txRev]

theorem truncation_safe {h ht : Host} (op : Op) (hs : Strict h.cfg) (htalks : talks h.cfg op) (hc : Cut h.cfg h ht) :
    observable (runOp op ht) = observable (runOp op h) ∨ ¬ succeeded (runOp op ht).1 (runOp op ht).2 :=
  ((G_runOp op htalks).2 hs h ht hc).imp (fun ⟨e, hc'⟩ => observable_of_cut _ _ e hc') NS_of_off

/-- serial link, strict reads (`device.read(n)` returns `n` bytes or times out), replay peer: every byte position -/
theorem truncation_safe_serial (h : Host) (op : Op) (k : Nat) (cs : List (List Bytes))
    (htr : h.cfg.tr = .serial) (hstrict : h.cfg.partialReads = false) (hpeer : h.peer = .script cs)
    (ht : talks h.cfg op) :
    observable (runOp op (h.truncate k)) = observable (runOp op h) ∨
      ¬ succeeded (runOp op (h.truncate k)).1 (runOp op (h.truncate k)).2 :=
  truncation_safe op (fun _ => hstrict) ht (cut_truncate h k cs htr hpeer)

/-- USB-HID: the stream is cut after any number of whole reports -/
theorem truncation_safe_hid (h : Host) (op : Op) (k : Nat) (cs : List (List Bytes))
    (htr : h.cfg.tr = .hid) (hpeer : h.peer = .script cs) (ht : talks h.cfg op) :
    observable (runOp op (h.truncateReports k)) = observable (runOp op h) ∨
      ¬ succeeded (runOp op (h.truncateReports k)).1 (runOp op (h.truncateReports k)).2 :=
  truncation_safe op (fun hs => by rw [htr] at hs; cases hs) ht (cut_truncateReports h k cs htr hpeer)

section
variable (hstrict : c.tr = .serial → c.partialReads = false)
include hstrict

theorem HT_readData (tag length : Nat) : HT (Dead c) (readData tag length) QS :=
  fun h hd => HT_readData_silent tag length h hd.silent

end

end SpsdkVerif.Mboot.Trunc

namespace SpsdkVerif.Mboot.Fault
open SpsdkVerif SpsdkVerif.Mboot SpsdkVerif.Mboot.H SpsdkVerif.Mboot.Trunc

/-- **Missing response / stream cut off**: on a link that stays silent no operation reports success. -/
theorem silent_link_never_succeeds (h : Host) (op : Op) (hs : Starved h) (ht : talks h.cfg op) :
    ¬ succeeded (runOp op h).1 (runOp op h).2 :=
  NS_of_off ((G_runOp op ht).1 h (.of_starved hs))

/-- the data phase of a write on a silent link always raises -/
theorem sendData_starved (h : Host) (cs : List Bytes) (hs : Starved h) : ∃ e, (sendData cs h).1 = .error e :=
  ((G_sendData cs).1 h (.of_starved hs)).elim (·.2) fun ⟨_, _, _, hF⟩ => hF.elim

/-- the data phase of a read on a silent link: NO_RESPONSE status, an exception with `cmd_exception` -/
theorem readData_starved (h : Host) (tag n : Nat) (hs : Starved h) :
    ¬ succeeded ((readData tag n h).1.map Val.bytes) (readData tag n h).2 :=
  NS_of_QS Val.bytes (HT_readData_silent tag n h (.of_starved hs))

end SpsdkVerif.Mboot.Fault
