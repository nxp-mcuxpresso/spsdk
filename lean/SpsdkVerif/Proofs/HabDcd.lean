/- C07: Write Data / Check Data / Initialize codec, `parse_command` over all classes, DCD segment and boot-data round
   trips (`Model/HabDcd.lean`). -/
import SpsdkVerif.Model.HabDcd
import SpsdkVerif.Proofs.HabCsf

namespace SpsdkVerif.HabDcd
open SpsdkVerif SpsdkVerif.Hab
open SpsdkVerif.Misc (beEnc beDec leEnc leDec beEnc_length')

theorem encWords_length (l : List Nat) : (encWords l).length = 4 * l.length := by
  induction l with
  | nil => rfl
  | cons v r ih => simp [encWords, ih]; omega

theorem le32_length (v : Nat) : (le32 v).length = 4 := by simp [le32, Misc.leEnc_length]

theorem parByte_lt (w o : Nat) : parByte w o < 256 := by unfold parByte; omega

theorem parByte_width (w o : Nat) (hw : w ∈ Spec.widths) : parByte w o % 8 = w := by
  have : w < 8 := by
    simp only [Spec.widths, List.mem_cons, List.not_mem_nil, or_false] at hw
    omega
  unfold parByte; omega

theorem parByte_ops (w o : Nat) (ho : o < 4) : parByte w o / 8 % 4 = o := by
  unfold parByte; omega

theorem decWords_encWords (data : List Nat) (rest : Bytes) (h : ∀ v ∈ data, v < Spec.initLimit) :
    decWords data.length (encWords data ++ rest) = .ok data := by
  induction data with
  | nil => rfl
  | cons v r ih =>
    have hv := h v (by simp)
    have hv32 : v < 256 ^ 4 := by
      have : Spec.initLimit = 0xFFFFFFFF := rfl
      have e : (256 : Nat) ^ 4 = 4294967296 := by decide
      omega
    have ih' := ih (fun x hx => h x (by simp [hx]))
    have e0 : encWords (v :: r) ++ rest = be32 v ++ (encWords r ++ rest) := by simp [encWords]
    have e1 : rdBE (be32 v ++ (encWords r ++ rest)) 0 4 = some v := by
      have := rdBE_at [] (encWords r ++ rest) 4 v 0 hv32 rfl
      simpa [be32] using this
    have e2 : (be32 v ++ (encWords r ++ rest)).drop 4 = encWords r ++ rest :=
      drop_append_len _ _ _ (be32_length v).symm
    have e3 : (be32 v ++ (encWords r ++ rest)).isEmpty = false := by
      cases hh : be32 v ++ (encWords r ++ rest) with
      | nil =>
        have := congrArg List.length hh
        simp at this
      | cons => rfl
    have e4 : ¬ Spec.initLimit ≤ v := by omega
    rw [e0]
    simp only [List.length_cons, decWords, e1, e2, e3, e4, ih', Bool.false_eq_true, ↓reduceIte]

theorem decodeR_hdr (t l p : Nat) (tail : Bytes) (ht : t ∈ Spec.cmdTags) (hl : l < 65536) (hp : p < 256) :
    DCmd.decodeR (hdr t l p ++ tail) = DCmd.decodeBody (hdr t l p ++ tail) t l p := by
  have ht256 : t < 256 := by
    simp only [Spec.cmdTags, List.mem_cons, List.not_mem_nil, or_false] at ht
    omega
  have e := parseHdr_hdr t l p tail ht256 hl hp
  have hcons : hdr t l p ++ tail = u8 t :: (be16 l ++ [u8 p] ++ tail) := by simp [hdr]
  unfold DCmd.decodeR
  rw [hcons] at e ⊢
  simp only [e, u8_toNat t ht256, ht, not_true_eq_false, ↓reduceIte]

theorem dcmd_encode_length (c : DCmd) : c.encode.length = c.size := by
  cases c with
  | writeData w o data => simp [DCmd.encode, DCmd.size, encBlocks_length]
  | checkData w o a m count => cases count <;> simp [DCmd.encode, DCmd.size, countLen]
  | init e data => simp [DCmd.encode, DCmd.size, encWords_length]
  | other c => exact encode_length c

theorem dcmd_size_ge (c : DCmd) : 4 ≤ c.size := by
  cases c with
  | writeData => simp only [DCmd.size]; omega
  | checkData => simp only [DCmd.size]; omega
  | init => simp only [DCmd.size]; omega
  | other c => exact size_ge c

theorem decodeR_encode (c : DCmd) (rest : Bytes) (h : c.WF) : DCmd.decodeR (c.encode ++ rest) = .ok c := by
  cases c with
  | writeData w o data =>
    obtain ⟨hw, ho, hl, hd⟩ := h
    have e : (DCmd.writeData w o data).encode ++ rest =
        hdr Spec.cmdWRT_DAT (4 + 8 * data.length) (parByte w o) ++ (encBlocks data ++ rest) := by
      simp [DCmd.encode]
    have n : (4 + 8 * data.length - 4 + 7) / 8 = data.length := by omega
    have g : ¬ (4 + 8 * data.length < 4) := by omega
    rw [e, decodeR_hdr _ _ _ _ (by decide) hl (parByte_lt w o)]
    unfold DCmd.decodeBody
    simp only [g, ↓reduceIte, parByte_width w o hw, parByte_ops w o ho, hw, not_true_eq_false,
      drop_append_len _ _ 4 (hdr_length _ _ _).symm, n, decBlocks_encBlocks data rest hd]
  | checkData w o a m count =>
    obtain ⟨hw, ho, ha, hm, hc⟩ := h
    have ha' : a < 256 ^ 4 := by simpa using ha
    have hm' : m < 256 ^ 4 := by simpa using hm
    have r1 : ∀ l tl, rdBE (hdr Spec.cmdCHK_DAT l (parByte w o) ++ (be32 a ++ (be32 m ++ tl))) 4 4 = some a := by
      intro l tl
      have := rdBE_at (hdr Spec.cmdCHK_DAT l (parByte w o)) (be32 m ++ tl) 4 a 4 ha' (by simp)
      simpa [be32, List.append_assoc] using this
    have r2 : ∀ l tl, rdBE (hdr Spec.cmdCHK_DAT l (parByte w o) ++ (be32 a ++ (be32 m ++ tl))) 8 4 = some m := by
      intro l tl
      have := rdBE_at (hdr Spec.cmdCHK_DAT l (parByte w o) ++ be32 a) tl 4 m 8 hm' (by simp)
      simpa [be32, List.append_assoc] using this
    cases count with
    | none =>
      have e : (DCmd.checkData w o a m none).encode ++ rest =
          hdr Spec.cmdCHK_DAT 12 (parByte w o) ++ (be32 a ++ (be32 m ++ rest)) := by
        simp [DCmd.encode, countLen]
      rw [e, decodeR_hdr _ _ _ _ (by decide) (by decide) (parByte_lt w o)]
      unfold DCmd.decodeBody
      simp (config := { decide := true }) only [r1, r2, ↓reduceIte, parByte_width w o hw, parByte_ops w o ho, hw,
        not_true_eq_false]
    | some c =>
      have hc32 := hc c rfl
      have hc' : c < 256 ^ 4 := by simpa using hc32
      have e : (DCmd.checkData w o a m (some c)).encode ++ rest =
          hdr Spec.cmdCHK_DAT 16 (parByte w o) ++ (be32 a ++ (be32 m ++ (be32 c ++ rest))) := by
        simp [DCmd.encode, countLen]
      have r3 : rdBE (hdr Spec.cmdCHK_DAT 16 (parByte w o) ++ (be32 a ++ (be32 m ++ (be32 c ++ rest)))) 12 4 = some c := by
        have := rdBE_at (hdr Spec.cmdCHK_DAT 16 (parByte w o) ++ be32 a ++ be32 m) rest 4 c 12 hc' (by simp)
        simpa [be32, List.append_assoc] using this
      rw [e, decodeR_hdr _ _ _ _ (by decide) (by decide) (parByte_lt w o)]
      unfold DCmd.decodeBody
      simp (config := { decide := true }) only [r1, r2, r3, ↓reduceIte, parByte_width w o hw, parByte_ops w o ho, hw,
        not_true_eq_false]
  | init eng data =>
    obtain ⟨he, hl, hd⟩ := h
    have he256 : eng < 256 := by
      simp only [Spec.engineTags, List.mem_cons, List.not_mem_nil, or_false] at he
      omega
    have e : (DCmd.init eng data).encode ++ rest =
        hdr Spec.cmdINIT (4 + 4 * data.length) eng ++ (encWords data ++ rest) := by
      simp [DCmd.encode]
    have n : (4 + 4 * data.length - 4 + 3) / 4 = data.length := by omega
    have g : ¬ (4 + 4 * data.length < 4) := by omega
    rw [e, decodeR_hdr _ _ _ _ (by decide) hl he256]
    unfold DCmd.decodeBody
    simp (config := { decide := true }) only [g, he, ↓reduceIte, not_true_eq_false,
      drop_append_len _ _ 4 (hdr_length _ _ _).symm, n, decWords_encWords data rest hd]
  | other c =>
    obtain ⟨hw, hs⟩ := h
    obtain ⟨tail, he⟩ := encode_hdr c
    have ht : cmdTag c ∈ Spec.cmdTags := by cases c <;> simp only [cmdTag] <;> decide
    have hdec : Cmd.decode (hdr (cmdTag c) c.size (cmdPar c) ++ (tail ++ rest)) = some c := by
      rw [← List.append_assoc, ← he]; exact decode_encode c rest hw
    have g : ¬ (c.size < 4) := Nat.not_lt.2 (size_ge c)
    rw [show (DCmd.other c).encode = c.encode from rfl, he, List.append_assoc, decodeR_hdr _ _ _ _ ht hs (cmdPar_lt c hw)]
    unfold DCmd.decodeBody
    cases c <;> simp (config := { decide := true }) only [cmdTag, cmdPar] at hdec ⊢ <;>
      simp (config := { decide := true }) only [g, hdec, ↓reduceIte]

/-- export → `parse_command` gives the command back, whatever follows it, and `size` is the exported length -/
theorem dcmd_roundtrip (c : DCmd) (rest : Bytes) (h : c.WF) :
    DCmd.decode (c.encode ++ rest) = some c ∧ c.encode.length = c.size := by
  refine ⟨?_, dcmd_encode_length c⟩
  unfold DCmd.decode
  rw [decodeR_encode c rest h]

theorem encDcmds_length (l : List DCmd) : (encDcmds l).length = dcmdsSize l := by
  induction l with
  | nil => rfl
  | cons c r ih =>
    simp [encDcmds, dcmdsSize, dcmd_encode_length c, ih]

theorem length_le_dcmdsSize (l : List DCmd) : l.length ≤ dcmdsSize l := by
  induction l with
  | nil => simp [dcmdsSize]
  | cons c r ih => have := dcmd_size_ge c; simp only [List.length_cons, dcmdsSize]; omega

theorem dcdCmds_encDcmds (l : List DCmd) (fuel : Nat) (rest : Bytes) (hw : ∀ c ∈ l, c.WF)
    (hd : ∀ c ∈ l, c.inDcd = true) (hf : l.length ≤ fuel) :
    dcdCmds fuel (encDcmds l ++ rest) (dcmdsSize l) = .ok l := by
  induction l generalizing fuel with
  | nil => cases fuel <;> simp [dcdCmds, dcmdsSize]
  | cons c r ih =>
    obtain ⟨f, rfl⟩ : ∃ f, fuel = f + 1 := ⟨fuel - 1, by simp at hf; omega⟩
    have hs := dcmd_size_ge c
    have hwc := hw c (by simp)
    have h0 : ¬ (c.size + dcmdsSize r = 0) := by omega
    have e : encDcmds (c :: r) ++ rest = c.encode ++ (encDcmds r ++ rest) := by simp [encDcmds]
    have d : (c.encode ++ (encDcmds r ++ rest)).drop c.size = encDcmds r ++ rest :=
      drop_append_len _ _ _ (dcmd_encode_length c).symm
    have s : c.size + dcmdsSize r - c.size = dcmdsSize r := by omega
    have ih' := ih f (fun x hx => hw x (by simp [hx])) (fun x hx => hd x (by simp [hx])) (by simp at hf; omega)
    rw [e]
    simp only [dcdCmds, dcmdsSize, h0, ↓reduceIte, decodeR_encode c _ hwc, hd c (by simp), d, s, ih',
      not_true_eq_false]

theorem dcdEncode_length (p : Nat) (cmds : List DCmd) : (dcdEncode p cmds).length = dcdLen cmds := by
  simp [dcdEncode, dcdLen, encDcmds_length cmds]

/-- `SegDCD.parse(SegDCD.export() ‖ anything)` gives parameter and command list back -/
theorem dcd_segment_roundtrip (p : Nat) (cmds : List DCmd) (rest : Bytes) (hp : p < 256)
    (hw : ∀ c ∈ cmds, c.WF) (hd : ∀ c ∈ cmds, c.inDcd = true) (hl : dcdLen cmds < 65536) :
    dcdParse (dcdEncode p cmds ++ rest) = .ok (p, cmds) := by
  have e : dcdEncode p cmds ++ rest = hdr Hab.Spec.tagDCD (dcdLen cmds) p ++ (encDcmds cmds ++ rest) := by
    simp [dcdEncode]
  have g : ¬ (dcdLen cmds < 4) := by unfold dcdLen; omega
  have s : dcdLen cmds - 4 = dcmdsSize cmds := by unfold dcdLen; omega
  have hf : cmds.length ≤ dcdLen cmds := by have := length_le_dcmdsSize cmds; unfold dcdLen; omega
  unfold dcdParse
  rw [e, parseHdr_hdr _ _ _ _ (by decide) hl hp]
  simp only [ne_eq, not_true_eq_false, ↓reduceIte, g, drop_append_len _ _ 4 (hdr_length _ _ _).symm, s,
    dcdCmds_encDcmds cmds _ rest hw hd hf]

/-- an exported DCD is what the container theorems call a well-formed DCD block (`Hab.DcdWF`), provided its parameter
    byte is not the XMCD tag/version byte 0xC0 -/
theorem dcd_export_wf (p : Nat) (cmds : List DCmd) (hp : p < 256) (hx : p ≠ 0xC0)
    (hw : ∀ c ∈ cmds, c.WF) (hl : dcdLen cmds < 65536) : DcdWF (dcdEncode p cmds) := by
  have hlen := dcdEncode_length p cmds
  refine ⟨by rw [hlen]; exact hl, p, encDcmds cmds, hp, ?_, by rw [hlen]; rfl⟩
  have : Generated.HabConsts.xmcdHeaderTag = 12 := rfl
  rw [this]
  omega

/-- `CmdCheckData(…, count=0)`: the count is exported AND counted in the header length (16 = `size`), and
    `parse_command` of the export gives the command back with `count = 0` — before 8656d83 the header said 12 and the
    count was lost -/
theorem checkData_zero_count_roundtrip (w o a m : Nat) (hw : w ∈ Spec.widths) (ho : o < 4) (ha : a < 2 ^ 32)
    (hm : m < 2 ^ 32) (rest : Bytes) :
    (DCmd.checkData w o a m (some 0)).size = 16 ∧ (DCmd.checkData w o a m (some 0)).encode.length = 16 ∧
    DCmd.decode ((DCmd.checkData w o a m (some 0)).encode ++ rest) = some (.checkData w o a m (some 0)) := by
  refine ⟨rfl, by simp [DCmd.encode, countLen], ?_⟩
  exact (dcmd_roundtrip (.checkData w o a m (some 0)) _
    ⟨hw, ho, ha, hm, by intro c hc; injection hc with hc; subst hc; decide⟩).1

theorem bdtParse_bdtEncode (s l p : Nat) (rest : Bytes) (hs : s < 2 ^ 32) (hl : l < 2 ^ 32) (hp : p ≤ 2) :
    bdtParse (bdtEncode s l p ++ rest) = .ok (s, l, p) := by
  have hs' : s < 256 ^ 4 := by simpa using hs
  have hl' : l < 256 ^ 4 := by simpa using hl
  have hp' : p < 256 ^ 4 := by
    have e : (256 : Nat) ^ 4 = 4294967296 := by decide
    omega
  have r1 : rdLE (le32 s ++ le32 l ++ le32 p ++ rest) 0 4 = some s := by
    have := rdLE_at [] (le32 l ++ le32 p ++ rest) 4 s 0 hs' rfl
    simpa [le32, List.append_assoc] using this
  have r2 : rdLE (le32 s ++ le32 l ++ le32 p ++ rest) 4 4 = some l := by
    have := rdLE_at (le32 s) (le32 p ++ rest) 4 l 4 hl' (by simp)
    simpa [le32, List.append_assoc] using this
  have r3 : rdLE (le32 s ++ le32 l ++ le32 p ++ rest) 8 4 = some p := by
    have := rdLE_at (le32 s ++ le32 l) rest 4 p 8 hp' (by simp)
    simpa [le32, List.append_assoc] using this
  unfold bdtParse bdtEncode
  simp only [r1, r2, r3, hp, ↓reduceIte]

end SpsdkVerif.HabDcd
