/-
Helper lemmas for the configuration level of C12 (`area_config_roundtrip`): the generated layout as a C11 register file, the
shape of `get_config` output, name resolution.
-/
import SpsdkVerif.Model.ConfigArea
import SpsdkVerif.Proofs.ConfigArea
import SpsdkVerif.Proofs.RegistersP3
import SpsdkVerif.Properties.C11

namespace SpsdkVerif.CfgArea
open SpsdkVerif SpsdkVerif.Regs

theorem optAll_roundtrip {α β : Type} (f : α → Option β) (g : β → Option α) :
    ∀ (l : List α), (∀ a ∈ l, ∃ b, f a = some b ∧ g b = some a) → ∃ bs, optAll f l = some bs ∧ optAll g bs = some l := by
  intro l
  induction l with
  | nil => intro _; exact ⟨[], rfl, rfl⟩
  | cons a as ih =>
    intro h
    obtain ⟨b, hb1, hb2⟩ := h a (by simp)
    obtain ⟨bs, h1, h2⟩ := ih (fun x hx => h x (by simp [hx]))
    exact ⟨b :: bs, by simp [optAll, hb1, h1], by simp [optAll, hb2, h2]⟩

theorem findReg_name (d : LayoutD) (h : findRegB d = true) (i : Nat) (rd : RegD) (hi : d.regs[i]? = some rd) :
    findReg d rd.name = some i := by
  obtain ⟨hlt, he⟩ := List.getElem?_eq_some_iff.1 hi
  rw [findReg, List.findIdx?_eq_some_iff_getElem]
  refine ⟨hlt, by simp [he], ?_⟩
  intro j hji hp
  have hj : d.regs[j]? = some (d.regs[j]'(Nat.lt_trans hji hlt)) := List.getElem?_eq_getElem _
  have := findRegB_sound d h i j rd _ hi hj (by
    simp only [Bool.or_eq_true, beq_iff_eq] at hp
    exact hp)
  omega

theorem findField_name (rd : RegD) (h : nodupFastB (rd.fields.map (·.name)) = true) (j : Nat) (fd : FieldD)
    (hj : rd.fields[j]? = some fd) : findField rd fd.name = some j := by
  obtain ⟨hlt, he⟩ := List.getElem?_eq_some_iff.1 hj
  have hnd := nodupFastB_sound _ h
  rw [findField, List.findIdx?_eq_some_iff_getElem]
  refine ⟨hlt, by simp [he], ?_⟩
  intro t ht hp
  simp only [beq_iff_eq] at hp
  have h1 : (rd.fields.map (·.name))[t]'(by simp; omega) = (rd.fields.map (·.name))[j]'(by simpa using hlt) := by
    simp [hp, he]
  have := (List.getElem_inj hnd).1 h1
  omega

/-- **names resolve**: the name-keyed dictionary of a configuration taken with `get_config` is resolved by `find_reg` /
    `find_bitfield` to exactly the registers and bit-fields it was taken from -/
theorem names_resolve (d : LayoutD) (rf : RegFile) (cfg : Cfg) (hf : findRegB d = true) (hn : fieldNamesB d = true)
    (hlen : rf.length = d.regs.length)
    (hfl : ∀ (i : Nat) (r : Reg) (rd : RegD), rf[i]? = some r → d.regs[i]? = some rd → r.fields.length = rd.fields.length)
    (hg : getConfig (toMeta d) rf = .ok cfg) :
    ∃ n, nameCfg d cfg = some n ∧ resolveCfg d n = some cfg := by
  apply optAll_roundtrip
  rintro ⟨ref, c⟩ he
  obtain ⟨i, r, rfl, hr, _, hc⟩ := (getConfigDFrom_mem ((getConfigDFrom_false _ rf 0).trans hg)).1 ref c he
  rw [Nat.zero_add] at hc ⊢
  have hi : i < d.regs.length := hlen ▸ (List.getElem?_eq_some_iff.1 hr).1
  obtain ⟨rd, hrd⟩ : ∃ rd, d.regs[i]? = some rd := ⟨_, List.getElem?_eq_getElem hi⟩
  have hfr := findReg_name d hf i rd hrd
  cases c with
  | value v => exact ⟨(rd.name, .value v), by simp [nameEntry, hrd], by simp [resolveEntry, hfr]⟩
  | fields fl =>
    have hidx : ∀ jc ∈ fl, jc.1 < rd.fields.length := by
      intro jc hjc
      obtain ⟨t, f, e, hf, _⟩ := (fieldsConfigD_mem (regConfigD_fields_ok hc).2 jc.1).1 ⟨jc.2, hjc⟩
      rw [e, Nat.zero_add, ← hfl i r rd hr hrd]
      exact (List.getElem?_eq_some_iff.1 hf).1
    have hnames : nodupFastB (rd.fields.map (·.name)) = true := by
      simp only [fieldNamesB, List.all_eq_true] at hn
      exact hn rd (List.mem_of_getElem? hrd)
    obtain ⟨fl', h1, h2⟩ := optAll_roundtrip
      (fun jc : Nat × Regs.CfgVal => (rd.fields[jc.1]?).map (fun fd => (fd.name, jc.2)))
      (fun nc : Nat × Regs.CfgVal => (findField rd nc.1).map (fun j => (j, nc.2))) fl (by
        intro jc hjc
        have hlt := hidx jc hjc
        refine ⟨((rd.fields[jc.1]'hlt).name, jc.2), by simp [List.getElem?_eq_getElem hlt], ?_⟩
        simp [findField_name rd hnames jc.1 _ (List.getElem?_eq_getElem hlt)])
    exact ⟨(rd.name, .fields fl'), by simp [nameEntry, hrd, h1], by simp [resolveEntry, hfr, hrd, h2]⟩

/-- registers, details and values line up -/
inductive Aligned3 : List RegL → List RegD → Vals → Prop
  | nil : Aligned3 [] [] []
  | cons {r rd v rs rds vs} : r.fields.length = rd.fields.length → Aligned3 rs rds vs → Aligned3 (r :: rs) (rd :: rds) (v :: vs)

/-- the register file with `mk r rd v` for every register: `toFileFrom` is `zip3 toReg`, `toFileFromG` is `zip3 toRegG` -/
def zip3 (mk : RegL → RegD → Nat → Regs.Reg) : List RegL → List RegD → Vals → Regs.RegFile
  | r :: rs, rd :: rds, v :: vs => mk r rd v :: zip3 mk rs rds vs
  | _, _, _ => []

theorem toFileFrom_eq : toFileFrom = zip3 toReg := by
  funext rs rds vs
  induction rs generalizing rds vs <;> cases rds <;> cases vs <;> simp [toFileFrom, zip3, *]

theorem toFileFromG_eq : toFileFromG = zip3 toRegG := by
  funext rs rds vs
  induction rs generalizing rds vs <;> cases rds <;> cases vs <;> simp [toFileFromG, zip3, *]

theorem zip3_getElem? (mk : RegL → RegD → Nat → Regs.Reg) {rs : List RegL} {rds : List RegD} {vs : Vals} (i : Nat)
    (h : Aligned3 rs rds vs) : (zip3 mk rs rds vs)[i]? = match rs[i]?, rds[i]?, vs[i]? with
      | some r, some rd, some v => some (mk r rd v)
      | _, _, _ => none := by
  induction h generalizing i with
  | nil => simp [zip3]
  | cons _ _ ih =>
    cases i with
    | zero => simp [zip3]
    | succ j => simpa [zip3] using ih j

theorem zip3_length (mk : RegL → RegD → Nat → Regs.Reg) {rs : List RegL} {rds : List RegD} {vs : Vals}
    (h : Aligned3 rs rds vs) : (zip3 mk rs rds vs).length = rs.length := by
  induction h with
  | nil => rfl
  | cons _ _ ih => simp [zip3, ih]

theorem zip3_pick {mk : RegL → RegD → Nat → Regs.Reg} {rs : List RegL} {rds : List RegD} {vs : Vals} {i : Nat} {x : Regs.Reg}
    (h : Aligned3 rs rds vs) (hx : (zip3 mk rs rds vs)[i]? = some x) :
    ∃ r rd v, rs[i]? = some r ∧ rds[i]? = some rd ∧ vs[i]? = some v ∧ x = mk r rd v := by
  rw [zip3_getElem? mk i h] at hx
  split at hx
  · next r rd v h1 h2 h3 => exact ⟨r, rd, v, h1, h2, h3, (Option.some.inj hx).symm⟩
  · cases hx

theorem toFileFrom_getElem? {rs : List RegL} {rds : List RegD} {vs : Vals} (i : Nat) (h : Aligned3 rs rds vs) :
    (toFileFrom rs rds vs)[i]? = match rs[i]?, rds[i]?, vs[i]? with
      | some r, some rd, some v => some (toReg r rd v)
      | _, _, _ => none := toFileFrom_eq ▸ zip3_getElem? toReg i h

theorem toFileFrom_length {rs : List RegL} {rds : List RegD} {vs : Vals} (h : Aligned3 rs rds vs) :
    (toFileFrom rs rds vs).length = rs.length := toFileFrom_eq ▸ zip3_length toReg h

theorem aligned3_lengths : ∀ {rs : List RegL} {rds : List RegD} {vs : Vals}, Aligned3 rs rds vs →
    rds.length = rs.length ∧ vs.length = rs.length := by
  intro rs rds vs h
  induction h with
  | nil => exact ⟨rfl, rfl⟩
  | cons _ _ ih => simp [ih.1, ih.2]

theorem pick3 {rs : List RegL} {rds : List RegD} {vs : Vals} {i : Nat} {x : Regs.Reg} (h : Aligned3 rs rds vs)
    (hx : (toFileFrom rs rds vs)[i]? = some x) :
    ∃ r rd v, rs[i]? = some r ∧ rds[i]? = some rd ∧ vs[i]? = some v ∧ x = toReg r rd v :=
  zip3_pick h (toFileFrom_eq ▸ hx)

theorem toMeta_reg {d : LayoutD} {i : Nat} {rd : RegD} (h : d.regs[i]? = some rd) : (toMeta d).reg i = toRegMeta rd := by
  simp [Regs.Meta.reg, toMeta, List.getD_eq_getElem?_getD, List.getElem?_map, h]

/-- the C11 configuration round trip for a layout whose registers are built by `mk`: if every register, in the two states, meets
    the C11 conditions (`hok`) and `val` of what the round trip leaves in a register is its value in `vals` (`hval`), the
    configuration of state `vals` loads into state `init` and gives `vals` back -/
theorem config_roundtrip_vals (mk : RegL → RegD → Nat → Regs.Reg) (val : Regs.Reg → Nat) (l : Layout) (d : LayoutD)
    (vals init : Vals) (ha : Aligned3 l.regs d.regs vals) (hai : Aligned3 l.regs d.regs init)
    (hok : ∀ (i : Nat) (r : RegL) (rd : RegD) (v v0 : Nat), l.regs[i]? = some r → d.regs[i]? = some rd → vals[i]? = some v →
      init[i]? = some v0 → C11.RegOK (toRegMeta rd) (mk r rd v) (mk r rd v0))
    (hval : ∀ (i : Nat) (r : RegL) (rd : RegD) (v v0 : Nat) (r' : Regs.Reg), l.regs[i]? = some r → d.regs[i]? = some rd →
      vals[i]? = some v → init[i]? = some v0 → C11.RegRT (toRegMeta rd) (mk r rd v) (mk r rd v0) r' → val r' = v) :
    ∃ cfg rf', Regs.getConfig (toMeta d) (zip3 mk l.regs d.regs vals) = .ok cfg ∧
      Regs.loadConfig (toMeta d) (zip3 mk l.regs d.regs init) cfg = .ok rf' ∧ rf'.map val = vals := by
  obtain ⟨hdl, hvl⟩ := aligned3_lengths ha
  obtain ⟨cfg, rf', h1, h2, h3, h4⟩ := C11.config_roundtrip (toMeta d) (zip3 mk l.regs d.regs vals) (zip3 mk l.regs d.regs init)
    (by rw [zip3_length mk hai, zip3_length mk ha]) (by
    intro i x x0 hx hx0
    obtain ⟨r, rd, v, hr, hrd, hv, rfl⟩ := zip3_pick ha hx
    obtain ⟨r', rd', v0, hr', hrd', hv0, rfl⟩ := zip3_pick hai hx0
    cases hr.symm.trans hr'; cases hrd.symm.trans hrd'
    exact toMeta_reg hrd ▸ hok i r rd v v0 hr hrd hv hv0)
  refine ⟨cfg, rf', h1, h2, List.ext_getElem? fun i => ?_⟩
  rw [List.getElem?_map]
  cases hvi : vals[i]? with
  | none => rw [List.getElem?_eq_none (by rw [h3, zip3_length mk ha, ← hvl]; exact List.getElem?_eq_none_iff.1 hvi)]; rfl
  | some v =>
    have hi : i < l.regs.length := hvl ▸ (List.getElem?_eq_some_iff.1 hvi).1
    obtain ⟨r, hr⟩ : ∃ r, l.regs[i]? = some r := ⟨_, List.getElem?_eq_getElem hi⟩
    obtain ⟨rd, hrd⟩ : ∃ rd, d.regs[i]? = some rd := ⟨_, List.getElem?_eq_getElem (hdl ▸ hi)⟩
    obtain ⟨v0, hv0⟩ : ∃ v0, init[i]? = some v0 := ⟨_, List.getElem?_eq_getElem ((aligned3_lengths hai).2 ▸ hi)⟩
    obtain ⟨r', hr', hrt⟩ := h4 i _ _ (by rw [zip3_getElem? mk i ha, hr, hrd, hvi]) (by rw [zip3_getElem? mk i hai, hr, hrd, hv0])
    rw [hr', Option.map_some, hval i r rd v v0 r' hr hrd hvi hv0 (toMeta_reg hrd ▸ hrt)]

/-- the state of a fresh object holds `rd.init` for the register with details `rd` -/
theorem initVals_get {d : LayoutD} {i : Nat} {rd : RegD} {v0 : Nat} (h : d.regs[i]? = some rd) (hv : d.initVals[i]? = some v0) :
    v0 = rd.init := by
  simp only [LayoutD.initVals, List.getElem?_map, h, Option.map_some, Option.some.injEq] at hv
  exact hv.symm

theorem aligned3_fields : ∀ {rs : List RegL} {rds : List RegD} {vs : Vals} {i : Nat} {r : RegL} {rd : RegD}, Aligned3 rs rds vs →
    rs[i]? = some r → rds[i]? = some rd → r.fields.length = rd.fields.length := by
  intro rs rds vs i r rd h
  induction h generalizing i with
  | nil => intro hr; simp at hr
  | cons hf _ ih =>
    intro hr hrd
    cases i with
    | zero => simp at hr hrd; subst hr; subst hrd; exact hf
    | succ j => exact ih (by simpa using hr) (by simpa using hrd)

theorem aligned3_of_alignedB : ∀ {rs : List RegL} {rds : List RegD} {vs : Vals},
    zipAll (fun (r : RegL) (rd : RegD) => r.fields.length == rd.fields.length) rs rds = true → vs.length = rs.length →
    Aligned3 rs rds vs := by
  intro rs
  induction rs with
  | nil =>
    intro rds vs h hl
    cases rds with
    | nil => cases vs with | nil => exact .nil | cons _ _ => simp at hl
    | cons _ _ => simp [zipAll] at h
  | cons r rs ih =>
    intro rds vs h hl
    cases rds with
    | nil => simp [zipAll] at h
    | cons rd rds =>
      cases vs with
      | nil => simp at hl
      | cons v vs =>
        simp only [zipAll, Bool.and_eq_true, beq_iff_eq] at h
        exact .cons h.1 (ih h.2 (by simpa using hl))

end SpsdkVerif.CfgArea
