/-
Facts shared by the C08 proof files: fixed-width pairs of big-endian numbers, first-match loops over a table in which at
most one entry passes the test, and the length tests of `ECDSASignature` in arithmetic form.
-/
import SpsdkVerif.Model.Keys
import SpsdkVerif.Proofs.Misc

namespace SpsdkVerif.Keys
open SpsdkVerif SpsdkVerif.Misc SpsdkVerif.Generated

theorem take_pair (w a b : Nat) : (beEnc w a ++ beEnc w b).take w = beEnc w a :=
  List.take_left' (beEnc_length' w a)

theorem drop_pair (w a b : Nat) : (beEnc w a ++ beEnc w b).drop w = beEnc w b :=
  List.drop_left' (beEnc_length' w a)

theorem pair_length (w a b : Nat) : (beEnc w a ++ beEnc w b).length = 2 * w := by
  rw [List.length_append, beEnc_length', beEnc_length']; omega

theorem toBytes_ok (w n : Nat) (h : n < 256 ^ w) : toBytes w n = .ok (beEnc w n) := by
  simp [toBytes, h]

theorem rawPair_ok (w a b : Nat) (ha : a < 256 ^ w) (hb : b < 256 ^ w) :
    rawPair w a b = .ok (beEnc w a ++ beEnc w b) := by
  simp [rawPair, toBytes_ok, ha, hb]

theorem cl_values : Curve.p256.cl = 32 ∧ Curve.p384.cl = 48 ∧ Curve.p521.cl = 66 := by decide

theorem sigTable_eq : sigTable = [(.p256, 32), (.p384, 48), (.p521, 66)] := by decide

/-- no two entries of the list pass `p` -/
def Excl {α} (p : α → Bool) (l : List α) : Prop := l.Pairwise (fun a b => p a = true → p b = false)

theorem Excl.length_filter {α} {p : α → Bool} : ∀ {l : List α}, Excl p l → (l.filter p).length ≤ 1
  | [], _ => Nat.zero_le 1
  | a :: l, h => by
    have ⟨h1, h2⟩ := List.pairwise_cons.1 h
    rw [List.filter_cons]
    split
    · rename_i ha
      rw [List.filter_eq_nil_iff.2 (fun b hb => by simp [h1 b hb ha])]; exact Nat.le_refl 1
    · exact Excl.length_filter h2

theorem Excl.find? {α} {p : α → Bool} : ∀ {l : List α}, Excl p l → ∀ x, l.find? p = some x ↔ x ∈ l ∧ p x = true
  | [], _, x => by simp
  | a :: l, h, x => by
    have ⟨h1, h2⟩ := List.pairwise_cons.1 h
    rw [List.find?_cons]
    cases ha : p a
    · rw [Excl.find? h2 x, List.mem_cons]
      exact ⟨fun ⟨hm, hp⟩ => ⟨.inr hm, hp⟩, fun ⟨hm, hp⟩ => ⟨hm.resolve_left (fun e => by simp [e, ha] at hp), hp⟩⟩
    · simp only [Option.some.injEq, List.mem_cons]
      exact ⟨fun e => e ▸ ⟨.inl rfl, ha⟩, fun ⟨hm, hp⟩ => (hm.resolve_right (fun hx => by simp [h1 x hx ha] at hp)).symm⟩

theorem excl_three {α} (p : α → Bool) (a b c : α)
    (h : ((p a = true → p b = false) ∧ (p a = true → p c = false)) ∧ (p b = true → p c = false)) : Excl p [a, b, c] := by
  simpa only [Excl, List.pairwise_cons, List.mem_cons, List.not_mem_nil, or_false, forall_eq_or_imp, forall_eq,
    List.Pairwise.nil, and_true, false_imp_iff, implies_true] using h

theorem length_filterMap_map {α β γ} (f : α → Option β) (g : α → β → γ) (l : List α) :
    (l.filterMap (fun a => (f a).map (g a))).length = (l.filter (fun a => (f a).isSome)).length := by
  induction l with
  | nil => rfl
  | cons a l ih => cases h : f a <;> simp [h, ih]

theorem sigStep_iff (L c : Nat) :
    KeysTables.sigCurveStep L c = true ↔ (L = c * 2 ∨ (c * 2 + 3 ≤ L ∧ L < c * 2 + 9)) := by
  simp [KeysTables.sigCurveStep]

/-- the raw lengths and DER windows of the three curves are pairwise disjoint -/
theorem sigStep_excl (L : Nat) : Excl (fun p : Curve × Nat => KeysTables.sigCurveStep L p.2) sigTable := by
  rw [sigTable_eq]
  refine excl_three _ _ _ _ ?_
  simp only [← Bool.not_eq_true, sigStep_iff]
  omega

/-- the table lists every curve once, with its coordinate length -/
theorem mem_sigTable (c : Curve) (l : Nat) : (c, l) ∈ sigTable ↔ l = c.cl := by
  have := cl_values
  cases c <;> simp [sigTable_eq, *]

theorem sigCurve_ok_iff (L : Nat) (c : Curve) :
    sigCurve L = .ok c ↔ (L = 2 * c.cl ∨ (2 * c.cl + 3 ≤ L ∧ L ≤ 2 * c.cl + 8)) := by
  have hf := (sigStep_excl L).find?
  -- the loop answers `c` iff it stops at `c`'s own entry, i.e. iff `c`'s test passes
  have : sigCurve L = .ok c ↔ sigTable.find? (fun p => KeysTables.sigCurveStep L p.2) = some (c, c.cl) := by
    unfold sigCurve
    cases h : sigTable.find? (fun p => KeysTables.sigCurveStep L p.2) with
    | none => simp
    | some x =>
      obtain ⟨c', l⟩ := x
      have := (mem_sigTable c' l).1 ((hf _).1 h).1
      subst this
      simp only [Except.ok.injEq, Option.some.injEq, Prod.mk.injEq]
      exact ⟨fun e => e ▸ ⟨rfl, rfl⟩, fun e => e.1⟩
  rw [this, hf, mem_sigTable, sigStep_iff]
  omega

theorem div_two_eq_iff (L k : Nat) : L / 2 = k ↔ L = 2 * k ∨ L = 2 * k + 1 := by omega

/-- exactly these signature lengths are taken for raw `r ‖ s` before any DER decoding is attempted -/
theorem sniffed_raw_lengths (L : Nat) :
    KeysTables.sigSniffNxp L = true ↔ L ∈ [64, 65, 96, 97, 132, 133] := by
  simp only [KeysTables.sigSniffNxp, KeysTables.coordinateLengths, List.map_cons, List.map_nil, List.contains_cons,
    List.contains_nil, Bool.or_false, Bool.or_eq_true, beq_iff_eq, List.mem_cons, List.not_mem_nil, or_false,
    div_two_eq_iff, or_assoc, Nat.reduceMul, Nat.reduceAdd]

end SpsdkVerif.Keys
