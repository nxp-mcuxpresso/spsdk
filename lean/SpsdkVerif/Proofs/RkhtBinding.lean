/-
The root-of-trust value BINDS the key list (C03, negative statement as a reduction): two key lists of the documented domain
(same RoT type, same number of keys) with the same fuse value are equal, or the proof exhibits a hash collision (`Crypto.Break`).
Of the hash only `CryptoLaws.hash_len` is assumed.
-/
import SpsdkVerif.Proofs.Rkht
import SpsdkVerif.Crypto.Break

namespace SpsdkVerif.Rkht
open SpsdkVerif SpsdkVerif.Spec
open SpsdkVerif.Misc hiding Bytes
open SpsdkVerif.Crypto (HashAlg CryptoOps CryptoLaws Bytes Break)

theorem beEnc_inj (w a b : Nat) (ha : a < 256 ^ w) (hb : b < 256 ^ w) (h : beEnc w a = beEnc w b) : a = b := by
  have := congrArg beDec h
  rwa [beDec_beEnc_mod, beDec_beEnc_mod, Nat.mod_eq_of_lt ha, Nat.mod_eq_of_lt hb] at this

theorem beMin_inj (a b : Nat) (h : beMin a = beMin b) : a = b := by
  have hl : byteLen a = byteLen b := by
    have := congrArg List.length h
    simpa [beMin, beEnc_length'] using this
  unfold beMin at h
  rw [hl] at h
  exact beEnc_inj _ a b (by rw [← hl]; exact (byteLen_spec a).1) (byteLen_spec b).1 h

theorem append_inj_len {α} {a b c d : List α} (h : a ++ b = c ++ d) (hl : a.length = c.length) : a = c ∧ b = d :=
  List.append_inj h hl

theorem flatten_inj (m : Nat) : ∀ (l l' : List Bytes), (∀ x ∈ l, x.length = m) → (∀ x ∈ l', x.length = m) → l.length = l'.length →
    l.flatten = l'.flatten → l = l'
  | [], [], _, _, _, _ => rfl
  | [], _ :: _, _, _, hl, _ => by simp at hl
  | _ :: _, [], _, _, hl, _ => by simp at hl
  | a :: l, b :: l', h1, h2, hl, hf => by
    simp only [List.flatten_cons] at hf
    obtain ⟨e1, e2⟩ := List.append_inj hf (by rw [h1 a (by simp), h2 b (by simp)])
    rw [e1, flatten_inj m l l' (fun x hx => h1 x (by simp [hx])) (fun x hx => h2 x (by simp [hx])) (by simpa using hl) e2]

theorem rsa_byteLen {n e : Nat} (h : keyOK (.rsa n e) = true) :
    (byteLen n = 256 ∨ byteLen n = 384 ∨ byteLen n = 512) ∧ 1 ≤ byteLen e ∧ byteLen e ≤ 4 := by
  obtain ⟨⟨bits, hb, h1, h2⟩, he0, he⟩ := keyOK_rsa h
  refine ⟨?_, byteLen_pos e (by omega), byteLen_le_of_lt e 4 (by simpa using he)⟩
  rcases hb with hb | hb | hb <;> subst hb
  · exact Or.inl (byteLen_of_bounds n 2048 (by decide) (by decide) h1 h2)
  · exact Or.inr (Or.inl (byteLen_of_bounds n 3072 (by decide) (by decide) h1 h2))
  · exact Or.inr (Or.inr (byteLen_of_bounds n 4096 (by decide) (by decide) h1 h2))

/-- the hashed key material determines the key: RSA keys of the domain, and EC keys on one curve -/
theorem material_inj_rsa {n e n' e' : Nat} (h : keyOK (.rsa n e) = true) (h' : keyOK (.rsa n' e') = true)
    (hm : (Key.rsa n e).material = (Key.rsa n' e').material) : n = n' ∧ e = e' := by
  obtain ⟨a1, a2, a3⟩ := rsa_byteLen h
  obtain ⟨b1, b2, b3⟩ := rsa_byteLen h'
  simp only [Key.material] at hm
  have hl := congrArg List.length hm
  simp only [List.length_append, beMin_len] at hl
  have hn : (beMin n).length = (beMin n').length := by rw [beMin_len, beMin_len]; omega
  obtain ⟨e1, e2⟩ := List.append_inj hm hn
  exact ⟨beMin_inj _ _ e1, beMin_inj _ _ e2⟩

theorem material_inj_ecc {cv : Curve} {x y x' y' : Nat} (h : keyOK (.ecc cv x y) = true) (h' : keyOK (.ecc cv x' y') = true)
    (hm : (Key.ecc cv x y).material = (Key.ecc cv x' y').material) : x = x' ∧ y = y' := by
  obtain ⟨a1, a2⟩ := keyOK_ecc h
  obtain ⟨b1, b2⟩ := keyOK_ecc h'
  simp only [Key.material] at hm
  obtain ⟨e1, e2⟩ := List.append_inj hm (by rw [beEnc_length', beEnc_length'])
  exact ⟨beEnc_inj _ _ _ a1 b1 e1, beEnc_inj _ _ _ a2 b2 e2⟩

/-- keys of one "family" (all RSA of the domain, or all on one curve): equal per-key hashes mean equal keys or a collision -/
theorem keyHashes_binding (c : CryptoOps) (D : Key → Prop)
    (hinj : ∀ k k', D k → D k' → k.hashAlg = k'.hashAlg ∧ (k.material = k'.material → k = k')) :
    ∀ (ks ks' : List Key), (∀ k ∈ ks, D k) → (∀ k ∈ ks', D k) → ks.map (keyHash c) = ks'.map (keyHash c) → ks = ks' ∨ Break c
  | [], [], _, _, _ => Or.inl rfl
  | [], _ :: _, _, _, h => by simp at h
  | _ :: _, [], _, _, h => by simp at h
  | k :: ks, k' :: ks', h1, h2, h => by
    simp only [List.map_cons, List.cons.injEq] at h
    obtain ⟨ha, hm⟩ := hinj k k' (h1 k (by simp)) (h2 k' (by simp))
    by_cases hmat : k.material = k'.material
    · have hk := hm hmat
      rcases keyHashes_binding c D hinj ks ks' (fun x hx => h1 x (by simp [hx])) (fun x hx => h2 x (by simp [hx])) h.2 with e | b
      · exact Or.inl (by rw [hk, e])
      · exact Or.inr b
    · refine Or.inr (Break.collision k.hashAlg k.material k'.material hmat ?_)
      have := h.1
      simp only [keyHash] at this
      rw [this, ha]

def DRsa (k : Key) : Prop := keyOK k = true ∧ k.isRsa = true
def DEcc (cv : Curve) (k : Key) : Prop := keyOK k = true ∧ k.curve? = some cv

theorem DRsa_inj : ∀ k k', DRsa k → DRsa k' → k.hashAlg = k'.hashAlg ∧ (k.material = k'.material → k = k') := by
  intro k k' h h'
  cases k with
  | ecc _ _ _ => have := h.2; simp [Key.isRsa] at this
  | rsa n e =>
    cases k' with
    | ecc _ _ _ => have := h'.2; simp [Key.isRsa] at this
    | rsa n' e' =>
      refine ⟨rfl, fun hm => ?_⟩
      obtain ⟨a, b⟩ := material_inj_rsa h.1 h'.1 hm
      rw [a, b]

theorem DEcc_inj (cv : Curve) : ∀ k k', DEcc cv k → DEcc cv k' → k.hashAlg = k'.hashAlg ∧ (k.material = k'.material → k = k') := by
  intro k k' h h'
  obtain ⟨x, y, rfl⟩ := key_of_curve h.2
  obtain ⟨x', y', rfl⟩ := key_of_curve h'.2
  refine ⟨rfl, fun hm => ?_⟩
  obtain ⟨a, b⟩ := material_inj_ecc h.1 h'.1 hm
  rw [a, b]

/-- cert block v1: two key lists of the domain with the same number of keys and the same RKTH are equal, or the proof
    exhibits a SHA-256 collision (of the two tables or of two keys' material) -/
theorem rotkhV1_binding (c : CryptoOps) (hc : CryptoLaws c) (ks ks' : List Key) (h : KeysOK .certBlock1 ks) (h' : KeysOK .certBlock1 ks')
    (hl : ks.length = ks'.length) (he : rotkhV1 c ks = rotkhV1 c ks') : ks = ks' ∨ Break c := by
  obtain ⟨_, h4, hk⟩ := keysOK_cb1 h
  obtain ⟨_, h4', hk'⟩ := keysOK_cb1 h'
  by_cases ht : rkhTableV1 c ks = rkhTableV1 c ks'
  · have h32 : ∀ {l : List Key}, KeysOK .certBlock1 l →
        ∀ x ∈ l.map (keyHash c) ++ List.replicate (4 - l.length) (List.replicate 32 (0 : UInt8)), x.length = 32 := fun hl' => by
      have := tbl_len32 _ (wftab_cb1 c hc hl').2
      rwa [tbl, List.length_map] at this
    have := flatten_inj 32 _ _ (h32 h) (h32 h') (by simp [hl]) ht
    obtain ⟨e1, _⟩ := List.append_inj this (by simp [hl])
    exact keyHashes_binding c DRsa DRsa_inj ks ks' hk hk' e1
  · exact Or.inr (Break.collision .sha256 _ _ ht he)

theorem hashAlg_size_inj_curve {cv cv' : Curve} (h1 : cv ≠ .p521) (h2 : cv' ≠ .p521) (h : cv.hashAlg.size = cv'.hashAlg.size) : cv = cv' := by
  cases cv <;> cases cv' <;> first | rfl | (exact absurd rfl h1) | (exact absurd rfl h2) | (simp [Curve.hashAlg, HashAlg.size] at h)

/-- cert block v2.1: the same for two key lists of the domain with the same number of keys -/
theorem rotkhV21_binding (c : CryptoOps) (hc : CryptoLaws c) (ks ks' : List Key) (h : KeysOK .certBlock21 ks) (h' : KeysOK .certBlock21 ks')
    (hl : ks.length = ks'.length) (he : rotkhV21 c ks = rotkhV21 c ks') : ks = ks' ∨ Break c := by
  obtain ⟨h1, _, hk, _⟩ := keysOK_cb21 h
  obtain ⟨h1', _, hk', _⟩ := keysOK_cb21 h'
  obtain ⟨cv, hne, hall⟩ := cb21_curve h
  obtain ⟨cv', hne', hall'⟩ := cb21_curve h'
  -- the digest length tells the curve
  have len : ∀ {cv : Curve} {l : List Key}, 1 ≤ l.length → (∀ k ∈ l, k.curve? = some cv) →
      (rotkhV21 c l).length = cv.hashAlg.size := by
    intro cv l h1 hall
    cases l with
    | nil => simp at h1
    | cons k0 r => cases r <;> simp [rotkhV21, keyHash, hc.hash_len, hashAlg_of_curve (hall k0 (by simp))]
  have hsame : cv = cv' := by
    apply hashAlg_size_inj_curve hne hne'
    rw [← len h1 hall, ← len h1' hall', he]
  subst hsame
  have hD : ∀ k ∈ ks, DEcc cv k := fun k hk1 => ⟨hk k hk1, hall k hk1⟩
  have hD' : ∀ k ∈ ks', DEcc cv k := fun k hk1 => ⟨hk' k hk1, hall' k hk1⟩
  match ks, ks', hl, he, hD, hD', h1 with
  | [k], [k'], _, he, hD, hD', _ =>
    exact keyHashes_binding c (DEcc cv) (DEcc_inj cv) [k] [k'] hD hD' (by simpa [rotkhV21] using he)
  | k0 :: k1 :: r, k0' :: k1' :: r', hl, he, hD, hD', _ =>
    simp only [rotkhV21, hashAlg_of_curve (hD k0 (by simp)).2, hashAlg_of_curve (hD' k0' (by simp)).2] at he
    by_cases ht : ctrkTable c (k0 :: k1 :: r) = ctrkTable c (k0' :: k1' :: r')
    · have := flatten_inj _ _ _ (keyHashes_len c hc fun k hk1 => hashAlg_of_curve (hD k hk1).2)
        (keyHashes_len c hc fun k hk1 => hashAlg_of_curve (hD' k hk1).2) (by simpa using hl) ht
      exact keyHashes_binding c (DEcc cv) (DEcc_inj cv) _ _ hD hD' this
    · exact Or.inr (Break.collision cv.hashAlg _ _ ht he)

end SpsdkVerif.Rkht
