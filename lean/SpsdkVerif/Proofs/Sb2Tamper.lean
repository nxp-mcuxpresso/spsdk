/-
C04 helper lemmas, tamper side: one changed byte in the section area of a file is a changed piece (`set_piece`), which is walked
down the section list to the region of one section (`readSection_header_tampered`, `_macs_tampered`, `_body_tampered` of
Proofs/Sb2Section.lean); the section reader's refusal is the image reader's refusal by `romV21_front` / `romV20_front`
(Properties/C04.lean).  Also: fields the ROM recomputes (SHA-256 of V2.1, header MAC of V2.0), and `take_ne_of_diff` for the
signed range.
-/
import SpsdkVerif.Proofs.Sb2Image

namespace SpsdkVerif.Sb2
open SpsdkVerif SpsdkVerif.Sb2.Rom
open SpsdkVerif.Misc (Bytes beEnc beDec leEnc leDec)
open SpsdkVerif.Crypto (CryptoOps CryptoLaws Break xorBytes zeroPad16 zeros hmac kwWrap kwUnwrap)
open SpsdkVerif.Generated

variable {c : CryptoOps}

theorem set_ne_self (l : Bytes) (j : Nat) (v : UInt8) (hj : j < l.length) (hv : some v ≠ l[j]?) : l.set j v ≠ l := by
  intro e
  apply hv
  rw [← List.getElem?_set_self (a := v) hj, e]

/-- a byte changed inside the piece `x` of `a ++ x ++ b` is a changed piece of the same length between the same neighbours -/
theorem set_piece {a x b : Bytes} {i : Nat} {v : UInt8} (h1 : a.length ≤ i) (h2 : i < a.length + x.length)
    (hv : some v ≠ (a ++ x ++ b)[i]?) :
    (a ++ x ++ b).set i v = a ++ x.set (i - a.length) v ++ b ∧ x.set (i - a.length) v ≠ x ∧
    (x.set (i - a.length) v).length = x.length := by
  rw [List.getElem?_append_left (by rw [List.length_append]; exact h2), List.getElem?_append_right h1] at hv
  refine ⟨?_, set_ne_self _ _ _ (by omega) hv, List.length_set⟩
  rw [List.append_assoc, List.set_append, if_neg (by omega), List.set_append, if_pos (by omega), List.append_assoc]

/-- the same for the window `[a, a+n)` of `l` -/
theorem set_window (l : Bytes) (a n j : Nat) (v : UInt8) (h1 : a ≤ j) (h2 : j < a + n) (h3 : a + n ≤ l.length)
    (hv : some v ≠ l[j]?) :
    ∃ w : Bytes, w.length = n ∧ w ≠ (l.drop a).take n ∧ l.set j v = l.take a ++ w ++ l.drop (a + n) := by
  have la : (l.take a).length = a := by rw [List.length_take]; omega
  have lm : ((l.drop a).take n).length = n := by rw [List.length_take, List.length_drop]; omega
  have e : l = l.take a ++ (l.drop a).take n ++ l.drop (a + n) := by
    rw [List.append_assoc, ← List.drop_drop, List.take_append_drop, List.take_append_drop]
  rw [e] at hv
  obtain ⟨p1, p2, p3⟩ := set_piece (by rw [la]; exact h1) (by rw [la, lm]; exact h2) hv
  exact ⟨_, p3.trans lm, p2, by rw [← e] at p1; exact p1⟩

theorem readSection_byte_tampered (h : CryptoLaws c) (dek mac nonce pre post : Bytes) (s : Section)
    (wf : Spec.WFsection s) (hpre : pre.length % 16 = 0) (j : Nat) (v : UInt8) (hj : j < Spec.sectionLen s)
    (hv : some v ≠ (buildSection c dek mac nonce (nonceCtr nonce + pre.length / 16) s)[j]?) :
    (∃ e, Rom.readSection c dek mac nonce
        (pre ++ (buildSection c dek mac nonce (nonceCtr nonce + pre.length / 16) s).set j v ++ post) pre.length
          = .error e) ∨ Break c := by
  have hl0 : (buildSection c dek mac nonce (nonceCtr nonce + pre.length / 16) s).length = Spec.sectionLen s :=
    buildSectionWith_length h _ _ _ _ _ s wf
  have hlen : Spec.sectionLen s = 16 + 32 + 32 * Spec.macCount s + Spec.cmdsLen s.cmds := rfl
  have k1 := readSection_header_tampered h dek mac nonce pre post s wf
  have k2 := readSection_macs_tampered h dek mac nonce pre post s wf hpre
  have k3 := readSection_body_tampered h dek mac nonce pre post s wf hpre
  generalize buildSection c dek mac nonce (nonceCtr nonce + pre.length / 16) s = b at *
  by_cases c1 : j < 16
  · obtain ⟨w, lw, hw, e⟩ := set_window b 0 16 j v (Nat.zero_le j) (by omega) (by omega) hv
    rw [e, List.take_zero, List.nil_append]
    exact (k1 w lw hw).imp_left (fun k => ⟨_, by rw [← List.append_assoc]; exact k⟩)
  · by_cases c2 : j < 48 + 32 * Spec.macCount s
    · obtain ⟨w, lw, hw, e⟩ := set_window b 16 (32 + 32 * Spec.macCount s) j v (by omega) (by omega) (by omega) hv
      rw [e, ← List.append_assoc, ← List.append_assoc, show 16 + (32 + 32 * Spec.macCount s) = 48 + 32 * Spec.macCount s by omega]
      exact Or.inl ⟨_, k2 w lw hw⟩
    · obtain ⟨w, lw, hw, e⟩ := set_window b (48 + 32 * Spec.macCount s) (Spec.cmdsLen s.cmds) j v (by omega) (by omega)
        (by omega) hv
      rw [List.take_of_length_le (by rw [List.length_drop]; omega)] at hw
      rw [e, List.drop_of_length_le (by omega), List.append_nil, ← List.append_assoc]
      exact (k3 w lw hw).imp_left (fun k => ⟨_, k⟩)

theorem readSections_byte_tampered (h : CryptoLaws c) (dek mac nonce post : Bytes) (ss : List Section)
    (wf : ∀ s ∈ ss, Spec.WFsection s) (pre : Bytes) (hpre : pre.length % 16 = 0) (fuel : Nat) (hf : ss.length ≤ fuel)
    (j : Nat) (v : UInt8) (hj : j < Spec.sectionsLen ss)
    (hv : some v ≠ (buildSections c dek mac nonce (nonceCtr nonce + pre.length / 16) ss)[j]?) :
    (∃ e, Rom.readSections c dek mac nonce
        (pre ++ (buildSections c dek mac nonce (nonceCtr nonce + pre.length / 16) ss).set j v ++ post)
        (pre.length + Spec.sectionsLen ss) fuel pre.length = .error e) ∨ Break c := by
  induction ss generalizing pre fuel j with
  | nil => exact absurd hj (Nat.not_lt_zero j)
  | cons s rest ih =>
    have wfs := wf s List.mem_cons_self
    have ⟨_, r2, r3⟩ := rawSize_eq_sectionLen s wfs
    obtain ⟨hl, hB⟩ := buildSections_cons h dek mac nonce pre s rest wfs
    have ktamper := fun post' => readSection_byte_tampered h dek mac nonce pre post' s wfs hpre
    have kgood := fun post' => readSection_buildSection h dek mac nonce pre post' s wfs hpre
    rw [hB] at hv ⊢
    generalize buildSection c dek mac nonce (nonceCtr nonce + pre.length / 16) s = b at *
    have lb : b.length = Spec.sectionLen s := by rw [List.length_append] at hl; omega
    cases fuel with
    | zero => exact absurd hf (Nat.not_succ_le_zero _)
    | succ f =>
      rw [sectionsLen_cons] at hj ⊢
      rw [Rom.readSections, if_neg (by omega), if_neg (by omega), List.set_append]
      by_cases cj : j < b.length
      · rw [List.getElem?_append_left cj] at hv
        rw [if_pos cj, List.append_assoc pre, List.append_assoc _ _ post, ← List.append_assoc pre]
        exact (ktamper _ j v (by omega) hv).imp_left (Exists.imp fun e ke => by rw [ke])
      · rw [List.getElem?_append_right (by omega)] at hv
        rw [if_neg cj, List.append_assoc pre, List.append_assoc _ _ post, ← List.append_assoc pre, kgood]
        simp only []
        rw [← List.append_assoc, ← Nat.add_assoc, ← hl]
        exact (ih (fun x hx => wf x (List.mem_cons_of_mem _ hx)) (pre ++ b) (by rw [hl]; omega) f
          (Nat.le_of_succ_le_succ hf) (j - b.length) (by omega) hv).imp_left (Exists.imp fun e ke => by rw [ke])

theorem tail21_of_error (h : Rom.Hdr) (dek mac M S B sig cert : Bytes) (n : Nat) (e : RomErr) :
    ∃ e', tail21 c h dek mac M S B sig cert n (.error e) = .error e' := by
  unfold tail21
  split
  · exact ⟨_, rfl⟩
  · exact ⟨_, rfl⟩

/-- SB 2.1 with the SHA-256 field replaced: refused (no crypto assumption: the ROM recomputes and compares) -/
theorem romV21_sha_replaced (h : CryptoLaws c) (cfg : Cfg) (wf : Spec.WF21 cfg) (M S : Bytes)
    (lM : M.length = 32) (lS : S.length = shaLen21 cfg) (hS : S ≠ shaField21 c cfg) :
    Rom.romV21 c cfg.kek (front21 c cfg M S ++ cfg.bsData21 c) = .error .badSha := by
  rw [romV21_front h cfg wf M S _ lM lS (bsData21_length h cfg wf)]
  unfold tail21
  rcases shaLen21_cases cfg with ⟨hf, hs, -⟩ | ⟨-, hs, hl⟩
  · rw [shaField21, hs, if_pos rfl] at hS
    rw [if_pos (by rw [decide_eq_true (show (hd21 cfg).flags &&& _ ≠ 0 from hf), Bool.true_and, bne_iff_ne]; exact hS)]
  · rw [shaField21, hs] at hS
    exact absurd (List.eq_nil_of_length_eq_zero (lS.trans hl)) hS

/-- one changed byte inside the SHA-256 field (flag 0x8000) of an SB 2.1 file: always refused -/
theorem romV21_sha_byte_tampered (h : CryptoLaws c) (cfg : Cfg) (wf : Spec.WF21 cfg) (i : Nat) (v : UInt8)
    (h1 : 208 + cfg.certBlock.length ≤ i) (h2 : i < 208 + cfg.certBlock.length + shaLen21 cfg)
    (hv : some v ≠ (buildV21 c cfg)[i]?) :
    Rom.romV21 c cfg.kek ((buildV21 c cfg).set i v) = .error .badSha := by
  have lH : (encodeImageHdr cfg.header21).length = 96 := encodeImageHdr_length _ wf.2.2.1 wf.2.2.2.1
  have lM := hmacField21_length h cfg
  have lS := shaField21_length h cfg
  have ⟨lkw, ekb⟩ := keyBlob_eq h cfg.kek cfg.dek cfg.mac wf.1 wf.2.1
  have lP : (encodeImageHdr cfg.header21 ++ hmacField21 c cfg ++ keyBlob c cfg.kek cfg.dek cfg.mac ++ cfg.certBlock).length
      = 208 + cfg.certBlock.length := by
    simp only [List.length_append, lH, lM, ekb, lkw, Crypto.zeros_length]
  have e : buildV21 c cfg = (encodeImageHdr cfg.header21 ++ hmacField21 c cfg ++ keyBlob c cfg.kek cfg.dek cfg.mac ++ cfg.certBlock) ++
      shaField21 c cfg ++ (cfg.signature ++ cfg.bsData21 c) := by
    rw [buildV21_eq, front21]; simp only [List.append_assoc]
  rw [e] at hv ⊢
  obtain ⟨e1, e2, e3⟩ := set_piece (by rw [lP]; exact h1) (by rw [lP, lS]; exact h2) hv
  have key := romV21_sha_replaced h cfg wf _ _ lM (e3.trans lS) e2
  rw [front21] at key
  rw [e1, ← key]; simp only [List.append_assoc]

/-- ANY file that starts with a 96-byte header `H`, a 32-byte field `M` and the wrapped keys, and whose header still points at
    that key blob (block 8, 5 blocks), is refused by the SB 2.0 reader unless `M` is the HMAC of `H` under the wrapped MAC key -/
theorem romV20_header_mac_mismatch (h : CryptoLaws c) (kek dek mac H M T : Bytes) (wdek : dek.length = 32) (wmac : mac.length = 32)
    (lH : H.length = 96) (lM : M.length = 32) (lT : 8 ≤ T.length)
    (hkb : ∀ h', Rom.readImageHdr (H ++ M ++ (kwWrap c kek (dek ++ mac) ++ T)) = .ok h' → h'.keyBlobBlock = 8 ∧ h'.keyBlobBlockCount = 5)
    (hne : M ≠ hmac c .sha256 mac H) :
    ∃ e, Rom.romV20 c kek (H ++ M ++ (kwWrap c kek (dek ++ mac) ++ T)) = .error e := by
  have lkw := (keyBlob_eq h kek dek mac wdek wmac).1
  have d0 : (H ++ M ++ (kwWrap c kek (dek ++ mac) ++ T)).drop 0 = H ++ (M ++ (kwWrap c kek (dek ++ mac) ++ T)) :=
    List.append_assoc _ _ _
  obtain ⟨-, d1⟩ := slice_of_drop d0 lH
  obtain ⟨f2, d2⟩ := slice_of_drop d1 lM
  obtain ⟨f3, -⟩ := slice_of_drop d2 lkw
  have f1 : (H ++ M ++ (kwWrap c kek (dek ++ mac) ++ T)).take 96 = H := by rw [List.append_assoc]; exact List.take_left' lH
  have flen : 208 ≤ (H ++ M ++ (kwWrap c kek (dek ++ mac) ++ T)).length := by
    simp only [List.length_append, lH, lM, lkw]; omega
  generalize H ++ M ++ (kwWrap c kek (dek ++ mac) ++ T) = file at *
  unfold Rom.romV20
  cases hr : Rom.readImageHdr file with
  | error e => exact ⟨_, rfl⟩
  | ok h' =>
    obtain ⟨g6, g7⟩ := hkb h' hr
    simp only []
    by_cases hv : h'.major ≠ 2 ∨ h'.minor ≠ 0
    · rw [if_pos hv]; exact ⟨_, rfl⟩
    · rw [if_neg hv]
      by_cases hb : h'.headerBlocks * 16 ≠ Spec.imageHeaderSize
      · rw [if_pos hb]; exact ⟨_, rfl⟩
      · rw [if_neg hb]
        have hc : Rom.slice file Spec.imageHeaderSize Spec.macSize ≠ hmac c .sha256 mac (file.take Spec.imageHeaderSize) := by
          show Rom.slice file 96 32 ≠ hmac c .sha256 mac (file.take 96)
          rw [f1, f2]; exact hne
        rw [readKeys_ok h kek dek mac file h' g6 g7 flen f3 wdek wmac]
        simp only []
        rw [if_pos hc]
        exact ⟨_, rfl⟩

/-- shape of a built SB 2.0 file: header ‖ HMAC(header) ‖ wrapped keys ‖ at least the 8 padding bytes -/
theorem buildV20_shape (cfg : Cfg) (signed : Bool) (wpad : cfg.padding.length = 8) :
    ∃ T : Bytes, 8 ≤ T.length ∧
      buildV20 c cfg signed = encodeImageHdr (cfg.header20 signed) ++ hmac c .sha256 cfg.mac (encodeImageHdr (cfg.header20 signed)) ++
        (kwWrap c cfg.kek (cfg.dek ++ cfg.mac) ++ T) := by
  refine ⟨cfg.padding ++ (certSect20 c cfg signed ++ (buildSections c cfg.dek cfg.mac cfg.nonce (nonceCtr cfg.nonce +
    (pre20 c cfg (cfg.header20 signed)).length / 16 + (certSect20 c cfg signed).length / 16) cfg.sections ++ sig20 cfg signed)),
    by rw [List.length_append, wpad]; omega, ?_⟩
  rw [buildV20_eq, file20]; simp only [hmac256, pre20, List.append_assoc]

/-- the hypothesis `hkb` of `header_byte_tampered_v20` (Properties/C04.lean) holds for every changed NONCE byte (bytes 0..15): the ROM reads the
    same header with another nonce (this also serves as the non-vacuity witness of that hypothesis) -/
theorem hkb_of_nonce_byte (cfg : Cfg) (signed : Bool) (wf : Spec.WF20 cfg signed) (i : Nat) (v : UInt8) (hi : i < 16) :
    ∀ h', Rom.readImageHdr ((buildV20 c cfg signed).set i v) = .ok h' → h'.keyBlobBlock = 8 ∧ h'.keyBlobBlockCount = 5 := by
  have ⟨hok, hrom⟩ := header20_facts cfg signed wf
  obtain ⟨T, lT, e⟩ := buildV20_shape (c := c) cfg signed wf.2.2.2.1
  have lN : (cfg.header20 signed).nonce.length = 16 := hok.nonce
  let hdr' : ImageHdr := { cfg.header20 signed with nonce := (cfg.header20 signed).nonce.set i v }
  have hok' : HdrOk hdr' :=
    { hok with nonce := by show ((cfg.header20 signed).nonce.set i v).length = 16; rw [List.length_set]; exact lN }
  have henc : (encodeImageHdr (cfg.header20 signed)).set i v = encodeImageHdr hdr' := by
    unfold encodeImageHdr
    simp only [List.append_assoc]
    rw [List.set_append, if_pos (by rw [lN]; exact hi)]
  intro h' hr
  rw [e, List.append_assoc, List.set_append,
    if_pos (by rw [encodeImageHdr_length _ hok.nonce hok.padding]; omega), henc, readImageHdr_encode _ hok'] at hr
  injection hr with hr
  subst hr
  show (cfg.header20 signed).toRom.keyBlobBlock = 8 ∧ (cfg.header20 signed).toRom.keyBlobBlockCount = 5
  rw [hrom]; exact ⟨rfl, rfl⟩

/-- what the signature-coverage theorems of Properties/C04.lean rest on: a file that differs from a built one inside the signed
    range has no prefix, of ANY length, equal to the signed message -/
theorem take_ne_of_diff (f f' : Bytes) (n i : Nat) (hl : f'.length = f.length) (hn : n ≤ f.length) (hi : i < n)
    (hd : f'[i]? ≠ f[i]?) (m : Nat) : f'.take m ≠ f.take n := by
  intro he
  have hlen := congrArg List.length he
  simp only [List.length_take] at hlen
  have hm : f'.take m = f'.take n := by
    by_cases hmn : m ≤ f'.length
    · have : m = n := by omega
      rw [this]
    · rw [List.take_of_length_le (by omega), List.take_of_length_le (by omega)]
  rw [hm] at he
  have h1 : (f'.take n)[i]? = f'[i]? := by rw [List.getElem?_take]; simp [hi]
  have h2 : (f.take n)[i]? = f[i]? := by rw [List.getElem?_take]; simp [hi]
  rw [he, h2] at h1
  exact hd h1.symm

end SpsdkVerif.Sb2
