/-
C13 — OTFAD key blobs: `plain_data` / `export` (RFC 3394 wrap of the first 40 bytes, CRC-32/MPEG-2, byte
reversal, padding to 64) unwraps on the ROM side to the configured context registers; KEK scrambling is an
involution and the whole key-blob table unwraps entry by entry.
-/
import SpsdkVerif.Proofs.FlashEncCommon

namespace SpsdkVerif.FlashEnc
open SpsdkVerif SpsdkVerif.Crypto
open SpsdkVerif.Misc (beEnc beDec leEnc leDec leEnc_length leDec_leEnc)
open SpsdkVerif.Generated.FlashEncConsts

variable {c : CryptoOps}

private theorem kb_width : crcMpegParams.width = 32 := rfl

private theorem kb_scrambleIx_le (align i : Nat) : scrambleIx align i ≤ 3 := by
  unfold scrambleIx
  simp only [otfadScrambleSelMask]
  exact Nat.and_le_right

theorem scramble_length (kek : Bytes) (hk : kek.length = 16) (mask align : Nat) (rev : Bool) (i : Nat) :
    (scrambleKek kek mask align rev i).length = 16 := by
  have := kb_scrambleIx_le align i
  simp only [scrambleKek, otfadScrambleWord, List.length_append, List.length_take, List.length_drop, xorBytes_length,
    leEnc_length, hk]
  omega

private theorem kb_splice_inv (kek m : Bytes) (o : Nat) (ho : o + 4 ≤ kek.length) (hm : m.length = 4) :
    let s := kek.take o ++ xorBytes ((kek.drop o).take 4) m ++ kek.drop (o + 4)
    s.take o ++ xorBytes ((s.drop o).take 4) m ++ s.drop (o + 4) = kek := by
  intro s
  have hx : (xorBytes ((kek.drop o).take 4) m).length = 4 := by
    simp [hm]; omega
  have ht : (kek.take o).length = o := by simp; omega
  have h1 : s.take o = kek.take o := by
    simp only [s, List.append_assoc]
    rw [List.take_append_of_le_length (by omega)]
    rw [List.take_of_length_le (by omega)]
  have h2 : s.drop o = xorBytes ((kek.drop o).take 4) m ++ kek.drop (o + 4) := by
    simp only [s, List.append_assoc]
    exact List.drop_left' ht
  have h3 : s.drop (o + 4) = kek.drop (o + 4) := by
    rw [← List.drop_drop, h2]
    exact List.drop_left' hx
  rw [h1, h2, h3, List.take_left' hx, xorBytes_cancel_eq _ _ (by simp [hm]; omega)]
  rw [List.append_assoc, ← List.drop_drop, List.take_append_drop, List.take_append_drop]

/-- scrambling a KEK twice with the same parameters gives the KEK back (the engine unscrambles the same way) -/
theorem scramble_inv (kek : Bytes) (hk : kek.length = 16) (mask align : Nat) (rev : Bool) (i : Nat) :
    scrambleKek (scrambleKek kek mask align rev i) mask align rev i = kek := by
  have := kb_scrambleIx_le align i
  unfold scrambleKek
  exact kb_splice_inv kek _ _ (by simp only [otfadScrambleWord]; omega) (leEnc_length _ _)

private theorem kb_chunksF_flatten (n : Nat) (hn : 0 < n) :
    ∀ (L : List Bytes) (f : Nat), (∀ r ∈ L, r.length = n) → L.length ≤ f → chunksF n f L.flatten = L
  | [], f, _, _ => by cases f <;> simp [chunksF]
  | r :: L, 0, _, hf => by simp at hf
  | r :: L, f + 1, hL, hf => by
    have hr : r.length = n := hL r (by simp)
    have hne : (r ++ L.flatten).isEmpty = false := by
      cases r with
      | nil => simp at hr; omega
      | cons _ _ => rfl
    have ih := kb_chunksF_flatten n hn L f (fun x hx => hL x (by simp [hx])) (by simpa using hf)
    simp only [List.flatten_cons, chunksF, hne, Bool.false_eq_true, if_false]
    rw [List.take_left' hr, List.drop_left' hr, ih]

private theorem kb_flatten_length (n : Nat) : ∀ (L : List Bytes), (∀ r ∈ L, r.length = n) → L.flatten.length = n * L.length
  | [], _ => by simp
  | r :: L, h => by
    have := kb_flatten_length n L (fun x hx => h x (by simp [hx]))
    simp [this, h r (by simp), Nat.mul_add]; omega

private theorem kb_chunks_flatten (n : Nat) (hn : 0 < n) (L : List Bytes) (hL : ∀ r ∈ L, r.length = n) :
    chunks n L.flatten = L := by
  unfold chunks
  apply kb_chunksF_flatten n hn L _ hL
  rw [kb_flatten_length n L hL]
  exact Nat.le_mul_of_pos_left _ hn

private theorem kb_revGroups_inv (n k : Nat) (l : Bytes) (hl : l.length = n * k) :
    (revGroups n l).length = l.length ∧ revGroups n (revGroups n l) = l := by
  unfold revGroups
  by_cases hn : n = 0
  · simp [hn]
  · simp only [hn, if_false]
    obtain ⟨h1, h2, h3⟩ := chunks_spec n (by omega) k l hl
    have hr : ∀ r ∈ (chunks n l).map List.reverse, r.length = n := fun r hr => by
      obtain ⟨x, hx, rfl⟩ := List.mem_map.mp hr
      simp [h2 x hx]
    constructor
    · rw [kb_flatten_length n _ hr]
      simp [h1, hl]
    · rw [kb_chunks_flatten n (by omega) _ hr, List.map_map]
      have : (List.reverse ∘ List.reverse : Bytes → Bytes) = id := by funext x; simp
      rw [this, List.map_id, h3]

private theorem kb_revGroups48 (n : Nat) (hn : n ∈ [0, 2, 4, 8, 16]) (l : Bytes) (hl : l.length = 48) :
    (revGroups n l).length = 48 ∧ revGroups n (revGroups n l) = l := by
  simp only [List.mem_cons, List.mem_nil_iff, or_false] at hn
  have key : ∀ k, 48 = n * k → (revGroups n l).length = 48 ∧ revGroups n (revGroups n l) = l := fun k hk =>
    hl ▸ kb_revGroups_inv n k l (by omega)
  rcases hn with rfl | rfl | rfl | rfl | rfl
  · simp [revGroups, hl]
  · exact key 24 (by decide)
  · exact key 12 (by decide)
  · exact key 6 (by decide)
  · exact key 3 (by decide)

private theorem kb_endAddr (kb : KeyBlob) (hwf : kb.WF) : ∃ ew, kb.endAddrWithFlags = .ok ew ∧ ew < 2 ^ 32 := by
  unfold KeyBlob.endAddrWithFlags
  by_cases h0 : kb.end_ = 0
  · have := hwf.exportable h0
    exact ⟨0, by simp [h0, this], by decide⟩
  · refine ⟨_, by simp only [h0, false_and, if_false]; rfl, ?_⟩
    have he := hwf.end_lt
    have hf := hwf.flags_lt
    simp only [otfadKeyFlagMask, otfadEndAddrMask]
    apply Nat.or_lt_two_pow
    · apply Nat.or_lt_two_pow
      · omega
      · omega
    · decide

/-- the six fields of the 40 wrapped bytes of a key blob whose end-address word is `ew` -/
private def kb_plainFields (kb : KeyBlob) (ew : Nat) : List Bytes :=
  [kb.key, kb.ctr, leEnc 4 kb.start, leEnc 4 ew, kb.zeroFill,
    leEnc 4 (crc32Mpeg (kb.key ++ kb.ctr ++ leEnc 4 kb.start ++ leEnc 4 ew))]

private theorem kb_plainData (kb : KeyBlob) (hwf : kb.WF) (hz : kb.zeroFill.length = 4) (hc : kb.crcFill = []) (rnd : Bytes)
    (ew : Nat) (hew : kb.endAddrWithFlags = .ok ew) (hlt : ew < 2 ^ 32) :
    ∃ p, kb.plainData rnd = .ok p ∧ p.take 40 = (kb_plainFields kb ew).flatten := by
  have hs : kb.start < 2 ^ 32 := Nat.lt_of_le_of_lt hwf.range hwf.end_lt
  have hzne : kb.zeroFill.isEmpty = false := by
    cases hzf : kb.zeroFill with
    | nil => rw [hzf] at hz; simp at hz
    | cons _ _ => rfl
  have hX : (kb_plainFields kb ew).flatten.length = 40 := by
    simp [kb_plainFields, hwf.key_len, hwf.ctr_len, leEnc_length, hz]
  refine ⟨(kb_plainFields kb ew).flatten ++ (zeros 8 ++ zeros 16), ?_, List.take_left' hX⟩
  have h1 : ¬ (kb.start ≥ 2 ^ 32 ∨ ew ≥ 2 ^ 32) := by omega
  simp only [KeyBlob.plainData, hew, h1, if_false, hc, hzne, hz, List.isEmpty_nil, List.length_nil, Bool.false_eq_true,
    not_false_eq_true, ne_eq, not_true_eq_false, and_false, if_true, false_and, reduceCtorEq]
  rw [if_neg (by simp [hwf.key_len, hwf.ctr_len, leEnc_length, hz])]
  simp only [kb_plainFields, List.flatten_cons, List.flatten_nil, List.append_nil, List.append_assoc]

/-- one exported 64-byte entry unwraps (with the KEK, after undoing the byte reversal) to the blob's context
    registers, and the stored CRC is valid -/
theorem keyblob_unwraps (h : CryptoLaws c) (kb : KeyBlob) (hwf : kb.WF) (hz : kb.zeroFill.length = 4) (hc : kb.crcFill = [])
    (kek : Bytes) (hk : kek.length = 16) (n : Nat) (hn : n ∈ [0, 2, 4, 8, 16]) (rnd : Bytes) :
    ∃ e, kb.export c kek n rnd = .ok e ∧ e.length = 64 ∧ otfadUnwrapEntry c kek n e = some (kb.ctx, true) := by
  obtain ⟨ew, hew, hlt⟩ := kb_endAddr kb hwf
  obtain ⟨p, hp, hp40⟩ := kb_plainData kb hwf hz hc rnd ew hew hlt
  have hs : kb.start < 2 ^ 32 := Nat.lt_of_le_of_lt hwf.range hwf.end_lt
  have hlens : (kb_plainFields kb ew).map List.length = [16, 8, 4, 4, 4, 4] := by
    simp [kb_plainFields, hwf.key_len, hwf.ctr_len, leEnc_length, hz]
  have f0 : (p.take 40).length = 40 := by rw [hp40, List.length_flatten, hlens]; rfl
  -- the fields the ROM cuts out of the unwrapped bytes are the fields `plain_data` packed
  have hcut := cutFields_flatten (kb_plainFields kb ew) []
  rw [List.append_nil, ← hp40, hlens] at hcut
  simp only [kb_plainFields, cutFields, List.drop_drop, List.cons.injEq, and_true] at hcut
  obtain ⟨f1, f2, f3, f4, -, f5⟩ := hcut
  have f6 : (p.take 40).take 32 = kb.key ++ kb.ctr ++ leEnc 4 kb.start ++ leEnc 4 ew := by
    have := cutFields_flatten [kb.key ++ kb.ctr ++ leEnc 4 kb.start ++ leEnc 4 ew] ((kb_plainFields kb ew).drop 4).flatten
    rw [hp40]
    simpa [kb_plainFields, cutFields, hwf.key_len, hwf.ctr_len, leEnc_length] using this
  have hw : (kwWrap c kek (p.take 40)).length = 48 := by
    rw [kwWrap_length h kek _ (by rw [f0]), f0]
  obtain ⟨r1, r2⟩ := kb_revGroups48 n hn _ hw
  have hexp : kb.export c kek n rnd = .ok (zeroPad 64 (revGroups n (kwWrap c kek (p.take 40)))) := by
    unfold KeyBlob.export
    simp only [hk, ne_eq, not_true_eq_false, if_false, hp, otfadExportBlobSize, otfadWrappedLen]
  refine ⟨_, hexp, ?_, ?_⟩
  · rw [zeroPad_length, r1]
  · unfold otfadUnwrapEntry
    have ht : (zeroPad 64 (revGroups n (kwWrap c kek (p.take 40)))).take 48 = revGroups n (kwWrap c kek (p.take 40)) := by
      have := zeroPad_take_self 64 (revGroups n (kwWrap c kek (p.take 40)))
      rwa [r1] at this
    rw [ht, r2, kw_inv h kek _ (by rw [f0]) (by rw [f0]; decide)]
    simp only [f1, f2, f3, f4, f5, f6]
    have hp4 : (256 : Nat) ^ 4 = 2 ^ 32 := by decide
    rw [leDec_leEnc 4 _ (by rw [hp4]; exact hs), leDec_leEnc 4 _ (by rw [hp4]; exact hlt),
      leDec_leEnc 4 _ (by rw [hp4]; exact crc32Mpeg_lt _)]
    simp [KeyBlob.ctx, hew]

private theorem kb_export_aux (h : CryptoLaws c) (kek : Bytes) (hk : kek.length = 16) (scr : Option (Nat × Nat)) (rev : Bool)
    (n : Nat) (hn : n ∈ [0, 2, 4, 8, 16]) (rnd : Bytes) :
    ∀ (rest : List KeyBlob) (i : Nat) (acc : Bytes), (∀ kb ∈ rest, kb.WF ∧ kb.zeroFill.length = 4 ∧ kb.crcFill = []) →
      ∃ E, otfadExportAux c kek scr rev n rnd rest i acc = .ok (acc ++ E) ∧ E.length = 64 * rest.length ∧
        ∀ pad, otfadUnwrapTable c kek scr rev n rest.length i (E ++ pad) = rest.map (fun kb => some (kb.ctx, true))
  | [], i, acc, _ => ⟨[], by simp [otfadExportAux], by simp, by intro pad; simp [otfadUnwrapTable]⟩
  | kb :: rest, i, acc, hwf => by
    obtain ⟨w1, w2, w3⟩ := hwf kb (by simp)
    have hrest : ∀ x ∈ rest, x.WF ∧ x.zeroFill.length = 4 ∧ x.crcFill = [] := fun x hx => hwf x (by simp [hx])
    -- the KEK used for entry `i`, on both sides
    have step : ∀ k : Bytes, k.length = 16 →
        (match kb.export c k n rnd with
          | .error e => .error e
          | .ok e => otfadExportAux c kek scr rev n rnd rest (i + 1) (acc ++ e)) =
          otfadExportAux c kek scr rev n rnd (kb :: rest) i acc →
        (∀ t, otfadUnwrapTable c kek scr rev n (rest.length + 1) i t =
          otfadUnwrapEntry c k n (t.take 64) :: otfadUnwrapTable c kek scr rev n rest.length (i + 1) (t.drop 64)) →
        ∃ E, otfadExportAux c kek scr rev n rnd (kb :: rest) i acc = .ok (acc ++ E) ∧ E.length = 64 * (kb :: rest).length ∧
          ∀ pad, otfadUnwrapTable c kek scr rev n (kb :: rest).length i (E ++ pad) =
            (kb :: rest).map (fun kb => some (kb.ctx, true)) := by
      intro k hk16 hexp hunw
      obtain ⟨e, he1, he2, he3⟩ := keyblob_unwraps h kb w1 w2 w3 k hk16 n hn rnd
      obtain ⟨E, hE1, hE2, hE3⟩ := kb_export_aux h kek hk scr rev n hn rnd rest (i + 1) (acc ++ e) hrest
      refine ⟨e ++ E, ?_, ?_, ?_⟩
      · rw [← hexp, he1]
        simp only
        rw [hE1, List.append_assoc]
      · simp only [List.length_append, List.length_cons, he2, hE2]; omega
      · intro pad
        rw [List.length_cons, hunw, List.append_assoc, List.take_left' he2, List.drop_left' he2, he3, hE3 pad, List.map_cons]
    cases scr with
    | none =>
      exact step kek hk rfl (fun t => rfl)
    | some ma =>
      obtain ⟨m, a⟩ := ma
      have hix := kb_scrambleIx_le a i
      refine step (scrambleKek kek m a rev i) (scramble_length kek hk m a rev i) ?_ (fun t => rfl)
      have hno : ¬ kek.length < scrambleIx a i * otfadScrambleWord + 4 := by
        simp only [hk, otfadScrambleWord]; omega
      conv => rhs; unfold otfadExportAux
      simp only [hno, if_false]
      rfl

/-- the whole table: entry `i` unwraps with the KEK scrambled for index `i` -/
theorem otfad_table_unwraps (h : CryptoLaws c) (bs : List KeyBlob)
    (hwf : ∀ kb ∈ bs, kb.WF ∧ kb.zeroFill.length = 4 ∧ kb.crcFill = [])
    (kek : Bytes) (hk : kek.length = 16) (scr : Option (Nat × Nat))
    (hscr : ∀ m a, scr = some (m, a) → m < 2 ^ 32 ∧ a < 2 ^ 8) (rev : Bool) (n : Nat) (hn : n ∈ [0, 2, 4, 8, 16]) (rnd : Bytes) :
    ∃ t, Otfad.encryptKeyBlobs c bs kek scr rev n rnd = .ok t ∧ t.length % 256 = 0 ∧
      otfadUnwrapTable c kek scr rev n bs.length 0 t = bs.map (fun kb => some (kb.ctx, true)) := by
  obtain ⟨E, hE1, hE2, hE3⟩ := kb_export_aux h kek hk scr rev n hn rnd bs 0 [] hwf
  refine ⟨zeroPad 256 E, ?_, zeroPad_length_mod 256 (by decide) E, ?_⟩
  · unfold Otfad.encryptKeyBlobs
    cases scr with
    | none => simp only [hE1, List.nil_append, otfadTableAlign, Bool.false_eq_true, if_false]
    | some ma =>
      obtain ⟨m, a⟩ := ma
      obtain ⟨h1, h2⟩ := hscr m a rfl
      have hb : (decide (m ≥ 2 ^ 32) || decide (a ≥ 2 ^ 8)) = false := by
        simp only [Bool.or_eq_false_iff, decide_eq_false_iff_not]
        omega
      simp only [hb, hE1, List.nil_append, otfadTableAlign, Bool.false_eq_true, if_false]
  · unfold zeroPad
    exact hE3 _

end SpsdkVerif.FlashEnc
