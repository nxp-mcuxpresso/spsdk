/- C07: container round trip `parse (export cfg)`, stage by stage, and when the reset-vector heuristic of
   `AppHabSegment.parse` finds the application of an unsigned image. -/
import SpsdkVerif.Proofs.HabSign

namespace SpsdkVerif.Hab
open SpsdkVerif SpsdkVerif.Misc SpsdkVerif.Generated

theorem slice_chunk (w : Nat) (ps : List Bytes) (h : ∀ p ∈ ps, p.length = w) (k : Nat) (x : Bytes) (hk : ps[k]? = some x)
    (rest : Bytes) : slice (ps.flatten ++ rest) (w * k) w = x := by
  induction ps generalizing k with
  | nil => simp at hk
  | cons a r ih =>
    have ha := h a (by simp)
    rw [List.flatten_cons, List.append_assoc]
    cases k with
    | zero =>
      obtain rfl : a = x := by simpa using hk
      exact slice_append_mid [] a _ _ _ rfl ha.symm
    | succ k =>
      rw [slice_append_right _ _ _ _ (by rw [ha, Nat.mul_succ]; omega), ha, Nat.mul_succ, Nat.add_sub_cancel]
      exact ih (fun p hp => h p (by simp [hp])) k (by simpa using hk)

/-- the words behind the header of an IVT -/
def Ivt.words (v : Ivt) : List Nat := [v.entry, v.rs1, v.dcd, v.bdt, v.self, v.csf, v.rs2]
def Bdt.words (b : Bdt) : List Nat := [b.start, b.length, b.plugin]

theorem ivt_flat (v : Ivt) : v.encode = (hdr Spec.tagIVT Spec.ivtSize v.version :: v.words.map le32).flatten := by
  simp [Ivt.encode, Ivt.words, List.append_assoc]

theorem bdt_flat (b : Bdt) : b.encode = (b.words.map le32).flatten := by
  simp [Bdt.encode, Bdt.words, List.append_assoc]

theorem ivt_word (v : Ivt) (rest : Bytes) (k x : Nat) (hk : v.words[k]? = some x) :
    slice (v.encode ++ rest) (4 * (k + 1)) 4 = le32 x := by
  rw [ivt_flat]
  refine slice_chunk 4 _ ?_ (k + 1) _ (by simp [hk]) rest
  rintro p (_ | ⟨_, hp⟩)
  · simp
  · obtain ⟨y, -, rfl⟩ := List.mem_map.1 hp; simp

theorem bdt_word (b : Bdt) (rest : Bytes) (k x : Nat) (hk : b.words[k]? = some x) :
    slice (b.encode ++ rest) (4 * k) 4 = le32 x := by
  rw [bdt_flat]
  refine slice_chunk 4 _ ?_ k _ (by simp [hk]) rest
  intro p hp
  obtain ⟨y, -, rfl⟩ := List.mem_map.1 hp; simp

theorem rdLE_of_slice (d : Bytes) (off v : Nat) (hv : v < 2 ^ 32) (h : slice d off 4 = le32 v) : rdLE d off 4 = some v := by
  have hv' : v < 256 ^ 4 := by simpa using hv
  simp only [rdLE, h, le32, leEnc_length, ↓reduceIte, leDec_leEnc 4 v hv']

theorem parseIvt_encode (v : Ivt) (rest : Bytes) (hv : v.version < 256) (hw : ∀ x ∈ v.words, x < 2 ^ 32)
    (hs : v.self ≠ 0) (hb : v.bdt = v.self + 32) (hd : v.dcd = 0 ∨ v.self ≤ v.dcd) (hc : v.csf = 0 ∨ v.self ≤ v.csf) :
    parseIvt (v.encode ++ rest) = .ok v := by
  have rd : ∀ k x, v.words[k]? = some x → rdLE (v.encode ++ rest) (4 * (k + 1)) 4 = some x :=
    fun k x hk => rdLE_of_slice _ _ x (hw x (List.mem_of_getElem? hk)) (ivt_word v rest k x hk)
  have e0 : parseHdr (v.encode ++ rest) = some (Spec.tagIVT, Spec.ivtSize, v.version) := by
    rw [ivt_flat, List.flatten_cons, List.append_assoc]
    exact parseHdr_hdr _ _ _ _ (by decide) (by decide) hv
  have r1 : rdLE (v.encode ++ rest) 4 4 = some v.entry := rd 0 _ rfl
  have r2 : rdLE (v.encode ++ rest) 8 4 = some v.rs1 := rd 1 _ rfl
  have r3 : rdLE (v.encode ++ rest) 12 4 = some v.dcd := rd 2 _ rfl
  have r4 : rdLE (v.encode ++ rest) 16 4 = some v.bdt := rd 3 _ rfl
  have r5 : rdLE (v.encode ++ rest) 20 4 = some v.self := rd 4 _ rfl
  have r6 : rdLE (v.encode ++ rest) 24 4 = some v.csf := rd 5 _ rfl
  have r7 : rdLE (v.encode ++ rest) 28 4 = some v.rs2 := rd 6 _ rfl
  have c1 : ¬ (v.self = 0 ∨ v.bdt = 0 ∨ v.bdt < v.self) := by omega
  have c2 : ¬ (¬ v.dcd = 0 ∧ v.dcd < v.self) := by omega
  have c3 : ¬ (¬ v.csf = 0 ∧ v.csf < v.self) := by omega
  have c4 : ¬ (v.bdt > v.self + Spec.ivtSize) := by show ¬ _ > _ + 32; omega
  unfold parseIvt
  rw [e0, r1, r2, r3, r4, r5, r6, r7]
  simp only [ne_eq, not_true_eq_false, c1, c2, c3, c4, ↓reduceIte]

theorem parseBdt_encode (b : Bdt) (rest : Bytes) (h1 : b.start < 2 ^ 32) (h2 : b.length < 2 ^ 32) (h3 : b.plugin ≤ 2) :
    parseBdt (b.encode ++ rest) = .ok b := by
  have r1 : rdLE (b.encode ++ rest) 0 4 = some b.start := rdLE_of_slice _ _ _ h1 (bdt_word b rest 0 _ rfl)
  have r2 : rdLE (b.encode ++ rest) 4 4 = some b.length := rdLE_of_slice _ _ _ h2 (bdt_word b rest 1 _ rfl)
  have r3 : rdLE (b.encode ++ rest) 8 4 = some b.plugin := rdLE_of_slice _ _ _ (by omega) (bdt_word b rest 2 _ rfl)
  unfold parseBdt
  rw [r1, r2, r3]
  simp only [h3, ↓reduceIte]

/-- with a DCD at 0x40 no XMCD block is recognised there -/
theorem parseXmcd_dcd (d dd rest : Bytes) (hd : d.drop 64 = dd ++ rest) (h : DcdWF dd) : parseXmcd d = .ok none := by
  obtain ⟨_, p, body, hp, hx, he⟩ := h
  unfold parseXmcd
  show (match d.drop 64 with | lo :: ts :: ii :: tv :: rest => _ | _ => _) = _
  rw [hd, he, List.append_assoc, hdr4]
  simp only [u8_toNat p hp]
  rcases hx with hx | hx <;> simp [hx]

theorem parseXmcd_zeros (d rest : Bytes) (hd : d.drop 64 = zeros 4 ++ rest) : parseXmcd d = .ok none := by
  unfold parseXmcd
  show (match d.drop 64 with | lo :: ts :: ii :: tv :: rest => _ | _ => _) = _
  rw [hd]
  simp [zeros, List.replicate, HabConsts.xmcdHeaderTag]

theorem isAut_setLoc (c : Cmd) (x : Nat) : isAut (c.setLoc x) = isAut c := by cases c <;> rfl
theorem blocks_setLoc (c : Cmd) (x : Nat) : (c.setLoc x).blocks = c.blocks := by cases c <;> rfl

/-- `getAut` commutes with the assignment of data references for every projection that does not look at them -/
theorem getAut_assignLocs {β} (f : CsfCmd → β) (hf : ∀ cur c, f (reloc cur c) = f c) (k n : Nat) (l : List CsfCmd) :
    (getAut k (assignLocs n l)).map f = (getAut k l).map f := by
  induction l generalizing k n with
  | nil => rfl
  | cons c r ih =>
    have ha : isAut (reloc n c).cmd = isAut c.cmd := by unfold reloc; split <;> simp [isAut_setLoc]
    rw [assignLocs_cons]
    simp only [getAut, ha]
    split
    · cases k <;> simp [hf, ih]
    · exact ih _ _

theorem getAut_assignLocs_isSome (k n : Nat) (l : List CsfCmd) :
    (getAut k (assignLocs n l)).isSome = (getAut k l).isSome := by
  have := congrArg Option.isSome (getAut_assignLocs (fun _ => ()) (fun _ _ => rfl) k n l)
  simpa using this

theorem csfAppBlock_assignLocs (n : Nat) (l : List CsfCmd) : csfAppBlock (assignLocs n l) = csfAppBlock l := by
  have hf : ∀ cur c, (reloc cur c).cmd.blocks = c.cmd.blocks := by
    intro cur c; unfold reloc; split <;> simp [blocks_setLoc]
  unfold csfAppBlock
  rw [getAut_assignLocs _ hf 1 n l, getAut_assignLocs _ hf 2 n l]

section stages
variable (c : Cfg) (h : c.WF) (app : Bytes) (csf : Option Bytes)
include h

theorem ivt_words_lt : ∀ x ∈ c.ivt.words, x < 2 ^ 32 := by
  have ha := addr_lt c h
  have he := h.entry
  have e1 := ivt_self c; have e2 := ivt_bdt c
  have b3 : c.ivt.dcd ≤ c.start + c.ivtOff + 64 := by rw [ivt_dcd]; split <;> omega
  have b4 : c.ivt.csf ≤ c.start + c.ivtOff + c.csfOff := by rw [ivt_csf c h]; split <;> omega
  have : c.ivt.entry = c.entry ∧ c.ivt.rs1 = 0 ∧ c.ivt.rs2 = 0 := ⟨rfl, rfl, rfl⟩
  simp only [Ivt.words, List.mem_cons, List.not_mem_nil, or_false]
  rintro x (rfl | rfl | rfl | rfl | rfl | rfl | rfl) <;> omega

theorem bdt_words_lt : ∀ x ∈ c.bdt.words, x < 2 ^ 32 := by
  have ha := addr_lt c h
  have hi := imgLen_le c h
  have hl : c.bdt.length ≤ c.ivtOff + c.imgLen + 512 := by
    rw [bdt_length c h]; show _ + (if _ then 512 else 0) ≤ _; split <;> omega
  have : c.bdt.start = c.start ∧ c.bdt.plugin = 0 := ⟨rfl, rfl⟩
  simp only [Bdt.words, List.mem_cons, List.not_mem_nil, or_false]
  rintro x (rfl | rfl | rfl) <;> omega

theorem parseIvt_image : parseIvt (image c app csf) = .ok c.ivt := by
  have hi : image c app csf = c.ivt.encode ++ (image c app csf).drop 32 := by
    rw [← image_ivt c h app csf, List.take_append_drop]
  have hn := h.nonzero
  have e1 := ivt_self c; have e2 := ivt_bdt c; have e3 := ivt_dcd c; have e4 := ivt_csf c h
  rw [hi]
  refine parseIvt_encode _ _ (show 64 < 256 by decide) (ivt_words_lt c h) (by omega) (by omega) ?_ ?_
  · rw [e3, e1]; split <;> omega
  · rw [e4, e1]; split <;> omega

theorem parseBdt_image : parseBdt ((image c app csf).drop (c.ivt.bdt - c.ivt.self)) = .ok c.bdt := by
  have e : c.ivt.bdt - c.ivt.self = 32 := by rw [ivt_bdt, ivt_self]; omega
  have hs := slice_to_drop _ _ 32 ((bdt_encode_length c.bdt).symm ▸ image_bdt c h app csf)
  have hw := bdt_words_lt c h
  rw [e, hs]
  exact parseBdt_encode _ _ (hw _ (by simp [Bdt.words])) (hw _ (by simp [Bdt.words])) (show 0 ≤ 2 by omega)

theorem parseXmcd_image (hd : ∀ d, c.dcd = some d → DcdWF d) (hx : ∀ x, c.xmcd = some x → XmcdWF x) :
    parseXmcd (image c app csf) = .ok c.xmcd := by
  have hb := slice_to_drop _ _ 64 (image_blk c h app csf)
  rcases blk_cases c h with ⟨hdd, hxx, e⟩ | ⟨d, hdd, hxx, e⟩ | ⟨x, hdd, hxx, e⟩ <;> rw [hxx]
  · have := appOff_ge c h
    exact parseXmcd_zeros _ _ (slice_to_drop _ (zeros 4) 64 (image_fill c h app csf 64 4 (by rw [e]; simp) (by omega)))
  · rw [e] at hb
    exact parseXmcd_dcd _ d _ hb (hd d hdd)
  · rw [e] at hb
    have : image c app csf = (image c app csf).take 64 ++ x ++ (image c app csf).drop (64 + x.length) := by
      rw [List.append_assoc, ← hb, List.take_append_drop]
    have hfit := blk_fits c h
    have hl := congrArg List.length (image_eq c h app csf)
    rw [this]
    refine parseXmcd_at x _ _ (hx x hxx) ?_
    rw [List.length_take]
    simp [front_length c h] at hl
    show min 64 _ = 64
    omega

theorem parseDcdSeg_image (hd : ∀ d, c.dcd = some d → DcdWF d) :
    parseDcdSeg (image c app csf) c.ivt = .ok (match c.dcd with | some d => [⟨"dcd", dcdSegOffN, d⟩] | none => []) := by
  unfold parseDcdSeg
  rw [ivt_dcd, ivt_self, dcdSegOffN_eq]
  cases hdd : c.dcd with
  | none => rfl
  | some d =>
    have hb := slice_to_drop _ _ 64 (image_blk c h app csf)
    rw [blk_dcd c d hdd] at hb
    have hn := h.nonzero
    obtain ⟨hl, p, body, hp, -, he⟩ := hd d hdd
    simp only [Option.isSome_some, ↓reduceIte, Nat.add_sub_cancel_left, hb,
      parseBlock_hdr d _ body _ p _ hl (by decide) hp he (.inr rfl)]
    rw [if_pos (by omega)]

end stages

theorem parseCsfSeg_export (c : Cfg) (b : Built) (h : c.WF) (happ : b.app.length = c.appBin.length)
    (hc : c.hasCsf = true → CsfWF c.version b.cmds ∧ (getAut 2 b.cmds).isSome = isEnc c.flags ∧
      csfAppBlock b.cmds = some (c.start + c.ivtOff + c.appOff, c.appBin.length)) :
    parseCsfSeg (exportImage c b) c.ivt =
      .ok (if c.hasCsf then [⟨"csf", c.csfOff, csfBytes c.version b.cmds⟩] else [], expectedFlags c,
           if c.hasCsf then some (c.start + c.ivtOff + c.appOff, c.appBin.length) else none) := by
  unfold parseCsfSeg expectedFlags
  rw [ivt_csf c h, ivt_self]
  by_cases hh : c.hasCsf = true
  · obtain ⟨hw, hfl, hblk⟩ := hc hh
    have hne : c.flags ≠ 0 := by simpa [h.csf] using hh
    have hn := h.nonzero
    have hs := export_csf c b h happ hh
    rw [csfBytes_length _ _ hw] at hs
    rw [if_neg hne, if_pos (by omega), Nat.add_sub_cancel_left, hs, parseCsf_csfBytes _ _ hw]
    simp only [hh, ↓reduceIte, csfBytes_assignLocs, getAut_assignLocs_isSome, hfl, csfAppBlock_assignLocs, hblk,
      Bool.not_true, Bool.false_eq_true]
  · have h0 : c.flags = 0 := by simpa [h.csf] using hh
    simp [hh, h0]

theorem hab_roundtrip_lemma (c : Cfg) (b : Built) (h : c.WF)
    (hd : ∀ d, c.dcd = some d → DcdWF d) (hx : ∀ x, c.xmcd = some x → XmcdWF x)
    (happ : b.app.length = c.appBin.length)
    (hc : c.hasCsf = true → CsfWF c.version b.cmds ∧ (getAut 2 b.cmds).isSome = isEnc c.flags ∧
      csfAppBlock b.cmds = some (c.start + c.ivtOff + c.appOff, c.appBin.length))
    (hvis : c.hasCsf = false → findAppOffset (exportImage c b) c.entry HabConsts.knownAppOffsets = some c.appOff) :
    parse (exportImage c b) = .ok (expectedParse c b) := by
  have hbo : c.ivt.bdt - c.ivt.self = bdtSegOffN := by rw [ivt_bdt, ivt_self, bdtSegOffN_eq]; omega
  have hio : ((c.ivt.self : Nat) : Int) - ((c.bdt.start : Nat) : Int) = (c.ivtOff : Int) := by
    rw [ivt_self]; show ((c.start + c.ivtOff : Nat) : Int) - (c.start : Int) = _; omega
  have hApp : slice (exportImage c b) c.appOff b.app.length = b.app := image_app c h _ _
  unfold parse
  rw [show parseIvt (exportImage c b) = _ from parseIvt_image c h _ _]
  simp only []
  rw [show parseBdt ((exportImage c b).drop _) = _ from parseBdt_image c h _ _]
  simp only []
  rw [show parseDcdSeg (exportImage c b) _ = _ from parseDcdSeg_image c h _ _ hd]
  simp only []
  rw [show parseXmcd (exportImage c b) = _ from parseXmcd_image c h _ _ hd hx]
  simp only []
  rw [parseCsfSeg_export c b h happ hc]
  simp only []
  by_cases hh : c.hasCsf = true
  · -- the application is the block the CSF lists
    simp only [hh, ↓reduceIte]
    rw [ivt_self, Nat.add_sub_cancel_left, ← happ, hApp, ← ivt_self, hbo, hio]
    unfold expectedParse expectedSegs
    simp only [hh, ↓reduceIte]
    rfl
  · have hh' : c.hasCsf = false := by simpa using hh
    have h0 : c.flags = 0 := by simpa [h.csf] using hh
    have hlen := exportImage_length c b h happ (fun e => absurd e hh)
    simp only [hh', Bool.false_eq_true, ↓reduceIte]
    rw [show c.ivt.entry = c.entry from rfl, hvis hh']
    simp only []
    have happb : appSeg (exportImage c b) c.ivt c.appOff = ⟨"app", c.appOff, b.app⟩ := by
      unfold appSeg
      rw [ivt_csf c h, if_pos h0, if_neg (Nat.lt_irrefl 0), hlen, Cfg.imgLen, hh', ← happ]
      simp only [Bool.false_eq_true, ↓reduceIte, Nat.add_sub_cancel_left]
      exact congrArg _ hApp
    rw [happb, hbo, hio]
    unfold expectedParse expectedSegs
    simp only [hh', Bool.false_eq_true, ↓reduceIte]
    rfl

theorem find_first (d : Bytes) (entry a : Nat) (l : List Nat) (hs : l.Pairwise (· < ·)) (hm : a ∈ l)
    (hf : ∀ o ∈ l, o < a → vectorOk entry d.length (leDec (slice d (o + 4) 4)) = false)
    (ha : vectorOk entry d.length (leDec (slice d (a + 4) 4)) = true) :
    findAppOffset d entry l = some a := by
  induction l with
  | nil => cases hm
  | cons x r ih =>
    unfold findAppOffset
    by_cases hx : x = a
    · subst hx; rw [if_pos ha]
    · have har : a ∈ r := by
        rcases List.mem_cons.1 hm with h | h
        · exact absurd h.symm hx
        · exact h
      have hlt : x < a := (List.pairwise_cons.1 hs).1 a har
      rw [hf x (by simp) hlt]
      simp only [Bool.false_eq_true, ↓reduceIte]
      exact ih (List.pairwise_cons.1 hs).2 har (fun o ho => hf o (by simp [ho]))

theorem known_ascending : HabConsts.knownAppOffsets.Pairwise (· < ·) := by decide

theorem known_gap : ∀ o ∈ HabConsts.knownAppOffsets, ∀ a ∈ HabConsts.knownAppOffsets, o < a → 256 ≤ o ∧ o + 8 ≤ a := by
  decide

theorem app_visible_lemma (c : Cfg) (b : Built) (h : c.WF) (happ : b.app.length = c.appBin.length)
    (hcsf : c.hasCsf = true → (csfBytes c.version b.cmds).length = HabConsts.csfSize)
    (hv : AppVisible c b.app) :
    findAppOffset (exportImage c b) c.entry HabConsts.knownAppOffsets = some c.appOff := by
  obtain ⟨hmem, h8, hvec, hfront⟩ := hv
  have hlen := exportImage_length c b h happ hcsf
  apply find_first _ _ _ _ known_ascending hmem
  · intro o ho hlt
    have := known_gap o ho _ hmem hlt
    rw [hlen, ← hfront o ho hlt]
    exact congrArg _ (congrArg _ (image_head_indep c h _ _ _ _ (o + 4) 4 (by omega)))
  · rw [hlen, ← hvec, ← slice_slice _ c.appOff b.app.length 4 4 (by omega)]
    exact congrArg _ (congrArg _ (congrArg (slice · 4 4) (image_app c h b.app _)))

/-- a quiet front part: every earlier probe reads zero, so the third clause of `AppVisible` holds -/
theorem front_quiet_lemma (c : Cfg) (h : c.WF) (hq : c.FrontQuiet) (o : Nat) (ho : o ∈ HabConsts.knownAppOffsets)
    (hlt : o < c.appOff) : vectorOk c.entry c.imgLen (leDec (slice (image c [] none) (o + 4) 4)) = false := by
  have hmem : c.appOff ∈ HabConsts.knownAppOffsets := by rw [appOff_eq]; exact h.appOffKnown
  have hgap := known_gap o ho _ hmem hlt
  have hb : (blk c).length ≤ 0xC4 := by
    rcases blk_cases c h with ⟨_, _, e⟩ | ⟨d, hd, _, e⟩ | ⟨x, _, hx, e⟩ <;> rw [e]
    · exact Nat.zero_le _
    · exact hq.1 d hd
    · exact hq.2 x hx
  rw [image_fill c h [] none (o + 4) 4 (by omega) (by omega), show leDec (zeros 4) = 0 by decide]
  simp [vectorOk]

theorem blocks_addBlocks (c : Cmd) (bl : List (Nat × Nat)) (h : isAut c = true) : (c.addBlocks bl).blocks = c.blocks ++ bl := by
  cases c <;> simp_all [isAut, Cmd.addBlocks, Cmd.blocks]

/-- the block `AppHabSegment.parse` takes from the CSF of a built container is the application block -/
theorem build_app_block (cr : Crypto.CryptoOps) (sg : Signer) (fuel : Nat) (c : Cfg) (b : Built) (h : c.WF)
    (hb : build cr sg fuel c = some b) (ha : c.flags ≠ 0) (hl : Crypto.CryptoLaws cr) (hm : macLenOk c.macLen = true)
    (h2 : (getAut 2 b.cmds).isSome = isEnc c.flags) :
    csfAppBlock b.cmds = some (c.start + c.ivtOff + c.appOff, c.appBin.length) := by
  obtain ⟨_, c1, hc1, hg1⟩ := auth_data_lemma cr sg fuel c b h hb ha
  have ha1 := getAut_isAut 1 c.cmds c1 hc1
  -- the application block is the last of the block list, signed or encrypted
  have hlast : ∀ pre : List (Nat × Nat), (pre ++ blockPairs c.encryptedBlocks).getLast? =
      some (c.start + c.ivtOff + c.appOff, c.appBin.length) := by
    intro pre; simp [blockPairs, Cfg.encryptedBlocks, mkBlock_eq]
  unfold csfAppBlock
  by_cases he : isEnc c.flags = true
  · obtain ⟨mac, c2, _, hc2, hg2, _⟩ := enc_restores_lemma cr sg fuel c b h hb ((isEnc_iff c h).1 he) hl hm
    rw [hg2]
    simp only [Option.map_some, blocks_addBlocks _ _ (getAut_isAut 2 c.cmds c2 hc2), hlast]
    simp [blockPairs, Cfg.encryptedBlocks]
  · have hn2 : getAut 2 b.cmds = none := by
      cases hg : getAut 2 b.cmds with
      | none => rfl
      | some x => rw [hg] at h2; exact absurd h2.symm he
    have : ∃ pre, blockPairs c.signedBlocks = pre ++ blockPairs c.encryptedBlocks := by
      unfold Cfg.signedBlocks Cfg.encryptedBlocks blockPairs
      simp only [he, Bool.false_eq_true, ↓reduceIte, List.map_append]
      exact ⟨_, rfl⟩
    obtain ⟨pre, e⟩ := this
    rw [hn2, hg1]
    simp only [Option.map_none, Option.map_some, Option.bind_some, blocks_addBlocks _ _ ha1, e, ← List.append_assoc, hlast]

end SpsdkVerif.Hab
