/-
C02 for the plain / CRC family: the words the independent ROM model (Spec/MbiRom.lean) reads in what the model exports, the
CRC covers the image with exactly the CRC word excluded, and plain images are accepted (CRC images: Properties/C02.lean).
-/
import SpsdkVerif.Proofs.MbiRomFlags
import SpsdkVerif.Proofs.MbiPlain
import SpsdkVerif.Proofs.MbiSignedV1
import SpsdkVerif.Proofs.MbiSignedV21
import SpsdkVerif.Proofs.MbiEncrypted

namespace SpsdkVerif.Mbi
open SpsdkVerif SpsdkVerif.Misc SpsdkVerif.Crypto
open SpsdkVerif.Generated.IvtConsts

variable {co : CryptoOps} {env : Env} {c : Cls} {cfg : Cfg} {signer : Signer}

/-- only the plain family has CRC classes: the signed families sign with RSA or ECC -/
theorem romcrc_family (h : Hyp co env c cfg signer) (hs : c.signKind = .crc) : c.family = some .plain := by
  rcases family_cases h with hf | hf | hf | hf
  · exact hf
  · cases hs.symm.trans (SignedV1.clsF h.hcls hf).sk
  · cases hs.symm.trans (signedV21_classFacts h.hcls hf).sign
  · cases hs.symm.trans (encCls h.hcls hf).hsign

theorem crcType_cases (hs : c.signKind = .crc) (ht : crcTypeOk c = true) : c.imageType = 2 ∨ c.imageType = 5 := by
  unfold crcTypeOk at ht
  simpa [hs] using ht

/-- the exported image (word 0x28 = `K`) carries its IVT -/
theorem plainImg_builtIvt (hc : PlainCls c) (hk : PlainCfg c cfg) (K : Nat) (hK : K < 2 ^ 32) :
    BuiltIvt c cfg (plainImg c cfg K) := by
  obtain ⟨w1, w2, _⟩ := plainImg_words hc hk K hK
  refine ⟨?_, w2, by rw [plainImg_length' hc hk]; exact w1⟩
  have := (plain_app_valid hc hk).1
  simp only [plainImg, List.length_append, plainU_length hc hk, Spec.MbiRom.ivtSize, minIvtSize] at this ⊢
  omega

theorem romcrc_word40 (hc : PlainCls c) (hk : PlainCfg c cfg) (K : Nat) (hK : K < 2 ^ 32) :
    Spec.MbiRom.rd32 (plainImg c cfg K) Spec.MbiRom.offCrcOrCert = (if c.imageType = 0 then 0 else K) :=
  (plainImg_words hc hk K hK).2.2.1

theorem romcrc_input (hc : PlainCls c) (hk : PlainCfg c cfg) (K : Nat) :
    Spec.MbiRom.crcInput (plainImg c cfg K) = plainHead c cfg ++ plainTail c cfg := by
  unfold Spec.MbiRom.crcInput
  show (plainImg c cfg K).take 40 ++ (plainImg c cfg K).drop 44 = _
  rw [plainImg_take hc hk, plainImg_drop hc hk]

theorem romcrc_word (hc : PlainCls c) (hk : PlainCfg c cfg) (hs : c.signKind = .crc) :
    Spec.MbiRom.rd32 (plainImg c cfg (plainK c cfg)) Spec.MbiRom.offCrcOrCert
      = Crc.crc Spec.MbiRom.crcParams (Spec.MbiRom.crcInput (plainImg c cfg (plainK c cfg))) := by
  rw [romcrc_word40 hc hk _ (plainK_lt c cfg), if_neg (hc.hcrc.mp hs), romcrc_input hc hk]
  unfold plainK
  rw [if_pos hs]
  rfl

/-- the CRC stored in the image is the CRC-32/MPEG-2 (ROM's own parameters) of the image with exactly the four bytes of
    the CRC word removed: the input has 4 bytes less, agrees with the image before the word and behind it -/
theorem crc_excludes_only_itself (h : Hyp co env c cfg signer) (hs : c.signKind = .crc) :
    ∃ e, exportImage co c cfg signer = .ok e
      ∧ Spec.MbiRom.rd32 e Spec.MbiRom.offCrcOrCert = Crc.crc Spec.MbiRom.crcParams (Spec.MbiRom.crcInput e)
      ∧ (Spec.MbiRom.crcInput e).length + 4 = e.length
      ∧ (∀ i, i < 0x28 → (Spec.MbiRom.crcInput e)[i]? = e[i]?)
      ∧ (∀ i, 0x28 ≤ i → (Spec.MbiRom.crcInput e)[i]? = e[i + 4]?) := by
  have hf := romcrc_family h hs
  have hc := plainCls h.hcls hf
  have hk := plainCfg hc h.hcfg
  have hH := plainHead_length hc hk
  refine ⟨_, plain_export hc hk signer, romcrc_word hc hk hs, ?_, ?_, ?_⟩
  · rw [romcrc_input hc hk, plainImg_split hc hk]
    simp only [List.length_append, le32_length]; omega
  · intro i hi
    rw [romcrc_input hc hk, plainImg_split hc hk, List.append_assoc,
      List.getElem?_append_left (by omega), List.getElem?_append_left (by omega)]
  · intro i hi
    rw [romcrc_input hc hk, plainImg_split hc hk, List.getElem?_append_right (by omega),
      List.getElem?_append_right (by simp only [List.length_append, le32_length]; omega)]
    simp only [List.length_append, le32_length, hH]
    congr 1

/-- plain images: nothing to authenticate, the ROM only wants the CRC / certificate word to be 0 -/
theorem rom_accepts_plain (h : Hyp co env c cfg signer) (hf : c.family = some .plain) (ht : c.imageType = 0)
    (rkth : Bytes) (uk : Option Bytes) :
    ∃ e a, exportImage co c cfg signer = .ok e ∧ Spec.MbiRom.romCheck co (romEnvOf c rkth uk) e = .ok a := by
  have hc := plainCls h.hcls hf
  have hk := plainCfg hc h.hcfg
  refine ⟨_, {}, plain_export hc hk signer, (romCheck_built h (plainImg_builtIvt hc hk _ (plainK_lt c cfg)) rkth uk).2 ?_⟩
  rw [ht, romByType_plain, romcrc_word40 hc hk _ (plainK_lt c cfg), if_pos ht, need_ok (beq_self_eq_true _)]
  rfl

end SpsdkVerif.Mbi
