/- The verifier model (Model/AhabVerify.lean): when the range records are clean (`*_records_iff`), and that a container as
   `update_fields` leaves it, handed over by `toVContainer`, passes every check (`verify*_nil`). -/
import SpsdkVerif.Proofs.Ahab

namespace SpsdkVerif.AhabVerify
open SpsdkVerif SpsdkVerif.Misc SpsdkVerif.Ahab
open SpsdkVerif.Generated

/-- a bit-range record (`add_record_bit_range`) fails exactly outside `[0, hi]` - through the GENERATED `check_range` -/
theorem recFails_bits (r : AhabConsts.RangeRec) (x : Int) (h : r.viaCheckRange = true) :
    recFails r (some x) = true ↔ ¬ (0 ≤ x ∧ x ≤ r.hi) := by
  simp only [recFails, h, if_true, PyFuns.check_range]
  by_cases h1 : 0 ≤ x <;> by_cases h2 : x ≤ r.hi <;> simp [h1, h2]

/-- a plain range record (`add_record_range`) fails exactly outside `[lo, hi]` -/
theorem recFails_range (r : AhabConsts.RangeRec) (x : Int) (h : r.viaCheckRange = false) :
    recFails r (some x) = true ↔ ¬ (r.lo ≤ x ∧ x ≤ r.hi) := by
  simp only [recFails, h]
  by_cases h1 : x < r.lo <;> by_cases h2 : x > r.hi <;> simp [h1, h2] <;> omega

theorem recFails_false_bits (r : AhabConsts.RangeRec) (x : Int) (h : r.viaCheckRange = true) :
    recFails r (some x) = false ↔ (0 ≤ x ∧ x ≤ r.hi) := by
  have := recFails_bits r x h
  cases hb : recFails r (some x) <;> simp_all

theorem recFails_false_range (r : AhabConsts.RangeRec) (x : Int) (h : r.viaCheckRange = false) :
    recFails r (some x) = false ↔ (r.lo ≤ x ∧ x ≤ r.hi) := by
  have := recFails_range r x h
  cases hb : recFails r (some x) <;> simp_all

theorem getFI_bounds (x : Int) (off size : Nat) : 0 ≤ getFI x off size ∧ getFI x off size < (2 ^ size : Nat) := by
  unfold getFI
  have hp : (0 : Int) < ((2 ^ size : Nat) : Int) := by
    have : 0 < 2 ^ size := Nat.pos_of_ne_zero (by simp)
    omega
  exact ⟨Int.emod_nonneg _ (by omega), Int.emod_lt_of_pos _ hp⟩

theorem failed_nil_iff (recs : List AhabConsts.RangeRec) (env : String → Option Int) :
    failed recs env = [] ↔ ∀ r ∈ recs, recFails r (env r.value) = false := by
  simp only [failed, List.map_eq_nil_iff, List.filter_eq_nil_iff]
  constructor
  · intro h r hr; have := h r hr; simpa using this
  · intro h r hr; simp [h r hr]

theorem mem_failed (recs : List AhabConsts.RangeRec) (env : String → Option Int) (r : AhabConsts.RangeRec)
    (hr : r ∈ recs) (hf : recFails r (env r.value) = true) : r.name ∈ failed recs env := by
  simp only [failed, List.mem_map, List.mem_filter]
  exact ⟨r, ⟨hr, hf⟩, rfl⟩

/-- the container's own range records are clean exactly when flags, sw_version, fuse_version and the signature block
    offset fit their fields: each record looks at ITS attribute -/
theorem container_records_iff (v : Ver) (c : VContainer) :
    failed AhabConsts.recsContainer (containerEnv v c) = [] ↔
      (0 ≤ c.flags ∧ c.flags ≤ 4294967295) ∧ (0 ≤ c.swVersion ∧ c.swVersion ≤ 65535) ∧ (0 ≤ c.fuseVersion ∧ c.fuseVersion ≤ 255) ∧
      ((sigBlockOffset v c.images.length : Nat) : Int) ≤ 65535 := by
  have b1 := getFI_bounds c.flags AhabConsts.cFlagsUsedSrkIdOffset AhabConsts.cFlagsUsedSrkIdSize
  have b2 := getFI_bounds c.flags AhabConsts.cFlagsSrkRevokeMaskOffset AhabConsts.cFlagsSrkRevokeMaskSize
  have e1 : ((2 ^ AhabConsts.cFlagsUsedSrkIdSize : Nat) : Int) = 4 := by decide
  have e2 : ((2 ^ AhabConsts.cFlagsSrkRevokeMaskSize : Nat) : Int) = 16 := by decide
  rw [e1] at b1; rw [e2] at b2
  rw [failed_nil_iff]
  simp only [AhabConsts.recsContainer, List.forall_mem_cons, List.not_mem_nil, false_imp_iff, implies_true, and_true]
  rw [show containerEnv v c "flags" = some c.flags from rfl,
      show containerEnv v c "flag_used_srk_id" = some (getFI c.flags AhabConsts.cFlagsUsedSrkIdOffset AhabConsts.cFlagsUsedSrkIdSize) from rfl,
      show containerEnv v c "flag_srk_revoke_keys" = some (getFI c.flags AhabConsts.cFlagsSrkRevokeMaskOffset AhabConsts.cFlagsSrkRevokeMaskSize) from rfl,
      show containerEnv v c "sw_version" = some c.swVersion from rfl,
      show containerEnv v c "fuse_version" = some c.fuseVersion from rfl,
      show containerEnv v c "_signature_block_offset" = some ((sigBlockOffset v c.images.length : Nat) : Int) from rfl]
  rw [recFails_false_bits _ _ rfl, recFails_false_range _ _ rfl, recFails_false_bits _ _ rfl, recFails_false_bits _ _ rfl,
      recFails_false_bits _ _ rfl, recFails_false_range _ _ rfl]
  simp only
  constructor
  · rintro ⟨h1, _, _, h4, h5, h6⟩
    exact ⟨h1, h4, h5, h6.2⟩
  · rintro ⟨h1, h4, h5, h6⟩
    exact ⟨h1, ⟨by omega, by omega⟩, ⟨by omega, by omega⟩, h4, h5, ⟨by omega, h6⟩⟩

theorem iae_records_iff (e : VIae) :
    failed AhabConsts.recsIae (iaeEnv e) = [] ↔
      (0 ≤ e.flags ∧ e.flags ≤ 4294967295) ∧ (0 ≤ e.metaData ∧ e.metaData ≤ 4294967295) ∧
      (0 ≤ e.imageOffset ∧ e.imageOffset ≤ 4294967295) ∧ (0 ≤ e.imageSize ∧ e.imageSize ≤ 4294967295) ∧
      (0 ≤ e.loadAddress ∧ e.loadAddress ≤ 18446744073709551615) ∧ (0 ≤ e.entryPoint ∧ e.entryPoint ≤ 18446744073709551615) := by
  rw [failed_nil_iff]
  simp only [AhabConsts.recsIae, List.forall_mem_cons, List.not_mem_nil, false_imp_iff, implies_true, and_true]
  rw [show iaeEnv e "flags" = some e.flags from rfl, show iaeEnv e "image_meta_data" = some e.metaData from rfl,
      show iaeEnv e "_image_offset" = some e.imageOffset from rfl, show iaeEnv e "image_size" = some e.imageSize from rfl,
      show iaeEnv e "load_address" = some e.loadAddress from rfl, show iaeEnv e "entry_point" = some e.entryPoint from rfl]
  rw [recFails_false_bits _ _ rfl, recFails_false_bits _ _ rfl, recFails_false_bits _ _ rfl, recFails_false_bits _ _ rfl,
      recFails_false_bits _ _ rfl, recFails_false_bits _ _ rfl]

theorem header_records_iff (h : VHeader) :
    failed AhabConsts.recsHeader (headerEnv h) = [] ↔
      (0 ≤ h.tag ∧ h.tag ≤ 255) ∧ (0 ≤ h.length ∧ h.length ≤ 65535) ∧ (0 ≤ h.version ∧ h.version ≤ 255) := by
  rw [failed_nil_iff]
  simp only [AhabConsts.recsHeader, List.forall_mem_cons, List.not_mem_nil, false_imp_iff, implies_true, and_true]
  rw [show headerEnv h "tag" = some h.tag from rfl, show headerEnv h "length" = some h.length from rfl,
      show headerEnv h "version" = some h.version from rfl]
  rw [recFails_false_bits _ _ rfl, recFails_false_bits _ _ rfl, recFails_false_bits _ _ rfl]

theorem offset_record_iff (v : Ver) (off : Int) :
    failed (sbRecs v) (offsetEnv off) = [] ↔ (0 ≤ off ∧ off ≤ 65535) := by
  rw [failed_nil_iff]
  cases v <;>
  · simp only [sbRecs, AhabConsts.recsSigBlock, AhabConsts.recsSigBlockV2, List.forall_mem_cons, List.not_mem_nil, false_imp_iff,
      implies_true, and_true]
    rw [show offsetEnv off "offset" = some off from rfl, show offsetEnv off "blob.key_identifier" = some 0 from rfl]
    rw [recFails_false_bits _ _ rfl, recFails_false_bits _ _ rfl]
    simp

theorem keyid_record_iff (v : Ver) (kid : Int) :
    failed (sbRecs v) (keyIdEnv kid) = [] ↔ (0 ≤ kid ∧ kid ≤ 4294967295) := by
  rw [failed_nil_iff]
  cases v <;>
  · simp only [sbRecs, AhabConsts.recsSigBlock, AhabConsts.recsSigBlockV2, List.forall_mem_cons, List.not_mem_nil, false_imp_iff,
      implies_true, and_true]
    rw [show keyIdEnv kid "offset" = some 0 from rfl, show keyIdEnv kid "blob.key_identifier" = some kid from rfl]
    rw [recFails_false_bits _ _ rfl, recFails_false_bits _ _ rfl]
    simp

theorem blob_records_iff (b : VBlob) : failed AhabConsts.recsBlob (blobEnv b) = [] ↔ (0 ≤ b.mode ∧ b.mode ≤ 255) := by
  rw [failed_nil_iff]
  simp only [AhabConsts.recsBlob, List.forall_mem_cons, List.not_mem_nil, false_imp_iff, implies_true, and_true]
  rw [show blobEnv b "mode" = some b.mode from rfl, recFails_false_bits _ _ rfl]

theorem verifyHeader_nil (tags versions : List Nat) (h : VHeader) (tag ver : Nat) (ht : tag ∈ tags) (hv : ver ∈ versions)
    (h1 : h.tag = tag) (h2 : h.version = ver) (h3 : h.objLen = h.length) (r1 : tag ≤ 255) (r2 : ver ≤ 255)
    (r3 : 0 ≤ h.length ∧ h.length ≤ 65535) : verifyHeader tags versions h = [] := by
  unfold verifyHeader
  rw [(header_records_iff h).2 ⟨by omega, r3, by omega⟩]
  have a1 : tags.any (fun t => (t : Int) == h.tag) = true := List.any_eq_true.2 ⟨tag, ht, by simp [h1]⟩
  have a2 : versions.any (fun t => (t : Int) == h.version) = true := List.any_eq_true.2 ⟨ver, hv, by simp [h2]⟩
  simp [a1, a2, h3]

/-! ### the verifier input that corresponds to an updated model container -/

def toVIae (p : Placed) : VIae :=
  ⟨p.iae.imageOffset, p.iae.imageSize, p.iae.loadAddress, p.iae.entryPoint, p.iae.flags, p.iae.metaData,
   p.ready.image.length, p.entry.sizeAlign, true⟩

def toVBlob (b : Blob) (dek : Option Bytes) : VBlob :=
  ⟨b.size, b.mode, dek.map (·.length), b.keyblob.length, b.keyIdentifier,
   ⟨AhabConsts.blobTag, b.length, AhabConsts.blobVersion, b.length⟩⟩

def toVSigBlock (v : Ver) (sb : SigBlock) (dek : Option Bytes) : VSigBlock :=
  let o := sbLayout v sb
  ⟨⟨AhabConsts.sigBlockTag, o.length, v.sigBlockVersion, o.length⟩,
   ⟨decide (sb.srk.length ≠ 0), o.srkOff, sb.srk.length, true⟩,
   ⟨decide (sb.sigSize v ≠ 0), o.sigOff, sb.sigSize v, true⟩,
   ⟨decide (sb.cert.length ≠ 0), o.certOff, sb.cert.length, true⟩,
   ⟨decide (sb.blobLen ≠ 0), o.blobOff, sb.blobLen, true⟩,
   sb.blob.map (toVBlob · dek)⟩

def toVContainer (v : Ver) (u : UContainer) : VContainer :=
  let L := headerLength v u.placed.length (sbLayout v u.cont.sb).length
  ⟨⟨AhabConsts.containerTag, L, v.containerVersion, L⟩, u.cont.flags, u.cont.swVersion, u.cont.fuseVersion, u.base,
   u.placed.map toVIae, some (toVSigBlock v u.cont.sb u.cont.dek)⟩

/-- a block whose layout comes from `update_fields` passes `verify_block` -/
theorem verifyBlock_nil (v : Ver) (name : String) (present : Bool) (off len : Nat) (minOff : Int) (sub : List String)
    (hsub : sub = []) (hp : present = true → minOff ≤ off ∧ off ≠ 0 ∧ off ≤ 65535 ∧ (v = .v1 → off % 8 = 0))
    (ha : present = false → off = 0) :
    verifyBlock v name ⟨present, off, len, true⟩ minOff sub = [] := by
  subst hsub
  unfold verifyBlock
  cases present
  · have := ha rfl; subst this; simp
  · obtain ⟨h1, h2, h3, h4⟩ := hp rfl
    have hne : (((off : Nat) : Int) != 0) = true := by simp; omega
    simp only [hne]
    simp only [bne_self_eq_false, Bool.false_eq_true, if_false, Bool.not_true]
    have hlt : ¬ (((off : Nat) : Int) < minOff) := by omega
    rw [if_neg hlt]
    have hal : ¬ ((v == Ver.v1 && ((off : Nat) : Int) % ((AhabConsts.containerAlignment : Nat) : Int) != 0) = true) := by
      cases v
      · have := h4 rfl
        have e : ((AhabConsts.containerAlignment : Nat) : Int) = 8 := rfl
        simp [e]; omega
      · simp
    rw [if_neg hal, (offset_record_iff v off).2 ⟨by omega, by omega⟩]
    simp

structure BlobWF (b : Blob) (dek : Option Bytes) : Prop where
  size : AhabConsts.blobKeySizes.any (fun t => ((t.2.1 : Nat) : Int) == ((b.size : Nat) : Int)) = true
  mode : b.mode ≤ 255
  kid : b.keyIdentifier ≤ 4294967295
  kb : b.keyblob.length = b.size / 8 + 48
  dek : ∀ d, dek = some d → d.length = b.size / 8
  len : b.length ≤ 65535

theorem verifyBlob_nil (b : Blob) (dek : Option Bytes) (h : BlobWF b dek) : verifyBlob (toVBlob b dek) = [] := by
  unfold verifyBlob toVBlob
  simp only
  rw [verifyHeader_nil [AhabConsts.blobTag] [AhabConsts.blobVersion] _ AhabConsts.blobTag AhabConsts.blobVersion
      (List.mem_singleton.2 rfl) (List.mem_singleton.2 rfl) rfl rfl rfl (by decide) (by decide) ⟨by simp, by have := h.len; simp; omega⟩]
  rw [h.size, (blob_records_iff _).2 ⟨by simp, by have := h.mode; simp; omega⟩]
  have e8 : Int.fdiv ((b.size : Nat) : Int) 8 = ((b.size / 8 : Nat) : Int) := by
    rw [Int.fdiv_eq_ediv_of_nonneg _ (by omega)]; simp
  have hk : b.keyblob.length ≠ 0 := by have := h.kb; omega
  simp only [e8, if_neg hk]
  have hk2 : (((b.keyblob.length : Nat) : Int) == ((b.size / 8 : Nat) : Int) + 48) = true := by
    have := h.kb; simp; omega
  simp only [hk2, if_true, List.append_nil, List.nil_append, if_true]
  cases hd : dek with
  | none => simp
  | some d =>
    have := h.dek d hd
    simp [this]

theorem verifySigBlock_nil (v : Ver) (sb : SigBlock) (dek : Option Bytes) (hlen : (sbLayout v sb).length ≤ 65535)
    (hblob : ∀ b, sb.blob = some b → BlobWF b dek ∧ b.length ≠ 0) :
    verifySigBlock v (toVSigBlock v sb dek) = [] := by
  have L := sigblock_layout v sb
  simp only at L
  obtain ⟨z1, z2, z3, z4, p1, p2, p3, p4, h16, hal⟩ := L
  unfold verifySigBlock toVSigBlock
  simp only
  generalize ho : sbLayout v sb = o at *
  have hfix : (((v.sbLayout).size : Nat) : Int) = 16 := by rw [(sbLayout_widths v).2]; rfl
  rw [hfix]
  have hver : v.sigBlockVersion ≤ 255 := by cases v <;> decide
  rw [verifyHeader_nil [AhabConsts.sigBlockTag] [v.sigBlockVersion] _ AhabConsts.sigBlockTag v.sigBlockVersion
      (List.mem_singleton.2 rfl) (List.mem_singleton.2 rfl) rfl rfl rfl (by decide) hver ⟨by simp, by simp; omega⟩]
  rw [verifyBlock_nil v "SRK Table" _ o.srkOff _ 16 [] rfl
      (fun hp => by have h := of_decide_eq_true hp; have := p1 h; have := hal; exact ⟨by omega, by omega, by omega, fun hv => (this hv).1⟩)
      (fun hp => by have h := of_decide_eq_false hp; exact z1 (by omega))]
  rw [verifyBlock_nil v "Signature" _ o.sigOff _ _ [] rfl
      (fun hp => by
        have h := of_decide_eq_true hp
        have q := p2 h
        refine ⟨?_, by omega, by omega, fun hv => (hal hv).2.1⟩
        by_cases h1 : sb.srk.length = 0
        · simp [h1]; omega
        · have := q.2.1 h1; simp [h1]; omega)
      (fun hp => by have h := of_decide_eq_false hp; exact z2 (by omega))]
  rw [verifyBlock_nil v "Certificate" _ o.certOff _ _ [] rfl
      (fun hp => by
        have h := of_decide_eq_true hp
        have q := p3 h
        refine ⟨?_, by omega, by omega, fun hv => (hal hv).2.2.1⟩
        by_cases h2 : sb.sigSize v = 0
        · by_cases h1 : sb.srk.length = 0
          · simp [h1, h2]; omega
          · have := q.2.1 h1; simp [h1, h2]; omega
        · have := q.2.2.1 h2; simp [h2]; omega)
      (fun hp => by have h := of_decide_eq_false hp; exact z3 (by omega))]
  have hblobBlock : ∀ sub, sub = [] → verifyBlock v "Blob" ⟨decide (sb.blobLen ≠ 0), o.blobOff, sb.blobLen, true⟩
      (if decide (sb.cert.length ≠ 0) = true then (o.certOff : Int) + (sb.cert.length : Nat)
       else if decide (sb.sigSize v ≠ 0) = true then (o.sigOff : Int) + (sb.sigSize v : Nat)
       else if decide (sb.srk.length ≠ 0) = true then (o.srkOff : Int) + (sb.srk.length : Nat) else 16) sub = [] := by
    intro sub hsub
    exact verifyBlock_nil v "Blob" _ o.blobOff _ _ _ hsub
      (fun hp => by
        have h := of_decide_eq_true hp
        have q := p4 h
        refine ⟨?_, by omega, by omega, fun hv => (hal hv).2.2.2⟩
        by_cases h3 : sb.cert.length = 0
        · by_cases h2 : sb.sigSize v = 0
          · by_cases h1 : sb.srk.length = 0
            · simp [h1, h2, h3]; omega
            · have := q.2.1 h1; simp [h1, h2, h3]; omega
          · have := q.2.2.1 h2; simp [h2, h3]; omega
        · have := q.2.2.2.1 h3; simp [h3]; omega)
      (fun hp => by have h := of_decide_eq_false hp; exact z4 (by omega))
  cases hb : sb.blob with
  | none =>
    simp only [Option.map_none]
    rw [hblobBlock [] rfl]
    rfl
  | some b =>
    have hw := hblob b hb
    have hbl : sb.blobLen ≠ 0 := by simp [SigBlock.blobLen, hb]; exact hw.2
    simp only [Option.map_some]
    rw [hblobBlock _ (verifyBlob_nil b dek hw.1)]
    simp only [decide_eq_true hbl, if_true, List.nil_append, List.append_nil]
    unfold toVBlob
    exact (keyid_record_iff v _).2 ⟨by simp, by have := hw.1.kid; simp; omega⟩

/-- an updated entry as `update_fields` leaves it, with field values that fit the binary format -/
structure PlacedWF (ch : Chip) (v : Ver) (base : Nat) (p : Placed) : Prop where
  iae : p.iae = mkIae base p.offset p.entry p.ready
  size : p.ready.size = validSize ch v p.entry.flags p.entry.sizeAlign p.ready.image
  rOff : p.offset - base ≤ 4294967295
  rSize : p.ready.size ≤ 4294967295
  rLoad : p.entry.loadAddress ≤ 18446744073709551615
  rEntry : p.entry.entryPoint ≤ 18446744073709551615
  rFlags : p.entry.flags ≤ 4294967295
  rMeta : p.entry.metaData ≤ 4294967295

theorem verifyIae_nil (ch : Chip) (v : Ver) (base : Nat) (p : Placed) (h : PlacedWF ch v base p) :
    verifyIae ch v (toVIae p) = [] := by
  unfold verifyIae toVIae
  simp only [h.iae, mkIae]
  rw [(iae_records_iff _).2 ⟨⟨by simp, by have := h.rFlags; simp; omega⟩, ⟨by simp, by have := h.rMeta; simp; omega⟩,
      ⟨by simp, by have := h.rOff; simp; omega⟩, ⟨by simp, by have := h.rSize; simp; omega⟩,
      ⟨by simp, by have := h.rLoad; simp; omega⟩, ⟨by simp, by have := h.rEntry; simp; omega⟩⟩]
  have hs := h.size
  unfold validSize at hs
  have hflags : ((p.entry.flags : Nat) : Int).toNat = p.entry.flags := by simp
  rw [hflags]
  have hempty : p.ready.image.isEmpty = decide (p.ready.image.length = 0) := by
    cases p.ready.image <;> simp
  rw [hempty] at hs
  by_cases h0 : p.ready.image.length = 0
  · simp only [h0, decide_true, if_true] at hs ⊢
    simp [hs]
  · simp only [h0, decide_false, Bool.false_eq_true, if_false] at hs ⊢
    by_cases h1 : p.entry.sizeAlign = 0
    · simp only [h1, ne_eq, not_true_eq_false, if_false] at hs ⊢
      simp [hs]
    · simp only [ne_eq, h1, not_false_eq_true, if_true] at hs ⊢
      simp [hs]

end SpsdkVerif.AhabVerify
