/-
C13 — what the OTFAD / IEE / BEE proofs share.  `mapImage u f a m`: the image `m` stored at address `a` is cut into
`u`-byte pieces and the piece at address `x` is replaced by `f x piece`.  The specifications of the three encryptors and
the reads of the three engines all have this shape, so length, position independence, untouched bytes and "reading
inverts writing" are proved here once, for any piece function; `unitLoop` is the walk of `encrypt_image` over the
1 KiB / 4 KiB units of an image, `cutFields` the reading of a packed record.  No Mathlib.
-/
import SpsdkVerif.Proofs.FlashEncDefs
import SpsdkVerif.Proofs.Crypto
import SpsdkVerif.Proofs.Misc
import SpsdkVerif.Proofs.Crc

namespace SpsdkVerif.FlashEnc
open SpsdkVerif SpsdkVerif.Crypto
open SpsdkVerif.Misc (beEnc beDec leEnc leDec)

/-- the CRC parameters the hardware model is written with are the ones configured in the source -/
@[simp] theorem crc32MpegHw_eq (d : Bytes) : crc32MpegHw d = crc32Mpeg d := by
  have : crcMpegParams = Crc.crc32Mpeg2 := by decide
  simp [crc32MpegHw, crc32Mpeg, this]

theorem crc32Mpeg_lt (d : Bytes) : crc32Mpeg d < 2 ^ 32 := by
  have hp : crcMpegParams = Crc.crc32Mpeg2 := by decide
  have := Crc.registerFrom_lt (p := Crc.crc32Mpeg2) ⟨by decide, by decide⟩ d _ (by decide : Crc.crc32Mpeg2.init < 2 ^ 32)
  simpa [crc32Mpeg, hp, Crc.crc, Crc.crc32Mpeg2, Crc.register_eq] using this

theorem bytes_rev_ind {P : Bytes → Prop} (h0 : P []) (hs : ∀ l x, P l → P (l ++ [x])) : ∀ l, P l := by
  intro l
  rw [← List.reverse_reverse l]
  induction l.reverse with
  | nil => simpa using h0
  | cons x t ih => rw [List.reverse_cons]; exact hs _ _ ih

theorem beDec_lt (b : Bytes) : beDec b < 256 ^ b.length := Misc.beDec_lt b

theorem beDec_append (a b : Bytes) : beDec (a ++ b) = beDec a * 256 ^ b.length + beDec b := by
  induction b using bytes_rev_ind with
  | h0 => simp [beDec]
  | hs l x ih =>
    rw [← List.append_assoc, Misc.beDec_append_single, Misc.beDec_append_single, ih, List.length_append,
      List.length_singleton, Nat.pow_succ]
    rw [Nat.add_mul, Nat.mul_assoc, Nat.add_assoc]

theorem beEnc_add_mul (n m hi lo : Nat) (h : lo < 256 ^ m) :
    beEnc (n + m) (hi * 256 ^ m + lo) = beEnc n hi ++ beEnc m lo := by
  induction m generalizing lo with
  | zero => simp at h; subst h; simp [beEnc]
  | succ m ih =>
    have hp : 256 ^ (m + 1) = 256 ^ m * 256 := Nat.pow_succ ..
    rw [← Nat.add_assoc, beEnc, beEnc, ← List.append_assoc]
    have h1 : (hi * 256 ^ (m + 1) + lo) / 256 = hi * 256 ^ m + lo / 256 := by
      rw [hp, ← Nat.mul_assoc]; omega
    have h2 : (hi * 256 ^ (m + 1) + lo) % 256 = lo % 256 := by
      rw [hp, ← Nat.mul_assoc]; omega
    rw [h1, h2, ih (lo / 256) (by rw [hp] at h; omega)]

theorem ctrBlock_zero (iv : Bytes) (h : iv.length = 16) : ctrBlock iv 0 = iv := by
  have := Misc.beEnc_beDec iv
  rw [h] at this
  simpa [ctrBlock] using this

/-- the 128-bit big-endian increment of `nonce ‖ BE32(v)` by `j` stays inside the low 32-bit word -/
theorem counter_carry (nonce : Bytes) (hn : nonce.length = 12) (v j : Nat) (hv : v + j < 2 ^ 32) :
    ctrBlock (nonce ++ beEnc 4 v) j = nonce ++ beEnc 4 (v + j) := by
  unfold ctrBlock
  have hp : (256 : Nat) ^ 4 = 2 ^ 32 := by decide
  have hv' : v < 256 ^ 4 := by omega
  have hvj : v + j < 256 ^ 4 := by omega
  rw [beDec_append, Misc.beEnc_length, Misc.beDec_beEnc 4 v hv', Nat.add_assoc]
  have := beEnc_add_mul 12 4 (beDec nonce) (v + j) hvj
  rw [show (12 + 4 : Nat) = 16 from rfl] at this
  rw [this]
  have h2 := Misc.beEnc_beDec nonce
  rw [hn] at h2
  rw [h2]

theorem blocksFor_16 : blocksFor 16 = 1 := rfl

/-- `aes_ctr_encrypt(key, block, iv)` on exactly one block is `block xor E_key(iv)` -/
theorem ctrXor_block (c : CryptoOps) (k iv blk : Bytes) (hiv : iv.length = 16) (hb : blk.length = 16) :
    ctrXor c k iv blk = xorBytes blk (c.encBlk k iv) := by
  simp [ctrXor, ctrXorWith, hb, blocksFor_16, ctrStream, streamOf, ctrBlock_zero iv hiv]

theorem swap8_length (b : Bytes) (h : b.length = 16) : (swap8 b).length = 16 := by
  simp [swap8, h]

theorem swap8_swap8 (b : Bytes) (h : b.length = 16) : swap8 (swap8 b) = b := by
  have h1 : (b.take 8).reverse.length = 8 := by simp [h]
  have h2 : (b.drop 8).take 8 = b.drop 8 := List.take_of_length_le (by simp [h])
  have h3 : (b.drop 8).reverse.take 8 = (b.drop 8).reverse := List.take_of_length_le (by simp [h])
  unfold swap8
  rw [h2, List.take_left' h1, List.drop_left' h1, h3, List.reverse_reverse, List.reverse_reverse, List.take_append_drop]

theorem swap8_xor (a b : Bytes) (ha : a.length = 16) (hb : b.length = 16) :
    swap8 (xorBytes a b) = xorBytes (swap8 a) (swap8 b) := by
  simp only [swap8, xorBytes, List.take_zipWith, List.drop_zipWith]
  rw [List.reverse_zipWith (by simp [ha, hb]), List.reverse_zipWith (by simp [ha, hb]),
    ← List.zipWith_append (by simp [ha, hb])]

theorem zeroPad_length (n : Nat) (m : Bytes) : (zeroPad n m).length = m.length + (n - m.length % n) % n := by
  simp [zeroPad]

theorem zeroPad16_length_piece (p : Bytes) (h0 : 0 < p.length) (h16 : p.length ≤ 16) : (zeroPad 16 p).length = 16 := by
  rw [zeroPad_length]; omega

theorem zeroPad16_nil : zeroPad 16 ([] : Bytes) = [] := by simp [zeroPad, zeros]

theorem zeroPad16_length (m : Bytes) : (zeroPad 16 m).length = (m.length + 15) / 16 * 16 := by
  rw [zeroPad_length]; omega

theorem zeroPad_take_self (n : Nat) (m : Bytes) : (zeroPad n m).take m.length = m := by
  simp [zeroPad]

theorem zeroPad16_take (m : Bytes) : (zeroPad 16 m).take 16 = zeroPad 16 (m.take 16) := by
  by_cases hm : 16 ≤ m.length
  · rw [zeroPad_of_aligned 16 (m.take 16) (by rw [List.length_take]; omega)]
    exact List.take_append_of_le_length hm
  · rw [List.take_of_length_le (l := m) (by omega)]
    exact List.take_of_length_le (by rw [zeroPad_length]; omega)

theorem zeroPad16_drop (m : Bytes) : (zeroPad 16 m).drop 16 = zeroPad 16 (m.drop 16) := by
  by_cases hm : 16 ≤ m.length
  · unfold zeroPad
    rw [List.drop_append_of_le_length hm, List.length_drop, ← Nat.mod_eq_sub_mod hm]
  · rw [List.drop_of_length_le (l := m) (by omega), zeroPad16_nil]
    exact List.drop_of_length_le (by rw [zeroPad_length]; omega)

theorem sliceAssign_prefix (done rest x : Bytes) (blockLen : Nat) :
    sliceAssign (done ++ rest) done.length (blockLen + done.length) x = done ++ x ++ rest.drop blockLen := by
  simp [sliceAssign, List.drop_append]

def cutFields : List Nat → Bytes → List Bytes
  | [], _ => []
  | w :: ws, p => p.take w :: cutFields ws (p.drop w)

/-- reading back the fields of a packed record -/
theorem cutFields_flatten : ∀ (fs : List Bytes) (tail : Bytes), cutFields (fs.map List.length) (fs.flatten ++ tail) = fs
  | [], _ => rfl
  | x :: fs, tail => by
    rw [List.map_cons, List.flatten_cons, List.append_assoc, cutFields, List.take_left' rfl, List.drop_left' rfl,
      cutFields_flatten fs tail]

theorem firstLen_le (u base len : Nat) : firstLen u base len ≤ len := Nat.min_le_right _ _

theorem firstLen_unit {u : Nat} [NeZero u] (base len : Nat) : base % u + firstLen u base len ≤ u := by
  have := Nat.mod_lt base (Nat.pos_of_neZero u)
  have := Nat.mod_le (u - base % u) u
  unfold firstLen
  omega

/-- an image that goes on after its first piece goes on at a unit boundary -/
theorem firstLen_aligned {u : Nat} [NeZero u] {base len : Nat} (h : firstLen u base len < len) :
    (base + firstLen u base len) % u = 0 := by
  have hr := Nat.mod_lt base (Nat.pos_of_neZero u)
  have hfl : firstLen u base len = (u - base % u) % u := by unfold firstLen at h ⊢; omega
  rw [hfl]
  by_cases h0 : base % u = 0
  · rw [h0, Nat.sub_zero, Nat.mod_self, Nat.add_zero, h0]
  · have : base + (u - base % u) = u * (base / u + 1) := by
      have := Nat.div_add_mod base u
      rw [Nat.mul_add, Nat.mul_one]; omega
    have hlt : u - base % u < u := by omega
    rw [Nat.mod_eq_of_lt hlt, this, Nat.mul_mod_right]

theorem find?_congr {α : Type} {p q : α → Bool} : ∀ {l : List α}, (∀ x ∈ l, p x = q x) → l.find? p = l.find? q
  | [], _ => rfl
  | x :: l, h => by
    rw [List.find?_cons, List.find?_cons, h x List.mem_cons_self, find?_congr fun y hy => h y (List.mem_cons_of_mem _ hy)]

/-- an interval whose ends are multiples of `k` holds an address iff it holds any address of the same `k`-byte unit -/
theorem aligned_mem_iff {k s e a a' : Nat} (hs : s % k = 0) (he : e % k = 0) (h : a / k = a' / k) :
    (s ≤ a ∧ a < e) ↔ (s ≤ a' ∧ a' < e) := by
  rcases Nat.eq_zero_or_pos k with rfl | hk
  · simp only [Nat.mod_zero] at hs he; subst hs he; simp
  · have key : ∀ x, (s ≤ x ∧ x < e) ↔ (s / k ≤ x / k ∧ x / k < e / k) := fun x => by
      rw [Nat.le_div_iff_mul_le hk, Nat.div_mul_cancel (Nat.dvd_of_mod_eq_zero hs), Nat.div_lt_iff_lt_mul hk,
        Nat.div_mul_cancel (Nat.dvd_of_mod_eq_zero he)]
    rw [key a, key a', h]

/-- `f a p₀ ++ f (a+u) p₁ ++ …` for the first `n` consecutive `u`-byte pieces `pᵢ` of `m` -/
def mapPieces (u : Nat) (f : Nat → Bytes → Bytes) : Nat → Nat → Bytes → Bytes
  | 0, _, _ => []
  | n + 1, a, m => f a (m.take u) ++ mapPieces u f n (a + u) (m.drop u)

/-- number of `u`-byte pieces that cover `len` bytes (`piecesFor 16 = blocksFor`) -/
def piecesFor (u len : Nat) : Nat := (len + (u - 1)) / u

/-- the whole image: as many pieces as cover it -/
def mapImage (u : Nat) (f : Nat → Bytes → Bytes) (a : Nat) (m : Bytes) : Bytes := mapPieces u f (piecesFor u m.length) a m

theorem blocksFor_eq (len : Nat) : blocksFor len = piecesFor 16 len := rfl

section
variable {u : Nat} [NeZero u] {f g : Nat → Bytes → Bytes}

theorem piecesFor_pos {len : Nat} (h : 0 < len) : piecesFor u len = piecesFor u (len - u) + 1 := by
  have hu := Nat.pos_of_neZero u
  unfold piecesFor
  rw [← Nat.add_div_right _ hu]
  by_cases hl : u ≤ len
  · congr 1; omega
  · have e1 : len + (u - 1) = len - 1 + u := by omega
    have e2 : len - u + (u - 1) + u = u - 1 + u := by omega
    rw [e1, e2, Nat.add_div_right _ hu, Nat.add_div_right _ hu, Nat.div_eq_of_lt (by omega), Nat.div_eq_of_lt (by omega)]

theorem mapImage_nil (a : Nat) : mapImage u f a [] = [] := by
  have : piecesFor u 0 = 0 := Nat.div_eq_of_lt (by have := Nat.pos_of_neZero u; omega)
  simp only [mapImage, List.length_nil, this, mapPieces]

theorem mapImage_cons {m : Bytes} (hm : m ≠ []) (a : Nat) :
    mapImage u f a m = f a (m.take u) ++ mapImage u f (a + u) (m.drop u) := by
  simp only [mapImage, piecesFor_pos (List.length_pos_iff.mpr hm), mapPieces, List.length_drop]

/-- the address does not matter where nothing is left -/
theorem mapImage_addr {m : Bytes} {a a' : Nat} (h : m ≠ [] → a = a') : mapImage u f a m = mapImage u f a' m := by
  by_cases hm : m = []
  · rw [hm, mapImage_nil, mapImage_nil]
  · rw [h hm]

/-- the same with the address advanced by the length of the piece, as the code does -/
theorem mapImage_cons_length {m : Bytes} (hm : m ≠ []) (a : Nat) :
    mapImage u f a m = f a (m.take u) ++ mapImage u f (a + (m.take u).length) (m.drop u) := by
  rw [mapImage_cons hm]
  exact congrArg _ (mapImage_addr fun hd => by
    have := List.length_pos_iff.mpr hd
    rw [List.length_drop] at this
    rw [List.length_take]; omega)

theorem mapImage_single {m : Bytes} (hm : m ≠ []) (hl : m.length ≤ u) (a : Nat) : mapImage u f a m = f a m := by
  rw [mapImage_cons hm, List.take_of_length_le hl, List.drop_of_length_le hl, mapImage_nil, List.append_nil]

theorem pieces_ind (u : Nat) [NeZero u] {P : Nat → Bytes → Prop} (h0 : ∀ a, P a []) (hs : ∀ a m, m ≠ [] → P (a + u) (m.drop u) → P a m) :
    ∀ a m, P a m := by
  intro a m
  induction hn : m.length using Nat.strongRecOn generalizing a m with
  | _ n ih =>
    by_cases hm : m = []
    · subst hm; exact h0 a
    · have := List.length_pos_iff.mpr hm
      have := Nat.pos_of_neZero u
      exact hs a m hm (ih _ (by rw [List.length_drop]; omega) _ _ rfl)

theorem mapImage_id : ∀ (a : Nat) (m : Bytes), mapImage u (fun _ p => p) a m = m :=
  pieces_ind u (fun a => mapImage_nil a) fun a m hm ih => by
    rw [mapImage_cons hm, ih, List.take_append_drop]

theorem mapImage_congr : ∀ (a : Nat) (m : Bytes), (∀ j p, u * j < m.length → f (a + u * j) p = g (a + u * j) p) →
    mapImage u f a m = mapImage u g a m :=
  pieces_ind u (fun a _ => by rw [mapImage_nil, mapImage_nil]) fun a m hm ih h => by
    have h0 := h 0 (m.take u) (by rw [Nat.mul_zero]; exact List.length_pos_iff.mpr hm)
    rw [Nat.mul_zero, Nat.add_zero] at h0
    rw [mapImage_cons hm, mapImage_cons hm, h0,
      ih fun j p hj => by
        rw [List.length_drop] at hj
        rw [Nat.add_assoc, Nat.add_comm u, ← Nat.mul_succ]
        exact h (j + 1) p (by rw [Nat.mul_succ]; omega)]

/-- position independence: a split at a multiple of the piece size -/
theorem mapImage_append (q : Bytes) : ∀ (a : Nat) (p : Bytes), p.length % u = 0 →
    mapImage u f a (p ++ q) = mapImage u f a p ++ mapImage u f (a + p.length) q :=
  pieces_ind u (fun a _ => by simp [mapImage_nil]) fun a p hp ih hl => by
    have h0 := List.length_pos_iff.mpr hp
    have hle : u ≤ p.length := Nat.le_of_not_lt fun h => by rw [Nat.mod_eq_of_lt h] at hl; omega
    have hd : a + u + (p.drop u).length = a + p.length := by rw [List.length_drop]; omega
    rw [mapImage_cons (by simp [hp]), mapImage_cons hp, List.take_append_of_le_length hle,
      List.drop_append_of_le_length hle, ih (by rw [List.length_drop, ← Nat.mod_eq_sub_mod hle]; exact hl), hd,
      List.append_assoc]

/-- whole pieces: reading inverts writing when it does so on every piece -/
theorem mapImage_inv_exact (hinv : ∀ a p, p.length = u → g a (f a p) = p ∧ (f a p).length = u) :
    ∀ (a : Nat) (m : Bytes), m.length % u = 0 → mapImage u g a (mapImage u f a m) = m :=
  pieces_ind u (fun a _ => by rw [mapImage_nil, mapImage_nil]) fun a m hm ih hl => by
    have h0 := List.length_pos_iff.mpr hm
    have hu := Nat.pos_of_neZero u
    have hle : u ≤ m.length := Nat.le_of_not_lt fun h => by rw [Nat.mod_eq_of_lt h] at hl; omega
    obtain ⟨h1, h2⟩ := hinv a (m.take u) (by rw [List.length_take]; omega)
    rw [mapImage_cons hm, mapImage_cons (List.length_pos_iff.mp (by rw [List.length_append]; omega)),
      List.take_left' h2, List.drop_left' h2, h1, ih (by rw [List.length_drop, ← Nat.mod_eq_sub_mod hle]; exact hl),
      List.take_append_drop]

/-- a first piece of any length `fl`, then the rest from `a + fl` on -/
theorem mapImage_first (a : Nat) (m : Bytes) (fl : Nat) (h : fl < m.length → fl % u = 0) :
    mapImage u f a m = mapImage u f a (m.take fl) ++ mapImage u f (a + fl) (m.drop fl) := by
  by_cases hl : fl < m.length
  · have ht : (m.take fl).length = fl := by rw [List.length_take]; omega
    have := mapImage_append (f := f) (m.drop fl) a (m.take fl) (by rw [ht]; exact h hl)
    rwa [ht, List.take_append_drop] at this
  · rw [List.drop_of_length_le (by omega), List.take_of_length_le (by omega), mapImage_nil, List.append_nil]

/-- a walk in `U`-byte units, each unit walked in `u`-byte pieces, is the walk in `u`-byte pieces -/
theorem mapImage_regroup {U : Nat} [NeZero U] (hUu : U % u = 0) : ∀ (a : Nat) (m : Bytes),
    mapImage U (fun a b => mapImage u f a b) a m = mapImage u f a m :=
  pieces_ind U (fun a => by rw [mapImage_nil, mapImage_nil]) fun a m hm ih => by
    rw [mapImage_cons hm, ih]
    exact (mapImage_first a m U fun _ => hUu).symm

end

/-- the piece function keeps the length of a full piece and at most pads a short one to a multiple of 16 bytes -/
structure PieceLen (u : Nat) (f : Nat → Bytes → Bytes) : Prop where
  al : u % 16 = 0
  len : ∀ a p, 0 < p.length → p.length ≤ u → p.length ≤ (f a p).length ∧ (f a p).length ≤ (p.length + 15) / 16 * 16

section
variable {u : Nat} [NeZero u] {f g : Nat → Bytes → Bytes} (hf : PieceLen u f)
include hf

theorem PieceLen.whole (a : Nat) {p : Bytes} (hp : p.length = u) : (f a p).length = u := by
  have hl := hf.len a p (by rw [hp]; exact Nat.pos_of_neZero u) (Nat.le_of_eq hp)
  have := hf.al
  omega

theorem PieceLen.full (a : Nat) {m : Bytes} (h : u ≤ m.length) : (m.take u).length = u ∧ (f a (m.take u)).length = u :=
  have ht : (m.take u).length = u := by rw [List.length_take]; exact Nat.min_eq_left h
  ⟨ht, hf.whole a ht⟩

theorem mapImage_length : ∀ (a : Nat) (m : Bytes),
    m.length ≤ (mapImage u f a m).length ∧ (mapImage u f a m).length ≤ (m.length + 15) / 16 * 16 :=
  pieces_ind u (fun a => by simp [mapImage_nil]) fun a m hm ih => by
    by_cases hle : m.length ≤ u
    · rw [mapImage_single hm hle]
      exact hf.len a m (List.length_pos_iff.mpr hm) hle
    · have := (hf.full a (Nat.le_of_not_le hle)).2
      have := hf.al
      rw [mapImage_cons hm, List.length_append]
      rw [List.length_drop] at ih
      omega

theorem mapImage_length_aligned (a : Nat) {m : Bytes} (hm : m.length % 16 = 0) : (mapImage u f a m).length = m.length := by
  have := mapImage_length hf a m; omega

/-- a byte whose piece is left as it is keeps its value -/
theorem mapImage_outside : ∀ (a : Nat) (m : Bytes) (i : Nat), i < m.length → (∀ p, f (a + i / u * u) p = p) →
    (mapImage u f a m)[i]? = m[i]? :=
  pieces_ind u (fun a i hi => by simp at hi) fun a m hm ih i hi hid => by
    have hu := Nat.pos_of_neZero u
    rw [mapImage_cons hm]
    by_cases hiu : i < u
    · rw [Nat.div_eq_of_lt hiu, Nat.zero_mul, Nat.add_zero] at hid
      rw [hid, List.getElem?_append_left (by rw [List.length_take]; omega), List.getElem?_take, if_pos hiu]
    · have hlen := (hf.full a (by omega : u ≤ m.length)).2
      have ha : a + u + (i - u) / u * u = a + i / u * u := by
        rw [Nat.div_eq_sub_div hu (by omega : u ≤ i), Nat.succ_mul]; omega
      rw [List.getElem?_append_right (by omega), hlen, ih (i - u) (by rw [List.length_drop]; omega) (by rw [ha]; exact hid),
        List.getElem?_drop, Nat.add_sub_cancel' (Nat.le_of_not_lt hiu)]

/-- reading (`g`) what was written (`f`) returns the image when, at the addresses `A` of the pieces, every piece comes
    back as it was or zero padded -/
theorem mapImage_inv {A : Nat → Prop} (hA : ∀ a, A a → A (a + u))
    (hinv : ∀ a p, A a → 0 < p.length → p.length ≤ u → g a (f a p) = p ∨ g a (f a p) = zeroPad 16 p) :
    ∀ (a : Nat) (m : Bytes), A a → (mapImage u g a (mapImage u f a m)).take m.length = m :=
  pieces_ind u (fun a _ => by simp [mapImage_nil]) fun a m hm ih ha => by
    have h0 := List.length_pos_iff.mpr hm
    by_cases hle : m.length ≤ u
    · have hl := hf.len a m h0 hle
      have hfl : (f a m).length ≤ u := by have := hf.al; omega
      rw [mapImage_single hm hle, mapImage_single (List.length_pos_iff.mp (by omega)) hfl]
      rcases hinv a m ha h0 hle with e | e <;> rw [e]
      · exact List.take_of_length_le (Nat.le_refl _)
      · exact zeroPad_take_self 16 m
    · obtain ⟨ht, hlen⟩ := hf.full a (Nat.le_of_not_le hle)
      have hi : g a (f a (m.take u)) = m.take u := by
        rcases hinv a (m.take u) ha (by rw [ht]; exact Nat.pos_of_neZero u) (Nat.le_of_eq ht) with e | e
        · exact e
        · rw [e]; exact zeroPad_of_aligned 16 _ (by rw [ht]; exact hf.al)
      have hml : m.length = (m.take u).length + (m.drop u).length := by rw [← List.length_append, List.take_append_drop]
      rw [mapImage_cons hm, mapImage_cons (List.length_pos_iff.mp (by rw [List.length_append, hlen]; have := Nat.pos_of_neZero u; omega)),
        List.take_left' hlen, List.drop_left' hlen, hi, hml, List.take_length_add_append, ih (hA a ha),
        List.take_append_drop]

end

/-- encrypting the zero-padded image block by block = encrypting every piece zero padded -/
theorem mapPieces_zeroPad16 (f : Nat → Bytes → Bytes) : ∀ (a : Nat) (m : Bytes),
    mapPieces 16 f (piecesFor 16 m.length) a (zeroPad 16 m) = mapImage 16 (fun a p => f a (zeroPad 16 p)) a m :=
  pieces_ind 16 (fun a => by rw [mapImage_nil]; rfl) fun a m hm ih => by
    rw [mapImage_cons hm, ← ih, piecesFor_pos (List.length_pos_iff.mpr hm), mapPieces,
      zeroPad16_take, zeroPad16_drop, List.length_drop]

variable {c : CryptoOps}

/-- AES-CTR over `n` blocks whose counter word does not wrap is the block-wise xor with `E_k(nonce ‖ BE32(address >> 4))`:
    the 128-bit increment never carries into the nonce -/
theorem ctrXor_pieces (h : CryptoLaws c) (k nonce : Bytes) (hn : nonce.length = 12) (n v : Nat) (d : Bytes)
    (hd : d.length = 16 * n) (hv : v + n ≤ 2 ^ 32) :
    ctrXor c k (nonce ++ beEnc 4 v) d =
      mapPieces 16 (fun a p => xorBytes p (c.encBlk k (nonce ++ beEnc 4 (a / 16)))) n (16 * v) d := by
  have aux : ∀ (n i : Nat) (d : Bytes), d.length = 16 * n → v + i + n ≤ 2 ^ 32 →
      xorBytes d (streamOf (c.encBlk k) (ctrBlock (nonce ++ beEnc 4 v)) n i) =
        mapPieces 16 (fun a p => xorBytes p (c.encBlk k (nonce ++ beEnc 4 (a / 16)))) n (16 * (v + i)) d := by
    intro n
    induction n with
    | zero => intro i d hd _; rw [List.eq_nil_of_length_eq_zero hd]; rfl
    | succ n ih =>
      intro i d hd hv
      have key := xorBytes_append (d.take 16) (d.drop 16) (c.encBlk k (ctrBlock (nonce ++ beEnc 4 v) i))
        (streamOf (c.encBlk k) (ctrBlock (nonce ++ beEnc 4 v)) n (i + 1)) (by rw [h.enc_len, List.length_take]; omega)
      rw [List.take_append_drop, ih (i + 1) (d.drop 16) (by rw [List.length_drop]; omega) (by omega)] at key
      rw [streamOf, key, mapPieces, Nat.mul_div_cancel_left _ (by decide : 0 < 16), counter_carry nonce hn v i (by omega)]
      rfl
  have hbf : blocksFor d.length = n := by unfold blocksFor; omega
  simp only [ctrXor, ctrXorWith, ctrStream, hbf]
  exact aux n 0 d hd hv

/-- the walk of `encrypt_image`: `rest` is cut into `u`-byte blocks, `step addr block` rewrites the image
    (`otfadLoop` and `ieeLoop` are instances) -/
def unitLoop (u : Nat) (step : Nat → Bytes → Bytes → PyRes Bytes) : Nat → Nat → Bytes → Bytes → PyRes Bytes
  | 0, _, _, data => .ok data
  | f + 1, addr, rest, data =>
    if rest.isEmpty then .ok data
    else match step addr (rest.take u) data with
      | .error e => .error e
      | .ok data' => unitLoop u step f (addr + (rest.take u).length) (rest.drop u) data'

/-- if the step on a block inside one unit writes `F addr block` over the block, the walk writes `mapImage u F` over
    the rest of the image -/
theorem unitLoop_spec {u : Nat} [NeZero u] {step : Nat → Bytes → Bytes → PyRes Bytes} {F : Nat → Bytes → Bytes}
    (base : Nat) (hF : ∀ a p, p.length = u → (F a p).length = u)
    (hstep : ∀ done block tail, block ≠ [] → (base + done.length) % u = 0 → block.length ≤ u →
      step (base + done.length) block (done ++ (block ++ tail)) = .ok (done ++ F (base + done.length) block ++ tail)) :
    ∀ (fuel addr : Nat) (rest done : Bytes), rest.length ≤ fuel → (rest ≠ [] → addr = base + done.length ∧ addr % u = 0) →
      unitLoop u step fuel addr rest (done ++ rest) = .ok (done ++ mapImage u F addr rest)
  | 0, addr, rest, done, hf, _ => by
    rw [List.eq_nil_of_length_eq_zero (Nat.le_zero.mp hf), mapImage_nil]; rfl
  | fuel + 1, addr, rest, done, hf, ha => by
    by_cases hr : rest = []
    · rw [hr, mapImage_nil]; rfl
    · obtain ⟨rfl, hal⟩ := ha hr
      have h0 := List.length_pos_iff.mpr hr
      have hu := Nat.pos_of_neZero u
      have hb : rest.take u ≠ [] := List.length_pos_iff.mp (by rw [List.length_take]; omega)
      have hs := hstep done (rest.take u) (rest.drop u) hb hal (by rw [List.length_take]; omega)
      rw [List.take_append_drop] at hs
      rw [unitLoop, if_neg (by simpa using hr), hs, mapImage_cons_length hr, ← List.append_assoc]
      exact unitLoop_spec base hF hstep fuel (base + done.length + (rest.take u).length) (rest.drop u)
        (done ++ F (base + done.length) (rest.take u)) (by rw [List.length_drop]; omega) fun hd => by
        have hl : u < rest.length := by
          have := List.length_pos_iff.mpr hd; rw [List.length_drop] at this; omega
        have ht : (rest.take u).length = u := by rw [List.length_take]; omega
        rw [List.length_append, hF _ _ ht, ht, Nat.add_mod_right]
        exact ⟨by omega, hal⟩

end SpsdkVerif.FlashEnc
