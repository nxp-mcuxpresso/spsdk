/-
Lemmas for the writer side of HEX / S19 for arbitrary image trees (Model/HexFmtOw.lean): bincopy's
`_Segments.add(.., overwrite=True)` keeps the segment list normal (ascending, strictly separated, non-empty)
and means "the new data where it lies, the old content everywhere else", for ALL lists and ALL data.

Memory is read through `Seg.get` (Proofs/HexFmt.lean): `memAt` of a list and `owAt` are `Option.or`s of the segments'
bytes, the first one that answers wins.  The one computation with bytes is `Seg.get_overlay`.
-/
import SpsdkVerif.Model.HexFmtOw
import SpsdkVerif.Proofs.HexFmt
import SpsdkVerif.Proofs.BinImage
namespace SpsdkVerif.HexFmt
open SpsdkVerif.BinImg (getElem?_splice)

/-- what one `add_binary(.., overwrite=True)` means at address `a`: the new data where it lies, the old content elsewhere -/
def owAt (seg : Seg) (old : Option UInt8) (a : Nat) : Option UInt8 :=
  if seg.addr ≤ a ∧ a < seg.max then seg.data[a - seg.addr]? else old

/-- ascending, strictly separated (not even touching), non-empty segments: what a `BinFile` holds -/
def Norm (l : List Seg) : Prop := l.Pairwise (fun x y => x.max < y.addr) ∧ ∀ s ∈ l, s.data ≠ []

theorem owAt_eq_or (seg : Seg) (old : Option UInt8) (a : Nat) : owAt seg old a = (seg.get a).or old :=
  Seg.ite_get seg a old

/-- two reads commute when one of them does not answer -/
theorem or_left_comm_of_none {α} {x y : Option α} (z : Option α) (h : x = none ∨ y = none) :
    x.or (y.or z) = y.or (x.or z) := by
  rcases h with rfl | rfl <;> rfl

/-- `seg` laid over `c` (touching or overlapping it): what of `c` lies before `seg`, then `seg`, then what of `c` lies
    behind it; every read sees `seg` first -/
theorem Seg.get_overlay (c seg : Seg) (h1 : seg.addr ≤ c.max) (h2 : c.addr ≤ seg.max) (a : Nat) :
    (Seg.mk (min c.addr seg.addr)
      (c.data.take (seg.addr - c.addr) ++ seg.data ++ c.data.drop (seg.max - c.addr))).get a = (seg.get a).or (c.get a) := by
  obtain ⟨ca, cd⟩ := c
  obtain ⟨sa, sd⟩ := seg
  simp only [Seg.max_def] at h1 h2
  simp only [Seg.get, Seg.max_def]
  rw [getElem?_splice _ _ _ _ _ (by omega)]
  -- every address is written relative to the lower of the two starts
  rcases Nat.le_total ca sa with h | h
  · obtain ⟨p, rfl⟩ := Nat.exists_eq_add_of_le h
    rw [Nat.min_eq_left h, Nat.add_sub_cancel_left]
    by_cases hc : ca ≤ a
    · obtain ⟨i, rfl⟩ := Nat.exists_eq_add_of_le hc
      rw [if_pos hc, if_pos hc, Nat.add_sub_cancel_left]
      by_cases hp : i < p
      · rw [if_pos hp, if_neg (by omega)]; rfl
      · obtain ⟨j, rfl⟩ := Nat.exists_eq_add_of_le (Nat.le_of_not_lt hp)
        rw [if_neg hp, Nat.add_sub_cancel_left, if_pos (show ca + p ≤ ca + (p + j) by omega),
          show ca + (p + j) - (ca + p) = j by omega]
        by_cases hj : j < sd.length
        · rw [if_pos (by omega), List.getElem?_eq_getElem hj]; rfl
        · rw [if_neg (by omega), List.getElem?_eq_none (Nat.le_of_not_lt hj)]
          exact congrArg (cd[·]?) (by omega)
    · rw [if_neg hc, if_neg hc, if_neg (by omega)]; rfl
  · obtain ⟨k, rfl⟩ := Nat.exists_eq_add_of_le h
    rw [Nat.min_eq_right h, Nat.sub_eq_zero_of_le h]
    by_cases hs : sa ≤ a
    · obtain ⟨i, rfl⟩ := Nat.exists_eq_add_of_le hs
      rw [if_pos hs, if_pos hs, if_neg (Nat.not_lt_zero _), Nat.add_sub_cancel_left, Nat.zero_add, Nat.sub_zero]
      by_cases hi : i < sd.length
      · rw [if_pos hi, List.getElem?_eq_getElem hi]; rfl
      · rw [if_neg hi, List.getElem?_eq_none (Nat.le_of_not_lt hi), if_pos (by omega)]
        exact congrArg (cd[·]?) (by omega)
    · rw [if_neg hs, if_neg hs, if_neg (by omega)]; rfl

/-- all accepting branches of `_Segment.add_data(.., overwrite=True)` compute that overlay -/
theorem addDataOw_eq (c seg : Seg) (h1 : seg.addr ≤ c.max) (h2 : c.addr ≤ seg.max) :
    c.addDataOw seg = .ok ⟨min c.addr seg.addr,
      c.data.take (seg.addr - c.addr) ++ seg.data ++ c.data.drop (seg.max - c.addr)⟩ := by
  obtain ⟨ca, cd⟩ := c
  obtain ⟨sa, sd⟩ := seg
  simp only [Seg.max] at h1 h2
  simp only [Seg.addDataOw, Seg.max]
  split
  · rw [Nat.min_eq_left (by omega), List.take_of_length_le (by omega), List.drop_of_length_le (by omega), List.append_nil]
  · split
    · rw [Nat.min_eq_right (by omega), Nat.sub_eq_zero_of_le (by omega), Nat.sub_eq_zero_of_le (by omega)]; rfl
    · rw [if_pos (by omega)]
      split
      · rename_i hlt
        have hk : (sd.take (ca - sa)).length = ca - sa := by rw [List.length_take]; omega
        rw [Nat.min_eq_right (by omega), Nat.sub_eq_zero_of_le (Nat.le_of_lt hlt), List.take_left' hk,
          List.take_append_drop, List.length_drop, List.drop_append, hk, List.drop_of_length_le (by omega), List.nil_append,
          show ca - sa + (sd.length - (ca - sa)) - (ca - sa) = sa + sd.length - ca by omega]
        rfl
      · rw [Nat.min_eq_left (by omega), show sa - ca + sd.length = sa + sd.length - ca by omega]

/-- `_Segment.add_data(.., overwrite=True)` with data touching or overlapping the segment: the result starts at the lower
    start, holds the new data where it lies and the old data elsewhere -/
theorem addDataOw_spec (c seg : Seg) (hs : seg.data ≠ []) (h1 : seg.addr ≤ c.max) (h2 : c.addr ≤ seg.max) :
    ∃ c', c.addDataOw seg = .ok c' ∧ c'.addr = min c.addr seg.addr ∧ c'.data ≠ [] ∧
      ∀ a, c'.get a = (seg.get a).or (c.get a) :=
  ⟨_, addDataOw_eq c seg h1 h2, rfl, by simp [hs], Seg.get_overlay c seg h1 h2⟩

theorem norm_cons (s : Seg) (l : List Seg) : Norm (s :: l) ↔ s.data ≠ [] ∧ (∀ x ∈ l, s.addr + s.data.length < x.addr) ∧ Norm l := by
  unfold Norm
  simp only [List.pairwise_cons, List.mem_cons, forall_eq_or_imp, Seg.max]
  exact ⟨fun ⟨⟨h1, h2⟩, h3, h4⟩ => ⟨h3, h1, h2, h4⟩, fun ⟨h3, h1, h2, h4⟩ => ⟨⟨h1, h2⟩, h3, h4⟩⟩

theorem norm_nil : Norm [] := ⟨List.Pairwise.nil, nofun⟩

theorem norm_append (l r : List Seg) :
    Norm (l ++ r) ↔ Norm l ∧ Norm r ∧ ∀ x ∈ l, ∀ y ∈ r, x.addr + x.data.length < y.addr := by
  unfold Norm
  simp only [List.pairwise_append, List.mem_append, Seg.max]
  exact ⟨fun ⟨⟨h1, h2, h3⟩, h4⟩ => ⟨⟨h1, fun s hs => h4 s (Or.inl hs)⟩, ⟨h2, fun s hs => h4 s (Or.inr hs)⟩, h3⟩,
    fun ⟨⟨h1, h4⟩, ⟨h2, h5⟩, h3⟩ => ⟨⟨h1, h2, h3⟩, fun s hs => hs.elim (h4 s) (h5 s)⟩⟩

/-- the loop after an insertion: the current segment keeps its start, the list stays normal, what is left of the following
    segments are following segments, and no byte changes (the current segment wins where it lies) -/
theorem absorb_spec (c : Seg) (post : List Seg) (hc : c.data ≠ []) (hp : Norm post) (hlt : ∀ s ∈ post, c.addr < s.addr) :
    (absorb c post).1.addr = c.addr ∧ Norm ((absorb c post).1 :: (absorb c post).2) ∧
      (∀ x ∈ (absorb c post).2, x ∈ post) ∧
      ∀ a, memAt ((absorb c post).1 :: (absorb c post).2) a = memAt (c :: post) a := by
  induction post with
  | nil => exact ⟨rfl, (norm_cons _ _).2 ⟨hc, nofun, norm_nil⟩, nofun, fun _ => rfl⟩
  | cons s rest ih =>
    obtain ⟨hs, hgap, hrest⟩ := (norm_cons _ _).1 hp
    have hcs := hlt s (by simp)
    have hsl := List.length_pos_iff.mpr hs
    rw [absorb]
    split
    · -- `s` lies inside the current segment: deleted
      rename_i g1
      simp only [Seg.max_def] at g1
      obtain ⟨i1, i3, i4, i5⟩ := ih hrest (fun x hx => hlt x (by simp [hx]))
      refine ⟨i1, i3, fun x hx => List.mem_cons_of_mem _ (i4 x hx), fun a => ?_⟩
      rw [i5 a, memAt_cons, memAt_cons, memAt_cons s]
      cases hcg : c.get a with
      | some v => rfl
      | none =>
        have : s.get a = none := by rw [Seg.get_eq_none, Seg.max_def] at hcg ⊢; omega
        rw [this]; rfl
    · split
      · -- `s` reaches beyond it: its part behind the current end is appended, i.e. the current segment laid over `s`
        rename_i g1 g2
        simp only [Seg.max_def, ge_iff_le, Nat.not_le] at g1 g2
        have hov := Seg.get_overlay s c (by rw [Seg.max_def]; omega) (by rw [Seg.max_def]; omega)
        rw [Nat.min_eq_right (by omega), Nat.sub_eq_zero_of_le (by omega), List.take_zero, List.nil_append] at hov
        refine ⟨rfl, (norm_cons _ _).2 ⟨by simp [hc], fun x hx => ?_, hrest⟩, fun x hx => List.mem_cons_of_mem _ hx, fun a => ?_⟩
        · have := hgap x hx
          simp only [List.length_append, List.length_drop, Seg.max_def]; omega
        · rw [memAt_cons, memAt_cons, memAt_cons s, hov a, Option.or_assoc]
      · rename_i g1 g2
        simp only [Seg.max_def, ge_iff_le, Nat.not_le] at g2
        refine ⟨rfl, (norm_cons _ _).2 ⟨hc, fun x hx => ?_, hp⟩, fun x hx => hx, fun _ => rfl⟩
        show c.addr + c.data.length < x.addr
        rcases List.mem_cons.1 hx with rfl | hx
        · exact g2
        · have := hgap x hx; omega

/-- the linear search has stopped at `s` (the first segment not wholly below the new data): insert / overwrite / merge -/
theorem hitOw_spec (seg s : Seg) (rest : List Seg) (hn : Norm (s :: rest)) (hd : seg.data ≠ [])
    (hit : seg.addr ≤ s.addr + s.data.length) :
    ∃ Y, hitOw seg s rest = .ok Y ∧ Norm Y ∧ Y ≠ [] ∧ (∀ y ∈ Y, min seg.addr s.addr ≤ y.addr) ∧
      ∀ a, memAt Y a = owAt seg (memAt (s :: rest) a) a := by
  obtain ⟨hs, hgap, hrest⟩ := (norm_cons _ _).1 hn
  have hdl := List.length_pos_iff.mpr hd
  unfold hitOw
  split
  · rename_i h
    simp only [Seg.max_def] at h
    have hlt : ∀ x ∈ s :: rest, seg.addr < x.addr := by
      intro x hx
      rcases List.mem_cons.1 hx with rfl | hx
      · omega
      · have := hgap x hx; omega
    obtain ⟨i1, i3, i4, i5⟩ := absorb_spec seg (s :: rest) hd hn hlt
    refine ⟨_, rfl, i3, nofun, fun y hy => ?_, fun a => by rw [i5 a, memAt_cons, owAt_eq_or]⟩
    rcases List.mem_cons.1 hy with rfl | hy
    · rw [i1]; exact Nat.min_le_left _ _
    · have := hlt y (i4 y hy); omega
  · rename_i h
    simp only [Seg.max_def, Nat.not_lt] at h
    obtain ⟨s', e1, e2, e4, e5⟩ := addDataOw_spec s seg hd hit h
    obtain ⟨i1, i3, i4, i5⟩ := absorb_spec s' rest e4 hrest (fun x hx => by have := hgap x hx; omega)
    rw [e1]
    refine ⟨_, rfl, i3, nofun, fun y hy => ?_, fun a => by rw [i5 a, memAt_cons, e5 a, Option.or_assoc, ← memAt_cons, owAt_eq_or]⟩
    rcases List.mem_cons.1 hy with rfl | hy
    · rw [i1, e2]; omega
    · have := hgap y (i4 y hy); omega

/-- the linear insert of `_Segments.add(.., overwrite=True)` on a normal list -/
theorem owLinear_spec (seg : Seg) (hd : seg.data ≠ []) : ∀ l, Norm l →
    ∃ l' i, owLinear seg l = .ok (l', i) ∧ Norm l' ∧ i < l'.length ∧
      (∀ m, m < seg.addr → (∀ x ∈ l, m < x.addr) → ∀ x ∈ l', m < x.addr) ∧
      ∀ a, memAt l' a = owAt seg (memAt l a) a := by
  intro l
  induction l with
  | nil =>
    refine fun _ => ⟨[seg], 0, rfl, (norm_cons _ _).2 ⟨hd, nofun, norm_nil⟩, by simp, fun m hm _ x hx => ?_, fun a => rfl⟩
    rw [List.mem_singleton] at hx; subst hx; exact hm
  | cons s rest ih =>
    intro hn
    obtain ⟨hs, hgap, hrest⟩ := (norm_cons _ _).1 hn
    unfold owLinear
    split
    · rename_i hit
      obtain ⟨Y, y1, y2, y3, y4, y5⟩ := hitOw_spec seg s rest hn hd hit
      rw [y1]
      refine ⟨Y, 0, rfl, y2, List.length_pos_iff.mpr y3, fun m hm hl x hx => ?_, y5⟩
      have := y4 x hx
      have := hl s (by simp)
      omega
    · rename_i hit
      simp only [Seg.max_def, Nat.not_le] at hit
      obtain ⟨l', i, r1, r2, r3, r4, r5⟩ := ih hrest
      rw [r1]
      refine ⟨s :: l', i + 1, rfl, (norm_cons _ _).2 ⟨hs, r4 _ hit hgap, r2⟩, by simp [r3], fun m hm hl x hx => ?_, fun a => ?_⟩
      · rcases List.mem_cons.1 hx with rfl | hx
        · exact hl _ (by simp)
        · exact r4 m hm (fun y hy => hl y (by simp [hy])) x hx
      · rw [memAt_cons, memAt_cons, r5 a, owAt_eq_or, owAt_eq_or]
        refine or_left_comm_of_none _ ?_
        rw [Seg.get_eq_none, Seg.get_eq_none, Seg.max_def]; omega

/-- an untouched prefix wholly below the new data -/
theorem pre_spec (pre X Y : List Seg) (seg : Seg) (hn : Norm (pre ++ X)) (hy : Norm Y)
    (h1 : ∀ x ∈ pre, x.addr + x.data.length < seg.addr) (h2 : ∀ x ∈ pre, ∀ y ∈ Y, x.addr + x.data.length < y.addr)
    (h3 : ∀ a, memAt Y a = owAt seg (memAt X a) a) :
    Norm (pre ++ Y) ∧ ∀ a, memAt (pre ++ Y) a = owAt seg (memAt (pre ++ X) a) a := by
  refine ⟨(norm_append _ _).2 ⟨((norm_append _ _).1 hn).1, hy, h2⟩, fun a => ?_⟩
  rw [memAt_append, memAt_append, h3 a, owAt_eq_or, owAt_eq_or]
  refine or_left_comm_of_none _ ?_
  rw [memAt_eq_none, Seg.get_eq_none]
  by_cases ha : a < seg.addr
  · exact Or.inr (Or.inl ha)
  · exact Or.inl fun x hx => Or.inr (by have := h1 x hx; rw [Seg.max_def]; omega)

/-- `_Segments.add(segment, overwrite=True)`, for EVERY normal segment list, every position of the current segment and
    every non-empty data: it succeeds, the list stays normal (ascending, strictly separated, non-empty), the current
    index stays inside, and afterwards every address holds the new data where that lies and what it held before elsewhere -/
theorem addOw_spec (st : SegList) (seg : Seg) (hn : Norm st.list) (hcur : st.list = [] ∨ st.cur < st.list.length)
    (hd : seg.data ≠ []) :
    ∃ st', st.addOw seg = .ok st' ∧ Norm st'.list ∧ st'.cur < st'.list.length ∧
      ∀ a, memAt st'.list a = owAt seg (memAt st.list a) a := by
  obtain ⟨l, cur⟩ := st
  simp only at hn hcur ⊢
  unfold SegList.addOw
  simp only
  cases hl : l with
  | nil => exact ⟨_, rfl, (norm_cons _ _).2 ⟨hd, nofun, norm_nil⟩, by simp, fun a => rfl⟩
  | cons x xs =>
    rw [← hl]
    have hc : cur < l.length := hcur.resolve_left (by rw [hl]; nofun)
    rw [(by rw [hl]; rfl : l.isEmpty = false), List.getElem?_eq_getElem hc]
    simp only [Bool.false_eq_true, if_false]
    split
    · -- fast path: the data starts where the current segment ends; this is `hitOw` at the current segment
      rename_i hf
      have hsplit : l = l.take cur ++ l[cur] :: l.drop (cur + 1) := by
        rw [← List.drop_eq_getElem_cons hc, List.take_append_drop]
      generalize l.take cur = pre, l.drop (cur + 1) = post, l[cur] = c at hsplit hf ⊢
      subst hsplit
      obtain ⟨_, n2, n3⟩ := (norm_append _ _).1 hn
      have hf' : seg.addr = c.addr + c.data.length := hf
      have hdl := List.length_pos_iff.mpr hd
      obtain ⟨Y, y1, y2, _, y4, y5⟩ := hitOw_spec seg c post n2 hd (by omega)
      rw [hitOw, if_neg (by rw [Seg.max_def]; omega), Seg.addDataOw, if_pos hf] at y1
      cases y1
      have hp := pre_spec pre (c :: post) _ seg hn y2
        (fun p hp => by have := n3 p hp c (by simp); omega)
        (fun p hp y hy => by have := n3 p hp c (by simp); have := y4 y hy; omega) y5
      exact ⟨_, rfl, hp.1, by simp [finishAdd], hp.2⟩
    · obtain ⟨l', i, r1, r2, r3, _, r5⟩ := owLinear_spec seg hd l hn
      rw [r1]
      exact ⟨_, rfl, r2, r3, r5⟩

/-- the memory a sequence of overwriting writes leaves at address `a`, starting from `init`: the LAST write that
    covers `a` wins -/
def memWFrom (init : Option UInt8) (ws : List Seg) (a : Nat) : Option UInt8 :=
  ws.foldl (fun old w => owAt w old a) init

def memW (ws : List Seg) (a : Nat) : Option UInt8 := memWFrom none ws a

theorem addAllOw_spec (ws : List Seg) (hw : ∀ w ∈ ws, w.data ≠ []) : ∀ st : SegList, Norm st.list →
    (st.list = [] ∨ st.cur < st.list.length) →
    ∃ st', addAllOw st ws = .ok st' ∧ Norm st'.list ∧ (st.list ≠ [] ∨ ws ≠ [] → st'.cur < st'.list.length) ∧
      ∀ a, memAt st'.list a = memWFrom (memAt st.list a) ws a := by
  induction ws with
  | nil => intro st hn hc; exact ⟨st, rfl, hn, fun h => hc.resolve_left (h.resolve_right nofun), fun _ => rfl⟩
  | cons w ws ih =>
    intro st hn hc
    obtain ⟨st1, a1, a2, a3, a4⟩ := addOw_spec st w hn hc (hw w (by simp))
    obtain ⟨st2, b1, b2, b3, b4⟩ := ih (fun x hx => hw x (by simp [hx])) st1 a2 (Or.inr a3)
    exact ⟨st2, by simp only [addAllOw, a1]; exact b1, b2, fun _ => b3 (Or.inl (List.length_pos_iff.1 (by omega))),
      fun a => by rw [b4 a, a4 a]; rfl⟩

theorem memAt_some_cover (l : List Seg) (a : Nat) (h : memAt l a ≠ none) : ∃ x ∈ l, x.addr ≤ a ∧ a < x.addr + x.data.length := by
  rw [Ne, memAt_eq_none] at h
  simp only [Classical.not_forall] at h
  obtain ⟨x, hx, h⟩ := h
  exact ⟨x, hx, by rw [Seg.max_def] at h; omega⟩

theorem memWFrom_cover (ws : List Seg) (a : Nat) : ∀ init, memWFrom init ws a ≠ none →
    init ≠ none ∨ ∃ w ∈ ws, w.addr ≤ a ∧ a < w.addr + w.data.length := by
  induction ws with
  | nil => intro init h; exact Or.inl h
  | cons w ws ih =>
    intro init h
    rcases ih (owAt w init a) h with h1 | ⟨x, hx, hxa⟩
    · rw [owAt_eq_or, Ne, Option.or_eq_none_iff, Seg.get_eq_none, Seg.max_def] at h1
      by_cases ha : w.addr ≤ a ∧ a < w.addr + w.data.length
      · exact Or.inr ⟨w, by simp, ha⟩
      · exact Or.inl fun h0 => h1 ⟨by omega, h0⟩
    · exact Or.inr ⟨x, by simp [hx], hxa⟩

/-- nothing is stored outside the written ranges: every resulting segment ends where some write ends at the latest -/
theorem segs_bound (ws l : List Seg) (B : Nat) (hl : ∀ s ∈ l, s.data ≠ []) (hb : ∀ w ∈ ws, w.addr + w.data.length ≤ B)
    (hm : ∀ a, memAt l a = memW ws a) : ∀ s ∈ l, s.addr + s.data.length ≤ B := by
  intro s hs
  have hsl := List.length_pos_iff.mpr (hl s hs)
  have h1 : memAt l (s.addr + s.data.length - 1) ≠ none := fun h0 => by
    have := (memAt_eq_none _ _).1 h0 s hs; rw [Seg.max_def] at this; omega
  rw [hm] at h1
  rcases memWFrom_cover ws _ none h1 with h | ⟨w, hw, hwa⟩
  · exact absurd rfl h
  · have := hb w hw; omega

theorem norm_noAdj (l : List Seg) (h : Norm l) : NoAdj l := by
  induction l with
  | nil => trivial
  | cons a rest ih =>
    obtain ⟨_, hg, hr⟩ := (norm_cons _ _).1 h
    cases rest with
    | nil => trivial
    | cons b rest' => exact ⟨by have := hg b (by simp); rw [Seg.max_def]; omega, ih hr⟩

theorem norm_segsFrom (l : List Seg) : ∀ m, Norm l → (∀ s ∈ l, m ≤ s.addr ∧ s.addr + s.data.length ≤ 2 ^ 32) → SegsFrom m l := by
  induction l with
  | nil => intro _ _ _; trivial
  | cons a rest ih =>
    intro m h hb
    obtain ⟨hd, hg, hr⟩ := (norm_cons _ _).1 h
    exact ⟨(hb a (by simp)).1, hd, (hb a (by simp)).2,
      ih _ hr fun s hs => ⟨by have := hg s hs; rw [Seg.max_def]; omega, (hb s (by simp [hs])).2⟩⟩

end SpsdkVerif.HexFmt

namespace SpsdkVerif.BinImg
open SpsdkVerif.HexFmt SpsdkVerif.Misc

/-- every `add_binary` call of `save_binary_image` carries data (an empty pattern block or binary is skipped) -/
theorem savePlan_nonempty (i : Img) : ∀ abs, ∀ w ∈ i.savePlan abs, w.data ≠ [] := by
  induction i using Img.induct' with
  | h s o al b p ch ih =>
    have hl : ∀ (l : List Img), (∀ c ∈ l, ∀ abs, ∀ w ∈ c.savePlan abs, w.data ≠ []) →
        ∀ abs, ∀ w ∈ savePlanList abs l, w.data ≠ [] := by
      intro l
      induction l with
      | nil => intro _ abs w hw; rw [savePlanList] at hw; cases hw
      | cons c cs ihl =>
        intro h abs w hw
        rw [savePlanList, List.mem_append] at hw
        exact hw.elim (h c (by simp) abs w) (ihl (fun c' hc' => h c' (by simp [hc'])) abs w)
    intro abs w hw
    unfold Img.savePlan at hw
    simp only [List.mem_append] at hw
    rcases hw with (hw | hw) | hw
    · -- the pattern block has the (non-zero) length of the image
      rcases p with _ | p <;> simp only [] at hw
      · cases hw
      · split at hw
        · rw [List.mem_singleton.1 hw]
          exact fun h0 => ‹_ ≠ 0› ((block_length p _).symm.trans (congrArg List.length h0))
        · cases hw
    · rcases b with _ | b <;> simp only [] at hw
      · cases hw
      · split at hw
        · cases hw
        · rw [List.mem_singleton.1 hw]; simpa using ‹¬ b.isEmpty = true›
    · exact hl ch ih _ w hw
end SpsdkVerif.BinImg
