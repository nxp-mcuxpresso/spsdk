/- Helper lemmas for the property-decoding part of Properties/C10.lean. -/
import SpsdkVerif.Model.MbootProps

namespace SpsdkVerif.MbootProps
open SpsdkVerif

theorem shr_mod (v k : Nat) : (v >>> k) % 256 = v / 2 ^ k % 256 := by rw [Nat.shiftRight_eq_div_pow]

/-- `major << 16 | minor << 8 | fixation` for byte-sized fields -/
theorem pack3 (a b c : Nat) (hb : b < 256) (hc : c < 256) :
    (a <<< 16 ||| b <<< 8 ||| c) = a * 65536 + b * 256 + c := by
  have e1 : a <<< 16 ||| b <<< 8 = a <<< 16 + b <<< 8 :=
    (Nat.shiftLeft_add_eq_or_of_lt (i := 16) (by rw [Nat.shiftLeft_eq]; omega) a).symm
  have e2 : a <<< 16 + b <<< 8 = (a * 256 + b) <<< 8 := by
    simp only [Nat.shiftLeft_eq]; omega
  rw [e1, e2, ← Nat.shiftLeft_add_eq_or_of_lt (i := 8) (by omega), Nat.shiftLeft_eq]
  omega

theorem pack4 (m a b c : Nat) (ha : a < 256) (hb : b < 256) (hc : c < 256) :
    (a <<< 16 ||| b <<< 8 ||| c) ||| m <<< 24 = m * 16777216 + a * 65536 + b * 256 + c := by
  rw [pack3 a b c hb hc, Nat.or_comm, ← Nat.shiftLeft_add_eq_or_of_lt (by omega), Nat.shiftLeft_eq]
  omega

theorem fromInt_fields (v : Nat) :
    (Version.fromInt v).major < 256 ∧ (Version.fromInt v).minor < 256 ∧ (Version.fromInt v).fixation < 256 ∧
    ∀ m, (Version.fromInt v).mark = some m → 64 < m ∧ m < 91 := by
  refine ⟨Nat.mod_lt _ (by decide), Nat.mod_lt _ (by decide), Nat.mod_lt _ (by decide), ?_⟩
  intro m hm
  simp only [Version.fromInt] at hm
  split at hm
  · cases hm; assumption
  · cases hm

theorem digits4 (v : Nat) :
    v / 16777216 * 16777216 + v / 65536 % 256 * 65536 + v / 256 % 256 * 256 + v % 256 = v := by omega

/-- a version word whose mark byte is an upper-case letter (or zero) is reported exactly as the device sent it -/
theorem toInt_fromInt (v : Nat) (hv : v < 4294967296)
    (hm : (64 < v / 16777216 ∧ v / 16777216 < 91) ∨ v / 16777216 = 0) :
    (Version.fromInt v).toInt = v := by
  have hmm : (v >>> 24) % 256 = v / 16777216 := by
    rw [Nat.shiftRight_eq_div_pow]; exact Nat.mod_eq_of_lt (Nat.div_lt_of_lt_mul hv)
  have b16 : v / 65536 % 256 < 256 := Nat.mod_lt _ (by decide)
  have b8 : v / 256 % 256 < 256 := Nat.mod_lt _ (by decide)
  have b0 : v % 256 < 256 := Nat.mod_lt _ (by decide)
  simp only [Version.toInt, Version.fromInt, hmm, shr_mod, Nat.reducePow, Bool.false_eq_true, if_false]
  rcases hm with hm | hm
  · rw [if_pos hm, pack4 _ _ _ _ b16 b8 b0]
    exact digits4 v
  · rw [if_neg (by omega), Nat.or_zero, pack3 _ _ _ b8 b0]
    have := digits4 v
    rwa [hm, Nat.zero_mul, Nat.zero_add] at this

/-- without the mark a version is `major·2^16 + minor·2^8 + fixation`: the ordering is lexicographic -/
theorem toInt_noMark (x : Version) (hb : x.minor < 256) (hc : x.fixation < 256) :
    x.toInt true = x.major * 65536 + x.minor * 256 + x.fixation := by
  simp only [Version.toInt, if_true, Nat.or_zero]
  exact pack3 _ _ _ hb hc

theorem mem_commandTagsOf (all : List Nat) (v t : Nat) :
    t ∈ commandTagsOf all v ↔ t ∈ all ∧ 0 < t ∧ v.testBit (t - 1) = true := by
  simp [commandTagsOf, List.mem_filter]

theorem mem_peripheralsOf (all : List Nat) (v t : Nat) :
    t ∈ peripheralsOf all v ↔ t ∈ all ∧ t &&& v ≠ 0 := by
  simp [peripheralsOf, List.mem_filter]

/-- an even number of words: exactly the pairs with a non-zero end, in order -/
theorem regionsOf_pairs (ps : List (Nat × Nat)) :
    regionsOf (ps.flatMap (fun q => [q.1, q.2])) = .ok (ps.filter (fun q => q.2 ≠ 0)) := by
  induction ps with
  | nil => rfl
  | cons q r ih =>
    simp only [List.flatMap_cons, List.cons_append, List.nil_append, regionsOf, ih]
    by_cases h : q.2 = 0 <;> simp [h]

/-- an odd number of words is refused (`IndexError`) -/
theorem regionsOf_odd (ps : List (Nat × Nat)) (x : Nat) :
    regionsOf (ps.flatMap (fun q => [q.1, q.2]) ++ [x]) = .error .other := by
  induction ps with
  | nil => rfl
  | cons q r ih => simp only [List.flatMap_cons, List.cons_append, List.nil_append, regionsOf, ih]

def fromLe4 : List UInt8 → List Nat
  | a :: b :: c :: d :: r => (a.toNat + 256 * b.toNat + 65536 * c.toNat + 16777216 * d.toNat) :: fromLe4 r
  | _ => []

/-- the UID bytes are exactly the device's words, little endian, in order -/
theorem fromLe4_uidBytes (raw : List Nat) (h : ∀ w ∈ raw, w < 4294967296) : fromLe4 (uidBytes raw) = raw := by
  induction raw with
  | nil => rfl
  | cons w r ih =>
    have d := digits4 w
    have e : w / 16777216 % 256 = w / 16777216 := Nat.mod_eq_of_lt (Nat.div_lt_of_lt_mul (h w List.mem_cons_self))
    have := ih fun q hq => h q (List.mem_cons_of_mem _ hq)
    simp only [uidBytes] at this
    simp only [uidBytes, List.flatMap_cons, le4, List.cons_append, List.nil_append, fromLe4, this]
    congr 1
    simp only [UInt8.toNat_ofNat', Nat.reducePow, Nat.mod_mod, e]
    generalize w % 256 = a, w / 256 % 256 = b, w / 65536 % 256 = c, w / 16777216 = m at d ⊢
    omega

end SpsdkVerif.MbootProps
