/-
C13 — IEE: the extended engine of Spec/FlashEncHw.lean (all five AES modes, page offset, 16-byte granular
CTR reads) inverts what `IeeKeyBlob.encrypt_image` / `Iee.encrypt_image` write; the counter construction of the
engine is the only one a CTR-type engine can have if it is to read SPSDK's output back.
-/
import SpsdkVerif.Proofs.FlashEncIee

namespace SpsdkVerif.FlashEnc
open SpsdkVerif SpsdkVerif.Crypto
open SpsdkVerif.Misc (beEnc beDec leEnc leDec beEnc_length)
open SpsdkVerif.Generated.FlashEncConsts

variable {c : CryptoOps}

theorem ieex_ctx_isCtrMode (b : IeeBlob) (hc : b.mode.isCtr = true) : b.ctx.isCtrMode = true ∧ b.ctx.modeTag ≠ 0xA6 := by
  have htag : b.ctx.modeTag = b.mode.tag := rfl
  unfold IeeCtx.isCtrMode
  rw [htag]
  cases hm : b.mode <;> simp_all [IeeMode.isCtr, IeeMode.tag, ieeModeCtrAddr, ieeModeCtrNoAddr, ieeModeCtrKeystream]

/-- the CTR engine (A-PO, A-CTR) reading, block by block from the 16-byte aligned system address `p`, what SPSDK
    encrypted for the logical address `p + 4 KiB · pageOffset` -/
theorem ieex_ctr_any (h : CryptoLaws c) (b : IeeBlob) (hwf : b.WF) (hc : b.mode.isCtr = true) (p : Nat) (hp : p % 16 = 0)
    (d : Bytes) :
    ∃ ct, b.encryptImage c (b.ctx.logical p) d = .ok ct ∧ ct.length = (d.length + 15) / 16 * 16 ∧
      (ieeCtrReadX c b.ctx (blocksFor ct.length) p ct).take d.length = d := by
  refine ⟨_, iee_encryptImage_ctr b hwf hc _ (by unfold IeeCtx.logical; omega) d, ?_, ?_⟩
  · have := mapImage_length (iee_ctrPiece_len h (IeeCtx.word b.key1) (IeeCtx.word b.key2))
      (b.ctx.logical p) (zeroPad 16 d)
    have := zeroPad16_length d
    rw [iee_encPage_ctr b hc]; omega
  · rw [ieeCtrReadX, iee_ctrPage_encPage h b hwf hc]
    exact zeroPad_take_self 16 d

theorem xorU8_inj (x y z : UInt8) (h : x ^^^ y = x ^^^ z) : y = z := by
  have : x ^^^ (x ^^^ y) = x ^^^ (x ^^^ z) := by rw [h]
  rwa [← UInt8.xor_assoc, ← UInt8.xor_assoc, UInt8.xor_self, UInt8.zero_xor, UInt8.zero_xor] at this

theorem xorBytes_inj_right : ∀ (a k1 k2 : Bytes), a.length = k1.length → a.length = k2.length →
    xorBytes a k1 = xorBytes a k2 → k1 = k2
  | [], k1, k2, h1, h2, _ => by
    have e1 : k1 = [] := List.eq_nil_of_length_eq_zero (by simpa using h1.symm)
    have e2 : k2 = [] := List.eq_nil_of_length_eq_zero (by simpa using h2.symm)
    rw [e1, e2]
  | x :: a, [], _, h1, _, _ => by simp at h1
  | x :: a, _ :: _, [], _, h2, _ => by simp at h2
  | x :: a, y :: k1, z :: k2, h1, h2, he => by
    simp only [xorBytes, List.zipWith_cons_cons, List.cons.injEq] at he
    have ih := xorBytes_inj_right a k1 k2 (by simpa using h1) (by simpa using h2) (by simpa [xorBytes] using he.2)
    rw [xorU8_inj x y z he.1, ih]

/-- If ANY CTR-type engine (key = key1, keystream block = AES_K(`ctr`)) turns the block SPSDK wrote for address `a` back
    into the plaintext block, then `ctr` is `KEY2[127:32] ‖ BE32(KEY2[31:0] + (a >> 4))` — in every CTR mode. -/
theorem ieex_ctr_engine_only (h : CryptoLaws c) (b : IeeBlob) (hwf : b.WF) (hc : b.mode.isCtr = true) (a : Nat)
    (ha : a % 16 = 0) (blk ctr ct : Bytes) (hblk : blk.length = 16) (hctr : ctr.length = 16)
    (henc : b.encryptImage c a blk = .ok ct) (hdec : xorBytes ct (c.encBlk (IeeCtx.word b.key1) ctr) = blk) :
    ctr = (IeeCtx.word b.key2).take 12 ++ beEnc 4 (beDec ((IeeCtx.word b.key2).drop 12) + a / 16) := by
  have hNl : (IeeCtx.word b.key2).length = 16 := by rw [(iee_key_lengths b hwf).2.2.2, iee_key2Size_ctr b hc]
  have hiv : (counterValue (IeeCtx.word b.key2) (a / 16)).length = 16 := by
    simp [counterValue, beEnc_length, hNl]
  have hne : blk ≠ [] := List.length_pos_iff.mp (by omega)
  rw [iee_encryptImage_ctr b hwf hc a ha blk, iee_encPage_ctr b hc, zeroPad_of_aligned 16 blk (by omega),
    mapImage_single hne (by omega), iee_ctrPiece, ctrXor_block c _ _ _ hiv hblk] at henc
  have henc := (Except.ok.injEq _ _ ▸ henc : _ = ct)
  subst henc
  have e1 := xorBytes_cancel_eq blk (c.encBlk (IeeCtx.word b.key1) (counterValue (IeeCtx.word b.key2) (a / 16)))
    (by rw [hblk, h.enc_len])
  have hE := xorBytes_inj_right _ _ _ (by simp [hblk, h.enc_len]) (by simp [hblk, h.enc_len]) (e1.trans hdec.symm)
  have := congrArg (c.decBlk (IeeCtx.word b.key1)) hE
  rw [h.dec_enc _ _ hiv, h.dec_enc _ _ hctr] at this
  rw [← this]
  rfl

theorem ieex_hwPage_blob (h : CryptoLaws c) (ctxs : List IeeCtx) (b : IeeBlob) (hwf : b.WF) (hpo : b.pageOffset = 0) (a : Nat)
    (hf : ctxs.find? (fun x => x.hit a) = some b.ctx) (d : Bytes) :
    ieeHwPageX c ctxs a (b.encPage c a d) = if b.mode = .bypass then d else zeroPad 16 d := by
  have htag : b.ctx.modeTag = b.mode.tag := rfl
  have hlog : b.ctx.logical a = a := by
    show a + 4096 * b.pageOffset = a
    rw [hpo]; rfl
  rw [ieeHwPageX, hf]
  rcases iee_mode_cases b with hm | hm | hc
  · simp [htag, IeeCtx.isCtrMode, hm, IeeMode.tag, ieeModeBypass, iee_encPage_bypass b hm]
  · simp [htag, hlog, hm, IeeMode.tag, ieeModeXts, iee_xtsDec_encPage h b hwf hm]
  · obtain ⟨hcm, hna6⟩ := ieex_ctx_isCtrMode b hc
    have hmb : b.mode ≠ .bypass := fun e => by rw [e] at hc; cases hc
    simp only [hna6, if_false, hcm, if_true, hmb, ieeCtrReadX, hlog, iee_ctrPage_encPage h b hwf hc]

/-- whole image, the five modes mixed freely (page offset 0): the extended engine reads the specified ciphertext back -/
theorem ieex_spec_hw (h : CryptoLaws c) (bs : List IeeBlob) (hwf : ∀ b ∈ bs, b.WF ∧ b.pageOffset = 0)
    (base : Nat) (img : Bytes) :
    (ieeHwReadAllX c (bs.map IeeBlob.ctx) base (ieeSpecImage c bs base img)).take img.length = img :=
  ieex_readWith_spec h bs _ (fun a d => iee_page_spec bs _ a d (fun hn => by rw [ieeHwPageX, hn])
    fun b hb hf => ieex_hwPage_blob h _ b (hwf b hb).1 (hwf b hb).2 a hf d) base img

/-- the XTS engine with page offset reading at the system page `p` what SPSDK encrypted for the logical page
    `p + 4 KiB · pageOffset` -/
theorem ieex_xts_page_offset (h : CryptoLaws c) (b : IeeBlob) (hwf : b.WF) (hm : b.mode = .xts) (p : Nat) (hp : p % 4096 = 0)
    (hin : b.start ≤ p ∧ p < b.end_) (d : Bytes) (h0 : 0 < d.length) (hd : d.length ≤ 4096) :
    ∃ ct, b.encryptImage c (b.ctx.logical p) d = .ok ct ∧ (ieeHwPageX c [b.ctx] p ct).take d.length = d := by
  refine ⟨_, iee_encryptImage_xts b hwf hm _ (by unfold IeeCtx.logical; omega) d h0 hd, ?_⟩
  have hf : [b.ctx].find? (fun x => x.hit p) = some b.ctx := by
    simp [IeeCtx.hit, IeeBlob.ctx, hin.1, hin.2]
  have htag : b.ctx.modeTag = 0xA6 := by
    show b.mode.tag = 0xA6
    rw [hm]; rfl
  rw [ieeHwPageX, hf]
  simp only [htag, if_true, iee_xtsDec_encPage h b hwf hm]
  exact zeroPad_take_self 16 d

end SpsdkVerif.FlashEnc
