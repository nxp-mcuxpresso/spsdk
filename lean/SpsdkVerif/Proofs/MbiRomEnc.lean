/-
C02 for the encrypted family: decrypting, with the derived AES-CTR key and the IV stored behind the certificate block, the
ciphertext pieces in their original order gives back the plaintext image (application with IVT, relocation table,
TrustZone data), and the independent ROM model (Spec/MbiRom.lean) accepts what the model exports - given what its walk over
the (opaque) certificate block answers.
-/
import SpsdkVerif.Proofs.MbiRomRsa
import SpsdkVerif.Proofs.MbiEncrypted

namespace SpsdkVerif.Mbi
open SpsdkVerif SpsdkVerif.Misc SpsdkVerif.Crypto
open SpsdkVerif.Generated.IvtConsts

variable {co : CryptoOps} {env : Env} {c : Cls} {cfg : Cfg} {signer : Signer}

/-- the image without the HMAC / key store block inserted at offset 64 -/
def encBodyOf (cfg : Cfg) (e : Bytes) : Bytes :=
  e.take hmacOffset ++ e.drop (hmacOffset + hmacSize + (cfg.keyStore.getD []).length)

theorem romenc_rd32 (b : Bytes) (off : Nat) : Spec.MbiRom.rd32 b off = rd32 b off := rfl

theorem romenc_body (hn : EncLens co c cfg signer) :
    encBodyOf cfg (encImg co c cfg signer) = encPe co c cfg ++ signer (encPe co c cfg) := by
  have e : hmacOffset + hmacSize + (cfg.keyStore.getD []).length = hmacOffset + hmacSize + encKsLen cfg := rfl
  unfold encBodyOf
  rw [encImg_take_ivt hn, e, encImg_drop_body hn]
  unfold encPe
  simp only [List.append_assoc]

/-- the ciphertext pieces of the body in their original order are the encrypted image -/
theorem romenc_cipher_pe (hl : CryptoLaws co) (hc : EncCls c) (hk : EncCfg c cfg) (hn : EncLens co c cfg signer) :
    slice (encPe co c cfg) (appLen c cfg + cfg.cert.length) (appLen c cfg + cfg.cert.length + encIvtCopySize)
      ++ slice (encPe co c cfg) encIvtCopySize (appLen c cfg)
      ++ (encPe co c cfg).drop (appLen c cfg + cfg.cert.length + encIvtCopySize + encIvSize) = encEnc co c cfg := by
  have hoff : rd32 (encPe co c cfg) ivtCrcCertificateOffset = appLen c cfg := (encIvtOf_words hl hc hk _).2.2.1
  have h := encrypted_postEncryptRevert hl hc hk hn { cert := some (encCertInfo c cfg) } (encCertInfo c cfg) rfl rfl rfl
  unfold postEncryptRevert at h
  rw [hc.hpenc] at h
  simp only [encCertInfo, hoff, not_true_eq_false, if_false] at h
  exact Except.ok.inj h

theorem romenc_cipher (hl : CryptoLaws co) (hc : EncCls c) (hk : EncCfg c cfg) (hn : EncLens co c cfg signer) (sig : Bytes) :
    slice (encPe co c cfg ++ sig) (appLen c cfg + cfg.cert.length) (appLen c cfg + cfg.cert.length + 56)
      ++ slice (encPe co c cfg ++ sig) 56 (appLen c cfg)
      ++ slice (encPe co c cfg ++ sig) (appLen c cfg + cfg.cert.length + 72) (encPe co c cfg).length
      = encEnc co c cfg := by
  have hlen := encPe_length hl hc hk
  simp only [encIvtCopySize, encIvSize] at hlen
  rw [slice_append_left _ _ _ _ (by omega), slice_append_left _ _ _ _ (by omega),
    slice_append_left _ _ _ _ (Nat.le_refl _)]
  have := romenc_cipher_pe hl hc hk hn
  simp only [encIvtCopySize, encIvSize] at this
  unfold slice at this ⊢
  rw [List.take_length]
  exact this

theorem romenc_iv (hn : EncLens co c cfg signer) (sig : Bytes) :
    slice (encPe co c cfg ++ sig) (appLen c cfg + cfg.cert.length + 56) (appLen c cfg + cfg.cert.length + 72) = cfg.ctrIv := by
  have hL := hn.hL
  apply encrypted_slice_of_split _ (encIvtOf co c cfg ++ slice (encEnc co c cfg) hmacOffset (appLen c cfg)
      ++ certInImage c cfg ++ (encEnc co c cfg).take encIvtCopySize) _ ((encEnc co c cfg).drop (appLen c cfg) ++ sig)
  · unfold encPe encBody; simp only [List.append_assoc]
  · simp only [List.length_append, hn.hivt, hn.hmid, hn.hcert, hn.hcopy]
    simp only [encIvtCopySize, hmacOffset] at *; omega
  · rw [hn.hiv]; simp only [encIvSize]

theorem romenc_cert (hn : EncLens co c cfg signer) (sig : Bytes) :
    slice (encPe co c cfg ++ sig) (appLen c cfg) (appLen c cfg + cfg.cert.length) = certInImage c cfg := by
  have hL := hn.hL
  apply encrypted_slice_of_split _ (encIvtOf co c cfg ++ slice (encEnc co c cfg) hmacOffset (appLen c cfg)) _
    ((encEnc co c cfg).take encIvtCopySize ++ cfg.ctrIv ++ (encEnc co c cfg).drop (appLen c cfg) ++ sig)
  · unfold encPe encBody; simp only [List.append_assoc]
  · simp only [List.length_append, hn.hivt, hn.hmid]; omega
  · rw [hn.hcert]

/-- `b` a variable: as a rewrite rule it matches whatever Bool term the ROM has for "key store present" -/
theorem romenc_key (k : Bytes) (hk1 : cfg.hmacKey = some k) (b : Bool) (hb : b = cfg.keyStore.isSome) :
    (if b = true then k else ecbEnc co k Spec.MbiRom.encKeyDerivation) = encKeyOf co cfg := by
  have : Spec.MbiRom.encKeyDerivation = deriveEncImageKeyConst := by decide
  subst hb
  simp only [encKeyOf, hk1, Option.getD_some, encKey, deriveEncImageKey, this]

theorem romenc_decrypt (hl : CryptoLaws co) (c : Cls) (cfg : Cfg) :
    ctrXor co (encKeyOf co cfg) cfg.ctrIv (encEnc co c cfg) = encRaw c cfg := by
  unfold encEnc; rw [ctr_invol hl]

/-- the image is the body with HMAC and key store inserted at offset 64 -/
theorem encImg_hmacImage (hl : CryptoLaws co) (hc : EncCls c) (hk : EncCfg c cfg) (hn : EncLens co c cfg signer) (k : Bytes)
    (hk1 : cfg.hmacKey = some k) (hk2 : k.length = hmacKeyLength) :
    HmacImage co k (encImg co c cfg signer) (encPe co c cfg ++ signer (encPe co c cfg)) (hmacSize + encKsLen cfg) := by
  refine ⟨hk2, ?_, ?_, ?_, ?_⟩
  · have := encImg_len hn
    have := hn.hL
    simp only [Spec.MbiRom.hmacOffset, hmacOffset] at *
    omega
  · unfold stripOf
    rw [show Spec.MbiRom.rd32 _ Spec.MbiRom.offFlags = flagsOf c cfg from (encImg_words hl hc hk signer).2.1, rom_ks,
      (encrypted_flag_fields hc hk).2.2.2.1, encKsLen_eq hk]
    rfl
  · rw [show (encImg co c cfg signer).take Spec.MbiRom.hmacOffset = _ from encImg_take_ivt hn]
    have e1 : hmac co .sha256 (ecbEnc co k Spec.MbiRom.hmacKeyDerivation) (encIvtOf co c cfg)
        = computeHmac co cfg (encIvtOf co c cfg) := by
      have hdk : Spec.MbiRom.hmacKeyDerivation = deriveHmacKeyConst := by decide
      unfold computeHmac deriveHmacKey; rw [hk1, hdk]
    rw [e1]
    refine encrypted_slice_of_split _ (encIvtOf co c cfg) _ ((cfg.keyStore.getD []) ++ encBody co c cfg
      ++ signer (encPe co c cfg)) _ _ ?_ hn.hivt (by rw [hn.hmac]; rfl)
    unfold encImg; simp only [List.append_assoc]
  · rw [← Nat.add_assoc]
    exact romenc_body hn

theorem romenc_romHmac (hl : CryptoLaws co) (hc : EncCls c) (hk : EncCfg c cfg) (hn : EncLens co c cfg signer)
    (rkth : Bytes) :
    Spec.MbiRom.romHmac co (romEnvOf c rkth cfg.hmacKey) (encImg co c cfg signer)
      = .ok (encPe co c cfg ++ signer (encPe co c cfg), hmacSize + encKsLen cfg, cfg.keyStore.isSome) := by
  obtain ⟨k, hk1, hk2⟩ := hk.hhmac
  rw [(encImg_hmacImage hl hc hk hn k hk1 hk2).romHmac hk1,
    show Spec.MbiRom.rd32 _ Spec.MbiRom.offFlags = flagsOf c cfg from (encImg_words hl hc hk signer).2.1, rom_ks,
    (encrypted_flag_fields hc hk).2.2.2.1]

/-- the exported image carries its IVT -/
theorem encImg_builtIvt (hl : CryptoLaws co) (hc : EncCls c) (hk : EncCfg c cfg) (hn : EncLens co c cfg signer)
    (hs : ∀ m, (signer m).length = cfg.sigLen) : BuiltIvt c cfg (encImg co c cfg signer) := by
  obtain ⟨w1, w2, _⟩ := encImg_words hl hc hk signer
  refine ⟨?_, w2, by rw [encImg_length_total hl hc hk signer hs]; exact w1⟩
  have h1 := encImg_len hn
  have h2 := hn.hL
  simp only [Spec.MbiRom.ivtSize, hmacOffset] at *
  omega

/-- the IVT words of the decrypted image -/
theorem romenc_raw_words (hc : EncCls c) (hk : EncCfg c cfg) :
    rd32 (encRaw c cfg) ivtImageLengthOffset = (if c.zeroTotalLength then 0 else encImgLen c cfg)
    ∧ rd32 (encRaw c cfg) ivtImageFlagsOffset = flagsOf c cfg
    ∧ rd32 (encRaw c cfg) ivtCrcCertificateOffset = appLen c cfg
    ∧ rd32 (encRaw c cfg) ivtLoadAddrOffset = (if c.has .Mbi_MixinLoadAddress then cfg.loadAddress else 0) := by
  have hA := encrypted_app_ivt hk
  have hw := updateIvt_words c cfg (appData cfg) (encImgLen c cfg) (appLen c cfg) hA hk.hflags
    (encImgLen_lt hc hk) (encrypted_appLen_lt hc hk) hk.hla
  simp only [hc.hla, hc.htype, if_false] at hw
  have : encRaw c cfg = encU c cfg ++ (encR cfg ++ cfg.tz.bytes) := by unfold encRaw; rw [List.append_assoc]
  rw [this]
  unfold encU
  rw [rd32_updateIvt_append _ _ _ _ _ _ _ hA (by decide), rd32_updateIvt_append _ _ _ _ _ _ _ hA (by decide),
    rd32_updateIvt_append _ _ _ _ _ _ _ hA (by decide), rd32_updateIvt_append _ _ _ _ _ _ _ hA (by decide)]
  exact hw

theorem romenc_body_words (hl : CryptoLaws co) (hc : EncCls c) (hk : EncCfg c cfg) (sig : Bytes) :
    rd32 (encPe co c cfg ++ sig) ivtImageLengthOffset = (if c.zeroTotalLength then 0 else encImgLen c cfg)
    ∧ rd32 (encPe co c cfg ++ sig) ivtImageFlagsOffset = flagsOf c cfg
    ∧ rd32 (encPe co c cfg ++ sig) ivtCrcCertificateOffset = appLen c cfg
    ∧ rd32 (encPe co c cfg ++ sig) ivtLoadAddrOffset = (if c.has .Mbi_MixinLoadAddress then cfg.loadAddress else 0) := by
  have : encPe co c cfg ++ sig = encIvtOf co c cfg ++ (encBody co c cfg ++ sig) := by
    unfold encPe; rw [List.append_assoc]
  rw [this]
  exact encIvtOf_words hl hc hk _

/-- the block in the image announces the length of the signed range -/
theorem encPe_cert (hl : CryptoLaws co) (hc : EncCls c) (hk : EncCfg c cfg) :
    certSetImageLength cfg.cert (encPe co c cfg).length = certInImage c cfg := by
  have : (encPe co c cfg).length = (encEnc co c cfg).length + cfg.cert.length + encIvtCopySize + cfg.ctrIv.length := by
    rw [encPe_length hl hc hk, encEnc_length hl hc hk, hk.hctr]; simp only [encIvSize, ctrInitVectorSize]; omega
  rw [this]; exact encrypted_certInImage hl hc hk

/-- the signed range with the certificate block in it -/
theorem encPe_signedPrefix (hl : CryptoLaws co) (hc : EncCls c) (hk : EncCfg c cfg) (hn : EncLens co c cfg signer) :
    SignedPrefix cfg.cert (encPe co c cfg) (appLen c cfg) := by
  have hpl := encPe_length hl hc hk
  have hc' := romenc_cert hn []
  rw [List.append_nil, ← encPe_cert hl hc hk] at hc'
  refine ⟨hc', by omega, by rw [encPe_cert hl hc hk]; exact hn.hcert, ?_⟩
  have h1 := encImgLen_lt hc hk
  unfold encImgLen at h1
  rw [encrypted_totalLen hc hk, Int.toNat_natCast] at h1
  rw [hpl, encrypted_appLen hc hk]
  omega

theorem romenc_appLen_mod (hc : EncCls c) (hk : EncCfg c cfg) : appLen c cfg % 4 = 0 := by
  have h1 : (appData cfg).length % 4 = 0 := align4_length_mod cfg.app
  have h2 := relocLen_mod4 c cfg
  rw [encrypted_appLen hc hk]
  omega

theorem romenc_romEncrypted (hl : CryptoLaws co) (hc : EncCls c) (hk : EncCfg c cfg) (hn : EncLens co c cfg signer)
    (rkth : Bytes) (certs : List (Nat × Nat)) (table : List Bytes)
    (hrom : RomCertV1OK co (romEnvOf c rkth cfg.hmacKey) cfg.cert certs table) (strip : Nat) :
    ∃ a, Spec.MbiRom.romEncrypted co (romEnvOf c rkth cfg.hmacKey) (encPe co c cfg ++ signer (encPe co c cfg)) strip
        cfg.keyStore.isSome = .ok a ∧ a.plain = some (encRaw c cfg) ∧ a.stripped = strip := by
  obtain ⟨k, hk1, hk2⟩ := hk.hhmac
  have P := encPe_signedPrefix hl hc hk hn
  obtain ⟨p, hp, _, hw⟩ := hrom.walk (P.certAt (signer (encPe co c cfg))) P.lt
  have hL := hn.hL
  have hpl := encPe_length hl hc hk
  obtain ⟨w1, w2, w3, w4⟩ := romenc_body_words hl hc hk (signer (encPe co c cfg))
  obtain ⟨r1, r2, r3, r4⟩ := romenc_raw_words hc hk
  have hneed1 : (decide (appLen c cfg ≥ Spec.MbiRom.hmacOffset ∧ (appLen c cfg % 4 == 0) = true)) = true :=
    decide_eq_true ⟨hL, by rw [romenc_appLen_mod hc hk]; rfl⟩
  have hneed2 : (decide (appLen c cfg + cfg.cert.length + Spec.MbiRom.encIvtCopySize + Spec.MbiRom.ivSize
        ≤ (encPe co c cfg).length
      ∧ (encPe co c cfg).length < (encPe co c cfg ++ signer (encPe co c cfg)).length)) = true := by
    have := hk.hsigLen
    rw [decide_eq_true_eq, List.length_append, hn.hsig]
    simp only [Spec.MbiRom.encIvtCopySize, Spec.MbiRom.ivSize, encIvtCopySize, encIvSize] at *
    omega
  have hiv : Spec.MbiRom.sub (encPe co c cfg ++ signer (encPe co c cfg))
      (appLen c cfg + cfg.cert.length + Spec.MbiRom.encIvtCopySize)
      (appLen c cfg + cfg.cert.length + Spec.MbiRom.encIvtCopySize + Spec.MbiRom.ivSize) = cfg.ctrIv := romenc_iv hn _
  have hcipher : Spec.MbiRom.sub (encPe co c cfg ++ signer (encPe co c cfg)) (appLen c cfg + cfg.cert.length)
        (appLen c cfg + cfg.cert.length + Spec.MbiRom.encIvtCopySize)
      ++ Spec.MbiRom.sub (encPe co c cfg ++ signer (encPe co c cfg)) Spec.MbiRom.encIvtCopySize (appLen c cfg)
      ++ Spec.MbiRom.sub (encPe co c cfg ++ signer (encPe co c cfg))
        (appLen c cfg + cfg.cert.length + Spec.MbiRom.encIvtCopySize + Spec.MbiRom.ivSize) (encPe co c cfg).length
      = encEnc co c cfg := romenc_cipher hl hc hk hn _
  refine ⟨{ stripped := strip, plain := some (encRaw c cfg)
            obligations := [.x509Chain (certs.map fun q => (appLen c cfg + q.1, q.2)) table,
                            .rsaByCert (appLen c cfg + p.1, p.2) (encPe co c cfg).length]
            authenticated := [(0, (encPe co c cfg ++ signer (encPe co c cfg)).length + strip)] }, ?_, rfl, rfl⟩
  unfold Spec.MbiRom.romEncrypted
  -- key, IV and ciphertext as the builder arranged them; the decrypted IVT carries the words of the clear header
  simp only [show Spec.MbiRom.rd32 _ Spec.MbiRom.offCrcOrCert = _ from w3, hw, need_ok hneed1, need_ok hneed2,
    show (romEnvOf c rkth cfg.hmacKey).userKey = _ from hk1, List.getLast?_map, hp, Option.map_some,
    hiv, hcipher, romenc_key k hk1 _ rfl,
    romenc_decrypt hl, show Spec.MbiRom.rd32 (encRaw c cfg) Spec.MbiRom.offFlags = _ from r2,
    show Spec.MbiRom.rd32 (encRaw c cfg) Spec.MbiRom.offTotalLength = _ from r1,
    show Spec.MbiRom.rd32 (encRaw c cfg) Spec.MbiRom.offCrcOrCert = _ from r3,
    show Spec.MbiRom.rd32 (encRaw c cfg) Spec.MbiRom.offLoadAddress = _ from r4,
    show Spec.MbiRom.rd32 (_ ++ _) Spec.MbiRom.offFlags = _ from w2, show Spec.MbiRom.rd32 (_ ++ _) Spec.MbiRom.offTotalLength = _ from w1,
    show Spec.MbiRom.rd32 (_ ++ _) Spec.MbiRom.offLoadAddress = _ from w4, beq_self_eq_true, and_self, decide_true, need_ok,
    bind, Except.bind, pure, Except.pure]

/-- decrypts_to_plain: (encrypted IVT copy ‖ bytes 56..certificate ‖ bytes behind the IV up to the signature), decrypted with
    AES-CTR under the user key (key store present) or the derived key (ROM's derivation constant) and the stored IV,
    is the plaintext image the collector built -/
theorem decrypts_to_plain (h : Hyp co env c cfg signer) (hf : c.family = some .encrypted) :
    ∃ e raw k, exportImage co c cfg signer = .ok e ∧ collect c cfg = .ok raw ∧ cfg.hmacKey = some k
      ∧ (let body := encBodyOf cfg e
         let off := appLen c cfg
         let ce := off + cfg.cert.length
         let key := if cfg.keyStore.isSome then k else ecbEnc co k Spec.MbiRom.encKeyDerivation
         ctrXor co key (slice body (ce + 56) (ce + 72))
            (slice body ce (ce + 56) ++ slice body 56 off ++ slice body (ce + 72) (body.length - cfg.sigLen)) = raw)
      ∧ raw.take (appData cfg).length = updateIvt c cfg (appData cfg) (encImgLen c cfg) (appLen c cfg) := by
  have hc := encCls h.hcls hf
  have hk := encCfg hc h.hcfg
  have hn := encLens h.hlaws hc hk signer h.hsig
  obtain ⟨k, hk1, _⟩ := hk.hhmac
  refine ⟨_, _, k, encrypted_export h.hlaws hc hk signer, encrypted_collect hc hk, hk1, ?_, ?_⟩
  · simp only [romenc_body hn]
    rw [romenc_iv hn, List.length_append, h.hsig, Nat.add_sub_cancel, romenc_cipher h.hlaws hc hk hn,
      romenc_key k hk1 _ rfl, romenc_decrypt h.hlaws]
  · have : encRaw c cfg = encU c cfg ++ (encR cfg ++ cfg.tz.bytes) := by unfold encRaw; rw [List.append_assoc]
    rw [this, ← encU_length hk, List.take_left]
    rfl

/-- `romCheck` of an image with the IVT of an encrypted export: HMAC-protected header, then the encrypted body -/
theorem romenc_check (h : Hyp co env c cfg signer) (hc : EncCls c) (hf : c.family = some .encrypted)
    (ht : signedTypeOk c = true) {img : Bytes} (b : BuiltIvt c cfg img) (rkth : Bytes) {a : Spec.MbiRom.Accepted} :
    Spec.MbiRom.romCheck co (romEnvOf c rkth cfg.hmacKey) img = .ok a
      ↔ ∃ v, Spec.MbiRom.romHmac co (romEnvOf c rkth cfg.hmacKey) img = .ok v
          ∧ Spec.MbiRom.romEncrypted co (romEnvOf c rkth cfg.hmacKey) v.1 v.2.1 v.2.2 = .ok a := by
  have hty := signedTypeOk_cases ht (.inl hc.hsign)
  rw [if_pos hf] at hty
  rw [romCheck_built h b, hty, romByType_enc (by simp [romEnvOf, hc.hV1]), bind_ok]

/-- the ROM accepts the exported image and its decryption is the collector's plaintext -/
theorem rom_accepts_encrypted (h : Hyp co env c cfg signer) (hf : c.family = some .encrypted) (ht : signedTypeOk c = true)
    (rkth : Bytes) (certs : List (Nat × Nat)) (table : List Bytes)
    (hrom : RomCertV1OK co (romEnvOf c rkth cfg.hmacKey) cfg.cert certs table) :
    ∃ e a raw, exportImage co c cfg signer = .ok e ∧ collect c cfg = .ok raw
      ∧ Spec.MbiRom.romCheck co (romEnvOf c rkth cfg.hmacKey) e = .ok a
      ∧ a.plain = some raw
      ∧ a.stripped = hmacSize + (cfg.keyStore.getD []).length := by
  have hc := encCls h.hcls hf
  have hk := encCfg hc h.hcfg
  have hn := encLens h.hlaws hc hk signer h.hsig
  obtain ⟨a, ha, hplain, hstrip⟩ := romenc_romEncrypted h.hlaws hc hk hn rkth certs table hrom (hmacSize + encKsLen cfg)
  refine ⟨_, a, _, encrypted_export h.hlaws hc hk signer, encrypted_collect hc hk, ?_, hplain, hstrip⟩
  exact (romenc_check h hc hf ht (encImg_builtIvt h.hlaws hc hk hn h.hsig) rkth).2 ⟨_, romenc_romHmac h.hlaws hc hk hn rkth, ha⟩

end SpsdkVerif.Mbi
