/- SDP under link faults (C10): a wrong status word, what `SDPS.write_file` writes, and truncation of the ROM→host stream.
   Truncation is a lock-step simulation (`Sim₂`) of the run on the cut stream with the run on the full one, over the relation
   `Cut`; only `Cut.devWrite` and `sim_protoRead` look at the transport. -/
import SpsdkVerif.Model.Sdp
import SpsdkVerif.Proofs.Sdp
namespace SpsdkVerif.Sdp
open S

/-- `bind_run` for a first action written as a bare function (its type is the unfolded `S α`, which `simp` does not
    see through when instantiating `bind_run`) -/
theorem bind_lam_run {α β} (g : Host → Except SErr α × Host) (f : α → S β) (s : Host) :
    (@bind S _ α β g f) s = match g s with
      | (.ok a, s') => f a s'
      | (.error e, s') => (.error e, s') := rfl

theorem sendData_true_ok (c : Cmd) (data : Bytes) (h h' : Host)
    (hr : sendData c data h = (.ok true, h')) :
    (c.tag = Spec.cWriteFile → h'.cmdStatus = Spec.rWriteFileOk) ∧
    (c.tag = Spec.cWriteDcd → h'.cmdStatus = Spec.rWriteDataOk) ∧
    (c.tag = Spec.cWriteCsf → h'.cmdStatus = Spec.rWriteDataOk) := by
  unfold sendData at hr
  obtain ⟨_, _, e, hr⟩ := bind_ok hr
  cases e
  by_cases ho : ¬ h.opened = true
  · rw [if_pos ho] at hr; cases hr
  rw [if_neg ho] at hr
  obtain ⟨_, _, _, hr⟩ := bind_ok hr
  obtain ⟨ok, s, blk, hr⟩ := bind_ok hr
  obtain ⟨_, _, e, hr⟩ := bind_ok hr
  cases e
  by_cases hc : ¬ ok = true ∧ s.ce = true
  · rw [if_pos hc] at hr; cases hr
  rw [if_neg hc] at hr
  cases hr
  -- inside the `try` block: the last thing stored before the three checks is `cmdStatus := sv`
  obtain ⟨_, _, _, blk⟩ := bind_ok (guardConn_ok blk)
  obtain ⟨_, _, _, blk⟩ := bind_ok blk
  obtain ⟨⟨_, habRaw⟩, _, _, blk⟩ := bind_ok blk
  obtain ⟨_, _, _, blk⟩ := bind_ok blk
  obtain ⟨_, _, _, blk⟩ := bind_ok blk
  obtain ⟨⟨_, stRaw⟩, _, _, blk⟩ := bind_ok blk
  obtain ⟨sv, _, _, blk⟩ := bind_ok blk
  obtain ⟨_, _, e, blk⟩ := bind_ok blk
  cases e
  have bad : ∀ {st s s'}, ¬ (S.modify (fun h => { h with status := st }) >>= fun _ => pure false) s = (.ok true, s') :=
    fun x => by cases x
  by_cases n1 : c.tag = Spec.cWriteDcd ∧ sv ≠ Spec.rWriteDataOk
  · rw [if_pos n1] at blk; exact absurd blk bad
  by_cases n2 : c.tag = Spec.cWriteCsf ∧ sv ≠ Spec.rWriteDataOk
  · rw [if_neg n1, if_pos n2] at blk; exact absurd blk bad
  by_cases n3 : c.tag = Spec.cWriteFile ∧ sv ≠ Spec.rWriteFileOk
  · rw [if_neg n1, if_neg n2, if_pos n3] at blk; exact absurd blk bad
  rw [if_neg n1, if_neg n2, if_neg n3] at blk
  cases blk
  exact ⟨fun t => Classical.not_not.mp fun x => n3 ⟨t, x⟩, fun t => Classical.not_not.mp fun x => n1 ⟨t, x⟩,
    fun t => Classical.not_not.mp fun x => n2 ⟨t, x⟩⟩

/-- the hypothesis is satisfiable: a scripted peer answering HAB word + `0x128A8A12` to a one-byte DCD -/
example : (sendData ⟨Spec.cWriteDcd, 0, 0, 1, 0⟩ [7]
    { peer := .script [[], [be 4 Spec.rUnlocked ++ be 4 Spec.rWriteDataOk]] }).1 = .ok true := by decide +kernel
/-- ... and with a wrong status word the same call returns `False` -/
example : (sendData ⟨Spec.cWriteDcd, 0, 0, 1, 0⟩ [7]
    { peer := .script [[], [be 4 Spec.rUnlocked ++ be 4 Spec.rWriteFileOk]] }).1 = .ok false := by decide +kernel

theorem foldl_devWrite_fields (fs : List Bytes) (h : Host) :
    (fs.foldl (fun x f => x.devWrite f) h).txRev = fs.reverse ++ h.txRev ∧
      (fs.foldl (fun x f => x.devWrite f) h).tr = h.tr ∧
      (fs.foldl (fun x f => x.devWrite f) h).packSize = h.packSize := by
  induction fs generalizing h with
  | nil => exact ⟨rfl, rfl, rfl⟩
  | cons f fs ih =>
    have e : (h.devWrite f).txRev = f :: h.txRev ∧ (h.devWrite f).tr = h.tr ∧ (h.devWrite f).packSize = h.packSize := by
      unfold Host.devWrite; cases h.tr <;> exact ⟨rfl, rfl, rfl⟩
    obtain ⟨a, b, c⟩ := ih (h.devWrite f)
    exact ⟨by rw [List.foldl_cons, a, e.1, List.reverse_cons, List.append_assoc]; rfl, b.trans e.2.1, c.trans e.2.2⟩

theorem sendFrame_hid_ok (rid : Nat) (w : Bytes) (h : Host) (htr : h.tr = .hid) (hps : 0 < h.packSize) :
    ∃ h', sendFrame rid w h = (.ok (), h') ∧ h'.txRev = (hidFrames rid h.packSize w).reverse ++ h.txRev ∧
      h'.tr = .hid ∧ h'.packSize = h.packSize := by
  obtain ⟨a, b, c⟩ := foldl_devWrite_fields (hidFrames rid h.packSize w) h
  exact ⟨_, by rw [sendFrame_hid rid w htr, if_neg (by omega)], a, b.trans htr, c⟩

theorem sdpsWriteFile_delivers (noCmd : Bool) (ps : Nat) (data : Bytes) (h : Host) (htr : h.tr = .hid) (hps : 0 < ps)
    (hlen : data.length < 4294967296) :
    ∃ h', runOp (.sdpsWriteFile noCmd ps data) h = (.ok .none, h') ∧ h'.packSize = ps ∧
      h'.txRev = (hidFrames Spec.ridData ps data).reverse ++
                 (if noCmd then [] else (hidFrames Spec.ridCmd ps (cbw data.length)).reverse) ++ h.txRev := by
  cases noCmd with
  | true =>
    obtain ⟨h1, e1, t1, _, p1⟩ := sendFrame_hid_ok Spec.ridData data { h with packSize := ps } htr hps
    refine ⟨h1, ?_, p1, by rw [t1]; simp⟩
    simp only [runOp, sdpsWriteFile, guardConn_run, bind_run, modify_run]
    rw [if_neg (by simp)]
    simp only [bind_run, pure_run, e1]
  | false =>
    obtain ⟨h1, e1, t1, r1, p1⟩ := sendFrame_hid_ok Spec.ridCmd (cbw data.length) { h with packSize := ps } htr hps
    obtain ⟨h2, e2, t2, _, p2⟩ := sendFrame_hid_ok Spec.ridData data h1 r1 (p1 ▸ hps)
    refine ⟨h2, ?_, p2.trans p1, by rw [t2, t1, p1]; simp⟩
    simp only [runOp, sdpsWriteFile, guardConn_run, bind_run, modify_run]
    rw [if_pos (by simp), if_neg (by omega)]
    simp only [bind_run, pure_run, e1, e2]

example : ({ tr := .hid } : Host).tr = .hid ∧ 0 < 4 ∧ ([1, 2, 3, 4, 5] : Bytes).length < 4294967296 := by decide +kernel
example : ((runOp (.sdpsWriteFile true 4 [1, 2, 3, 4, 5]) { tr := .hid }).2.txRev).reverse =
    [[2, 1, 2, 3, 4], [2, 5, 0, 0, 0]] := by decide

/-- observable success of an SDP call: nothing raised and the value is not `False` -/
def succeeded (r : Except SErr Val) : Prop := ∃ v, r = .ok v ∧ v ≠ .bool false

def observable (x : Except SErr Val × Host) : Except SErr Val × Nat × Nat × List Bytes :=
  (x.1, x.2.status, x.2.hab, x.2.txRev)

/-- cut one release after `k` bytes (the shape is kept, cut-away parts become empty); returns the budget left -/
def truncChunk : Nat → List Bytes → List Bytes × Nat
  | k, [] => ([], k)
  | k, b :: bs => (b.take k :: (truncChunk (k - b.length) bs).1, (truncChunk (k - b.length) bs).2)

/-- cut the device→host byte stream (concatenation of all chunks of all releases) after `k` bytes -/
def truncChunks : Nat → List (List Bytes) → List (List Bytes)
  | _, [] => []
  | k, c :: cs => (truncChunk k c).1 :: truncChunks (truncChunk k c).2 cs

def Host.truncate (k : Nat) (h : Host) : Host :=
  match h.peer with
  | .script cs => { h with peer := .script (truncChunks k cs) }
  | _ => h

def truncReports : Nat → List (List Bytes) → List (List Bytes)
  | _, [] => []
  | k, c :: cs => c.take k :: truncReports (k - c.length) cs

def Host.truncateHid (k : Nat) (h : Host) : Host :=
  match h.peer with
  | .script cs => { h with peer := .script (truncReports k cs) }
  | _ => h

theorem truncChunk_spec (k : Nat) (c : List Bytes) :
    (truncChunk k c).1.flatten = c.flatten.take k ∧ (truncChunk k c).2 = k - c.flatten.length := by
  induction c generalizing k with
  | nil => simp [truncChunk]
  | cons b bs ih =>
    obtain ⟨i1, i2⟩ := ih (k - b.length)
    simp only [truncChunk, List.flatten_cons, i1, i2, List.take_append, List.length_append]
    exact ⟨trivial, by omega⟩

def Host.withLink (h l : Host) : Host :=
  { h with rx := l.rx, rxR := l.rxR, peer := l.peer, relRev := l.relRev, tr := l.tr }

/-- The cut run `ht` against the full run `hf`.  They agree outside the link; both replay a script, the cut one with a
    budget `b` left; the full side has received what the cut side has and then `t` (serial) or `tR` (reports), and once
    it is ahead the budget is used up, so the cut side will never receive anything again. -/
def Cut (ht hf : Host) : Prop :=
  (∀ l, ht.withLink l = hf.withLink l) ∧
  ∃ b cs t tR, hf.peer = .script cs ∧ hf.rx = ht.rx ++ t ∧ hf.rxR = ht.rxR ++ tR ∧ hf.tr = ht.tr ∧
    ((ht.tr = .serial ∧ ht.peer = .script (truncChunks b cs) ∧ tR = [] ∧ (t = [] ∨ b = 0)) ∨
     (ht.tr = .hid ∧ ht.peer = .script (truncReports b cs) ∧ (tR = [] ∨ b = 0)))

/-- the full side receives `c`, the cut side what its budget `b` allows -/
theorem prefix_step {α} (t c : List α) (b : Nat) (hb : t = [] ∨ b = 0) :
    t ++ c = c.take b ++ (t ++ c.drop b) ∧ (t ++ c.drop b = [] ∨ b - c.length = 0) := by
  rcases hb with rfl | rfl
  · refine ⟨(List.take_append_drop b c).symm, ?_⟩
    rcases Nat.lt_or_ge b c.length with hlt | hge
    · exact .inr (by omega)
    · exact .inl (by simp [List.drop_of_length_le hge])
  · exact ⟨by simp, .inr (by omega)⟩

/-- a state update that neither reads nor writes the link -/
def Inert (f : Host → Host) : Prop := ∀ h l, f (h.withLink l) = (f h).withLink l

theorem Cut.agree {ht hf : Host} (c : Cut ht hf) {α} (g : Host → α) (hg : ∀ h l, g (h.withLink l) = g h) :
    g hf = g ht := by
  rw [← hg hf ht, ← c.1, hg]

theorem Cut.modify {f : Host → Host} (hi : Inert f) {ht hf : Host} (c : Cut ht hf) : Cut (f ht) (f hf) := by
  refine ⟨fun l => by rw [← hi, ← hi, c.1], ?_⟩
  rw [show f ht = (f ht).withLink ht from hi ht ht, show f hf = (f hf).withLink hf from hi hf hf]
  exact c.2

theorem Cut.devWrite (w : Bytes) {ht hf : Host} (c : Cut ht hf) : Cut (ht.devWrite w) (hf.devWrite w) := by
  obtain ⟨hw, b, cs, t, tR, hp, hrx, hrxR, htr, hl⟩ := c
  have hw' : ∀ (h : Host) l, (h.devWrite w).withLink l = ({ h with txRev := w :: h.txRev } : Host).withLink l := by
    intro h l; unfold Host.devWrite; cases h.tr <;> rfl
  refine ⟨fun l => ?_, ?_⟩
  · rw [hw', hw']
    exact congrArg (fun y : Host => ({ y with txRev := w :: y.txRev } : Host)) (hw l)
  rcases hl with ⟨hs, hpt, rfl, hb⟩ | ⟨hs, hpt, hb⟩
  · rw [devWrite_serial w hs, devWrite_serial w (htr.trans hs), hp, hpt]
    cases cs with
    | nil =>
      exact ⟨0, [], t, [], rfl, by simp [hrx, Peer.react, truncChunks], hrxR, htr,
        .inl ⟨hs, rfl, rfl, hb.imp_right fun _ => rfl⟩⟩
    | cons c cs =>
      obtain ⟨s1, s2⟩ := truncChunk_spec b c
      obtain ⟨p1, p2⟩ := prefix_step t c.flatten b hb
      refine ⟨(truncChunk b c).2, cs, t ++ c.flatten.drop b, [], rfl, ?_, hrxR, htr, .inl ⟨hs, rfl, rfl, s2 ▸ p2⟩⟩
      show hf.rx ++ c.flatten = ht.rx ++ (truncChunk b c).1.flatten ++ _
      rw [s1, hrx, List.append_assoc, p1, List.append_assoc]
  · rw [devWrite_hid w hs, devWrite_hid w (htr.trans hs), hp, hpt]
    cases cs with
    | nil =>
      exact ⟨0, [], t, tR, rfl, hrx, by simp [hrxR, Peer.react, truncReports], htr,
        .inr ⟨hs, rfl, hb.imp_right fun _ => rfl⟩⟩
    | cons c cs =>
      obtain ⟨p1, p2⟩ := prefix_step tR c b hb
      refine ⟨b - c.length, cs, t, tR ++ c.drop b, rfl, hrx, ?_, htr, .inr ⟨hs, rfl, p2⟩⟩
      show hf.rxR ++ c = ht.rxR ++ c.take b ++ _
      rw [hrxR, List.append_assoc, p1, List.append_assoc]

theorem Cut.foldl (fs : List Bytes) {ht hf : Host} (c : Cut ht hf) :
    Cut (fs.foldl (fun x f => x.devWrite f) ht) (fs.foldl (fun x f => x.devWrite f) hf) := by
  induction fs generalizing ht hf with
  | nil => exact c
  | cons f fs ih => exact ih (c.devWrite f)

/-- lock-step of the cut run of `mt` with the full run of `mf` (two computations: the fuel of `readData` differs):
    both return the same value in related states, or the cut run raises -/
def Sim₂ {α} (mt mf : S α) : Prop :=
  ∀ ht hf, Cut ht hf →
    (∃ a ht' hf', mt ht = (.ok a, ht') ∧ mf hf = (.ok a, hf') ∧ Cut ht' hf') ∨ (∃ e ht', mt ht = (.error e, ht'))

abbrev Sim {α} (m : S α) : Prop := Sim₂ m m

theorem sim_pure {α} (a : α) : Sim (pure a : S α) := fun ht hf c => .inl ⟨a, ht, hf, rfl, rfl, c⟩

theorem sim_fail {α} (e : SErr) (m : S α) : Sim₂ (fail e) m := fun ht _ _ => .inr ⟨e, ht, rfl⟩

theorem sim_lift {α} (x : Except SErr α) : Sim (fun h => (x, h) : S α) := by
  cases x with
  | error e => exact sim_fail e _
  | ok a => exact sim_pure a

theorem sim_bind {α β} {mt mf : S α} {ft ff : α → S β} (hm : Sim₂ mt mf) (hf : ∀ a, Sim₂ (ft a) (ff a)) :
    Sim₂ (mt >>= ft) (mf >>= ff) := by
  intro ht hf' c
  rcases hm ht hf' c with ⟨a, ht', hf'', e1, e2, c'⟩ | ⟨e, ht', e1⟩
  · simp only [bind_run, e1, e2]; exact hf a ht' hf'' c'
  · exact .inr ⟨e, ht', by simp only [bind_run, e1]⟩

theorem sim_guardConn {α} {mt mf : S α} (hm : Sim₂ mt mf) : Sim₂ (guardConn mt) (guardConn mf) := by
  intro ht hf' c
  rcases hm ht hf' c with ⟨a, ht', hf'', e1, e2, c'⟩ | ⟨e, ht', e1⟩
  · exact .inl ⟨a, ht', hf'', by simp only [guardConn_run, e1], by simp only [guardConn_run, e2], c'⟩
  · exact .inr ⟨.conn, ht', by simp only [guardConn_run, e1]⟩

theorem sim_modify {f : Host → Host} (hi : Inert f) : Sim (S.modify f) :=
  fun ht hf c => .inl ⟨(), f ht, f hf, rfl, rfl, c.modify hi⟩

/-- a continuation that does not look at the link gets the same state on both sides -/
theorem sim_get {β} {f : Host → S β} (hl : ∀ h l, f (h.withLink l) = f h) (hf : ∀ h, Sim (f h)) :
    Sim (S.get >>= f) := by
  intro ht hf' c
  simp only [bind_run, get_run, c.agree f hl]
  exact hf ht ht hf' c

theorem sim_protoRead (n : Nat) : Sim (protoRead n) := by
  intro ht hf c
  have ⟨hw, b, cs, t, tR, hp, hrx, hrxR, htr, hl⟩ := c
  rcases hl with ⟨hs, hpt, rfl, hb⟩ | ⟨hs, hpt, hb⟩
  · rw [protoRead_serial n hs, protoRead_serial n (htr.trans hs)]
    generalize (if n = 0 then 4 else n) = n'
    by_cases hc : n' ≤ ht.rx.length ∧ ¬ ht.rx.isEmpty = true
    · have hc' : n' ≤ hf.rx.length ∧ ¬ hf.rx.isEmpty = true := by
        refine ⟨by rw [hrx, List.length_append]; omega, fun x => hc.2 ?_⟩
        rw [List.isEmpty_iff] at x ⊢
        exact (List.append_eq_nil_iff.mp (hrx ▸ x)).1
      have e : (hf.expectStatus, hf.rx.take n') = (ht.expectStatus, ht.rx.take n') := by
        rw [c.agree Host.expectStatus fun _ _ => rfl, hrx, List.take_append_of_le_length hc.1]
      rw [if_pos hc, if_pos hc', e]
      refine .inl ⟨_, _, _, rfl, rfl, hw, b, cs, t, [], hp, ?_, hrxR, htr, .inl ⟨hs, hpt, rfl, hb⟩⟩
      show hf.rx.drop n' = ht.rx.drop n' ++ t
      rw [hrx, List.drop_append_of_le_length hc.1]
    · exact .inr ⟨_, _, if_neg hc⟩
  · rw [protoRead_hid n hs, protoRead_hid n (htr.trans hs), hrxR]
    rcases hq : ht.rxR with _ | ⟨_ | _, rs⟩
    · exact .inr ⟨_, _, rfl⟩
    · exact .inr ⟨_, _, rfl⟩
    · exact .inl ⟨_, _, _, rfl, rfl, hw, b, cs, t, tR, hp, hrx, rfl, htr, .inr ⟨hs, hpt, hb⟩⟩

theorem sim_sendFrame (rid : Nat) (w : Bytes) : Sim (sendFrame rid w) := by
  intro ht hf c
  have ⟨_, _, _, _, _, _, _, _, htr, _⟩ := c
  cases hs : ht.tr
  · rw [sendFrame_serial rid w hs, sendFrame_serial rid w (htr.trans hs)]
    exact .inl ⟨_, _, _, rfl, rfl, (c.devWrite w).modify (f := fun h => { h with expectStatus := true }) fun _ _ => rfl⟩
  · rw [sendFrame_hid rid w hs, sendFrame_hid rid w (htr.trans hs),
      c.agree Host.packSize fun _ _ => rfl]
    split
    · exact .inr ⟨_, _, rfl⟩
    · exact .inl ⟨_, _, _, rfl, rfl, c.foldl _⟩

theorem sim_ite {α} {p : Prop} [Decidable p] {a a' b b' : S α} (ha : Sim₂ a a') (hb : Sim₂ b b') :
    Sim₂ (if p then a else b) (if p then a' else b') := by
  split <;> assumption

theorem sim_writeCommand (c : Cmd) : Sim (writeCommand c) := sim_ite (sim_sendFrame _ _) (sim_fail _ _)

/-- the common opening of `_process_cmd` and `_send_data` -/
theorem sim_opened {β} {m : S β} (hm : Sim m) :
    Sim (S.get >>= fun h => if ¬ h.opened then fail .conn else m) :=
  sim_get (fun _ _ => rfl) fun _ => sim_ite (sim_fail _ _) hm

theorem sim_processCmd (c : Cmd) : Sim (processCmd c) := by
  refine sim_opened (sim_bind (sim_modify fun _ _ => rfl) fun _ => ?_)
  refine sim_bind (sim_guardConn (sim_bind (sim_writeCommand c) fun _ => sim_protoRead 0)) fun ⟨hab, raw⟩ => ?_
  dsimp only
  cases respValue raw with
  | error e => exact sim_fail _ _
  | ok v => exact sim_ite (sim_bind (sim_modify fun _ _ => rfl) fun _ => sim_pure _) (sim_pure _)

theorem sim_readStatus : Sim readStatus := by
  refine sim_guardConn (sim_bind (sim_protoRead 0) fun ⟨_, raw⟩ => ?_)
  dsimp only
  cases respValue raw with
  | error e => exact sim_fail _ _
  | ok v => exact sim_pure _

/-- more fuel on the full side does no harm: the cut side runs out first -/
theorem sim_readDataLoop (length : Nat) {ft ff : Nat} (hle : ft ≤ ff) (acc : Bytes) :
    Sim₂ (readDataLoop length ft acc) (readDataLoop length ff acc) := by
  induction ft generalizing ff acc with
  | zero => exact sim_fail _ _
  | succ ft ih =>
    obtain ⟨ff, rfl⟩ : ∃ k, ff = k + 1 := ⟨ff - 1, by omega⟩
    have ih := fun acc => ih (ff := ff) (by omega) acc
    rw [readDataLoop, readDataLoop]
    refine sim_ite (sim_bind (sim_modify fun _ _ => rfl) fun _ =>
      sim_bind (sim_guardConn (sim_protoRead _)) fun ⟨hab, raw⟩ => ?_) (sim_pure _)
    refine sim_ite (ih _) ?_
    cases respValue raw with
    | error e => exact sim_fail _ _
    | ok v => exact sim_bind (sim_modify fun _ _ => rfl) fun _ => ih _

theorem sim_readData (length : Nat) : Sim (readData length) := by
  intro ht hf c
  have ⟨_, _, _, _, tR, _, _, hrxR, _⟩ := c
  refine sim_readDataLoop length ?_ [] ht hf c
  rw [c.agree Host.fuelHint fun _ _ => rfl, hrxR, List.length_append]
  omega

theorem sim_statusTail (st okv failSt : Nat) : Sim (statusTail st okv failSt) :=
  sim_ite
    (sim_bind (sim_modify fun _ _ => rfl) fun _ => sim_get (fun _ _ => rfl) fun _ => sim_ite (sim_fail _ _) (sim_pure _))
    (sim_pure _)

theorem sim_sendData (c : Cmd) (data : Bytes) : Sim (sendData c data) := by
  refine sim_opened (sim_bind (sim_modify fun _ _ => rfl) fun _ => sim_bind (sim_guardConn ?_) fun ok => ?_)
  · refine sim_bind (sim_writeCommand c) fun _ => sim_bind (sim_sendFrame _ _) fun _ => ?_
    refine sim_bind (sim_protoRead 0) fun ⟨_, habRaw⟩ => sim_bind (sim_lift _) fun hv => ?_
    refine sim_bind (sim_modify fun _ _ => rfl) fun _ => ?_
    refine sim_bind (sim_protoRead 0) fun ⟨_, stRaw⟩ => sim_bind (sim_lift _) fun sv => ?_
    refine sim_bind (sim_modify fun _ _ => rfl) fun _ => ?_
    have bad : ∀ st, Sim (S.modify (fun h => { h with status := st }) >>= fun _ => pure false) :=
      fun _ => sim_bind (sim_modify fun _ _ => rfl) fun _ => sim_pure _
    exact sim_ite (bad _) (sim_ite (bad _) (sim_ite (bad _) (sim_pure _)))
  · exact sim_get (fun _ _ => rfl) fun _ => sim_ite (sim_fail _ _) (sim_pure _)

theorem sim_sdpsWriteFile (noCmd : Bool) (ps : Nat) (data : Bytes) :
    Sim (sdpsWriteFile noCmd ps data) := by
  have data : Sim (sendFrame Spec.ridData data >>= fun _ => pure Val.none) :=
    sim_bind (sim_sendFrame _ _) fun _ => sim_pure _
  refine sim_guardConn (sim_bind (sim_modify fun _ _ => rfl) fun _ => ?_)
  exact sim_ite (sim_ite (sim_bind (sim_fail _ _) fun _ => data) (sim_bind (sim_sendFrame _ _) fun _ => data)) data

theorem sim_runOp (op : Op) : Sim (runOp op) := by
  have status : ∀ c {β} (k : Nat → S β), (∀ st, Sim (k st)) → Sim (processCmd c >>= fun _ => readStatus >>= k) :=
    fun c _ k hk => sim_bind (sim_processCmd c) fun _ => sim_bind sim_readStatus hk
  have data : ∀ c d, Sim (sendData c d >>= fun ok => pure (Val.bool ok)) :=
    fun c d => sim_bind (sim_sendData c d) fun _ => sim_pure _
  cases op with
  | read a n f => exact sim_bind (sim_processCmd _) fun _ => sim_bind (sim_readData _) fun _ => sim_pure _
  | write a v c f => exact status _ _ fun _ => sim_statusTail _ _ _
  | writeFile a d => exact data _ _
  | writeDcd a d => exact data _ _
  | writeCsf a d => exact data _ _
  | skipDcd => exact status _ _ fun _ => sim_statusTail _ _ _
  | jumpAndRun a => exact sim_bind (sim_processCmd _) fun _ => sim_pure _
  | readStatus => exact status _ _ fun _ => sim_pure _
  | sdpsWriteFile nc ps d => exact sim_sdpsWriteFile nc ps d

theorem cut_safe (op : Op) {ht hf : Host} (c : Cut ht hf) :
    observable (runOp op ht) = observable (runOp op hf) ∨ ¬ succeeded (runOp op ht).1 := by
  rcases sim_runOp op ht hf c with ⟨a, ht', hf', e1, e2, c'⟩ | ⟨e, ht', e1⟩
  · rw [e1, e2]
    exact .inl (c'.agree (fun h => observable (.ok a, h)) fun _ _ => rfl).symm
  · rw [e1]
    exact .inr fun ⟨v, hv, _⟩ => nomatch hv

/-- Cutting the device→host byte stream after `k` bytes (serial transport) never turns a call into a *different*
    success: either the call behaves exactly as on the uncut stream (result, `status_code`, `hab_status`, bytes written),
    or it does not succeed (it raises or returns `False`). -/
theorem truncation_safe_serial (h : Host) (op : Op) (k : Nat) (cs : List (List Bytes))
    (htr : h.tr = .serial) (hpeer : h.peer = .script cs) :
    observable (runOp op (h.truncate k)) = observable (runOp op h) ∨ ¬ succeeded (runOp op (h.truncate k)).1 := by
  refine cut_safe op ?_
  rw [Host.truncate, hpeer]
  exact ⟨fun _ => rfl, k, cs, [], [], hpeer, by simp, by simp, rfl, .inl ⟨htr, rfl, rfl, .inl rfl⟩⟩

example : ({ peer := .script [[be 4 Spec.rUnlocked, be 4 Spec.rWriteDataOk]] } : Host).tr = .serial := rfl
/-- uncut: `write` succeeds; cut after 6 of the 8 bytes: SdpConnectionError; cut after 8 or more: unchanged -/
example : (runOp (.write 0 1 4 32) { peer := .script [[be 4 Spec.rUnlocked, be 4 Spec.rWriteDataOk]] }).1 =
    .ok (.bool true) := by decide +kernel
example : (runOp (.write 0 1 4 32)
    (({ peer := .script [[be 4 Spec.rUnlocked, be 4 Spec.rWriteDataOk]] } : Host).truncate 6)).1 = .error .conn := by
  decide +kernel
example : (runOp (.write 0 1 4 32)
    (({ peer := .script [[be 4 Spec.rUnlocked, be 4 Spec.rWriteDataOk]] } : Host).truncate 8)).1 =
    .ok (.bool true) := by decide +kernel

/-- Cutting the device→host report stream after `k` whole reports (USB-HID transport): the call behaves exactly as on
    the uncut stream, or it does not succeed. -/
theorem truncation_safe_hid (h : Host) (op : Op) (k : Nat) (cs : List (List Bytes))
    (htr : h.tr = .hid) (hpeer : h.peer = .script cs) :
    observable (runOp op (h.truncateHid k)) = observable (runOp op h) ∨ ¬ succeeded (runOp op (h.truncateHid k)).1 := by
  refine cut_safe op ?_
  rw [Host.truncateHid, hpeer]
  exact ⟨fun _ => rfl, k, cs, [], [], hpeer, by simp, by simp, rfl, .inr ⟨htr, rfl, .inl rfl⟩⟩

example : ({ tr := .hid, peer := .script [[3 :: be 4 Spec.rUnlocked, 4 :: be 4 Spec.rWriteDataOk]] } : Host).tr = .hid := rfl
/-- uncut: `write` over HID succeeds; cut after 1 of the 2 reports: SdpConnectionError; cut after 2: unchanged -/
example : (runOp (.write 0 1 4 32)
    { tr := .hid, peer := .script [[3 :: be 4 Spec.rUnlocked, 4 :: be 4 Spec.rWriteDataOk]] }).1 = .ok (.bool true) := by
  decide +kernel
example : (runOp (.write 0 1 4 32)
    (({ tr := .hid, peer := .script [[3 :: be 4 Spec.rUnlocked, 4 :: be 4 Spec.rWriteDataOk]] } : Host).truncateHid 1)).1 =
    .error .conn := by decide +kernel
example : (runOp (.write 0 1 4 32)
    (({ tr := .hid, peer := .script [[3 :: be 4 Spec.rUnlocked, 4 :: be 4 Spec.rWriteDataOk]] } : Host).truncateHid 2)).1 =
    .ok (.bool true) := by decide +kernel

/-- `read` (the loop whose fuel differs between the two runs): cut before the data report -> SdpConnectionError -/
example : (runOp (.read 0 4 8)
    { tr := .hid, peer := .script [[3 :: be 4 Spec.rUnlocked, 4 :: [1, 2, 3, 4]]] }).1 = .ok (.bytes [1, 2, 3, 4]) := by
  decide +kernel
example : (runOp (.read 0 4 8)
    (({ tr := .hid, peer := .script [[3 :: be 4 Spec.rUnlocked, 4 :: [1, 2, 3, 4]]] } : Host).truncateHid 1)).1 =
    .error .conn := by decide +kernel

end SpsdkVerif.Sdp
