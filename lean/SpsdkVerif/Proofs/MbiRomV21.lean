/-
C02 for the cert-block-v2.1 / manifest family: the signature covers exactly the bytes that precede it, the optional digest
is the hash of the same bytes, and the independent ROM model (Spec/MbiRom.lean) accepts what the model exports - given
what its walk over the (opaque) certificate block answers.
-/
import SpsdkVerif.Proofs.MbiRomFlags
import SpsdkVerif.Proofs.MbiSignedV21
import SpsdkVerif.Proofs.Crc

namespace SpsdkVerif.Mbi
open SpsdkVerif SpsdkVerif.Misc SpsdkVerif.Crypto
open SpsdkVerif.Generated.IvtConsts

variable {co : CryptoOps} {env : Env} {c : Cls} {cfg : Cfg} {signer : Signer}

/-- the digest block as the statements of Properties/C02.lean write it -/
theorem romV21_hash_eq (G : V21Cfg c cfg) {k : ManifestKind} (hk : c.manifestKind = some k) (raw : Bytes) :
    v21Hash co cfg k raw = (match cfg.digest with | some a => co.hash a raw | none => []) := by
  cases k with
  | digest => cases hd : cfg.digest <;> simp [v21Hash, hd]
  | crc =>
    have := G.dig (by rw [hk]; decide)
    simp [v21Hash, this]

theorem romV21_image_eq (G : V21Cfg c cfg) {k : ManifestKind} (hk : c.manifestKind = some k) :
    v21Image co c cfg signer k = v21Raw c cfg k ++ signer (v21Raw c cfg k)
      ++ (match cfg.digest with | some a => co.hash a (v21Raw c cfg k) | none => []) := by
  rw [← romV21_hash_eq G hk]; rfl

theorem romV21_crc32m_lt (d : Bytes) : crc32m d < 2 ^ 32 := by
  have := Crc.registerFrom_lt Crc.wf_crc32Mpeg2 d Crc.crc32Mpeg2.init (by decide)
  -- no output reflection, no final xor: the CRC is the register
  show Crc.register Crc.crc32Mpeg2 d ^^^ 0 < _
  rwa [Nat.xor_zero]

/-- the CRC word the manifest carries (0: digest manifest) -/
def romV21Crc (c : Cls) (cfg : Cfg) (k : ManifestKind) : Nat :=
  match k with
  | .digest => 0
  | .crc => crc32m (dropLast (v21App c cfg ++ cfg.cert ++ manifestBytes .crc cfg 0) 4)

theorem romV21_man_eq (c : Cls) (cfg : Cfg) (k : ManifestKind) :
    v21Man c cfg k = manifestBytes k cfg (romV21Crc c cfg k) := by
  cases k <;> rfl

theorem romV21_manifest_words (k : ManifestKind) (cfg : Cfg) (crc : Nat) (tail : Bytes)
    (hml : manifestLen k cfg < 2 ^ 32) :
    (manifestBytes k cfg crc ++ tail).take 4 = manifestMagic
    ∧ rd32 (manifestBytes k cfg crc ++ tail) 4 = manifestFormatVersion
    ∧ rd32 (manifestBytes k cfg crc ++ tail) 12 = manifestLen k cfg
    ∧ rd32 (manifestBytes k cfg crc ++ tail) 16 = v21ManFlags k cfg := by
  generalize hd : manifestBytes k cfg crc ++ tail = d
  have hform : d = manifestMagic ++ le32 manifestFormatVersion ++ le32 cfg.fwVersion ++ le32 (manifestLen k cfg)
      ++ le32 (v21ManFlags k cfg) ++ (cfg.tz.bytes ++ v21CrcPart k crc ++ tail) := by
    rw [← hd]; cases k <;> simp [manifestBytes, v21ManFlags, v21CrcPart, List.append_assoc]
  refine ⟨?_, ?_, ?_, ?_⟩
  · rw [hform]; simp only [List.append_assoc]; exact List.take_left' (by decide)
  · exact rd32_at d manifestMagic _ _ 4 (by rw [hform]; simp only [List.append_assoc]; try rfl) (by decide) (by decide)
  · exact rd32_at d (manifestMagic ++ le32 manifestFormatVersion ++ le32 cfg.fwVersion) _ _ 12
      (by rw [hform]; simp only [List.append_assoc]; try rfl) (by simp [le32_length, manifestMagic]) hml
  · exact rd32_at d (manifestMagic ++ le32 manifestFormatVersion ++ le32 cfg.fwVersion ++ le32 (manifestLen k cfg)) _ _ 16
      (by rw [hform]) (by simp [le32_length, manifestMagic]) (signedV21_manFlags_lt k cfg)

/-- the part of the CRC manifest the CRC covers -/
def romV21ManHead (cfg : Cfg) : Bytes :=
  manifestMagic ++ le32 manifestFormatVersion ++ le32 cfg.fwVersion ++ le32 (manifestLen .crc cfg) ++ le32 0 ++ cfg.tz.bytes

theorem romV21_manifestBytes_crc (cfg : Cfg) (x : Nat) : manifestBytes .crc cfg x = romV21ManHead cfg ++ le32 x := by
  simp [manifestBytes, romV21ManHead]

theorem romV21_manHead_length (cfg : Cfg) : (romV21ManHead cfg).length + 4 = manifestLen .crc cfg := by
  simp [romV21ManHead, manifestLen, le32_length, manifestMagic, manifestHeaderSize]; omega

/-- the CRC manifest's last word is the CRC of everything before it -/
theorem romV21_crc_word (F : V21Cls c) (G : V21Cfg c cfg) (tail : Bytes) :
    let e := v21App c cfg ++ (cfg.cert ++ (v21Man c cfg .crc ++ tail))
    let n := (appData cfg).length + cfg.cert.length + manifestLen .crc cfg - 4
    rd32 e n = crc32m (e.take n) := by
  intro e n
  have hAl := signedV21_app_length F G
  have hpre : (v21App c cfg ++ cfg.cert ++ romV21ManHead cfg).length = n := by
    have := romV21_manHead_length cfg
    simp only [List.length_append, hAl, n]; omega
  have hcrc : romV21Crc c cfg .crc = crc32m (v21App c cfg ++ cfg.cert ++ romV21ManHead cfg) := by
    simp only [romV21Crc, romV21_manifestBytes_crc, dropLast]
    rw [← List.append_assoc, List.take_left' (by simp [le32_length]; omega)]
  have he : e = (v21App c cfg ++ cfg.cert ++ romV21ManHead cfg) ++ le32 (romV21Crc c cfg .crc) ++ tail := by
    simp only [e, romV21_man_eq, romV21_manifestBytes_crc, List.append_assoc]
  rw [rd32_at e _ _ _ n he hpre (by rw [hcrc]; exact romV21_crc32m_lt _), he, List.append_assoc,
    List.take_left' hpre, hcrc]

/-- what the ROM reads in the exported image `e` (`C` = end of the certificate block, `M` = end of the manifest) -/
structure RomV21Facts (co : CryptoOps) (c : Cls) (cfg : Cfg) (signer : Signer) (k : ManifestKind) (e : Bytes) (C M : Nat) : Prop where
  len : e.length = M + cfg.sigLen + v21DigLen k cfg
  w32 : rd32 e ivtImageLengthOffset = (if c.zeroTotalLength then 0 else e.length)
  w36 : rd32 e ivtImageFlagsOffset = flagsOf c cfg
  w40 : rd32 e ivtCrcCertificateOffset = (appData cfg).length
  cert : slice e (appData cfg).length ((appData cfg).length + cfg.cert.length) = cfg.cert
  magic : slice e C (C + 4) = manifestMagic
  ver : rd32 e (C + 4) = manifestFormatVersion
  mlen : rd32 e (C + 12) = manifestLen k cfg
  mfl : rd32 e (C + 16) = v21ManFlags k cfg
  pre : e.take M = v21Raw c cfg k
  sig : slice e M (M + cfg.sigLen) = signer (v21Raw c cfg k)
  dig : slice e (M + cfg.sigLen) (M + cfg.sigLen + v21DigLen k cfg) = v21Hash co cfg k (v21Raw c cfg k)
  crc : k = .crc → rd32 e (M - 4) = crc32m (e.take (M - 4))

theorem romV21_facts (h : Hyp co env c cfg signer) (F : V21Cls c) (G : V21Cfg c cfg) {k : ManifestKind}
    (hk : c.manifestKind = some k) :
    RomV21Facts co c cfg signer k (v21Image co c cfg signer k) ((appData cfg).length + cfg.cert.length)
      ((appData cfg).length + cfg.cert.length + manifestLen k cfg) := by
  have hlenI := signedV21_image_length (signer := signer) h.hlaws h.hsig F G k hk
  have hrl := signedV21_raw_length F G k
  have hAl := signedV21_app_length F G
  have hH := signedV21_hash_length h.hlaws G k (v21Raw c cfg k)
  have hassoc := signedV21_image_assoc co c cfg signer k
  -- the image as (application ‖ block) ‖ (manifest ‖ rest): the manifest words are read behind the first part
  have hsplit : v21Image co c cfg signer k = (v21App c cfg ++ cfg.cert) ++ (manifestBytes k cfg (romV21Crc c cfg k)
      ++ (signer (v21Raw c cfg k) ++ v21Hash co cfg k (v21Raw c cfg k))) := by
    rw [hassoc, romV21_man_eq, List.append_assoc]
  have hPl : (v21App c cfg ++ cfg.cert).length = (appData cfg).length + cfg.cert.length := by rw [List.length_append, hAl]
  have hml : manifestLen k cfg < 2 ^ 32 := by
    have := (signedV21_pack G).2
    rw [signedV21_totalLen (cfg := cfg) F k hk] at this
    simp only [encIvtCopySize, encIvSize] at this; omega
  obtain ⟨m0, m4, m12, m16⟩ := romV21_manifest_words k cfg (romV21Crc c cfg k)
    (signer (v21Raw c cfg k) ++ v21Hash co cfg k (v21Raw c cfg k)) hml
  obtain ⟨w1, w2, w3, -⟩ := signedV21_words F G (cfg.cert ++ (v21Man c cfg k ++ (signer (v21Raw c cfg k)
      ++ v21Hash co cfg k (v21Raw c cfg k))))
  rw [← hassoc] at w1 w2 w3
  refine ⟨by simp only [v21Image, List.length_append, hrl, h.hsig, hH], ?_, w2, w3, ?_, ?_, ?_, ?_, ?_, ?_, ?_, ?_, ?_⟩
  · rw [w1, ← hlenI, Int.toNat_natCast]
  · rw [hassoc, ← hAl, ← List.append_assoc]
    exact slice_append_mid (v21App c cfg) cfg.cert _
  · rw [hsplit, ← hPl, ← m0]; unfold slice; rw [List.drop_take, Nat.add_sub_cancel_left, List.drop_left]
  · rw [hsplit, ← hPl, rd32_append_right]; exact m4
  · rw [hsplit, ← hPl, rd32_append_right]; exact m12
  · rw [hsplit, ← hPl, rd32_append_right]; exact m16
  · rw [← hrl]; simp only [v21Image, List.append_assoc]; exact List.take_left' rfl
  · rw [← hrl, ← h.hsig (v21Raw c cfg k)]; exact slice_append_mid _ _ _
  · rw [← hrl, ← h.hsig (v21Raw c cfg k), ← hH, ← List.length_append]
    have := slice_append_mid (v21Raw c cfg k ++ signer (v21Raw c cfg k)) (v21Hash co cfg k (v21Raw c cfg k)) []
    simpa [v21Image] using this
  · intro hkc
    subst hkc
    rw [hassoc]
    exact romV21_crc_word F G _

/-- the ROM's name of the manifest flavour -/
def romV21SpecKind (k : ManifestKind) : Spec.MbiRom.ManifestKind := match k with | .crc => .crc | .digest => .digest

theorem romV21_renv (F : V21Cls c) {k : ManifestKind} (hk : c.manifestKind = some k) (rkth : Bytes) (uk : Option Bytes) :
    (romEnvOf c rkth uk).certKind = .v21
    ∧ (romEnvOf c rkth uk).manifestKind = romV21SpecKind k := by
  simp only [romEnvOf, F.hasV1, F.hasV21, hk, Bool.false_eq_true, if_false, if_true, true_and]
  cases k <;> simp [romV21SpecKind]

/-- the TrustZone data in the manifest: nothing, or exactly the preset size with the CUSTOM type -/
theorem romV21_tz (F : V21Cls c) (G : V21Cfg c cfg) :
    (cfg.tz.bytes.length = 0 ∧ cfg.tz.tag = tzEnabled) ∨ (cfg.tz.bytes.length = c.tzSize ∧ c.tzSize > 0 ∧ cfg.tz.tag = tzCustom) := by
  have hnd := signedV21_tz_ne_disabled F G
  cases ht : cfg.tz with
  | disabled => exact absurd ht hnd
  | enabled => left; simp [TzCfg.bytes, TzCfg.tag]
  | custom d =>
    obtain ⟨h1, h2⟩ := G.tz d ht
    right; simp [TzCfg.bytes, TzCfg.tag, h1, h2]

theorem romV21_type (F : V21Cls c) (hf : c.family = some .signedV21) (ht : signedTypeOk c = true) :
    c.imageType = 1 ∨ c.imageType = 4 ∨ c.imageType = 8 := by
  have := signedTypeOk_cases ht (.inr F.sign)
  rwa [hf, if_neg (by decide)] at this

theorem RomV21Facts.builtIvt (F : V21Cls c) (G : V21Cfg c cfg) {k : ManifestKind} {e : Bytes} {C : Nat}
    (R : RomV21Facts co c cfg signer k e C ((appData cfg).length + cfg.cert.length + manifestLen k cfg)) :
    BuiltIvt c cfg e := by
  refine ⟨?_, R.w36, R.w32⟩
  have h1 := signedV21_app_len F G
  rw [R.len]
  simp only [Spec.MbiRom.ivtSize, minIvtSize] at *; omega

/-- the ROM's length checks, for an image `A` (application) ‖ `L` (block) ‖ manifest of `ml = 20 + t + x` bytes (`t` TrustZone
    data, `x` CRC) ‖ `S` (signature) ‖ `D` (digest) of `n` bytes in all -/
theorem romV21_lengths {A L t x S D n ml : Nat} (hml : ml = 20 + t + x) (hn : n = A + L + ml + S + D) :
    A + L + 4 ≤ n ∧ A + L + 20 ≤ n ∧ (ml ≥ 20 + x ∧ A + L + ml ≤ n) ∧ ml - 20 - x = t ∧ A + L + ml + S ≤ n
      ∧ A + L + ml + S + D = n := by
  omega

/-- `romSignedV21` accepts the exported image; the last obligation is the ECDSA check of the signature the builder put behind
    the bytes it signed -/
theorem romSignedV21_image (h : Hyp co env c cfg signer) (F : V21Cls c) (G : V21Cfg c cfg) {k : ManifestKind}
    (hk : c.manifestKind = some k) (rkth : Bytes) (uk : Option Bytes) (signPub : Bytes)
    (obs : Bytes → Nat → List Spec.MbiRom.Obligation)
    (hrom : RomCertV21OK co (romEnvOf c rkth uk) cfg.cert cfg.sigLen signPub obs) :
    ∃ a, Spec.MbiRom.romSignedV21 co (romEnvOf c rkth uk) (v21Image co c cfg signer k) = .ok a
      ∧ a.obligations = obs (v21Image co c cfg signer k) (appData cfg).length
          ++ [.ecdsa signPub (v21Raw c cfg k) (signer (v21Raw c cfg k))] := by
  have R := romV21_facts h F G hk
  obtain ⟨-, hmk⟩ := romV21_renv F hk rkth uk
  obtain ⟨hS, hcertOK⟩ := hrom
  have hB := R.builtIvt F G
  generalize v21Image co c cfg signer k = e at R hB
  generalize hrenv : romEnvOf c rkth uk = renv at hmk hcertOK
  refine ⟨{ obligations := obs e (appData cfg).length ++ [.ecdsa signPub
              (e.take ((appData cfg).length + cfg.cert.length + manifestLen k cfg))
              (Spec.MbiRom.sub e ((appData cfg).length + cfg.cert.length + manifestLen k cfg)
                ((appData cfg).length + cfg.cert.length + manifestLen k cfg + signPub.length))]
            authenticated := [(0, e.length)] }, ?_, by rw [R.pre, hS, spec_sub_eq, R.sig]⟩
  -- lengths, once: `t` bytes of TrustZone data, `x` = 4 with the CRC manifest
  have hA := signedV21_app_len F G
  have hA4 : (appData cfg).length % 4 = 0 := align4_length_mod _
  have hlen := R.len
  obtain ⟨x, hx, hL⟩ : ∃ x, (if (renv.manifestKind == Spec.MbiRom.ManifestKind.crc) = true then 4 else 0) = x
      ∧ manifestLen k cfg = 20 + cfg.tz.bytes.length + x := by
    rw [hmk]; cases k <;> exact ⟨_, rfl, rfl⟩
  obtain ⟨l1, l2, l3, l4, l5, l6⟩ := romV21_lengths hL hlen
  rw [← hS] at l5 l6
  have hcert := hcertOK e (appData cfg).length R.cert l1
  have c1 : (appData cfg).length ≥ Spec.MbiRom.ivtSize ∧ ((appData cfg).length % 4 == 0) = true :=
    ⟨hA, by rw [hA4]; rfl⟩
  have c3 : (Spec.MbiRom.sub e ((appData cfg).length + cfg.cert.length) ((appData cfg).length + cfg.cert.length + 4)
      == Spec.MbiRom.manifestMagic) = true := by rw [spec_sub_eq, R.magic]; decide
  have c4 : (Spec.MbiRom.rd32 e ((appData cfg).length + cfg.cert.length + 4) == Spec.MbiRom.manifestVersion) = true := by
    rw [spec_rd32_eq, R.ver]; decide
  have htzt : Spec.MbiRom.rd32 e Spec.MbiRom.offFlags >>> Spec.MbiRom.shiftTzType &&& Spec.MbiRom.maskTzType
      = cfg.tz.tag := by rw [hB.flags, rom_tz]; exact (signedV21_flag_getters F G).2.2.2
  have c67 : (cfg.tz.bytes.length = 0 ∨ cfg.tz.bytes.length = renv.tzSize)
      ∧ (cfg.tz.bytes.length != 0) = (cfg.tz.tag == Spec.MbiRom.tzCustom) := by
    have : renv.tzSize = c.tzSize := by rw [← hrenv]; rfl
    rw [this]
    rcases romV21_tz F G with ⟨h1, h2⟩ | ⟨h1, h2, h3⟩
    · rw [h1, h2]; exact ⟨.inl rfl, by decide⟩
    · rw [h1, h3]; exact ⟨.inr rfl, by rw [bne_iff_ne.2 (Nat.ne_of_gt h2)]; decide⟩
  have c8 : (renv.manifestKind != Spec.MbiRom.ManifestKind.crc) = true
      ∨ (Spec.MbiRom.rd32 e ((appData cfg).length + cfg.cert.length + manifestLen k cfg - 4)
          == Crc.crc Spec.MbiRom.crcParams (e.take ((appData cfg).length + cfg.cert.length + manifestLen k cfg - 4))) = true := by
    rw [hmk]
    cases k with
    | digest => exact .inl rfl
    | crc => exact .inr (beq_iff_eq.2 (R.crc rfl))
  -- the flag word of the manifest stays a variable until the digest step
  obtain ⟨mf, hmf⟩ : ∃ mf, v21ManFlags k cfg = mf := ⟨_, rfl⟩
  unfold Spec.MbiRom.romSignedV21
  simp only [show Spec.MbiRom.rd32 e Spec.MbiRom.offCrcOrCert = _ from R.w40, need_ok (decide_eq_true c1), hcert,
    show Spec.MbiRom.rd32 e (_ + 12) = _ from R.mlen, show Spec.MbiRom.rd32 e (_ + 16) = _ from R.mfl.trans hmf, hx,
    show manifestLen k cfg - Spec.MbiRom.manifestHeaderSize - x = _ from l4, htzt,
    need_ok (decide_eq_true (show _ + Spec.MbiRom.manifestHeaderSize ≤ _ from l2)), need_ok c3, need_ok c4,
    need_ok (decide_eq_true (show manifestLen k cfg ≥ Spec.MbiRom.manifestHeaderSize + x ∧ _ from l3)),
    need_ok (decide_eq_true (show (_ == 0) = true ∨ (_ == renv.tzSize) = true from c67.1.imp beq_iff_eq.2 beq_iff_eq.2)),
    need_ok (beq_iff_eq.2 c67.2), need_ok (decide_eq_true c8), need_ok (decide_eq_true l5), ok_bind]
  -- the digest step, by the configured hash, gives the length of the digest block; then the image ends
  refine bind_ok.2 ⟨v21DigLen k cfg, ?_, by rw [need_ok (beq_iff_eq.2 l6)]; rfl⟩
  have hdig := R.dig
  rw [← R.pre, ← hS, ← spec_sub_eq] at hdig
  cases k with
  | crc =>
    rw [show renv.manifestKind = .crc from hmk, if_neg (fun h => absurd h.1 (by decide)),
      need_ok (decide_eq_true (.inl rfl))]
    rfl
  | digest =>
    rw [show renv.manifestKind = .digest from hmk]
    simp only [v21DigLen, v21ManFlags, v21Hash] at hdig hmf ⊢
    cases hd : cfg.digest with
    | none =>
      rw [hd] at hmf
      subst hmf
      rw [if_neg (fun h => absurd h.2 (by decide)), need_ok (decide_eq_true (.inr rfl))]
      rfl
    | some al =>
      rw [hd] at hdig hmf
      subst hmf
      cases al
      case sha1 => exact absurd hd G.sha1
      all_goals
        rw [if_pos ⟨rfl, by decide⟩]
        simp only [digestSize] at hdig ⊢
      case sha256 => rw [show manifestFlags (some .sha256) &&& Spec.MbiRom.manifestHashMask = 1 by decide]; simp only [need_ok (beq_iff_eq.2 hdig)]; rfl
      case sha384 => rw [show manifestFlags (some .sha384) &&& Spec.MbiRom.manifestHashMask = 2 by decide]; simp only [need_ok (beq_iff_eq.2 hdig)]; rfl
      case sha512 => rw [show manifestFlags (some .sha512) &&& Spec.MbiRom.manifestHashMask = 3 by decide]; simp only [need_ok (beq_iff_eq.2 hdig)]; rfl

/-- the ROM accepts the exported image; its obligations are the ISK obligation of the certificate block and the ECDSA
    verification of `signer pre` over `pre` under the signing key of the block -/
theorem rom_accepts_signedV21 (h : Hyp co env c cfg signer) (hf : c.family = some .signedV21) (ht : signedTypeOk c = true)
    (rkth : Bytes) (uk : Option Bytes) (signPub : Bytes) (obs : Bytes → Nat → List Spec.MbiRom.Obligation)
    (hrom : RomCertV21OK co (romEnvOf c rkth uk) cfg.cert cfg.sigLen signPub obs) :
    ∃ e pre a, exportImage co c cfg signer = .ok e
      ∧ e = pre ++ signer pre ++ (match cfg.digest with | some a => co.hash a pre | none => [])
      ∧ Spec.MbiRom.romCheck co (romEnvOf c rkth uk) e = .ok a
      ∧ a.obligations = obs e (appLen c cfg) ++ [.ecdsa signPub pre (signer pre)] := by
  have F := signedV21_classFacts h.hcls hf
  have G := signedV21_cfgFacts F h.hcfg
  obtain ⟨k, hk⟩ := Option.isSome_iff_exists.mp F.mkSome
  obtain ⟨a, ha, hob⟩ := romSignedV21_image h F G hk rkth uk signPub obs hrom
  refine ⟨_, _, a, signedV21_export F G k hk, romV21_image_eq G hk, ?_, by rw [signedV21_appLen F]; exact hob⟩
  rw [romCheck_built h ((romV21_facts h F G hk).builtIvt F G), romByType_v21 (romV21_type F hf ht) (romV21_renv F hk rkth uk).1]
  exact ha

theorem romNegV21_ok_bind {α β : Type} (x : β) (f : β → Spec.MbiRom.Rom α) : ((Except.ok x : Spec.MbiRom.Rom β) >>= f) = f x := rfl

/-- whatever `romSignedV21` accepts, its last obligation is the ECDSA check of the bytes before the signature -/
theorem romSignedV21_obligations (co : CryptoOps) (renv : Spec.MbiRom.RomEnv) (e : Bytes) (A C : Nat) (signPub : Bytes)
    (obs : List Spec.MbiRom.Obligation) (mLen : Nat) (a : Spec.MbiRom.Accepted)
    (e1 : Spec.MbiRom.rd32 e Spec.MbiRom.offCrcOrCert = A)
    (hcert : Spec.MbiRom.romCertV21 co renv e A = .ok (signPub, C, obs))
    (e2 : Spec.MbiRom.rd32 e (C + 12) = mLen)
    (h : Spec.MbiRom.romSignedV21 co renv e = .ok a) :
    a.obligations = obs ++ [Spec.MbiRom.Obligation.ecdsa signPub (List.take (C + mLen) e)
          (Spec.MbiRom.sub e (C + mLen) (C + mLen + List.length signPub))] := by
  unfold Spec.MbiRom.romSignedV21 at h
  simp only [e1, hcert, ok_bind, e2, ↓need_bind_ok, bind_ok, pure, Except.pure, Except.ok.injEq] at h
  obtain ⟨_, _, _, _, _, _, _, _, _, _, _, _, _, rfl⟩ := h
  rfl

end SpsdkVerif.Mbi
