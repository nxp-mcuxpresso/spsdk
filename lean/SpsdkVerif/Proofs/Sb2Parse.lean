/-
C04 helper lemmas: SPSDK's own image parser model (Model/Sb2Parse.lean) on files produced by the builder model.
The parser walks the same pieces as the ROM model (`buildSection_parts`, `section_slices` here; `V21Facts`, `V20Facts`,
`certSection_facts` at image level, Properties/C04.lean); what differs is its header decoder, its MAC-table loop and its section loops.
-/
import SpsdkVerif.Proofs.Sb2Image
import SpsdkVerif.Model.Sb2Parse

namespace SpsdkVerif.Sb2
open SpsdkVerif SpsdkVerif.Sb2.Rom
open SpsdkVerif.Misc (Bytes beEnc beDec leEnc leDec bcdDigitOk)
open SpsdkVerif.Crypto (CryptoOps CryptoLaws Break xorBytes zeroPad16 zeros hmac kwWrap kwUnwrap)
open SpsdkVerif.Generated

variable {c : CryptoOps}

theorem canon_rawSize (x : Cmd) : x.canon.rawSize = x.rawSize := by
  cases x <;> simp [Cmd.canon, Cmd.rawSize, Cmd.payload, zeroPad16_idem]

/-- the parsed section object occupies exactly the bytes of the built section and reports the effective MAC count -/
theorem parsedSection_facts (s : Section) (wf : Spec.WFsection s) :
    (Parse.parsedSection s).rawSize = Spec.sectionLen s ∧ (Parse.parsedSection s).effHmacCount = Spec.macCount s ∧
    (Parse.parsedSection s).uid = s.uid := by
  have ⟨e1, e2, e3⟩ := effHmacCount_eq s wf
  have r1 := (rawSize_eq_sectionLen s wf).1
  have hsum : ((s.cmds.map Cmd.canon).map Cmd.rawSize).sum = (s.cmds.map Cmd.rawSize).sum := by
    rw [List.map_map]; exact congrArg List.sum (List.map_congr_left fun x _ => canon_rawSize x)
  -- asking again for `macCount s` entries changes nothing: the count is already capped by the number of blocks
  have hc : (Parse.parsedSection s).effHmacCount = Spec.macCount s := by
    have := (cmdsLen_facts s.cmds wf.2.1).2
    rw [Parse.parsedSection, Section.effHmacCount]
    simp only [hsum, rawSize_sum, e1]
    rw [if_pos (show Spec.cmdsLen s.cmds > 0 by omega), if_neg (show ¬ Spec.macCount s = 0 by omega),
      if_pos (show (Spec.cmdsLen s.cmds + 15) / 16 ≥ Spec.macCount s by omega)]
  refine ⟨?_, hc, rfl⟩
  rw [Section.rawSize, hc, ← r1, Section.rawSize, e1]
  exact congrArg (fun n => align16 (16 + 32 + Spec.macCount s * 32 + n)) hsum

theorem parseCmds_cmdsData (cmds : List Cmd) (wf : ∀ x ∈ cmds, Spec.WFcmd x) (fuel : Nat) (hf : cmds.length ≤ fuel) :
    Parse.parseCmds fuel (cmdsData cmds) = .ok (cmds.map Cmd.canon) := by
  rw [cmdsData_eq]
  induction cmds generalizing fuel with
  | nil => cases fuel <;> rfl
  | cons x cmds ih =>
    cases fuel with
    | zero => exact absurd hf (Nat.not_succ_le_zero _)
    | succ fuel =>
      rw [Parse.parseCmds, flatten_encode_cons_isEmpty, List.map_cons, List.flatten_cons]
      simp only [Bool.false_eq_true, if_false]
      rw [decodeCmd_encodeCmd x (wf x List.mem_cons_self)]
      simp only
      rw [List.drop_left, ih (fun y hy => wf y (List.mem_cons_of_mem _ hy)) fuel (Nat.le_of_succ_le_succ hf)]
      rfl

/-- the parser's MAC-table loop over slices of the whole file is the ROM's check of the table against the ciphertext -/
theorem checkTable_eq_checkMacs (mac data : Bytes) (hc bs rem off : Nat) (tbl : Bytes) (hb : bs * (hc - 1) ≤ rem) :
    Parse.checkTable c mac data hc bs rem off tbl = Rom.checkMacs c mac hc bs tbl (Rom.slice data off rem) := by
  induction hc generalizing rem off tbl with
  | zero => rfl
  | succ n ih =>
    cases n with
    | zero => rfl
    | succ m =>
      have hbr : bs * (m + 1) ≤ rem := hb
      rw [Nat.mul_succ] at hbr
      have e1 : Rom.slice data off bs = (Rom.slice data off rem).take bs := by
        rw [Rom.slice, Rom.slice, List.take_take, Nat.min_eq_left (by omega)]
      have e2 : Rom.slice data (off + bs) (rem - bs) = (Rom.slice data off rem).drop bs := by
        rw [Rom.slice, Rom.slice, List.drop_take, List.drop_drop]
      rw [Parse.checkTable, Rom.checkMacs, ih (rem - bs) (off + bs) (tbl.drop 32) (by show bs * m ≤ _; omega), e1, e2]

/-- `BootSectionV2.parse` on a section built for its position: the section object, and the counter has
    advanced by the section's length in blocks -/
theorem parseSection_buildSection (h : CryptoLaws c) (dek mac nonce pre post : Bytes) (s : Section)
    (wf : Spec.WFsection s) :
    Parse.parseSection c dek mac nonce
        (pre ++ buildSection c dek mac nonce (nonceCtr nonce + pre.length / 16) s ++ post) pre.length
        (nonceCtr nonce + pre.length / 16)
      = .ok (Parse.parsedSection s, nonceCtr nonce + pre.length / 16 + Spec.sectionLen s / 16) := by
  have ⟨e1, e2, e3⟩ := effHmacCount_eq s wf
  have l3 := (cmdsLen_facts s.cmds wf.2.1).1
  obtain ⟨eh, ec, hS, leh, lec, hx, hd⟩ := buildSection_parts h dek mac nonce (nonceCtr nonce + pre.length / 16) s wf
  have ltbl := hmacEntries_length h mac (Spec.macCount s) (Spec.cmdsLen s.cmds / 16 / Spec.macCount s * 16) ec
  have hcm := (checkMacs_iff h _ _ _ _ ec ltbl).2 rfl
  generalize hmacEntries c mac (Spec.macCount s) (Spec.cmdsLen s.cmds / 16 / Spec.macCount s * 16) ec = tbl at *
  have hlen : Spec.cmdsLen s.cmds / 16 * 16 = Spec.cmdsLen s.cmds := by omega
  obtain ⟨-, F2, F3, F6, F7⟩ := section_slices (pre := pre) (post := post) leh (hmacSha_length h mac eh) ltbl lec
  have F5 := decodeHdr_encodeHdr (sectionHdr s) (sectionHdr_inRange s wf) []
  rw [List.append_nil, ← hx] at F5
  have hb : Spec.cmdsLen s.cmds / 16 / Spec.macCount s * 16 * (Spec.macCount s - 1) ≤ Spec.cmdsLen s.cmds := by
    have h1 := Nat.div_mul_le_self (Spec.cmdsLen s.cmds / 16) (Spec.macCount s)
    have h2 := Nat.mul_le_mul_left (Spec.cmdsLen s.cmds / 16 / Spec.macCount s) (Nat.sub_le (Spec.macCount s) 1)
    rw [Nat.mul_right_comm]; omega
  have F8 := checkTable_eq_checkMacs (c := c) mac (pre ++ (eh ++ hmac c .sha256 mac eh ++ tbl ++ ec) ++ post) _ _ _
    (pre.length + 48 + 32 * Spec.macCount s) tbl hb
  rw [F7, hcm] at F8
  have F10 := parseCmds_cmdsData s.cmds wf.2.2.1 ((cmdsData s.cmds).length + 1)
    (by rw [(cmdsData_length s.cmds).1]; have := cmds_length_le s.cmds; omega)
  rw [hS, Parse.parseSection]
  simp only [F2, F3, F5, sectionHdr, F6, hlen, F7, F8, lec, show (Spec.cmdsLen s.cmds + 15) / 16 = Spec.cmdsLen s.cmds / 16 by omega,
    show nonceCtr nonce + pre.length / 16 + 1 + (Spec.macCount s + 1) * 2
      = nonceCtr nonce + pre.length / 16 + (1 + (Spec.macCount s + 1) * 2) by omega, hd, F10]
  rw [if_neg (fun hne => hne rfl), if_neg (by omega), if_neg (by decide), Parse.parsedSection, e1,
    show Spec.sectionLen s / 16 = 1 + (Spec.macCount s + 1) * 2 + Spec.cmdsLen s.cmds / 16 by unfold Spec.sectionLen; omega,
    Nat.add_assoc (nonceCtr nonce + pre.length / 16)]

theorem decodeImageHdr_encode (h : ImageHdr) (ok : HdrOk h) (hpv : Parse.bcdVersionOk h.productVersion)
    (hcv : Parse.bcdVersionOk h.componentVersion) :
    Parse.decodeImageHdr (encodeImageHdr h) = .ok h.toRom := by
  obtain ⟨d1, d2, d3, d4, d5, d6, d7, d8, d9, d10, d11, d12, d13⟩ := ok.decodes
  obtain ⟨p0, p1, p2⟩ := ok.productVersion
  obtain ⟨c0, c1, c2⟩ := ok.componentVersion
  obtain ⟨b0, b1, b2⟩ := hpv
  obtain ⟨e0, e1, e2⟩ := hcv
  rw [Parse.decodeImageHdr, if_neg (by rw [encodeImageHdr_length h ok.nonce ok.padding]; decide), ← List.append_nil (encodeImageHdr h),
    encodeImageHdr_eq, show Sb2Consts.imageHeaderFmt.map (·.2) = Spec.imageHeaderWidths by decide,
    splitW_flatten _ _ (hdrPieces_widths h ok.nonce ok.padding)]
  simp only [hdrPieces]
  rw [if_neg (fun hne => hne rfl), if_neg (fun hne => hne rfl),
    swap16_leDec_leEnc _ p0, swap16_leDec_leEnc _ p1, swap16_leDec_leEnc _ p2,
    swap16_leDec_leEnc _ c0, swap16_leDec_leEnc _ c1, swap16_leDec_leEnc _ c2,
    if_neg (by rw [b0, b1, b2, e0, e1, e2]; decide),
    leDec_single, leDec_single, d1, d2, d3, d4, d5, d6, d7, d8, d9, d10, d11, d12, d13]
  rfl

/-- `key_blob[:-8]` of the 80 bytes at 128 is the 72-byte wrapped key the ROM reads -/
theorem keyBlob_slice (data : Bytes) (hl : 208 ≤ data.length) :
    (Rom.slice data 128 80).take ((Rom.slice data 128 80).length - 8) = Rom.slice data 128 72 := by
  have : (Rom.slice data 128 80).length = 80 := by rw [Rom.slice, List.length_take, List.length_drop]; omega
  rw [this, Rom.slice, Rom.slice, List.take_take]; rfl

theorem unwrapKeys_ok (h : CryptoLaws c) (kek dek mac data : Bytes) (hk : Parse.kekLenOk kek = true)
    (hl : 208 ≤ data.length) (hs : Rom.slice data 128 72 = kwWrap c kek (dek ++ mac))
    (ld : dek.length = 32) (lm : mac.length = 32) :
    Parse.unwrapKeys c kek data = .ok (dek, mac) := by
  have hne : kek.isEmpty = false := by
    cases kek with
    | nil => exact absurd hk (by decide)
    | cons _ _ => rfl
  have l64 : (dek ++ mac).length = 64 := by rw [List.length_append, ld, lm]
  rw [Parse.unwrapKeys, if_neg (by rw [hne]; decide), if_neg (by rw [hk]; decide)]
  simp only [Sb2Consts.imageHeaderFmtSize, Sb2Consts.v21HeaderMacSize, Sb2Consts.v21KeyBlobSize, Nat.reduceAdd]
  rw [keyBlob_slice data hl, hs, Crypto.kw_inv h _ _ (by rw [l64]) (by rw [l64]; decide)]
  simp only []
  rw [List.take_left' ld, List.drop_left' ld]

theorem unwrapKeys_wrong (kek kek' dek mac data : Bytes)
    (hl : 208 ≤ data.length) (hs : Rom.slice data 128 72 = kwWrap c kek (dek ++ mac)) (hk : kek' ≠ kek) :
    (∃ e, Parse.unwrapKeys c kek' data = .error e) ∨ Break c := by
  cases hu : kwUnwrap c kek' (kwWrap c kek (dek ++ mac)) with
  | some k => exact Or.inr (Break.wrapForgery kek kek' _ (Ne.symm hk) (by rw [hu]; rfl))
  | none =>
    left
    unfold Parse.unwrapKeys
    by_cases he : kek'.isEmpty = true
    · exact ⟨_, if_pos he⟩
    · rw [if_neg he]
      by_cases hk' : (!Parse.kekLenOk kek') = true
      · exact ⟨_, if_pos hk'⟩
      · rw [if_neg hk']
        simp only [Sb2Consts.imageHeaderFmtSize, Sb2Consts.v21HeaderMacSize, Sb2Consts.v21KeyBlobSize, Nat.reduceAdd]
        rw [keyBlob_slice data hl, hs, hu]
        exact ⟨_, rfl⟩

theorem parseSections21_buildSections (h : CryptoLaws c) (dek mac nonce post : Bytes) (ss : List Section)
    (wf : ∀ s ∈ ss, Spec.WFsection s) (pre : Bytes) (hpre : pre.length % 16 = 0) (fuel : Nat) (hf : ss.length < fuel)
    (first : Bool) (hfirst : first = true → ss ≠ []) :
    Parse.parseSections21 c dek mac nonce
        (pre ++ buildSections c dek mac nonce (nonceCtr nonce + pre.length / 16) ss ++ post)
        (pre.length + Spec.sectionsLen ss) fuel first pre.length (nonceCtr nonce + pre.length / 16)
      = .ok (ss.map Parse.parsedSection) := by
  induction ss generalizing pre fuel first with
  | nil =>
    cases fuel with
    | zero => exact absurd hf (Nat.not_lt_zero _)
    | succ f =>
      cases first
      · rw [Parse.parseSections21, if_pos (by show (!false && decide (_ ≥ _)) = true; simp [Spec.sectionsLen])]; rfl
      · exact absurd rfl (hfirst rfl)
  | cons s rest ih =>
    have wfs := wf s List.mem_cons_self
    have ⟨_, r2, r3⟩ := rawSize_eq_sectionLen s wfs
    have p1 := (parsedSection_facts s wfs).1
    obtain ⟨hl, hB⟩ := buildSections_cons h dek mac nonce pre s rest wfs
    cases fuel with
    | zero => exact absurd hf (Nat.not_lt_zero _)
    | succ f =>
      have hps := parseSection_buildSection h dek mac nonce pre (buildSections c dek mac nonce
        (nonceCtr nonce + (pre ++ buildSection c dek mac nonce (nonceCtr nonce + pre.length / 16) s).length / 16) rest ++ post)
        s wfs
      have hih := ih (fun x hx => wf x (List.mem_cons_of_mem _ hx))
        (pre ++ buildSection c dek mac nonce (nonceCtr nonce + pre.length / 16) s) (by rw [hl]; omega) f
        (Nat.lt_of_succ_lt_succ hf) false (fun hc => absurd hc (by decide))
      rw [hB, ← List.append_assoc pre, List.append_assoc _ _ post, sectionsLen_cons, Parse.parseSections21,
        if_neg (by simp; omega), hps]
      simp only []
      rw [← List.append_assoc, p1, ← Nat.add_assoc pre.length, ← hl,
        show nonceCtr nonce + pre.length / 16 + Spec.sectionLen s / 16 = nonceCtr nonce + (pre.length + Spec.sectionLen s) / 16 by omega,
        ← hl, hih]
      rfl

theorem parseSections20_buildSections (h : CryptoLaws c) (dek mac nonce post : Bytes) (ss : List Section)
    (wf : ∀ s ∈ ss, Spec.WFsection s) (pre : Bytes) (hpre : pre.length % 16 = 0) (fuel : Nat) (hf : ss.length < fuel)
    (seen : List Nat) (hseen : ∀ s ∈ ss, s.uid ∉ seen) (hu : (ss.map (·.uid)).Nodup) :
    Parse.parseSections20 c dek mac nonce
        (pre ++ buildSections c dek mac nonce (nonceCtr nonce + pre.length / 16) ss ++ post)
        (pre.length + Spec.sectionsLen ss) fuel seen pre.length (nonceCtr nonce + pre.length / 16)
      = .ok (ss.map Parse.parsedSection) := by
  induction ss generalizing pre fuel seen with
  | nil =>
    cases fuel with
    | zero => exact absurd hf (Nat.not_lt_zero _)
    | succ f => rw [Parse.parseSections20, if_pos (by simp [Spec.sectionsLen])]; rfl
  | cons s rest ih =>
    have wfs := wf s List.mem_cons_self
    have ⟨_, r2, r3⟩ := rawSize_eq_sectionLen s wfs
    have ⟨p1, _, p3⟩ := parsedSection_facts s wfs
    obtain ⟨hl, hB⟩ := buildSections_cons h dek mac nonce pre s rest wfs
    have hu' : s.uid ∉ rest.map (·.uid) ∧ (rest.map (·.uid)).Nodup := List.nodup_cons.1 hu
    cases fuel with
    | zero => exact absurd hf (Nat.not_lt_zero _)
    | succ f =>
      have hps := parseSection_buildSection h dek mac nonce pre (buildSections c dek mac nonce
        (nonceCtr nonce + (pre ++ buildSection c dek mac nonce (nonceCtr nonce + pre.length / 16) s).length / 16) rest ++ post)
        s wfs
      have hih := ih (fun x hx => wf x (List.mem_cons_of_mem _ hx))
        (pre ++ buildSection c dek mac nonce (nonceCtr nonce + pre.length / 16) s) (by rw [hl]; omega) f
        (Nat.lt_of_succ_lt_succ hf) (s.uid :: seen) (fun x hx hm => (List.mem_cons.1 hm).elim
          (fun e => hu'.1 (List.mem_map.2 ⟨x, hx, e⟩)) (hseen x (List.mem_cons_of_mem _ hx))) hu'.2
      rw [hB, ← List.append_assoc pre, List.append_assoc _ _ post, sectionsLen_cons, Parse.parseSections20,
        if_neg (by omega), hps]
      simp only []
      rw [if_neg (by rw [p3]; exact hseen s List.mem_cons_self), ← List.append_assoc, p1, p3, ← Nat.add_assoc pre.length, ← hl,
        show nonceCtr nonce + pre.length / 16 + Spec.sectionLen s / 16 = nonceCtr nonce + (pre.length + Spec.sectionLen s) / 16 by omega,
        ← hl, hih]
      rfl

end SpsdkVerif.Sb2
