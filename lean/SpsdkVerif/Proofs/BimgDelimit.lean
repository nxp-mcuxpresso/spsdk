/-
C14 proofs, part 3: the `Delimit` assumption of the parse theorems DISCHARGED for application containers from the
finished container models (instead of assumed); here the external parsers and that they accept what the container models
export, in Properties/C14.lean the `*_delimits` theorems:

  * MBI  - `SegmentMbi.parse_binary` = `MasterBootImage.parse` (class selection, parse pipeline) + `validate()`, raw block :=
           whole rest.  From C01 `parse_export` (the pipeline accepts what `exportImage` emitted) and `reexport` (the parsed
           configuration exports again, hence validates).  The class selection by image type has no theorem in C01; it is the
           explicit hypothesis `hsel` (`Mbi.selectClass … e = some c`).
  * HAB  - `SegmentHab.parse_binary` = `HabContainer.parse`, raw block := whole rest.  From the C07 round trips, composed in
           Properties/C14.lean: `hab_roundtrip_signed` (signed / encrypted: full strength) and `hab_roundtrip_unsigned`
           (under the decidable `AppVisible`: the application-offset heuristic finds the application, known finding of C07).

AHAB, SB2.1 and SB3.1: see the note at the end of the file (the foreign models have no model of `AHABImage.parse` /
`__len__` after parse, `ImageHeaderV2.parse`, `SecureBinary31Header.parse`+`validate`).
-/
import SpsdkVerif.Properties.C01
import SpsdkVerif.Properties.C07
import SpsdkVerif.Proofs.Sb31
import SpsdkVerif.Proofs.BimgParse

namespace SpsdkVerif.Bimg
open SpsdkVerif SpsdkVerif.Misc
open SpsdkVerif.Crypto (CryptoOps CryptoLaws)

/-- the external part of `SegmentMbi.parse_binary` on the C01 model: `MasterBootImage.parse(family, data)` - class selection
    among the family's classes (`fixedType` = the database's `fixed_image_type`, -1 = read from the IVT flags), parse pipeline -
    then `mbi.validate()`; the container object stands for all the bytes it was given -/
def mbiApp (co : CryptoOps) (env : Mbi.Env) (fixedType : Int) (family : List Mbi.Cls) (dek : Option Bytes)
    (data : Bytes) : Option Nat :=
  match Mbi.selectClass fixedType family data with
  | none => none
  | some c =>
    match Mbi.parseImage co env c dek data with
    | .error _ => none
    | .ok p =>
      match Mbi.validate c p.toCfg with
      | .ok _ => some data.length
      | .error _ => none

theorem bimgD_validate_of_export (co : CryptoOps) (c : Mbi.Cls) (cfg : Mbi.Cfg) (signer : Mbi.Signer) (e : Bytes)
    (h : Mbi.exportImage co c cfg signer = .ok e) : Mbi.validate c cfg = .ok () := by
  unfold Mbi.exportImage at h
  cases hv : Mbi.validate c cfg with
  | ok u => rfl
  | error err =>
    rw [hv] at h
    simp [bind, Except.bind] at h

/-- the MBI parser of the bootable image accepts every image the MBI exporter emits (any well-formed class and option set) -/
theorem mbi_accepts' {co : CryptoOps} {env : Mbi.Env} {c : Mbi.Cls} {cfg : Mbi.Cfg} {signer : Mbi.Signer}
    (h : Mbi.Hyp co env c cfg signer) (fixedType : Int) (family : List Mbi.Cls) (dek : Option Bytes)
    (hdek : c.has .Mbi_MixinHmac = true → dek = cfg.hmacKey) (hdek' : c.family = some .encrypted → dek = cfg.hmacKey)
    (e : Bytes) (he : Mbi.exportImage co c cfg signer = .ok e)
    (hsel : Mbi.selectClass fixedType family e = some c) :
    mbiApp co env fixedType family dek e = some e.length := by
  obtain ⟨e1, he1, hp⟩ := SpsdkVerif.Properties.C01.parse_export h dek hdek'
  obtain ⟨e2, e', he2, he', _⟩ := SpsdkVerif.Properties.C01.reexport h signer h.hsig dek hdek
  have h1 : e1 = e := by rw [he] at he1; injection he1 with h'; exact h'.symm
  subst h1
  have hv := bimgD_validate_of_export co c _ signer e' he'
  unfold mbiApp
  rw [hsel]
  simp only []
  rw [hp]
  simp only []
  rw [hv]

/-- the external part of `SegmentHab.parse_binary`: `HabContainer.parse(data)` -/
def habApp (data : Bytes) : Option Nat :=
  match Hab.parse data with
  | .ok _ => some data.length
  | .error _ => none

/-- the external part of `SegmentSB31.parse_binary`: `SecureBinary31.validate_header(data)`.  C05 has no model of the Python
    `SecureBinary31Header.parse` + `validate()`; this is the header reader of its ROM model (same 60-byte layout: magic, version
    3.1, eight integer fields, description) -/
def sb31App (data : Bytes) : Option Nat :=
  match Sb31.Rom.parseHeader data with
  | .ok _ => some data.length
  | .error _ => none

/-- every file that begins with an encoded SB3.1 header whose fields fit is accepted, whatever follows -/
theorem sb31_accepts' (h : Sb31.Header) (wf : Sb31.Spec.HeaderWF h) (body : Bytes) :
    sb31App (Sb31.encHeader h ++ body) = some (Sb31.encHeader h ++ body).length := by
  unfold sb31App
  rw [Sb31.parseHeader_enc h wf body]

/-!
### not discharged - what is missing in the foreign models

* AHAB (`Model/Ahab.lean`, C06): the model has `Image.export`, `imageLength`, `decodeHeader`/`decodeIaes` and a ROM walk
  (`rom_accepts`), but no model of `AHABImage.parse` over a whole image (the loop over container offsets) nor of `__len__`
  of the parsed object.  `Delimit` needs: `parse (bin ++ rest) = ok img'` with `length img' = bin.length` for
  `bin = Image.export …`, and `find_offset_of_ahab (bin ++ rest) = 0` (container head at offset 0).
* SB2.1 (`Model/Sb2.lean`, C04): `ImageHeaderV2.parse` is not modelled as a function on bytes (the ROM model `Rom` reads
  the header fields it needs); needed: `headerParse (file) = ok _` for `file = export cfg`.
* SB3.1 (`Model/Sb31.lean`, C05): discharged above against the ROM model's header reader only; a model of the Python
  `SecureBinary31Header.parse` + `validate()` (and `(exportSb …).2 = encHeader _ ++ _` as a standalone lemma) is missing.
For AHAB and SB2.1 `Delimit` stays an assumption validated by running the real parsers on every generated container.
-/

end SpsdkVerif.Bimg
