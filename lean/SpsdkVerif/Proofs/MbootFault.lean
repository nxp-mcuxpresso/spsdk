/-
Fault-side lemmas for C10: a damaged frame is refused, status codes are mirrored, an unacknowledged data packet never
yields `True`, NAK / ABORT in place of an ACK raise.  The vocabulary of a link that stays silent (`Starved`, `talks`) is
defined here; the theorems about it (`silent_link_never_succeeds`, `sendData_starved`, `readData_starved`) are proved at
the end of Proofs/MbootTrunc.lean, from the simulation lemmas of that file.
-/
import SpsdkVerif.Model.Mboot
import SpsdkVerif.Proofs.Mboot

namespace SpsdkVerif.Mboot.Fault
open SpsdkVerif SpsdkVerif.Mboot SpsdkVerif.Mboot.H

@[simp] theorem pure_run {α} (a : α) (s : Host) : (pure a : H α) s = (.ok a, s) := rfl
@[simp] theorem bind_run {α β} (m : H α) (f : α → H β) (s : Host) :
    (m >>= f) s = match m s with
      | (.ok a, s') => f a s'
      | (.error e, s') => (.error e, s') := rfl
@[simp] theorem fail_run {α} (e : HErr) (s : Host) : (fail e : H α) s = (.error e, s) := rfl
@[simp] theorem catch_run {α} (m : H α) (hd : HErr → H α) (s : Host) :
    catch_ m hd s = match m s with
      | (.ok a, s') => (.ok a, s')
      | (.error e, s') => hd e s' := rfl
@[simp] theorem get_run (s : Host) : H.get s = (.ok s, s) := rfl
@[simp] theorem modify_run (f : Host → Host) (s : Host) : H.modify f s = (.ok (), f s) := rfl
@[simp] theorem lift_run {α} (x : Except HErr α) (s : Host) : H.lift x s = (x, s) := rfl
@[simp] theorem setStatus_run (st : Nat) (s : Host) : setStatus st s = (.ok (), { s with status := st }) := rfl
@[simp] theorem devWrite_run (w : Bytes) (s : Host) : devWrite w s = (.ok (), s.write w) := rfl

theorem writeMemory_eq (a : Nat) (d : Bytes) (m : Nat) :
    writeMemory a d m = dataOutCmd Spec.cWriteMemory [a, d.length, clampMemId m] d := rfl

theorem readMemory_eq (a n m : Nat) (fast : Bool) :
    readMemory a n m fast = (do
      let h ← get
      if h.cfg.usb ∧ ¬ fast then do
        let payload ← getMaxPacketSize
        if payload = 0 then fail .other
        else do
          let packets := n / payload + (if n % payload ≠ 0 then 1 else 0)
          let d ← readChunks a (clampMemId m) payload (n % payload) packets packets []
          pure (.bytes d)
      else dataInCmd Spec.cReadMemory [a, n, clampMemId m] .readMemory) := rfl

theorem flashProgramOnce_eq (i : Nat) (d : Bytes) :
    flashProgramOnce i d =
      if d.length ≠ 4 ∧ d.length ≠ 8 then fail .spsdk else simpleCmd Spec.cFlashProgramOnce ([i, d.length] ++ wordsOf d) := rfl

/-- one turn of the `while True` loop of `_read_data` -/
def rdStep : H (Option RxItem) :=
  catch_ (do let x ← readAny; pure (some x))
    (fun e =>
      if e = .abort then (do let x ← readAny; pure (some x))
      else if e = .timeout then (do setStatus Spec.stNoResponse; pure none)
      else fail e)

theorem readDataLoop_succ (cmdTag f : Nat) (acc : Bytes) :
    readDataLoop cmdTag (f + 1) acc = (do
      let r ← rdStep
      match r with
      | none => pure acc
      | some (.data b) => readDataLoop cmdTag f (acc ++ b)
      | some (.resp r) =>
        if r.kind = .generic then do
          setStatus r.status
          if r.cmdTag = cmdTag then pure acc else readDataLoop cmdTag f acc
        else readDataLoop cmdTag f acc) := rfl

def rawFrame (t len crc : Nat) (p : Bytes) : Bytes :=
  [UInt8.ofNat Spec.startByte, UInt8.ofNat t] ++ le 2 len ++ le 2 crc ++ p

theorem mkFrame_eq_raw (t : Nat) (p : Bytes) : mkFrame t p = rawFrame t p.length (frameCrc t p) p := rfl

theorem parseFrame_raw (t crc : Nat) (p rest : Bytes) (ht : t < 256) (hp : p.length < 65536) (hc : crc < 65536) :
    parseFrame (rawFrame t p.length crc p ++ rest) =
      if crc = frameCrc t p then .ok (t, p, rest) else .error .badCrc := by
  have h1 : fromLe (le 2 p.length) = p.length := fromLe_le_of_lt 2 _ (by simpa using hp)
  have h2 : fromLe (le 2 crc) = crc := fromLe_le_of_lt 2 _ (by simpa using hc)
  rw [le2_cases] at h1 h2
  simp only [rawFrame, le2_cases, List.cons_append, List.nil_append, parseFrame]
  have e0 : (UInt8.ofNat Spec.startByte).toNat = Spec.startByte := by decide
  have e1 : (UInt8.ofNat t).toNat = t := toNat_ofNat8_lt ht
  simp only [e0, e1, h1, h2, ne_eq, not_true_eq_false, if_false, List.length_append]
  simp
  omega

/-- one byte of the type, CRC or payload region of `mkFrame t p` was changed (the CRC case even allows
    any other 16-bit value): the received type, CRC field and payload -/
inductive Corrupted (t : Nat) (p : Bytes) : Nat → Nat → Bytes → Prop
  | type (t' : Nat) : t' < 256 → t' ≠ t → Corrupted t p t' (frameCrc t p) p
  | crc (c' : Nat) : c' < 65536 → c' ≠ frameCrc t p → Corrupted t p t c' p
  | payload (pre suf : Bytes) (x y : UInt8) : p = pre ++ x :: suf → x ≠ y →
      Corrupted t p t (frameCrc t p) (pre ++ y :: suf)

theorem ofNat8_ne {a b : Nat} (ha : a < 256) (hb : b < 256) (h : a ≠ b) : UInt8.ofNat a ≠ UInt8.ofNat b := by
  intro e
  have := congrArg UInt8.toNat e
  rw [toNat_ofNat8_lt ha, toNat_ofNat8_lt hb] at this
  exact h this

theorem corrupted_facts {t : Nat} {p : Bytes} {t' c' : Nat} {p' : Bytes} (ht : t < 256)
    (h : Corrupted t p t' c' p') :
    c' ≠ frameCrc t' p' ∧ p'.length = p.length ∧ t' < 256 ∧ c' < 65536 := by
  cases h with
  | type t' h1 h2 =>
    refine ⟨?_, rfl, h1, crc16_lt _⟩
    have := crc16_single_byte_ne [UInt8.ofNat Spec.startByte] (le 2 p.length ++ p) (UInt8.ofNat t) (UInt8.ofNat t')
      (ofNat8_ne ht h1 (Ne.symm h2))
    simpa [frameCrc, crcInput] using this
  | crc c' h1 h2 => exact ⟨h2, rfl, ht, h1⟩
  | payload pre suf x y hp hxy =>
    subst hp
    refine ⟨?_, by simp, ht, crc16_lt _⟩
    have := crc16_single_byte_ne ([UInt8.ofNat Spec.startByte, UInt8.ofNat t] ++ le 2 (pre ++ x :: suf).length ++ pre) suf x y hxy
    have hl : (pre ++ y :: suf).length = (pre ++ x :: suf).length := by simp
    simpa [frameCrc, crcInput, hl] using this

theorem devRead_of_le (n : Nat) (h : Host) (hn : n ≠ 0) (hle : n ≤ h.rxB.length) :
    devRead n h = (.ok (h.rxB.take n), { h with reads := h.reads + 1, rxB := h.rxB.drop n }) := by
  unfold devRead
  have : h.rxB.isEmpty = false :=
    List.isEmpty_eq_false_iff.mpr fun e => by rw [e] at hle; exact hn (Nat.le_zero.mp hle)
  simp only [hn, this, false_or, Bool.false_eq_true, if_false, hle, if_true]

theorem devRead_append (h : Host) (a r : Bytes) (ha : a ≠ []) (hrx : h.rxB = a ++ r) :
    devRead a.length h = (.ok a, { h with reads := h.reads + 1, rxB := r }) := by
  rw [devRead_of_le a.length h (fun e => ha (List.length_eq_zero_iff.mp e)) (by rw [hrx, List.length_append]; omega), hrx,
    List.take_left, List.drop_left]

theorem waitForData_nonzero (h : Host) (b : UInt8) (r : Bytes) (hb : b.toNat ≠ 0) (hrx : h.rxB = b :: r) :
    waitForData h = (.ok b.toNat, { h with reads := h.reads + 1, rxB := r }) := by
  unfold waitForData
  rw [waitGo]
  have e := devRead_append h [b] r (by simp) (by simpa using hrx)
  simp only [List.length_cons, List.length_nil, Nat.zero_add] at e
  have hv : fromLe [b] = b.toNat := by simp [fromLe]
  have hv0 : fromLe [b] ≠ 0 := by rw [hv]; exact hb
  simp only [bind_run, e]
  rw [if_neg hv0, hv]
  rfl

/-- the header of a frame that begins with the start byte: after two reads, what is left of `_read_frame_header` looks at
    the type byte only (ABORT raises, and so does a type other than the expected one) -/
theorem readFrameHeader_start (e : Option Nat) (h : Host) (t : UInt8) (r : Bytes)
    (hrx : h.rxB = UInt8.ofNat Spec.startByte :: t :: r) :
    readFrameHeader e h =
      (if t.toNat = Spec.fAbort then fail .abort
        else match e with
          | some x =>
            let ft := if t.toNat = Spec.startByte then Spec.startByte else t.toNat
            if ft ≠ x then fail .conn else pure (Spec.startByte, ft)
          | none => pure (Spec.startByte, t.toNat) : H (Nat × Nat))
        { h with reads := h.reads + 1 + 1, rxB := r } := by
  unfold readFrameHeader
  have e0 := waitForData_nonzero h (UInt8.ofNat Spec.startByte) (t :: r) (by decide) hrx
  have e1 := devRead_append { h with reads := h.reads + 1, rxB := t :: r } [t] r (by simp) rfl
  simp only [List.length_cons, List.length_nil, Nat.zero_add] at e1
  have s0 : (UInt8.ofNat Spec.startByte).toNat = Spec.startByte := by decide
  have c1 : ¬ (Spec.startByte ≠ Spec.startByte ∧ Spec.startByte ≠ Spec.fAck) := by decide
  have c2 : ¬ (Spec.startByte = Spec.fAck) := by decide
  simp only [bind_run, e0, s0, c1, c2, if_false, e1, pure_run, fromLe, Nat.mul_zero, Nat.add_zero]
  rfl

theorem readFrameHeader_none (h : Host) (t : UInt8) (r : Bytes) (hrx : h.rxB = UInt8.ofNat Spec.startByte :: t :: r) :
    readFrameHeader none h =
      if t.toNat = Spec.fAbort then (.error .abort, { h with reads := h.reads + 1 + 1, rxB := r })
      else (.ok (Spec.startByte, t.toNat), { h with reads := h.reads + 1 + 1, rxB := r }) := by
  rw [readFrameHeader_start none h t r hrx]
  split <;> rfl

/-- `MbootSerialProtocol.read()` never returns a frame whose CRC field does not match:
    it raises McuBootConnectionError (or McuBootDataAbortError for an ABORT type / zero length). -/
theorem serialRead_rejects (h : Host) (t c : Nat) (p rest : Bytes) (ht : t < 256) (hp : p.length < 65536)
    (hc : c < 65536) (hrx : h.rxB = rawFrame t p.length c p ++ rest) (hbad : c ≠ frameCrc t p) :
    (serialRead h).1 = .error .conn ∨ (serialRead h).1 = .error .abort := by
  have e1 : (UInt8.ofNat t).toNat = t := toNat_ofNat8_lt ht
  have hrx' : h.rxB = UInt8.ofNat Spec.startByte :: UInt8.ofNat t :: (le 2 p.length ++ (le 2 c ++ (p ++ rest))) := by
    rw [hrx]; simp [rawFrame]
  have hh := readFrameHeader_none h (UInt8.ofNat t) _ hrx'
  unfold serialRead
  simp only [bind_run, hh, e1]
  by_cases hab : t = Spec.fAbort
  · right; simp [hab]
  · simp only [hab, if_false]
    have r1 := devRead_append { h with reads := h.reads + 1 + 1, rxB := le 2 p.length ++ (le 2 c ++ (p ++ rest)) } (le 2 p.length) _
      (by simp [le]) rfl
    have r2 := devRead_append { h with reads := h.reads + 1 + 1 + 1, rxB := le 2 c ++ (p ++ rest) } (le 2 c) _ (by simp [le]) rfl
    simp only [le_length] at r1 r2
    have l1 : fromLe (le 2 p.length) = p.length := fromLe_le_of_lt 2 _ (by simpa using hp)
    have l2 : fromLe (le 2 c) = c := fromLe_le_of_lt 2 _ (by simpa using hc)
    simp only [r1, r2, l1, l2]
    by_cases hz : p.length = 0
    · right; simp [hz, sendAck]
    · have r3 := devRead_append { h with reads := h.reads + 1 + 1 + 1 + 1, rxB := p ++ rest } p rest
        (by intro e; exact hz (by simp [e])) rfl
      left
      simp only [hz, if_false, bind_run, r3, sendAck, devWrite_run]
      rw [if_pos hbad]
      rfl

def Peer.silent : Peer → Prop
  | .none => True
  | .script cs => ∀ c ∈ cs, ∀ r ∈ c, r = []
  | .live _ => False

/-- nothing to read now and nothing will ever arrive -/
structure Starved (h : Host) : Prop where
  rxB : h.rxB = []
  rxR : ∀ r ∈ h.rxR, r = []
  peer : Peer.silent h.peer

/-- operations whose success depends on an answer of the device: not `open` over HID, not a zero-length chunked read,
    not `load_image` over HID (neither ACK nor response is expected there) or of nothing, and not `reset`
    (a missing response to reset is ignored by design) -/
def talks (cfg : Cfg) : Op → Prop
  | .open_ => cfg.tr = .serial
  | .readMemory _ n _ fast => ¬ (cfg.usb = true ∧ fast = false ∧ n = 0)
  | .loadImage d => cfg.tr = .serial ∧ d ≠ []
  | .reset _ => False
  | _ => True

/-- equal up to the link state and the status code -/
def SameButStatus (h h' : Host) : Prop :=
  h'.cfg = h.cfg ∧ h'.mps = h.mps ∧ h'.eda = h.eda ∧ h'.opened = h.opened

theorem SameButStatus.refl (h : Host) : SameButStatus h h := ⟨rfl, rfl, rfl, rfl⟩
theorem SameButStatus.trans {a b c : Host} (h1 : SameButStatus a b) (h2 : SameButStatus b c) : SameButStatus a c := by
  obtain ⟨a1, a2, a3, a4⟩ := h1
  obtain ⟨b1, b2, b3, b4⟩ := h2
  exact ⟨b1.trans a1, b2.trans a2, b3.trans a3, b4.trans a4⟩

theorem not_succeeded_error (e : HErr) (h : Host) : ¬ succeeded (.error e) h := by
  rintro ⟨_, v, hv, _⟩; cases hv
theorem not_succeeded_false (h : Host) : ¬ succeeded (.ok (.bool false)) h := by
  rintro ⟨_, v, hv, _, h3⟩; cases hv; exact h3 rfl
theorem not_succeeded_none (h : Host) : ¬ succeeded (.ok .none) h := by
  rintro ⟨_, v, hv, h2, _⟩; cases hv; exact h2 rfl
theorem not_succeeded_status (r : Except HErr Val) (h : Host) (hst : h.status ≠ Spec.stSuccess) : ¬ succeeded r h := by
  rintro ⟨h1, _⟩; exact hst h1

/-- `_process_cmd` returns a response only after storing its status; with `cmd_exception` only SUCCESS is returned -/
theorem processCmd_ok (h h' : Host) (p : CmdPkt) (r : Resp) (hr : processCmd p h = (.ok r, h')) :
    h'.status = r.status ∧ (h'.cfg.cmdExc = true → r.status = Spec.stSuccess) := by
  unfold processCmd at hr
  simp only [bind_run, requireOpen, get_run] at hr
  by_cases ho : h.opened = true
  · simp only [ho, if_true, pure_run] at hr
    rcases hc : (catch_ (do writeCommand p; readAny) (fun e =>
        if e = .timeout then do setStatus Spec.stNoResponse; pure (.resp (noResponse p.tag)) else fail e)) h with ⟨x, h1⟩
    rw [hc] at hr
    cases x with
    | error e => simp at hr
    | ok it =>
      cases it with
      | data b => simp at hr
      | resp r1 =>
        simp only [bind_run, setStatus_run, get_run] at hr
        by_cases hce : h1.cfg.cmdExc = true ∧ r1.status ≠ Spec.stSuccess
        · rw [if_pos hce] at hr; simp at hr
        · rw [if_neg hce] at hr
          simp only [pure_run, Prod.mk.injEq, Except.ok.injEq] at hr
          obtain ⟨rfl, rfl⟩ := hr
          exact ⟨rfl, fun hx => Decidable.of_not_not fun hz => hce ⟨hx, hz⟩⟩
  · simp [ho] at hr

theorem simpleCmd_success (h : Host) (tag : Nat) (ps : List Nat)
    (hs : succeeded (simpleCmd tag ps h).1 (simpleCmd tag ps h).2) :
    ∃ r h', processCmd ⟨tag, 0, ps⟩ h = (.ok r, h') ∧ r.status = Spec.stSuccess ∧ h'.status = Spec.stSuccess := by
  unfold simpleCmd at hs
  simp only [bind_run] at hs
  rcases hp : processCmd ⟨tag, 0, ps⟩ h with ⟨x, h1⟩
  rw [hp] at hs
  cases x with
  | error e => exact absurd hs (not_succeeded_error _ _)
  | ok r =>
    simp only [pure_run] at hs
    obtain ⟨h2, v, hv, _, h4⟩ := hs
    simp only [Except.ok.injEq] at hv
    subst hv
    have hz : r.status = Spec.stSuccess := by
      by_cases hz : r.status = Spec.stSuccess
      · exact hz
      · simp [hz] at h4
    exact ⟨r, h1, rfl, hz, h2⟩

theorem simpleCmd_error_status (h h' : Host) (tag : Nat) (ps : List Nat) (r : Resp)
    (hp : processCmd ⟨tag, 0, ps⟩ h = (.ok r, h')) (hst : r.status ≠ Spec.stSuccess) :
    simpleCmd tag ps h = (.ok (.bool false), h') ∧ h'.status = r.status := by
  refine ⟨?_, (processCmd_ok h h' _ r hp).1⟩
  unfold simpleCmd
  simp only [bind_run, hp, pure_run]
  simp [hst]

/-- `_read_data` (with fix C10-2): data returned together with status SUCCESS is complete -/
theorem readData_success_complete (h h' : Host) (tag n : Nat) (d : Bytes)
    (hr : readData tag n h = (.ok d, h')) (hst : h'.status = Spec.stSuccess) : d.length = n := by
  unfold readData at hr
  simp only [bind_run, requireOpen, get_run] at hr
  by_cases ho : h.opened = true
  · simp only [ho, if_true, pure_run] at hr
    rcases hl : readDataLoop tag (n + h.fuelHint + h.rxB.length + h.rxR.length + 8) [] h with ⟨x, h1⟩
    rw [hl] at hr
    cases x with
    | error e => simp at hr
    | ok data =>
      dsimp only at hr
      by_cases hc : data.length < n ∨ h1.status ≠ Spec.stSuccess
      · rw [if_pos hc] at hr
        by_cases hz : h1.status = Spec.stSuccess
        · simp only [bind_run, hz, if_true, setStatus_run, get_run] at hr
          by_cases hce : h1.cfg.cmdExc = true
          · simp [hce] at hr
          · simp only [hce, Bool.false_eq_true, if_false, pure_run, Prod.mk.injEq, Except.ok.injEq] at hr
            obtain ⟨_, rfl⟩ := hr
            have : Spec.stFail = Spec.stSuccess := hst
            exact absurd this (by decide)
        · simp only [bind_run, hz, if_false, get_run] at hr
          by_cases hce : h1.cfg.cmdExc = true
          · simp [hce] at hr
          · simp only [hce, Bool.false_eq_true, if_false, pure_run, Prod.mk.injEq, Except.ok.injEq] at hr
            obtain ⟨_, rfl⟩ := hr
            exact absurd hst hz
      · rw [if_neg hc] at hr
        simp only [pure_run, Prod.mk.injEq, Except.ok.injEq] at hr
        obtain ⟨rfl, _⟩ := hr
        have : ¬ data.length < n := fun hx => hc (Or.inl hx)
        simp; omega
  · simp [ho] at hr

theorem sendChunks_result (a : Bool) (cs : List Bytes) (s0 : Nat) (h : Host) (hne : ∀ c ∈ cs, c ≠ []) :
    ∃ sent err h', sendChunks a cs s0 h = (.ok (sent, err), h') ∧
      ((err = none ∧ sent = s0 + (cs.map List.length).sum) ∨
       (err ≠ none ∧ sent < s0 + (cs.map List.length).sum)) := by
  induction cs generalizing s0 h with
  | nil => exact ⟨s0, none, h, rfl, Or.inl ⟨rfl, by simp⟩⟩
  | cons c cs ih =>
    unfold sendChunks
    have hc : 0 < c.length := List.length_pos_iff.mpr (hne c (by simp))
    rcases hw : writeData a c h with ⟨x, h1⟩
    cases x with
    | error e =>
      refine ⟨s0, some e, h1, by simp, Or.inr ⟨by simp, ?_⟩⟩
      simp only [List.map_cons, List.sum_cons]; omega
    | ok u =>
      obtain ⟨sent, err, h', e1, e2⟩ := ih (s0 + c.length) h1 (fun q hq => hne q (by simp [hq]))
      refine ⟨sent, err, h', by simp [e1], ?_⟩
      simp only [List.map_cons, List.sum_cons]
      rcases e2 with ⟨e3, e4⟩ | ⟨e3, e4⟩
      · exact Or.inl ⟨e3, by omega⟩
      · exact Or.inr ⟨e3, by omega⟩

theorem sendData_tail (m : H RxItem) (f : RxItem → H Bool) (h1 h' : Host) (ce : Bool) (sent total : Nat)
    (hfd : ∀ b s, f (.data b) s = (.error .other, s))
    (hfr : ∀ r s, f (.resp r) s = (do
                setStatus r.status
                if r.status ≠ Spec.stSuccess then
                  if ce then fail (.cmd r.status) else pure false
                else pure (sent == total) : H Bool) s)
    (hr : (m >>= f) h1 = (.ok true, h')) : sent = total ∧ h'.status = Spec.stSuccess := by
  simp only [bind_run] at hr
  rcases hm : m h1 with ⟨x, s'⟩
  rw [hm] at hr
  cases x with
  | error e => simp at hr
  | ok a =>
    cases a with
    | data b => simp [hfd] at hr
    | resp r =>
      simp only [hfr, bind_run, setStatus_run] at hr
      by_cases hz : r.status ≠ Spec.stSuccess
      · rw [if_pos hz] at hr
        cases ce <;> simp at hr
      · rw [if_neg hz] at hr
        simp only [pure_run, Prod.mk.injEq, Except.ok.injEq, beq_iff_eq] at hr
        obtain ⟨hx1, rfl⟩ := hr
        exact ⟨hx1, by simpa using hz⟩

theorem sendData_true (h h' : Host) (cs : List Bytes) (hne : ∀ c ∈ cs, c ≠ [])
    (hr : sendData cs h = (.ok true, h')) :
    (∃ h1, sendChunks h.eda cs 0 h = (.ok ((cs.map List.length).sum, none), h1)) ∧ h'.status = Spec.stSuccess := by
  unfold sendData at hr
  simp only [bind_run, requireOpen, get_run] at hr
  by_cases ho : h.opened = true
  · simp only [ho, if_true, pure_run] at hr
    obtain ⟨sent, err, h1, e1, e2⟩ := sendChunks_result h.eda cs 0 h hne
    rw [e1] at hr
    simp only at hr
    cases err with
    | none =>
      simp only at hr
      have := sendData_tail _ _ h1 h' h.cfg.cmdExc sent _ (fun _ _ => rfl) (fun _ _ => rfl) hr
      rcases e2 with ⟨_, e4⟩ | ⟨e3, _⟩
      · exact ⟨⟨h1, by rw [e1, e4]; simp⟩, this.2⟩
      · exact absurd rfl e3
    | some e =>
      simp only at hr
      have := sendData_tail _ _ h1 h' h.cfg.cmdExc sent _ (fun _ _ => rfl) (fun _ _ => rfl) hr
      rcases e2 with ⟨e3, _⟩ | ⟨_, e4⟩
      · cases e3
      · omega
  · simp [ho] at hr

/-- `_send_data(NO_COMMAND, …)` (`load_image`) returns `True` only if every data packet was written without any error
    (on the serial link: acknowledged) — a NAK on the last packet yields `False` -/
theorem sendDataNoResp_true (h h' : Host) (cs : List Bytes) (hne : ∀ c ∈ cs, c ≠ [])
    (hr : sendDataNoResp cs h = (.ok true, h')) :
    ∃ h1, sendChunks h.eda cs 0 h = (.ok ((cs.map List.length).sum, none), h1) := by
  unfold sendDataNoResp at hr
  simp only [bind_run, requireOpen, get_run] at hr
  by_cases ho : h.opened = true
  · simp only [ho, if_true, pure_run] at hr
    obtain ⟨sent, err, h1, e1, e2⟩ := sendChunks_result h.eda cs 0 h hne
    rw [e1] at hr
    simp only at hr
    cases err with
    | none =>
      rcases e2 with ⟨_, e4⟩ | ⟨e3, _⟩
      · exact ⟨h1, by rw [e1, e4]; simp⟩
      · exact absurd rfl e3
    | some e =>
      simp only at hr
      rcases e2 with ⟨e3, _⟩ | ⟨_, e4⟩
      · cases e3
      · by_cases ht : e = .timeout
        · simp [ht] at hr
        · by_cases hsp : e.isSpsdk = true
          · simp only [ht, if_false, hsp, if_true, bind_run, setStatus_run, pure_run, Prod.mk.injEq, Except.ok.injEq,
              beq_iff_eq] at hr
            omega
          · simp [ht, hsp] at hr
  · simp [ho] at hr

/-- a frame answered by NAK raises McuBootConnectionError, one answered by ABORT raises McuBootDataAbortError -/
theorem serialSendFrame_nak_abort (h : Host) (t : Nat) (data x : Bytes) (hl : data.length < 65536) :
    ((h.write (mkFrame t data)).rxB = nakFrame ++ x → (serialSendFrame t data h).1 = .error .conn) ∧
    ((h.write (mkFrame t data)).rxB = abortFrame ++ x → (serialSendFrame t data h).1 = .error .abort) := by
  have hl' : ¬ 65536 ≤ data.length := by omega
  unfold serialSendFrame
  simp only [hl', if_false, bind_run, devWrite_run]
  constructor <;> intro hrx
  · rw [readFrameHeader_start _ _ (UInt8.ofNat Spec.fNak) x hrx]; rfl
  · rw [readFrameHeader_start _ _ (UInt8.ofNat Spec.fAbort) x hrx]; rfl

/-- `_process_cmd` swallows a timeout only: any other error of writing the command is raised -/
theorem processCmd_raises (h : Host) (p : CmdPkt) (e : HErr) (ho : h.opened = true) (he : e ≠ .timeout)
    (hw : (writeCommand p h).1 = .error e) : (processCmd p h).1 = .error e := by
  unfold processCmd
  simp only [bind_run, requireOpen, get_run, ho, if_true, pure_run, catch_run]
  generalize writeCommand p h = y at hw
  obtain ⟨r, h2⟩ := y
  cases hw
  simp only [he, if_false, fail_run]

theorem processCmd_nak_abort (h : Host) (p : CmdPkt) (x : Bytes) (hwf : p.WF) (ho : h.opened = true)
    (htr : h.cfg.tr = .serial) :
    ((h.write (mkFrame Spec.fCmd p.encode)).rxB = nakFrame ++ x → (processCmd p h).1 = .error .conn) ∧
    ((h.write (mkFrame Spec.fCmd p.encode)).rxB = abortFrame ++ x → (processCmd p h).1 = .error .abort) := by
  have hlen : p.encode.length < 65536 := by
    rw [encode_length]; have := hwf.count; omega
  have hs := serialSendFrame_nak_abort h Spec.fCmd p.encode x hlen
  have hwc : writeCommand p h = serialSendFrame Spec.fCmd p.encode h := by
    unfold writeCommand
    simp only [bind_run, lift_run, toBytes_ok p hwf, get_run, htr]
  rw [← hwc] at hs
  exact ⟨fun hrx => processCmd_raises h p _ ho (by decide) (hs.1 hrx),
    fun hrx => processCmd_raises h p _ ho (by decide) (hs.2 hrx)⟩

end SpsdkVerif.Mboot.Fault
