/-
C04 helper lemmas, image layer: image header, key blob, V2.1 and V2.0 files through the ROM model.

Each version has ONE theorem about the reader on a file whose section area (V2.1: also header-MAC and SHA-256 field) is left
arbitrary (`romV21_front`, `romV20_front`): it says what is left of the reader behind the front of the file (`tail21`,
`finish20`).  Acceptance of the built file, refusal after a changed byte (Proofs/Sb2Tamper.lean, Properties/C04.lean) and
refusal of a replaced field are read off from it.  At the end: the expected content with every LOAD exactly as given
(`expected21Exact`, `expected20Exact`) is the expected content when all LOAD data is 16-aligned.
-/
import SpsdkVerif.Proofs.Sb2Section

namespace SpsdkVerif.Sb2
open SpsdkVerif SpsdkVerif.Sb2.Rom
open SpsdkVerif.Misc (Bytes beEnc beDec leEnc leDec leEnc_length leDec_leEnc)
open SpsdkVerif.Crypto (CryptoOps CryptoLaws Break xorBytes zeroPad16 zeros hmac kwWrap kwUnwrap)
open SpsdkVerif.Generated

variable {c : CryptoOps}

theorem splitW_append (ws : List Nat) (a b : Bytes) (r : List Bytes) (hr : Rom.splitW ws a = some r) :
    Rom.splitW ws (a ++ b) = some r := by
  induction ws generalizing a r with
  | nil => exact hr
  | cons w ws ih =>
    unfold Rom.splitW at hr ⊢
    by_cases hl : a.length < w
    · rw [if_pos hl] at hr; cases hr
    · rw [if_neg hl] at hr
      rw [if_neg (by rw [List.length_append]; omega), List.drop_append_of_le_length (by omega),
        List.take_append_of_le_length (by omega)]
      cases hs : Rom.splitW ws (a.drop w) with
      | none => rw [hs] at hr; cases hr
      | some r' => rw [ih _ _ hs]; rw [hs] at hr; exact hr

theorem and_pow_ne_zero_iff (x i : Nat) : (x &&& 2 ^ i ≠ 0) ↔ x / 2 ^ i % 2 = 1 := by
  have ht : x.testBit i = decide (x / 2 ^ i % 2 = 1) := Nat.testBit_eq_decide_div_mod_eq
  by_cases h : x / 2 ^ i % 2 = 1
  · simp only [h, iff_true]
    intro h0
    have : (x &&& 2 ^ i).testBit i = true := by
      rw [Nat.testBit_and, Nat.testBit_two_pow, ht]; simp [h]
    rw [h0] at this
    simp at this
  · simp only [h, iff_false, ne_eq, Decidable.not_not]
    apply Nat.eq_of_testBit_eq
    intro j
    rw [Nat.testBit_and, Nat.testBit_two_pow]
    by_cases hij : i = j
    · subst hij; simp [ht, h]
    · simp [hij]

theorem flags_sha_iff (x : Nat) : (x &&& 0x8000 ≠ 0) ↔ x / 0x8000 % 2 = 1 := and_pow_ne_zero_iff x 15
theorem flags_signed_iff (x : Nat) : (x &&& 8 ≠ 0) ↔ x / 8 % 2 = 1 := and_pow_ne_zero_iff x 3

/-- every field of the image header fits its slot -/
structure HdrOk (h : ImageHdr) : Prop where
  nonce : h.nonce.length = 16
  padding : h.padding.length = 8
  major : h.major < 256
  minor : h.minor < 256
  flags : h.flags < 65536
  imageBlocks : h.imageBlocks < 2 ^ 32
  firstBootTagBlock : h.firstBootTagBlock < 2 ^ 32
  firstBootSectionId : h.firstBootSectionId < 2 ^ 32
  offsetToCert : h.offsetToCert < 2 ^ 32
  headerBlocks : h.headerBlocks < 65536
  keyBlobBlock : h.keyBlobBlock < 65536
  keyBlobBlockCount : h.keyBlobBlockCount < 65536
  maxSectionMacCount : h.maxSectionMacCount < 65536
  timestamp : h.timestamp < 2 ^ 64
  productVersion : Spec.bcdOk h.productVersion
  componentVersion : Spec.bcdOk h.componentVersion
  buildNumber : h.buildNumber < 2 ^ 32

def ImageHdr.toRom (h : ImageHdr) : Rom.Hdr :=
  { nonce := h.nonce, major := h.major, minor := h.minor, flags := h.flags, imageBlocks := h.imageBlocks,
    firstBootTagBlock := h.firstBootTagBlock, firstBootSectionId := h.firstBootSectionId, offsetToCert := h.offsetToCert,
    headerBlocks := h.headerBlocks, keyBlobBlock := h.keyBlobBlock, keyBlobBlockCount := h.keyBlobBlockCount,
    maxSectionMacCount := h.maxSectionMacCount, timestamp := h.timestamp,
    productVersion := h.productVersion, componentVersion := h.componentVersion, buildNumber := h.buildNumber }

/-- the 30 fields of an exported image header, in the order of `Rom.Spec.imageHeaderWidths` -/
def hdrPieces (h : ImageHdr) : List Bytes :=
  [h.nonce, h.padding.take 4, Sb2Consts.imageSignature1, [u8 h.major], [u8 h.minor], leEnc 2 h.flags,
   leEnc 4 h.imageBlocks, leEnc 4 h.firstBootTagBlock, leEnc 4 h.firstBootSectionId, leEnc 4 h.offsetToCert,
   leEnc 2 h.headerBlocks, leEnc 2 h.keyBlobBlock, leEnc 2 h.keyBlobBlockCount, leEnc 2 h.maxSectionMacCount,
   Sb2Consts.imageSignature2, leEnc 8 h.timestamp,
   leEnc 2 (swap16 h.productVersion.major), leEnc 2 0, leEnc 2 (swap16 h.productVersion.minor), leEnc 2 0,
   leEnc 2 (swap16 h.productVersion.service), leEnc 2 0,
   leEnc 2 (swap16 h.componentVersion.major), leEnc 2 0, leEnc 2 (swap16 h.componentVersion.minor), leEnc 2 0,
   leEnc 2 (swap16 h.componentVersion.service), leEnc 2 0,
   leEnc 4 h.buildNumber, (h.padding.drop 4).take 4]

theorem encodeImageHdr_eq (h : ImageHdr) : encodeImageHdr h = (hdrPieces h).flatten := by
  simp [encodeImageHdr, versionWords, hdrPieces]

theorem hdrPieces_widths (h : ImageHdr) (hn : h.nonce.length = 16) (hp : h.padding.length = 8) :
    (hdrPieces h).map List.length = Spec.imageHeaderWidths := by
  simp [hdrPieces, Spec.imageHeaderWidths, leEnc_length, hn, hp, Sb2Consts.imageSignature1, Sb2Consts.imageSignature2]

theorem encodeImageHdr_length (h : ImageHdr) (hn : h.nonce.length = 16) (hp : h.padding.length = 8) :
    (encodeImageHdr h).length = 96 := by
  rw [encodeImageHdr_eq, List.length_flatten, hdrPieces_widths h hn hp]; rfl

/-- the numeric fields of a header that fits its slots decode to themselves (little-endian fields; BCD words are stored byte-swapped,
    which the ROM reads as big-endian) -/
theorem HdrOk.decodes {h : ImageHdr} (ok : HdrOk h) :
    (u8 h.major).toNat = h.major ∧ (u8 h.minor).toNat = h.minor ∧ leDec (leEnc 2 h.flags) = h.flags ∧
    leDec (leEnc 4 h.imageBlocks) = h.imageBlocks ∧ leDec (leEnc 4 h.firstBootTagBlock) = h.firstBootTagBlock ∧
    leDec (leEnc 4 h.firstBootSectionId) = h.firstBootSectionId ∧ leDec (leEnc 4 h.offsetToCert) = h.offsetToCert ∧
    leDec (leEnc 2 h.headerBlocks) = h.headerBlocks ∧ leDec (leEnc 2 h.keyBlobBlock) = h.keyBlobBlock ∧
    leDec (leEnc 2 h.keyBlobBlockCount) = h.keyBlobBlockCount ∧ leDec (leEnc 2 h.maxSectionMacCount) = h.maxSectionMacCount ∧
    leDec (leEnc 8 h.timestamp) = h.timestamp ∧ leDec (leEnc 4 h.buildNumber) = h.buildNumber :=
  ⟨u8_toNat _ ok.major, u8_toNat _ ok.minor, leDec_leEnc 2 _ ok.flags, leDec_leEnc 4 _ ok.imageBlocks,
    leDec_leEnc 4 _ ok.firstBootTagBlock, leDec_leEnc 4 _ ok.firstBootSectionId, leDec_leEnc 4 _ ok.offsetToCert,
    leDec_leEnc 2 _ ok.headerBlocks, leDec_leEnc 2 _ ok.keyBlobBlock, leDec_leEnc 2 _ ok.keyBlobBlockCount,
    leDec_leEnc 2 _ ok.maxSectionMacCount, leDec_leEnc 8 _ ok.timestamp, leDec_leEnc 4 _ ok.buildNumber⟩

theorem readImageHdr_encode (h : ImageHdr) (ok : HdrOk h) (rest : Bytes) :
    Rom.readImageHdr (encodeImageHdr h ++ rest) = .ok h.toRom := by
  obtain ⟨d1, d2, d3, d4, d5, d6, d7, d8, d9, d10, d11, d12, d13⟩ := ok.decodes
  obtain ⟨p0, p1, p2⟩ := ok.productVersion
  obtain ⟨c0, c1, c2⟩ := ok.componentVersion
  rw [Rom.readImageHdr, encodeImageHdr_eq, splitW_flatten _ _ (hdrPieces_widths h ok.nonce ok.padding)]
  simp only [hdrPieces]
  rw [if_neg (by decide), leDec_single, leDec_single, d1, d2, d3, d4, d5, d6, d7, d8, d9, d10, d11, d12, d13,
    beDec_leEnc_swap16 _ p0, beDec_leEnc_swap16 _ p1, beDec_leEnc_swap16 _ p2,
    beDec_leEnc_swap16 _ c0, beDec_leEnc_swap16 _ c1, beDec_leEnc_swap16 _ c2]
  rfl

theorem shaPresent_iff (cfg : Cfg) : cfg.shaPresent = true ↔ cfg.flags / 0x8000 % 2 = 1 := by
  unfold Cfg.shaPresent
  rw [decide_eq_true_iff]
  exact flags_sha_iff cfg.flags

theorem headerKeysLen_eq : headerKeysLen = 208 := by decide

theorem certBlockOk_mod (cb : Bytes) (ok : Spec.certBlockOk cb) : cb.length % 16 = 0 := by
  unfold Spec.certBlockOk Rom.certBlockLen at ok
  split at ok
  · split at ok
    · cases ok
    · split at ok
      · cases ok
      · injection ok with ok
        omega
  · cases ok

/-- a certificate block the ROM can delimit on its own is delimited the same way wherever it sits in a file -/
theorem certBlockLen_embed {file cb rest : Bytes} {off : Nat} (hd : file.drop off = cb ++ rest) (ok : Spec.certBlockOk cb) :
    Rom.certBlockLen file off = .ok cb.length := by
  unfold Spec.certBlockOk at ok
  unfold Rom.certBlockLen at ok ⊢
  rw [hd]
  rw [List.drop_zero] at ok
  cases hs : Rom.splitW Spec.certHeaderWidths cb with
  | none => rw [hs] at ok; cases ok
  | some r => rw [splitW_append _ _ _ _ hs]; rw [hs] at ok; exact ok

theorem keyBlob_eq (h : CryptoLaws c) (kek dek mac : Bytes) (hd : dek.length = 32) (hm : mac.length = 32) :
    (kwWrap c kek (dek ++ mac)).length = 72 ∧ keyBlob c kek dek mac = kwWrap c kek (dek ++ mac) ++ zeros 8 := by
  have hl : (kwWrap c kek (dek ++ mac)).length = 72 := by
    rw [Crypto.kwWrap_length h _ _ (by rw [List.length_append, hd, hm]), List.length_append, hd, hm]
  exact ⟨hl, by rw [keyBlob, hl]; rfl⟩

theorem readKeys_ok (h : CryptoLaws c) (kek dek mac file : Bytes) (hd : Rom.Hdr)
    (hb : hd.keyBlobBlock = 8) (hc : hd.keyBlobBlockCount = 5) (hl : 208 ≤ file.length)
    (hs : Rom.slice file 128 72 = kwWrap c kek (dek ++ mac)) (ld : dek.length = 32) (lm : mac.length = 32) :
    Rom.readKeys c kek file hd = .ok (dek, mac) := by
  have l64 : (dek ++ mac).length = 64 := by rw [List.length_append, ld, lm]
  rw [Rom.readKeys, hb, hc, if_neg (by simp only [Spec.wrappedKeysSize]; omega)]
  simp only [Spec.wrappedKeysSize, Nat.reduceMul]
  rw [hs, Crypto.kw_inv h _ _ (by rw [l64]) (by rw [l64]; decide)]
  simp only []
  rw [if_neg (fun hne => hne l64), List.take_left' ld, List.drop_left' ld]

theorem readKeys_wrong (kek kek' dek mac file : Bytes) (hd : Rom.Hdr)
    (hb : hd.keyBlobBlock = 8) (hc : hd.keyBlobBlockCount = 5) (hl : 208 ≤ file.length)
    (hs : Rom.slice file 128 72 = kwWrap c kek (dek ++ mac)) (hk : kek' ≠ kek) :
    Rom.readKeys c kek' file hd = .error .badKeyBlob ∨ Break c := by
  cases hu : kwUnwrap c kek' (kwWrap c kek (dek ++ mac)) with
  | some k => exact Or.inr (Break.wrapForgery kek kek' _ (Ne.symm hk) (by rw [hu]; rfl))
  | none =>
    left
    rw [Rom.readKeys, hb, hc, if_neg (by simp only [Spec.wrappedKeysSize]; omega)]
    simp only [Spec.wrappedKeysSize, Nat.reduceMul]
    rw [hs, hu]

/-- what `Spec.WF21` and `Spec.WF20` ask alike of keys, nonce, padding and sections -/
structure CfgOk (cfg : Cfg) : Prop where
  dek : cfg.dek.length = 32
  mac : cfg.mac.length = 32
  nonce : cfg.nonce.length = 16
  padding : cfg.padding.length = 8
  ne : cfg.sections ≠ []
  sec : ∀ s ∈ cfg.sections, Spec.WFsection s

theorem CfgOk.of21 {cfg : Cfg} (wf : Spec.WF21 cfg) : CfgOk cfg := by
  obtain ⟨wdek, wmac, wnonce, wpad, -, -, -, -, -, -, -, -, wne, wsec, -, -⟩ := wf
  exact ⟨wdek, wmac, wnonce, wpad, wne, wsec⟩

theorem CfgOk.of20 {cfg : Cfg} {signed : Bool} (wf : Spec.WF20 cfg signed) : CfgOk cfg := by
  obtain ⟨wdek, wmac, wnonce, wpad, -, -, -, -, -, wne, wsec, -, -⟩ := wf
  exact ⟨wdek, wmac, wnonce, wpad, wne, wsec⟩

theorem CfgOk.secMod {cfg : Cfg} (ok : CfgOk cfg) : Spec.sectionsLen cfg.sections % 16 = 0 :=
  (sectionsLen_facts cfg.sections ok.sec).1

/-- `file.length / 16 + 1` is enough fuel for the section walk: a section has at least 96 bytes -/
theorem CfgOk.fuel {cfg : Cfg} (ok : CfgOk cfg) {n : Nat} (hn : Spec.sectionsLen cfg.sections ≤ n) :
    cfg.sections.length ≤ n / 16 + 1 := by
  have := (sectionsLen_facts cfg.sections ok.sec).2
  omega

theorem head_uid_lt (ss : List Section) (wf : ∀ s ∈ ss, Spec.WFsection s) :
    (ss.head?.map (·.uid)).getD 0 < 2 ^ 32 := by
  cases ss with
  | nil => decide
  | cons s rest => exact (wf s List.mem_cons_self).1

/-- the ROM's reading of the built sections begins with the expectation for the first one -/
theorem expected_head {cfg : Cfg} (ok : CfgOk cfg) :
    ∃ s rest, cfg.sections = s :: rest ∧ cfg.sections.map Spec.expectedSection = Spec.expectedSection s :: rest.map Spec.expectedSection ∧
      (cfg.sections.head?.map (·.uid)).getD 0 = s.uid ∧ (cfg.sections.head?.map Section.effHmacCount).getD 0 = Spec.macCount s := by
  cases hc : cfg.sections with
  | nil => exact absurd hc ok.ne
  | cons s rest => exact ⟨s, rest, rfl, rfl, rfl, (effHmacCount_eq s (ok.sec s (by rw [hc]; exact List.mem_cons_self))).1⟩

/-- the header the ROM is expected to read from a V2.1 file (spec-side arithmetic) -/
def hd21 (cfg : Cfg) : Rom.Hdr :=
  { nonce := cfg.nonce, major := 2, minor := 1, flags := cfg.flags,
    imageBlocks := Spec.fileLen21 cfg / 16,
    firstBootTagBlock :=
      (208 + cfg.certBlock.length + (if cfg.flags / 0x8000 % 2 = 1 then 32 else 0) + cfg.signature.length) / 16,
    firstBootSectionId := (cfg.sections.head?.map (·.uid)).getD 0,
    offsetToCert := 208, headerBlocks := 6, keyBlobBlock := 8, keyBlobBlockCount := 5,
    maxSectionMacCount := (cfg.sections.map Spec.macCount).sum,
    timestamp := cfg.timestamp, productVersion := cfg.productVersion, componentVersion := cfg.componentVersion,
    buildNumber := cfg.buildNumber }

/-- size of the optional SHA-256 field of a V2.1 file -/
def shaLen21 (cfg : Cfg) : Nat := if cfg.flags / 0x8000 % 2 = 1 then 32 else 0

/-- start of the boot sections in a V2.1 file -/
def start21 (cfg : Cfg) : Nat := 208 + cfg.certBlock.length + shaLen21 cfg + cfg.signature.length

/-- the SHA-256 flag in its three spellings: the ROM's mask, the builder's `shaPresent`, the expectation's field size -/
theorem shaLen21_cases (cfg : Cfg) :
    (cfg.flags &&& Spec.flagSha ≠ 0 ∧ cfg.shaPresent = true ∧ shaLen21 cfg = 32) ∨
    (¬ cfg.flags &&& Spec.flagSha ≠ 0 ∧ cfg.shaPresent = false ∧ shaLen21 cfg = 0) := by
  unfold shaLen21
  by_cases hs : cfg.flags / 0x8000 % 2 = 1
  · exact Or.inl ⟨(flags_sha_iff _).2 hs, (shaPresent_iff cfg).2 hs, if_pos hs⟩
  · exact Or.inr ⟨fun hp => hs ((flags_sha_iff _).1 hp), Bool.eq_false_iff.2 (fun hp => hs ((shaPresent_iff cfg).1 hp)), if_neg hs⟩

theorem bsOffset21_eq (cfg : Cfg) : cfg.bsOffset21 = start21 cfg := by
  unfold Cfg.bsOffset21 start21
  rw [headerKeysLen_eq]
  rcases shaLen21_cases cfg with ⟨-, hs, hl⟩ | ⟨-, hs, hl⟩ <;> rw [hs, hl] <;>
    simp only [if_true, Bool.false_eq_true, if_false, Sb2Consts.v21Sha256Size] <;> omega

theorem fileLen21_eq (cfg : Cfg) : Spec.fileLen21 cfg = start21 cfg + Spec.sectionsLen cfg.sections := by
  unfold Spec.fileLen21 start21 shaLen21; omega

theorem start21_mod {cfg : Cfg} (wf : Spec.WF21 cfg) : start21 cfg % 16 = 0 := by
  have := certBlockOk_mod _ wf.2.2.2.2.2.2.2.2.2.2.1
  have := wf.2.2.2.2.2.2.2.2.2.2.2.1
  unfold start21
  rcases shaLen21_cases cfg with ⟨-, -, hl⟩ | ⟨-, -, hl⟩ <;> omega

theorem fileLen21_mod {cfg : Cfg} (wf : Spec.WF21 cfg) : Spec.fileLen21 cfg % 16 = 0 := by
  have := start21_mod wf
  have := (CfgOk.of21 wf).secMod
  rw [fileLen21_eq]; omega

theorem header21_facts (cfg : Cfg) (wf : Spec.WF21 cfg) : HdrOk cfg.header21 ∧ cfg.header21.toRom = hd21 cfg := by
  obtain ⟨wdek, wmac, wnonce, wpad, wts, wpv, wcv, wbn, wfl, wsg, wcert, wsig, wne, wsec, wlen, wmc⟩ := wf
  have ⟨e2, e3⟩ := rawSize_sum_sections cfg.sections wsec
  have e1 : start21 cfg + Spec.sectionsLen cfg.sections = Spec.fileLen21 cfg := (fileLen21_eq cfg).symm
  refine ⟨⟨wnonce, wpad, (by decide : 2 < 256), (by decide : 1 < 256), wfl, ?_, ?_, head_uid_lt _ wsec,
    (by decide : headerKeysLen < 2 ^ 32), (by decide : 6 < 65536), (by decide : 8 < 65536), (by decide : 5 < 65536), ?_,
    wts, wpv, wcv, wbn⟩, ?_⟩
  · show (cfg.bsOffset21 + (cfg.sections.map Section.rawSize).sum) / 16 < 2 ^ 32
    rw [bsOffset21_eq, e2, e1]; exact wlen
  · show cfg.bsOffset21 / 16 < 2 ^ 32
    exact Nat.lt_of_le_of_lt (Nat.div_le_div_right (by rw [bsOffset21_eq, ← e1]; exact Nat.le_add_right _ _)) wlen
  · show maxMacCount cfg.sections < 65536
    rw [e3]; exact wmc
  · simp only [ImageHdr.toRom, Cfg.header21, hd21, bsOffset21_eq, e2, e1, e3]
    rfl

/-- the header-MAC field and the SHA-256 field as the builder writes them -/
def hmacField21 (c : CryptoOps) (cfg : Cfg) : Bytes :=
  hmac256 c cfg.mac (((cfg.bsData21 c).drop 16).take ((cfg.sections.head?.map Section.effHmacCount).getD 0 * 32 + 32))
def shaField21 (c : CryptoOps) (cfg : Cfg) : Bytes := if cfg.shaPresent then c.hash .sha256 (cfg.bsData21 c) else []

/-- everything in front of the boot sections of a V2.1 file, with the header-MAC field `M` and the SHA-256 field `S` left arbitrary -/
def front21 (c : CryptoOps) (cfg : Cfg) (M S : Bytes) : Bytes :=
  encodeImageHdr cfg.header21 ++ M ++ keyBlob c cfg.kek cfg.dek cfg.mac ++ cfg.certBlock ++ S ++ cfg.signature

theorem buildV21_eq (cfg : Cfg) : buildV21 c cfg = front21 c cfg (hmacField21 c cfg) (shaField21 c cfg) ++ cfg.bsData21 c := rfl

theorem shaField21_length (h : CryptoLaws c) (cfg : Cfg) : (shaField21 c cfg).length = shaLen21 cfg := by
  unfold shaField21
  rcases shaLen21_cases cfg with ⟨-, hs, hl⟩ | ⟨-, hs, hl⟩ <;> rw [hs, hl]
  · exact h.hash_len _ _
  · rfl

theorem hmacField21_length (h : CryptoLaws c) (cfg : Cfg) : (hmacField21 c cfg).length = 32 := hmac256_length h _ _

/-- layout of a V2.1 file `front21 M S ++ B` as the readers address it -/
structure V21Facts (c : CryptoOps) (cfg : Cfg) (M S B : Bytes) : Prop where
  frontLen : (front21 c cfg M S).length = start21 cfg
  take96 : (front21 c cfg M S ++ B).take 96 = encodeImageHdr cfg.header21
  macAt : Rom.slice (front21 c cfg M S ++ B) 96 32 = M
  kbAt : Rom.slice (front21 c cfg M S ++ B) 128 80 = keyBlob c cfg.kek cfg.dek cfg.mac
  kwAt : Rom.slice (front21 c cfg M S ++ B) 128 72 = kwWrap c cfg.kek (cfg.dek ++ cfg.mac)
  certDrop : (front21 c cfg M S ++ B).drop 208 = cfg.certBlock ++ (S ++ (cfg.signature ++ B))
  certAt : Rom.slice (front21 c cfg M S ++ B) 208 cfg.certBlock.length = cfg.certBlock
  shaAt : Rom.slice (front21 c cfg M S ++ B) (208 + cfg.certBlock.length) (shaLen21 cfg) = S
  sigAt : Rom.slice (front21 c cfg M S ++ B) (208 + cfg.certBlock.length + shaLen21 cfg) cfg.signature.length = cfg.signature
  signedAt : (front21 c cfg M S ++ B).take (208 + cfg.certBlock.length + shaLen21 cfg)
    = encodeImageHdr cfg.header21 ++ M ++ keyBlob c cfg.kek cfg.dek cfg.mac ++ cfg.certBlock ++ S
  certLen : Rom.certBlockLen (front21 c cfg M S ++ B) 208 = .ok cfg.certBlock.length
  readHdr : Rom.readImageHdr (front21 c cfg M S ++ B) = .ok (hd21 cfg)

theorem v21_facts (h : CryptoLaws c) (cfg : Cfg) (wf : Spec.WF21 cfg) (M S B : Bytes) (lM : M.length = 32)
    (lS : S.length = shaLen21 cfg) : V21Facts c cfg M S B := by
  have ⟨hok, hrom⟩ := header21_facts cfg wf
  have ok := CfgOk.of21 wf
  have wcert := wf.2.2.2.2.2.2.2.2.2.2.1
  have ⟨lkw, ekb⟩ := keyBlob_eq h cfg.kek cfg.dek cfg.mac ok.dek ok.mac
  have lkb : (keyBlob c cfg.kek cfg.dek cfg.mac).length = 80 := by rw [ekb, List.length_append, lkw]; rfl
  have lH : (encodeImageHdr cfg.header21).length = 96 := encodeImageHdr_length _ ok.nonce ok.padding
  have d0 : (front21 c cfg M S ++ B).drop 0 = encodeImageHdr cfg.header21 ++ (M ++ (keyBlob c cfg.kek cfg.dek cfg.mac ++
      (cfg.certBlock ++ (S ++ (cfg.signature ++ B))))) := by
    simp only [front21, List.append_assoc, List.drop_zero]
  obtain ⟨-, d1⟩ := slice_of_drop d0 lH
  obtain ⟨s2, d2⟩ := slice_of_drop d1 lM
  obtain ⟨s3, d3⟩ := slice_of_drop d2 lkb
  obtain ⟨s4, d4⟩ := slice_of_drop d3 rfl
  obtain ⟨s5, d5⟩ := slice_of_drop d4 lS
  obtain ⟨s6, -⟩ := slice_of_drop d5 rfl
  have lsg : (encodeImageHdr cfg.header21 ++ M ++ keyBlob c cfg.kek cfg.dek cfg.mac ++ cfg.certBlock ++ S).length
      = 208 + cfg.certBlock.length + shaLen21 cfg := by
    simp only [List.length_append, lH, lM, lkb, lS]
  refine ⟨by rw [front21, List.length_append, lsg]; rfl, ?_, s2, s3, ?_, d3, s4, s5, s6, ?_, certBlockLen_embed d3 wcert, ?_⟩
  · rw [front21]; simp only [List.append_assoc]; exact List.take_left' lH
  · have : Rom.slice (front21 c cfg M S ++ B) 128 72 = (Rom.slice (front21 c cfg M S ++ B) 128 80).take 72 := by
      rw [Rom.slice, Rom.slice, List.take_take]; rfl
    rw [this, s3, ekb, List.take_left' lkw]
  · rw [front21, List.append_assoc _ cfg.signature B]; exact List.take_left' lsg
  · rw [front21]; simp only [List.append_assoc]
    rw [readImageHdr_encode _ hok, hrom]

/-- What is left of the SB 2.1 reader once header `h`, keys and certificate block are read and the layout fits: the SHA-256 field
    `S` against the section area `B`, the section walk `rs`, and the header-MAC field `M` against the first section's MAC table. -/
def tail21 (c : CryptoOps) (h : Rom.Hdr) (dek mac M S B sig cert : Bytes) (signedLen : Nat)
    (rs : Except RomErr (List RomSection)) : Except RomErr Content :=
  if (decide (h.flags &&& Spec.flagSha ≠ 0) && (S != c.hash .sha256 B)) = true then .error .badSha
  else match rs with
    | .error e => .error e
    | .ok ss =>
      match ss with
      | [] => .error .badLayout
      | s0 :: _ =>
        if M ≠ hmac c .sha256 mac (Rom.slice B 16 (32 * (s0.hmacCount + 1))) then .error .badHeaderMac
        else if s0.uid ≠ h.firstBootSectionId then .error .badLayout
        else .ok (mkContent h dek mac ss signedLen sig cert)

/-- ROM side, any file: if header, keys, certificate block are read as `h`, `(dek, mac)`, `cert`, the layout words fit and the
    fields sit where the header says, `romV21` is `tail21` of those fields -/
theorem romV21_eq_tail {file kek dek mac M S B sig cert : Bytes} {h : Rom.Hdr} {start signedLen : Nat}
    (hh : Rom.readImageHdr file = .ok h) (hmaj : h.major = 2) (hmin : h.minor = 1) (hsg : h.flags &&& Spec.flagSigned ≠ 0)
    (hhb : h.headerBlocks = 6) (hk : Rom.readKeys c kek file h = .ok (dek, mac)) (hoc : h.offsetToCert = 208)
    (hkb : (h.keyBlobBlock + h.keyBlobBlockCount) * 16 ≤ 208) (hcl : Rom.certBlockLen file 208 = .ok cert.length)
    (hsl : 208 + cert.length + (if h.flags &&& Spec.flagSha ≠ 0 then 32 else 0) = signedLen)
    (hst : h.firstBootTagBlock * 16 = start) (hstop : h.imageBlocks * 16 = file.length)
    (hle : signedLen ≤ start) (hle2 : start ≤ file.length)
    (hM : Rom.slice file 96 32 = M) (hS : h.flags &&& Spec.flagSha ≠ 0 → Rom.slice file (208 + cert.length) 32 = S)
    (hB : file.drop start = B) (hsig : Rom.slice file signedLen (start - signedLen) = sig)
    (hcert : Rom.slice file 208 cert.length = cert) :
    Rom.romV21 c kek file = tail21 c h dek mac M S B sig cert signedLen
      (Rom.readSections c dek mac h.nonce file file.length (file.length / 16 + 1) start) := by
  have hBs : Rom.slice file start (file.length - start) = B := by
    rw [Rom.slice, hB, List.take_of_length_le (by rw [← hB, List.length_drop]; exact Nat.le_refl _)]
  have hB16 : ∀ n, Rom.slice file (start + 16) n = Rom.slice B 16 n := fun n => by rw [Rom.slice, ← List.drop_drop, hB]; rfl
  rw [Rom.romV21, hh]
  simp only [hmaj, hmin, hhb, hk, hoc, hcl, hst, hstop, hsl, hM, hBs, hB16, hsig, hcert, Spec.imageHeaderSize, Spec.shaSize,
    Spec.macSize]
  rw [if_neg (by decide), if_neg hsg, if_neg (by decide), if_neg (by omega)]
  unfold tail21
  by_cases hs : h.flags &&& Spec.flagSha ≠ 0
  · rw [← hsl, if_pos hs, Nat.add_sub_cancel, hS hs]; rfl
  · simp only [hs, decide_false, Bool.false_and]; rfl

/-- a V2.1 file with the builder's front, any header-MAC field `M`, SHA-256 field `S` and section area `B` of the right lengths,
    through the ROM -/
theorem romV21_front (h : CryptoLaws c) (cfg : Cfg) (wf : Spec.WF21 cfg) (M S B : Bytes) (lM : M.length = 32)
    (lS : S.length = shaLen21 cfg) (lB : B.length = Spec.sectionsLen cfg.sections) :
    Rom.romV21 c cfg.kek (front21 c cfg M S ++ B) =
      tail21 c (hd21 cfg) cfg.dek cfg.mac M S B cfg.signature cfg.certBlock (208 + cfg.certBlock.length + shaLen21 cfg)
        (Rom.readSections c cfg.dek cfg.mac cfg.nonce (front21 c cfg M S ++ B) (front21 c cfg M S ++ B).length
          ((front21 c cfg M S ++ B).length / 16 + 1) (start21 cfg)) := by
  have F := v21_facts h cfg wf M S B lM lS
  have ok := CfgOk.of21 wf
  have flen : (front21 c cfg M S ++ B).length = Spec.fileLen21 cfg := by
    rw [List.length_append, F.frontLen, lB, fileLen21_eq]
  have hif : (if (hd21 cfg).flags &&& Spec.flagSha ≠ 0 then 32 else 0) = shaLen21 cfg := by
    rcases shaLen21_cases cfg with ⟨hs, -, hl⟩ | ⟨hs, -, hl⟩ <;> rw [hl]
    · exact if_pos hs
    · exact if_neg hs
  have h208 : 208 ≤ Spec.fileLen21 cfg := by rw [fileLen21_eq]; unfold start21; omega
  refine romV21_eq_tail F.readHdr rfl rfl ((flags_signed_iff cfg.flags).2 wf.2.2.2.2.2.2.2.2.2.1) rfl
    (readKeys_ok h cfg.kek cfg.dek cfg.mac _ _ rfl rfl (flen ▸ h208) F.kwAt ok.dek ok.mac) rfl (Nat.le_refl 208) F.certLen
    (by rw [hif]) (Nat.div_mul_cancel (Nat.dvd_of_mod_eq_zero (start21_mod wf)))
    (flen ▸ Nat.div_mul_cancel (Nat.dvd_of_mod_eq_zero (fileLen21_mod wf))) (Nat.le_add_right _ _)
    (by rw [flen, fileLen21_eq]; exact Nat.le_add_right _ _) F.macAt ?_ ?_ ?_ F.certAt
  · intro hs
    rcases shaLen21_cases cfg with ⟨-, -, hl⟩ | ⟨hn, -, -⟩
    · exact hl ▸ F.shaAt
    · exact absurd hs hn
  · rw [← F.frontLen]; exact List.drop_left
  · rw [show start21 cfg - (208 + cfg.certBlock.length + shaLen21 cfg) = cfg.signature.length from Nat.add_sub_cancel_left _ _]
    exact F.sigAt

theorem expected21_eq (cfg : Cfg) : Spec.expected21 cfg = mkContent (hd21 cfg) cfg.dek cfg.mac
    (cfg.sections.map Spec.expectedSection) (208 + cfg.certBlock.length + shaLen21 cfg) cfg.signature cfg.certBlock := rfl

/-- the section area as the builder writes it is the section list built behind the front, whatever `M` and `S` are -/
theorem bsData21_eq (h : CryptoLaws c) (cfg : Cfg) (wf : Spec.WF21 cfg) (M S : Bytes) (lM : M.length = 32)
    (lS : S.length = shaLen21 cfg) :
    cfg.bsData21 c = buildSections c cfg.dek cfg.mac cfg.nonce (nonceCtr cfg.nonce + (front21 c cfg M S).length / 16) cfg.sections := by
  rw [(v21_facts h cfg wf M S [] lM lS).frontLen, ← bsOffset21_eq]; rfl

theorem bsData21_length (h : CryptoLaws c) (cfg : Cfg) (wf : Spec.WF21 cfg) :
    (cfg.bsData21 c).length = Spec.sectionsLen cfg.sections :=
  buildSections_length h _ _ _ _ (CfgOk.of21 wf).sec _

/-- with the section area as built, the section walk of `romV21_front` succeeds -/
theorem readSections_front21 (h : CryptoLaws c) (cfg : Cfg) (wf : Spec.WF21 cfg) (M S : Bytes) (lM : M.length = 32)
    (lS : S.length = shaLen21 cfg) :
    Rom.readSections c cfg.dek cfg.mac cfg.nonce (front21 c cfg M S ++ cfg.bsData21 c) (front21 c cfg M S ++ cfg.bsData21 c).length
      ((front21 c cfg M S ++ cfg.bsData21 c).length / 16 + 1) (start21 cfg) = .ok (cfg.sections.map Spec.expectedSection) := by
  have ok := CfgOk.of21 wf
  have lF := (v21_facts h cfg wf M S [] lM lS).frontLen
  have hrs := readSections_buildSections h cfg.dek cfg.mac cfg.nonce [] cfg.sections ok.sec (front21 c cfg M S)
    (by rw [lF]; exact start21_mod wf) ((start21 cfg + Spec.sectionsLen cfg.sections) / 16 + 1) (ok.fuel (Nat.le_add_left _ _))
  rw [List.append_nil, ← bsData21_eq h cfg wf M S lM lS, lF] at hrs
  rw [List.length_append, lF, bsData21_length h cfg wf]
  exact hrs

/-- with SHA-256 field and section area as built, the reader's verdict hangs on the header-MAC field `M` alone -/
theorem romV21_hmac_field (h : CryptoLaws c) (cfg : Cfg) (wf : Spec.WF21 cfg) (M : Bytes) (lM : M.length = 32) :
    Rom.romV21 c cfg.kek (front21 c cfg M (shaField21 c cfg) ++ cfg.bsData21 c) =
      if M ≠ hmacField21 c cfg then .error .badHeaderMac else .ok (Spec.expected21 cfg) := by
  obtain ⟨s, rest, -, hmap, huid, hhc⟩ := expected_head (CfgOk.of21 wf)
  have lS := shaField21_length h cfg
  rw [romV21_front h cfg wf _ _ _ lM lS (bsData21_length h cfg wf), readSections_front21 h cfg wf _ _ lM lS,
    expected21_eq, hmap]
  have hsha : (decide ((hd21 cfg).flags &&& Spec.flagSha ≠ 0) && (shaField21 c cfg != c.hash .sha256 (cfg.bsData21 c))) = false := by
    unfold shaField21
    rcases shaLen21_cases cfg with ⟨-, hs, -⟩ | ⟨hs, -, -⟩
    · rw [hs, if_pos rfl, bne_self_eq_false, Bool.and_false]
    · exact Bool.and_eq_false_imp.2 (fun hd => absurd (of_decide_eq_true hd) hs)
  have hM : hmacField21 c cfg = hmac c .sha256 cfg.mac (Rom.slice (cfg.bsData21 c) 16 (32 * ((Spec.expectedSection s).hmacCount + 1))) := by
    rw [hmacField21, hhc, show 32 * ((Spec.expectedSection s).hmacCount + 1) = Spec.macCount s * 32 + 32 by
      show 32 * (Spec.macCount s + 1) = _; omega]
    rfl
  unfold tail21
  rw [hsha, hM]
  simp only [Bool.false_eq_true, if_false]
  rw [if_neg (show ¬ (Spec.expectedSection s).uid ≠ (hd21 cfg).firstBootSectionId from fun hne => hne huid.symm)]

theorem romV21_buildV21 (h : CryptoLaws c) (cfg : Cfg) (wf : Spec.WF21 cfg) :
    Rom.romV21 c cfg.kek (buildV21 c cfg) = .ok (Spec.expected21 cfg) := by
  rw [buildV21_eq, romV21_hmac_field h cfg wf _ (hmacField21_length h cfg), if_neg (fun hne => hne rfl)]

theorem buildV21_length (h : CryptoLaws c) (cfg : Cfg) (wf : Spec.WF21 cfg) :
    (buildV21 c cfg).length = Spec.fileLen21 cfg := by
  rw [buildV21_eq, List.length_append, (v21_facts h cfg wf _ _ [] (hmacField21_length h cfg) (shaField21_length h cfg)).frontLen,
    bsData21_length h cfg wf, fileLen21_eq]

theorem start21_aligned (cfg : Cfg) (wf : Spec.WF21 cfg) : (Spec.expected21 cfg).firstBootTagBlock * 16 = start21 cfg := by
  have := start21_mod wf
  show start21 cfg / 16 * 16 = _
  omega

theorem signed_range_v21 (h : CryptoLaws c) (cfg : Cfg) (wf : Spec.WF21 cfg) :
    (buildV21 c cfg).take (Spec.expected21 cfg).signedLen = cfg.signed21 c ∧
    Rom.slice (buildV21 c cfg) (Spec.expected21 cfg).signedLen cfg.signature.length = cfg.signature ∧
    (Spec.expected21 cfg).signedLen + cfg.signature.length = (Spec.expected21 cfg).firstBootTagBlock * 16 := by
  have F := v21_facts h cfg wf _ _ (cfg.bsData21 c) (hmacField21_length h cfg) (shaField21_length h cfg)
  exact ⟨F.signedAt, F.sigAt, (start21_aligned cfg wf).symm⟩

/-- ROM side, any file: with a readable V2.1 header that points at a key blob which does not unwrap, the reader stops there -/
theorem romV21_of_readKeys_error {file kek : Bytes} {h : Rom.Hdr} {e : RomErr} (hh : Rom.readImageHdr file = .ok h)
    (hmaj : h.major = 2) (hmin : h.minor = 1) (hsg : h.flags &&& Spec.flagSigned ≠ 0) (hhb : h.headerBlocks = 6)
    (hk : Rom.readKeys c kek file h = .error e) : Rom.romV21 c kek file = .error e := by
  rw [Rom.romV21, hh]
  simp only [hmaj, hmin, hhb, hk]
  rw [if_neg (by decide), if_neg hsg, if_neg (by decide)]

/-- a V2.0 file with the certificate section `cs` and the trailing signature `sg` left abstract -/
def file20 (c : CryptoOps) (cfg : Cfg) (hdr : ImageHdr) (cs sg : Bytes) : Bytes :=
  let h := encodeImageHdr hdr
  let pre := h ++ hmac256 c cfg.mac h ++ kwWrap c cfg.kek (cfg.dek ++ cfg.mac) ++ cfg.padding
  pre ++ cs ++ buildSections c cfg.dek cfg.mac cfg.nonce (nonceCtr cfg.nonce + pre.length / 16 + cs.length / 16) cfg.sections ++ sg

/-- the 208 bytes in front of the certificate section / boot sections of a V2.0 file -/
def pre20 (c : CryptoOps) (cfg : Cfg) (hdr : ImageHdr) : Bytes :=
  encodeImageHdr hdr ++ hmac256 c cfg.mac (encodeImageHdr hdr) ++ kwWrap c cfg.kek (cfg.dek ++ cfg.mac) ++ cfg.padding

/-- a V2.0 file with arbitrary bytes `B` where the boot sections sit -/
def file20t (c : CryptoOps) (cfg : Cfg) (hdr : ImageHdr) (cs B sg : Bytes) : Bytes := pre20 c cfg hdr ++ cs ++ B ++ sg

structure V20Facts (c : CryptoOps) (cfg : Cfg) (hdr : ImageHdr) (cs sg : Bytes) : Prop where
  preLen : (pre20 c cfg hdr).length = 208
  shape : ∃ rest, file20 c cfg hdr cs sg = pre20 c cfg hdr ++ cs ++ rest
  len : (file20 c cfg hdr cs sg).length = 208 + cs.length + Spec.sectionsLen cfg.sections + sg.length
  secMod : Spec.sectionsLen cfg.sections % 16 = 0
  take96 : (file20 c cfg hdr cs sg).take 96 = encodeImageHdr hdr
  hmacAt : Rom.slice (file20 c cfg hdr cs sg) 96 32 = hmac256 c cfg.mac (encodeImageHdr hdr)
  kwAt : Rom.slice (file20 c cfg hdr cs sg) 128 72 = kwWrap c cfg.kek (cfg.dek ++ cfg.mac)
  readHdr : Rom.readImageHdr (file20 c cfg hdr cs sg) = .ok hdr.toRom
  dropStop : (file20 c cfg hdr cs sg).drop (208 + cs.length + Spec.sectionsLen cfg.sections) = sg
  sections : Rom.readSections c cfg.dek cfg.mac cfg.nonce (file20 c cfg hdr cs sg)
      (208 + cs.length + Spec.sectionsLen cfg.sections) ((file20 c cfg hdr cs sg).length / 16 + 1) (208 + cs.length)
    = .ok (cfg.sections.map Spec.expectedSection)

/-- what the readers see of a V2.0 file in front of and behind the section area `B`, whatever `B` is -/
theorem v20_front (h : CryptoLaws c) (cfg : Cfg) (hdr : ImageHdr) (cs B sg : Bytes) (ok : CfgOk cfg) (hok : HdrOk hdr) :
    (pre20 c cfg hdr).length = 208 ∧
    (file20t c cfg hdr cs B sg).length = 208 + cs.length + B.length + sg.length ∧
    (file20t c cfg hdr cs B sg).take 96 = encodeImageHdr hdr ∧
    Rom.slice (file20t c cfg hdr cs B sg) 96 32 = hmac256 c cfg.mac (encodeImageHdr hdr) ∧
    Rom.slice (file20t c cfg hdr cs B sg) 128 72 = kwWrap c cfg.kek (cfg.dek ++ cfg.mac) ∧
    Rom.readImageHdr (file20t c cfg hdr cs B sg) = .ok hdr.toRom ∧
    (file20t c cfg hdr cs B sg).drop 208 = cs ++ (B ++ sg) ∧
    (file20t c cfg hdr cs B sg).drop (208 + cs.length + B.length) = sg := by
  have lH : (encodeImageHdr hdr).length = 96 := encodeImageHdr_length _ hok.nonce hok.padding
  have lkw := (keyBlob_eq h cfg.kek cfg.dek cfg.mac ok.dek ok.mac).1
  have lpre : (pre20 c cfg hdr).length = 208 := by
    simp only [pre20, List.length_append, lH, hmac256_length h, lkw, ok.padding]
  have d0 : (file20t c cfg hdr cs B sg).drop 0 = encodeImageHdr hdr ++ (hmac256 c cfg.mac (encodeImageHdr hdr) ++
      (kwWrap c cfg.kek (cfg.dek ++ cfg.mac) ++ (cfg.padding ++ (cs ++ (B ++ sg))))) := by
    simp only [file20t, pre20, List.append_assoc, List.drop_zero]
  obtain ⟨-, d1⟩ := slice_of_drop d0 lH
  obtain ⟨s2, d2⟩ := slice_of_drop d1 (hmac256_length h _ _)
  obtain ⟨s3, d3⟩ := slice_of_drop d2 lkw
  obtain ⟨-, d4⟩ := slice_of_drop d3 ok.padding
  obtain ⟨-, d5⟩ := slice_of_drop d4 rfl
  obtain ⟨-, d6⟩ := slice_of_drop d5 rfl
  have hf : file20t c cfg hdr cs B sg = _ := d0
  refine ⟨lpre, by simp only [file20t, List.length_append, lpre], ?_, s2, s3, ?_, d4, d6⟩
  · rw [hf]; exact List.take_left' lH
  · rw [hf]; exact readImageHdr_encode _ hok _

/-- the built file is `file20t` with the section list built behind certificate section -/
theorem file20_eq_file20t (cfg : Cfg) (hdr : ImageHdr) (cs sg : Bytes) (lpre : (pre20 c cfg hdr).length = 208)
    (hcs : cs.length % 16 = 0) :
    file20 c cfg hdr cs sg = file20t c cfg hdr cs
      (buildSections c cfg.dek cfg.mac cfg.nonce (nonceCtr cfg.nonce + (pre20 c cfg hdr ++ cs).length / 16) cfg.sections) sg := by
  have : (pre20 c cfg hdr ++ cs).length / 16 = (pre20 c cfg hdr).length / 16 + cs.length / 16 := by
    rw [List.length_append, lpre]; omega
  rw [file20t, this, ← Nat.add_assoc]; rfl

theorem v20_facts (h : CryptoLaws c) (cfg : Cfg) (hdr : ImageHdr) (cs sg : Bytes) (ok : CfgOk cfg) (hok : HdrOk hdr)
    (hcs : cs.length % 16 = 0) : V20Facts c cfg hdr cs sg := by
  obtain ⟨lpre, flen, ftake, fhmac, fkw, fread, -, fdrop⟩ := v20_front h cfg hdr cs
    (buildSections c cfg.dek cfg.mac cfg.nonce (nonceCtr cfg.nonce + (pre20 c cfg hdr ++ cs).length / 16) cfg.sections) sg ok hok
  have e := file20_eq_file20t cfg hdr cs sg lpre hcs
  have lbs := buildSections_length h cfg.dek cfg.mac cfg.nonce cfg.sections ok.sec
    (nonceCtr cfg.nonce + (pre20 c cfg hdr ++ cs).length / 16)
  have lP : (pre20 c cfg hdr ++ cs).length = 208 + cs.length := by rw [List.length_append, lpre]
  rw [← e] at flen ftake fhmac fkw fread fdrop
  rw [lbs] at flen fdrop
  refine ⟨lpre, ⟨_, e.trans (List.append_assoc _ _ sg)⟩, flen, ok.secMod, ftake, fhmac, fkw, fread, fdrop, ?_⟩
  have hrs : Rom.readSections c cfg.dek cfg.mac cfg.nonce (file20t c cfg hdr cs _ sg) _ _ _ = _ :=
    readSections_buildSections h cfg.dek cfg.mac cfg.nonce sg cfg.sections ok.sec (pre20 c cfg hdr ++ cs)
      (by rw [lP]; omega) ((file20 c cfg hdr cs sg).length / 16 + 1) (ok.fuel (by rw [flen]; omega))
  rw [← e, lP] at hrs
  exact hrs

/-- the header the ROM is expected to read from a V2.0 file (spec-side arithmetic) -/
def hd20 (cfg : Cfg) (signed : Bool) : Rom.Hdr :=
  { nonce := cfg.nonce, major := 2, minor := 0, flags := if signed then 8 else 4,
    imageBlocks := Spec.bodyLen20 cfg signed / 16,
    firstBootTagBlock := (208 + (if signed then 80 + cfg.certBlock.length else 0)) / 16,
    firstBootSectionId := (cfg.sections.head?.map (·.uid)).getD 0,
    offsetToCert := if signed then 288 else 0, headerBlocks := 6, keyBlobBlock := 8, keyBlobBlockCount := 5,
    maxSectionMacCount := (if signed then 1 else 0) + (cfg.sections.map Spec.macCount).sum,
    timestamp := cfg.timestamp, productVersion := cfg.productVersion, componentVersion := cfg.componentVersion,
    buildNumber := cfg.buildNumber }

theorem header20_facts (cfg : Cfg) (signed : Bool) (wf : Spec.WF20 cfg signed) :
    HdrOk (cfg.header20 signed) ∧ (cfg.header20 signed).toRom = hd20 cfg signed := by
  obtain ⟨wdek, wmac, wnonce, wpad, wts, wpv, wcv, wbn, wsg, wne, wsec, wlen, wmc⟩ := wf
  have ⟨e2, e3⟩ := rawSize_sum_sections cfg.sections wsec
  have e4 : headerKeysLen + cfg.certSectLen20 signed = 208 + (if signed then 80 + cfg.certBlock.length else 0) := by
    rw [headerKeysLen_eq]; cases signed <;> rfl
  have e1 : 208 + (if signed then 80 + cfg.certBlock.length else 0) + Spec.sectionsLen cfg.sections = Spec.bodyLen20 cfg signed := by
    cases signed <;> rfl
  refine ⟨⟨wnonce, wpad, (by decide : 2 < 256), (by decide : 0 < 256), ?_, ?_, ?_, head_uid_lt _ wsec, ?_,
    (by decide : 6 < 65536), (by decide : 8 < 65536), (by decide : 5 < 65536), ?_, wts, wpv, wcv, wbn⟩, ?_⟩
  · show (if signed then 8 else 4) < 65536
    cases signed <;> decide
  · show (headerKeysLen + cfg.certSectLen20 signed + (cfg.sections.map Section.rawSize).sum) / 16 < 2 ^ 32
    rw [e4, e2, e1]; exact wlen
  · show (headerKeysLen + cfg.certSectLen20 signed) / 16 < 2 ^ 32
    exact Nat.lt_of_le_of_lt (Nat.div_le_div_right (by rw [e4, ← e1]; exact Nat.le_add_right _ _)) wlen
  · show (if signed then headerKeysLen + 16 + 2 * 32 else 0) < 2 ^ 32
    cases signed <;> decide
  · show (if signed then 1 else 0) + maxMacCount cfg.sections < 65536
    rw [e3]; cases signed <;> simp only [if_true, Bool.false_eq_true, if_false] <;> omega
  · simp only [ImageHdr.toRom, Cfg.header20, hd20, e4, e2, e1, e3]
    cases signed <;> rfl

/-- the certificate section of a V2.0 file (none when unsigned) and the signature behind the sections -/
def certSect20 (c : CryptoOps) (cfg : Cfg) (signed : Bool) : Bytes :=
  if signed then buildCertSection c cfg.dek cfg.mac cfg.nonce
    (nonceCtr cfg.nonce + (pre20 c cfg (cfg.header20 signed)).length / 16) cfg.certBlock else []
def sig20 (cfg : Cfg) (signed : Bool) : Bytes := if signed then cfg.signature else []

theorem buildV20_eq (cfg : Cfg) (signed : Bool) :
    buildV20 c cfg signed = file20 c cfg (cfg.header20 signed) (certSect20 c cfg signed) (sig20 cfg signed) := rfl

theorem body20_eq (cfg : Cfg) (signed : Bool) :
    cfg.body20 c signed ++ [] = file20 c cfg (cfg.header20 signed) (certSect20 c cfg signed) [] := rfl

/-- size of the certificate section of a V2.0 file -/
def certLen20 (cfg : Cfg) (signed : Bool) : Nat := if signed then 80 + cfg.certBlock.length else 0

theorem certSect20_length (h : CryptoLaws c) (cfg : Cfg) (signed : Bool) (wf : Spec.WF20 cfg signed) :
    (certSect20 c cfg signed).length = certLen20 cfg signed ∧ certLen20 cfg signed % 16 = 0 := by
  unfold certSect20 certLen20
  cases signed
  · exact ⟨rfl, rfl⟩
  · have := certBlockOk_mod _ (wf.2.2.2.2.2.2.2.2.1 rfl).1
    simp only [if_true, buildCertSection, List.length_append, Crypto.xorBytes_length, encodeHdr_length, ksBlock_length h,
      hmac256_length h]
    omega

theorem bodyLen20_eq (cfg : Cfg) (signed : Bool) :
    Spec.bodyLen20 cfg signed = 208 + certLen20 cfg signed + Spec.sectionsLen cfg.sections := by
  unfold Spec.bodyLen20 certLen20; cases signed <;> simp only [if_true, Bool.false_eq_true, if_false] <;> omega

theorem bodyLen20_mod (h : CryptoLaws c) (cfg : Cfg) (signed : Bool) (wf : Spec.WF20 cfg signed) :
    Spec.bodyLen20 cfg signed % 16 = 0 := by
  have := (certSect20_length h cfg signed wf).2
  have := (CfgOk.of20 wf).secMod
  rw [bodyLen20_eq]; omega

/-- the two layout words of the expected V2.0 header, in bytes -/
theorem expected20_offsets (h : CryptoLaws c) (cfg : Cfg) (signed : Bool) (wf : Spec.WF20 cfg signed) :
    (Spec.expected20 cfg signed).firstBootTagBlock * 16 = 208 + certLen20 cfg signed ∧
    (Spec.expected20 cfg signed).imageBlocks * 16 = Spec.bodyLen20 cfg signed := by
  have := (certSect20_length h cfg signed wf).2
  exact ⟨show (208 + certLen20 cfg signed) / 16 * 16 = _ by omega,
    Nat.div_mul_cancel (Nat.dvd_of_mod_eq_zero (bodyLen20_mod h cfg signed wf))⟩

theorem body20_length (h : CryptoLaws c) (cfg : Cfg) (signed : Bool) (wf : Spec.WF20 cfg signed) :
    (cfg.body20 c signed).length = Spec.bodyLen20 cfg signed := by
  have ⟨lcs, mcs⟩ := certSect20_length h cfg signed wf
  rw [← List.append_nil (cfg.body20 c signed), body20_eq,
    (v20_facts h cfg _ _ [] (CfgOk.of20 wf) (header20_facts cfg signed wf).1 (by rw [lcs]; exact mcs)).len, lcs, bodyLen20_eq]
  rfl

/-- the certificate section of a signed V2.0 file as both readers address it: its encrypted header at 208 decrypts to the header
    `CertSectionV2` exports, the two MACs follow, the certificate block sits at 288 -/
theorem certSection_facts (h : CryptoLaws c) (dek mac nonce cert rest file : Bytes) (ctr : Nat)
    (hd : file.drop 208 = buildCertSection c dek mac nonce ctr cert ++ rest) :
    Rom.slice file 224 32 = hmac c .sha256 mac (Rom.slice file 208 16) ∧
    xorBytes (Rom.slice file 208 16) (ksBlock c dek nonce ctr)
      = encodeHdr ⟨Sb2Consts.tagTag, certSectionFlags, Sb2Consts.certSectionMark, cert.length / 16, 1⟩ ∧
    Rom.slice file 256 32 = hmac c .sha256 mac cert ∧ file.drop 288 = cert ++ rest ∧ Rom.slice file 288 cert.length = cert := by
  generalize hhdr : (⟨Sb2Consts.tagTag, certSectionFlags, Sb2Consts.certSectionMark, cert.length / 16, 1⟩ : CmdHdr) = hdr
  have leh : (xorBytes (encodeHdr hdr) (ksBlock c dek nonce ctr)).length = 16 := by
    rw [Crypto.xorBytes_length, encodeHdr_length, ksBlock_length h]; rfl
  generalize heh : xorBytes (encodeHdr hdr) (ksBlock c dek nonce ctr) = eh at leh
  have d0 : file.drop 208 = eh ++ (hmac c .sha256 mac eh ++ (hmac c .sha256 mac cert ++ (cert ++ rest))) := by
    rw [hd, buildCertSection, hhdr]; simp only [heh, hmac256, List.append_assoc]
  obtain ⟨s1, d1⟩ := slice_of_drop d0 leh
  obtain ⟨s2, d2⟩ := slice_of_drop d1 (hmacSha_length h mac eh)
  obtain ⟨s3, d3⟩ := slice_of_drop d2 (hmacSha_length h mac cert)
  refine ⟨by rw [s1]; exact s2, ?_, s3, d3, (slice_of_drop d3 rfl).1⟩
  rw [s1, ← heh]
  exact Crypto.xorBytes_cancel _ _ (by rw [encodeHdr_length, ksBlock_length h]; exact Nat.le_refl 16)

/-- the certificate section's header fits its slots (the block count because the whole file's does) -/
theorem certHdr_inRange {cfg : Cfg} (wf : Spec.WF20 cfg true) :
    (⟨Sb2Consts.tagTag, certSectionFlags, Sb2Consts.certSectionMark, cfg.certBlock.length / 16, 1⟩ : CmdHdr).inRange = true := by
  have hlen : (96 + 32 + 80 + (16 + 32 + 32 + cfg.certBlock.length) + Spec.sectionsLen cfg.sections) / 16 < 2 ^ 32 :=
    wf.2.2.2.2.2.2.2.2.2.2.2.1
  exact (inRange_iff _).2 ⟨(by decide : Sb2Consts.tagTag < 256), (by decide : certSectionFlags < 65536),
    (by decide : Sb2Consts.certSectionMark < 2 ^ 32), by show cfg.certBlock.length / 16 < 2 ^ 32; omega, (by decide : 1 < 2 ^ 32)⟩

/-- the end of the SB 2.0 reader: the section walk `rs`, the first section's id, and the content with the signature obligation
    `(stop, sg, cert)` -/
def finish20 (h : Rom.Hdr) (dek mac cert sg : Bytes) (stop : Nat) (rs : Except RomErr (List RomSection)) : Except RomErr Content :=
  match rs with
  | .error e => .error e
  | .ok ss =>
    match ss with
    | [] => .error .badLayout
    | s0 :: _ => if s0.uid ≠ h.firstBootSectionId then .error .badLayout else .ok (mkContent h dek mac ss stop sg cert)

/-- ROM side, any file: an unsigned V2.0 file whose header, keys and header MAC are read, and whose layout words fit -/
theorem romV20_unsigned_eq {file kek dek mac : Bytes} {h : Rom.Hdr}
    (hh : Rom.readImageHdr file = .ok h) (hmaj : h.major = 2) (hmin : h.minor = 0) (hhb : h.headerBlocks = 6)
    (hk : Rom.readKeys c kek file h = .ok (dek, mac)) (hM : Rom.slice file 96 32 = hmac c .sha256 mac (file.take 96))
    (hfl : h.flags = 4) (hkb : (h.keyBlobBlock + h.keyBlobBlockCount) * 16 = 208) (hst : h.firstBootTagBlock * 16 = 208)
    (hstop : h.imageBlocks * 16 = file.length) (hle : 208 ≤ file.length) :
    Rom.romV20 c kek file = finish20 h dek mac [] [] file.length
      (Rom.readSections c dek mac h.nonce file file.length (file.length / 16 + 1) 208) := by
  rw [Rom.romV20, hh]
  simp only [hmaj, hmin, hhb, hk, hM, hfl, hkb, hst, hstop, Spec.imageHeaderSize, Spec.macSize, Spec.flagUnsignedV20,
    List.drop_length, Nat.reduceMul]
  rw [if_neg (by decide), if_neg (by decide), if_neg (fun hne => hne rfl), if_neg (by omega), if_pos trivial, if_neg (by omega)]
  rfl

/-- ROM side, any file: a signed V2.0 file whose header, keys and header MAC are read, whose certificate section at 208 has the
    right MACs and a header that decrypts to `⟨tag, cleartext|last, "sign", |cert| / 16, 1⟩`, and whose layout words fit -/
theorem romV20_signed_eq {file kek dek mac cert sg : Bytes} {h : Rom.Hdr} {stop : Nat}
    (hh : Rom.readImageHdr file = .ok h) (hmaj : h.major = 2) (hmin : h.minor = 0) (hhb : h.headerBlocks = 6)
    (hk : Rom.readKeys c kek file h = .ok (dek, mac)) (hM : Rom.slice file 96 32 = hmac c .sha256 mac (file.take 96))
    (hfl : h.flags = 8) (hkb : (h.keyBlobBlock + h.keyBlobBlockCount) * 16 = 208) (hoc : h.offsetToCert = 288)
    (hst : h.firstBootTagBlock * 16 = 288 + cert.length) (hstop : h.imageBlocks * 16 = stop)
    (hle : 288 + cert.length ≤ stop) (hlt : stop < file.length) (hc16 : cert.length % 16 = 0)
    (c1 : Rom.slice file 224 32 = hmac c .sha256 mac (Rom.slice file 208 16))
    (c2 : Rom.readHdr (xorBytes (Rom.slice file 208 16) (Rom.ksAt c dek h.nonce 208))
      = .ok ⟨1, 0x8002, Spec.certSectionMark, cert.length / 16, 1⟩)
    (c3 : Rom.certBlockLen file 288 = .ok cert.length) (c4 : Rom.slice file 288 cert.length = cert)
    (c5 : Rom.slice file 256 32 = hmac c .sha256 mac cert) (hsg : file.drop stop = sg) :
    Rom.romV20 c kek file = finish20 h dek mac cert sg stop
      (Rom.readSections c dek mac h.nonce file stop (file.length / 16 + 1) (288 + cert.length)) := by
  rw [Rom.romV20, hh]
  simp only [hmaj, hmin, hhb, hk, hM, hfl, hkb, hoc, hst, hstop, c1, c2, c3, c4, c5, hsg, Spec.imageHeaderSize, Spec.macSize,
    Spec.flagUnsignedV20, Spec.flagSigned, Spec.tagTag, Spec.sectCleartext, Spec.sectLast, Nat.reduceMul, Nat.reduceAdd]
  have ar : ¬ file.length < 288 ∧ ¬ (cert.length / 16 * 16 ≠ cert.length ∨ 288 + cert.length ≠ 288 + cert.length) ∧
      ¬ file.length < 288 + cert.length := by omega
  rw [if_neg (by decide), if_neg (by decide), if_neg (fun hne => hne rfl),
    if_neg (fun hx => hx.elim (Nat.not_lt.2 hle) (Nat.not_lt.2 (Nat.le_of_lt hlt))), if_neg (by decide), if_pos trivial,
    if_neg ar.1, if_neg (fun hne => hne rfl), if_neg (by decide), if_neg (by decide), if_neg ar.2.1, if_neg ar.2.2,
    if_neg (fun hne => hne rfl), if_neg (Nat.ne_of_gt hlt)]
  rfl

theorem expected20_eq (cfg : Cfg) (signed : Bool) : Spec.expected20 cfg signed = mkContent (hd20 cfg signed) cfg.dek cfg.mac
    (cfg.sections.map Spec.expectedSection) (Spec.bodyLen20 cfg signed) (sig20 cfg signed) (if signed then cfg.certBlock else []) := rfl

/-- everything in front of the boot sections of a V2.0 file, and the boot sections as built behind it -/
def front20 (c : CryptoOps) (cfg : Cfg) (signed : Bool) : Bytes := pre20 c cfg (cfg.header20 signed) ++ certSect20 c cfg signed
def bsData20 (c : CryptoOps) (cfg : Cfg) (signed : Bool) : Bytes :=
  buildSections c cfg.dek cfg.mac cfg.nonce (nonceCtr cfg.nonce + (front20 c cfg signed).length / 16) cfg.sections

theorem front20_length (h : CryptoLaws c) (cfg : Cfg) (signed : Bool) (wf : Spec.WF20 cfg signed) :
    (front20 c cfg signed).length = 208 + certLen20 cfg signed := by
  rw [front20, List.length_append, (certSect20_length h cfg signed wf).1,
    (v20_front h cfg (cfg.header20 signed) [] [] [] (CfgOk.of20 wf) (header20_facts cfg signed wf).1).1]

theorem buildV20_front (h : CryptoLaws c) (cfg : Cfg) (signed : Bool) (wf : Spec.WF20 cfg signed) :
    buildV20 c cfg signed = front20 c cfg signed ++ bsData20 c cfg signed ++ sig20 cfg signed := by
  have ⟨lcs, mcs⟩ := certSect20_length h cfg signed wf
  rw [buildV20_eq, file20_eq_file20t cfg _ _ _
    (v20_front h cfg (cfg.header20 signed) [] [] [] (CfgOk.of20 wf) (header20_facts cfg signed wf).1).1 (by rw [lcs]; exact mcs)]
  rfl

/-- a V2.0 file with the builder's front and signature and any section area `B` of the right length, through the ROM -/
theorem romV20_front (h : CryptoLaws c) (cfg : Cfg) (signed : Bool) (wf : Spec.WF20 cfg signed) (B : Bytes)
    (lB : B.length = Spec.sectionsLen cfg.sections) :
    Rom.romV20 c cfg.kek (front20 c cfg signed ++ B ++ sig20 cfg signed) =
      finish20 (hd20 cfg signed) cfg.dek cfg.mac (if signed then cfg.certBlock else []) (sig20 cfg signed) (Spec.bodyLen20 cfg signed)
        (Rom.readSections c cfg.dek cfg.mac cfg.nonce (front20 c cfg signed ++ B ++ sig20 cfg signed) (Spec.bodyLen20 cfg signed)
          ((front20 c cfg signed ++ B ++ sig20 cfg signed).length / 16 + 1) (208 + certLen20 cfg signed)) := by
  show Rom.romV20 c cfg.kek (file20t c cfg (cfg.header20 signed) (certSect20 c cfg signed) B (sig20 cfg signed)) =
    finish20 _ _ _ _ _ _ (Rom.readSections c cfg.dek cfg.mac cfg.nonce
      (file20t c cfg (cfg.header20 signed) (certSect20 c cfg signed) B (sig20 cfg signed)) _
      ((file20t c cfg (cfg.header20 signed) (certSect20 c cfg signed) B (sig20 cfg signed)).length / 16 + 1) _)
  have ⟨hok, hrom⟩ := header20_facts cfg signed wf
  have ok := CfgOk.of20 wf
  have smod := ok.secMod
  have ⟨lcs, mcs⟩ := certSect20_length h cfg signed wf
  have hbl := bodyLen20_eq cfg signed
  obtain ⟨lpre, flen, ftake, fhmac, fkw, fread, fd208, fdrop⟩ :=
    v20_front h cfg (cfg.header20 signed) (certSect20 c cfg signed) B (sig20 cfg signed) ok hok
  rw [lcs, lB] at flen fdrop
  rw [hrom] at fread
  have hM : Rom.slice (file20t c cfg (cfg.header20 signed) (certSect20 c cfg signed) B (sig20 cfg signed)) 96 32 =
      hmac c .sha256 cfg.mac ((file20t c cfg (cfg.header20 signed) (certSect20 c cfg signed) B (sig20 cfg signed)).take 96) := by
    rw [fhmac, ftake]; rfl
  have hk := readKeys_ok h cfg.kek cfg.dek cfg.mac _ (hd20 cfg signed) rfl rfl (by omega) fkw ok.dek ok.mac
  generalize file20t c cfg (cfg.header20 signed) (certSect20 c cfg signed) B (sig20 cfg signed) = file at *
  cases signed
  · have e0 : certLen20 cfg false = 0 := rfl
    have lsg : (sig20 cfg false).length = 0 := rfl
    rw [e0] at flen hbl
    rw [lsg] at flen
    have := romV20_unsigned_eq fread rfl rfl rfl hk hM rfl rfl (show (208 + 0) / 16 * 16 = 208 from rfl)
      (show Spec.bodyLen20 cfg false / 16 * 16 = _ by omega) (by omega)
    rw [this, show file.length = Spec.bodyLen20 cfg false by omega]
    rfl
  · obtain ⟨wcert, wsig⟩ := wf.2.2.2.2.2.2.2.2.1 rfl
    have lsg : 0 < (sig20 cfg true).length := List.length_pos_iff.2 wsig
    rw [show certLen20 cfg true = 80 + cfg.certBlock.length from rfl] at flen hbl fdrop mcs ⊢
    rw [show certSect20 c cfg true = buildCertSection c cfg.dek cfg.mac cfg.nonce (nonceCtr cfg.nonce + 208 / 16) cfg.certBlock by
      rw [certSect20, if_pos rfl, lpre]] at fd208
    obtain ⟨c1, c2, c5, c3, c4⟩ := certSection_facts h cfg.dek cfg.mac cfg.nonce cfg.certBlock _ file _ fd208
    have c2' := readHdr_encodeHdr _ (certHdr_inRange wf) []
    rw [List.append_nil, ← c2] at c2'
    obtain ⟨a0, a1, a2, a3, a4, a5⟩ : 208 + (80 + cfg.certBlock.length) = 288 + cfg.certBlock.length ∧
        (208 + (80 + cfg.certBlock.length)) / 16 * 16 = 288 + cfg.certBlock.length ∧
        Spec.bodyLen20 cfg true / 16 * 16 = Spec.bodyLen20 cfg true ∧ 288 + cfg.certBlock.length ≤ Spec.bodyLen20 cfg true ∧
        Spec.bodyLen20 cfg true < file.length ∧ cfg.certBlock.length % 16 = 0 := by omega
    rw [a0]
    exact romV20_signed_eq (cert := cfg.certBlock) fread rfl rfl rfl hk hM rfl rfl rfl a1 a2 a3 a4 a5 c1 c2'
      (certBlockLen_embed c3 wcert) c4 c5 (by rw [hbl]; exact fdrop)

theorem bsData20_length (h : CryptoLaws c) (cfg : Cfg) (signed : Bool) (wf : Spec.WF20 cfg signed) :
    (bsData20 c cfg signed).length = Spec.sectionsLen cfg.sections :=
  buildSections_length h _ _ _ _ (CfgOk.of20 wf).sec _

theorem romV20_buildV20 (h : CryptoLaws c) (cfg : Cfg) (signed : Bool) (wf : Spec.WF20 cfg signed) :
    Rom.romV20 c cfg.kek (buildV20 c cfg signed) = .ok (Spec.expected20 cfg signed) := by
  have ok := CfgOk.of20 wf
  obtain ⟨s, rest, -, hmap, huid, -⟩ := expected_head ok
  have lF := front20_length h cfg signed wf
  have mcs := (certSect20_length h cfg signed wf).2
  have hrs : Rom.readSections c cfg.dek cfg.mac cfg.nonce (front20 c cfg signed ++ bsData20 c cfg signed ++ sig20 cfg signed) _
      ((front20 c cfg signed ++ bsData20 c cfg signed ++ sig20 cfg signed).length / 16 + 1) _ = _ :=
    readSections_buildSections h cfg.dek cfg.mac cfg.nonce (sig20 cfg signed) cfg.sections ok.sec (front20 c cfg signed)
      (by rw [lF]; omega) _ (ok.fuel (by rw [List.length_append, List.length_append, bsData20_length h cfg signed wf]; omega))
  rw [lF, ← bodyLen20_eq] at hrs
  rw [buildV20_front h cfg signed wf, romV20_front h cfg signed wf _ (bsData20_length h cfg signed wf), hrs,
    expected20_eq, hmap, finish20, if_neg (fun hne => hne huid.symm)]

/-- ROM side, any file: with a readable V2.0 header that points at a key blob which does not unwrap, the reader stops there -/
theorem romV20_of_readKeys_error {file kek : Bytes} {h : Rom.Hdr} {e : RomErr} (hh : Rom.readImageHdr file = .ok h)
    (hmaj : h.major = 2) (hmin : h.minor = 0) (hhb : h.headerBlocks = 6) (hk : Rom.readKeys c kek file h = .error e) :
    Rom.romV20 c kek file = .error e := by
  rw [Rom.romV20, hh]
  simp only [hmaj, hmin, hhb, hk]
  rw [if_neg (by decide), if_neg (by decide)]

/-- all LOAD data of the configuration is a multiple of 16 bytes long -/
def loadsAligned (cfg : Cfg) : Prop :=
  ∀ s ∈ cfg.sections, ∀ x ∈ s.cmds, ∀ a d m f, x = .load a d m f → d.length % 16 = 0

/-- the content with every command exactly as given (`Spec.viewExact`) -/
def expected21Exact (cfg : Cfg) : Rom.Content :=
  { Spec.expected21 cfg with
    sections := cfg.sections.map (fun s => { Spec.expectedSection s with cmds := s.cmds.map Spec.viewExact }) }

def expected20Exact (cfg : Cfg) (signed : Bool) : Rom.Content :=
  { Spec.expected20 cfg signed with
    sections := cfg.sections.map (fun s => { Spec.expectedSection s with cmds := s.cmds.map Spec.viewExact }) }

theorem sections_exact (cfg : Cfg) (hal : loadsAligned cfg) :
    cfg.sections.map Spec.expectedSection =
      cfg.sections.map (fun s => { Spec.expectedSection s with cmds := s.cmds.map Spec.viewExact }) := by
  apply List.map_congr_left
  intro s hs
  simp only [Spec.expectedSection]
  congr 1
  apply List.map_congr_left
  intro x hx
  exact view_eq_viewExact x (hal s hs x hx)

theorem expected21_exact (cfg : Cfg) (hal : loadsAligned cfg) : Spec.expected21 cfg = expected21Exact cfg := by
  simp only [expected21Exact, ← sections_exact cfg hal]
  rfl

theorem expected20_exact (cfg : Cfg) (signed : Bool) (hal : loadsAligned cfg) :
    Spec.expected20 cfg signed = expected20Exact cfg signed := by
  simp only [expected20Exact, ← sections_exact cfg hal]
  rfl

end SpsdkVerif.Sb2
