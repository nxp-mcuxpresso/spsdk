/- C07: CSF command codec, the assignment of data references, CSF segment round trip, XMCD header. -/
import SpsdkVerif.Proofs.HabBase

namespace SpsdkVerif.Hab
open SpsdkVerif SpsdkVerif.Misc SpsdkVerif.Generated

theorem encBlocks_length (bl : List (Nat × Nat)) : (encBlocks bl).length = 8 * bl.length := by
  induction bl with
  | nil => rfl
  | cons p r ih => obtain ⟨a, s⟩ := p; simp [encBlocks, ih]; omega

theorem encode_length (c : Cmd) : c.encode.length = c.size := by
  cases c with
  | insKey => simp [Cmd.encode, Cmd.size]
  | autDat => simp [Cmd.encode, Cmd.size, encBlocks_length]; omega
  | set => simp [Cmd.encode, Cmd.size]
  | unlock e f uid => simp only [Cmd.encode, Cmd.size]; split <;> simp
  | nop => simp [Cmd.encode, Cmd.size]

theorem decBlocks_encBlocks (bl : List (Nat × Nat)) (rest : Bytes)
    (h : ∀ p ∈ bl, p.1 < 2 ^ 32 ∧ p.2 < 2 ^ 32) :
    decBlocks bl.length (encBlocks bl ++ rest) = some bl := by
  induction bl with
  | nil => rfl
  | cons p r ih =>
    obtain ⟨a, s⟩ := p
    have ha := (h (a, s) (by simp)).1
    have hs := (h (a, s) (by simp)).2
    have ih' := ih (fun p hp => h p (by simp [hp]))
    have e1 : rdBE (be32 a ++ be32 s ++ encBlocks r ++ rest) 0 4 = some a := by
      have := rdBE_at [] (be32 s ++ encBlocks r ++ rest) 4 a 0 (by simpa using ha) rfl
      simpa [be32, List.append_assoc] using this
    have e2 : rdBE (be32 a ++ be32 s ++ encBlocks r ++ rest) 4 4 = some s := by
      have := rdBE_at (be32 a) (encBlocks r ++ rest) 4 s 4 (by simpa using hs) (by simp)
      simpa [be32, List.append_assoc] using this
    have e3 : (be32 a ++ be32 s ++ encBlocks r ++ rest).drop 8 = encBlocks r ++ rest := by
      rw [List.append_assoc]
      exact drop_append_len _ _ _ (by simp)
    simp only [List.length_cons, decBlocks, encBlocks, e1, e2, e3, ih']

/- every command starts with a header carrying its tag, its size and a one-byte parameter (`encode_hdr`) -/
def cmdTag : Cmd → Nat
  | .insKey .. => Spec.cmdINS_KEY | .autDat .. => Spec.cmdAUT_DAT | .set .. => Spec.cmdSET
  | .unlock .. => Spec.cmdUNLK | .nop _ => Spec.cmdNOP
def cmdPar : Cmd → Nat
  | .insKey fl .. => fl | .autDat fl .. => fl | .set itm .. => itm | .unlock e .. => e | .nop p => p

theorem cmdTag_lt (c : Cmd) : cmdTag c < 256 := by cases c <;> simp only [cmdTag] <;> decide

theorem cmdPar_lt (c : Cmd) (hw : c.WF) : cmdPar c < 256 := by
  cases c with
  | nop => exact hw
  | _ => exact hw.1

theorem encode_hdr (c : Cmd) : ∃ rest, c.encode = hdr (cmdTag c) c.size (cmdPar c) ++ rest := by
  cases c <;> exact ⟨_, by simp only [Cmd.encode, Cmd.size, cmdTag, cmdPar, List.append_assoc]; rfl⟩

theorem size_ge (c : Cmd) : 4 ≤ c.size := by
  cases c <;> simp only [Cmd.size] <;> first | omega | (split <;> omega)

theorem size_mod4 (c : Cmd) : c.size % 4 = 0 := by
  cases c <;> simp only [Cmd.size] <;> first | omega | (split <;> omega)

theorem size_lt (c : Cmd) (hw : c.WF) : c.size < 65536 := by
  cases c <;> simp only [Cmd.size] <;> first | omega | (split <;> omega) | (have := hw.2.2.2.2.2.2.1; omega)

theorem decode_encode (c : Cmd) (rest : Bytes) (h : c.WF) : Cmd.decode (c.encode ++ rest) = some c := by
  have hH : parseHdr (c.encode ++ rest) = some (cmdTag c, c.size, cmdPar c) := by
    obtain ⟨tl, e⟩ := encode_hdr c
    rw [e, List.append_assoc]
    exact parseHdr_hdr _ _ _ _ (cmdTag_lt c) (size_lt c h) (cmdPar_lt c h)
  unfold Cmd.decode
  rw [hH]
  cases c with
  | insKey fl cf alg src tgt loc =>
    obtain ⟨h1, h2, h3, h4, h5, h6⟩ := h
    have d : ((Cmd.insKey fl cf alg src tgt loc).encode ++ rest).drop 4 =
        u8 cf :: u8 alg :: u8 src :: u8 tgt :: (be32 loc ++ rest) := by simp [Cmd.encode, hdr, be16_eq]
    have r : rdBE (be32 loc ++ rest) 0 4 = some loc := rdBE_at [] rest 4 loc 0 (by simpa using h6) rfl
    simp (config := { decide := true }) only [cmdTag, cmdPar, d, r, u8_toNat _ h2, u8_toNat _ h3, u8_toNat _ h4,
      u8_toNat _ h5, ↓reduceIte, Option.map_some]
  | autDat fl key sf eng cfg loc bl =>
    obtain ⟨h1, h2, h3, h4, h5, h6, h7, h8⟩ := h
    have d : ((Cmd.autDat fl key sf eng cfg loc bl).encode ++ rest).drop 4 =
        u8 key :: u8 sf :: u8 eng :: u8 cfg :: (be32 loc ++ (encBlocks bl ++ rest)) := by
      simp [Cmd.encode, hdr, be16_eq]
    have r : rdBE (be32 loc ++ (encBlocks bl ++ rest)) 0 4 = some loc :=
      rdBE_at [] (encBlocks bl ++ rest) 4 loc 0 (by simpa using h6) rfl
    have d' : (be32 loc ++ (encBlocks bl ++ rest)).drop 4 = encBlocks bl ++ rest := drop_append_len _ _ _ (by simp)
    have n : (12 + 8 * bl.length - 12 + 7) / 8 = bl.length := by omega
    simp (config := { decide := true }) only [cmdTag, cmdPar, Cmd.size, d, r, d', n, decBlocks_encBlocks bl rest h8,
      u8_toNat _ h2, u8_toNat _ h3, u8_toNat _ h4, u8_toNat _ h5, ↓reduceIte]
  | set itm alg eng cfg =>
    obtain ⟨h1, h2, h3, h4⟩ := h
    have d : ((Cmd.set itm alg eng cfg).encode ++ rest).drop 4 = 0 :: u8 alg :: u8 eng :: u8 cfg :: rest := by
      simp [Cmd.encode, hdr, be16_eq]
    simp (config := { decide := true }) only [cmdTag, cmdPar, d, u8_toNat _ h2, u8_toNat _ h3, u8_toNat _ h4, ↓reduceIte]
  | unlock e f uid =>
    obtain ⟨h1, h2, h3, h4⟩ := h
    have r1 : rdBE ((Cmd.unlock e f uid).encode ++ rest) 4 4 = some f := by
      rw [Cmd.encode, List.append_assoc]
      exact rdBE_at _ _ 4 f 4 (by simpa using h2) (by simp)
    by_cases hu : needUid e f = true
    · have r2 : rdBE ((Cmd.unlock e f uid).encode ++ rest) 8 8 = some uid := by
        simp only [Cmd.encode, hu, ↓reduceIte]
        exact rdBE_at _ rest 8 uid 8 (by simpa using h3) (by simp)
      simp (config := { decide := true }) only [cmdTag, cmdPar, r1, r2, hu, ↓reduceIte, Option.map_some]
    · have hu' : needUid e f = false := by simpa using hu
      obtain rfl := h4 hu'
      simp (config := { decide := true }) only [cmdTag, cmdPar, r1, hu', ↓reduceIte, Bool.false_eq_true]
  | nop p => simp (config := { decide := true }) only [cmdTag, cmdPar, ↓reduceIte]

/-- the bytes `encData` emits for one command -/
def dataOf (c : CsfCmd) : Bytes :=
  if needsRef c.cmd then (match c.data with | some d => padAlign d 4 | none => []) else []

/-- what `assignLocs` makes of one command when the running offset is `cur` -/
def reloc (cur : Nat) (c : CsfCmd) : CsfCmd :=
  if needsRef c.cmd then { c with cmd := c.cmd.setLoc (if c.data.isSome then cur else 0) } else c

theorem encData_cons (c : CsfCmd) (r : List CsfCmd) : encData (c :: r) = dataOf c ++ encData r := rfl

theorem assignLocs_cons (cur : Nat) (c : CsfCmd) (r : List CsfCmd) :
    assignLocs cur (c :: r) = reloc cur c :: assignLocs (cur + (dataOf c).length) r := by
  unfold reloc dataOf
  rw [assignLocs]
  split
  · cases c.data <;> simp [padAlign_length]
  · rfl

theorem setLoc_size (c : Cmd) (x : Nat) : (c.setLoc x).size = c.size := by cases c <;> rfl
theorem needsRef_setLoc (c : Cmd) (x : Nat) : needsRef (c.setLoc x) = needsRef c := by cases c <;> rfl
theorem setLoc_setLoc (c : Cmd) (x y : Nat) : (c.setLoc x).setLoc y = c.setLoc y := by cases c <;> rfl
theorem loc_setLoc (c : Cmd) (x : Nat) (h : needsRef c = true) : (c.setLoc x).loc = x := by
  cases c <;> first | rfl | (simp [needsRef] at h)

theorem setLoc_WF (c : Cmd) (x : Nat) (h : c.WF) (hx : x < 2 ^ 32) : (c.setLoc x).WF := by
  cases c with
  | insKey => obtain ⟨h1, h2, h3, h4, h5, _⟩ := h; exact ⟨h1, h2, h3, h4, h5, hx⟩
  | autDat => obtain ⟨h1, h2, h3, h4, h5, _, h7⟩ := h; exact ⟨h1, h2, h3, h4, h5, hx, h7⟩
  | _ => exact h

@[simp] theorem reloc_data (cur : Nat) (c : CsfCmd) : (reloc cur c).data = c.data := by unfold reloc; split <;> rfl
@[simp] theorem reloc_size (cur : Nat) (c : CsfCmd) : (reloc cur c).cmd.size = c.cmd.size := by
  unfold reloc; split <;> simp [setLoc_size]
@[simp] theorem reloc_needsRef (cur : Nat) (c : CsfCmd) : needsRef (reloc cur c).cmd = needsRef c.cmd := by
  unfold reloc; split <;> simp [needsRef_setLoc]
@[simp] theorem dataOf_reloc (cur : Nat) (c : CsfCmd) : dataOf (reloc cur c) = dataOf c := by simp [dataOf]
@[simp] theorem reloc_reloc (m n : Nat) (c : CsfCmd) : reloc m (reloc n c) = reloc m c := by
  unfold reloc; split <;> simp_all [needsRef_setLoc, setLoc_setLoc]
theorem reloc_of_noref (cur : Nat) (c : CsfCmd) (h : needsRef c.cmd = false) : reloc cur c = c := by simp [reloc, h]

theorem reloc_WF (cur : Nat) (c : CsfCmd) (h : c.cmd.WF) (hx : cur < 2 ^ 32) : (reloc cur c).cmd.WF := by
  unfold reloc; split
  · exact setLoc_WF _ _ h (by split <;> omega)
  · exact h

theorem dataOf_length_mod (c : CsfCmd) : (dataOf c).length % 4 = 0 := by
  unfold dataOf
  split
  · cases c.data with
    | none => rfl
    | some d => simp only [padAlign_length _ _ (show 0 < 4 by decide)]; exact alignUp_mod _ _
  · rfl

theorem cmdsSize_assignLocs (n : Nat) (l : List CsfCmd) : cmdsSize (assignLocs n l) = cmdsSize l := by
  induction l generalizing n with
  | nil => rfl
  | cons c r ih => simp [assignLocs_cons, cmdsSize, ih]

theorem csfHdrLen_assignLocs (n : Nat) (l : List CsfCmd) : csfHdrLen (assignLocs n l) = csfHdrLen l := by
  simp [csfHdrLen, cmdsSize_assignLocs]

theorem encCmds_length (l : List CsfCmd) : (encCmds l).length = cmdsSize l := by
  induction l with
  | nil => rfl
  | cons c r ih => simp [encCmds, cmdsSize, ih, encode_length]

theorem encData_assignLocs (n : Nat) (l : List CsfCmd) : encData (assignLocs n l) = encData l := by
  induction l generalizing n with
  | nil => rfl
  | cons c r ih => simp [assignLocs_cons, encData_cons, ih]

theorem assignLocs_idem (m n : Nat) (l : List CsfCmd) : assignLocs m (assignLocs n l) = assignLocs m l := by
  induction l generalizing m n with
  | nil => rfl
  | cons c r ih => simp [assignLocs_cons, ih]

theorem cmdsSize_mod4 (l : List CsfCmd) : cmdsSize l % 4 = 0 := by
  induction l with
  | nil => rfl
  | cons c r ih => have := size_mod4 c.cmd; simp only [cmdsSize]; omega

theorem csfHdrLen_mod4 (l : List CsfCmd) : csfHdrLen l % 4 = 0 := by
  have := cmdsSize_mod4 l; unfold csfHdrLen; omega

theorem length_le_cmdsSize (l : List CsfCmd) : l.length ≤ cmdsSize l := by
  induction l with
  | nil => simp [cmdsSize]
  | cons c r ih => have := size_ge c.cmd; simp only [List.length_cons, cmdsSize]; omega

theorem csfBase_length (version : Nat) (cmds : List CsfCmd) : (csfBase version cmds).length = csfHdrLen cmds := by
  simp [csfBase, encCmds_length, cmdsSize_assignLocs, csfHdrLen]

theorem csfBytes_eq (version : Nat) (cmds : List CsfCmd) : ∃ k, csfBytes version cmds =
    hdr Spec.tagCSF (csfHdrLen cmds) version ++ encCmds (assignLocs (csfHdrLen cmds) cmds) ++ encData cmds ++ zeros k :=
  ⟨_, rfl⟩

theorem CsfWF.fit {version : Nat} {cmds : List CsfCmd} (h : CsfWF version cmds) :
    4 ≤ csfHdrLen cmds ∧ csfHdrLen cmds + (encData cmds).length ≤ 8192 := by
  have := h.2.2
  rw [List.length_append, csfBase_length] at this
  exact ⟨Nat.le_add_right _ _, this⟩

theorem csfBytes_length (version : Nat) (cmds : List CsfCmd) (h : CsfWF version cmds) :
    (csfBytes version cmds).length = HabConsts.csfSize := by
  have h4 := h.fit
  unfold csfBytes
  rw [padAlign_length _ _ (by decide), List.length_append, csfBase_length]
  show alignUp _ 8192 = 8192
  unfold alignUp
  omega

theorem csfBytes_assignLocs (version : Nat) (cmds : List CsfCmd) :
    csfBytes version (assignLocs (csfHdrLen cmds) cmds) = csfBytes version cmds := by
  simp only [csfBytes, csfBase, csfHdrLen_assignLocs, assignLocs_idem, encData_assignLocs]

theorem assignLocs_WF (cur : Nat) (l : List CsfCmd) (hw : ∀ c ∈ l, c.cmd.WF)
    (hb : cur + (encData l).length < 2 ^ 32) : ∀ c ∈ assignLocs cur l, c.cmd.WF := by
  induction l generalizing cur with
  | nil => intro c hc; cases hc
  | cons a r ih =>
    rw [encData_cons, List.length_append] at hb
    rw [assignLocs_cons, List.forall_mem_cons]
    exact ⟨reloc_WF _ _ (hw a (by simp)) (by omega), ih _ (fun c hc => hw c (by simp [hc])) (by omega)⟩

theorem CsfWF.assigned {version : Nat} {cmds : List CsfCmd} (h : CsfWF version cmds) :
    ∀ c ∈ assignLocs (csfHdrLen cmds) cmds, c.cmd.WF :=
  assignLocs_WF _ _ (fun c hc => (h.2.1 c hc).1) (by have := h.fit; omega)

theorem parseCmds_encCmds (l : List CsfCmd) (fuel : Nat) (rest : Bytes) (hw : ∀ c ∈ l, c.cmd.WF)
    (hf : l.length ≤ fuel) :
    parseCmds fuel (encCmds l ++ rest) (cmdsSize l) = .ok (l.map (·.cmd)) := by
  induction l generalizing fuel with
  | nil => cases fuel <;> simp [parseCmds, cmdsSize]
  | cons c r ih =>
    obtain ⟨f, rfl⟩ : ∃ f, fuel = f + 1 := ⟨fuel - 1, by simp at hf; omega⟩
    have hs := size_ge c.cmd
    have h0 : ¬ (c.cmd.size + cmdsSize r = 0) := by omega
    have d : (c.cmd.encode ++ (encCmds r ++ rest)).drop c.cmd.size = encCmds r ++ rest :=
      drop_append_len _ _ _ (encode_length _).symm
    have ih' := ih f (fun c hc => hw c (by simp [hc])) (by simp at hf; omega)
    simp only [encCmds, List.append_assoc, parseCmds, cmdsSize, h0, ↓reduceIte, decode_encode _ _ (hw c (by simp)), d,
      Nat.add_sub_cancel_left, ih', List.map_cons]

/-- a block that starts with a header carrying its own length is cut out, with no tag expected or with its own -/
theorem parseBlock_hdr (d tail body : Bytes) (t p : Nat) (tag : Option Nat) (hl : d.length < 65536) (ht : t < 256)
    (hp : p < 256) (hd : d = hdr t d.length p ++ body) (htag : tag = none ∨ tag = some t) :
    parseBlock (d ++ tail) tag = .ok d := by
  have e : parseHdr (d ++ tail) = some (t, d.length, p) := by
    conv => lhs; rw [hd, List.append_assoc]
    exact parseHdr_hdr _ _ _ _ ht hl hp
  unfold parseBlock
  rw [e]
  rcases htag with rfl | rfl <;> simp

theorem mapM_parseCmdData (l : List CsfCmd) (cur : Nat) (pre post full : Bytes) (hp : pre.length = cur)
    (hfull : full = pre ++ encData l ++ post)
    (hw : ∀ c ∈ l, (needsRef c.cmd = true → ∃ d, c.data = some d ∧ BlobWF d) ∧ (needsRef c.cmd = false → c.data = none)) :
    mapM' (parseCmdData full) ((assignLocs cur l).map (·.cmd)) = .ok (assignLocs cur l) := by
  induction l generalizing cur pre with
  | nil => rfl
  | cons a r ih =>
    have ih' := ih (cur + (dataOf a).length) (pre ++ dataOf a) (by rw [List.length_append, hp])
      (by rw [hfull, encData_cons]; simp only [List.append_assoc]) (fun c hc => hw c (by simp [hc]))
    have e1 : parseCmdData full (reloc cur a).cmd = .ok (reloc cur a) := by
      unfold parseCmdData
      by_cases hr : needsRef a.cmd = true
      · obtain ⟨d, hd, hl, t, p, body, ht, hp256, he⟩ := (hw a (by simp)).1 hr
        have hdrop : full.drop cur = d ++ (zeros (alignUp d.length 4 - d.length) ++ (encData r ++ post)) := by
          rw [hfull, encData_cons, List.append_assoc, List.append_assoc, drop_append_len _ _ _ hp.symm]
          simp [dataOf, hr, hd, padAlign]
        simp only [reloc, hr, hd, ↓reduceIte, needsRef_setLoc, loc_setLoc _ _ hr, Option.isSome_some, hdrop,
          parseBlock_hdr d _ body t p none hl ht hp256 he (.inl rfl)]
      · have hr' : needsRef a.cmd = false := by simpa using hr
        rw [reloc_of_noref _ _ hr', hr', ← (hw a (by simp)).2 hr']
        rfl
    simp only [assignLocs_cons, List.map_cons, mapM', e1, ih']

theorem parseCsf_csfBytes (version : Nat) (cmds : List CsfCmd) (h : CsfWF version cmds) :
    parseCsf (csfBytes version cmds) = .ok (version, assignLocs (csfHdrLen cmds) cmds) := by
  obtain ⟨h4, hfit⟩ := h.fit
  obtain ⟨k, e⟩ := csfBytes_eq version cmds
  have hH : parseHdr (csfBytes version cmds) = some (Spec.tagCSF, csfHdrLen cmds, version) := by
    rw [e, List.append_assoc, List.append_assoc]; exact parseHdr_hdr _ _ _ _ (by decide) (by omega) h.1
  have hC : parseCmds (csfHdrLen cmds) ((csfBytes version cmds).drop 4) (csfHdrLen cmds - 4) =
      .ok ((assignLocs (csfHdrLen cmds) cmds).map (·.cmd)) := by
    rw [e, List.append_assoc, List.append_assoc, drop_append_len _ _ 4 (hdr_length _ _ _).symm,
      show csfHdrLen cmds - 4 = cmdsSize (assignLocs (csfHdrLen cmds) cmds) by
        rw [cmdsSize_assignLocs]; exact Nat.add_sub_cancel_left 4 _]
    apply parseCmds_encCmds _ _ _ h.assigned
    have := length_le_cmdsSize (assignLocs (csfHdrLen cmds) cmds)
    rw [cmdsSize_assignLocs] at this
    exact Nat.le_trans this (Nat.le_add_left _ _)
  have hM := mapM_parseCmdData cmds (csfHdrLen cmds) (csfBase version cmds) (zeros k) _ (csfBase_length _ _) e
    (fun c hc => (h.2.1 c hc).2)
  unfold parseCsf
  simp only [hH, hC, hM, ne_eq, not_true_eq_false, ↓reduceIte]

/- `CsfWF`, executable (for concrete command lists) -/

def blobWFb (d : Bytes) : Bool :=
  match d with
  | t :: _ :: _ :: p :: body => decide (d.length < 65536) && d == hdr t.toNat d.length p.toNat ++ body
  | _ => false

theorem blobWFb_sound (d : Bytes) (h : blobWFb d = true) : BlobWF d := by
  unfold blobWFb at h
  split at h
  · next t a b p body =>
    simp only [Bool.and_eq_true, decide_eq_true_eq, beq_iff_eq] at h
    exact ⟨h.1, t.toNat, p.toNat, body, t.toNat_lt, p.toNat_lt, h.2⟩
  · cases h

instance (c : Cmd) : Decidable c.WF := by cases c <;> unfold Cmd.WF <;> infer_instance

def csfWFb (version : Nat) (cmds : List CsfCmd) : Bool :=
  decide (version < 256) &&
  cmds.all (fun c => decide c.cmd.WF &&
    (if needsRef c.cmd then (match c.data with | some d => blobWFb d | none => false) else c.data.isNone)) &&
  decide ((csfBase version cmds ++ encData cmds).length ≤ HabConsts.csfSize)

theorem csfWFb_sound (version : Nat) (cmds : List CsfCmd) (h : csfWFb version cmds = true) : CsfWF version cmds := by
  simp only [csfWFb, Bool.and_eq_true, decide_eq_true_eq, List.all_eq_true] at h
  refine ⟨h.1.1, fun c hc => ?_, h.2⟩
  obtain ⟨hw, hr⟩ := h.1.2 c hc
  refine ⟨hw, fun hn => ?_, fun hn => ?_⟩
  · rw [if_pos hn] at hr
    cases hd : c.data with
    | none => rw [hd] at hr; cases hr
    | some d => rw [hd] at hr; exact ⟨d, rfl, blobWFb_sound d hr⟩
  · rw [hn] at hr; simpa using hr

theorem xmcdByte0_eq (n : Nat) : natOf (HabFuns.xmcdHdrByte0 (n : Int)) = n % 256 := by
  unfold HabFuns.xmcdHdrByte0
  py_bits

theorem xmcdByte1_eq (t n : Nat) : natOf (HabFuns.xmcdHdrByte1 (t : Int) (n : Int)) = t * 16 + n / 256 := by
  unfold HabFuns.xmcdHdrByte1
  py_bits

theorem xmcdByte2_eq (i j : Nat) (hi : i ≤ 1) (hj : j < 16) :
    natOf (HabFuns.xmcdHdrByte2 (i : Int) (j : Int)) = i * 16 + j := by
  have : ∀ (a : Fin 2) (b : Fin 16),
      natOf (HabFuns.xmcdHdrByte2 ((a.val : Nat) : Int) ((b.val : Nat) : Int)) = a.val * 16 + b.val := by decide
  exact this ⟨i, by omega⟩ ⟨j, hj⟩

theorem xmcdByte3_eq : natOf (HabFuns.xmcdHdrByte3 (HabConsts.xmcdHeaderTag : Nat) 0) = 192 := by decide

theorem xmcdHdr_canon (L type iface inst : Nat) (hi : iface ≤ 1) (hj : inst < 16) :
    xmcdHdr L type iface inst = [u8 (L % 256), u8 (type * 16 + L / 256), u8 (iface * 16 + inst), 0xC0] := by
  unfold xmcdHdr
  rw [xmcdByte0_eq, xmcdByte1_eq, xmcdByte2_eq _ _ hi hj, xmcdByte3_eq]
  rfl

theorem XmcdWF.shape {x : Bytes} (h : XmcdWF x) :
    ∃ lo ts ii body, x = lo :: ts :: ii :: (0xC0 : UInt8) :: body ∧ ii.toNat / 16 ≤ 1 ∧ ts.toNat / 16 ≤ 1 ∧
      ts.toNat % 16 * 256 + lo.toNat = 4 + body.length ∧
      xmcdHdr (4 + body.length) (ts.toNat / 16) (ii.toNat / 16) (ii.toNat % 16) = [lo, ts, ii, 0xC0] := by
  obtain ⟨h1, type, iface, inst, body, ht, hi, hj, hx⟩ := h
  have hL : x.length = 4 + body.length := by rw [hx]; simp; omega
  generalize x.length = L at hx hL h1
  have hq : L / 256 < 16 := Nat.div_lt_of_lt_mul h1
  obtain ⟨d1, d1'⟩ := nibbles type (L / 256) hq
  obtain ⟨d2, d2'⟩ := nibbles iface inst hj
  have e0 : (u8 (L % 256)).toNat = L % 256 := u8_toNat _ (Nat.mod_lt _ (by decide))
  have e1 : (u8 (type * 16 + L / 256)).toNat = type * 16 + L / 256 := u8_toNat _ (by omega)
  have e2 : (u8 (iface * 16 + inst)).toNat = iface * 16 + inst := u8_toNat _ (by omega)
  refine ⟨_, _, _, body, hx, ?_, ?_, ?_, ?_⟩
  · rw [e2, d2]; exact hi
  · rw [e1, d1]; exact ht
  · rw [e1, e0, d1', ← hL]; exact Nat.div_add_mod' L 256
  · rw [e1, e2, d1, d2, d2', ← hL, xmcdHdr_canon L _ _ _ hi hj]

theorem xmcdLoad_id (x : Bytes) (h : XmcdWF x) : xmcdLoad x = .ok x := by
  obtain ⟨lo, ts, ii, body, rfl, h1, h2, h3, h4⟩ := h.shape
  have g2 : ¬ (ii.toNat / 16 > 1 ∨ ts.toNat / 16 > 1) := by omega
  have g3 : ¬ (ts.toNat % 16 * 256 + lo.toNat ≠ (lo :: ts :: ii :: (0xC0 : UInt8) :: body).length) := by
    simp only [List.length_cons]; omega
  simp (config := { decide := true }) only [xmcdLoad, HabConsts.xmcdHeaderSize, g2, g3, h4, ↓reduceIte]
  rfl

theorem parseXmcd_at (x pre rest : Bytes) (h : XmcdWF x) (hp : pre.length = HabConsts.xmcdSegOffset) :
    parseXmcd (pre ++ x ++ rest) = .ok (some x) := by
  obtain ⟨lo, ts, ii, body, rfl, h1, h2, h3, h4⟩ := h.shape
  have g2 : ¬ (ii.toNat / 16 > 1 ∨ ts.toNat / 16 > 1) := by omega
  have d : (pre ++ (lo :: ts :: ii :: (0xC0 : UInt8) :: body) ++ rest).drop HabConsts.xmcdSegOffset =
      lo :: ts :: ii :: (0xC0 : UInt8) :: (body ++ rest) := by
    rw [List.append_assoc, drop_append_len _ _ _ hp.symm]; rfl
  have k : (body ++ rest).take (ts.toNat % 16 * 256 + lo.toNat - 4) = body := by
    rw [h3]; exact take_append_len _ _ _ (by omega)
  unfold parseXmcd
  rw [d]
  simp (config := { decide := true }) only [HabConsts.xmcdHeaderSize, g2, k, h4, ↓reduceIte]
  rfl

end SpsdkVerif.Hab
