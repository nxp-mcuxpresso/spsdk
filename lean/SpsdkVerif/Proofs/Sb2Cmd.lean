/-
C04 helper lemmas, command layer: integer codecs, command header encode/decode, the 13 commands through SPSDK's parser model
(`decodeCmd`) and through the ROM model (`Rom.readCmd`), command streams.
-/
import SpsdkVerif.Model.Sb2
import SpsdkVerif.Model.Sb2Spec
import SpsdkVerif.Proofs.Crypto
import SpsdkVerif.Proofs.ByteCodec

/- `swap16_nat`, `bitLenF_le` are also in Proofs/Misc.lean (C20), which the C04 files do not import: it holds lemmas
   about the generated integer helpers of C20 (`Generated/PyFuns.lean`), and a change of `align`/`check_range`/… in /repo must not
   stop the C04 theorems from compiling. -/
namespace SpsdkVerif.Sb2.Base
open SpsdkVerif SpsdkVerif.Misc

theorem swap16_nat (k : Nat) (h : k < 65536) :
    ((k <<< 8) &&& 65280) ||| ((k >>> 8) &&& 255) = k % 256 * 256 + k / 256 := by
  have e1 : (k <<< 8) &&& 65280 = (k % 256) <<< 8 := by
    have : (65280 : Nat) = 255 <<< 8 := by decide
    rw [this, ← Nat.shiftLeft_and_distrib]
    have : (255 : Nat) = 2 ^ 8 - 1 := by decide
    rw [this, Nat.and_two_pow_sub_one_eq_mod]
  have e2 : (k >>> 8) &&& 255 = k / 256 := by
    have : (255 : Nat) = 2 ^ 8 - 1 := by decide
    rw [this, Nat.and_two_pow_sub_one_eq_mod, Nat.shiftRight_eq_div_pow]
    omega
  rw [e1, e2, ← Nat.shiftLeft_add_eq_or_of_lt (by omega), Nat.shiftLeft_eq]

theorem bitLenF_le (f x n : Nat) (h : x < 2 ^ n) : bitLenF f x ≤ n := by
  induction f generalizing x n with
  | zero => simp [bitLenF]
  | succ f ih =>
    by_cases hx : x = 0
    · simp [bitLenF, hx]
    · simp only [bitLenF, hx, if_false]
      cases n with
      | zero => simp at h; omega
      | succ m =>
        have := ih (x / 2) m (by rw [Nat.pow_succ] at h; omega)
        omega

end SpsdkVerif.Sb2.Base

namespace SpsdkVerif.Sb2
open SpsdkVerif SpsdkVerif.Sb2.Rom
open SpsdkVerif.Misc (Bytes beEnc beDec leEnc leDec bitLen leEnc_length leDec_leEnc)
open SpsdkVerif.Crypto (xorBytes zeroPad16 zeros)
open SpsdkVerif.Generated

theorem beDec_leEnc2 (w : Nat) (h : w < 65536) : beDec (leEnc 2 w) = swap16 w := by
  rw [show swap16 w = _ from Base.swap16_nat w h]
  simp only [leEnc, beEnc, beDec, List.nil_append, List.singleton_append, List.reverse_cons, List.reverse_nil,
    List.foldl_cons, List.foldl_nil, UInt8.toNat_ofNat']
  omega

theorem swap16_swap16 (v : Nat) (h : v < 65536) : swap16 v < 65536 ∧ swap16 (swap16 v) = v := by
  have e : swap16 v = _ := Base.swap16_nat v h
  have hlt : swap16 v < 65536 := by omega
  exact ⟨hlt, by rw [show swap16 (swap16 v) = _ from Base.swap16_nat _ hlt, e]; omega⟩

/-- BCD version words are stored byte-swapped: the ROM reads them big-endian, SPSDK's parser swaps them back -/
theorem beDec_leEnc_swap16 (v : Nat) (h : v < 65536) : beDec (leEnc 2 (swap16 v)) = v := by
  rw [beDec_leEnc2 _ (swap16_swap16 v h).1, (swap16_swap16 v h).2]

theorem swap16_leDec_leEnc (v : Nat) (h : v < 65536) : swap16 (leDec (leEnc 2 (swap16 v))) = v := by
  rw [leDec_leEnc 2 _ (swap16_swap16 v h).1, (swap16_swap16 v h).2]

theorem zeroPad16_length (d : Bytes) : (zeroPad16 d).length = (d.length + 15) / 16 * 16 := by
  simp [zeroPad16, Crypto.zeroPad, zeros]
  omega

theorem zeroPad16_eq_pad16 (d : Bytes) : zeroPad16 d = Spec.pad16 d := by
  simp [zeroPad16, Crypto.zeroPad, Spec.pad16]

theorem zeroPad16_idem (d : Bytes) : zeroPad16 (zeroPad16 d) = zeroPad16 d := by
  unfold zeroPad16
  exact Crypto.zeroPad_of_aligned 16 _ (Crypto.zeroPad16_length_mod d)

theorem align16_of_mod {x : Nat} (h : x % 16 = 0) : align16 x = x := by unfold align16; omega

/-- everything of a raw header behind the checksum byte -/
def hdrTail (h : CmdHdr) : Bytes :=
  u8 h.tag :: (leEnc 2 h.flags ++ (leEnc 4 h.address ++ (leEnc 4 h.count ++ leEnc 4 h.data)))

theorem rawHdr_eq (c : Nat) (h : CmdHdr) : rawHdr c h = u8 c :: hdrTail h := by
  simp [rawHdr, hdrTail]

theorem hdrTail_length (h : CmdHdr) : (hdrTail h).length = 15 := by
  simp [hdrTail, leEnc_length]

theorem checksum_fold (l : Bytes) (acc : Nat) (ha : acc < 256) :
    l.foldl (fun acc x => (acc + x.toNat) &&& 255) acc = (acc + sumBytes l) % 256 := by
  induction l generalizing acc with
  | nil => simp [sumBytes]; omega
  | cons x l ih =>
    have e : (acc + x.toNat) &&& 255 = (acc + x.toNat) % 256 :=
      Nat.and_two_pow_sub_one_eq_mod (acc + x.toNat) 8
    rw [List.foldl_cons, e, ih _ (Nat.mod_lt _ (by omega))]
    simp only [sumBytes, List.map_cons, List.sum_cons]
    omega

theorem checksum_eq (raw : Bytes) : checksum raw = (90 + sumBytes (raw.drop 1)) % 256 := by
  simp only [checksum, Sb2Consts.checksumStart, Sb2Consts.checksumMask, Sb2Consts.checksumSeed]
  exact checksum_fold _ 90 (by omega)

theorem checksum_lt (raw : Bytes) : checksum raw < 256 := by
  rw [checksum_eq]; omega

theorem leDec_single (x : UInt8) : leDec [x] = x.toNat := by simp [leDec, beDec]

theorem splitW_flatten (pieces : List Bytes) (ws : List Nat) (hw : pieces.map List.length = ws) (rest : Bytes) :
    Rom.splitW ws (pieces.flatten ++ rest) = some pieces := by
  subst hw
  induction pieces with
  | nil => rfl
  | cons p ps ih =>
    simp only [List.map_cons, List.flatten_cons, Rom.splitW, List.append_assoc]
    rw [if_neg (by simp), List.drop_left, ih, List.take_left]

/-- field access into a 16-byte header written as six consecutive pieces -/
theorem hdr_layout (x0 x1 : UInt8) (f2 fa fb fc rest : Bytes)
    (h2 : f2.length = 2) (ha : fa.length = 4) (hb : fb.length = 4) (hc : fc.length = 4) :
    let d := x0 :: x1 :: (f2 ++ (fa ++ (fb ++ (fc ++ rest))))
    d.getD 0 0 = x0 ∧ d.getD 1 0 = x1 ∧ (d.drop 2).take 2 = f2 ∧ (d.drop 4).take 4 = fa ∧
    (d.drop 8).take 4 = fb ∧ (d.drop 12).take 4 = fc ∧ d.take 16 = x0 :: x1 :: (f2 ++ (fa ++ (fb ++ fc))) ∧
    Rom.splitW [1, 1, 2, 4, 4, 4] d = some [[x0], [x1], f2, fa, fb, fc] := by
  have d4 : (x0 :: x1 :: (f2 ++ (fa ++ (fb ++ (fc ++ rest))))).drop 4 = fa ++ (fb ++ (fc ++ rest)) := List.drop_left' h2
  have d8 : (x0 :: x1 :: (f2 ++ (fa ++ (fb ++ (fc ++ rest))))).drop 8 = fb ++ (fc ++ rest) := by
    rw [show 8 = 4 + 4 from rfl, ← List.drop_drop, d4]; exact List.drop_left' ha
  have d12 : (x0 :: x1 :: (f2 ++ (fa ++ (fb ++ (fc ++ rest))))).drop 12 = fc ++ rest := by
    rw [show 12 = 8 + 4 from rfl, ← List.drop_drop, d8]; exact List.drop_left' hb
  have l16 : (x0 :: x1 :: (f2 ++ (fa ++ (fb ++ fc)))).length = 16 := by
    simp only [List.length_cons, List.length_append, h2, ha, hb, hc]
  refine ⟨rfl, rfl, List.take_left' h2, by rw [d4]; exact List.take_left' ha, by rw [d8]; exact List.take_left' hb,
    by rw [d12]; exact List.take_left' hc, ?_, ?_⟩
  · rw [← List.take_left' (l₂ := rest) l16]; simp only [List.cons_append, List.append_assoc]
  · have e : x0 :: x1 :: (f2 ++ (fa ++ (fb ++ (fc ++ rest)))) = [[x0], [x1], f2, fa, fb, fc].flatten ++ rest := by
      simp only [List.flatten_cons, List.flatten_nil, List.append_nil, List.cons_append, List.nil_append, List.append_assoc]
    rw [e]; exact splitW_flatten _ _ (by simp only [List.map_cons, List.map_nil, List.length_cons, List.length_nil, h2, ha, hb, hc]) rest

theorem rawHdr_length (c : Nat) (h : CmdHdr) : (rawHdr c h).length = 16 := by
  simp [rawHdr, leEnc_length]

theorem encodeHdr_length (h : CmdHdr) : (encodeHdr h).length = 16 := by
  simp [encodeHdr, rawHdr_length]

theorem inRange_iff (h : CmdHdr) : h.inRange = true ↔
    h.tag < 256 ∧ h.flags < 65536 ∧ h.address < 2 ^ 32 ∧ h.count < 2 ^ 32 ∧ h.data < 2 ^ 32 := by
  simp [CmdHdr.inRange, and_assoc]

theorem u8_toNat (n : Nat) (h : n < 256) : (u8 n).toNat = n := by
  simp [u8, Nat.mod_eq_of_lt h]

theorem encodeHdr_append (h : CmdHdr) (rest : Bytes) :
    encodeHdr h ++ rest = u8 (checksum (rawHdr 0 h)) :: u8 h.tag ::
      (leEnc 2 h.flags ++ (leEnc 4 h.address ++ (leEnc 4 h.count ++ (leEnc 4 h.data ++ rest)))) := by
  simp [encodeHdr, rawHdr]

/-- SPSDK's `CmdHeader.parse(export())` -/
theorem decodeHdr_encodeHdr (h : CmdHdr) (hr : h.inRange = true) (rest : Bytes) :
    decodeHdr (encodeHdr h ++ rest) = .ok h := by
  obtain ⟨r1, r2, r3, r4, r5⟩ := (inRange_iff h).1 hr
  have hl : ¬ (encodeHdr h ++ rest).length < Sb2Consts.cmdHeaderFmtSize := by
    simp [Sb2Consts.cmdHeaderFmtSize, encodeHdr_length]
  unfold decodeHdr
  rw [if_neg hl]
  rw [encodeHdr_append]
  obtain ⟨g0, g1, g2, g3, g4, g5, -, -⟩ := hdr_layout (u8 (checksum (rawHdr 0 h))) (u8 h.tag)
    (leEnc 2 h.flags) (leEnc 4 h.address) (leEnc 4 h.count) (leEnc 4 h.data) rest
    (leEnc_length _ _) (leEnc_length _ _) (leEnc_length _ _) (leEnc_length _ _)
  simp only [g0, g1, g2, g3, g4, g5]
  rw [u8_toNat _ r1, leDec_leEnc 2 _ (by simpa using r2), leDec_leEnc 4 _ (by simpa using r3),
    leDec_leEnc 4 _ (by simpa using r4), leDec_leEnc 4 _ (by simpa using r5), u8_toNat _ (checksum_lt _)]
  simp

/-- the ROM reads the same five fields and its checksum formula accepts SPSDK's checksum -/
theorem readHdr_encodeHdr (h : CmdHdr) (hr : h.inRange = true) (rest : Bytes) :
    Rom.readHdr (encodeHdr h ++ rest) = .ok ⟨h.tag, h.flags, h.address, h.count, h.data⟩ := by
  obtain ⟨r1, r2, r3, r4, r5⟩ := (inRange_iff h).1 hr
  unfold Rom.readHdr
  rw [encodeHdr_append]
  obtain ⟨-, -, -, -, -, -, g6, g8⟩ := hdr_layout (u8 (checksum (rawHdr 0 h))) (u8 h.tag)
    (leEnc 2 h.flags) (leEnc 4 h.address) (leEnc 4 h.count) (leEnc 4 h.data) rest
    (leEnc_length _ _) (leEnc_length _ _) (leEnc_length _ _) (leEnc_length _ _)
  simp only [Rom.Spec.cmdHeaderWidths, Rom.Spec.cmdHeaderSize, Rom.Spec.checksumSeed, g6, g8]
  rw [leDec_single, leDec_single, u8_toNat _ r1, leDec_leEnc 2 _ (by simpa using r2), leDec_leEnc 4 _ (by simpa using r3),
    leDec_leEnc 4 _ (by simpa using r4), leDec_leEnc 4 _ (by simpa using r5), u8_toNat _ (checksum_lt _)]
  have : checksum (rawHdr 0 h) = (90 + sumBytes (hdrTail h)) % 256 := by
    rw [checksum_eq, rawHdr_eq]; rfl
  rw [this]
  simp [hdrTail]

theorem or_andNot_or (a M x : Nat) : a ||| (andNot a M ||| x) = a ||| x := by
  apply Nat.eq_of_testBit_eq
  intro i
  simp only [andNot, Nat.testBit_or, Nat.testBit_xor, Nat.testBit_and]
  cases a.testBit i <;> cases M.testBit i <;> cases x.testBit i <;> rfl

theorem shl8_and_ff00 (d : Nat) : (d <<< 8) &&& 65280 = d % 256 * 256 := by
  have : (65280 : Nat) = 255 <<< 8 := by decide
  rw [this, ← Nat.shiftLeft_and_distrib]
  have : (255 : Nat) = 2 ^ 8 - 1 := by decide
  rw [this, Nat.and_two_pow_sub_one_eq_mod, Nat.shiftLeft_eq]

theorem shl4_and_f0 (g : Nat) : (g <<< 4) &&& 240 = g % 16 * 16 := by
  have : (240 : Nat) = 15 <<< 4 := by decide
  rw [this, ← Nat.shiftLeft_and_distrib]
  have : (15 : Nat) = 2 ^ 4 - 1 := by decide
  rw [this, Nat.and_two_pow_sub_one_eq_mod, Nat.shiftLeft_eq]

theorem devOf_eq (m : Nat) : devOf m = m % 256 := by
  simp only [devOf, Sb2Consts.memDeviceIdMask, Sb2Consts.memDeviceIdShift, Nat.shiftRight_zero]
  exact Nat.and_two_pow_sub_one_eq_mod m 8

theorem grpOf_eq (m : Nat) : grpOf m = m / 256 % 16 := by
  simp only [grpOf, Sb2Consts.memGroupIdMask, Sb2Consts.memGroupIdShift]
  rw [Nat.shiftRight_and_distrib]
  have : (3840 : Nat) >>> 8 = 2 ^ 4 - 1 := by decide
  rw [this, Nat.and_two_pow_sub_one_eq_mod, Nat.shiftRight_eq_div_pow]

theorem memBits_lt (m : Nat) : Spec.memBits m < 2 ^ 16 := by
  unfold Spec.memBits; omega

theorem withMemFlags_eq (f m : Nat) : withMemFlags f m = f ||| Spec.memBits m := by
  simp only [withMemFlags, Sb2Consts.romDeviceIdMask, Sb2Consts.romDeviceIdShift, Sb2Consts.romGroupIdMask,
    Sb2Consts.romGroupIdShift]
  rw [or_andNot_or, or_andNot_or, devOf_eq, grpOf_eq, shl8_and_ff00, shl4_and_f0, Nat.or_assoc]
  congr 1
  have h : m / 256 % 16 % 16 * 16 < 2 ^ 8 := by omega
  have e : m % 256 % 256 * 256 = (m % 256) <<< 8 := by rw [Nat.shiftLeft_eq]; omega
  rw [e, ← Nat.shiftLeft_add_eq_or_of_lt h, Nat.shiftLeft_eq]
  clear e h
  unfold Spec.memBits
  omega

theorem withMemFlags_lt (f m : Nat) (hf : f < 65536) : withMemFlags f m < 65536 := by
  rw [withMemFlags_eq]
  exact Nat.or_lt_two_pow (n := 16) hf (memBits_lt m)

theorem andNot_ff00 (x : Nat) (h : x < 65536) : andNot x 65280 = x % 256 := by
  have hM : (65280 : Nat) = (2 ^ 16 - 1) ^^^ (2 ^ 8 - 1) := by decide
  have h256 : (256 : Nat) = 2 ^ 8 := by decide
  apply Nat.eq_of_testBit_eq
  intro i
  rw [andNot, hM, h256]
  simp only [Nat.testBit_xor, Nat.testBit_and, Nat.testBit_two_pow_sub_one, Nat.testBit_mod_two_pow]
  by_cases h8 : i < 8
  · have : i < 16 := by omega
    simp [h8, this]
  · by_cases h16 : i < 16
    · simp [h8, h16]
    · have : x.testBit i = false :=
        Nat.testBit_lt_two_pow (Nat.lt_of_lt_of_le (show x < 2 ^ 16 from h) (Nat.pow_le_pow_right (by omega) (by omega)))
      simp [h8, h16, this]

theorem progFlags_eq (m w2 f : Nat) (hm : m < 256) (hf : f < 65536) :
    progFlags m w2 f = (f ||| (if w2 ≠ 0 then 1 else 0)) % 256 + m * 256 := by
  simp only [progFlags, Sb2Consts.romDeviceIdMask, Sb2Consts.romDeviceIdShift]
  have hb : (if w2 ≠ 0 then 1 else 0 : Nat) < 256 := by split <;> omega
  generalize (if w2 ≠ 0 then 1 else 0 : Nat) = b at *
  have hX : b ||| f < 65536 := Nat.or_lt_two_pow (n := 16) (by omega) hf
  rw [andNot_ff00 _ hX, shl8_and_ff00, Nat.mod_eq_of_lt hm, ← Nat.or_assoc]
  have h256 : (256 : Nat) = 2 ^ 8 := by decide
  have e1 : b ||| (b ||| f) % 256 = (f ||| b) % 256 := by
    rw [h256, Nat.or_mod_two_pow, ← Nat.or_assoc, Nat.mod_eq_of_lt (by omega), Nat.or_self,
      Nat.or_mod_two_pow, Nat.mod_eq_of_lt (a := b) (by omega), Nat.or_comm]
  rw [e1, Nat.or_comm, Nat.add_comm]
  have h := Nat.shiftLeft_add_eq_or_of_lt (a := m) (i := 8) (b := (f ||| b) % 256) (by omega)
  rw [Nat.shiftLeft_eq] at h
  exact h.symm

theorem bitLenF_gt (n : Nat) : ∀ (f x : Nat), 2 ^ n ≤ x → x ≤ f → n < Misc.bitLenF f x := by
  induction n with
  | zero =>
    intro f x h1 h2
    cases f with
    | zero => simp at h1; omega
    | succ f =>
      have : x ≠ 0 := by simp at h1; omega
      simp only [Misc.bitLenF, this, if_false]
      omega
  | succ n ih =>
    intro f x h1 h2
    rw [Nat.pow_succ] at h1
    have hp : 0 < 2 ^ n := Nat.pow_pos (by omega)
    cases f with
    | zero => omega
    | succ f =>
      have : x ≠ 0 := by omega
      simp only [Misc.bitLenF, this, if_false]
      have := ih f (x / 2) (by omega) (by omega)
      omega

theorem bitLen_le (x n : Nat) (h : x < 2 ^ n) : bitLen x ≤ n := Base.bitLenF_le x x n h
theorem bitLen_gt (x n : Nat) (h : 2 ^ n ≤ x) : n < bitLen x := bitLenF_gt n x x h (Nat.le_refl x)

theorem fillWord_ok (p : Nat) (hp : p < 2 ^ 32) : fillWord p = .ok (Spec.fillPattern p) := by
  unfold fillWord Spec.fillPattern
  by_cases h1 : p < 256
  · have := bitLen_le p 8 (by simpa using h1)
    have e : (bitLen p + 7) / 8 = 0 ∨ (bitLen p + 7) / 8 = 1 := by omega
    rcases e with e | e <;> simp [e, h1]
  · by_cases h2 : p < 65536
    · have := bitLen_le p 16 (by simpa using h2)
      have := bitLen_gt p 8 (by simp; omega)
      have e : (bitLen p + 7) / 8 = 2 := by omega
      simp [e, h1, h2]
    · by_cases h3 : p < 2 ^ 24
      · have := bitLen_le p 24 h3
        have := bitLen_gt p 16 (by simp; omega)
        have e : (bitLen p + 7) / 8 = 3 := by omega
        simp [e, h1, h2]
      · have := bitLen_le p 32 hp
        have := bitLen_gt p 24 (by omega)
        have e : (bitLen p + 7) / 8 = 4 := by omega
        simp [e, h1, h2]

theorem fillWordT_eq (p : Nat) (hp : p < 2 ^ 32) : fillWordT p = Spec.fillPattern p := by
  simp [fillWordT, fillWord_ok p hp]

theorem fillPattern_lt (p : Nat) (hp : p < 2 ^ 32) : Spec.fillPattern p < 2 ^ 32 := by
  unfold Spec.fillPattern
  split
  · omega
  · split <;> omega

theorem keystoreFlags_eq (cid : Nat) (h : cid ∈ [1, 4, 8, 9, 10, 11, 16]) :
    (cid <<< Sb2Consts.keystoreDeviceIdShift) &&& Sb2Consts.keystoreDeviceIdMask = cid * 256 := by
  simp only [Sb2Consts.keystoreDeviceIdShift, Sb2Consts.keystoreDeviceIdMask]
  rw [shl8_and_ff00]
  simp at h
  omega

theorem keystoreFlags_lt (cid : Nat) (h : cid ∈ [1, 4, 8, 9, 10, 11, 16]) :
    (cid <<< Sb2Consts.keystoreDeviceIdShift) &&& Sb2Consts.keystoreDeviceIdMask < 65536 := by
  rw [keystoreFlags_eq cid h]
  simp only [List.mem_cons, List.not_mem_nil, or_false] at h
  omega

theorem keystoreId_eq (cid : Nat) (h : cid ∈ [1, 4, 8, 9, 10, 11, 16]) :
    (cid * 256 &&& Sb2Consts.keystoreDeviceIdMask) >>> Sb2Consts.keystoreDeviceIdShift = cid := by
  simp only [List.mem_cons, List.not_mem_nil, or_false] at h
  rcases h with h | h | h | h | h | h | h <;> subst h <;> decide

/-- the header of a well-formed command fits the fields of `<2BH3L` (what `struct.pack` checks) -/
theorem hdr_inRange (x : Cmd) (wf : Spec.WFcmd x) : x.hdr.inRange = true := by
  rw [inRange_iff]
  have h256 : ∀ {a b : Nat}, a < 65536 → b < 2 ^ 16 → a ||| b < 65536 := fun ha hb => Nat.or_lt_two_pow (n := 16) ha hb
  cases x <;> simp only [Cmd.hdr]
  case nop => decide
  case tag f a c d => exact ⟨by decide, wf⟩
  case load a d m f =>
    obtain ⟨h1, h2, h3, h4⟩ := wf
    refine ⟨by decide, ?_, h1, ?_, Nat.mod_lt _ (by decide)⟩
    · rw [withMemFlags_eq, Nat.zero_or]; exact h256 h4 (memBits_lt m)
    · rw [zeroPad16_length]; omega
  case fill a p l =>
    obtain ⟨h1, h2, h3, h4⟩ := wf
    refine ⟨by decide, by decide, h1, by split <;> omega, ?_⟩
    rw [fillWordT_eq p h2]; exact fillPattern_lt p h2
  case jump a arg sp => exact ⟨by decide, by split <;> decide, wf.1, wf.2.2, wf.2.1⟩
  case call a arg => exact ⟨by decide, by decide, wf.1, by decide, wf.2⟩
  case erase a l f m => exact ⟨by decide, withMemFlags_lt f m wf.2.2.1, wf.1, wf.2.1, by decide⟩
  case reset => decide
  case memEnable a s m => exact ⟨by decide, withMemFlags_lt 0 m (by decide), wf.1, wf.2.1, by decide⟩
  case prog a m w1 w2 f =>
    obtain ⟨h1, h2, h3, h4, h5⟩ := wf
    refine ⟨by decide, ?_, h1, h3, h4⟩
    rw [progFlags_eq m w2 f h2 h5]; omega
  case versionCheck t v => exact ⟨by decide, by decide, Nat.lt_trans wf.1 (by decide), wf.2, by decide⟩
  case keystoreToNv a cid => exact ⟨by decide, keystoreFlags_lt cid wf.2, wf.1, by decide, by decide⟩
  case keystoreFromNv a cid => exact ⟨by decide, keystoreFlags_lt cid wf.2, wf.1, by decide, by decide⟩

theorem addrOk_of_lt (a : Nat) (h : a < 2 ^ 32) : addrOk a = true := by
  simp [addrOk]; omega

theorem check_ok (x : Cmd) (wf : Spec.WFcmd x) : x.check = .ok () := by
  cases x with
  | nop => rfl
  | tag f a c d => rfl
  | load a d m f => simp [Cmd.check, addrOk_of_lt a wf.1]
  | fill a p l =>
    obtain ⟨h1, h2, h3, h4⟩ := wf
    have : (if l = 0 then 4 else l) % 4 = 0 := by split <;> omega
    simp [Cmd.check, this, fillWord_ok p h2, addrOk_of_lt a h1]
  | jump a arg sp => simp [Cmd.check, addrOk_of_lt a wf.1]
  | call a arg => simp [Cmd.check, addrOk_of_lt a wf.1]
  | erase a l f m => simp [Cmd.check, addrOk_of_lt a wf.1]
  | reset => rfl
  | memEnable a s m => rfl
  | prog a m w1 w2 f =>
    obtain ⟨h1, h2, h3, h4, h5⟩ := wf
    have : ¬ m > 255 := by omega
    simp [Cmd.check, this, addrOk_of_lt _ h1, addrOk_of_lt _ h3, addrOk_of_lt _ h4]
  | versionCheck t v =>
    obtain ⟨h1, h2⟩ := wf
    have : t = 0 ∨ t = 1 := by omega
    simp [Cmd.check, Sb2Consts.versionCheckTypes, this]
  | keystoreToNv a cid =>
    obtain ⟨h1, h2⟩ := wf
    have : cid ≤ 255 := by simp at h2; omega
    simp [Cmd.check, addrOk_of_lt a h1, this]
  | keystoreFromNv a cid =>
    obtain ⟨h1, h2⟩ := wf
    have : cid ≤ 255 := by simp at h2; omega
    simp [Cmd.check, addrOk_of_lt a h1, this]

theorem encodeCmd_eq (x : Cmd) : encodeCmd x = encodeHdr x.hdr ++ x.payload := by
  unfold encodeCmd zeroPad16
  rw [Crypto.zeroPad_of_aligned 16 _ (by rw [encodeHdr_length])]

theorem payload_length (x : Cmd) : 16 + x.payload.length = Spec.cmdLen x := by
  cases x <;> simp [Cmd.payload, Spec.cmdLen, zeroPad16_length]

theorem encodeCmd_length (x : Cmd) : (encodeCmd x).length = Spec.cmdLen x := by
  rw [encodeCmd_eq, List.length_append, encodeHdr_length, payload_length]

theorem cmdLen_pos (x : Cmd) : 16 ≤ Spec.cmdLen x ∧ Spec.cmdLen x % 16 = 0 := by
  cases x <;> simp [Spec.cmdLen] <;> omega

/-- what both readers see of `encodeCmd x ++ rest` -/
theorem encodeCmd_facts (x : Cmd) (wf : Spec.WFcmd x) (rest : Bytes) :
    let d := encodeCmd x ++ rest
    ¬ d.length < 2 ∧ (d.getD 1 0).toNat = x.hdr.tag ∧ decodeHdr d = .ok x.hdr ∧
    Rom.readHdr d = .ok ⟨x.hdr.tag, x.hdr.flags, x.hdr.address, x.hdr.count, x.hdr.data⟩ ∧
    d.drop 16 = x.payload ++ rest ∧ d.length = 16 + (x.payload ++ rest).length := by
  have hr := hdr_inRange x wf
  obtain ⟨r1, -⟩ := (inRange_iff _).1 hr
  intro d
  have hd : d = encodeHdr x.hdr ++ (x.payload ++ rest) := by
    show encodeCmd x ++ rest = _
    rw [encodeCmd_eq, List.append_assoc]
  have hl : d.length = 16 + (x.payload ++ rest).length := by
    rw [hd, List.length_append, encodeHdr_length]
  refine ⟨by omega, ?_, ?_, ?_, ?_, hl⟩
  · rw [hd, encodeHdr_append]
    simp [u8_toNat _ r1]
  · rw [hd]; exact decodeHdr_encodeHdr _ hr _
  · rw [hd]; exact readHdr_encodeHdr _ hr _
  · rw [hd, List.drop_append_of_le_length (by rw [encodeHdr_length]; omega),
      List.drop_of_length_le (by rw [encodeHdr_length]; omega), List.nil_append]

section dispatch
/- Both decoders dispatch on the tag; on a concrete command kind that is evaluation over the tag numbers of both sides. -/
attribute [local simp] Cmd.hdr knownTags Cmd.canon Spec.view Spec.cmdLen Rom.Spec.jumpSpFlag
  Sb2Consts.tagNop Sb2Consts.tagTag Sb2Consts.tagLoad Sb2Consts.tagFill Sb2Consts.tagJump Sb2Consts.tagCall Sb2Consts.tagErase
  Sb2Consts.tagReset Sb2Consts.tagMemEnable Sb2Consts.tagProg Sb2Consts.tagFwVersionCheck Sb2Consts.tagWrKeystoreToNv
  Sb2Consts.tagWrKeystoreFromNv Rom.Spec.tagNop Rom.Spec.tagTag Rom.Spec.tagLoad Rom.Spec.tagFill Rom.Spec.tagJump
  Rom.Spec.tagCall Rom.Spec.tagErase Rom.Spec.tagReset Rom.Spec.tagMemEnable Rom.Spec.tagProg Rom.Spec.tagFwVersionCheck
  Rom.Spec.tagWrKeystoreToNv Rom.Spec.tagWrKeystoreFromNv

/-- `parse_command(cmd.export() + rest)` is the canonical form of the command -/
theorem decodeCmd_encodeCmd (x : Cmd) (wf : Spec.WFcmd x) (rest : Bytes) :
    decodeCmd (encodeCmd x ++ rest) = .ok (x.canon, (encodeCmd x).length) := by
  obtain ⟨f1, f2, f3, -, f5, -⟩ := encodeCmd_facts x wf rest
  rw [encodeCmd_length, decodeCmd, if_neg f1]
  simp only [f2, f3, f5]
  cases x
  case load a d m f =>
    have e1 : ((zeroPad16 d ++ rest).take (align16 (zeroPad16 d).length)) = zeroPad16 d := by
      rw [align16_of_mod (Crypto.zeroPad16_length_mod d), List.take_left]
    simp only [Cmd.hdr, Cmd.payload, e1, zeroPad16_idem]
    simp [zeroPad16_length]
  case fill a p l =>
    obtain ⟨h1, h2, h3, h4⟩ := wf
    have e1 : (if l = 0 then 4 else l) ≠ 0 := by split <;> omega
    have e2 : (if l = 0 then 4 else l) % 4 = 0 := by split <;> omega
    simp [e1, e2]
  case jump a arg sp => cases sp <;> simp
  case versionCheck t v =>
    have : t = 0 ∨ t = 1 := by have := wf.1; omega
    simp [Sb2Consts.versionCheckTypes, this]
  case keystoreToNv a cid => simp [keystoreFlags_eq cid wf.2, keystoreId_eq cid wf.2, show cid ∈ Sb2Consts.extMemIds from wf.2]
  case keystoreFromNv a cid => simp [keystoreFlags_eq cid wf.2, keystoreId_eq cid wf.2, show cid ∈ Sb2Consts.extMemIds from wf.2]
  all_goals simp

theorem readCmd_encodeCmd (x : Cmd) (wf : Spec.WFcmd x) (rest : Bytes) :
    Rom.readCmd (encodeCmd x ++ rest) = .ok (Spec.view x, Spec.cmdLen x) := by
  obtain ⟨-, -, -, f4, f5, f6⟩ := encodeCmd_facts x wf rest
  rw [Rom.readCmd]
  simp only [f4, f5, f6]
  cases x
  case load a d m f =>
    have hm := Crypto.zeroPad16_length_mod d
    have e0 : ((zeroPad16 d).length + 15) / 16 * 16 = (zeroPad16 d).length := by omega
    have e1 : ((zeroPad16 d ++ rest).take (zeroPad16 d).length) = zeroPad16 d := List.take_left
    have e2 : crc32Mpeg (zeroPad16 d) = loadCrc (zeroPad16 d) := rfl
    simp only [Cmd.hdr, Cmd.payload, e0, e1, e2]
    simp [withMemFlags_eq, zeroPad16_length, ← zeroPad16_eq_pad16]
  case fill a p l => simp [fillWordT_eq p wf.2.1]
  case jump a arg sp => cases sp <;> simp
  case erase a l f m => simp [withMemFlags_eq]
  case memEnable a s m => simp [withMemFlags_eq]
  case prog a m w1 w2 f => simp [progFlags_eq m w2 f wf.2.1 wf.2.2.2.2]
  case keystoreToNv a cid => simp [keystoreFlags_eq cid wf.2]
  case keystoreFromNv a cid => simp [keystoreFlags_eq cid wf.2]
  all_goals simp

end dispatch

theorem view_eq_viewExact (x : Cmd) (hal : ∀ a d m f, x = .load a d m f → d.length % 16 = 0) :
    Spec.view x = Spec.viewExact x := by
  cases x <;> simp only [Spec.viewExact]
  case load a d m f =>
    have h16 := hal a d m f rfl
    simp [Spec.view, Spec.pad16, h16, Crypto.zeros]

theorem cmdsLen_cons (x : Cmd) (cmds : List Cmd) : Spec.cmdsLen (x :: cmds) = Spec.cmdLen x + Spec.cmdsLen cmds := by
  simp [Spec.cmdsLen]

theorem cmdsLen_mod (cmds : List Cmd) : Spec.cmdsLen cmds % 16 = 0 := by
  induction cmds with
  | nil => simp [Spec.cmdsLen]
  | cons x cmds ih =>
    have := (cmdLen_pos x).2
    rw [cmdsLen_cons]; omega

theorem flatten_encode_length (cmds : List Cmd) : (cmds.map encodeCmd).flatten.length = Spec.cmdsLen cmds := by
  induction cmds with
  | nil => simp [Spec.cmdsLen]
  | cons x cmds ih => simp [cmdsLen_cons, encodeCmd_length, ih]

theorem flatten_encode_cons_isEmpty (x : Cmd) (cmds : List Cmd) : ((x :: cmds).map encodeCmd).flatten.isEmpty = false := by
  rw [List.map_cons, List.flatten_cons]
  cases hx : encodeCmd x with
  | nil =>
    have h1 := encodeCmd_length x
    have h2 := (cmdLen_pos x).1
    rw [hx] at h1
    exact absurd h1 (by rw [List.length_nil]; omega)
  | cons _ _ => rfl

/-- the final `% 16` padding of a section's command data never adds anything -/
theorem cmdsData_eq (cmds : List Cmd) : cmdsData cmds = (cmds.map encodeCmd).flatten := by
  unfold cmdsData zeroPad16
  exact Crypto.zeroPad_of_aligned 16 _ (by rw [flatten_encode_length]; exact cmdsLen_mod cmds)

theorem cmdsData_length (cmds : List Cmd) :
    (cmdsData cmds).length = Spec.cmdsLen cmds ∧ Spec.cmdsLen cmds % 16 = 0 :=
  ⟨by rw [cmdsData_eq, flatten_encode_length], cmdsLen_mod cmds⟩

/-- every command occupies at least one block -/
theorem cmds_length_le (cmds : List Cmd) : cmds.length ≤ Spec.cmdsLen cmds / 16 := by
  induction cmds with
  | nil => simp
  | cons x cmds ih =>
    have := (cmdLen_pos x).1
    rw [cmdsLen_cons, List.length_cons]; omega

theorem cmdsLen_facts (cmds : List Cmd) (hne : cmds ≠ []) :
    Spec.cmdsLen cmds % 16 = 0 ∧ 16 ≤ Spec.cmdsLen cmds := by
  have h2 := (cmdsData_length cmds).2
  have h3 := cmds_length_le cmds
  have h4 : 0 < cmds.length := List.length_pos_iff.2 hne
  omega

theorem rawSize_sum (cmds : List Cmd) : (cmds.map Cmd.rawSize).sum = Spec.cmdsLen cmds := by
  have : Cmd.rawSize = Spec.cmdLen := by
    funext x; exact payload_length x
  rw [this, Spec.cmdsLen]

theorem readCmds_cmdsData (cmds : List Cmd) (wf : ∀ x ∈ cmds, Spec.WFcmd x) (fuel : Nat) (hf : cmds.length ≤ fuel) :
    Rom.readCmds fuel (cmdsData cmds) = .ok (cmds.map Spec.view) := by
  rw [cmdsData_eq]
  induction cmds generalizing fuel with
  | nil => cases fuel <;> simp [Rom.readCmds]
  | cons x cmds ih =>
    cases fuel with
    | zero => simp at hf
    | succ fuel =>
      rw [Rom.readCmds, flatten_encode_cons_isEmpty]
      simp only [List.map_cons, List.flatten_cons, Bool.false_eq_true, if_false]
      rw [readCmd_encodeCmd x (wf x List.mem_cons_self)]
      simp only
      rw [← encodeCmd_length, List.drop_left, ih (fun y hy => wf y (by simp [hy])) fuel (by simpa using hf)]

end SpsdkVerif.Sb2
