/-
C18 — interleavings of N processes (with crashes): the invariant behind `schedule_safe`,
the step bound and deadlock freedom.  See `Proofs/DbCacheSpec.lean` for the vocabulary.

The invariant `Inv`:
  * every process satisfies `PInv` (answers/memory correct, `keys answers ++ todo = asked`, and a fact per
    program counter: snapshot buffers harmless / mergeable, pending exception classes caught, …);
  * a process is inside a lock region iff it is the lock holder (mutual exclusion);
  * a non-atomic writer about to dump sees the file missing or empty (nobody else writes in between);
  * the file is missing or mergeable (`FileGood`), OR it still is the initial file and — if the writer merges —
    every process has so far only seen the initial file (`PreW`: it is still in front of the load, or on a path
    — stale or exception handler — that ends with removing the file), so nobody merges it before it was
    validated (trusted after the fingerprint comparison) or removed.
-/
import SpsdkVerif.Proofs.DbCacheInvMeasure
import SpsdkVerif.Proofs.DbCacheInvStep

namespace SpsdkVerif.DbCache.Sched
open SpsdkVerif

/-- the invariant of all reachable states -/
structure Inv (env : Env) (G : Guards) (f0 : Option Bytes) (queries : List (List Nat)) (s : St) : Prop where
  procs : ∀ (j : Nat) (q : Proc), s.procs[j]? = some q → PInv env G q
  lock : ∀ (j : Nat) (q : Proc), s.procs[j]? = some q → (inLock G q.pc = true ↔ s.sh.lock = some j)
  lockLt : ∀ j, s.sh.lock = some j → j < s.procs.length
  wr : ∀ (j : Nat) (q : Proc), s.procs[j]? = some q → q.pc = .wWrite → G.w.atomicWrite = false →
    s.sh.file = none ∨ s.sh.file = some []
  file : FileGood env G s.sh.file ∨
    (s.sh.file = f0 ∧ (G.w.mergesExisting = true → ∀ (j : Nat) (q : Proc), s.procs[j]? = some q → PreW env f0 q))
  asked : s.procs.map (·.asked) = queries

theorem get_set {α} {l : List α} {i j : Nat} {a q : α} (h : (l.set i a)[j]? = some q) :
    (j = i ∧ q = a) ∨ (j ≠ i ∧ l[j]? = some q) := by
  rw [List.getElem?_set] at h
  split at h
  · rename_i hij
    split at h
    · exact Or.inl ⟨hij.symm, (Option.some.inj h).symm⟩
    · cases h
  · rename_i hij; exact Or.inr ⟨fun h' => hij h'.symm, h⟩

theorem map_set_same {α β} (f : α → β) {l : List α} {i : Nat} {a b : α} (h : l[i]? = some a) (hf : f b = f a) :
    (l.set i b).map f = l.map f := by
  induction l generalizing i with
  | nil => simp
  | cons x xs ih =>
    cases i with
    | zero => simp at h; subst h; simp [hf]
    | succ i => simp only [List.getElem?_cons_succ] at h; simp [ih h]

variable {env : Env} {G : Guards} {f0 : Option Bytes} {queries : List (List Nat)}

theorem Inv.harmless {s : St} (h0 : FileSafe env G f0) (hinv : Inv env G f0 queries s) :
    FileSafe env G s.sh.file := by
  intro b hb
  rcases hinv.file with h | h
  · exact BytesGood.harmless (h b hb)
  · exact h0 b (by rw [← h.1, hb])

theorem Inv.stepIn {s : St} (h0 : FileSafe env G f0) (hinv : Inv env G f0 queries s) {i : Nat} {p : Proc}
    (hi : s.procs[i]? = some p) : StepIn env G f0 i s.sh p :=
  ⟨hinv.procs i p hi, hinv.harmless h0, fun hm => hinv.file.imp_right fun h => ⟨h.1, h.2 hm i p hi⟩,
   hinv.lock i p hi, hinv.wr i p hi⟩

/-- the frame: an action of process `i` touches only its own entry and the shared state, as `StepOut` says -/
theorem Inv.lift {s : St} (hinv : Inv env G f0 queries s) {i : Nat} {p p' : Proc} {sh' : Sh}
    (hi : s.procs[i]? = some p) (out : StepOut env G f0 i s.sh p sh' p') :
    Inv env G f0 queries { sh := sh', procs := s.procs.set i p' } := by
  refine ⟨?_, ?_, ?_, ?_, ?_, ?_⟩
  · intro j q hq
    rcases get_set hq with ⟨-, rfl⟩ | ⟨-, hq⟩
    · exact out.inv
    · exact hinv.procs j q hq
  · intro j q hq
    rcases get_set hq with ⟨rfl, rfl⟩ | ⟨hj, hq⟩
    · exact out.lockSelf
    · exact (hinv.lock j q hq).trans (out.lockOther j hj).symm
  · intro j hj
    rw [List.length_set]
    by_cases hji : j = i
    · exact hji ▸ (List.getElem?_eq_some_iff.mp hi).1
    · exact hinv.lockLt j ((out.lockOther j hji).mp hj)
  · intro j q hq hpc ha
    rcases get_set hq with ⟨rfl, rfl⟩ | ⟨hj, hq⟩
    · exact out.wrSelf hpc ha
    · -- `j` holds the lock, so `i` acted outside it
      have hql : s.sh.lock = some j := (hinv.lock j q hq).mp (by rw [hpc]; rfl)
      have hnl : inLock G p.pc = false := by
        cases hl : inLock G p.pc with
        | false => rfl
        | true => exact absurd (Option.some.inj (hql.symm.trans ((hinv.lock i p hi).mp hl))) hj
      rcases out.fileOther hnl with h | h
      · exact h ▸ hinv.wr j q hq hpc ha
      · exact Or.inl h
  · rcases out.file with h' | ⟨h', hk⟩
    · exact Or.inl h'
    · rcases hinv.file with h | h
      · exact Or.inl (h' ▸ h)
      · by_cases hm : G.w.mergesExisting = true
        · rcases hk hm h.1 (h.2 hm i p hi) with hg | hp
          · exact Or.inl (h' ▸ hg)
          · refine Or.inr ⟨h'.trans h.1, fun _ j q hq => ?_⟩
            rcases get_set hq with ⟨-, rfl⟩ | ⟨-, hq⟩
            · exact hp
            · exact h.2 hm j q hq
        · exact Or.inr ⟨h'.trans h.1, fun hm' => absurd hm' hm⟩
  · exact (map_set_same (·.asked) hi out.asked).trans hinv.asked

theorem Inv.init (queries : List (List Nat)) : Inv env G f0 queries (initSt G f0 queries) := by
  have ok (qs : List Nat) := readStart (env := env) (G := G) (f0 := f0) (q := initProc G qs) rfl
    (by show initPC G = _ ∨ initPC G = _; unfold initPC; split <;> simp)
  have hproc : ∀ (j : Nat) (q : Proc), (initSt G f0 queries).procs[j]? = some q → ∃ qs, q = initProc G qs := by
    intro j q hq
    simp only [initSt, List.getElem?_map, Option.map_eq_some_iff] at hq
    obtain ⟨qs, -, rfl⟩ := hq
    exact ⟨qs, rfl⟩
  refine ⟨fun j q hq => ?_, fun j q hq => ?_, fun j hj => (nomatch hj), fun j q hq hpc => ?_,
    Or.inr ⟨rfl, fun _ j q hq => ?_⟩, by simp [initSt, initProc, Function.comp_def]⟩
  all_goals obtain ⟨qs, rfl⟩ := hproc j q hq
  · exact ⟨⟨by simp [initProc], by simp [initProc], by simp [initProc, keys]⟩, (ok qs).1⟩
  · simp [(ok qs).2.1, initSt]
  · exact absurd hpc (ok qs).2.2.1
  · exact (ok qs).2.2.2

theorem Inv.gstep (hw : WF G) (he : EnvOK env G) (h0 : FileSafe env G f0) {s s' : St} {l : Lbl}
    (hinv : Inv env G f0 queries s) (hl : l.isWipe = false) (h : gstep env G s l = some s') :
    Inv env G f0 queries s' :=
  gstep_elim (motive := Inv env G f0 queries) h (fun hw => by rw [hw] at hl; cases hl)
    fun _ _ _ hp ha => hinv.lift hp (Acts.out hw he (hinv.stepIn h0 hp) ha)

theorem answers_eq (l : List (Nat × Nat)) (h : ∀ a ∈ l, EntOK env a) :
    l = disabledAnswers env (keys l) := by
  induction l with
  | nil => rfl
  | cons x xs ih =>
    have hx : x.2 = env.loadCfg x.1 := h x (List.mem_cons_self ..)
    have := ih (fun a ha => h a (List.mem_cons_of_mem _ ha))
    simp only [disabledAnswers, keys, List.map_cons, List.map_map] at this ⊢
    rw [← this, ← hx]

theorem PInv.safe {p : Proc} (h : PInv env G p) : ProcSafe env p := by
  refine ⟨?_, h.ans, ?_⟩
  · intro e hpc
    have := h.pc; simp [PcInv, hpc] at this
  · intro hpc
    have ht : p.todo = [] := by have := h.pc; simpa [PcInv, hpc] using this
    have hk := h.keys
    rw [ht, List.append_nil] at hk
    rw [← hk]; exact answers_eq _ h.ans

/-- an action is enabled unless the process is finished or waits for a lock somebody holds -/
theorem pstep_enabled (env : Env) (G : Guards) (i : Nat) (sh : Sh) (p : Proc)
    (hlive : p.pc.terminal = false) (hl : sh.lock = none ∨ inLock G p.pc = true) :
    (pstep env G i sh p).isSome = true := by
  obtain ⟨pc, loaded, buf, mem, selfFp, todo, answers, asked⟩ := p
  cases pc <;> simp only [pstep]
  case lAcquire | wAcquire => simp [show sh.lock = none by simpa [inLock] using hl]
  case done | fatal | crashed => cases hlive
  case lOpen | lRemoveStale | hRemove | wOpenR => cases sh.file <;> rfl
  case lUnpickle => cases env.unpickle buf <;> rfl
  case wUnpickle =>
    cases env.unpickle buf
    · simp only [apply_ite Option.isSome, Option.isSome_some, ite_self]
    · rfl
  all_goals rfl

/-- the invariant holds in every reachable state of every schedule (crashes and I/O errors included) -/
theorem sched_Inv (env : Env) (G : Guards) (measured : List Exc)
    (hG : wfGuards G = true) (hP : PickleOK env measured) (hM : coversMeasured G measured = true)
    (f0 : Option Bytes) (h0 : FileSafe env G f0) (queries : List (List Nat))
    (sched : List Lbl) (hnw : ∀ l ∈ sched, l.isWipe = false)
    (s : St) (hrun : runSched env G (initSt G f0 queries) sched = some s) :
    Inv env G f0 queries s :=
  runSched_induct (fun l hl _ _ hinv => hinv.gstep (WF.of hG) (EnvOK.of hP hM) h0 (hnw l hl)) (Inv.init queries) hrun

/-- safety: nobody fatal, every answer right, the file harmless again -/
theorem Inv.safe {s : St} (h0 : FileSafe env G f0) (hinv : Inv env G f0 queries s) :
    (∀ p ∈ s.procs, ProcSafe env p) ∧ FileSafe env G s.sh.file ∧ s.procs.map (·.asked) = queries := by
  refine ⟨fun p hp => ?_, hinv.harmless h0, hinv.asked⟩
  obtain ⟨j, hj⟩ := List.mem_iff_getElem?.mp hp
  exact (hinv.procs j p hj).safe

/-- no deadlock: while some process is unfinished, some process can act -/
theorem Inv.progress {s : St} (hinv : Inv env G f0 queries s) (hlive : ∃ p ∈ s.procs, p.pc.terminal = false) :
    ∃ i, (DbCache.gstep env G s (.run i)).isSome = true := by
  have run {j : Nat} {q : Proc} (hj : s.procs[j]? = some q) (hq : q.pc.terminal = false)
      (hl : s.sh.lock = none ∨ inLock G q.pc = true) : (DbCache.gstep env G s (.run j)).isSome = true := by
    have := pstep_enabled env G j s.sh q hq hl
    simp only [DbCache.gstep, hj]
    split
    · rename_i hn; rw [hn] at this; cases this
    · rfl
  obtain ⟨p, hp, hpl⟩ := hlive
  cases hl : s.sh.lock with
  | none =>
    -- the lock is free: any unfinished process can act
    obtain ⟨j, hj⟩ := List.mem_iff_getElem?.mp hp
    exact ⟨j, run hj hpl (Or.inl hl)⟩
  | some j =>
    -- the holder is inside its lock region, where every action is enabled
    have hjlt := hinv.lockLt j hl
    have hj : s.procs[j]? = some s.procs[j] := List.getElem?_eq_getElem hjlt
    have hin : inLock G s.procs[j].pc = true := (hinv.lock j _ hj).mpr hl
    refine ⟨j, run hj ?_ (Or.inr hin)⟩
    cases hpc : s.procs[j].pc <;> simp [hpc, inLock, PC.terminal] at hin ⊢

end SpsdkVerif.DbCache.Sched
