/- C07: the ROM-side reader `Spec/HabRom.lean` on an exported CSF — its combinators and reads at known positions, the
   commands it decodes, and the data blocks where the commands point (4-aligned, behind the commands, inside the CSF,
   ascending without overlap). -/
import SpsdkVerif.Spec.HabRom
import SpsdkVerif.Proofs.HabCsf

namespace SpsdkVerif.Hab
open SpsdkVerif SpsdkVerif.Misc SpsdkVerif.Generated
open SpsdkVerif.Spec
open SpsdkVerif.Spec.HabRom (bindE chk sub rdN u8at u16be u32be u32le RCmd)

@[simp] theorem bindE_ok {α β : Type} (a : α) (f : α → HabRom.R β) : bindE (.ok a) f = f a := rfl
@[simp] theorem chk_true {α : Type} (msg : String) (k : HabRom.R α) : chk true msg k = k := rfl
theorem chk_of {α : Type} (c : Bool) (msg : String) (k : HabRom.R α) (h : c = true) : chk c msg k = k := by
  subst h; rfl

theorem sub_eq_slice (b : Bytes) (o n : Nat) : sub b o n = slice b o n := rfl

theorem rdN_of_slice (dec : Bytes → Nat) (b x : Bytes) (off n : Nat) (h : slice b off n = x) (hl : x.length = n) :
    rdN dec b off n = .ok (dec x) := by
  unfold rdN
  rw [sub_eq_slice, h, if_pos hl]

theorem u8at_of_slice (b : Bytes) (off v : Nat) (hv : v < 256) (h : slice b off 1 = [u8 v]) : u8at b off = .ok v := by
  unfold u8at
  rw [rdN_of_slice beDec b [u8 v] off 1 h rfl]
  simp [beDec, u8_toNat v hv]

theorem u16be_of_slice (b : Bytes) (off v : Nat) (hv : v < 65536) (h : slice b off 2 = be16 v) : u16be b off = .ok v := by
  unfold u16be
  rw [rdN_of_slice beDec b (be16 v) off 2 h (be16_length v), be16, beDec_beEnc 2 v hv]

theorem u32be_of_slice (b : Bytes) (off v : Nat) (hv : v < 2 ^ 32) (h : slice b off 4 = be32 v) : u32be b off = .ok v := by
  unfold u32be
  rw [rdN_of_slice beDec b (be32 v) off 4 h (be32_length v), be32, beDec_beEnc 4 v hv]

theorem u32le_of_slice (b : Bytes) (off v : Nat) (hv : v < 2 ^ 32) (h : slice b off 4 = le32 v) : u32le b off = .ok v := by
  unfold u32le
  rw [rdN_of_slice leDec b (le32 v) off 4 h (le32_length v), le32, leDec_leEnc 4 v hv]

theorem slice_in_mid (pre mid post : Bytes) (o n : Nat) (h : o + n ≤ mid.length) :
    slice (pre ++ mid ++ post) (pre.length + o) n = slice mid o n := by
  rw [List.append_assoc, slice_append_right _ _ _ _ (by omega), Nat.add_sub_cancel_left,
    slice_append_left _ _ _ _ h]

theorem u8at_mid (pre mid post : Bytes) (o v : Nat) (hv : v < 256) (h : slice mid o 1 = [u8 v]) (ho : o + 1 ≤ mid.length) :
    u8at (pre ++ mid ++ post) (pre.length + o) = .ok v :=
  u8at_of_slice _ _ _ hv (by rw [slice_in_mid _ _ _ _ _ ho]; exact h)

theorem u32be_mid (pre mid post : Bytes) (o v : Nat) (hv : v < 2 ^ 32) (h : slice mid o 4 = be32 v) (ho : o + 4 ≤ mid.length) :
    u32be (pre ++ mid ++ post) (pre.length + o) = .ok v :=
  u32be_of_slice _ _ _ hv (by rw [slice_in_mid _ _ _ _ _ ho]; exact h)

theorem header_reads (pre rest : Bytes) (t l p : Nat) (ht : t < 256) (hl : l < 65536) (hp : p < 256) :
    u8at (pre ++ (hdr t l p ++ rest)) pre.length = .ok t ∧
    u16be (pre ++ (hdr t l p ++ rest)) (pre.length + 1) = .ok l ∧
    u8at (pre ++ (hdr t l p ++ rest)) (pre.length + 3) = .ok p := by
  have e := hdr4 t l p rest
  have s : ∀ o n, slice (pre ++ (hdr t l p ++ rest)) (pre.length + o) n = slice (hdr t l p ++ rest) o n := fun o n => by
    rw [slice_append_right _ _ _ _ (by omega), Nat.add_sub_cancel_left]
  exact ⟨u8at_of_slice _ _ _ ht (by rw [← Nat.add_zero pre.length, s, e]; rfl),
    u16be_of_slice _ _ _ hl (by rw [s, e, be16_eq]; rfl), u8at_of_slice _ _ _ hp (by rw [s, e]; rfl)⟩

/-- what the ROM-side reader has to see for a model command -/
def toR : Cmd → RCmd
  | .insKey fl cf alg src tgt loc => .insKey fl cf alg src tgt loc
  | .autDat fl key sf eng cfg loc bl => .autDat fl key sf eng cfg loc bl
  | .set _ _ _ _ => .other 0xB1 8
  | .unlock e f _ => .other 0xB2 (if needUid e f then 16 else 8)
  | .nop _ => .other 0xC0 4

theorem cmd_header_reads (c : Cmd) (hw : c.WF) (pre post : Bytes) :
    u8at (pre ++ c.encode ++ post) pre.length = .ok (cmdTag c) ∧
    u16be (pre ++ c.encode ++ post) (pre.length + 1) = .ok c.size ∧
    u8at (pre ++ c.encode ++ post) (pre.length + 3) = .ok (cmdPar c) := by
  obtain ⟨rest, e⟩ := encode_hdr c
  rw [e, List.append_assoc, List.append_assoc]
  exact header_reads pre _ _ _ _ (cmdTag_lt c) (size_lt c hw) (cmdPar_lt c hw)

theorem readBlocks_enc (bl : List (Nat × Nat)) (pre post : Bytes) (hb : ∀ p ∈ bl, p.1 < 2 ^ 32 ∧ p.2 < 2 ^ 32) :
    HabRom.readBlocks (pre ++ encBlocks bl ++ post) bl.length pre.length = .ok bl := by
  induction bl generalizing pre with
  | nil => rfl
  | cons x r ih =>
    obtain ⟨a, s⟩ := x
    obtain ⟨ha, hs⟩ := hb (a, s) (by simp)
    have hl : 8 ≤ (encBlocks ((a, s) :: r)).length := by simp [encBlocks]; omega
    have e1 := u32be_mid pre (encBlocks ((a, s) :: r)) post 0 a ha
      (by rw [encBlocks, List.append_assoc]; exact slice_append_mid [] _ _ 0 4 rfl (by simp)) (by omega)
    have e2 := u32be_mid pre (encBlocks ((a, s) :: r)) post 4 s hs
      (by rw [encBlocks]; exact slice_append_mid _ _ _ 4 4 (by simp) (by simp)) (by omega)
    have ih' := ih (pre ++ be32 a ++ be32 s) (fun p hp => hb p (by simp [hp]))
    rw [show (pre ++ be32 a ++ be32 s).length = pre.length + 8 by simp,
      show pre ++ be32 a ++ be32 s ++ encBlocks r ++ post = pre ++ encBlocks ((a, s) :: r) ++ post by
        simp [encBlocks, List.append_assoc]] at ih'
    rw [Nat.add_zero] at e1
    simp only [List.length_cons, HabRom.readBlocks, e1, e2, bindE_ok, ih']

/-- the eight bytes behind the header of an Install Key / Authenticate Data command -/
theorem cmd12_reads (img pre post tail : Bytes) (t l p a b c d loc : Nat) (ha : a < 256) (hb : b < 256) (hc : c < 256)
    (hd : d < 256) (hloc : loc < 2 ^ 32)
    (himg : img = pre ++ (hdr t l p ++ [u8 a, u8 b, u8 c, u8 d] ++ be32 loc ++ tail) ++ post) :
    u8at img (pre.length + 4) = .ok a ∧ u8at img (pre.length + 5) = .ok b ∧ u8at img (pre.length + 6) = .ok c ∧
    u8at img (pre.length + 7) = .ok d ∧ u32be img (pre.length + 8) = .ok loc := by
  have e : hdr t l p ++ [u8 a, u8 b, u8 c, u8 d] ++ be32 loc ++ tail =
      u8 t :: u8 (l / 256 % 256) :: u8 (l % 256) :: u8 p :: u8 a :: u8 b :: u8 c :: u8 d :: (be32 loc ++ tail) := by
    simp [hdr, be16_eq]
  have h12 : 12 ≤ (hdr t l p ++ [u8 a, u8 b, u8 c, u8 d] ++ be32 loc ++ tail).length := by simp; omega
  subst himg
  refine ⟨u8at_mid pre _ post 4 a ha (by rw [e]; rfl) (by omega), u8at_mid pre _ post 5 b hb (by rw [e]; rfl) (by omega),
    u8at_mid pre _ post 6 c hc (by rw [e]; rfl) (by omega), u8at_mid pre _ post 7 d hd (by rw [e]; rfl) (by omega),
    u32be_mid pre _ post 8 loc hloc ?_ (by omega)⟩
  rw [e]
  exact slice_append_mid [] (be32 loc) tail 0 4 rfl (by simp)

theorem readCmd_encode (c : Cmd) (hw : c.WF) (pre post : Bytes) :
    HabRom.readCmd (pre ++ c.encode ++ post) pre.length (cmdTag c) c.size (cmdPar c) = .ok (toR c) := by
  cases c with
  | insKey fl cf alg src tgt loc =>
    obtain ⟨h1, h2, h3, h4, h5, h6⟩ := hw
    obtain ⟨r4, r5, r6, r7, r8⟩ := cmd12_reads (pre ++ (Cmd.insKey fl cf alg src tgt loc).encode ++ post) pre post []
      Hab.Spec.cmdINS_KEY 12 fl cf alg src tgt loc h2 h3 h4 h5 h6 (by rw [List.append_nil]; rfl)
    simp only [HabRom.readCmd, cmdTag, cmdPar, Cmd.size, Hab.Spec.cmdINS_KEY, ↓reduceIte, r4, r5, r6, r7, r8, bindE_ok, toR]
    rfl
  | autDat fl key sf eng cfg loc bl =>
    obtain ⟨h1, h2, h3, h4, h5, h6, h7, h8⟩ := hw
    obtain ⟨r4, r5, r6, r7, r8⟩ := cmd12_reads (pre ++ (Cmd.autDat fl key sf eng cfg loc bl).encode ++ post) pre post
      (encBlocks bl) Hab.Spec.cmdAUT_DAT (12 + 8 * bl.length) fl key sf eng cfg loc h2 h3 h4 h5 h6 rfl
    have rb := readBlocks_enc bl (pre ++ (hdr Hab.Spec.cmdAUT_DAT (12 + 8 * bl.length) fl ++ [u8 key, u8 sf, u8 eng, u8 cfg] ++
      be32 loc)) post h8
    rw [show (pre ++ (hdr Hab.Spec.cmdAUT_DAT (12 + 8 * bl.length) fl ++ [u8 key, u8 sf, u8 eng, u8 cfg] ++ be32 loc)).length
        = pre.length + 12 by simp, List.append_assoc pre,
      show hdr Hab.Spec.cmdAUT_DAT (12 + 8 * bl.length) fl ++ [u8 key, u8 sf, u8 eng, u8 cfg] ++ be32 loc ++ encBlocks bl =
        (Cmd.autDat fl key sf eng cfg loc bl).encode from rfl] at rb
    have hn : (12 + 8 * bl.length - 12) / 8 = bl.length := by omega
    have hc : (decide (12 ≤ 12 + 8 * bl.length) && (12 + 8 * bl.length - 12) % 8 == 0) = true := by simp
    simp only [HabRom.readCmd, cmdTag, cmdPar, Cmd.size, Hab.Spec.cmdAUT_DAT, ↓reduceIte, Nat.reduceEqDiff, r4, r5, r6, r7, r8,
      bindE_ok, toR, hn, rb]
    exact chk_of _ _ _ hc
  | set itm alg eng cfg => rfl
  | unlock e f uid => rfl
  | nop p => rfl

theorem readCmds_encCmds (l : List CsfCmd) (fuel : Nat) (pre post : Bytes) (hw : ∀ c ∈ l, c.cmd.WF)
    (hf : l.length ≤ fuel) :
    HabRom.readCmds (pre ++ encCmds l ++ post) fuel pre.length (pre.length + cmdsSize l) = .ok (l.map (fun c => toR c.cmd)) := by
  induction l generalizing fuel pre with
  | nil =>
    cases fuel with
    | zero => rfl
    | succ f => simp [HabRom.readCmds, cmdsSize]
  | cons c r ih =>
    cases fuel with
    | zero => simp at hf
    | succ f =>
      have hwc := hw c (by simp)
      have hsz := size_ge c.cmd
      have hsize4 := size_mod4 c.cmd
      have e : pre ++ encCmds (c :: r) ++ post = pre ++ c.cmd.encode ++ (encCmds r ++ post) := by
        simp [encCmds, List.append_assoc]
      obtain ⟨r1, r2, r3⟩ := cmd_header_reads c.cmd hwc pre (encCmds r ++ post)
      have rc := readCmd_encode c.cmd hwc pre (encCmds r ++ post)
      have hnot : ¬ pre.length ≥ pre.length + cmdsSize (c :: r) := by simp [cmdsSize]; omega
      have hchk : (decide (4 ≤ c.cmd.size) && c.cmd.size % 4 == 0 &&
          decide (pre.length + c.cmd.size ≤ pre.length + cmdsSize (c :: r))) = true := by
        simp [cmdsSize, hsize4]; omega
      have ih' := ih f (pre ++ c.cmd.encode) (fun x hx => hw x (by simp [hx])) (by simp at hf; omega)
      rw [show (pre ++ c.cmd.encode).length = pre.length + c.cmd.size by simp [encode_length],
        show pre.length + c.cmd.size + cmdsSize r = pre.length + cmdsSize (c :: r) by simp [cmdsSize]; omega,
        List.append_assoc (pre ++ c.cmd.encode)] at ih'
      rw [e]
      unfold HabRom.readCmds
      rw [if_neg hnot, r1, bindE_ok, r2, bindE_ok, r3, bindE_ok, chk_of _ _ _ hchk, rc, bindE_ok, ih', bindE_ok]
      rfl

theorem csf_header_read (version : Nat) (cmds : List CsfCmd) (h : CsfWF version cmds) :
    u8at (csfBytes version cmds) 0 = .ok 0xD4 ∧ u16be (csfBytes version cmds) 1 = .ok (csfHdrLen cmds) ∧
    u8at (csfBytes version cmds) 3 = .ok version := by
  have hlen : csfHdrLen cmds < 65536 := by have := h.fit; omega
  obtain ⟨k, e⟩ := csfBytes_eq version cmds
  rw [e]
  simp only [List.append_assoc]
  exact header_reads [] _ Hab.Spec.tagCSF _ _ (by decide) hlen h.1

theorem readCmds_csfBytes (version : Nat) (cmds : List CsfCmd) (h : CsfWF version cmds) :
    HabRom.readCmds (csfBytes version cmds) (csfHdrLen cmds) 4 (csfHdrLen cmds)
      = .ok ((assignLocs (csfHdrLen cmds) cmds).map (fun c => toR c.cmd)) := by
  obtain ⟨k, e⟩ := csfBytes_eq version cmds
  have := readCmds_encCmds (assignLocs (csfHdrLen cmds) cmds) (csfHdrLen cmds) (hdr Hab.Spec.tagCSF (csfHdrLen cmds) version)
    (encData cmds ++ zeros k) h.assigned (by
      have := length_le_cmdsSize (assignLocs (csfHdrLen cmds) cmds)
      rw [cmdsSize_assignLocs] at this
      exact Nat.le_trans this (Nat.le_add_left _ _))
  rwa [hdr_length, cmdsSize_assignLocs, ← List.append_assoc, ← e] at this

theorem padAlign4_length_mod (d : Bytes) : (padAlign d 4).length % 4 = 0 := by
  rw [padAlign_length _ _ (by decide)]; exact alignUp_mod _ _

/-- every data block of `assignLocs cur l` inside `pre ++ encData l ++ post` (`pre.length = cur`) -/
theorem located (l : List CsfCmd) (cur : Nat) (pre post full : Bytes) (hp : pre.length = cur) (h4 : cur % 4 = 0)
    (hfull : full = pre ++ encData l ++ post)
    (hw : ∀ c ∈ l, needsRef c.cmd = true → ∃ d, c.data = some d) :
    ∀ c ∈ assignLocs cur l, needsRef c.cmd = true → ∀ d, c.data = some d →
      slice full c.cmd.loc d.length = d ∧ cur ≤ c.cmd.loc ∧ c.cmd.loc % 4 = 0 ∧
      c.cmd.loc + d.length ≤ cur + (encData l).length := by
  induction l generalizing cur pre with
  | nil => intro c hc; cases hc
  | cons a r ih =>
    have hm := dataOf_length_mod a
    have ih' := ih (cur + (dataOf a).length) (pre ++ dataOf a) (by rw [List.length_append, hp]) (by omega)
      (by rw [hfull, encData_cons]; simp only [List.append_assoc]) (fun c hc => hw c (by simp [hc]))
    rw [assignLocs_cons, List.forall_mem_cons, encData_cons, List.length_append]
    refine ⟨fun hr d hd => ?_, fun c hc hr d hd => ?_⟩
    · rw [reloc_needsRef] at hr
      rw [reloc_data] at hd
      have e : dataOf a = d ++ zeros (alignUp d.length 4 - d.length) := by simp [dataOf, hr, hd, padAlign]
      have hloc : (reloc cur a).cmd.loc = cur := by simp [reloc, hr, hd, loc_setLoc]
      rw [hloc, hfull, encData_cons, e]
      refine ⟨?_, Nat.le_refl _, h4, by simp; omega⟩
      simp only [List.append_assoc]
      rw [← List.append_assoc]
      exact slice_append_mid _ _ _ _ _ hp.symm rfl
    · obtain ⟨h1, h2, h3, h5⟩ := ih' c hc hr d hd
      exact ⟨h1, by omega, h3, by omega⟩

theorem blob_at_loc (version : Nat) (cmds : List CsfCmd) (h : CsfWF version cmds) (c : CsfCmd)
    (hc : c ∈ assignLocs (csfHdrLen cmds) cmds) (hr : needsRef c.cmd = true) (d : Bytes) (hd : c.data = some d) :
    slice (csfBytes version cmds) c.cmd.loc d.length = d ∧ csfHdrLen cmds ≤ c.cmd.loc ∧ c.cmd.loc % 4 = 0 ∧
    c.cmd.loc + d.length ≤ HabConsts.csfSize := by
  obtain ⟨h1, h2, h3, h5⟩ := located cmds (csfHdrLen cmds) (csfBase version cmds) _ _ (csfBase_length _ _)
    (csfHdrLen_mod4 cmds) rfl (fun c hc hrc => by obtain ⟨d, hd, _⟩ := (h.2.1 c hc).2.1 hrc; exact ⟨d, hd⟩) c hc hr d hd
  exact ⟨h1, h2, h3, Nat.le_trans h5 h.fit.2⟩

/-- a data block that starts with a header of tag `t` carrying the block's own length (`CrtBlob` is `HasTag 0xD7`) -/
def HasTag (t : Nat) (d : Bytes) : Prop := ∃ p body, p < 256 ∧ d = hdr t d.length p ++ body

theorem sigBlob_hasTag (v : Nat) (x : Bytes) (hv : v < 256) : HasTag Hab.Spec.tagSIG (sigBlob v x) :=
  ⟨v, x, hv, by simp [sigBlob]⟩

theorem macBlob_hasTag (v : Nat) (nonce mac : Bytes) (hv : v < 256) : HasTag Hab.Spec.tagMAC (macBlob v nonce mac) := by
  have : (macBlob v nonce mac).length = 8 + nonce.length + mac.length := by simp [macBlob]; omega
  exact ⟨v, [0, u8 nonce.length, 0, u8 mac.length] ++ nonce ++ mac, hv, by rw [this]; simp [macBlob, List.append_assoc]⟩

theorem dataRef_located (version : Nat) (cmds : List CsfCmd) (h : CsfWF version cmds) (c : CsfCmd)
    (hc : c ∈ assignLocs (csfHdrLen cmds) cmds) (hr : needsRef c.cmd = true) (d : Bytes) (hd : c.data = some d)
    (t : Nat) (what : String) (ht : t < 256) (hT : HasTag t d) :
    HabRom.dataRef (csfBytes version cmds) (csfHdrLen cmds) c.cmd.loc t what = .ok (c.cmd.loc, d.length) := by
  obtain ⟨p, body, hp, he⟩ := hT
  obtain ⟨h1, h2, h3, h5⟩ := blob_at_loc version cmds h c hc hr d hd
  have hcl := csfBytes_length version cmds h
  change _ ≤ 8192 at h5
  change _ = 8192 at hcl
  -- the header of the block, read inside the CSF
  have e : csfBytes version cmds = (csfBytes version cmds).take c.cmd.loc ++
      (hdr t d.length p ++ (body ++ (csfBytes version cmds).drop (c.cmd.loc + d.length))) := by
    conv => rhs; rw [← List.append_assoc (hdr _ _ _), ← he, ← slice_to_drop _ d _ h1, List.take_append_drop]
  obtain ⟨r1, r2, _⟩ := header_reads ((csfBytes version cmds).take c.cmd.loc)
    (body ++ (csfBytes version cmds).drop (c.cmd.loc + d.length)) t d.length p ht (by omega) hp
  have hl : ((csfBytes version cmds).take c.cmd.loc).length = c.cmd.loc := by rw [List.length_take, hcl]; omega
  have hd4 : 4 ≤ d.length := by rw [he]; simp
  rw [← e, hl] at r1 r2
  unfold HabRom.dataRef
  rw [chk_of _ _ _ (by simpa using h2), chk_of _ _ _ (by simp [h3]), r1, bindE_ok, r2, bindE_ok,
    chk_of _ _ _ (by simp), chk_of _ _ _ (by simp [hcl]; omega)]

/-- data references of a command list whose locations are assigned: `(location, length)` in command order -/
def refsOf : List CsfCmd → List (Nat × Nat)
  | [] => []
  | c :: r =>
    (if needsRef c.cmd then (match c.data with | some d => [(c.cmd.loc, d.length)] | none => []) else []) ++ refsOf r

/-- references of `assignLocs cur l`: ascending, each inside `[cur, cur + encData length)` -/
theorem refsOf_assign (l : List CsfCmd) (cur : Nat) :
    (refsOf (assignLocs cur l)).Pairwise (fun a b => a.1 + a.2 ≤ b.1) ∧
    ∀ x ∈ refsOf (assignLocs cur l), cur ≤ x.1 ∧ x.1 + x.2 ≤ cur + (encData l).length := by
  induction l generalizing cur with
  | nil => simp [assignLocs, refsOf]
  | cons a r ih =>
    obtain ⟨p, q⟩ := ih (cur + (dataOf a).length)
    -- the reference of the first command, if it has one, is `cur` with at most the bytes the command contributes
    have hx : ∀ x ∈ refsOf [reloc cur a], x.1 = cur ∧ x.2 ≤ (dataOf a).length := by
      unfold refsOf reloc dataOf
      by_cases hr : needsRef a.cmd = true
      · cases a.data <;> simp [hr, refsOf, needsRef_setLoc, loc_setLoc, padAlign_length, alignUp_ge]
      · simp [hr, refsOf]
    rw [assignLocs_cons, encData_cons, List.length_append,
      show refsOf (reloc cur a :: assignLocs (cur + (dataOf a).length) r) =
        refsOf [reloc cur a] ++ refsOf (assignLocs (cur + (dataOf a).length) r) by simp [refsOf]]
    refine ⟨List.pairwise_append.2 ⟨?_, p, fun x hxm y hy => ?_⟩, fun x hxm => ?_⟩
    · unfold refsOf; split <;> (try split) <;> simp [refsOf]
    · have := hx x hxm; have := q y hy; omega
    · rcases List.mem_append.1 hxm with hm | hm
      · have := hx x hm; omega
      · have := q x hm; omega

theorem disjoint_of_sym (l : List (Nat × Nat)) (h : l.Pairwise (fun a b => a.1 + a.2 ≤ b.1 ∨ b.1 + b.2 ≤ a.1)) :
    HabRom.disjoint l = true := by
  induction l with
  | nil => rfl
  | cons x r ih =>
    obtain ⟨a, l⟩ := x
    obtain ⟨h1, h2⟩ := List.pairwise_cons.1 h
    simp only [HabRom.disjoint, Bool.and_eq_true, List.all_eq_true]
    refine ⟨fun y hy => ?_, ih h2⟩
    obtain ⟨b, m⟩ := y
    have := h1 (b, m) hy
    simp only at this ⊢
    rcases this with t | t <;> simp [t]

/-- ascending without overlap, collected in reverse (as the reader's walk does), passes the reader's `disjoint` -/
theorem disjoint_reverse_of_ascending (l : List (Nat × Nat)) (h : l.Pairwise (fun a b => a.1 + a.2 ≤ b.1)) :
    HabRom.disjoint l.reverse = true := by
  apply disjoint_of_sym
  rw [List.pairwise_reverse]
  exact h.imp (fun hab => Or.inr hab)

end SpsdkVerif.Hab
