/- The certificate model: shape of the exported certificate and round trips of its parts (for C06.cert_signed_range / cert_roundtrip). -/
import SpsdkVerif.Model.AhabCert
import SpsdkVerif.Proofs.Ahab

namespace SpsdkVerif.Ahab
open SpsdkVerif SpsdkVerif.Misc
open SpsdkVerif.Generated
open SpsdkVerif.Spec.AhabRom
open SpsdkVerif.Crypto (CryptoOps CryptoLaws)

theorem certHeader_ok {len so : Nat} {ct : Cert} {h : Bytes} (hh : certHeader len so ct = .ok h) :
    ct.permData.length ≤ 12 ∧ ct.uuid.length ≤ 16 ∧
    fits certIntsA [AhabConsts.certificateVersion, len, AhabConsts.certificateTag, so, 255 - ct.perms % 256, ct.perms] = true ∧
    fits certIntsB [ct.fuse, AhabConsts.reserved, AhabConsts.reserved] = true ∧
    h = packInts certIntsA [AhabConsts.certificateVersion, len, AhabConsts.certificateTag, so, 255 - ct.perms % 256, ct.perms] ++
        extendTo 12 ct.permData ++ packInts certIntsB [ct.fuse, AhabConsts.reserved, AhabConsts.reserved] ++ extendTo 16 ct.uuid ∧
    h.length = 40 := by
  unfold certHeader at hh
  split at hh
  · cases hh
  rename_i hle
  have hle' : ct.permData.length ≤ 12 ∧ ct.uuid.length ≤ 16 := by
    simp only [certPermDataLen, certUuidLen, not_or, Nat.not_lt] at hle; exact hle
  cases hA : packChecked certIntsA [AhabConsts.certificateVersion, len, AhabConsts.certificateTag, so, 255 - ct.perms % 256, ct.perms] with
  | error e => rw [hA] at hh; cases hB : packChecked certIntsB [ct.fuse, AhabConsts.reserved, AhabConsts.reserved] <;> rw [hB] at hh <;> cases hh
  | ok a =>
    cases hB : packChecked certIntsB [ct.fuse, AhabConsts.reserved, AhabConsts.reserved] with
    | error e => rw [hA, hB] at hh; cases hh
    | ok b =>
      rw [hA, hB] at hh
      cases hh
      obtain ⟨fA, rfl⟩ := packChecked_ok hA
      obtain ⟨fB, rfl⟩ := packChecked_ok hB
      refine ⟨hle'.1, hle'.2, fA, fB, rfl, ?_⟩
      simp only [List.length_append, packInts_length _ _ fA, packInts_length _ _ fB, certPermDataLen, certUuidLen,
        extendTo_length 12 _ hle'.1, extendTo_length 16 _ hle'.2]
      rfl

theorem encodeCert_spec (c : CryptoOps) (ct : Cert) (b : Bytes) (h : encodeCert c ct = .ok b) :
    ∃ rb db hd g, certKeyBytes c ct = .ok (rb, db) ∧
      certHeader (certSigOffset rb db + signatureLen ct.signature) (certSigOffset rb db) ct = .ok hd ∧
      encodeSignature ct.signature = .ok g ∧ encodeCertSigned c ct = .ok (hd ++ rb ++ db) ∧
      b = hd ++ rb ++ db ++ g ∧ (hd ++ rb ++ db).length = certSigOffset rb db ∧
      b.length = certSigOffset rb db + signatureLen ct.signature := by
  unfold encodeCert at h
  cases hs : encodeCertSigned c ct with
  | error e => rw [hs] at h; cases hg : encodeSignature ct.signature <;> rw [hg] at h <;> cases h
  | ok sd =>
    cases hg : encodeSignature ct.signature with
    | error e => rw [hs, hg] at h; cases h
    | ok g =>
      rw [hs, hg] at h
      cases h
      have hs' := hs
      unfold encodeCertSigned at hs'
      cases hk : certKeyBytes c ct with
      | error e => rw [hk] at hs'; cases hs'
      | ok p =>
        obtain ⟨rb, db⟩ := p
        rw [hk] at hs'
        simp only at hs'
        cases hh : certHeader (certSigOffset rb db + signatureLen ct.signature) (certSigOffset rb db) ct with
        | error e => rw [hh] at hs'; cases hs'
        | ok hd =>
          rw [hh] at hs'
          cases hs'
          have h40 := (certHeader_ok hh).2.2.2.2.2
          have hl : (hd ++ rb ++ db).length = certSigOffset rb db := by
            simp only [List.length_append, h40, certSigOffset]; rfl
          refine ⟨rb, db, hd, g, rfl, hh, rfl, rfl, rfl, hl, ?_⟩
          rw [List.length_append, hl, encodeSignature_length hg]

structure CertWF (ct : Cert) : Prop where
  sigNe : ct.signature ≠ []
  alg : AhabConsts.srkRecordVersions.contains ct.key.signAlg = true ∧ AhabConsts.signAlgV2.any (fun t => t.2.1 == ct.key.signAlg) = true
  hsh : AhabConsts.hashAlgV2.any (fun t => t.2.1 == ct.key.hashAlg) = true

/-- what `parseCert` returns for an exported certificate -/
def expectedCert (c : CryptoOps) (ct : Cert) (rec : SrkRecord) (len so : Nat) : PCert :=
  ⟨len, so, ct.perms, extendTo 12 ct.permData, ct.fuse, extendTo 16 ct.uuid, rec, ct.srkId, ct.key.keyData, ct.signature⟩

theorem srkRecordOfV2_ok {c : CryptoOps} (hc : CryptoLaws c) {ix : Nat} {k : SrkV2} {rec : SrkRecord} (h : srkRecordOfV2 c ix k = .ok rec) :
    rec.signAlg = k.signAlg ∧ rec.hashAlg = k.hashAlg ∧ rec.keySize = k.keySize ∧ rec.srkFlags = k.srkFlags ∧ rec.length = 76 ∧
    rec.params.length = 64 := by
  unfold srkRecordOfV2 at h
  cases hd : encodeSrkData ix k.keyData with
  | error e => rw [hd] at h; cases h
  | ok d =>
    cases ha : hashAlgOfTag k.hashAlg with
    | none => rw [hd, ha] at h; cases h
    | some a =>
      rw [hd, ha] at h
      cases h
      refine ⟨rfl, rfl, rfl, rfl, rfl, ?_⟩
      have hl := hc.hash_len a d
      have ha64 : a.size ≤ 64 := by
        unfold hashAlgOfTag at ha
        split at ha
        · cases ha; decide
        · split at ha
          · cases ha; decide
          · split at ha
            · cases ha; decide
            · cases ha
      exact extendTo_length 64 _ (by rw [hl]; exact ha64)

theorem srkRecordV2_roundtrip (rec : SrkRecord) (rb rest : Bytes) (h : encodeSrkRecord rec = .ok rb) (hlen : rec.length = 76)
    (hp : rec.params.length = 64)
    (halg : AhabConsts.srkRecordVersions.contains rec.signAlg = true ∧ AhabConsts.signAlgV2.any (fun t => t.2.1 == rec.signAlg) = true)
    (hhsh : AhabConsts.hashAlgV2.any (fun t => t.2.1 == rec.hashAlg) = true) :
    decodeSrkRecordV2 (rb ++ rest) = some rec ∧ rb.length = 76 := by
  have hbl := encodeSrkRecord_length h
  obtain ⟨l1, l2, hk, hf, hf2, rfl⟩ := encodeSrkRecord_ok h
  have hu := unpack_pack _ _ (packInts [2, 2] [l1, l2] ++ (rec.params ++ rest)) hf
  have hH : (packInts _ _).length = 8 := packInts_length _ _ hf
  have hL : (packInts _ _).length = 4 := packInts_length _ _ hf2
  generalize packInts [1, 2, 1, 1, 1, 1, 1] _ = H at *
  generalize packInts [2, 2] _ = L at *
  rw [show AhabConsts.srkRecordLayout.size = 12 from rfl, hp] at hbl
  refine ⟨?_, hbl⟩
  unfold decodeSrkRecordV2
  simp only [List.append_assoc, show AhabConsts.srkRecordLayout.size = 12 from rfl,
    show AhabConsts.srkRecordLayout.intWidths = [1, 2, 1, 1, 1, 1, 1] from rfl, show AhabConsts.srkRecordV2ParamsLen = 64 from rfl]
  rw [if_neg (by simp only [List.length_append, hH, hL]; omega), hu]
  simp only
  rw [if_neg (by simp only [ne_eq, not_true_eq_false, false_or, halg.1, Bool.not_true, Bool.false_eq_true, List.length_append, hH, hL,
      hlen, hp]; omega),
    if_neg (by omega), if_neg (by simp [halg.2, hhsh]), ← List.append_assoc, List.drop_left' (by rw [List.length_append, hH, hL]),
    List.take_left' hp]

theorem srkData_roundtrip (sid : Nat) (data db rest : Bytes) (h : encodeSrkData sid data = .ok db) :
    parseSrkData (db ++ rest) = some (sid, 8 + data.length, data) ∧ db.length = 8 + data.length := by
  have hsz : AhabConsts.srkDataLayout.size = 8 := rfl
  unfold encodeSrkData at h
  rw [hsz] at h
  cases hp : packChecked AhabConsts.srkDataLayout.intWidths
      [AhabConsts.srkDataVersion, 8 + data.length, AhabConsts.srkDataTag, sid, AhabConsts.reserved, AhabConsts.reserved] with
  | error e => rw [hp] at h; cases h
  | ok hb =>
    rw [hp] at h
    cases h
    obtain ⟨hf, rfl⟩ := packChecked_ok hp
    generalize hX : packInts AhabConsts.srkDataLayout.intWidths
      [AhabConsts.srkDataVersion, 8 + data.length, AhabConsts.srkDataTag, sid, AhabConsts.reserved, AhabConsts.reserved] = X at *
    have hl8 : X.length = 8 := by rw [← hX, packInts_length _ _ hf]; rfl
    have hlen : (X ++ data).length = 8 + data.length := by rw [List.length_append, hl8]
    refine ⟨?_, hlen⟩
    unfold parseSrkData
    rw [hsz, if_neg (by rw [List.length_append, hlen]; omega), List.append_assoc]
    have hu : unpackInts AhabConsts.srkDataLayout.intWidths (X ++ (data ++ rest)) =
        some [AhabConsts.srkDataVersion, 8 + data.length, AhabConsts.srkDataTag, sid, AhabConsts.reserved, AhabConsts.reserved] := by
      rw [← hX]; exact unpack_pack _ _ _ hf
    rw [hu]
    simp only
    have c1 : ¬ (AhabConsts.srkDataTag ≠ AhabConsts.srkDataTag ∨ AhabConsts.srkDataVersion ≠ AhabConsts.srkDataVersion ∨
        (X ++ (data ++ rest)).length < 8 + data.length) := by
      intro hx
      rcases hx with h1 | h1 | h1
      · exact h1 rfl
      · exact h1 rfl
      · rw [← List.append_assoc, List.length_append, hlen] at h1; omega
    rw [if_neg c1, ← List.append_assoc, List.take_left' hlen, List.drop_left' hl8]

theorem certKeyBytes_ok {c : CryptoOps} {ct : Cert} {rb db : Bytes} (h : certKeyBytes c ct = .ok (rb, db)) :
    ∃ rec, srkRecordOfV2 c ct.srkId ct.key = .ok rec ∧ encodeSrkRecord rec = .ok rb ∧ encodeSrkData ct.srkId ct.key.keyData = .ok db := by
  unfold certKeyBytes at h
  split at h
  · cases h
  next rec hr =>
  split at h <;> cases h
  exact ⟨rec, hr, ‹_›, ‹_›⟩

end SpsdkVerif.Ahab
