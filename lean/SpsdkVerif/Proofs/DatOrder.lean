/-
Vocabulary of the field ORDER statements of Properties/C15.lean: the third (parse) table of each credential
class, the attributes a layout mentions, the generated tables of the EdgeLock v2 certificate and of the responses
interpreted field by field, and the payload of the EdgeLock v2 response with its round trip.  The tables themselves are
obtained by `tools/extract/gen_C15.py`, separately for each site (data to sign / export / parse), by running the current
classes on distinctive values; the list statements over them are in Properties/C15.lean.  Core Lean only.
-/
import SpsdkVerif.Model.Dat
import SpsdkVerif.Model.DatV2
import SpsdkVerif.Proofs.Dat
import SpsdkVerif.Proofs.DatV2
namespace SpsdkVerif.Dat
open SpsdkVerif SpsdkVerif.Misc SpsdkVerif.Generated
open SpsdkVerif.Crypto (CryptoOps CryptoLaws SigAlg HashAlg PrivKey Rand)

/-- what `parse()` of the class reads, by offset (third table; `exportLayout` / `signLayout` are the other two) -/
def parseLayout : Cls → List (DatFld × DatArg)
  | .rsa => DatConsts.rsaParse | .ecc => DatConsts.eccParse | .ele => DatConsts.eleParse

/-- the attributes a layout packs / reads, in order -/
def argsOf (l : List (DatFld × DatArg)) : List DatArg := l.map (·.2)

/-- every attribute of a credential object except the signature (`rot_pub` is not a field of its own in the EdgeLock class:
    the key is inside the SRK table of the RoT meta) -/
def dcAttrs : Cls → List DatArg
  | .ele => [.major, .minor, .socc, .uuid, .rotMeta, .dck, .ccSocu, .ccVu, .beacon]
  | _ => [.major, .minor, .socc, .uuid, .rotMeta, .dck, .ccSocu, .ccVu, .beacon, .rotPub]

section V2
open SpsdkVerif.DatV2

/-- bytes of one field of the certificate, by its generated (struct code, role) -/
def certFieldBytes (c : Cert) : CertW × CertRole → Bytes
  | (.u8, .version) => [UInt8.ofNat AhabConsts.certificateVersion]
  | (.u16, .length) => leEnc 2 c.length
  | (.u8, .tag) => [UInt8.ofNat AhabConsts.certificateTag]
  | (.u16, .sigOffset) => leEnc 2 c.sigOffset
  | (.u8, .invPerm) => [UInt8.ofNat (255 - c.permissions)]
  | (.u8, .perm) => [UInt8.ofNat c.permissions]
  | (.bytes n, .permData) => fitS n c.permData
  | (.u8, .fuse) => [UInt8.ofNat c.fuseVersion]
  | (.u8, .reserved) => [0]
  | (.u16, .reserved) => leEnc 2 0
  | (.bytes n, .uuid) => fitS n c.uuid
  /- the key block is one opaque string in the model: record ‖ data -/
  | (.raw, .keyRecord) => c.key0
  | (.raw, .keyData) => []
  | (.raw, .sig0) => match sigContainer c.sig0 with | .ok s => s | .error _ => []
  | _ => []

/-- the model's signed data is the generated table, field by field (the hand-written `certHead` cannot drift from the
    order the source packs) -/
theorem signedData_follows_table (c : Cert) (d : Bytes) (h : signedData c = .ok d) :
    d = DatConsts.certSignFields.flatMap (certFieldBytes c) := by
  unfold signedData at h
  split at h
  · rename_i hd hh
    injection h with h
    subst h
    unfold certHead at hh
    split at hh
    · cases hh
    · split at hh
      · injection hh with hh
        subst hh
        simp [DatConsts.certSignFields, certFieldBytes, DatConsts.certPermDataSize, DatConsts.certUuidSize]
      · cases hh
  · cases h

end V2

/-- a response layout with the `common data` placeholder replaced by the common layout of the class -/
def darFlat (usesEcc : Bool) (l : List (DatFld × DatArg)) : List (DatFld × DatArg) :=
  l.flatMap fun f => if f = (.raw, .skip) then darCommonLayout usesEcc else [f]

def darSignedFields (usesEcc : Bool) : List (DatFld × DatArg) := darFlat usesEcc DatConsts.darSignLayout
def darExportedFields (usesEcc : Bool) : List (DatFld × DatArg) := darFlat usesEcc DatConsts.darExportLayout

/-- bytes of one response field (`darFieldBytes` + the two trailing fields) -/
def darFieldBytesX (r : DAR) (sig : Bytes) (f : DatFld × DatArg) : Bytes :=
  if f = (.raw, .dacChallenge) then r.challenge else if f = (.raw, .signature) then sig else darFieldBytes r f

/-- `MessageDat.export_payload()`: the first 32 bytes of the challenge vector ‖ authentication beacon on two bytes
    (`int.to_bytes(2)`: OverflowError above 65535) -/
def datPayload (challenge : Bytes) (beacon : Nat) : PyRes Bytes :=
  if beacon < 65536 then .ok (challenge.take 32 ++ leEnc 2 beacon) else .error .other

/-- `MessageDat.parse_payload()` -/
def datPayloadParse (d : Bytes) : Bytes × Nat := (d.take 32, leDec ((d.drop 32).take 2))

/-- the payload written field by field from a layout table -/
def datFieldBytes (challenge : Bytes) (beacon : Nat) : DatFld × DatArg → Bytes
  | (.bytes (.fixed n), .dacChallenge) => challenge.take n
  | (.u16, .authBeacon) => leEnc 2 beacon
  | _ => []

theorem datPayload_follows_table (ch : Bytes) (b : Nat) (p : Bytes) (h : datPayload ch b = .ok p) :
    p = DatConsts.datMsgExport.flatMap (datFieldBytes ch b) := by
  unfold datPayload at h
  split at h
  · cases h; simp [DatConsts.datMsgExport, datFieldBytes]
  · cases h

theorem datPayload_roundtrip (ch : Bytes) (b : Nat) (hc : ch.length = 32) (hb : b < 65536) :
    ∃ p, datPayload ch b = .ok p ∧ p.length = DatConsts.datMsgPayloadLen ∧ ∀ t, datPayloadParse (p ++ t) = (ch, b) := by
  have ht : ch.take 32 = ch := by rw [← hc]; exact List.take_length
  refine ⟨ch ++ leEnc 2 b, by simp [datPayload, hb, ht], by simp [leEnc_length, hc, DatConsts.datMsgPayloadLen], ?_⟩
  intro t
  have h1 : (ch ++ leEnc 2 b ++ t).take 32 = ch := by rw [List.append_assoc, List.take_left' hc]
  have h2 : (ch ++ leEnc 2 b ++ t).drop 32 = leEnc 2 b ++ t := by rw [List.append_assoc, List.drop_left' hc]
  simp only [datPayloadParse, h1, h2, List.take_left' (leEnc_length 2 b), leDec_leEnc2 b hb]

theorem datPayload_inj (c₁ c₂ : Bytes) (b₁ b₂ : Nat) (h₁ : c₁.length = 32) (h₂ : c₂.length = 32) (p : Bytes)
    (e₁ : datPayload c₁ b₁ = .ok p) (e₂ : datPayload c₂ b₂ = .ok p) : c₁ = c₂ ∧ b₁ = b₂ := by
  have hb₁ : b₁ < 65536 := by
    unfold datPayload at e₁; split at e₁
    · assumption
    · cases e₁
  have hb₂ : b₂ < 65536 := by
    unfold datPayload at e₂; split at e₂
    · assumption
    · cases e₂
  obtain ⟨p₁, q₁, _, r₁⟩ := datPayload_roundtrip c₁ b₁ h₁ hb₁
  obtain ⟨p₂, q₂, _, r₂⟩ := datPayload_roundtrip c₂ b₂ h₂ hb₂
  have e1 : p₁ = p := Except.ok.inj (q₁.symm.trans e₁)
  have e2 : p₂ = p := Except.ok.inj (q₂.symm.trans e₂)
  subst e1
  subst e2
  have := (r₁ []).symm.trans (r₂ [])
  exact ⟨congrArg Prod.fst this, congrArg Prod.snd this⟩

theorem hash_size_pos (a : HashAlg) : 0 < a.size := by cases a <;> decide

end SpsdkVerif.Dat
