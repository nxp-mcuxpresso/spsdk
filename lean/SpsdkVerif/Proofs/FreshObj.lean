/-
Helper lemmas for the re-use and same-directory parts of Properties/C17.lean (models: Model/FreshObj.lean,
Model/FreshFile.lean).
-/
import SpsdkVerif.Model.FreshFile

namespace SpsdkVerif.Fresh

theorem Store.set_same (s : Store) (o : Nat) (c : Cell) : (s.set o c) o = c := by simp [Store.set]
theorem Store.set_other (s : Store) (o x : Nat) (c : Cell) (h : x ≠ o) : (s.set o c) x = s x := by simp [Store.set, h]

/-- The birth certificate of the value `v` held by build `(o, e)`: if SPSDK chose it, the counter has passed it and `owner`
    names this build as the one it was drawn for; if nothing was supplied for the build, it is not a user value. -/
def Owned (owner : Token → Nat × Nat) (next o e : Nat) (sup : Bool) (v : Option OVal) : Prop :=
  (sup = false → ∀ u, v ≠ some (.user u)) ∧ ∀ t, v = some (.chosen t) → t < next ∧ owner t = (o, e)

/-- invariant of `ostep` when every path resets: every value in an artifact or a slot is owned by its build -/
def OInv (s : OSt) : Prop :=
  ∃ owner, (∀ a ∈ s.arts, Owned owner s.next a.obj a.epoch a.supplied (some a.val)) ∧
    ∀ o, Owned owner s.next o (s.store o).epoch (s.store o).supplied (s.store o).val

theorem OInv.safe {s : OSt} (h : OInv s) : Safe s.arts := by
  obtain ⟨owner, hA, -⟩ := h
  refine ⟨fun a ha hs => ?_, fun a ha b hb t hat hbt => ?_⟩
  · cases hv : a.val with
    | user u => exact absurd (congrArg some hv) ((hA a ha).1 hs u)
    | chosen t => exact ⟨t, rfl⟩
  · have := ((hA a ha).2 t (congrArg some hat)).2.symm.trans ((hA b hb).2 t (congrArg some hbt)).2
    exact ⟨congrArg Prod.fst this, congrArg Prod.snd this⟩

theorem OInv.init : OInv {} := ⟨fun _ => (0, 0), by simp, fun _ => ⟨by simp, by simp⟩⟩

/-- overwriting the slot of `o` by something that is not a self-chosen value keeps the invariant -/
theorem OInv.set (s : OSt) (hI : OInv s) (o : Nat) (c : Cell)
    (hc : ∀ t, c.val ≠ some (.chosen t)) (hs : c.supplied = false → c.val = none) :
    OInv { s with store := s.store.set o c } := by
  obtain ⟨owner, hA, hC⟩ := hI
  refine ⟨owner, hA, fun x => ?_⟩
  dsimp only
  by_cases hx : x = o
  · subst hx
    rw [Store.set_same]
    exact ⟨fun h u hu => (by rw [hs h] at hu; cases hu), fun t ht => absurd ht (hc t)⟩
  · rw [Store.set_other _ _ _ _ hx]; exact hC x

theorem ostep_respec_none (T : List Bool) (s : OSt) (o p : Nat) (sup : Option Nat) (hp : T[p]? = none) :
    ostep T s (.respec o p sup) = s := by simp [ostep, hp]

theorem ostep_respec_user (T : List Bool) (s : OSt) (o p u : Nat) (r : Bool) (hp : T[p]? = some r) :
    ostep T s (.respec o p (some u)) =
      ⟨s.store.set o { val := some (.user u), epoch := (s.store o).epoch + 1, supplied := true }, s.next, s.arts⟩ := by
  simp [ostep, hp]

theorem ostep_respec_reset (T : List Bool) (s : OSt) (o p : Nat) (hp : T[p]? = some true) :
    ostep T s (.respec o p none) =
      ⟨s.store.set o { val := none, epoch := (s.store o).epoch + 1, supplied := false }, s.next, s.arts⟩ := by
  simp [ostep, hp]

theorem ostep_respec_keep (T : List Bool) (s : OSt) (o p : Nat) (hp : T[p]? = some false) :
    ostep T s (.respec o p none) =
      ⟨s.store.set o { val := (s.store o).val, epoch := (s.store o).epoch + 1, supplied := false }, s.next, s.arts⟩ := by
  simp [ostep, hp]

theorem ostep_emit_some (T : List Bool) (s : OSt) (o : Nat) (v : OVal) (hv : (s.store o).val = some v) :
    ostep T s (.emit o) = ⟨s.store, s.next, ⟨o, (s.store o).epoch, (s.store o).supplied, v⟩ :: s.arts⟩ := by
  simp [ostep, hv]

theorem ostep_emit_none (T : List Bool) (s : OSt) (o : Nat) (hv : (s.store o).val = none) :
    ostep T s (.emit o) =
      ⟨s.store.set o { val := some (.chosen s.next), epoch := (s.store o).epoch, supplied := (s.store o).supplied }, s.next + 1,
       ⟨o, (s.store o).epoch, (s.store o).supplied, .chosen s.next⟩ :: s.arts⟩ := by
  simp [ostep, hv, draw]

/-- `ostep` looks at the table only through the entry of the path used -/
theorem ostep_respec_congr (T T' : List Bool) (p p' : Nat) (h : T[p]? = T'[p']?) (s : OSt) (o : Nat) (sup : Option Nat) :
    ostep T s (.respec o p sup) = ostep T' s (.respec o p' sup) := by
  simp only [ostep, h]

theorem ostep_new_congr (T T' : List Bool) (s : OSt) (o : Nat) : ostep T s (.new o) = ostep T' s (.new o) := rfl
theorem ostep_emit_congr (T T' : List Bool) (s : OSt) (o : Nat) : ostep T s (.emit o) = ostep T' s (.emit o) := rfl

theorem OInv.step (T : List Bool) (hT : ∀ (p : Nat) (r : Bool), T[p]? = some r → r = true) (s : OSt) (hI : OInv s) (st : Step) :
    OInv (ostep T s st) := by
  cases st with
  | new o => exact OInv.set s hI o _ (by intro t h; cases h) (fun _ => rfl)
  | respec o p sup =>
    cases hp : T[p]? with
    | none => rw [ostep_respec_none T s o p sup hp]; exact hI
    | some r =>
      cases hT p r hp
      cases sup with
      | some u =>
        rw [ostep_respec_user T s o p u true hp]
        exact OInv.set s hI o _ (by intro t h; cases h) (by intro h; cases h)
      | none =>
        rw [ostep_respec_reset T s o p hp]
        exact OInv.set s hI o _ (by intro t h; cases h) (fun _ => rfl)
  | emit o =>
    obtain ⟨owner, hA, hC⟩ := hI
    cases hv : (s.store o).val with
    | some v =>
      -- the stored value is used: the artifact inherits the certificate of the slot
      rw [ostep_emit_some T s o v hv]
      exact ⟨owner, List.forall_mem_cons.mpr ⟨hv ▸ hC o, hA⟩, hC⟩
    | none =>
      -- a new value is drawn for this build and stored; everything older is below the counter
      rw [ostep_emit_none T s o hv]
      have mono {x e sup v} (h : Owned owner s.next x e sup v) :
          Owned (fun t => if t = s.next then (o, (s.store o).epoch) else owner t) (s.next + 1) x e sup v :=
        ⟨h.1, fun t ht => ⟨Nat.lt_succ_of_lt (h.2 t ht).1, (if_neg (Nat.ne_of_lt (h.2 t ht).1)).trans (h.2 t ht).2⟩⟩
      have new {sup} : Owned (fun t => if t = s.next then (o, (s.store o).epoch) else owner t) (s.next + 1) o
          (s.store o).epoch sup (some (.chosen s.next)) :=
        ⟨fun _ u h => (by cases h), fun t ht => by cases ht; exact ⟨Nat.lt_succ_self _, if_pos rfl⟩⟩
      refine ⟨_, List.forall_mem_cons.mpr ⟨new, fun a ha => mono (hA a ha)⟩, fun x => ?_⟩
      dsimp only
      by_cases hx : x = o
      · subst hx; rw [Store.set_same]; exact new
      · rw [Store.set_other _ _ _ _ hx]; exact mono (hC x)

theorem OInv.foldl (T : List Bool) (hT : ∀ (p : Nat) (r : Bool), T[p]? = some r → r = true) (h : List Step) (s : OSt) (hI : OInv s) :
    OInv (h.foldl (ostep T) s) := by
  induction h generalizing s with
  | nil => exact hI
  | cons st rest ih => exact ih _ (OInv.step T hT s hI st)

/-- invariant when the explicit flag decides: the builds without reuse carry exactly the numbers drawn so far, latest first -/
def FInv (s : FSt) : Prop :=
  s.arts.filter (fun a => !a.reuse) = (List.range s.next).reverse.map fun t => ⟨false, .chosen t⟩

theorem FInv.step (s : FSt) (hI : FInv s) (st : FStep) : FInv (fstep .flag s st) := by
  cases st with
  | place u => exact hI
  | remove => exact hI
  | build reuse =>
    cases reuse with
    | true =>
      simp only [fstep, if_true]
      split
      · simpa [FInv] using hI
      · exact hI
    | false => simp [fstep, draw, FInv, List.range_succ, show _ = _ from hI]

theorem FInv.foldl (h : List FStep) (s : FSt) (hI : FInv s) : FInv (h.foldl (fstep .flag) s) := by
  induction h generalizing s with
  | nil => exact hI
  | cons st rest ih => exact ih _ (FInv.step s hI st)

theorem FInv.safe {s : FSt} (h : FInv s) : SafeF s.arts := by
  refine ⟨fun a ha hr => ?_, ?_⟩
  · have : a ∈ s.arts.filter (fun a => !a.reuse) := List.mem_filter.mpr ⟨ha, by simp [hr]⟩
    rw [h] at this
    obtain ⟨t, -, rfl⟩ := List.mem_map.mp this
    exact ⟨t, rfl⟩
  · rw [h, List.pairwise_map, List.pairwise_reverse]
    exact List.pairwise_lt_range.imp fun hlt heq => by cases heq; exact Nat.lt_irrefl _ hlt

end SpsdkVerif.Fresh
