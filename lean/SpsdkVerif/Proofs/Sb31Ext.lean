/-
Helper lemmas about Model/Sb31Ext.lean for Properties/C05.lean: the `export(cert_block=…)` override (`exportOv`), the tag word
behind the common command header (`tagWord`).
-/
import SpsdkVerif.Model.Sb31Ext
import SpsdkVerif.Proofs.Sb31

namespace SpsdkVerif.Sb31
open SpsdkVerif SpsdkVerif.Misc SpsdkVerif.Crypto SpsdkVerif.Generated
open Rom Spec

theorem encPayload_withCert (c : CryptoOps) (s : ObjState) (cert : Bytes) (n : Nat) (b : Bytes) :
    encPayload c (withCert s cert) n b = encPayload c s n b := rfl

theorem buildChain_withCert (c : CryptoOps) (s : ObjState) (cert start : Bytes) :
    ∀ (blocks : List Bytes) (n : Nat), buildChain c (withCert s cert) start n blocks = buildChain c s start n blocks
  | [], _ => rfl
  | b :: bs, n => by
    simp only [buildChain, buildChain_withCert c s cert start bs (n + 1), encPayload_withCert]
    rfl

theorem exportOv_none (c : CryptoOps) (s : ObjState) (r : Rand) : exportOv c s none r = exportSb c s r := rfl

theorem exportOv_empty (c : CryptoOps) (s : ObjState) (r : Rand) : exportOv c s (some []) r = exportSb c s r := rfl

/-- a non-empty override of the SAME length gives exactly the file of the object that owns that certificate block -/
theorem exportOv_same_length (c : CryptoOps) (s : ObjState) (ov : Bytes) (r : Rand) (hne : ov ≠ [])
    (hlen : ov.length = s.cfg.cert.length) :
    (exportOv c s (some ov) r).2 = (exportSb c (withCert s ov) r).2 := by
  have he : ov.isEmpty = false := by cases ov <;> simp_all
  simp only [exportOv, exportSb, certData, he, buildChain_withCert]
  simp only [withCert, hlen]
  rfl

/-- the bytes of `export(cert_block=ov)` for a non-empty override: the header is the one of the OBJECT (`hdrSpec s`: total length from
    the object's own certificate block), the certificate block bytes are the override -/
theorem exportOv_bytes (c : CryptoOps) (s : ObjState) (ov : Bytes) (r : Rand) (hne : ov ≠ [])
    (hh : s.cfg.hashLen = 32 ∨ s.cfg.hashLen = 48) :
    (exportOv c s (some ov) r).2 =
      encHeader (hdrSpec s) ++ ((chainOf c s).1 ++ (ov ++
        (c.sign (sigAlgOf s.cfg.hashLen) s.cfg.sk (encHeader (hdrSpec s) ++ ((chainOf c s).1 ++ ov)) r ++
          (chainOf c s).2.flatten))) := by
  have he : ov.isEmpty = false := by cases ov <;> simp_all
  simp only [exportOv, certData, he, headerOf_eq s hh, chainStartHash_eq, chainOf, List.append_assoc]
  rfl

theorem good_withCert {c : CryptoOps} {s : ObjState} (hg : Good c s) (cert : Bytes) : Good c (withCert s cert) :=
  ⟨hg.hl, hg.keyLen, hg.rights, hg.kdk⟩

theorem tagWord_baseHdr (a b t : Nat) (ht : t < 4294967296) (r : Bytes) : tagWord (baseHdr a b t ++ r) = t := by
  rw [tagWord, baseHdr, List.append_assoc, List.drop_left' (by simp), List.take_left' (u32_length t), u32,
    leDec_leEnc 4 t ht]

/-- membership in a table of (name, number) pairs, found by the number: no string is compared -/
theorem mem_of_find_snd {l : List (String × Nat)} {s : String} {t : Nat} (h : l.find? (·.2 == t) = some (s, t)) : (s, t) ∈ l :=
  List.mem_of_find?_eq_some h

end SpsdkVerif.Sb31
