/-
Certificate block v1 inside an SB 2.1 file (C03): the loader model of C04 (`Spec/Sb2Rom.lean`, written independently with its
own constants) finds, from the block's own header, the length SPSDK exported and the RKH table of the
keys that were given.
-/
import SpsdkVerif.Proofs.CertBlockRom
import SpsdkVerif.Spec.Sb2Rom

namespace SpsdkVerif.CertBlock
open SpsdkVerif SpsdkVerif.Spec
open SpsdkVerif.Misc hiding Bytes
open SpsdkVerif.Crypto (HashAlg CryptoOps CryptoLaws Bytes)
open SpsdkVerif.Rkht

theorem splitW_append (w : Nat) (ws : List Nat) (a d : Bytes) (ha : a.length = w) :
    Sb2.Rom.splitW (w :: ws) (a ++ d) = (Sb2.Rom.splitW ws d).map (a :: ·) := by
  simp only [Sb2.Rom.splitW, List.length_append, ha]
  rw [if_neg (by omega), List.drop_left' ha, List.take_left' ha]
  cases Sb2.Rom.splitW ws d <;> rfl

/-- SB 2.1 loader (`Sb2.Rom.certBlockLen`): at the offset where an exported certificate block v1 starts - whatever precedes and follows it -
    the loader computes, from the header alone, exactly the number of bytes SPSDK exported (default alignment 16), and the 128 bytes it
    takes for the RKH table (offset + header size + certificate table length) are the four-slot table of the block -/
theorem sb21_rom_reads_exportV1 (certOk : Bytes → Bool) (cb : CertBlockV1) (wf : WFv1 certOk cb) (ha : cb.alignment = 16)
    (pre rest : Bytes) :
    Sb2.Rom.certBlockLen (pre ++ (bytesV1 cb ++ rest)) pre.length = .ok (bytesV1 cb).length ∧
    Sb2.Rom.slice (pre ++ (bytesV1 cb ++ rest)) (pre.length + Sb2.Rom.Spec.certHeaderSize + certTableLength cb.certs) Sb2.Rom.Spec.rkhTableSize =
      (pad4 cb.rkh).flatten := by
  have hsig : G.cbV1Signature.length = 4 := rfl
  have hd : (pre ++ (bytesV1 cb ++ rest)).drop pre.length = bytesV1 cb ++ rest := List.drop_left' rfl
  have e2 : Sb2.Rom.Spec.certHeaderSize = 32 := rfl
  have e3 : Sb2.Rom.Spec.rkhTableSize = 128 := rfl
  constructor
  · have hw : Sb2.Rom.Spec.certHeaderWidths = [4, 2, 2, 4, 4, 4, 4, 4, 4] := rfl
    have e1 : Sb2.Rom.Spec.certSignature = G.cbV1Signature := by decide
    have e4 : leDec (leEnc 4 32) = 32 := by decide
    have hctl : leDec (leEnc 4 (certTableLength cb.certs)) = certTableLength cb.certs := leDec_leEnc 4 _ wf.table
    rw [Sb2.Rom.certBlockLen, hd, bytesV1_eq, headerV1Bytes]
    simp only [List.append_assoc, hdrOf]
    rw [hw, splitW_append 4 _ _ _ hsig, splitW_append 2 _ _ _ (leEnc_len 2 _), splitW_append 2 _ _ _ (leEnc_len 2 _),
      splitW_append 4 _ _ _ (leEnc_len 4 _), splitW_append 4 _ _ _ (leEnc_len 4 _), splitW_append 4 _ _ _ (leEnc_len 4 _),
      splitW_append 4 _ _ _ (leEnc_len 4 _), splitW_append 4 _ _ _ (leEnc_len 4 _), splitW_append 4 _ _ _ (leEnc_len 4 _)]
    simp only [Sb2.Rom.splitW, Option.map_some, e1, e2, e3, e4, hctl, ne_eq, not_true_eq_false, ↓reduceIte]
    rw [bytesV1_length certOk cb wf, ha]
    rfl
  · rw [Sb2.Rom.slice, e2, e3, Nat.add_assoc, ← List.drop_drop, hd, bytesV1_eq, ← List.drop_drop, List.drop_left' (headerV1Bytes_len _),
      List.drop_left' (certsBytes_len _)]
    exact List.take_left' (tbl_flatten_len cb.rkh wf.tab)

end SpsdkVerif.CertBlock
