/- Helper lemmas for Properties/C03.lean: certificate-block codecs (round trips, flags, signed range). -/
import SpsdkVerif.Model.CertBlock
import SpsdkVerif.Proofs.Rkht

namespace SpsdkVerif.CertBlock
open SpsdkVerif SpsdkVerif.Spec
open SpsdkVerif.Misc hiding Bytes
open SpsdkVerif.Crypto (HashAlg CryptoOps CryptoLaws Bytes)
open SpsdkVerif.Rkht (bind_ok pure_eq_ok exportV1 exportV1_ok rkhtV1Init rkhtV1Init_ok RootKeyRecord rkrFlags curveBit exportV21 rkhtInit
  rkhtInit_ok rkrHashAlgorithm leEnc_len drop_step flatten_lenN WFtab tbl tbl_length tbl_len32 tbl_flatten_len)

theorem and_two_pow_ne_zero (x k : Nat) : x &&& 2 ^ k ≠ 0 ↔ x / 2 ^ k % 2 = 1 := by
  have h1 : (x &&& 2 ^ k) / 2 ^ k = x / 2 ^ k % 2 := by
    rw [Nat.and_div_two_pow, Nat.div_self (Nat.two_pow_pos k)]; exact Nat.and_two_pow_sub_one_eq_mod _ 1
  have h2 : (x &&& 2 ^ k) % 2 ^ k = 0 := by rw [Nat.and_mod_two_pow, Nat.mod_self, Nat.and_zero]
  have := Nat.div_add_mod (x &&& 2 ^ k) (2 ^ k)
  rw [h1, h2] at this
  have hp := Nat.two_pow_pos k
  constructor
  · intro h
    rcases Nat.mod_two_eq_zero_or_one (x / 2 ^ k) with e | e
    · rw [e] at this; omega
    · exact e
  · intro h; rw [h] at this; omega

theorem and_nibble_shr (x k : Nat) : (x &&& (15 <<< k)) >>> k = x / 2 ^ k % 16 := by
  rw [Nat.shiftRight_and_distrib, Nat.shiftLeft_shiftRight, Nat.shiftRight_eq_div_pow]
  exact Nat.and_two_pow_sub_one_eq_mod _ 4

theorem and_15 (x : Nat) : x &&& 15 = x % 16 := Nat.and_two_pow_sub_one_eq_mod x 4

theorem bit31_bne (x : Nat) : (x &&& 2147483648 != 0) = (x / 2147483648 % 2 == 1) := by
  rw [Bool.eq_iff_iff, bne_iff_ne, beq_iff_eq]; exact and_two_pow_ne_zero x 31

theorem packLE_ok (w v : Nat) (h : v < 256 ^ w) : packLE w v = .ok (leEnc w v) := by simp [packLE, h]

theorem unpackLE_append (w v : Nat) (rest : Bytes) (h : v < 256 ^ w) :
    unpackLE w (leEnc w v ++ rest) = .ok (v, rest) := by
  have hl := leEnc_len w v
  simp only [unpackLE, List.length_append, hl]
  rw [if_neg (by omega), List.take_left' hl, List.drop_left' hl, leDec_leEnc w v h]

/-- the RKH table as `RKHTv1.parse` returns it: always four entries, missing ones zero -/
def pad4 (l : List Bytes) : List Bytes := l ++ List.replicate (4 - l.length) (List.replicate 32 0)

theorem pad4_idem (l : List Bytes) (h : l.length ≤ 4) : pad4 (pad4 l) = pad4 l := by
  have : (pad4 l).length = 4 := tbl_length l h
  rw [pad4, this]; exact List.append_nil _

theorem rkhtV1Parse_pad4 (l : List Bytes) (hw : WFtab l) : rkhtV1Parse (pad4 l).flatten = .ok (pad4 l) := by
  obtain ⟨a, b, c, d, e⟩ := Rkht.list_eq4 (pad4 l) (tbl_length l hw.1)
  have hm : ∀ x ∈ pad4 l, x.length = 32 := tbl_len32 l hw.2
  rw [e] at hm ⊢
  have ha := hm a (by simp); have hb := hm b (by simp); have hc := hm c (by simp); have hd := hm d (by simp)
  have hl : [a, b, c, d].flatten.length / 4 = 32 := by simp [ha, hb, hc, hd]
  have e1 : [a, b, c, d].flatten.drop 0 = a ++ (b ++ (c ++ (d ++ []))) := rfl
  have e2 := drop_step 32 e1 ha
  have e3 := drop_step 32 e2 hb
  have e4 := drop_step 32 e3 hc
  simp only [rkhtV1Parse, hl, e2, e3, e4, List.take_left' hb, List.take_left' hc, List.take_left' hd]
  rw [show [a, b, c, d].flatten = a ++ (b ++ (c ++ (d ++ []))) from rfl, List.take_left' ha]
  exact rkhtV1Init_ok _ ⟨by simp, hm⟩

/-- the length-prefixed certificate entries -/
def certsBytes (certs : List Bytes) : Bytes := (certs.map (fun c => leEnc 4 c.length ++ c)).flatten

theorem certsBytes_cons (c : Bytes) (rest : List Bytes) : certsBytes (c :: rest) = leEnc 4 c.length ++ (c ++ certsBytes rest) := by
  simp only [certsBytes, List.map_cons, List.flatten_cons, List.append_assoc]

theorem certsExport_ok : ∀ (certs : List Bytes), (∀ c ∈ certs, c.length < 256 ^ 4) → certsExport certs = .ok (certsBytes certs)
  | [], _ => rfl
  | c :: rest, h => by
    simp only [certsExport, packLE_ok 4 c.length (h c (by simp)), bind_ok,
      certsExport_ok rest (fun x hx => h x (by simp [hx])), pure_eq_ok, certsBytes_cons, List.append_assoc]

theorem certsBytes_len : ∀ (certs : List Bytes), (certsBytes certs).length = certTableLength certs
  | [] => rfl
  | c :: rest => by
    have := certsBytes_len rest
    simp only [certTableLength] at this
    simp only [certsBytes_cons, List.length_append, leEnc_len, this, certTableLength, List.map_cons, List.sum_cons]
    omega

theorem certsParse_ok (certOk : Bytes → Bool) : ∀ (certs : List Bytes) (tail : Bytes),
    (∀ c ∈ certs, c.length < 256 ^ 4 ∧ certOk c = true) →
    certsParse certOk certs.length (certsBytes certs ++ tail) = .ok (certs, tail)
  | [], tail, _ => rfl
  | c :: rest, tail, h => by
    obtain ⟨h1, h2⟩ := h c (by simp)
    simp only [List.length_cons, certsParse, certsBytes_cons, List.append_assoc, unpackLE_append 4 c.length _ h1, bind_ok,
      List.take_left' rfl, List.drop_left' rfl, h2, Bool.not_true, Bool.false_eq_true, ↓reduceIte,
      certsParse_ok certOk rest tail (fun x hx => h x (by simp [hx])), pure_eq_ok]

structure WFv1 (certOk : Bytes → Bool) (cb : CertBlockV1) : Prop where
  major : cb.major < 65536
  minor : cb.minor < 65536
  flags : cb.flags < 2 ^ 32
  build : cb.buildNumber < 2 ^ 32
  image : cb.imageLength < 2 ^ 32
  certs_ne : cb.certs ≠ []
  certs : ∀ c ∈ cb.certs, c.length < 2 ^ 32 ∧ certOk c = true
  count : cb.certs.length < 2 ^ 32
  table : certTableLength cb.certs < 2 ^ 32
  rkh_len : cb.rkh.length ≤ 4
  rkh : ∀ h ∈ cb.rkh, h.length = 32
  align : 0 < cb.alignment

theorem WFv1.tab {certOk : Bytes → Bool} {cb : CertBlockV1} (wf : WFv1 certOk cb) : WFtab cb.rkh := ⟨wf.rkh_len, wf.rkh⟩

/-- the 32 header bytes: signature and eight little-endian fields -/
def headerV1Bytes (h : HeaderV1) : Bytes :=
  G.cbV1Signature ++ (leEnc 2 h.major ++ (leEnc 2 h.minor ++ (leEnc 4 32 ++ (leEnc 4 h.flags ++ (leEnc 4 h.buildNumber ++
    (leEnc 4 h.imageLength ++ (leEnc 4 h.certCount ++ leEnc 4 h.certTableLength)))))))

def HdrOK (h : HeaderV1) : Prop :=
  h.major < 256 ^ 2 ∧ h.minor < 256 ^ 2 ∧ h.flags < 256 ^ 4 ∧ h.buildNumber < 256 ^ 4 ∧ h.imageLength < 256 ^ 4 ∧
    h.certCount < 256 ^ 4 ∧ h.certTableLength < 256 ^ 4

theorem headerV1Bytes_len (h : HeaderV1) : (headerV1Bytes h).length = 32 := by
  have hsig : G.cbV1Signature.length = 4 := rfl
  simp only [headerV1Bytes, List.length_append, leEnc_len, hsig]

theorem headerV1Parse_ok (h : HeaderV1) (ok : HdrOK h) (tail : Bytes) : headerV1Parse (headerV1Bytes h ++ tail) = .ok h := by
  obtain ⟨b1, b2, b3, b4, b5, b6, b7⟩ := ok
  have hsig : G.cbV1Signature.length = 4 := rfl
  have hlen : ¬ (32 > (headerV1Bytes h ++ tail).length) := by rw [List.length_append, headerV1Bytes_len]; omega
  simp only [headerV1Parse, headerSizeV1, hlen, ↓reduceIte]
  simp only [headerV1Bytes, List.append_assoc, List.take_left' hsig, List.drop_left' hsig, unpackLE_append 2 _ _ b1,
    unpackLE_append 2 _ _ b2, unpackLE_append 4 32 _ (by decide), unpackLE_append 4 _ _ b3, unpackLE_append 4 _ _ b4,
    unpackLE_append 4 _ _ b5, unpackLE_append 4 _ _ b6, unpackLE_append 4 _ _ b7, bind_ok, pure_eq_ok, ne_eq, not_true_eq_false,
    ↓reduceIte]

def hdrOf (cb : CertBlockV1) : HeaderV1 :=
  { major := cb.major, minor := cb.minor, flags := cb.flags, buildNumber := cb.buildNumber,
    imageLength := cb.imageLength, certCount := cb.certs.length, certTableLength := certTableLength cb.certs }

theorem WFv1.hdr {certOk : Bytes → Bool} {cb : CertBlockV1} (wf : WFv1 certOk cb) : HdrOK (hdrOf cb) :=
  ⟨wf.major, wf.minor, wf.flags, wf.build, wf.image, wf.count, wf.table⟩

theorem headerV1Export_ok {certOk : Bytes → Bool} {cb : CertBlockV1} (wf : WFv1 certOk cb) :
    headerV1Export cb = .ok (headerV1Bytes (hdrOf cb)) := by
  obtain ⟨b1, b2, b3, b4, b5, b6, b7⟩ := wf.hdr
  simp only [hdrOf] at b1 b2 b3 b4 b5 b6 b7
  simp only [headerV1Export, headerSizeV1, packLE_ok 2 _ b1, packLE_ok 2 _ b2, packLE_ok 4 32 (by decide), packLE_ok 4 _ b3,
    packLE_ok 4 _ b4, packLE_ok 4 _ b5, packLE_ok 4 _ b6, packLE_ok 4 _ b7, bind_ok, pure_eq_ok, headerV1Bytes, hdrOf,
    List.append_assoc]

/-- header ‖ length-prefixed certificates ‖ RKH table of a block -/
def bodyV1 (cb : CertBlockV1) : Bytes :=
  G.cbV1Signature ++ leEnc 2 cb.major ++ leEnc 2 cb.minor ++ leEnc 4 32 ++ leEnc 4 cb.flags ++
    leEnc 4 cb.buildNumber ++ leEnc 4 cb.imageLength ++ leEnc 4 cb.certs.length ++ leEnc 4 (certTableLength cb.certs) ++
    (cb.certs.map (fun c => leEnc 4 c.length ++ c)).flatten ++ (pad4 cb.rkh).flatten

/-- the exported bytes of a well-formed block: body and zero padding up to the alignment -/
def bytesV1 (cb : CertBlockV1) : Bytes :=
  bodyV1 cb ++ List.replicate (alignNat (bodyV1 cb).length cb.alignment - (bodyV1 cb).length) 0

theorem bodyV1_eq (cb : CertBlockV1) (tail : Bytes) :
    bodyV1 cb ++ tail = headerV1Bytes (hdrOf cb) ++ (certsBytes cb.certs ++ ((pad4 cb.rkh).flatten ++ tail)) := by
  simp only [bodyV1, headerV1Bytes, hdrOf, certsBytes, List.append_assoc]

theorem bytesV1_eq (cb : CertBlockV1) (tail : Bytes) :
    bytesV1 cb ++ tail = headerV1Bytes (hdrOf cb) ++ (certsBytes cb.certs ++ ((pad4 cb.rkh).flatten ++
      (List.replicate (alignNat (bodyV1 cb).length cb.alignment - (bodyV1 cb).length) 0 ++ tail))) := by
  rw [bytesV1, List.append_assoc, bodyV1_eq]

theorem bodyV1_len (certOk : Bytes → Bool) (cb : CertBlockV1) (wf : WFv1 certOk cb) :
    (bodyV1 cb).length = 32 + certTableLength cb.certs + 128 := by
  have hp : (pad4 cb.rkh).flatten.length = 128 := tbl_flatten_len cb.rkh wf.tab
  have := congrArg List.length (bodyV1_eq cb [])
  simp only [List.append_nil, List.length_append, headerV1Bytes_len, certsBytes_len, hp] at this
  omega

/-- `CertBlockV1.expected_size` / `raw_size`: the exported length is the aligned sum the header announces -/
theorem bytesV1_length (certOk : Bytes → Bool) (cb : CertBlockV1) (wf : WFv1 certOk cb) :
    (bytesV1 cb).length = alignNat (32 + certTableLength cb.certs + 128) cb.alignment := by
  have ha := (alignNat_spec (bodyV1 cb).length cb.alignment wf.align).2.1
  simp only [bytesV1, List.length_append, List.length_replicate]
  rw [Nat.add_sub_cancel' ha, bodyV1_len certOk cb wf]

theorem exportV1Block_ok (certOk : Bytes → Bool) (cb : CertBlockV1) (wf : WFv1 certOk cb) :
    exportV1Block true cb = .ok (bytesV1 cb) := by
  have hne : cb.certs.isEmpty = false := by
    cases h : cb.certs with
    | nil => exact absurd h wf.certs_ne
    | cons _ _ => rfl
  have hc := certsExport_ok cb.certs (fun c hc => (wf.certs c hc).1)
  have ha : ¬ cb.alignment = 0 := by have := wf.align; omega
  have hb : headerV1Bytes (hdrOf cb) ++ certsBytes cb.certs ++ (tbl cb.rkh).flatten = bodyV1 cb := by
    have := bodyV1_eq cb []; simp only [List.append_nil] at this; rw [this, List.append_assoc]; rfl
  have hl : ¬ ((bytesV1 cb).length ≠ alignNat (headerSizeV1 + certTableLength cb.certs + G.rkhV1Size * G.rkhtV1Slots) cb.alignment) := by
    rw [bytesV1_length certOk cb wf]; exact fun h => h rfl
  simp only [exportV1Block, hne, Bool.false_eq_true, ↓reduceIte, Bool.not_true, headerV1Export_ok wf, bind_ok, hc,
    exportV1_ok cb.rkh wf.tab, ha, hb, pure_eq_ok]
  rw [← bytesV1, if_neg hl]

/-- certificate block v1: parsing `body ‖ anything` gives the block back - the parser reads exactly the `32 + cert_table_length +
    128` bytes the header announces (padding and whatever follows the block are ignored); the RKH table is returned
    with its four slots (missing ones zero) and the alignment is the default one -/
theorem parse_bodyV1_tail (certOk : Bytes → Bool) (cb : CertBlockV1) (wf : WFv1 certOk cb) (pad : Bytes) :
    parseV1Block certOk (bodyV1 cb ++ pad) = .ok { cb with rkh := pad4 cb.rkh, alignment := G.cbV1Alignment } := by
  have hpl : (pad4 cb.rkh).flatten.length = 32 * 4 := tbl_flatten_len cb.rkh wf.tab
  have hlen : ¬ ((bodyV1 cb ++ pad).length < (hdrOf cb).certTableLength + 4 * 32) := by
    rw [List.length_append, bodyV1_len certOk cb wf]; show ¬ (_ < certTableLength cb.certs + 4 * 32); omega
  have e32 : G.rkhV1Size = 32 := rfl
  have e4 : G.rkhtV1Slots = 4 := rfl
  rw [bodyV1_eq] at hlen ⊢
  simp only [parseV1Block, headerV1Parse_ok _ wf.hdr, bind_ok, e32, e4, headerSizeV1, hlen, ↓reduceIte,
    List.drop_left' (headerV1Bytes_len _)]
  simp only [hdrOf, certsParse_ok certOk cb.certs _ wf.certs, bind_ok, List.take_left' hpl, rkhtV1Parse_pad4 cb.rkh wf.tab,
    pure_eq_ok]

/-- `parse (export cb ‖ rest)` = `parse (export cb)`: a v1 block followed by anything parses to the same block -/
theorem parse_exportV1_tail (certOk : Bytes → Bool) (cb : CertBlockV1) (wf : WFv1 certOk cb) (rest : Bytes) :
    parseV1Block certOk (bytesV1 cb ++ rest) = .ok { cb with rkh := pad4 cb.rkh, alignment := G.cbV1Alignment } := by
  rw [bytesV1, List.append_assoc]; exact parse_bodyV1_tail certOk cb wf _

theorem wf_normalized (certOk : Bytes → Bool) (cb : CertBlockV1) (wf : WFv1 certOk cb) :
    WFv1 certOk { cb with rkh := pad4 cb.rkh, alignment := G.cbV1Alignment } :=
  { wf with rkh_len := Nat.le_of_eq (tbl_length _ wf.rkh_len), rkh := tbl_len32 _ wf.rkh, align := by show 0 < G.cbV1Alignment; decide }

/-- export ∘ parse ∘ export = export for the default alignment -/
theorem reexportV1 (certOk : Bytes → Bool) (cb : CertBlockV1) (wf : WFv1 certOk cb) (ha : cb.alignment = G.cbV1Alignment) :
    exportV1Block true { cb with rkh := pad4 cb.rkh, alignment := G.cbV1Alignment } = .ok (bytesV1 cb) := by
  rw [exportV1Block_ok certOk _ (wf_normalized certOk cb wf)]
  simp only [bytesV1, bodyV1, pad4_idem _ wf.rkh_len, ha]

/-- a word packed from a bit at 31 and nibbles at 8, 4 and 0, taken apart with `/` and `%` -/
theorem word_fields (a u n cb : Nat) (ha : a < 2) (hu : u < 16) (hn : n < 16) (hc : cb < 16) :
    (a * 2147483648 + u * 256 + n * 16 + cb) % 16 = cb ∧ (a * 2147483648 + u * 256 + n * 16 + cb) / 16 % 16 = n ∧
    (a * 2147483648 + u * 256 + n * 16 + cb) / 256 % 16 = u ∧ (a * 2147483648 + u * 256 + n * 16 + cb) / 2147483648 % 2 = a ∧
    a * 2147483648 + u * 256 + n * 16 + cb < 4294967296 := by omega

/-- `_calculate_flags` ORs disjoint fields, so the word is their sum: CA bit 31, used index at 8, key count at 4, curve nibble -/
theorem rkrFlags_sum (ca : Bool) (u n : Nat) (cv : Curve) (hu : u < 16) (hn : n < 16) :
    rkrFlags ca u n cv = ca.toNat * 2147483648 + u * 256 + n * 16 + curveBit cv ∧ curveBit cv < 16 := by
  have hc : curveBit cv < 2 ^ 4 := by cases cv <;> decide
  refine ⟨?_, hc⟩
  have hl : n <<< 4 + curveBit cv < 2 ^ 8 := by rw [Nat.shiftLeft_eq]; omega
  have hh : u <<< 8 + (n <<< 4 + curveBit cv) < 2 ^ 31 := by rw [Nat.shiftLeft_eq] at hl ⊢; omega
  show (if ca then 1 <<< 31 else 0) ||| u <<< 8 ||| n <<< 4 ||| curveBit cv = _
  rw [Nat.or_assoc, Nat.or_assoc, ← Nat.shiftLeft_add_eq_or_of_lt hc, ← Nat.shiftLeft_add_eq_or_of_lt hl]
  cases ca
  · simp only [Bool.false_eq_true, ↓reduceIte, Nat.zero_or, Nat.shiftLeft_eq, Bool.toNat_false]; omega
  · simp only [↓reduceIte, Bool.toNat_true]; rw [← Nat.shiftLeft_add_eq_or_of_lt hh 1]; simp only [Nat.shiftLeft_eq]; omega

theorem rkrFlags_div (ca : Bool) (u n : Nat) (cv : Curve) (hu : u < 16) (hn : n < 16) :
    rkrFlags ca u n cv % 16 = curveBit cv ∧ rkrFlags ca u n cv / 16 % 16 = n ∧ rkrFlags ca u n cv / 256 % 16 = u ∧
    rkrFlags ca u n cv / 2147483648 % 2 = ca.toNat ∧ rkrFlags ca u n cv < 4294967296 := by
  obtain ⟨e, hc⟩ := rkrFlags_sum ca u n cv hu hn
  rw [e]; exact word_fields _ _ _ _ (Bool.toNat_lt ca) hu hn hc

theorem rkr_fields (ca : Bool) (used count : Nat) (cv : Curve) (hu : used < 16) (hn : count < 16) (_hcv : cv ≠ .p521) :
    rkrCa (rkrFlags ca used count cv) = ca ∧ rkrUsed (rkrFlags ca used count cv) = used ∧
    rkrCount (rkrFlags ca used count cv) = count ∧ rkrCurve (rkrFlags ca used count cv) = curveBit cv ∧
    rkrFlags ca used count cv < 2 ^ 32 := by
  obtain ⟨d1, d2, d3, d4, d5⟩ := rkrFlags_div ca used count cv hu hn
  have m1 : G.rkrParseCaMask = 2 ^ 31 := rfl
  have m2 : G.rkrParseUsedMask = 15 <<< 8 := rfl
  have m3 : G.rkrParseCountMask = 15 <<< 4 := rfl
  have m4 : G.rkrParseCurveMask = 2 ^ 4 - 1 := rfl
  have s1 : G.rkrParseUsedShift = 8 := rfl
  have s2 : G.rkrParseCountShift = 4 := rfl
  simp only [rkrCa, rkrUsed, rkrCount, rkrCurve, m1, m2, m3, m4, s1, s2, and_two_pow_ne_zero, and_nibble_shr,
    Nat.and_two_pow_sub_one_eq_mod]
  simp only [Nat.reducePow, d1, d2, d3, d4, d5, and_self, and_true]
  cases ca <;> rfl

structure WFisk (pointOk : Bytes → Bool) (sigLen : Nat) (i : IskCert) : Prop where
  offset : i.offsetPresent = true
  constraints : i.constraints < 2 ^ 32
  flags : i.flags = iskCalcFlags i.userData i.pubKey.length
  pub : i.pubKey.length = 64 ∨ i.pubKey.length = 96
  point : pointOk i.pubKey = true
  magic : iskSigOffset i % 65536 ≠ G.iskNoOffsetMagic
  sigoff : iskSigOffset i < 2 ^ 32
  sig : i.signature.length = sigLen
  siglen : 0 < sigLen

theorem iskFlags_facts (ud : Bytes) (pl : Nat) (h : pl = 64 ∨ pl = 96) :
    iskCalcFlags ud pl < 2 ^ 32 ∧ ((iskCalcFlags ud pl &&& G.iskParseUserDataMask ≠ 0) ↔ ud.isEmpty = false) ∧
    G.iskParseKeyLen.lookup (iskCalcFlags ud pl % 16) = some (pl / 2) := by
  cases hu : ud.isEmpty <;> rcases h with h | h <;> subst h <;> simp only [iskCalcFlags, hu] <;> decide

theorem WFisk.flags_lt {pointOk : Bytes → Bool} {n : Nat} {i : IskCert} (wf : WFisk pointOk n i) : i.flags < 256 ^ 4 :=
  wf.flags ▸ (iskFlags_facts _ _ wf.pub).1

theorem WFisk.sigOffset {pointOk : Bytes → Bool} {n : Nat} {i : IskCert} (wf : WFisk pointOk n i) :
    iskSigOffset i = 12 + i.userData.length + i.pubKey.length := by simp [iskSigOffset, wf.offset]

theorem iskHeader_ok (pointOk : Bytes → Bool) (n : Nat) (i : IskCert) (wf : WFisk pointOk n i) :
    iskHeader i = .ok (leEnc 4 (iskSigOffset i) ++ leEnc 4 i.constraints ++ leEnc 4 i.flags) := by
  simp only [iskHeader, packLE_ok 4 i.constraints wf.constraints, packLE_ok 4 i.flags wf.flags_lt,
    packLE_ok 4 (iskSigOffset i) wf.sigoff, bind_ok, wf.offset, ↓reduceIte, pure_eq_ok]

/-- the exported ISK certificate -/
def iskBytes (i : IskCert) : Bytes :=
  leEnc 4 (iskSigOffset i) ++ leEnc 4 i.constraints ++ leEnc 4 i.flags ++ i.pubKey ++ i.userData ++ i.signature

theorem iskBytes_eq (i : IskCert) (tail : Bytes) :
    iskBytes i ++ tail = leEnc 4 (iskSigOffset i) ++ (leEnc 4 i.constraints ++ (leEnc 4 i.flags ++
      (i.pubKey ++ (i.userData ++ (i.signature ++ tail))))) := by simp only [iskBytes, List.append_assoc]

theorem iskExport_ok (pointOk : Bytes → Bool) (n : Nat) (i : IskCert) (wf : WFisk pointOk n i) :
    iskExport i = .ok (iskBytes i) := by
  have hne : i.signature.isEmpty = false := by
    cases h : i.signature with
    | nil => have := wf.sig; rw [h] at this; have := wf.siglen; simp at *; omega
    | cons _ _ => rfl
  simp only [iskExport, hne, Bool.false_eq_true, ↓reduceIte, iskHeader_ok pointOk n i wf, bind_ok, pure_eq_ok, iskBytes]

theorem iskParse_ok (pointOk : Bytes → Bool) (i : IskCert) (wf : WFisk pointOk i.signature.length i) (tail : Bytes) :
    iskParse pointOk (iskBytes i ++ tail) i.signature.length = .ok i := by
  obtain ⟨_, f2, f3⟩ := iskFlags_facts i.userData i.pubKey.length wf.pub
  have hpl : i.pubKey.length / 2 * 2 = i.pubKey.length := by rcases wf.pub with h | h <;> rw [h]
  have hso := wf.sigOffset
  have hlk : lookupOr G.iskParseKeyLen (i.flags % 16) = .ok (i.pubKey.length / 2) := by simp only [lookupOr, wf.flags, f3]
  -- where the key, the user data and the signature start
  have d0 : (iskBytes i ++ tail).drop 0 = _ := iskBytes_eq i tail
  have d12 : (iskBytes i ++ tail).drop 12 = i.pubKey ++ (i.userData ++ (i.signature ++ tail)) :=
    drop_step 4 (drop_step 4 (drop_step 4 d0 (leEnc_len 4 _)) (leEnc_len 4 _)) (leEnc_len 4 _)
  have dud : (iskBytes i ++ tail).drop (12 + i.pubKey.length) = i.userData ++ (i.signature ++ tail) := drop_step _ d12 rfl
  have dsig : (iskBytes i ++ tail).drop (iskSigOffset i) = i.signature ++ tail := by
    rw [hso, Nat.add_right_comm]; exact drop_step _ dud rfl
  have hpne : i.pubKey.isEmpty = false := by
    cases h : i.pubKey with
    | nil => have := wf.pub; rw [h] at this; simp at this
    | cons _ _ => rfl
  have hud : (if i.flags &&& G.iskParseUserDataMask ≠ 0 then
      ((iskBytes i ++ tail).drop (12 + i.pubKey.length)).take (iskSigOffset i - (12 + i.pubKey.length)) else []) = i.userData := by
    rw [dud, hso, show 12 + i.userData.length + i.pubKey.length - (12 + i.pubKey.length) = i.userData.length by omega,
      List.take_left' rfl, wf.flags]
    split
    · rfl
    · next h => rw [f2, Bool.not_eq_false] at h; exact (List.isEmpty_iff.mp h).symm
  simp only [iskParse]
  rw [iskBytes_eq]
  simp only [unpackLE_append 4 (iskSigOffset i) _ wf.sigoff, unpackLE_append 4 i.constraints _ wf.constraints,
    unpackLE_append 4 i.flags _ wf.flags_lt, bind_ok, wf.magic, ↓reduceIte]
  rw [← iskBytes_eq]
  simp only [hlk, bind_ok, hpl, d12, dsig, List.take_left' rfl, hpne, Bool.false_eq_true, ↓reduceIte, wf.point, Bool.not_true, hud,
    pure_eq_ok, decide_false, Bool.not_false, ← wf.flags]
  have ho := wf.offset
  cases i
  simp only at ho
  subst ho
  rfl

theorem splitN_flatten (m : Nat) : ∀ (l : List Bytes), (∀ x ∈ l, x.length = m) → splitN m l.length l.flatten = l
  | [], _ => rfl
  | a :: l, h => by
    have ha := h a (by simp)
    simp only [List.length_cons, splitN, List.flatten_cons, List.take_left' ha, List.drop_left' ha,
      splitN_flatten m l (fun x hx => h x (by simp [hx]))]

structure WFrkr (c : CryptoOps) (ca : Bool) (used : Nat) (cv : Curve) (r : RootKeyRecord) : Prop where
  cv_ok : cv ≠ .p521
  used_lt : used < 16
  count1 : 1 ≤ r.rkh.length
  count4 : r.rkh.length ≤ 4
  flags : r.flags = rkrFlags ca used r.rkh.length cv
  rkh : ∀ h ∈ r.rkh, h.length = cv.hashAlg.size
  pk : r.rootPublicKey.length = cv.hashAlg.size * 2
  single : r.rkh.length = 1 → r.rkh = [c.hash cv.hashAlg r.rootPublicKey]

def rkrBytes (r : RootKeyRecord) : Bytes := leEnc 4 r.flags ++ exportV21 r.rkh ++ r.rootPublicKey

theorem rkrBytes_eq (r : RootKeyRecord) (tail : Bytes) :
    rkrBytes r ++ tail = leEnc 4 r.flags ++ (exportV21 r.rkh ++ (r.rootPublicKey ++ tail)) := by
  simp only [rkrBytes, List.append_assoc]

section
variable {c : CryptoOps} {ca : Bool} {used : Nat} {cv : Curve} {r : RootKeyRecord} (wf : WFrkr c ca used cv r)
include wf

theorem WFrkr.flags_div : r.flags % 16 = curveBit cv ∧ r.flags / 16 % 16 = r.rkh.length ∧ r.flags / 256 % 16 = used ∧
    r.flags / 2147483648 % 2 = ca.toNat ∧ r.flags < 256 ^ 4 :=
  wf.flags ▸ rkrFlags_div ca used r.rkh.length cv wf.used_lt (by have := wf.count4; omega)

theorem WFrkr.fields : r.flags < 2 ^ 32 ∧ rkrCa r.flags = ca ∧ rkrCount r.flags = r.rkh.length ∧ rkrCurve r.flags = curveBit cv := by
  have := rkr_fields ca used r.rkh.length cv wf.used_lt (by have := wf.count4; omega) wf.cv_ok
  rw [← wf.flags] at this
  exact ⟨this.2.2.2.2, this.1, this.2.2.1, this.2.2.2.1⟩

theorem WFrkr.table_len : (exportV21 r.rkh).length = if r.rkh.length > 1 then r.rkh.length * cv.hashAlg.size else 0 := by
  simp only [exportV21]; split
  · rw [flatten_lenN _ _ wf.rkh, Nat.mul_comm]
  · rfl

theorem rkrExport_ok : rkrExport r = .ok (rkrBytes r) := by
  simp only [rkrExport, packLE_ok 4 r.flags wf.flags_div.2.2.2.2, bind_ok, pure_eq_ok, rkrBytes]

end

theorem hashLen_lookup (cv : Curve) (h : cv ≠ .p521) :
    lookupOr G.rkrParseHashLen (curveBit cv) = .ok cv.hashAlg.size := by
  cases cv <;> first | (exact absurd rfl h) | decide

theorem rkrParse_ok {c : CryptoOps} {ca : Bool} {used : Nat} {cv : Curve} {r : RootKeyRecord} (wf : WFrkr c ca used cv r)
    (tail : Bytes) : rkrParse c (rkrBytes r ++ tail) = .ok (r, (rkrBytes r).length) := by
  obtain ⟨_, _, g3, g4⟩ := wf.fields
  have hha : rkrHashAlgorithm r.flags = .ok cv.hashAlg := by
    rw [wf.flags]; exact Rkht.rkrHashAlgorithm_flags _ _ _ _ wf.cv_ok
  have hfl := flatten_lenN _ _ wf.rkh
  rw [rkrBytes_eq]
  simp only [rkrParse, unpackLE_append 4 r.flags _ wf.flags_div.2.2.2.2, bind_ok, g3, g4, hashLen_lookup cv wf.cv_ok, hha]
  by_cases h1 : r.rkh.length > 1
  · have he : exportV21 r.rkh = r.rkh.flatten := by simp [exportV21, h1]
    have hm : r.rkh.flatten.length % cv.hashAlg.size = 0 := by rw [hfl]; exact Nat.mul_mod_right _ _
    have hpos : 0 < cv.hashAlg.size := by cases cv <;> decide
    have hd : r.rkh.flatten.length / cv.hashAlg.size = r.rkh.length := by rw [hfl]; exact Nat.mul_div_cancel_left _ hpos
    simp only [h1, ↓reduceIte, he, List.take_left' hfl, List.drop_left' hfl, List.take_left' wf.pk, rkhtV21Parse, hm,
      ne_eq, not_true_eq_false, hd, splitN_flatten _ _ wf.rkh, rkhtInit_ok _ wf.count4, pure_eq_ok, rkrBytes,
      List.length_append, leEnc_len]
    simp only [bind_ok, he]
  · have h1' : r.rkh.length = 1 := by have := wf.count1; omega
    have he : exportV21 r.rkh = [] := by simp [exportV21, h1]
    have hs := wf.single h1'
    simp only [h1, ↓reduceIte, he, List.nil_append, List.take_left' wf.pk, ← hs, rkhtInit_ok _ wf.count4, bind_ok, pure_eq_ok,
      rkrBytes, List.length_append, leEnc_len, List.length_nil, List.append_nil]

structure WFv21 (c : CryptoOps) (pointOk : Bytes → Bool) (ca : Bool) (used : Nat) (cv : Curve) (cb : CertBlockV21) : Prop where
  major : cb.major < 65536
  minor : cb.minor < 65536
  rkr : WFrkr c ca used cv cb.rkr
  isk_none : ca = true → cb.isk = none
  isk_some : ca = false → ∃ i, cb.isk = some i ∧ WFisk pointOk cb.rkr.rootPublicKey.length i
  size : headerSizeV21 + (rkrBytes cb.rkr).length + (match cb.isk with | some i => (iskBytes i).length | none => 0) < 2 ^ 32

/-- the exported bytes of a well-formed certificate block v2.1 -/
def bytesV21 (cb : CertBlockV21) : Bytes :=
  let isk := match cb.isk with | some i => iskBytes i | none => []
  G.cbV21Magic ++ leEnc 2 cb.minor ++ leEnc 2 cb.major ++ leEnc 4 (headerSizeV21 + (rkrBytes cb.rkr).length + isk.length) ++
    rkrBytes cb.rkr ++ isk

/-- the ISK part of the exported block -/
def iskPart (cb : CertBlockV21) : Bytes := match cb.isk with | some i => iskBytes i | none => []

theorem bytesV21_eq (cb : CertBlockV21) (tail : Bytes) :
    bytesV21 cb ++ tail = G.cbV21Magic ++ (leEnc 2 cb.minor ++ (leEnc 2 cb.major ++
      (leEnc 4 (headerSizeV21 + (rkrBytes cb.rkr).length + (iskPart cb).length) ++ (rkrBytes cb.rkr ++ (iskPart cb ++ tail))))) := by
  simp only [bytesV21, iskPart, List.append_assoc]

theorem iskPart_len (cb : CertBlockV21) :
    (iskPart cb).length = match cb.isk with | some i => (iskBytes i).length | none => 0 := by
  unfold iskPart; split <;> rfl

/-- `CertBlockV21.expected_size` = the `cert_block_size` word = the exported length:
    12 + (4 + table + root key) + (ISK: 12 + key + user data + signature) -/
theorem bytesV21_length (cb : CertBlockV21) :
    (bytesV21 cb).length = headerSizeV21 + (rkrBytes cb.rkr).length + (match cb.isk with | some i => (iskBytes i).length | none => 0) ∧
    (rkrBytes cb.rkr).length = 4 + (exportV21 cb.rkr.rkh).length + cb.rkr.rootPublicKey.length ∧
    ∀ i, (iskBytes i).length = 12 + i.pubKey.length + i.userData.length + i.signature.length := by
  have hm : G.cbV21Magic.length = 4 := rfl
  refine ⟨?_, by simp only [rkrBytes, List.length_append, leEnc_len], fun i => by simp only [iskBytes, List.length_append, leEnc_len]⟩
  have := congrArg List.length (bytesV21_eq cb [])
  simp only [List.append_nil, List.length_append, leEnc_len, hm, iskPart_len] at this
  rw [this, headerSizeV21]; omega

section
variable {c : CryptoOps} {pointOk : Bytes → Bool} {ca : Bool} {used : Nat} {cv : Curve} {cb : CertBlockV21}
  (wf : WFv21 c pointOk ca used cv cb)
include wf

theorem WFv21.size_lt : headerSizeV21 + (rkrBytes cb.rkr).length + (iskPart cb).length < 256 ^ 4 := by
  rw [iskPart_len]; exact wf.size

theorem WFv21.iskPart_cases : (ca = true ∧ cb.isk = none ∧ iskPart cb = []) ∨
    (ca = false ∧ ∃ i, cb.isk = some i ∧ iskPart cb = iskBytes i ∧ WFisk pointOk cb.rkr.rootPublicKey.length i) := by
  cases ca with
  | true => exact Or.inl ⟨rfl, wf.isk_none rfl, by rw [iskPart, wf.isk_none rfl]⟩
  | false => obtain ⟨i, hi, wi⟩ := wf.isk_some rfl; exact Or.inr ⟨rfl, i, hi, by rw [iskPart, hi], wi⟩

theorem exportV21Block_ok : exportV21Block cb = .ok (bytesV21 cb) := by
  have hsz := wf.size_lt
  rw [← List.append_nil (bytesV21 cb), bytesV21_eq]
  rcases wf.iskPart_cases with ⟨_, hn, hp⟩ | ⟨_, i, hi, hp, wi⟩ <;> rw [hp] at hsz ⊢
  · simp only [exportV21Block, rkrExport_ok wf.rkr, bind_ok, hn, pure_eq_ok, headerV21Export, packLE_ok 2 cb.minor wf.minor,
      packLE_ok 2 cb.major wf.major, packLE_ok 4 _ hsz, List.append_assoc, List.append_nil]
  · simp only [exportV21Block, rkrExport_ok wf.rkr, bind_ok, hi, iskExport_ok pointOk _ i wi, pure_eq_ok, headerV21Export,
      packLE_ok 2 cb.minor wf.minor, packLE_ok 2 cb.major wf.major, packLE_ok 4 _ hsz, List.append_assoc, List.append_nil]

end

theorem headerV21Parse_ok (major minor size : Nat) (h1 : major < 65536) (h2 : minor < 65536) (h3 : size < 2 ^ 32) (tail : Bytes) :
    headerV21Parse (G.cbV21Magic ++ (leEnc 2 minor ++ (leEnc 2 major ++ (leEnc 4 size ++ tail)))) = .ok (major, minor, size) := by
  have hm : G.cbV21Magic.length = 4 := rfl
  have hlen : ¬ (12 > (G.cbV21Magic ++ (leEnc 2 minor ++ (leEnc 2 major ++ (leEnc 4 size ++ tail)))).length) := by
    simp only [List.length_append, leEnc_len, hm]; omega
  simp only [headerV21Parse, headerSizeV21, hlen, ↓reduceIte, List.take_left' hm, List.drop_left' hm,
    unpackLE_append 2 minor _ h2, unpackLE_append 2 major _ h1, unpackLE_append 4 size _ h3, bind_ok, ne_eq, not_true_eq_false,
    pure_eq_ok]

/-- the size word of the exported v2.1 block is its length, so a reader that knows only the block start can skip it -/
theorem sizeWord_bytesV21 {c : CryptoOps} {pointOk : Bytes → Bool} {ca : Bool} {used : Nat} {cv : Curve} {cb : CertBlockV21}
    (wf : WFv21 c pointOk ca used cv cb) (rest : Bytes) :
    headerV21Parse (bytesV21 cb ++ rest) = .ok (cb.major, cb.minor, (bytesV21 cb).length) := by
  rw [(bytesV21_length cb).1, ← iskPart_len, bytesV21_eq]
  exact headerV21Parse_ok _ _ _ wf.major wf.minor wf.size_lt _

/-- parse ∘ export = id on well-formed certificate blocks v2.1 -/
theorem parse_exportV21 {c : CryptoOps} {pointOk : Bytes → Bool} {ca : Bool} {used : Nat} {cv : Curve} {cb : CertBlockV21}
    (wf : WFv21 c pointOk ca used cv cb) (tail : Bytes) : parseV21Block c pointOk (bytesV21 cb ++ tail) = .ok cb := by
  have hm : G.cbV21Magic.length = 4 := rfl
  obtain ⟨_, hca, _, _⟩ := wf.rkr.fields
  have d0 : (bytesV21 cb ++ tail).drop 0 = _ := bytesV21_eq cb tail
  have d12 : (bytesV21 cb ++ tail).drop 12 = rkrBytes cb.rkr ++ (iskPart cb ++ tail) :=
    drop_step 4 (drop_step 2 (drop_step 2 (drop_step 4 d0 hm) (leEnc_len 2 _)) (leEnc_len 2 _)) (leEnc_len 4 _)
  simp only [parseV21Block, sizeWord_bytesV21 wf tail, bind_ok, headerSizeV21, d12, rkrParse_ok wf.rkr, hca]
  rcases wf.iskPart_cases with ⟨rfl, hn, _⟩ | ⟨rfl, i, hi, hp, wi⟩
  · simp only [↓reduceIte, pure_eq_ok, bind_ok, ← hn]
  · have wi' : WFisk pointOk i.signature.length i := by have := wi.sig; rw [← this] at wi; exact wi
    simp only [Bool.false_eq_true, ↓reduceIte, drop_step _ d12 rfl, hp, ← wi.sig, iskParse_ok pointOk i wi' tail, bind_ok,
      pure_eq_ok, ← hi]

structure WFlite (pointOk : Bytes → Bool) (i : IskLite) : Prop where
  constraints : i.constraints < 2 ^ 32
  pub : i.pubKey.length = 64
  point : pointOk i.pubKey = true
  sig : i.signature.length = 64

/-- the exported certificate: 8 header bytes, the key, the signature -/
def liteBytes (i : IskLite) : Bytes := leEnc 2 0x4D43 ++ leEnc 2 1 ++ leEnc 4 i.constraints ++ i.pubKey ++ i.signature

theorem liteTbs_ok (pointOk : Bytes → Bool) (i : IskLite) (wf : WFlite pointOk i) :
    liteTbs i = .ok (leEnc 2 0x4D43 ++ leEnc 2 1 ++ leEnc 4 i.constraints ++ i.pubKey) := by
  have e1 : GL.liteMagic = 0x4D43 := rfl
  have e2 : GL.liteVersion = 1 := rfl
  have e3 : GL.litePubKeyLength = 64 := rfl
  have e4 : GL.liteSignatureOffset = 72 := rfl
  simp only [liteTbs, e1, e2, e3, e4, packLE_ok 2 0x4D43 (by decide), packLE_ok 2 1 (by decide),
    packLE_ok 4 i.constraints wf.constraints, bind_ok, wf.pub, List.length_append, leEnc_len,
    ne_eq, not_true_eq_false, ↓reduceIte, pure_eq_ok]

theorem liteExport_ok (pointOk : Bytes → Bool) (i : IskLite) (wf : WFlite pointOk i) : liteExport i = .ok (liteBytes i) := by
  have hne : i.signature.isEmpty = false := by
    cases h : i.signature with
    | nil => have := wf.sig; rw [h] at this; simp at this
    | cons _ _ => rfl
  have e3 : GL.litePubKeyLength = 64 := rfl
  have e5 : GL.liteSignatureSize = 64 := rfl
  simp only [liteExport, hne, Bool.false_eq_true, ↓reduceIte, liteTbs_ok pointOk i wf, bind_ok, e3, e5, List.length_append, leEnc_len,
    wf.pub, wf.sig, ne_eq, not_true_eq_false, pure_eq_ok, liteBytes]

/-- parse ∘ export = id for the lite ISK certificate (trailing bytes ignored) -/
theorem liteParse_export (pointOk : Bytes → Bool) (i : IskLite) (wf : WFlite pointOk i) (tail : Bytes) :
    liteParse pointOk (liteBytes i ++ tail) = .ok i := by
  have e3 : GL.litePubKeyLength = 64 := rfl
  have e5 : GL.liteSignatureSize = 64 := rfl
  have hb : liteBytes i ++ tail = leEnc 2 0x4D43 ++ (leEnc 2 1 ++ (leEnc 4 i.constraints ++ (i.pubKey ++ (i.signature ++ tail)))) := by
    simp only [liteBytes, List.append_assoc]
  have d0 : (liteBytes i ++ tail).drop 0 = _ := hb
  have d8 : (liteBytes i ++ tail).drop 8 = i.pubKey ++ (i.signature ++ tail) :=
    drop_step 4 (drop_step 2 (drop_step 2 d0 (leEnc_len 2 _)) (leEnc_len 2 _)) (leEnc_len 4 _)
  simp only [liteParse, e3, e5, d8, drop_step 64 d8 wf.pub, List.take_left' wf.pub, List.take_left' wf.sig, wf.point, Bool.not_true,
    Bool.false_eq_true, ↓reduceIte]
  rw [hb]
  simp only [unpackLE_append 2 0x4D43 _ (by decide), unpackLE_append 2 1 _ (by decide),
    unpackLE_append 4 i.constraints _ wf.constraints, bind_ok, pure_eq_ok]

/-- `CertBlockVx.parse (export)` gives the certificate back when the constraints word is 0 (NXP signed) or 1 (self signed) -/
theorem vxParse_export (pointOk : Bytes → Bool) (i : IskLite) (wf : WFlite pointOk i) (h01 : i.constraints = 0 ∨ i.constraints = 1)
    (tail : Bytes) : vxParse pointOk (liteBytes i ++ tail) = .ok i := by
  simp only [vxParse, liteParse_export pointOk i wf tail, bind_ok, pure_eq_ok]
  rcases h01 with h | h <;> cases i <;> simp_all

/-- the four fuse words, byte-reversed back and concatenated, are the 16-byte certificate hash -/
theorem vxFuseWords_hash (h : Bytes) (hl : h.length = 16) : ((vxFuseWords h).map List.reverse).flatten = h := by
  have e : h.take (4 + (4 + (4 + 4))) = h := List.take_of_length_le (by omega)
  simp only [vxFuseWords, List.map_cons, List.map_nil, List.reverse_reverse, List.flatten_cons, List.flatten_nil, List.append_nil]
  conv => rhs; rw [← e]
  simp only [List.take_add, List.drop_drop]

theorem iskDataToSign_ok (pointOk : Bytes → Bool) (n : Nat) (i : IskCert) (wf : WFisk pointOk n i) (krd : Bytes) :
    iskDataToSign krd i =
      .ok (krd ++ (leEnc 4 (iskSigOffset i) ++ leEnc 4 i.constraints ++ leEnc 4 i.flags) ++ i.pubKey ++ i.userData) := by
  simp only [iskDataToSign, iskHeader_ok pointOk n i wf, bind_ok, pure_eq_ok]

/-- the signed bytes are the contiguous slice of the exported block between the block header and the signature -/
theorem signed_slice {c : CryptoOps} {pointOk : Bytes → Bool} {used : Nat} {cv : Curve} {cb : CertBlockV21} {i : IskCert}
    (wf : WFv21 c pointOk false used cv cb) (hi : cb.isk = some i) :
    iskDataToSign (rkrBytes cb.rkr) i =
      .ok (((bytesV21 cb).drop headerSizeV21).take ((rkrBytes cb.rkr).length + iskSigOffset i)) := by
  obtain ⟨i', hi', wi⟩ := wf.isk_some rfl
  rw [hi] at hi'
  cases hi'
  have hm : G.cbV21Magic.length = 4 := rfl
  rw [iskDataToSign_ok pointOk _ i wi]
  have hb : bytesV21 cb = (G.cbV21Magic ++ leEnc 2 cb.minor ++ leEnc 2 cb.major ++
      leEnc 4 (headerSizeV21 + (rkrBytes cb.rkr).length + (iskBytes i).length)) ++
      ((rkrBytes cb.rkr ++ (leEnc 4 (iskSigOffset i) ++ leEnc 4 i.constraints ++ leEnc 4 i.flags) ++ i.pubKey ++ i.userData)
        ++ i.signature) := by
    simp only [bytesV21, hi, iskBytes, List.append_assoc]
  rw [hb, List.drop_left' (by simp only [List.length_append, leEnc_len, hm, headerSizeV21])]
  rw [List.take_left' (by simp only [List.length_append, leEnc_len, wi.sigOffset]; omega)]

section
open SpsdkVerif.Rkht

theorem coord_eq_hash (cv : Curve) (h : cv ≠ .p521) : cv.coordSize = cv.hashAlg.size := by
  cases cv <;> first | rfl | exact absurd rfl h

/-- the calculated record is well formed, hence survives export → parse -/
theorem wf_calculated (c : CryptoOps) (hc : CryptoLaws c) (ks : List Key) (cv : Curve) (ku : Key) (used : Nat) (ca : Bool)
    (hcv : cv ≠ .p521) (h1 : 1 ≤ ks.length) (h4 : ks.length ≤ 4) (hu : used < ks.length) (hku : ks[used]? = some ku)
    (hkc : ku.curve? = some cv) (hall : ∀ k ∈ ks, k.curve? = some cv) :
    WFrkr c ca used cv { flags := rkrFlags ca used ks.length cv, rkh := ks.map (keyHash c), rootPublicKey := ku.material } where
  cv_ok := hcv
  used_lt := by omega
  count1 := by simpa using h1
  count4 := by simpa using h4
  flags := by simp
  rkh := keyHashes_len c hc fun k hk => hashAlg_of_curve (hall k hk)
  pk := by
    obtain ⟨x, y, rfl⟩ := key_of_curve hkc
    simp only [Key.material, List.length_append, beEnc_length', coord_eq_hash cv hcv]; omega
  single := by
    intro hl
    simp only [List.length_map] at hl
    match ks, hl with
    | [k], _ =>
      have : used = 0 := by simp at hu; omega
      subst this
      simp only [List.getElem?_cons_zero, Option.some.injEq] at hku
      subst hku
      obtain ⟨a, b, rfl⟩ := key_of_curve hkc
      rfl

end

end SpsdkVerif.CertBlock
