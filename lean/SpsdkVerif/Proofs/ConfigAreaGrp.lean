/-
Helper lemmas for the grouped-register part of Properties/C12.lean (Phase 3): the sub-register structure of the details table as C11
registers (`toRegG`), the meaning of the per-register checker `groupOkB`, and the reduction of "bits a configuration does not carry"
to "bits no bit-field covers" through the reset facts of the table (`resetsB`).
-/
import SpsdkVerif.Model.ConfigArea
import SpsdkVerif.Proofs.ConfigArea
import SpsdkVerif.Proofs.ConfigAreaCfg
import SpsdkVerif.Proofs.RegistersCfg
import SpsdkVerif.Properties.C11

namespace SpsdkVerif.C12
open SpsdkVerif SpsdkVerif.CfgArea SpsdkVerif.Misc SpsdkVerif.BinImg
open SpsdkVerif.Regs (mask testBit_mask)

/-- bit `k` lies in one of the bit-fields of the register -/
def Covered (r : RegL) (k : Nat) : Prop := ∃ f ∈ r.fields, f.off ≤ k ∧ k < f.off + f.width

/-- the reset facts of one register of the details table (what `resetsB` checks per bit-field) -/
def FieldResets (r : RegL) (rd : RegD) : Prop :=
  ∀ (j : Nat) (f : BF) (fd : FieldD), r.fields[j]? = some f → rd.fields[j]? = some fd → ((rd.init >>> f.off) % 2 ^ f.width) <<< fd.shift = fd.reset

theorem zipAll_get {α β} {p : α → β → Bool} : ∀ {as : List α} {bs : List β}, zipAll p as bs = true →
    ∀ (i : Nat) (a : α) (b : β), as[i]? = some a → bs[i]? = some b → p a b = true := by
  intro as
  induction as with
  | nil => intro bs _ i a b ha; simp at ha
  | cons x xs ih =>
    intro bs h i a b ha hb
    cases bs with
    | nil => simp at hb
    | cons y ys =>
      simp only [zipAll, Bool.and_eq_true] at h
      cases i with
      | zero => simp at ha hb; subst ha; subst hb; exact h.1
      | succ j => exact ih h.2 j a b (by simpa using ha) (by simpa using hb)

theorem fieldResets_of_resetsB (l : Layout) (d : LayoutD) (h : resetsB l d = true) (i : Nat) (r : RegL) (rd : RegD)
    (hr : l.regs[i]? = some r) (hrd : d.regs[i]? = some rd) : FieldResets r rd := by
  have h1 := zipAll_get h i r rd hr hrd
  simp only [Bool.and_eq_true] at h1
  intro j f fd hf hfd
  have h2 := zipAll_get h1.2 j f fd hf hfd
  simp only [Bool.and_eq_true, beq_iff_eq] at h2
  exact h2.2

/-- **a bit the configuration does not carry is an uncovered bit or agrees with the fresh object**: a hidden bit-field is left out
    of `get_config` only when it reads its reset value, and (table fact `gen_resets_fit`) the reset value IS what the field reads
    in the fresh register; so on every COVERED bit that is not carried, the fresh register agrees with the state -/
theorem not_carried_covered (r : RegL) (rd : RegD) (v k : Nat) (hfl : r.fields.length = rd.fields.length)
    (hres : FieldResets r rd) (hc : Covered r k) (hnc : ¬ Regs.Carried (toRegMeta rd) (toReg r rd v) k) :
    rd.init.testBit k = v.testBit k := by
  obtain ⟨f, hf, h1, h2⟩ := hc
  obtain ⟨j, hj, rfl⟩ := List.mem_iff_getElem.1 hf
  have hj' : j < rd.fields.length := by omega
  have hfj : (toReg r rd v).fields[j]? = some (toField r.fields[j] rd.fields[j]) := by
    simp [toReg, List.getElem?_zipWith, List.getElem?_eq_getElem hj, List.getElem?_eq_getElem hj']
  have hget : Regs.fieldGet (toReg r rd v) (toField r.fields[j] rd.fields[j]) = .ok rd.fields[j].reset := by
    have := mt (fun hh => (Regs.carried_iff (toRegMeta rd) (toReg r rd v) k).2 ⟨j, _, hfj, h1, h2, hh⟩) hnc
    simp only [Classical.not_not] at this
    exact this.2
  rw [Regs.fieldGet_plain _ _ rfl rfl] at hget
  simp only [toField, toReg, Except.ok.injEq] at hget
  have hr := hres j _ _ (List.getElem?_eq_getElem hj) (List.getElem?_eq_getElem hj')
  rw [← hr] at hget
  have hinj := Nat.eq_of_mul_eq_mul_right (Nat.two_pow_pos _) (by simpa only [Nat.shiftLeft_eq] using hget)
  have hk : k = r.fields[j].off + (k - r.fields[j].off) := by omega
  have hlt : k - r.fields[j].off < r.fields[j].width := by omega
  have e1 := congrArg (fun x => x.testBit (k - r.fields[j].off)) hinj
  simp only [Nat.testBit_and, Nat.testBit_shiftRight, testBit_mask, Nat.testBit_mod_two_pow, hlt, decide_true, Bool.and_true,
    Bool.true_and, ← hk] at e1
  exact e1.symm

theorem toFileFromG_getElem? : ∀ {rs : List RegL} {rds : List RegD} {vs : Vals} (i : Nat), Aligned3 rs rds vs →
    (toFileFromG rs rds vs)[i]? = match rs[i]?, rds[i]?, vs[i]? with
      | some r, some rd, some v => some (toRegG r rd v)
      | _, _, _ => none :=
  fun i h => toFileFromG_eq ▸ zip3_getElem? toRegG i h

theorem toFileFromG_length : ∀ {rs : List RegL} {rds : List RegD} {vs : Vals}, Aligned3 rs rds vs →
    (toFileFromG rs rds vs).length = rs.length :=
  fun h => toFileFromG_eq ▸ zip3_length toRegG h

theorem pick3G {rs : List RegL} {rds : List RegD} {vs : Vals} {i : Nat} {x : Regs.Reg} (h : Aligned3 rs rds vs)
    (hx : (toFileFromG rs rds vs)[i]? = some x) :
    ∃ r rd v, rs[i]? = some r ∧ rds[i]? = some rd ∧ vs[i]? = some v ∧ x = toRegG r rd v :=
  zip3_pick h (toFileFromG_eq ▸ hx)

/-- what the per-register Boolean `groupOkB` establishes -/
structure GroupFacts (r : RegL) (rd : RegD) : Prop where
  plain : rd.subW = 0 → rd.reverse = false ∧ rd.alts = []
  nofields : rd.subW ≠ 0 → r.fields = []
  width : rd.subW ≠ 0 → r.width = rd.subW * rd.nsubs
  alts : rd.subW ≠ 0 → ∀ a ∈ rd.alts, a % 8 = 0 ∧ 8 ≤ a ∧ a ≤ r.width ∧ a % rd.subW = 0
  order : rd.subW ≠ 0 → rd.revSubs = false ∨ rd.alts = []
  fresh : rd.subW ≠ 0 → rd.alts = [] ∨ rd.init = 0

theorem groupOkB_sound (r : RegL) (rd : RegD) (h : groupOkB r rd = true) : GroupFacts r rd := by
  unfold groupOkB at h
  split at h
  · next h0 =>
    simp only [Bool.and_eq_true, Bool.not_eq_true', List.isEmpty_iff] at h
    exact ⟨fun _ => h, fun hn => absurd h0 hn, fun hn => absurd h0 hn, fun hn => absurd h0 hn, fun hn => absurd h0 hn,
      fun hn => absurd h0 hn⟩
  · next h0 =>
    simp only [Bool.and_eq_true, Bool.or_eq_true, Bool.not_eq_true', List.isEmpty_iff, beq_iff_eq, List.all_eq_true,
      decide_eq_true_eq] at h
    obtain ⟨⟨⟨⟨h1, h2⟩, h3⟩, h4⟩, h5⟩ := h
    refine ⟨fun hh => absurd hh h0, fun _ => h1, fun _ => h2, fun _ a ha => ?_, fun _ => ?_, fun _ => h5⟩
    · have := h3 a ha; exact ⟨this.1.1.1, this.1.1.2, this.1.2, this.2⟩
    · rcases h4 with h4 | h4
      · exact Or.inl h4
      · exact Or.inr h4

/-- a byte-reversed group with alternative widths shows its value unambiguously: the stored raw value does not end in so many zero
    bytes that a smaller alternative width would be chosen when it is read back (open finding
    C11-alt-width-reversed-trailing-zero-bytes; vacuous without alternative widths, and for every value that fits the smallest
    alternative width) -/
def AltStable (r : RegL) (rd : RegD) (v : Nat) : Prop :=
  rd.reverse = true → ∀ a ∈ rd.alts, a < Regs.altWidth rd.alts r.width v → v % 2 ^ (Regs.altWidth rd.alts r.width v - a) ≠ 0

theorem toRegG_plain (r : RegL) (rd : RegD) (v : Nat) (h : rd.subW = 0) : toRegG r rd v = toReg r rd v := by
  simp [toRegG, h]

theorem toRegG_group (r : RegL) (rd : RegD) (v : Nat) (h : rd.subW ≠ 0) (hv : v < 2 ^ r.width) :
    toRegG r rd v = { groupBase r rd with subs := Regs.distribute (groupBase r rd) v } := by
  have := Regs.set_group (groupBase r rd) v v true (by simp only [groupBase]; omega) (by simpa only [groupBase] using hv) rfl
  simp [toRegG, h, this]

theorem distribute_zero (r : RegL) (rd : RegD) (i : Nat) : (Regs.distribute (groupBase r rd) 0).getD i 0 = 0 := by
  rw [List.getD_eq_getElem?_getD]
  cases h : (Regs.distribute (groupBase r rd) 0)[i]? with
  | none => rfl
  | some s =>
    simp only [Regs.distribute, groupBase, List.length_replicate, List.getElem?_map, Option.map_eq_some_iff] at h
    obtain ⟨j, _, hj⟩ := h
    subst hj
    by_cases hc : j < r.width / rd.subW
    · simp [if_pos hc]
    · simp only [hc, if_false, Option.getD_some, List.getD_eq_getElem?_getD, List.getElem?_replicate]
      split <;> rfl

theorem groupWF_G (r : RegL) (rd : RegD) (v : Nat) (h8 : r.width % 8 = 0) (hne : rd.subW ≠ 0) (hw : r.width = rd.subW * rd.nsubs) :
    C11.GroupWF { groupBase r rd with subs := Regs.distribute (groupBase r rd) v } := by
  have hg : 0 < (groupBase r rd).subW := by simp only [groupBase]; omega
  have hw' : (groupBase r rd).width = (groupBase r rd).subW * (groupBase r rd).subs.length := by
    simp only [groupBase, List.length_replicate]; exact hw
  refine ⟨hg, ?_, Regs.distributeW_bound _ _ v fun s hs => ?_, h8⟩
  · simp only [Regs.distribute_length]; exact hw'
  · rw [List.eq_of_mem_replicate hs]; exact Nat.two_pow_pos _

theorem assemble_G (r : RegL) (rd : RegD) (v : Nat) (hne : rd.subW ≠ 0) (hw : r.width = rd.subW * rd.nsubs) (hv : v < 2 ^ r.width) :
    Regs.assemble { groupBase r rd with subs := Regs.distribute (groupBase r rd) v } = v := by
  apply Regs.assemble_distribute
  · simp only [groupBase, List.length_replicate]; exact hw
  · simp only [groupBase]; omega
  · simpa only [groupBase] using hv

theorem altStable_of_fits (r : RegL) (rd : RegD) (v : Nat) (h : ∀ a ∈ rd.alts, Regs.byteCnt v ≤ a / 8) : AltStable r rd v := by
  intro _ a ha hlt
  rcases Regs.altWidth_cases rd.alts r.width v with ⟨_, hno⟩ | ⟨_, _, hmin⟩
  · exact absurd (h a ha) (hno a ha)
  · have := hmin a ha (h a ha); omega


end SpsdkVerif.C12

/-! ### scalar decoding of `_load_yml_config` -/

namespace SpsdkVerif.CfgArea

theorem digitsVal_append (base : Nat) (xs : List Nat) (d : Nat) : digitsVal base (xs ++ [d]) = digitsVal base xs * base + d := by
  simp [digitsVal, List.foldl_append]

theorem digitsVal_hexDigits : ∀ (n v : Nat), digitsVal 16 (hexDigits n v) = v % 16 ^ n := by
  intro n
  induction n with
  | zero => intro v; simp [hexDigits, digitsVal, Nat.mod_one]
  | succ n ih =>
    intro v
    rw [hexDigits, digitsVal_append, ih, Nat.pow_succ', Nat.mod_mul]
    omega

theorem hexDigits_ne_nil (n v : Nat) (hn : 0 < n) : (hexDigits n v).isEmpty = false := by
  cases n with
  | zero => omega
  | succ n => simp [hexDigits]

/-- a rule whose first applicable step (hex-string register, string value) is `int(x, 16)` reads the text `get_hex_value` wrote
    back as the value -/
theorem decodeScalar_hex (rule : ScalarRule) (h : hexFirstB rule = true) (n v : Nat) (hn : 0 < n) (hv : v < 16 ^ n) :
    decodeScalar rule true (.digits (hexDigits n v)) = some v := by
  induction rule with
  | nil => simp [hexFirstB] at h
  | cons st rest ih =>
    simp only [hexFirstB, List.find?_cons] at h
    by_cases hc : st.cond.holds true true = true
    · simp only [hc] at h
      have hp : st.parser = .hex16 := by simpa using h
      simp only [decodeScalar, Scalar.isStr, hc, if_true, hp, ScalarParser.run, parseHex16, hexDigits_ne_nil n v hn,
        digitsVal_hexDigits, Nat.mod_eq_of_lt hv]
      rfl
    · have hc' : st.cond.holds true true = false := by simpa using hc
      simp only [hc'] at h
      simp only [decodeScalar, Scalar.isStr, hc']
      exact ih h

end SpsdkVerif.CfgArea
