/-
HAB `SrkItemEcc` (C03): the generated field description of `export` / `parse` against the documented item layout.
-/
import SpsdkVerif.Proofs.Rkht

namespace SpsdkVerif.Rkht
open SpsdkVerif SpsdkVerif.Spec
open SpsdkVerif.Misc hiding Bytes
open SpsdkVerif.Crypto (HashAlg CryptoOps CryptoLaws Bytes)

/-- the documented item, as twelve header bytes followed by the two coordinates -/
theorem habItem_ecc_layout (cv : Curve) (x y : Nat) (ca : Bool) :
    habItem (.ecc cv x y) ca =
      [0xE1] ++ beEnc 2 (12 + 2 * cv.coordSize) ++ [0x27, 0, 0, 0, byte (caFlag ca), byte cv.habId, 0] ++ beEnc 2 cv.bits ++
        (beEnc cv.coordSize x ++ beEnc cv.coordSize y) := by
  simp [habItem]

theorem bind_err {α β} (e : PyErr) (f : α → PyRes β) : ((Except.error e : PyRes α) >>= f) = .error e := rfl

theorem throw_eq {α} (e : PyErr) : (throw e : PyRes α) = .error e := rfl

theorem toBytes_inv {w v : Nat} {b : Bytes} (h : toBytes w v = .ok b) : v < 256 ^ w ∧ b = beEnc w v := by
  unfold toBytes at h; split at h
  · exact ⟨‹_›, (Except.ok.inj h).symm⟩
  · cases h

theorem habCurveName_le (ks : Nat) (nm : String) (h : habCurveName ks = .ok nm) : ks ≤ 775 := by
  have hall : ∀ r ∈ G.habEccCurveRanges, r.2.1 ≤ 775 := by decide
  simp only [habCurveName] at h
  cases hf : G.habEccCurveRanges.find? (fun r => decide (r.1 ≤ ks) && decide (ks ≤ r.2.1)) with
  | none => rw [hf] at h; cases h
  | some r =>
    have hp := List.find?_some hf
    have hm := List.mem_of_find?_eq_some hf
    simp only [Bool.and_eq_true, decide_eq_true_eq] at hp
    exact Nat.le_trans hp.2 (hall r hm)

theorem habKeyType_id (nm : String) (id : Nat) (h : G.habEccKeyType.lookup nm = some id) : id = 0x4B ∨ id = 0x4D ∨ id = 0x4E := by
  have e : G.habEccKeyType = [("secp256r1", 75), ("secp384r1", 77), ("secp521r1", 78)] := rfl
  rw [e] at h
  simp only [List.lookup] at h
  split at h
  · injection h with h; exact Or.inl h.symm
  · split at h
    · injection h with h; exact Or.inr (Or.inl h.symm)
    · split at h
      · injection h with h; exact Or.inr (Or.inr h.symm)
      · cases h

theorem beEnc2 (v : Nat) : beEnc 2 v = [UInt8.ofNat (v / 256 % 256), UInt8.ofNat (v % 256)] := by simp [beEnc]

theorem be16_bytes (v : Nat) (h : v < 65536) :
    (UInt8.ofNat (v >>> 8 &&& 255)).toNat <<< 8 + ((UInt8.ofNat (v >>> 0 &&& 255)).toNat <<< 0 + 0) = v := by
  have e255 : (255 : Nat) = 2 ^ 8 - 1 := rfl
  simp only [UInt8.toNat_ofNat', e255, Nat.and_two_pow_sub_one_eq_mod, Nat.shiftRight_eq_div_pow, Nat.shiftLeft_eq,
    Nat.pow_zero, Nat.mul_one, Nat.add_zero]
  omega

/-- `SrkItemEcc.parse(SrkItemEcc(key_size, x, y, flag).export() ‖ rest)` gives the item back for EVERY item the constructor and `export`
    accept - any key size of the generated `get_ecc_curve` table (0..535, 768..775; e.g. 512..519 are exported with the P-256 curve id),
    both flag values, all coordinates that fit -/
theorem habEccParse_export_any (it : HabEccItem) (b : Bytes) (h : habEccExport it = .ok b) (rest : Bytes) :
    habEccParse (b ++ rest) = .ok it := by
  have g1 : G.habHeaderSize = 4 := rfl
  have g2 : G.habEccParseFlagIdx = 7 := rfl
  have g3 : G.habEccParseCurveIdx = 8 := rfl
  have g4 : G.habEccParseBitsIdx = [(10, 8), (11, 0)] := rfl
  have g5 : G.habEccParseCoordOff = 12 := rfl
  have g6 : UInt8.ofNat G.habTagKeyPublic = 0xE1 := by decide
  have g7 : G.habEccLenExtra = 8 := rfl
  have hcs : ∀ ks, habParseCoordSize ks = habCoordSize ks := fun _ => rfl
  obtain ⟨ks, x, y, flag⟩ := it
  -- what the successful export says: flag, coordinates, length, curve name and id, the eight field bytes
  simp only [habEccExport] at h
  obtain ⟨hf, h1⟩ := throw_ite_inv h
  obtain ⟨xb, hxb, h2⟩ := bind_ok_inv h1
  obtain ⟨yb, hyb, h3⟩ := bind_ok_inv h2
  obtain ⟨hx, rfl⟩ := toBytes_inv hxb
  obtain ⟨hy, rfl⟩ := toBytes_inv hyb
  simp only [beEnc_length', g1, g7] at h3
  obtain ⟨hlen, h4⟩ := throw_ite_inv h3
  obtain ⟨nm, hnm, h5⟩ := bind_ok_inv h4
  cases hid : G.habEccKeyType.lookup nm with
  | none => rw [hid] at h5; cases h5
  | some id =>
  have hfields : G.habEccExportFields.map (habEccField flag id ks) =
      [0, 0, 0, flag >>> 0 &&& 255, id >>> 0 &&& 255, 0, ks >>> 8 &&& 255, ks >>> 0 &&& 255] := rfl
  simp only [hid, pure_eq_ok, bind_ok, hfields] at h5
  obtain ⟨_, h6⟩ := throw_ite_inv h5
  obtain rfl := Except.ok.inj h6
  clear h h1 h2 h3 h4 h5 h6 hxb hyb
  have hks := habCurveName_le ks nm hnm
  have hidv := habKeyType_id nm id hid
  have hfl : flag = 0 ∨ flag = 128 := by omega
  have hL : 4 + 8 + habCoordSize ks + habCoordSize ks < 256 ^ 2 := by
    have : (256 : Nat) ^ 2 = 65536 := by decide
    omega
  have hbd := beDec_beEnc 2 _ hL
  obtain ⟨h0, h1, e01⟩ : ∃ h0 h1 : UInt8, beEnc 2 (4 + 8 + habCoordSize ks + habCoordSize ks) = [h0, h1] :=
    ⟨_, _, beEnc2 _⟩
  rw [e01] at hbd ⊢
  have hlen4 : ¬ beDec [h0, h1] < 4 := by omega
  have hflag : (UInt8.ofNat (flag >>> 0 &&& 255)).toNat = flag := by rcases hfl with rfl | rfl <;> decide
  have hcurve : (G.habEccKeyType.any fun p => p.2 == (UInt8.ofNat (id >>> 0 &&& 255)).toNat) = true := by
    rcases hidv with rfl | rfl | rfl <;> decide
  have hk := be16_bytes ks (by omega)
  have e2 : UInt8.ofNat G.habAlgEcdsa = 0x27 := by decide
  have hd : [UInt8.ofNat G.habTagKeyPublic] ++ [h0, h1] ++ [UInt8.ofNat G.habAlgEcdsa] ++
      List.map UInt8.ofNat [0, 0, 0, flag >>> 0 &&& 255, id >>> 0 &&& 255, 0, ks >>> 8 &&& 255, ks >>> 0 &&& 255] ++
      beEnc (habCoordSize ks) x ++ beEnc (habCoordSize ks) y ++ rest =
      0xE1 :: h0 :: h1 :: 0x27 :: UInt8.ofNat 0 :: UInt8.ofNat 0 :: UInt8.ofNat 0 :: UInt8.ofNat (flag >>> 0 &&& 255) ::
        UInt8.ofNat (id >>> 0 &&& 255) :: UInt8.ofNat 0 :: UInt8.ofNat (ks >>> 8 &&& 255) :: UInt8.ofNat (ks >>> 0 &&& 255) ::
        (beEnc (habCoordSize ks) x ++ (beEnc (habCoordSize ks) y ++ rest)) := by
    simp only [g6, e2, List.map_cons, List.map_nil, List.cons_append, List.nil_append, List.append_assoc]
  rw [hd]
  have hx' : ((beEnc (habCoordSize ks) x ++ (beEnc (habCoordSize ks) y ++ rest))).take (habCoordSize ks) = beEnc (habCoordSize ks) x :=
    List.take_left' (beEnc_length' _ _)
  have hy' : ((beEnc (habCoordSize ks) x ++ (beEnc (habCoordSize ks) y ++ rest)).drop (habCoordSize ks)).take (habCoordSize ks) =
      beEnc (habCoordSize ks) y := by
    rw [List.drop_left' (beEnc_length' _ _)]; exact List.take_left' (beEnc_length' _ _)
  have hflag' : ¬ (¬ flag = 0 ∧ ¬ flag = 128) := by omega
  have hdrop : ∀ (n : Nat) (a1 a2 a3 a4 a5 a6 a7 a8 a9 a10 a11 a12 : UInt8) (l : Bytes),
      List.drop (12 + n) (a1 :: a2 :: a3 :: a4 :: a5 :: a6 :: a7 :: a8 :: a9 :: a10 :: a11 :: a12 :: l) = List.drop n l := by
    intro n a1 a2 a3 a4 a5 a6 a7 a8 a9 a10 a11 a12 l
    rw [Nat.add_comm]; rfl
  simp only [habEccParse, g1, g2, g3, g4, g5, g6, List.length_cons, List.headD_cons, List.drop_succ_cons, List.drop_zero,
    List.take_succ_cons, List.take_zero, hlen4, List.map_cons, List.map_nil, List.foldl_cons, List.foldl_nil,
    List.getD_cons_succ, List.getD_cons_zero, List.sum_cons, List.sum_nil, hk, hcurve, hcs, hflag,
    pure_eq_ok, ↓reduceIte, Bool.not_true, Bool.false_eq_true, ne_eq, not_true_eq_false]
  have hl : ¬ (beEnc (habCoordSize ks) x ++ (beEnc (habCoordSize ks) y ++ rest)).length + 1 + 1 + 1 + 1 + 1 + 1 + 1 + 1 + 1 + 1 + 1 + 1 < 4 := by omega
  have hl2 : ¬ (beEnc (habCoordSize ks) x ++ (beEnc (habCoordSize ks) y ++ rest)).length + 1 + 1 + 1 + 1 + 1 + 1 + 1 + 1 + 1 + 1 + 1 + 1 <
      max (max (max 7 8) 10) 11 + 1 := by
    have : max (max (max 7 8) 10) 11 + 1 = 12 := by decide
    omega
  simp only [hl, hl2, hflag', hdrop, ↓reduceIte, hx', hy', beDec_beEnc _ _ hx, beDec_beEnc _ _ hy, toBytes_fit _ _ hx,
    toBytes_fit _ _ hy, bind_ok]

/-- `SrkItemEcc.parse` (generated positions / coordinate-size rule) reads the documented item back — for each curve, both flag values,
    all coordinates that fit the field, whatever follows the item -/
theorem habEccParse_item (cv : Curve) (x y : Nat) (ca : Bool) (hx : x < 256 ^ cv.coordSize) (hy : y < 256 ^ cv.coordSize)
    (tail : Bytes) :
    habEccParse (habItem (.ecc cv x y) ca ++ tail) = .ok { keySize := cv.bits, x := x, y := y, flag := caFlag ca } :=
  habEccParse_export_any _ _ (habEccExport_curve cv x y ca hx hy) tail

end SpsdkVerif.Rkht
