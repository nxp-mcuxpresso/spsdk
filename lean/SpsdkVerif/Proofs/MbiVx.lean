/-
C01 for the header-less "Vx" images of the mc56f81xxx / mwct20x2 families (Model/MbiVx.lean): the exporters write only into
the byte ranges that belong to the tool (`Vx.owned`), the fields they write describe the emitted bytes (BCA image length /
firmware version / CRC start-count-value, image digest and signature over exactly header + BCA + data), the parser gives the
image back as the application together with life cycle and firmware version, and re-exporting the parsed image reproduces
every byte outside the signature.
-/
import SpsdkVerif.Model.MbiVx
import SpsdkVerif.Proofs.MbiBase
import SpsdkVerif.Proofs.MbiPlain

namespace SpsdkVerif.Mbi.Vx
open SpsdkVerif SpsdkVerif.Misc SpsdkVerif.Crypto SpsdkVerif.Mbi
open SpsdkVerif.Generated.IvtConsts

theorem vx_slice_getElem? (x : Bytes) (a b j : Nat) : (slice x a b)[j]? = if a + j < b then x[a + j]? else none := by
  unfold slice
  rw [List.getElem?_drop, List.getElem?_take]

theorem vx_setAt_getElem? (x w : Bytes) (off i : Nat) (h : off ≤ x.length) :
    (setAt x off w)[i]? = if off ≤ i ∧ i < off + w.length then w[i - off]? else x[i]? := by
  unfold setAt
  have hl : (x.take off).length = off := by rw [List.length_take]; omega
  by_cases h1 : i < off
  · rw [if_neg (by omega), List.append_assoc, List.getElem?_append_left (by omega), List.getElem?_take_of_lt h1]
  · rw [List.append_assoc, List.getElem?_append_right (by omega), hl]
    by_cases h2 : i < off + w.length
    · rw [if_pos (by omega), List.getElem?_append_left (by omega)]
    · rw [if_neg (by omega), List.getElem?_append_right (by omega), List.getElem?_drop]
      congr 1; omega

theorem vx_slice_congr (x y : Bytes) (a b : Nat) (h : ∀ i, a ≤ i → i < b → x[i]? = y[i]?) : slice x a b = slice y a b := by
  apply List.ext_getElem?
  intro j
  rw [vx_slice_getElem?, vx_slice_getElem?]
  split
  · exact h _ (by omega) (by omega)
  · rfl

theorem vx_take_congr (x y : Bytes) (a : Nat) (h : ∀ i, i < a → x[i]? = y[i]?) : x.take a = y.take a := by
  apply List.ext_getElem?
  intro j
  rw [List.getElem?_take, List.getElem?_take]
  split
  · exact h _ (by omega)
  · rfl

theorem vx_drop_congr (x y : Bytes) (a : Nat) (h : ∀ i, a ≤ i → x[i]? = y[i]?) : x.drop a = y.drop a := by
  apply List.ext_getElem?
  intro j
  rw [List.getElem?_drop, List.getElem?_drop]
  exact h _ (by omega)

theorem vx_slice_eq (x w : Bytes) (a : Nat) (h : ∀ j, j < w.length → x[a + j]? = w[j]?) : slice x a (a + w.length) = w := by
  apply List.ext_getElem?
  intro j
  rw [vx_slice_getElem?]
  split
  · exact h _ (by omega)
  · rw [List.getElem?_eq_none (by omega)]

theorem vx_slice_slice (x y : Bytes) (a b c d : Nat) (h : slice x a b = y) (hd : a + d ≤ b) :
    slice x (a + c) (a + d) = slice y c d := by
  apply List.ext_getElem?
  intro j
  rw [vx_slice_getElem?, vx_slice_getElem?, ← h, vx_slice_getElem?]
  by_cases hj : c + j < d
  · rw [if_pos (by omega), if_pos hj, if_pos (by omega)]
    congr 1
    omega
  · rw [if_neg (by omega), if_neg hj]

/-- a padded slot holds its sub-image in front -/
theorem vx_slice_prefix (x w pad : Bytes) (a b : Nat) (h : slice x a b = w ++ pad) (hd : a + w.length ≤ b) :
    slice x a (a + w.length) = w := by
  have := vx_slice_slice x _ a b 0 w.length h hd
  rw [Nat.add_zero] at this
  rw [this, slice, List.drop_zero, List.take_left]

theorem vx_rd32_congr (x y : Bytes) (o : Nat) (h : ∀ i, o ≤ i → i < o + 4 → x[i]? = y[i]?) : rd32 x o = rd32 y o := by
  unfold rd32
  congr 1
  apply List.ext_getElem?
  intro j
  rw [List.getElem?_take, List.getElem?_take, List.getElem?_drop, List.getElem?_drop]
  split
  · exact h _ (by omega) (by omega)
  · rfl

theorem vx_rd32_of_slice (x : Bytes) (off v : Nat) (h : slice x off (off + 4) = le32 v) (hv : v < 2 ^ 32) : rd32 x off = v := by
  have : (x.drop off).take 4 = le32 v := by
    rw [← h, slice, List.take_drop]
  rw [rd32_of_window _ _ _ this, leDec_le32 v hv]

theorem vx_setAt_agree (x w : Bytes) (off : Nat) (h : off ≤ x.length) {a b : Nat} (hd : b ≤ off ∨ off + w.length ≤ a) (i : Nat)
    (h1 : a ≤ i) (h2 : i < b) : (setAt x off w)[i]? = x[i]? := by
  rw [vx_setAt_getElem? _ _ _ _ h, if_neg (by omega)]

theorem vx_setAt_slice (x w : Bytes) (off : Nat) (h : off ≤ x.length) : slice (setAt x off w) off (off + w.length) = w :=
  vx_slice_eq _ _ _ fun j hj => by
    rw [vx_setAt_getElem? _ _ _ _ h, if_pos (by omega), Nat.add_sub_cancel_left]

theorem vx_setAt_same (x w : Bytes) (off : Nat) (h : off + w.length ≤ x.length) (hs : slice x off (off + w.length) = w) :
    setAt x off w = x := by
  apply List.ext_getElem?
  intro i
  rw [vx_setAt_getElem? _ _ _ _ (by omega)]
  split
  · rw [← hs, vx_slice_getElem?, if_pos (by omega), Nat.add_sub_of_le (by omega)]
  · rfl

theorem vx_putSlot_eq_setAt (img new : Bytes) (a b : Nat) (h1 : a ≤ b) (h3 : new.length ≤ b - a) :
    putSlot img a b new = setAt img a (new ++ zeros (b - a - new.length)) := by
  unfold putSlot setAt
  rw [List.length_append, zeros_length, show a + (new.length + (b - a - new.length)) = b by omega, ← List.append_assoc]

section putSlot
variable (img new : Bytes) (a b : Nat) (h1 : a ≤ b) (h2 : b ≤ img.length) (h3 : new.length ≤ b - a)
include h1 h2 h3

theorem vx_putSlot_length : (putSlot img a b new).length = img.length := by
  rw [vx_putSlot_eq_setAt _ _ _ _ h1 h3, setAt_length _ _ _ (by rw [List.length_append, zeros_length]; omega)]

theorem vx_putSlot_agree {a' b' : Nat} (hd : b' ≤ a ∨ b ≤ a') (i : Nat) (hi1 : a' ≤ i) (hi2 : i < b') :
    (putSlot img a b new)[i]? = img[i]? := by
  rw [vx_putSlot_eq_setAt _ _ _ _ h1 h3]
  exact vx_setAt_agree _ _ _ (by omega) (by rw [List.length_append, zeros_length]; omega) i hi1 hi2

theorem vx_putSlot_slice_other {a' b' : Nat} (hd : b' ≤ a ∨ b ≤ a') : slice (putSlot img a b new) a' b' = slice img a' b' :=
  vx_slice_congr _ _ _ _ (vx_putSlot_agree img new a b h1 h2 h3 hd)

theorem vx_putSlot_slice : slice (putSlot img a b new) a b = new ++ zeros (b - a - new.length) := by
  have := vx_setAt_slice img (new ++ zeros (b - a - new.length)) a (by omega)
  rwa [← vx_putSlot_eq_setAt _ _ _ _ h1 h3, List.length_append, zeros_length,
    show a + (new.length + (b - a - new.length)) = b by omega] at this

theorem vx_putSlot_same (hs : slice img a b = new ++ zeros (b - a - new.length)) : putSlot img a b new = img := by
  have hl : a + (new ++ zeros (b - a - new.length)).length = b := by rw [List.length_append, zeros_length]; omega
  rw [vx_putSlot_eq_setAt _ _ _ _ h1 h3]
  exact vx_setAt_same _ _ _ (by omega) (by rw [hl]; exact hs)

end putSlot

theorem vx_putSlot_self (img : Bytes) (a b : Nat) (h1 : a ≤ b) (h2 : b ≤ img.length) :
    putSlot img a b (slice img a b) = img := by
  unfold putSlot
  rw [slice_length, Nat.min_eq_left h2, Nat.sub_self, take_append_slice _ _ _ h1]
  exact (List.append_assoc ..).trans (List.take_append_drop b img)

/-- writing into a sub-image and putting it into its slot is writing into the image -/
theorem vx_putSlot_setAt (img s w : Bytes) (a b o : Nat) (hs : s.length = b - a) (h1 : a ≤ b) (h2 : b ≤ img.length)
    (ho : o + w.length ≤ s.length) : putSlot img a b (setAt s o w) = setAt (putSlot img a b s) (a + o) w := by
  have hl := setAt_length s w o ho
  have z : ∀ l : Bytes, l ++ zeros 0 = l := List.append_nil
  rw [vx_putSlot_eq_setAt _ _ _ _ h1 (by omega), vx_putSlot_eq_setAt _ _ _ _ h1 (by omega), hl, hs, Nat.sub_self, z, z]
  apply List.ext_getElem?
  intro i
  rw [vx_setAt_getElem? _ _ _ _ (by omega), vx_setAt_getElem? _ _ _ _ (by omega),
    vx_setAt_getElem? _ _ _ _ (by rw [setAt_length _ _ _ (by omega)]; omega), vx_setAt_getElem? _ _ _ _ (by omega), hl]
  by_cases hw : a + o ≤ i ∧ i < a + o + w.length
  · rw [if_pos hw, if_pos (by omega), if_pos (by omega), Nat.sub_sub]
  · rw [if_neg hw]
    split
    · rw [if_neg (by omega)]
    · rfl

structure VxCfg (k : Kind) (cfg : Cfg) : Prop where
  hn : vxImgDataStart ≤ (align4 cfg.app).length
  hn31 : (align4 cfg.app).length < 2 ^ 31
  hlc : lifecycleTags.contains cfg.lifecycle = true
  hfw : cfg.fwVersion < 2 ^ 32
  hns : k ≠ .signed → cfg.fwVersion = 0 ∧ cfg.cert = [] ∧ cfg.justHeader = false
  hsg : k = .signed → cfg.cert.length ≤ vxImgIskHashOffset - vxImgIskOffset ∧ cfg.cert ≠ [] ∧ cfg.certHash.length = vxImgIskHashSize

theorem vxCfg (k : Kind) (cfg : Cfg) (hw : cfgWF k cfg = true) : VxCfg k cfg := by
  unfold cfgWF at hw
  simp only [Bool.and_eq_true, and_assoc, decide_eq_true_eq] at hw
  obtain ⟨a1, a2, a3, a4, a5, a6⟩ := hw
  refine ⟨a1, a2, a3, a4, ?_, ?_⟩
  · intro hk
    have : (k != Kind.signed) = true := by simpa using hk
    have := a5 this
    simpa [and_assoc] using this
  · intro hk
    have : (k == Kind.signed) = true := by simpa using hk
    have := a6 this
    simpa [and_assoc] using this

theorem VxCfg.hlc_lt {k : Kind} {cfg : Cfg} (h : VxCfg k cfg) : cfg.lifecycle < 256 := by
  have := h.hlc
  simp only [lifecycleTags, List.contains_cons, List.contains_nil, Bool.or_false, Bool.or_eq_true, beq_iff_eq] at this
  omega

/-- `update_fcf` -/
def vxF (cfg : Cfg) (x : Bytes) : Bytes :=
  if cfg.lifecycle = 0xFF then x else setAt x vxImgFcfLifecycleOffset [UInt8.ofNat cfg.lifecycle]

theorem vx_updateFcf {k : Kind} {cfg : Cfg} (h : VxCfg k cfg) (x : Bytes) : updateFcf cfg x = .ok (vxF cfg x) := by
  unfold updateFcf vxF
  split
  · rfl
  · rw [if_neg (by rw [h.hlc]; simp)]

section vxF
variable (cfg : Cfg) (x : Bytes) (hx : vxImgFcfLifecycleOffset < x.length)
include hx

theorem vxF_length : (vxF cfg x).length = x.length := by
  unfold vxF
  split
  · rfl
  · exact setAt_length _ _ _ (by simp only [List.length_singleton]; omega)

theorem vxF_agree {a b : Nat} (hd : b ≤ vxImgFcfLifecycleOffset ∨ vxImgFcfLifecycleOffset < a ∨ cfg.lifecycle = 0xFF) (i : Nat)
    (h1 : a ≤ i) (h2 : i < b) : (vxF cfg x)[i]? = x[i]? := by
  unfold vxF
  split
  · rfl
  · exact vx_setAt_agree _ _ _ (by omega) (by simp only [List.length_singleton]; omega) i h1 h2

theorem vxF_at (hl : cfg.lifecycle ≠ 0xFF) : (vxF cfg x)[vxImgFcfLifecycleOffset]? = some (UInt8.ofNat cfg.lifecycle) := by
  rw [vxF, if_neg hl, vx_setAt_getElem? _ _ _ _ (by omega), if_pos ⟨Nat.le_refl _, Nat.lt_add_one _⟩, Nat.sub_self]
  rfl

theorem vxF_same (h : cfg.lifecycle ≠ 0xFF → x[vxImgFcfLifecycleOffset]? = some (UInt8.ofNat cfg.lifecycle)) : vxF cfg x = x := by
  unfold vxF
  split
  · rfl
  · refine vx_setAt_same _ _ _ (by simp only [List.length_singleton]; omega) (vx_slice_eq _ _ _ fun j hj => ?_)
    rw [List.length_singleton, Nat.lt_one_iff] at hj
    rw [hj, Nat.add_zero, h ‹_›]; rfl

end vxF

section updateBca
variable (cfg : Cfg) (x : Bytes) (t : Nat) (hx : vxImgBcaFwVersionOffset + 4 ≤ x.length)
include hx

theorem vx_updateBca_length : (updateBca cfg x t).length = x.length := by
  have h1 : vxImgBcaImageLengthOffset + (le32 t).length ≤ x.length := Nat.le_trans (by rw [le32_length]; decide) hx
  unfold updateBca
  rw [setAt_length _ _ _ (by rw [setAt_length _ _ _ h1, le32_length]; exact hx), setAt_length _ _ _ h1]

theorem vx_updateBca_agree {a b : Nat} (hd : b ≤ vxImgBcaImageLengthOffset ∨ vxImgBcaFwVersionOffset + 4 ≤ a) (i : Nat)
    (h1 : a ≤ i) (h2 : i < b) : (updateBca cfg x t)[i]? = x[i]? := by
  have r : vxImgBcaImageLengthOffset + 4 = vxImgBcaFwVersionOffset := by decide
  have hl : (setAt x vxImgBcaImageLengthOffset (le32 t)).length = x.length :=
    setAt_length _ _ _ (by rw [le32_length]; omega)
  unfold updateBca
  rw [vx_setAt_agree _ _ _ (by omega) (by rw [le32_length]; omega) i h1 h2,
    vx_setAt_agree _ _ _ (by omega) (by rw [le32_length]; omega) i h1 h2]

theorem vx_updateBca_words :
    slice (updateBca cfg x t) vxImgBcaImageLengthOffset (vxImgBcaImageLengthOffset + 4) = le32 t
    ∧ slice (updateBca cfg x t) vxImgBcaFwVersionOffset (vxImgBcaFwVersionOffset + 4) = le32 cfg.fwVersion := by
  have hl : (setAt x vxImgBcaImageLengthOffset (le32 t)).length = x.length :=
    setAt_length _ _ _ (Nat.le_trans (by rw [le32_length]; decide) hx)
  have h1 := vx_setAt_slice x (le32 t) vxImgBcaImageLengthOffset (Nat.le_trans (by decide) hx)
  have h2 := vx_setAt_slice (setAt x vxImgBcaImageLengthOffset (le32 t)) (le32 cfg.fwVersion) vxImgBcaFwVersionOffset
    (by rw [hl]; exact Nat.le_trans (Nat.le_add_right ..) hx)
  rw [le32_length] at h1 h2
  unfold updateBca
  refine ⟨Eq.trans (vx_slice_congr _ _ _ _ fun i hi1 hi2 => ?_) h1, h2⟩
  exact vx_setAt_agree _ _ _ (by rw [hl]; exact Nat.le_trans (Nat.le_add_right ..) hx) (Or.inl (by decide)) i hi1 hi2

theorem vx_updateBca_same (h1 : slice x vxImgBcaImageLengthOffset (vxImgBcaImageLengthOffset + 4) = le32 t)
    (h2 : slice x vxImgBcaFwVersionOffset (vxImgBcaFwVersionOffset + 4) = le32 cfg.fwVersion) : updateBca cfg x t = x := by
  unfold updateBca
  rw [vx_setAt_same x (le32 t) _ (by rw [le32_length]; exact Nat.le_trans (by decide) hx) (by rw [le32_length]; exact h1),
    vx_setAt_same x (le32 cfg.fwVersion) _ (by rw [le32_length]; exact hx) (by rw [le32_length]; exact h2)]

end updateBca

/-- BCA image length of a signed image of `n` bytes -/
def vxT (n : Nat) : Nat := n - (vxImgDataStart - (vxImgDigestOffset + (vxImgFcfOffset - vxImgBcaOffset)))

/-- the collected image before a header-only cut -/
def vxFull (k : Kind) (cfg : Cfg) : Bytes :=
  match k with
  | .signed => vxF cfg (updateBca cfg (align4 cfg.app) (vxT (align4 cfg.app).length))
  | _ => vxF cfg (align4 cfg.app)

/-- what the collector emits -/
def vxRaw (k : Kind) (cfg : Cfg) : Bytes :=
  match k with
  | .signed => if cfg.justHeader then (vxFull .signed cfg).take vxImgDukBlockOffset else vxFull .signed cfg
  | _ => vxFull k cfg

theorem vx_collect {k : Kind} {cfg : Cfg} (h : VxCfg k cfg) : collect k cfg = .ok (vxRaw k cfg) := by
  have hn := h.hn
  have hne : (align4 cfg.app).isEmpty = false := by
    cases hh : align4 cfg.app with
    | nil => rw [hh] at hn; exact absurd hn (by decide)
    | cons a l => rfl
  unfold collect
  simp only [hne, Bool.false_eq_true, if_false, if_neg (Nat.not_lt.2 hn)]
  cases k with
  | plain => exact vx_updateFcf h _
  | crc => exact vx_updateFcf h _
  | signed =>
    have ht : totalLen .signed (align4 cfg.app) = ((vxT (align4 cfg.app).length : Nat) : Int) := by
      simp only [totalLen, vxT, vxImgDataStart, vxImgDigestOffset, vxImgFcfOffset, vxImgBcaOffset] at hn ⊢; omega
    have hT : vxT (align4 cfg.app).length ≤ (align4 cfg.app).length := Nat.sub_le _ _
    have hfw := h.hfw
    have h31 := h.hn31
    simp only [ht, Int.toNat_natCast]
    rw [if_neg (by omega)]
    simp only [vx_updateFcf h, bind, Except.bind, pure, Except.pure, vxRaw, vxFull]

/-- the places the collector writes lie inside the application -/
theorem VxCfg.bounds {k : Kind} {cfg : Cfg} (h : VxCfg k cfg) :
    vxImgFcfLifecycleOffset < (updateBca cfg (align4 cfg.app) (vxT (align4 cfg.app).length)).length
    ∧ vxImgFcfLifecycleOffset < (align4 cfg.app).length ∧ vxImgBcaFwVersionOffset + 4 ≤ (align4 cfg.app).length
    ∧ vxImgDukBlockOffset ≤ (align4 cfg.app).length := by
  have h1 : vxImgBcaFwVersionOffset + 4 ≤ (align4 cfg.app).length := Nat.le_trans (by decide) h.hn
  have h2 : vxImgFcfLifecycleOffset < (align4 cfg.app).length := Nat.lt_of_lt_of_le (by decide) h.hn
  exact ⟨by rw [vx_updateBca_length _ _ _ h1]; exact h2, h2, h1, Nat.le_trans (by decide) h.hn⟩

theorem vx_full_length {k : Kind} {cfg : Cfg} (h : VxCfg k cfg) : (vxFull k cfg).length = (align4 cfg.app).length := by
  obtain ⟨b1, b2, b3, -⟩ := h.bounds
  cases k
  · exact vxF_length _ _ b2
  · exact vxF_length _ _ b2
  · exact (vxF_length _ _ b1).trans (vx_updateBca_length _ _ _ b3)

theorem vx_raw_length {k : Kind} {cfg : Cfg} (h : VxCfg k cfg) :
    (vxRaw k cfg).length = (if cfg.justHeader then vxImgDukBlockOffset else (align4 cfg.app).length) := by
  have hf := vx_full_length h
  cases k with
  | signed =>
    simp only [vxRaw]
    split
    · rw [List.length_take, hf, Nat.min_eq_left h.bounds.2.2.2]
    · exact hf
  | plain => rw [(h.hns (by decide)).2.2]; exact hf
  | crc => rw [(h.hns (by decide)).2.2]; exact hf

theorem vx_raw_duk {k : Kind} {cfg : Cfg} (h : VxCfg k cfg) : vxImgDukBlockOffset ≤ (vxRaw k cfg).length := by
  rw [vx_raw_length h]
  split
  · exact Nat.le_refl _
  · exact h.bounds.2.2.2

/-- a header-only export is a prefix of the complete one -/
theorem vx_raw_getElem? (k : Kind) (cfg : Cfg) (i : Nat) (hi : i < (vxRaw k cfg).length) :
    (vxRaw k cfg)[i]? = (vxFull k cfg)[i]? := by
  cases k with
  | signed =>
    simp only [vxRaw] at hi ⊢
    split
    · rw [if_pos ‹_›, List.length_take] at hi
      rw [List.getElem?_take_of_lt (by omega)]
    · rfl
  | plain => rfl
  | crc => rfl

/-- the collected image is the application except for the life-cycle byte and, in signed images, the two BCA words -/
theorem vx_raw_agree {k : Kind} {cfg : Cfg} (h : VxCfg k cfg) {a b : Nat} (hb : b ≤ (vxRaw k cfg).length)
    (hL : b ≤ vxImgFcfLifecycleOffset ∨ vxImgFcfLifecycleOffset < a ∨ cfg.lifecycle = 0xFF)
    (hB : k = .signed → b ≤ vxImgBcaImageLengthOffset ∨ vxImgBcaFwVersionOffset + 4 ≤ a) (i : Nat) (h1 : a ≤ i) (h2 : i < b) :
    (vxRaw k cfg)[i]? = (align4 cfg.app)[i]? := by
  obtain ⟨b1, b2, b3, -⟩ := h.bounds
  rw [vx_raw_getElem? k cfg i (by omega)]
  cases k
  · exact vxF_agree _ _ b2 hL i h1 h2
  · exact vxF_agree _ _ b2 hL i h1 h2
  · exact (vxF_agree _ _ b1 hL i h1 h2).trans (vx_updateBca_agree _ _ _ b3 (hB rfl) i h1 h2)

theorem vx_raw_at {k : Kind} {cfg : Cfg} (h : VxCfg k cfg) (hl : cfg.lifecycle ≠ 0xFF) :
    (vxRaw k cfg)[vxImgFcfLifecycleOffset]? = some (UInt8.ofNat cfg.lifecycle) := by
  obtain ⟨b1, b2, -, -⟩ := h.bounds
  rw [vx_raw_getElem? k cfg _ (Nat.lt_of_lt_of_le (by decide) (vx_raw_duk h))]
  cases k
  · exact vxF_at _ _ b2 hl
  · exact vxF_at _ _ b2 hl
  · exact vxF_at _ _ b1 hl

/-- the life-cycle byte of an image that agrees there with the collected one -/
theorem vx_lifecycle_of {k : Kind} {cfg : Cfg} (h : VxCfg k cfg) (e : Bytes)
    (he : e[vxImgFcfLifecycleOffset]? = (vxRaw k cfg)[vxImgFcfLifecycleOffset]?) :
    (e.getD vxImgFcfLifecycleOffset 0).toNat
      = (if cfg.lifecycle = 0xFF then ((align4 cfg.app).getD vxImgFcfLifecycleOffset 0).toNat else cfg.lifecycle) := by
  rw [List.getD_eq_getElem?_getD, List.getD_eq_getElem?_getD, he]
  split
  · rw [vx_raw_agree h (Nat.succ_le_of_lt (Nat.lt_of_lt_of_le (by decide) (vx_raw_duk h))) (Or.inr (Or.inr ‹_›))
      (fun _ => Or.inr (by decide)) _ (Nat.le_refl _) (Nat.lt_succ_self _)]
  · rw [vx_raw_at h ‹_›, Option.getD_some, UInt8.toNat_ofNat']
    have := h.hlc_lt
    omega

theorem vx_raw_words {cfg : Cfg} (h : VxCfg .signed cfg) :
    slice (vxRaw .signed cfg) vxImgBcaImageLengthOffset (vxImgBcaImageLengthOffset + 4) = le32 (vxT (align4 cfg.app).length)
    ∧ slice (vxRaw .signed cfg) vxImgBcaFwVersionOffset (vxImgBcaFwVersionOffset + 4) = le32 cfg.fwVersion := by
  obtain ⟨b1, -, b3, -⟩ := h.bounds
  obtain ⟨w1, w2⟩ := vx_updateBca_words cfg (align4 cfg.app) (vxT (align4 cfg.app).length) b3
  have e : ∀ i, i < vxImgFcfLifecycleOffset → (vxRaw .signed cfg)[i]?
      = (updateBca cfg (align4 cfg.app) (vxT (align4 cfg.app).length))[i]? := fun i hi =>
    (vx_raw_getElem? _ cfg i (Nat.lt_of_lt_of_le (Nat.lt_trans hi (by decide)) (vx_raw_duk h))).trans
      (vxF_agree _ _ b1 (Or.inl (Nat.le_refl _)) i (Nat.zero_le _) hi)
  exact ⟨(vx_slice_congr _ _ _ _ fun i _ hi => e i (Nat.lt_of_lt_of_le hi (by decide))).trans w1,
    (vx_slice_congr _ _ _ _ fun i _ hi => e i (Nat.lt_of_lt_of_le hi (by decide))).trans w2⟩

/-- the CRC exporter writes three BCA words of the image: CRC of the data part, its start, its length -/
theorem vx_crcSignBca_eq (img : Bytes) (hx : vxImgDataStart ≤ img.length) :
    crcSignBca img = setAt (setAt (setAt img (vxImgBcaOffset + 0xC) (le32 (crc32m (dataPart img))))
      (vxImgBcaOffset + 0x4) (le32 vxImgDataStart)) (vxImgBcaOffset + 0x8) (le32 (dataPart img).length) := by
  have h2 : vxImgFcfOffset ≤ img.length := Nat.le_trans (by decide) hx
  have hs : (slice img vxImgBcaOffset vxImgFcfOffset).length = vxImgFcfOffset - vxImgBcaOffset := by
    rw [slice_length, Nat.min_eq_left h2]
  have e1 := setAt_length (slice img vxImgBcaOffset vxImgFcfOffset) (le32 (crc32m (dataPart img))) 0xC
    (by rw [hs, le32_length]; decide)
  have e2 := setAt_length (setAt (slice img vxImgBcaOffset vxImgFcfOffset) 0xC (le32 (crc32m (dataPart img))))
    (le32 vxImgDataStart) 0x4 (by rw [e1, hs, le32_length]; decide)
  unfold crcSignBca
  simp only
  rw [vx_putSlot_setAt _ _ _ _ _ _ (by rw [e2, e1, hs]) (by decide) h2 (by rw [e2, e1, hs, le32_length]; decide),
    vx_putSlot_setAt _ _ _ _ _ _ (by rw [e1, hs]) (by decide) h2 (by rw [e1, hs, le32_length]; decide),
    vx_putSlot_setAt _ _ _ _ _ _ hs (by decide) h2 (by rw [hs, le32_length]; decide), vx_putSlot_self _ _ _ (by decide) h2]

theorem vx_crc_facts (img : Bytes) (hx : vxImgDataStart ≤ img.length) :
    (crcSignBca img).length = img.length
    ∧ (∀ {a b : Nat}, b ≤ vxImgBcaOffset + 4 ∨ vxImgBcaOffset + 16 ≤ a → ∀ i, a ≤ i → i < b → (crcSignBca img)[i]? = img[i]?)
    ∧ slice (crcSignBca img) (vxImgBcaOffset + 4) (vxImgBcaOffset + 8) = le32 vxImgDataStart
    ∧ slice (crcSignBca img) (vxImgBcaOffset + 8) (vxImgBcaOffset + 12) = le32 (dataPart img).length
    ∧ slice (crcSignBca img) (vxImgBcaOffset + 12) (vxImgBcaOffset + 16) = le32 (crc32m (dataPart img)) := by
  have b : vxImgBcaOffset + 16 ≤ img.length := Nat.le_trans (by decide) hx
  have r : vxImgBcaOffset + 0xC + 4 = vxImgBcaOffset + 16 ∧ vxImgBcaOffset + 0x4 + 4 = vxImgBcaOffset + 0x8
    ∧ vxImgBcaOffset + 0x8 + 4 = vxImgBcaOffset + 0xC := ⟨rfl, rfl, rfl⟩
  have l1 := setAt_length img (le32 (crc32m (dataPart img))) (vxImgBcaOffset + 0xC) (by rw [le32_length]; exact b)
  have l2 := setAt_length (setAt img (vxImgBcaOffset + 0xC) (le32 (crc32m (dataPart img)))) (le32 vxImgDataStart)
    (vxImgBcaOffset + 0x4) (by rw [l1, le32_length]; omega)
  rw [l1] at l2
  have s1 := vx_setAt_slice img (le32 (crc32m (dataPart img))) (vxImgBcaOffset + 0xC) (by omega)
  have s2 := vx_setAt_slice (setAt img (vxImgBcaOffset + 0xC) (le32 (crc32m (dataPart img)))) (le32 vxImgDataStart)
    (vxImgBcaOffset + 0x4) (by omega)
  have s3 := vx_setAt_slice (setAt (setAt img (vxImgBcaOffset + 0xC) (le32 (crc32m (dataPart img))))
    (vxImgBcaOffset + 0x4) (le32 vxImgDataStart)) (le32 (dataPart img).length) (vxImgBcaOffset + 0x8) (by omega)
  rw [le32_length] at s1 s2 s3
  rw [vx_crcSignBca_eq img hx]
  refine ⟨by rw [setAt_length _ _ _ (by rw [l2, le32_length]; omega), l2], fun hd i h1 h2 => ?_, ?_, s3, ?_⟩
  · rw [vx_setAt_agree _ _ _ (by omega) (by rw [le32_length]; omega) i h1 h2,
      vx_setAt_agree _ _ _ (by omega) (by rw [le32_length]; omega) i h1 h2,
      vx_setAt_agree _ _ _ (by omega) (by rw [le32_length]; omega) i h1 h2]
  · exact (vx_slice_congr _ _ _ _ fun i h1 h2 =>
      vx_setAt_agree _ _ _ (by omega) (by rw [le32_length]; omega) i h1 h2).trans s2
  · refine (vx_slice_congr _ _ _ _ fun i h1 h2 => ?_).trans s1
    rw [vx_setAt_agree _ _ _ (by omega) (by rw [le32_length]; omega) i h1 h2,
      vx_setAt_agree _ _ _ (by omega) (by rw [le32_length]; omega) i h1 h2]

theorem vx_crc_same (img : Bytes) (hx : vxImgDataStart ≤ img.length)
    (h1 : slice img (vxImgBcaOffset + 4) (vxImgBcaOffset + 8) = le32 vxImgDataStart)
    (h2 : slice img (vxImgBcaOffset + 8) (vxImgBcaOffset + 12) = le32 (dataPart img).length)
    (h3 : slice img (vxImgBcaOffset + 12) (vxImgBcaOffset + 16) = le32 (crc32m (dataPart img))) :
    crcSignBca img = img := by
  have b : vxImgBcaOffset + 16 ≤ img.length := Nat.le_trans (by decide) hx
  rw [vx_crcSignBca_eq img hx, vx_setAt_same img _ _ (by rw [le32_length]; exact b) (by rw [le32_length]; exact h3),
    vx_setAt_same img _ _ (by rw [le32_length]; exact Nat.le_trans (by decide) b) (by rw [le32_length]; exact h1),
    vx_setAt_same img _ _ (by rw [le32_length]; exact Nat.le_trans (by decide) b) (by rw [le32_length]; exact h2)]

/-- the signed image: digest, signature, ISK certificate and (optionally) its hash put into their slots -/
def vxSigned (co : CryptoOps) (cfg : Cfg) (signer : Signer) (img : Bytes) : Bytes :=
  let i := putSlot (putSlot (putSlot img vxImgDigestOffset vxImgSignatureOffset (co.hash .sha256 (dataToSign img)))
    vxImgSignatureOffset vxImgBcaOffset (signer (dataToSign img))) vxImgIskOffset vxImgIskHashOffset cfg.cert
  if cfg.addHash then putSlot i vxImgIskHashOffset vxImgWpcRootCaCertHashOffset cfg.certHash else i

theorem vxSigned_app (co : CryptoOps) (cfg : Cfg) (signer : Signer) (img A : Bytes) :
    vxSigned co { cfg with app := A } signer img = vxSigned co cfg signer img := rfl

section signed
variable (co : CryptoOps) (cfg : Cfg) (signer : Signer) (img : Bytes) (hx : vxImgDukBlockOffset ≤ img.length)
  (hs : ∀ m, (signer m).length = vxImgBcaOffset - vxImgSignatureOffset)
  (hh : ∀ m, (co.hash .sha256 m).length = vxImgDigestSize)
  (hc : cfg.cert.length ≤ vxImgIskHashOffset - vxImgIskOffset) (hch : cfg.certHash.length = vxImgIskHashSize)
include hs

theorem vx_eccSignVx : eccSignVx co cfg signer img = .ok (vxSigned co cfg signer img) := by
  have hsl := hs (dataToSign img)
  have hne : (signer (dataToSign img)).isEmpty = false := by
    cases h : signer (dataToSign img) with
    | nil => rw [h] at hsl; exact absurd hsl (by decide)
    | cons a l => rfl
  simp only [eccSignVx, hne, Bool.false_eq_true, if_false, vxSigned]

include hx hh hc hch

/-- signing keeps the length, leaves every range alone that meets no slot, and each slot holds its sub-image padded with zeros -/
theorem vxSigned_facts :
    (vxSigned co cfg signer img).length = img.length
    ∧ (∀ {a b : Nat}, b ≤ vxImgDigestOffset ∨ vxImgBcaOffset ≤ a → b ≤ vxImgIskOffset ∨ vxImgIskHashOffset ≤ a →
        (cfg.addHash = true → b ≤ vxImgIskHashOffset ∨ vxImgWpcRootCaCertHashOffset ≤ a) →
        ∀ i, a ≤ i → i < b → (vxSigned co cfg signer img)[i]? = img[i]?)
    ∧ slice (vxSigned co cfg signer img) vxImgDigestOffset vxImgSignatureOffset
        = co.hash .sha256 (dataToSign img) ++ zeros (vxImgSignatureOffset - vxImgDigestOffset - (co.hash .sha256 (dataToSign img)).length)
    ∧ slice (vxSigned co cfg signer img) vxImgSignatureOffset vxImgBcaOffset
        = signer (dataToSign img) ++ zeros (vxImgBcaOffset - vxImgSignatureOffset - (signer (dataToSign img)).length)
    ∧ slice (vxSigned co cfg signer img) vxImgIskOffset vxImgIskHashOffset
        = cfg.cert ++ zeros (vxImgIskHashOffset - vxImgIskOffset - cfg.cert.length)
    ∧ (cfg.addHash = true → slice (vxSigned co cfg signer img) vxImgIskHashOffset vxImgWpcRootCaCertHashOffset
        = cfg.certHash ++ zeros (vxImgWpcRootCaCertHashOffset - vxImgIskHashOffset - cfg.certHash.length)) := by
  have hsl := Nat.le_of_eq (hs (dataToSign img))
  have hhl := hh (dataToSign img)
  unfold vxSigned
  generalize co.hash .sha256 (dataToSign img) = H at hhl ⊢
  generalize signer (dataToSign img) = S at hsl ⊢
  have s1 : H.length ≤ vxImgSignatureOffset - vxImgDigestOffset := by rw [hhl]; decide
  have s4 : cfg.certHash.length ≤ vxImgWpcRootCaCertHashOffset - vxImgIskHashOffset := by rw [hch]; decide
  have b1 : vxImgSignatureOffset ≤ img.length := Nat.le_trans (by decide) hx
  have l1 := vx_putSlot_length img H vxImgDigestOffset vxImgSignatureOffset (by decide) b1 s1
  have b2 : vxImgBcaOffset ≤ (putSlot img vxImgDigestOffset vxImgSignatureOffset H).length := by
    rw [l1]; exact Nat.le_trans (by decide) hx
  have l2 := vx_putSlot_length _ S vxImgSignatureOffset vxImgBcaOffset (by decide) b2 hsl
  have b3 : vxImgIskHashOffset ≤ (putSlot (putSlot img vxImgDigestOffset vxImgSignatureOffset H) vxImgSignatureOffset
      vxImgBcaOffset S).length := by rw [l2, l1]; exact Nat.le_trans (by decide) hx
  have l3 := vx_putSlot_length _ cfg.cert vxImgIskOffset vxImgIskHashOffset (by decide) b3 hc
  have b4 : vxImgWpcRootCaCertHashOffset ≤ (putSlot (putSlot (putSlot img vxImgDigestOffset vxImgSignatureOffset H)
      vxImgSignatureOffset vxImgBcaOffset S) vxImgIskOffset vxImgIskHashOffset cfg.cert).length := by
    rw [l3, l2, l1]; exact Nat.le_trans (by decide) hx
  have a3 : ∀ {a b : Nat}, b ≤ vxImgDigestOffset ∨ vxImgBcaOffset ≤ a → b ≤ vxImgIskOffset ∨ vxImgIskHashOffset ≤ a →
      ∀ i, a ≤ i → i < b → (putSlot (putSlot (putSlot img vxImgDigestOffset vxImgSignatureOffset H) vxImgSignatureOffset
        vxImgBcaOffset S) vxImgIskOffset vxImgIskHashOffset cfg.cert)[i]? = img[i]? := fun h1 h3 i hi1 hi2 => by
    rw [vx_putSlot_agree _ _ _ _ (by decide) b3 hc h3 i hi1 hi2,
      vx_putSlot_agree _ _ _ _ (by decide) b2 hsl (h1.imp (Nat.le_trans · (by decide)) id) i hi1 hi2,
      vx_putSlot_agree _ _ _ _ (by decide) b1 s1 (h1.imp id (Nat.le_trans (by decide))) i hi1 hi2]
  have d3 := (vx_putSlot_slice_other _ cfg.cert _ _ (by decide) b3 hc (Or.inl (by decide))).trans
    ((vx_putSlot_slice_other _ S _ _ (by decide) b2 hsl (Or.inl (Nat.le_refl _))).trans
      (vx_putSlot_slice img H _ _ (by decide) b1 s1))
  have g3 := (vx_putSlot_slice_other _ cfg.cert _ _ (by decide) b3 hc (Or.inl (by decide))).trans
    (vx_putSlot_slice _ S vxImgSignatureOffset vxImgBcaOffset (by decide) b2 hsl)
  have c3 := vx_putSlot_slice _ cfg.cert vxImgIskOffset vxImgIskHashOffset (by decide) b3 hc
  simp only
  cases cfg.addHash
  · exact ⟨by rw [if_neg (by simp), l3, l2, l1], fun h1 h3 _ => by rw [if_neg (by simp)]; exact a3 h1 h3,
      by rw [if_neg (by simp)]; exact d3, by rw [if_neg (by simp)]; exact g3, by rw [if_neg (by simp)]; exact c3,
      fun h => by cases h⟩
  · simp only [if_true]
    refine ⟨by rw [vx_putSlot_length _ _ _ _ (by decide) b4 s4, l3, l2, l1], fun h1 h3 h4 i hi1 hi2 => ?_, ?_, ?_, ?_,
      fun _ => vx_putSlot_slice _ _ _ _ (by decide) b4 s4⟩
    · rw [vx_putSlot_agree _ _ _ _ (by decide) b4 s4 (h4 trivial) i hi1 hi2]; exact a3 h1 h3 i hi1 hi2
    · exact (vx_putSlot_slice_other _ _ _ _ (by decide) b4 s4 (Or.inl (by decide))).trans d3
    · exact (vx_putSlot_slice_other _ _ _ _ (by decide) b4 s4 (Or.inl (by decide))).trans g3
    · exact (vx_putSlot_slice_other _ _ _ _ (by decide) b4 s4 (Or.inl (Nat.le_refl _))).trans c3

/-- the signer leaves alone what it signs -/
theorem vxSigned_dataToSign : dataToSign (vxSigned co cfg signer img) = dataToSign img := by
  obtain ⟨-, a, -⟩ := vxSigned_facts co cfg signer img hx hs hh hc hch
  unfold dataToSign
  rw [vx_take_congr _ img _ fun i hi => a (Or.inl (Nat.le_refl _)) (Or.inl (by decide)) (fun _ => Or.inl (by decide)) i
      (Nat.zero_le _) hi,
    vx_slice_congr _ img _ _ (a (Or.inr (Nat.le_refl _)) (Or.inl (by decide)) (fun _ => Or.inl (by decide))),
    vx_drop_congr _ img _ fun i hi => a (b := i + 1) (Or.inr (by decide)) (Or.inr (by decide)) (fun _ => Or.inr (by decide)) i hi
      (Nat.lt_succ_self _)]

/-- signing a signed image again only replaces the signature -/
theorem vxSigned_resign (signer' : Signer) (hs' : ∀ m, (signer' m).length = vxImgBcaOffset - vxImgSignatureOffset) :
    vxSigned co cfg signer' (vxSigned co cfg signer img)
      = putSlot (vxSigned co cfg signer img) vxImgSignatureOffset vxImgBcaOffset (signer' (dataToSign img)) := by
  obtain ⟨l, -, d, -, c, k⟩ := vxSigned_facts co cfg signer img hx hs hh hc hch
  have hd := vxSigned_dataToSign co cfg signer img hx hs hh hc hch
  generalize vxSigned co cfg signer img = e at l d c k hd
  have hsl := Nat.le_of_eq (hs' (dataToSign img))
  have b2 : vxImgBcaOffset ≤ e.length := by rw [l]; exact Nat.le_trans (by decide) hx
  have l2 := vx_putSlot_length e (signer' (dataToSign img)) vxImgSignatureOffset vxImgBcaOffset (by decide) b2 hsl
  have e1 : putSlot e vxImgDigestOffset vxImgSignatureOffset (co.hash .sha256 (dataToSign img)) = e :=
    vx_putSlot_same _ _ _ _ (by decide) (by rw [l]; exact Nat.le_trans (by decide) hx) (by rw [hh]; decide) d
  have e3 : putSlot (putSlot e vxImgSignatureOffset vxImgBcaOffset (signer' (dataToSign img))) vxImgIskOffset
      vxImgIskHashOffset cfg.cert = putSlot e vxImgSignatureOffset vxImgBcaOffset (signer' (dataToSign img)) :=
    vx_putSlot_same _ _ _ _ (by decide) (by rw [l2, l]; exact Nat.le_trans (by decide) hx) hc
      ((vx_putSlot_slice_other _ _ _ _ (by decide) b2 hsl (Or.inr (by decide))).trans c)
  unfold vxSigned
  simp only [hd, e1, e3]
  split
  · exact vx_putSlot_same _ _ _ _ (by decide) (by rw [l2, l]; exact Nat.le_trans (by decide) hx) (by rw [hch]; decide)
      ((vx_putSlot_slice_other _ _ _ _ (by decide) b2 hsl (Or.inr (by decide))).trans (k ‹_›))
  · rfl

end signed

theorem vx_export_plain (co : CryptoOps) {cfg : Cfg} (h : VxCfg .plain cfg) (signer : Signer) :
    exportImage co .plain cfg signer = .ok (vxRaw .plain cfg) := by
  unfold exportImage
  simp only [vx_collect h, bind, Except.bind, pure, Except.pure]

theorem vx_export_crc (co : CryptoOps) {cfg : Cfg} (h : VxCfg .crc cfg) (signer : Signer) :
    exportImage co .crc cfg signer = .ok (crcSignBca (vxRaw .crc cfg)) := by
  unfold exportImage
  simp only [vx_collect h, bind, Except.bind, pure, Except.pure]

theorem vx_export_signed (co : CryptoOps) {cfg : Cfg} (h : VxCfg .signed cfg) (signer : Signer)
    (hs : ∀ m, (signer m).length = vxImgBcaOffset - vxImgSignatureOffset) :
    exportImage co .signed cfg signer = .ok (vxSigned co cfg signer (vxRaw .signed cfg)) := by
  unfold exportImage
  simp only [vx_collect h, bind, Except.bind, vx_eccSignVx co cfg signer _ hs]

/-- the ranges the tool does not own -/
theorem vx_not_owned (k : Kind) (cfg : Cfg) (i : Nat) (ho : owned k cfg i = false) :
    (i + 1 ≤ vxImgFcfLifecycleOffset ∨ vxImgFcfLifecycleOffset < i ∨ cfg.lifecycle = 0xFF)
    ∧ (k = .crc → i + 1 ≤ vxImgBcaOffset + 4 ∨ vxImgBcaOffset + 16 ≤ i)
    ∧ (k = .signed → (i + 1 ≤ vxImgDigestOffset ∨ vxImgBcaOffset ≤ i)
        ∧ (i + 1 ≤ vxImgBcaImageLengthOffset ∨ vxImgBcaFwVersionOffset + 4 ≤ i)
        ∧ (i + 1 ≤ vxImgIskOffset ∨ vxImgIskHashOffset ≤ i)
        ∧ (cfg.addHash = true → i + 1 ≤ vxImgIskHashOffset ∨ vxImgWpcRootCaCertHashOffset ≤ i)) := by
  unfold owned at ho
  rw [Bool.or_eq_false_iff] at ho
  have h1 := ho.1
  simp only [Bool.and_eq_false_iff, bne_eq_false_iff_eq, beq_eq_false_iff_ne, ne_eq] at h1
  refine ⟨by omega, ?_, ?_⟩ <;> rintro rfl <;> have h2 := ho.2 <;>
    simp only [Bool.or_eq_false_iff, Bool.and_eq_false_iff, decide_eq_false_iff_not] at h2
  · omega
  · refine ⟨by omega, by omega, by omega, fun ha => ?_⟩
    rw [ha] at h2
    simp only [Bool.true_eq_false, false_or] at h2
    omega

/-- the export succeeds; outside the tool-owned ranges the image IS the (4-padded) application, of the same length
    (header-only exports: the first 0x800 bytes) -/
theorem vx_export_frame (co : CryptoOps) (k : Kind) (cfg : Cfg) (signer : Signer) (hw : cfgWF k cfg = true)
    (hs : ∀ m, (signer m).length = vxImgBcaOffset - vxImgSignatureOffset)
    (hh : ∀ m, (co.hash .sha256 m).length = vxImgDigestSize) :
    ∃ e, exportImage co k cfg signer = .ok e
      ∧ e.length = (if cfg.justHeader then vxImgDukBlockOffset else (align4 cfg.app).length)
      ∧ ∀ i, i < e.length → owned k cfg i = false → e[i]? = (align4 cfg.app)[i]? := by
  have h := vxCfg k cfg hw
  have hrl := vx_raw_length h
  cases k with
  | plain =>
    refine ⟨_, vx_export_plain co h signer, hrl, fun i hi ho => ?_⟩
    exact vx_raw_agree h hi (vx_not_owned _ _ _ ho).1 (fun hk => by cases hk) i (Nat.le_refl _) (Nat.lt_succ_self _)
  | crc =>
    obtain ⟨c1, c2, -⟩ := vx_crc_facts (vxRaw .crc cfg) (by rw [hrl, (h.hns (by decide)).2.2]; exact h.hn)
    refine ⟨_, vx_export_crc co h signer, by rw [c1, hrl], fun i hi ho => ?_⟩
    obtain ⟨o1, o2, -⟩ := vx_not_owned _ _ _ ho
    rw [c2 (o2 rfl) i (Nat.le_refl _) (Nat.lt_succ_self _)]
    exact vx_raw_agree h (c1 ▸ hi) o1 (fun hk => by cases hk) i (Nat.le_refl _) (Nat.lt_succ_self _)
  | signed =>
    obtain ⟨hc, -, hch⟩ := h.hsg rfl
    obtain ⟨s1, s2, -⟩ := vxSigned_facts co cfg signer (vxRaw .signed cfg) (vx_raw_duk h) hs hh hc hch
    refine ⟨_, vx_export_signed co h signer hs, by rw [s1, hrl], fun i hi ho => ?_⟩
    obtain ⟨o1, -, o3⟩ := vx_not_owned _ _ _ ho
    obtain ⟨o3, o4, o5, o6⟩ := o3 rfl
    rw [s2 o3 o5 o6 i (Nat.le_refl _) (Nat.lt_succ_self _)]
    exact vx_raw_agree h (s1 ▸ hi) o1 (fun _ => o4) i (Nat.le_refl _) (Nat.lt_succ_self _)

theorem vx_parse_of (k : Kind) (e : Bytes) (lc fw : Nat) (h1 : vxImgFcfLifecycleOffset < e.length) (h2 : e.length % 4 = 0)
    (h3 : (e.getD vxImgFcfLifecycleOffset 0).toNat = lc)
    (h4 : k = .signed → rd32 e vxImgBcaFwVersionOffset = fw) (h5 : k ≠ .signed → fw = 0) :
    parseImage k e = .ok ⟨e, lc, fw⟩ := by
  unfold parseImage
  rw [if_neg (by omega)]
  simp only [align4_of_aligned e h2, h3]
  cases k with
  | signed => simp only [h4 rfl]
  | plain => simp only [h5 (by decide)]
  | crc => simp only [h5 (by decide)]

/-- parse(export(x)): the application is the image itself, the life cycle is the configured one (or the byte the application
    carries when NOT_SET), the firmware version is recovered from the BCA of signed images -/
theorem vx_parse_export (co : CryptoOps) (k : Kind) (cfg : Cfg) (signer : Signer) (hw : cfgWF k cfg = true)
    (hs : ∀ m, (signer m).length = vxImgBcaOffset - vxImgSignatureOffset)
    (hh : ∀ m, (co.hash .sha256 m).length = vxImgDigestSize) :
    ∃ e, exportImage co k cfg signer = .ok e
      ∧ parseImage k e = .ok ⟨e, (if cfg.lifecycle = 0xFF then ((align4 cfg.app).getD vxImgFcfLifecycleOffset 0).toNat else cfg.lifecycle),
                               (if k = .signed then cfg.fwVersion else 0)⟩ := by
  have h := vxCfg k cfg hw
  have hrl := vx_raw_length h
  have hL : vxImgFcfLifecycleOffset < (vxRaw k cfg).length := Nat.lt_of_lt_of_le (by decide) (vx_raw_duk h)
  have hmod : (vxRaw k cfg).length % 4 = 0 := by
    rw [hrl]; split
    · decide
    · exact align4_length_mod cfg.app
  cases k with
  | plain =>
    exact ⟨_, vx_export_plain co h signer, vx_parse_of _ _ _ _ hL hmod (vx_lifecycle_of h _ rfl) (by simp) (by simp)⟩
  | crc =>
    obtain ⟨c1, c2, -⟩ := vx_crc_facts (vxRaw .crc cfg) (by rw [hrl, (h.hns (by decide)).2.2]; exact h.hn)
    exact ⟨_, vx_export_crc co h signer, vx_parse_of _ _ _ _ (c1 ▸ hL) (c1 ▸ hmod)
      (vx_lifecycle_of h _ (c2 (Or.inr (by decide)) _ (Nat.le_refl _) (Nat.lt_succ_self _))) (by simp) (by simp)⟩
  | signed =>
    obtain ⟨hc, -, hch⟩ := h.hsg rfl
    obtain ⟨s1, s2, -⟩ := vxSigned_facts co cfg signer (vxRaw .signed cfg) (vx_raw_duk h) hs hh hc hch
    refine ⟨_, vx_export_signed co h signer hs, vx_parse_of _ _ _ _ (s1 ▸ hL) (s1 ▸ hmod) (vx_lifecycle_of h _ ?_)
      (fun _ => ?_) (by simp)⟩
    · exact s2 (Or.inr (by decide)) (Or.inl (by decide)) (fun _ => Or.inl (by decide)) _ (Nat.le_refl _) (Nat.lt_succ_self _)
    · rw [if_pos rfl, vx_rd32_congr _ _ _ (s2 (Or.inr (by decide)) (Or.inl (by decide)) fun _ => Or.inl (by decide))]
      exact vx_rd32_of_slice _ _ _ (vx_raw_words h).2 h.hfw

/-- CRC images: the three BCA words describe the data part of the emitted image (start 0xC00, its length, its CRC-32/MPEG-2) -/
theorem vx_crc_describes (co : CryptoOps) (cfg : Cfg) (signer : Signer) (hw : cfgWF .crc cfg = true) :
    ∃ e, exportImage co .crc cfg signer = .ok e
      ∧ rd32 e (vxImgBcaOffset + 4) = vxImgDataStart
      ∧ rd32 e (vxImgBcaOffset + 8) = (e.drop vxImgDataStart).length
      ∧ rd32 e (vxImgBcaOffset + 12) = crc32m (e.drop vxImgDataStart) := by
  have h := vxCfg .crc cfg hw
  have hrl := vx_raw_length h
  rw [(h.hns (by decide)).2.2, if_neg (by decide)] at hrl
  obtain ⟨-, c2, c3, c4, c5⟩ := vx_crc_facts (vxRaw .crc cfg) (hrl ▸ h.hn)
  have hd : (crcSignBca (vxRaw .crc cfg)).drop vxImgDataStart = dataPart (vxRaw .crc cfg) :=
    vx_drop_congr _ _ _ fun i hi => c2 (b := i + 1) (Or.inr (Nat.le_trans (by decide) hi)) i (Nat.le_refl _) (Nat.lt_succ_self _)
  have hdl : (dataPart (vxRaw .crc cfg)).length < 2 ^ 32 := by
    have := h.hn31
    rw [dataPart, List.length_drop, hrl]
    omega
  refine ⟨_, vx_export_crc co h signer, ?_⟩
  rw [hd]
  exact ⟨vx_rd32_of_slice _ _ _ c3 (by decide), vx_rd32_of_slice _ _ _ c4 hdl, vx_rd32_of_slice _ _ _ c5 (plain_crc32m_lt _)⟩

/-- signed images (complete export): BCA image length = emitted length - data start + signed header length, firmware version
    as configured, the digest slot holds SHA-256 of, and the signature slot the signature over, exactly
    header[0:0x360] ‖ BCA[0x3C0:0x400] ‖ data[0xC00:] OF THE EMITTED IMAGE; the ISK certificate (+ hash) sits in its slot -/
theorem vx_signed_describes (co : CryptoOps) (cfg : Cfg) (signer : Signer) (hw : cfgWF .signed cfg = true)
    (hj : cfg.justHeader = false) (hs : ∀ m, (signer m).length = vxImgBcaOffset - vxImgSignatureOffset)
    (hh : ∀ m, (co.hash .sha256 m).length = vxImgDigestSize) :
    ∃ e, exportImage co .signed cfg signer = .ok e
      ∧ (rd32 e vxImgBcaImageLengthOffset : Int) = (e.length : Int) - vxImgDataStart + (vxImgDigestOffset + (vxImgFcfOffset - vxImgBcaOffset))
      ∧ rd32 e vxImgBcaFwVersionOffset = cfg.fwVersion
      ∧ slice e vxImgDigestOffset vxImgSignatureOffset = co.hash .sha256 (dataToSign e)
      ∧ slice e vxImgSignatureOffset vxImgBcaOffset = signer (dataToSign e)
      ∧ slice e vxImgIskOffset (vxImgIskOffset + cfg.cert.length) = cfg.cert
      ∧ (cfg.addHash = true → slice e vxImgIskHashOffset (vxImgIskHashOffset + vxImgIskHashSize) = cfg.certHash) := by
  have h := vxCfg .signed cfg hw
  have hn := h.hn
  have hrl := vx_raw_length h
  rw [hj, if_neg (by decide)] at hrl
  obtain ⟨hc, -, hch⟩ := h.hsg rfl
  obtain ⟨w1, w2⟩ := vx_raw_words h
  obtain ⟨s1, s2, d, g, c, k⟩ := vxSigned_facts co cfg signer (vxRaw .signed cfg) (vx_raw_duk h) hs hh hc hch
  have hd := vxSigned_dataToSign co cfg signer (vxRaw .signed cfg) (vx_raw_duk h) hs hh hc hch
  have hT : vxT (align4 cfg.app).length < 2 ^ 32 := Nat.lt_of_le_of_lt (Nat.sub_le _ _) (Nat.lt_trans h.hn31 (by decide))
  have z : ∀ l : Bytes, l ++ zeros 0 = l := List.append_nil
  rw [hh, show vxImgSignatureOffset - vxImgDigestOffset - vxImgDigestSize = 0 from rfl, z] at d
  rw [hs, Nat.sub_self, z] at g
  refine ⟨_, vx_export_signed co h signer hs, ?_, ?_, hd.symm ▸ d, hd.symm ▸ g,
    vx_slice_prefix _ _ _ _ _ c (by have : vxImgIskOffset ≤ vxImgIskHashOffset := by decide
                                    omega), fun ha => hch ▸ vx_slice_prefix _ _ _ _ _ (k ha) (by rw [hch]; decide)⟩
  · rw [vx_rd32_congr _ _ _ (s2 (Or.inr (by decide)) (Or.inl (by decide)) fun _ => Or.inl (by decide)),
      vx_rd32_of_slice _ _ _ w1 hT, s1, hrl]
    simp only [vxT, vxImgDataStart, vxImgDigestOffset, vxImgFcfOffset, vxImgBcaOffset] at hn ⊢
    omega
  · rw [vx_rd32_congr _ _ _ (s2 (Or.inr (by decide)) (Or.inl (by decide)) fun _ => Or.inl (by decide))]
    exact vx_rd32_of_slice _ _ _ w2 h.hfw

theorem vxCfg_re {k : Kind} {cfg : Cfg} (h : VxCfg k cfg) (e : Bytes) (he : align4 e = e)
    (hl : e.length = (align4 cfg.app).length) : VxCfg k { cfg with app := e } := by
  refine ⟨?_, ?_, h.hlc, h.hfw, h.hns, h.hsg⟩
  · show vxImgDataStart ≤ (align4 e).length
    rw [he, hl]; exact h.hn
  · show (align4 e).length < 2 ^ 31
    rw [he, hl]; exact h.hn31

/-- re-export of the parsed image (same settings, same certificate) reproduces the image: exactly for plain and CRC images,
    outside the signature slot for signed images (any second signature of the right length) -/
theorem vx_reexport (co : CryptoOps) (k : Kind) (cfg : Cfg) (signer signer' : Signer) (hw : cfgWF k cfg = true)
    (hj : cfg.justHeader = false)
    (hs : ∀ m, (signer m).length = vxImgBcaOffset - vxImgSignatureOffset)
    (hs' : ∀ m, (signer' m).length = vxImgBcaOffset - vxImgSignatureOffset)
    (hh : ∀ m, (co.hash .sha256 m).length = vxImgDigestSize) :
    ∃ e e', exportImage co k cfg signer = .ok e ∧ exportImage co k { cfg with app := e } signer' = .ok e'
      ∧ e'.length = e.length
      ∧ ∀ i, ¬ (k = .signed ∧ vxImgSignatureOffset ≤ i ∧ i < vxImgBcaOffset) → e'[i]? = e[i]? := by
  have h := vxCfg k cfg hw
  have hn := h.hn
  have hrl := vx_raw_length h
  rw [hj, if_neg (by decide)] at hrl
  have hL : vxImgFcfLifecycleOffset < (vxRaw k cfg).length := Nat.lt_of_lt_of_le (by decide) (vx_raw_duk h)
  have hmod : (vxRaw k cfg).length % 4 = 0 := hrl ▸ align4_length_mod cfg.app
  cases k with
  | plain =>
    have hal := align4_of_aligned _ hmod
    have e1 : vxRaw .plain { cfg with app := vxRaw .plain cfg } = vxRaw .plain cfg := by
      show vxF cfg (align4 (vxRaw .plain cfg)) = _
      rw [hal]
      exact vxF_same cfg _ hL (vx_raw_at h)
    exact ⟨_, _, vx_export_plain co h signer, vx_export_plain co (vxCfg_re h _ hal hrl) signer', by rw [e1],
      fun i _ => by rw [e1]⟩
  | crc =>
    obtain ⟨c1, c2, c3, c4, c5⟩ := vx_crc_facts (vxRaw .crc cfg) (hrl ▸ hn)
    have hal := align4_of_aligned (crcSignBca (vxRaw .crc cfg)) (c1 ▸ hmod)
    have hd : dataPart (crcSignBca (vxRaw .crc cfg)) = dataPart (vxRaw .crc cfg) :=
      vx_drop_congr _ _ _ fun i hi => c2 (b := i + 1) (Or.inr (Nat.le_trans (by decide) hi)) i (Nat.le_refl _) (Nat.lt_succ_self _)
    have e1 : vxRaw .crc { cfg with app := crcSignBca (vxRaw .crc cfg) } = crcSignBca (vxRaw .crc cfg) := by
      show vxF cfg (align4 (crcSignBca (vxRaw .crc cfg))) = _
      rw [hal]
      refine vxF_same cfg _ (c1 ▸ hL) fun hl => ?_
      rw [c2 (Or.inr (by decide)) _ (Nat.le_refl _) (Nat.lt_succ_self _)]
      exact vx_raw_at h hl
    have e2 : crcSignBca (crcSignBca (vxRaw .crc cfg)) = crcSignBca (vxRaw .crc cfg) :=
      vx_crc_same _ (by rw [c1, hrl]; exact hn) c3 (by rw [hd]; exact c4) (by rw [hd]; exact c5)
    exact ⟨_, _, vx_export_crc co h signer, vx_export_crc co (vxCfg_re h _ hal (c1.trans hrl)) signer', by rw [e1, e2],
      fun i _ => by rw [e1, e2]⟩
  | signed =>
    obtain ⟨hc, -, hch⟩ := h.hsg rfl
    obtain ⟨w1, w2⟩ := vx_raw_words h
    have hduk := vx_raw_duk h
    obtain ⟨s1, s2, -⟩ := vxSigned_facts co cfg signer (vxRaw .signed cfg) hduk hs hh hc hch
    have hal := align4_of_aligned (vxSigned co cfg signer (vxRaw .signed cfg)) (s1 ▸ hmod)
    have e1 : vxRaw .signed { cfg with app := vxSigned co cfg signer (vxRaw .signed cfg) }
        = vxSigned co cfg signer (vxRaw .signed cfg) := by
      show (if cfg.justHeader = true then
        (vxF cfg (updateBca cfg (align4 (vxSigned co cfg signer (vxRaw .signed cfg))) (vxT (align4 _).length))).take
          vxImgDukBlockOffset else vxF cfg (updateBca cfg (align4 _) (vxT (align4 _).length))) = _
      rw [hj, if_neg (by decide), hal, s1, hrl,
        vx_updateBca_same cfg _ _ (by rw [s1, hrl]; exact h.bounds.2.2.1)
          ((vx_slice_congr _ _ _ _ (s2 (Or.inr (by decide)) (Or.inl (by decide)) fun _ => Or.inl (by decide))).trans w1)
          ((vx_slice_congr _ _ _ _ (s2 (Or.inr (by decide)) (Or.inl (by decide)) fun _ => Or.inl (by decide))).trans w2)]
      refine vxF_same cfg _ (s1 ▸ hL) fun hl => ?_
      rw [s2 (Or.inr (by decide)) (Or.inl (by decide)) (fun _ => Or.inl (by decide)) _ (Nat.le_refl _) (Nat.lt_succ_self _)]
      exact vx_raw_at h hl
    have e2 := vxSigned_resign co cfg signer (vxRaw .signed cfg) hduk hs hh hc hch signer' hs'
    have hb : vxImgBcaOffset ≤ (vxSigned co cfg signer (vxRaw .signed cfg)).length := by
      rw [s1]; exact Nat.le_trans (by decide) hduk
    refine ⟨_, _, vx_export_signed co h signer hs, vx_export_signed co (vxCfg_re h _ hal (s1.trans hrl)) signer' hs', ?_,
      fun i hi => ?_⟩
    · rw [e1, vxSigned_app, e2, vx_putSlot_length _ _ _ _ (by decide) hb (Nat.le_of_eq (hs' _))]
    · rw [e1, vxSigned_app, e2]
      exact vx_putSlot_agree _ _ _ _ (by decide) hb (Nat.le_of_eq (hs' _)) (a' := i) (b' := i + 1)
        (by have : ¬ (vxImgSignatureOffset ≤ i ∧ i < vxImgBcaOffset) := fun hh => hi ⟨rfl, hh⟩
            omega) i
        (Nat.le_refl _) (Nat.lt_succ_self _)

end SpsdkVerif.Mbi.Vx
