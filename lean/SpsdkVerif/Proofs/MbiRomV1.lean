/-
C02 for the cert-block-v1 (RSA) family: the signature covers exactly the bytes that precede it (with HMAC / key store taken
out), the certificate block announces that length, the HMAC covers the first 64 bytes under the derived key, and the
independent ROM model (Spec/MbiRom.lean) accepts what the model exports - given what its walk over the (opaque)
certificate block answers.
-/
import SpsdkVerif.Proofs.MbiRomRsa
import SpsdkVerif.Proofs.MbiSignedV1

namespace SpsdkVerif.Mbi
open SpsdkVerif SpsdkVerif.Misc SpsdkVerif.Crypto
open SpsdkVerif.Generated.IvtConsts

variable {co : CryptoOps} {env : Env} {c : Cls} {cfg : Cfg} {signer : Signer}

/-- the image without the HMAC / key store block inserted at offset 64 -/
def bodyOf (c : Cls) (cfg : Cfg) (e : Bytes) : Bytes :=
  if c.has .Mbi_MixinHmac then e.take hmacOffset ++ e.drop (hmacOffset + hmacSize + (cfg.keyStore.getD []).length) else e

namespace RomV1
open SignedV1

theorem spec_rd32 (b : Bytes) (off : Nat) : Spec.MbiRom.rd32 b off = rd32 b off := rfl

/-- everything behind the inserted block -/
def restOf (c : Cls) (cfg : Cfg) (sig : Bytes) : Bytes :=
  (ivtApp c cfg).drop hmacOffset ++ relocBlk cfg ++ certInImage c cfg ++ cfg.tz.bytes ++ sig

theorem img_parts (co : CryptoOps) (c : Cls) (cfg : Cfg) (sig : Bytes) :
    imgOf co c cfg sig = (ivtApp c cfg).take hmacOffset ++ insOf co c cfg ++ restOf c cfg sig := rfl

theorem head_rest (c : Cls) (cfg : Cfg) (sig : Bytes) :
    (ivtApp c cfg).take hmacOffset ++ restOf c cfg sig = rawOf c cfg ++ sig := by
  simp only [restOf, rawOf, List.append_assoc]
  rw [← List.append_assoc, List.take_append_drop]

theorem head_length (k : ClsF c) (g : CfgF c cfg) (hH : c.has .Mbi_MixinHmac = true) :
    ((ivtApp c cfg).take hmacOffset).length = hmacOffset := by
  have := g.hAppH hH
  rw [List.length_take, ivtApp_length k g]; omega

theorem shift_hmac (hH : c.has .Mbi_MixinHmac = true) : shift c cfg = hmacSize + (cfg.keyStore.getD []).length := by
  rw [shift, hH]; rfl

theorem img_take (k : ClsF c) (g : CfgF c cfg) (sig : Bytes) (hH : c.has .Mbi_MixinHmac = true) :
    (imgOf co c cfg sig).take hmacOffset = (ivtApp c cfg).take hmacOffset := by
  rw [img_parts, List.append_assoc]
  exact List.take_left' (head_length k g hH)

theorem img_drop_ins (hl : CryptoLaws co) (k : ClsF c) (g : CfgF c cfg) (sig : Bytes) (hH : c.has .Mbi_MixinHmac = true) :
    (imgOf co c cfg sig).drop (hmacOffset + hmacSize + (cfg.keyStore.getD []).length) = restOf c cfg sig := by
  rw [img_parts]
  apply List.drop_left'
  rw [List.length_append, head_length k g hH, insOf_length hl g, shift_hmac hH]; omega

theorem body_eq (hl : CryptoLaws co) (k : ClsF c) (g : CfgF c cfg) (sig : Bytes) :
    Mbi.bodyOf c cfg (imgOf co c cfg sig) = rawOf c cfg ++ sig := by
  unfold Mbi.bodyOf
  cases hH : c.has .Mbi_MixinHmac with
  | false =>
    simp only [Bool.false_eq_true, if_false, img_parts, insOf, hH, List.append_nil]
    exact head_rest c cfg sig
  | true =>
    simp only [if_true, img_take k g sig hH, img_drop_ins hl k g sig hH]
    exact head_rest c cfg sig

theorem raw_length (k : ClsF c) (g : CfgF c cfg) : (rawOf c cfg).length = (totalLenForCertBlock c cfg).toNat := by
  rw [legacyLen_nat cfg k, Int.toNat_natCast]
  simp only [rawOf, List.length_append, certInImage_length k g, appLen_blocks k g]

theorem il_bound (k : ClsF c) (g : CfgF c cfg) : (totalLenForCertBlock c cfg).toNat < 2 ^ 32 := by
  have := total_bound k g
  rw [totalLen_nat k g] at this
  rw [legacyLen_nat cfg k]
  omega

theorem raw_cert (k : ClsF c) (g : CfgF c cfg) (sig : Bytes) :
    slice (rawOf c cfg ++ sig) (appLen c cfg) (appLen c cfg + cfg.cert.length) = certInImage c cfg := by
  have e : rawOf c cfg ++ sig = (ivtApp c cfg ++ relocBlk cfg) ++ certInImage c cfg ++ (cfg.tz.bytes ++ sig) := by
    simp only [rawOf, List.append_assoc]
  rw [e, appLen_blocks k g, ← List.length_append, ← certInImage_length k g]
  exact slice_append_mid _ _ _

theorem cert_il (k : ClsF c) (g : CfgF c cfg) :
    rd32 (certInImage c cfg) certImageLengthOffset = (totalLenForCertBlock c cfg).toNat := by
  have h := g.hCertLen
  rw [certInImage_eq cfg k]
  exact rd32_certSetImageLength _ _ (by simp only [certHeaderSize, certImageLengthOffset] at *; omega) (il_bound k g)

theorem derivation_const : Spec.MbiRom.hmacKeyDerivation = deriveHmacKeyConst := by decide

/-- the HMAC of the header as the ROM computes it -/
def romMac (co : CryptoOps) (c : Cls) (cfg : Cfg) (key : Bytes) : Bytes :=
  hmac co .sha256 (ecbEnc co key Spec.MbiRom.hmacKeyDerivation) ((ivtApp c cfg).take hmacOffset)

theorem hmacKey_some (g : CfgF c cfg) (hH : c.has .Mbi_MixinHmac = true) :
    ∃ key, cfg.hmacKey = some key ∧ key.length = hmacKeyLength := by
  cases hk : cfg.hmacKey with
  | none => have := g.hHkN hk; rw [hH] at this; cases this
  | some key => exact ⟨key, rfl, (g.hHk key hk).1⟩

theorem ins_eq (co : CryptoOps) (hH : c.has .Mbi_MixinHmac = true) (key : Bytes) (hk : cfg.hmacKey = some key) :
    insOf co c cfg = romMac co c cfg key ++ cfg.keyStore.getD [] := by
  simp only [insOf, hH, if_true, computeHmac, hk, deriveHmacKey, romMac, derivation_const]

theorem romMac_length (hl : CryptoLaws co) (key : Bytes) : (romMac co c cfg key).length = hmacSize := by
  rw [romMac, hmac_length hl]; rfl

theorem img_mac (hl : CryptoLaws co) (k : ClsF c) (g : CfgF c cfg) (sig : Bytes) (hH : c.has .Mbi_MixinHmac = true)
    (key : Bytes) (hk : cfg.hmacKey = some key) :
    slice (imgOf co c cfg sig) hmacOffset (hmacOffset + hmacSize) = romMac co c cfg key := by
  have e : imgOf co c cfg sig = (ivtApp c cfg).take hmacOffset ++ romMac co c cfg key
      ++ (cfg.keyStore.getD [] ++ restOf c cfg sig) := by
    rw [img_parts, ins_eq co hH key hk]; simp only [List.append_assoc]
  rw [e]
  have := slice_append_mid ((ivtApp c cfg).take hmacOffset) (romMac co c cfg key) (cfg.keyStore.getD [] ++ restOf c cfg sig)
  rwa [head_length k g hH, romMac_length hl] at this

theorem img_keyStore (hl : CryptoLaws co) (k : ClsF c) (g : CfgF c cfg) (sig : Bytes) (hH : c.has .Mbi_MixinHmac = true)
    (key : Bytes) (hk : cfg.hmacKey = some key) :
    slice (imgOf co c cfg sig) (hmacOffset + hmacSize) (hmacOffset + hmacSize + (cfg.keyStore.getD []).length)
      = cfg.keyStore.getD [] := by
  have e : imgOf co c cfg sig = ((ivtApp c cfg).take hmacOffset ++ romMac co c cfg key)
      ++ cfg.keyStore.getD [] ++ restOf c cfg sig := by
    rw [img_parts, ins_eq co hH key hk]; simp only [List.append_assoc]
  rw [e]
  have := slice_append_mid ((ivtApp c cfg).take hmacOffset ++ romMac co c cfg key) (cfg.keyStore.getD [])
    (restOf c cfg sig)
  rwa [List.length_append, head_length k g hH, romMac_length hl] at this

theorem appLen_ge (k : ClsF c) (g : CfgF c cfg) : minIvtSize ≤ appLen c cfg := by
  have := app_ge k g.hval
  rw [appLen_eq cfg k]; omega

theorem appLen_mod4 (k : ClsF c) (cfg : Cfg) : appLen c cfg % 4 = 0 := by
  have h1 : (appData cfg).length % 4 = 0 := align4_length_mod _
  have h2 := relocLen_mod4 c cfg
  rw [appLen_eq cfg k]
  split <;> omega

theorem body_word (k : ClsF c) (g : CfgF c cfg) (sig : Bytes) :
    Spec.MbiRom.rd32 (rawOf c cfg ++ sig) Spec.MbiRom.offCrcOrCert = appLen c cfg := by
  have hge := app_ge k g.hval
  simp only [minIvtSize] at hge
  refine (rd32_append_left _ _ _ (by
    simp only [rawOf, List.length_append, ivtApp_length k g, Spec.MbiRom.offCrcOrCert]; omega)).trans ?_
  exact (rawOf_word k g _ (by decide)).trans (ivtApp_words k g).2.2.1

/-- the signed range with the certificate block in it -/
theorem raw_signedPrefix (k : ClsF c) (g : CfgF c cfg) : SignedPrefix cfg.cert (rawOf c cfg) (appLen c cfg) := by
  have hl := raw_length k g
  have hc := raw_cert k g []
  rw [List.append_nil, certInImage_eq cfg k, ← hl] at hc
  refine ⟨hc, ?_, ?_, by rw [hl]; exact il_bound k g⟩
  · rw [hl, legacyLen_nat cfg k, Int.toNat_natCast]; omega
  · rw [hl, ← certInImage_eq cfg k]; exact certInImage_length k g

/-- the exported image carries its IVT -/
theorem img_builtIvt (hl : CryptoLaws co) (k : ClsF c) (g : CfgF c cfg) (sig : Bytes) (hs : sig.length = cfg.sigLen) :
    BuiltIvt c cfg (imgOf co c cfg sig) := by
  refine ⟨?_, img_flags co k g sig, ?_⟩
  · have h1 : 56 ≤ appLen c cfg := appLen_ge k g
    rw [imgOf_length hl k g]; exact Nat.le_trans h1 (by omega)
  · exact (imgOf_head co k g _ _ (by decide)).trans
      ((ivtApp_words k g).1.trans (by rw [imgOf_length_total hl k g sig hs]))

/-- with HMAC: the image is the body with HMAC and key store inserted at offset 64 -/
theorem img_hmacImage (hl : CryptoLaws co) (k : ClsF c) (g : CfgF c cfg) (sig : Bytes) (hH : c.has .Mbi_MixinHmac = true)
    (key : Bytes) (hk : cfg.hmacKey = some key) :
    HmacImage co key (imgOf co c cfg sig) (rawOf c cfg ++ sig) (hmacSize + (cfg.keyStore.getD []).length) := by
  refine ⟨(g.hHk key hk).1, ?_, ?_, ?_, ?_⟩
  · have h2 : (appData cfg).length ≥ 64 := g.hAppH hH
    have h3 := imgOf_length hl k g sig
    rw [appLen_eq cfg k, shift_hmac hH] at h3
    rw [h3]; simp only [Spec.MbiRom.hmacOffset]; omega
  · unfold stripOf
    rw [show Spec.MbiRom.rd32 _ Spec.MbiRom.offFlags = flagsOf c cfg from img_flags co k g sig, rom_ks,
      (flags_get k g).2.2.2.1]
    have := ksLen_eq g
    unfold ksLen at this
    rw [this]; rfl
  · rw [show (imgOf co c cfg sig).take Spec.MbiRom.hmacOffset = _ from img_take k g sig hH]
    exact img_mac hl k g sig hH key hk
  · rw [← Nat.add_assoc]
    exact (body_eq hl k g sig).symm.trans (by unfold Mbi.bodyOf; rw [if_pos hH]; rfl) |>.symm

/-- the dispatch of `romCheck` for the class -/
theorem romByType_img (k : ClsF c) (hf : c.family = some .signedV1) (ht : signedTypeOk c = true) (rkth : Bytes)
    (uk : Option Bytes) (img : Bytes) :
    romByType co (romEnvOf c rkth uk) img c.imageType
      = (if c.has .Mbi_MixinHmac then
          Spec.MbiRom.romHmac co (romEnvOf c rkth uk) img >>= fun v => Spec.MbiRom.romSignedV1 co (romEnvOf c rkth uk) v.1 v.2.1
         else Spec.MbiRom.romSignedV1 co (romEnvOf c rkth uk) img 0) := by
  have hT := signedTypeOk_cases ht (.inl k.sk)
  rw [hf, if_neg (by decide)] at hT
  exact romByType_v1 hT (by simp [romEnvOf, k.hV1])

/-- `SignedPrefix.forgery` for the body of the exported image -/
theorem body_forgery (k : ClsF c) (g : CfgF c cfg) {renv : Spec.MbiRom.RomEnv} {certs : List (Nat × Nat)}
    {table : List Bytes} (hrom : RomCertV1OK co renv cfg.cert certs table)
    (alg : SigAlg) (sk : PrivKey) (r : Rand) (certPub : Bytes → PubKey)
    (hpub : ∀ last, certs.getLast? = some last → certPub (slice (certInImage c cfg) last.1 (last.1 + last.2)) = co.pubOf sk)
    {j : Nat} {y : UInt8} (hj : j < appLen c cfg) (hlw : j < 0x28 ∨ 0x2C ≤ j)
    (hne : (rawOf c cfg ++ co.sign alg sk (rawOf c cfg) r)[j]? ≠ some y) {a : Spec.MbiRom.Accepted}
    (hacc : RsaObligations co renv ((rawOf c cfg ++ co.sign alg sk (rawOf c cfg) r).set j y) a)
    (hob : ∀ ob ∈ a.obligations,
      holdsRsa co alg certPub ((rawOf c cfg ++ co.sign alg sk (rawOf c cfg) r).set j y) ob) : Break co := by
  have P := raw_signedPrefix k g
  refine P.forgery hrom alg sk r certPub (body_word k g _)
    (fun last hl => by rw [raw_length k g, ← certInImage_eq cfg k]; exact hpub last hl) hj hlw ?_ hacc hob
  rwa [List.getElem?_append_left (Nat.lt_of_lt_of_le hj (Nat.le_trans (Nat.le_add_right _ _) P.inside))] at hne

end RomV1

/-- the ROM accepts the exported image; what is left to the environment is the X.509 chain of the block and the RSA
    verification, by the last certificate, of the signature over the announced (= signed) prefix -/
theorem rom_accepts_signedV1 (h : Hyp co env c cfg signer) (hf : c.family = some .signedV1) (ht : signedTypeOk c = true)
    (rkth : Bytes) (certs : List (Nat × Nat)) (table : List Bytes)
    (hrom : RomCertV1OK co (romEnvOf c rkth cfg.hmacKey) cfg.cert certs table) :
    ∃ e a last, exportImage co c cfg signer = .ok e
      ∧ Spec.MbiRom.romCheck co (romEnvOf c rkth cfg.hmacKey) e = .ok a
      ∧ (certs.map (fun p => (appLen c cfg + p.1, p.2))).getLast? = some last
      ∧ a.obligations = [.x509Chain (certs.map (fun p => (appLen c cfg + p.1, p.2))) table,
                         .rsaByCert last (totalLenForCertBlock c cfg).toNat]
      ∧ a.stripped = (if c.has .Mbi_MixinHmac then hmacSize + (cfg.keyStore.getD []).length else 0) := by
  have k := SignedV1.clsF h.hcls hf
  have g := SignedV1.cfgF k h.hcfg
  have hs := h.hsig (SignedV1.rawOf c cfg)
  obtain ⟨p, a, hp, hok, hst, hob⟩ := (RomV1.raw_signedPrefix k g).romSignedV1 hrom (RomV1.body_word k g _)
    (RomV1.appLen_ge k g) (RomV1.appLen_mod4 k cfg) (by rw [hs]; exact g.hSigLen)
    (if c.has .Mbi_MixinHmac then hmacSize + (cfg.keyStore.getD []).length else 0)
  rw [RomV1.raw_length k g] at hob
  refine ⟨_, a, _, SignedV1.export_eq signer k g, ?_, by rw [List.getLast?_map, hp]; rfl, hob, hst⟩
  rw [romCheck_built h (RomV1.img_builtIvt h.hlaws k g _ hs), RomV1.romByType_img k hf ht]
  have hb := RomV1.body_eq h.hlaws k g (signer (SignedV1.rawOf c cfg))
  cases hH : c.has .Mbi_MixinHmac with
  | true =>
    obtain ⟨key, hk, _⟩ := RomV1.hmacKey_some g hH
    rw [hH, if_pos rfl] at hok
    rw [if_pos rfl, (RomV1.img_hmacImage h.hlaws k g _ hH key hk).romHmac hk, ok_bind]
    exact hok
  | false =>
    unfold Mbi.bodyOf at hb
    rw [hH, if_neg Bool.false_ne_true] at hb hok
    rw [if_neg Bool.false_ne_true, hb]
    exact hok

end SpsdkVerif.Mbi
