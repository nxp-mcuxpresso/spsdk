/- C07: the re-sign loop, and which bytes `build` signs and encrypts. -/
import SpsdkVerif.Proofs.HabLayout
import SpsdkVerif.Proofs.Crypto

namespace SpsdkVerif.Hab
open SpsdkVerif SpsdkVerif.Misc SpsdkVerif.Generated
open SpsdkVerif.Crypto (CryptoOps CryptoLaws ccmEnc ccmDec ccm_inv ccmEnc_length)

theorem getAut_mapAut (f : CsfCmd → CsfCmd) (hf : ∀ c, isAut (f c).cmd = isAut c.cmd) (n m : Nat) (l : List CsfCmd) :
    getAut m (mapAut f n l) = if m = n then (getAut n l).map f else getAut m l := by
  induction l generalizing n m with
  | nil => simp [mapAut, getAut]
  | cons c r ih =>
    by_cases hc : isAut c.cmd = true
    · cases n <;> cases m <;> simp [mapAut, getAut, hc, hf, ih]
    · simp [mapAut, getAut, hc, ih]

theorem getAut_mapAut_same (f : CsfCmd → CsfCmd) (hf : ∀ c, isAut (f c).cmd = isAut c.cmd) (n : Nat) (l : List CsfCmd) :
    getAut n (mapAut f n l) = (getAut n l).map f := by rw [getAut_mapAut f hf, if_pos rfl]

theorem getAut_mapAut_ne (f : CsfCmd → CsfCmd) (hf : ∀ c, isAut (f c).cmd = isAut c.cmd) (n m : Nat) (h : n ≠ m)
    (l : List CsfCmd) : getAut m (mapAut f n l) = getAut m l := by rw [getAut_mapAut f hf, if_neg (Ne.symm h)]

theorem isAut_addBlocks (c : Cmd) (bl : List (Nat × Nat)) : isAut (c.addBlocks bl) = isAut c := by
  cases c <;> rfl

theorem getAut_isAut (n : Nat) (l : List CsfCmd) (c : CsfCmd) (h : getAut n l = some c) : isAut c.cmd = true := by
  induction l generalizing n with
  | nil => simp [getAut] at h
  | cons x r ih =>
    by_cases hx : isAut x.cmd = true
    · cases n with
      | zero => simp [getAut, hx] at h; subst h; exact hx
      | succ n => simp [getAut, hx] at h; exact ih n h
    · simp [getAut, hx] at h; exact ih n h

theorem getAut0_resign (s : Signer) (v i : Nat) (l : List CsfCmd) :
    getAut 0 (resign s v i l) =
      (getAut 0 l).map (fun c => { c with data := some (sigBlob v (s.csf i (csfBase v l))) }) := by
  unfold resign
  exact getAut_mapAut_same (fun c => { c with data := some (sigBlob v (s.csf i (csfBase v l))) }) (fun _ => rfl) 0 l

theorem getAut_resign_ne (s : Signer) (v i m : Nat) (hm : m ≠ 0) (l : List CsfCmd) :
    getAut m (resign s v i l) = getAut m l := by
  unfold resign
  exact getAut_mapAut_ne (fun c => { c with data := some (sigBlob v (s.csf i (csfBase v l))) }) (fun _ => rfl) 0 m (by omega) l

theorem sigBlob_length (v : Nat) (cms : Bytes) : (sigBlob v cms).length = 4 + cms.length := by
  simp [sigBlob]

/-- replacing the data block of the first Authenticate Data command by one of the same aligned size does not move
    anything: header + commands stay byte-identical -/
theorem encCmds_setData_stable (blob : Bytes) (l : List CsfCmd) (c0 : CsfCmd) (d0 : Bytes)
    (h0 : getAut 0 l = some c0) (hd : c0.data = some d0) (hs : alignUp d0.length 4 = alignUp blob.length 4) (cur : Nat) :
    encCmds (assignLocs cur (mapAut (fun c => { c with data := some blob }) 0 l)) = encCmds (assignLocs cur l) ∧
    cmdsSize (mapAut (fun c => { c with data := some blob }) 0 l) = cmdsSize l := by
  induction l generalizing cur with
  | nil => cases h0
  | cons c r ih =>
    by_cases hc : isAut c.cmd = true
    · obtain rfl : c = c0 := by simpa [getAut, hc] using h0
      have hr : needsRef c.cmd = true := by cases hcc : c.cmd <;> simp_all [isAut, needsRef]
      simp [mapAut, hc, assignLocs_cons, encCmds, cmdsSize, reloc, dataOf, hr, hd, padAlign_length, hs]
    · have h0' : getAut 0 r = some c0 := by simpa [getAut, hc] using h0
      simp [mapAut, hc, assignLocs_cons, encCmds, cmdsSize, fun cur => (ih h0' cur).1, (ih h0' 0).2]

theorem csfBase_resign_stable (s : Signer) (v i : Nat) (l : List CsfCmd) (h0 : (getAut 0 l).isSome)
    (hst : autSize (resign s v i l) = autSize l) : csfBase v (resign s v i l) = csfBase v l := by
  obtain ⟨c0, hc0⟩ := Option.isSome_iff_exists.1 h0
  have hnew : autSize (resign s v i l) = alignUp (sigBlob v (s.csf i (csfBase v l))).length 4 := by
    simp [autSize, getAut0_resign, hc0]
  have hold : autSize l = alignUp (c0.data.getD []).length 4 := by simp [autSize, hc0]
  have hpos : 0 < alignUp (sigBlob v (s.csf i (csfBase v l))).length 4 := by
    have := alignUp_ge (sigBlob v (s.csf i (csfBase v l))).length 4 (by decide)
    have := sigBlob_length v (s.csf i (csfBase v l))
    omega
  cases hd : c0.data with
  | none =>
    rw [hd] at hold
    have : autSize l = 0 := by rw [hold]; rfl
    omega
  | some d0 =>
    rw [hd] at hold
    have hs : alignUp d0.length 4 = alignUp (sigBlob v (s.csf i (csfBase v l))).length 4 := by
      simp only [Option.getD_some] at hold; omega
    have := encCmds_setData_stable (sigBlob v (s.csf i (csfBase v l))) l c0 d0 hc0 hd hs
    unfold csfBase csfHdrLen resign
    rw [(this 0).2, (this (4 + cmdsSize l)).1]

theorem signLoop_terminates (s : Signer) (version fuel i : Nat) (cmds : List CsfCmd)
    (h0 : (getAut 0 cmds).isSome) (k : Nat) (hk : k < fuel)
    (hst : autSize (signIter s version (k + 1) i cmds) = autSize (signIter s version k i cmds)) :
    (signLoop s version fuel i cmds).isSome := by
  induction fuel generalizing i cmds k with
  | zero => omega
  | succ fuel ih =>
    unfold signLoop
    have hn : (getAut 0 cmds).isNone = false := by
      cases hg : getAut 0 cmds <;> simp_all
    simp only [hn, Bool.false_eq_true, ↓reduceIte]
    by_cases hs : autSize (resign s version i cmds) = autSize cmds
    · simp [hs]
    · simp only [hs, ↓reduceIte]
      cases k with
      | zero => exact absurd hst hs
      | succ k =>
        apply ih (i + 1) (resign s version i cmds) _ k (by omega)
        · exact hst
        · rw [getAut0_resign]
          cases hg : getAut 0 cmds <;> simp_all

theorem signIter_succ (s : Signer) (v k i : Nat) (l : List CsfCmd) :
    signIter s v (k + 1) i l = resign s v (i + k) (signIter s v k i l) := by
  induction k generalizing i l with
  | zero => rfl
  | succ k ih => rw [signIter, ih, show i + 1 + k = i + (k + 1) by omega]; rfl

/-- what the loop returns is an iterate of the re-sign step whose last step kept the aligned size -/
theorem signLoop_some (s : Signer) (v fuel i : Nat) (l l' : List CsfCmd) (n : Nat)
    (h : signLoop s v fuel i l = some (l', n)) :
    ∃ k, n = i + k + 1 ∧ l' = signIter s v (k + 1) i l ∧ (getAut 0 (signIter s v k i l)).isSome ∧
      autSize (signIter s v (k + 1) i l) = autSize (signIter s v k i l) := by
  induction fuel generalizing i l with
  | zero => cases h
  | succ fuel ih =>
    unfold signLoop at h
    split at h
    · cases h
    · next hn =>
      split at h
      · next hs =>
        injection h with h; injection h with h1 h2
        exact ⟨0, h2.symm, h1.symm, by rw [signIter]; cases hg : getAut 0 l <;> simp_all, hs⟩
      · obtain ⟨k, h1, h2, h3, h4⟩ := ih (i + 1) (resign s v i l) h
        exact ⟨k + 1, by omega, h2, h3, h4⟩

theorem signLoop_result (s : Signer) (version fuel i : Nat) (cmds cmds' : List CsfCmd) (n : Nat)
    (h : signLoop s version fuel i cmds = some (cmds', n)) :
    0 < n ∧ ∃ cmd, getAut 0 cmds' = some cmd ∧
      cmd.data = some (sigBlob version (s.csf (n - 1) (csfBase version cmds'))) := by
  obtain ⟨k, rfl, rfl, h0, hst⟩ := signLoop_some s version fuel i cmds cmds' n h
  rw [signIter_succ] at hst ⊢
  obtain ⟨c0, hc0⟩ := Option.isSome_iff_exists.1 h0
  refine ⟨by omega, _, by rw [getAut0_resign, hc0]; rfl, ?_⟩
  rw [csfBase_resign_stable s version _ _ h0 hst]
  rfl

theorem mapAut_set_set (b1 b2 : Bytes) (l : List CsfCmd) :
    mapAut (fun c => { c with data := some b2 }) 0 (mapAut (fun c => { c with data := some b1 }) 0 l) =
      mapAut (fun c => { c with data := some b2 }) 0 l := by
  induction l with
  | nil => rfl
  | cons a r ih =>
    by_cases ha : isAut a.cmd = true
    · simp [mapAut, ha]
    · simp [mapAut, ha, ih]

/-- the loop only replaces the data block of the first Authenticate Data command, by a signature block -/
theorem signLoop_shape (s : Signer) (v fuel i : Nat) (l l' : List CsfCmd) (n : Nat)
    (h : signLoop s v fuel i l = some (l', n)) :
    ∃ x, l' = mapAut (fun c => { c with data := some (sigBlob v x) }) 0 l := by
  obtain ⟨k, -, rfl, -, -⟩ := signLoop_some s v fuel i l l' n h
  clear h
  induction k generalizing i l with
  | zero => exact ⟨_, rfl⟩
  | succ k ih =>
    obtain ⟨x, hx⟩ := ih (i + 1) (resign s v i l)
    exact ⟨x, by rw [signIter, hx]; exact mapAut_set_set _ _ _⟩

theorem signLoop_getAut_ne (s : Signer) (version fuel i : Nat) (cmds cmds' : List CsfCmd) (n m : Nat) (hm : m ≠ 0)
    (h : signLoop s version fuel i cmds = some (cmds', n)) : getAut m cmds' = getAut m cmds := by
  obtain ⟨x, rfl⟩ := signLoop_shape s version fuel i cmds cmds' n h
  exact getAut_mapAut_ne (fun c => { c with data := some (sigBlob version x) }) (fun _ => rfl) 0 m (by omega) cmds

/-- inversion of `build` for a container with a CSF -/
theorem build_inv (cr : CryptoOps) (s : Signer) (fuel : Nat) (c : Cfg) (b : Built)
    (hb : build cr s fuel c = some b) (hc : c.hasCsf = true) (ha : isAuth c.flags = true) :
    (isEnc c.flags = true → (getAut 2 c.cmds).isSome) ∧
    b.app = (if isEnc c.flags then encCt cr c else c.appBin) ∧
    b.msgData = signedMsg c ∧ b.msgCsf = csfBase c.version b.cmds ∧
    (getAut 1 (if isEnc c.flags then cmdsEnc cr c else c.cmds)).isSome ∧
    signLoop s c.version fuel 0 (cmdsSigned s c (if isEnc c.flags then cmdsEnc cr c else c.cmds)) = some (b.cmds, b.attempts) := by
  unfold build at hb
  simp only [hc, Bool.not_true, Bool.false_eq_true, ↓reduceIte, ha] at hb
  by_cases h2 : (isEnc c.flags && (getAut 2 c.cmds).isNone) = true
  · simp [h2] at hb
  · simp only [h2, Bool.false_eq_true, ↓reduceIte] at hb
    by_cases h1 : (getAut 1 (if isEnc c.flags = true then cmdsEnc cr c else c.cmds)).isNone = true
    · simp [h1] at hb
    · simp only [h1, Bool.false_eq_true, ↓reduceIte] at hb
      split at hb
      · cases hb
      · rename_i cmds3 n hl
        simp only [Option.some.injEq] at hb
        subst hb
        refine ⟨?_, rfl, rfl, rfl, ?_, hl⟩
        · intro he
          cases hg : getAut 2 c.cmds <;> simp_all
        · cases hg : getAut 1 (if isEnc c.flags = true then cmdsEnc cr c else c.cmds) <;> simp_all

theorem auth_csf_lemma (cr : CryptoOps) (s : Signer) (fuel : Nat) (c : Cfg) (b : Built)
    (hb : build cr s fuel c = some b) (hc : c.hasCsf = true) (ha : isAuth c.flags = true) :
    b.msgCsf = csfBase c.version b.cmds ∧
    (csfBytes c.version b.cmds).take (csfHdrLen b.cmds) = b.msgCsf ∧
    0 < b.attempts ∧
    ∃ cmd, getAut 0 b.cmds = some cmd ∧ cmd.data = some (sigBlob c.version (s.csf (b.attempts - 1) b.msgCsf)) := by
  obtain ⟨_, _, _, hm, _, hl⟩ := build_inv cr s fuel c b hb hc ha
  obtain ⟨hp, cmd, hg, hd⟩ := signLoop_result s c.version fuel 0 _ b.cmds b.attempts hl
  refine ⟨hm, ?_, hp, cmd, hg, by rw [hm]; exact hd⟩
  rw [hm]
  unfold csfBytes padAlign
  rw [List.append_assoc]
  exact take_append_len _ _ _ (csfBase_length c.version b.cmds).symm

theorem blocksData_congr (a b : Bytes) (bl : List Block)
    (h : ∀ x ∈ bl, slice a x.start x.size = slice b x.start x.size) : blocksData a bl = blocksData b bl := by
  induction bl with
  | nil => rfl
  | cons x r ih =>
    simp only [blocksData]
    rw [h x (by simp), ih (fun y hy => h y (by simp [hy]))]

theorem padded_slice (c : Cfg) (app : Bytes) (csf : Option Bytes) (o n : Nat) :
    slice (imagePadded c app csf) (c.ivtOff + o) n = slice (image c app csf) o n := by
  unfold imagePadded
  rw [slice_append_right _ _ _ _ (by simp)]
  simp

theorem img0_slice (c : Cfg) (o n : Nat) (h : o + n ≤ c.csfOff) :
    slice (img0 c) (c.ivtOff + o) n = slice (image c c.appBin (some (csfBytes c.version c.cmds))) o n := by
  unfold img0
  rw [signedPrefixN_eq, slice_take _ _ _ _ (by omega), padded_slice]

theorem encPlain_eq (c : Cfg) (h : c.WF) : encPlain c = c.appBin := by
  unfold encPlain Cfg.encryptedBlocks
  simp only [blocksData, mkBlock_eq, List.append_nil]
  rw [img0_slice c c.appOff c.appBin.length (app_before_csf c h)]
  exact image_app c h c.appBin _

section enc
variable (cr : CryptoOps) (hl : CryptoLaws cr) (c : Cfg) (h : c.WF) (hm : macLenOk c.macLen = true)
include hl h hm

theorem encOut_length : (encOut cr c).length = c.appBin.length + c.macLen := by
  unfold encOut
  rw [ccmEnc_length hl _ _ _ _ _ ((macLenOk_iff c.macLen).1 hm).2.1, encPlain_eq c h]

theorem encCt_length : (encCt cr c).length = c.appBin.length := by
  unfold encCt; rw [List.length_take, encOut_length cr hl c h hm, encPlain_eq c h]; omega

theorem encMac_length : (encMac cr c).length = c.macLen := by
  unfold encMac; rw [List.length_drop, encOut_length cr hl c h hm, encPlain_eq c h]; omega

end enc

theorem build_app_length (cr : CryptoOps) (sg : Signer) (fuel : Nat) (c : Cfg) (b : Built)
    (h : c.WF) (hb : build cr sg fuel c = some b) (ha : c.flags ≠ 0)
    (henc : isEnc c.flags = true → CryptoLaws cr ∧ macLenOk c.macLen = true) :
    b.app.length = c.appBin.length := by
  obtain ⟨_, happ, _⟩ := build_inv cr sg fuel c b hb (hasCsf_of_ne c h ha) (isAuth_of_ne c h ha)
  rw [happ]
  split
  · next he => exact encCt_length cr (henc he).1 c h (henc he).2
  · rfl

theorem auth_data_lemma (cr : CryptoOps) (s : Signer) (fuel : Nat) (c : Cfg) (b : Built) (h : c.WF)
    (hb : build cr s fuel c = some b) (ha : c.flags ≠ 0) :
    b.msgData = blocksData (imagePadded c b.app (some (csfBytes c.version b.cmds))) c.signedBlocks ∧
    ∃ c0, getAut 1 c.cmds = some c0 ∧
      getAut 1 b.cmds = some { cmd := c0.cmd.addBlocks (blockPairs c.signedBlocks),
                               data := some (sigBlob c.version (s.data b.msgData)) } := by
  obtain ⟨_, happ, hmd, _, h1, hl⟩ := build_inv cr s fuel c b hb (hasCsf_of_ne c h ha) (isAuth_of_ne c h ha)
  have hbefore := app_before_csf c h
  have hfit := blk_fits c h
  constructor
  · -- the message: every signed block lies in front of the application, or is the unencrypted application
    rw [hmd]
    apply blocksData_congr
    intro x hx
    have key : ∀ off size, x = c.mkBlock off size →
        (off + size ≤ c.appOff ∨ (b.app = c.appBin ∧ off + size ≤ c.appOff + c.appBin.length)) →
        slice (img0 c) x.start x.size = slice (imagePadded c b.app (some (csfBytes c.version b.cmds))) x.start x.size := by
      rintro off size rfl hcase
      simp only [mkBlock_eq]
      rw [img0_slice c off size (by omega), padded_slice]
      rcases hcase with hh | ⟨he, hh⟩
      · exact image_head_indep c h _ _ _ _ off size hh
      · rw [he]; exact image_app_indep c h _ _ _ off size hh
    simp only [Cfg.signedBlocks, List.mem_append, List.mem_cons, List.not_mem_nil, or_false] at hx
    rcases hx with ((hx | hx) | hx) | hx
    · exact key _ _ hx (.inl (by show 0 + 64 ≤ _; omega))
    · cases hd : c.dcd with
      | none => simp [hd] at hx
      | some d =>
        simp only [hd, List.mem_cons, List.not_mem_nil, or_false] at hx
        rw [blk_dcd c d hd] at hfit
        exact key _ _ hx (.inl (by rw [dcdSegOffN_eq]; exact hfit))
    · cases hd : c.xmcd with
      | none => simp [hd] at hx
      | some d =>
        simp only [hd, List.mem_cons, List.not_mem_nil, or_false] at hx
        rw [blk_xmcd c h d hd] at hfit
        exact key _ _ hx (.inl hfit)
    · by_cases he : isEnc c.flags = true
      · simp [he] at hx
      · simp only [he, Bool.false_eq_true, ↓reduceIte, List.mem_cons, List.not_mem_nil, or_false] at hx
        exact key _ _ hx (.inr ⟨by rw [happ]; simp [he], Nat.le_refl _⟩)
  · obtain ⟨c1, hc1⟩ := Option.isSome_iff_exists.1 h1
    have hg1 : getAut 1 (if isEnc c.flags = true then cmdsEnc cr c else c.cmds) = getAut 1 c.cmds := by
      split
      · exact getAut_mapAut_ne _ (fun x => isAut_addBlocks _ _) 2 1 (by omega) _
      · rfl
    refine ⟨c1, by rw [← hg1]; exact hc1, ?_⟩
    rw [signLoop_getAut_ne s c.version fuel 0 _ b.cmds b.attempts 1 (by omega) hl]
    unfold cmdsSigned
    rw [getAut_mapAut_same _ (fun x => isAut_addBlocks _ _), hc1, hmd]
    rfl

theorem enc_restores_explicit (cr : CryptoOps) (s : Signer) (fuel : Nat) (c : Cfg) (b : Built) (h : c.WF)
    (hb : build cr s fuel c = some b) (he : c.flags = 12) (hl : CryptoLaws cr) (hm : macLenOk c.macLen = true) :
    ∃ c0, (encMac cr c).length = c.macLen ∧ getAut 2 c.cmds = some c0 ∧
      getAut 2 b.cmds = some { cmd := c0.cmd.addBlocks (blockPairs c.encryptedBlocks),
                               data := some (macBlob c.version c.nonce (encMac cr c)) } ∧
      ccmDec cr c.dek c.nonce [] c.macLen
        (blocksData (imagePadded c b.app (some (csfBytes c.version b.cmds))) c.encryptedBlocks ++ encMac cr c) = some c.appBin := by
  have ha : c.flags ≠ 0 := by omega
  have hen : isEnc c.flags = true := (isEnc_iff c h).2 he
  obtain ⟨h2, happ, _, _, _, hloop⟩ := build_inv cr s fuel c b hb (hasCsf_of_ne c h ha) (isAuth_of_ne c h ha)
  obtain ⟨c0, hc0⟩ := Option.isSome_iff_exists.1 (h2 hen)
  refine ⟨c0, encMac_length cr hl c h hm, hc0, ?_, ?_⟩
  · rw [signLoop_getAut_ne s c.version fuel 0 _ b.cmds b.attempts 2 (by omega) hloop]
    unfold cmdsSigned
    rw [getAut_mapAut_ne _ (fun x => isAut_addBlocks _ _) 1 2 (by omega)]
    simp only [hen, ↓reduceIte]
    unfold cmdsEnc
    rw [getAut_mapAut_same _ (fun x => isAut_addBlocks _ _), hc0]
    rfl
  · have hfinal : blocksData (imagePadded c b.app (some (csfBytes c.version b.cmds))) c.encryptedBlocks = encCt cr c := by
      unfold Cfg.encryptedBlocks
      simp only [blocksData, mkBlock_eq, List.append_nil]
      rw [padded_slice, happ, if_pos hen, ← encCt_length cr hl c h hm]
      exact image_app c h (encCt cr c) _
    rw [hfinal]
    unfold encCt encMac
    rw [List.take_append_drop]
    unfold encOut
    rw [encPlain_eq c h]
    exact ccm_inv hl c.dek c.nonce [] c.macLen c.appBin ((macLenOk_iff c.macLen).1 hm).2.1

theorem enc_restores_lemma (cr : CryptoOps) (s : Signer) (fuel : Nat) (c : Cfg) (b : Built) (h : c.WF)
    (hb : build cr s fuel c = some b) (he : c.flags = 12) (hl : CryptoLaws cr) (hm : macLenOk c.macLen = true) :
    ∃ mac c0, mac.length = c.macLen ∧ getAut 2 c.cmds = some c0 ∧
      getAut 2 b.cmds = some { cmd := c0.cmd.addBlocks (blockPairs c.encryptedBlocks),
                               data := some (macBlob c.version c.nonce mac) } ∧
      ccmDec cr c.dek c.nonce [] c.macLen
        (blocksData (imagePadded c b.app (some (csfBytes c.version b.cmds))) c.encryptedBlocks ++ mac) = some c.appBin :=
  ⟨encMac cr c, enc_restores_explicit cr s fuel c b h hb he hl hm⟩

end SpsdkVerif.Hab
