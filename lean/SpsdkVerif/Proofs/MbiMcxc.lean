/-
C01 for the mcxc families (MCX C0xx/C1xx…C4xx): images without IVT whose application carries a boot configuration area
(optional, tag "kcfg", 64 bytes at 0x3C0) and a flash configuration field (16 bytes at 0x400).  The class is the generated
shape [Mbi_MixinApp, Mbi_MixinBca, Mbi_MixinFcf, Mbi_ExportMixinApp] (image type 0, selected through `fixed_image_type`).
-/
import SpsdkVerif.Proofs.MbiBase

namespace SpsdkVerif.Mbi
open SpsdkVerif SpsdkVerif.Misc SpsdkVerif.Crypto
open SpsdkVerif.Generated.IvtConsts
open SpsdkVerif.Generated.MbiClasses (MixinName)

variable {co : CryptoOps} {env : Env} {cfg : Cfg}

/-- the mcxc class of the device database -/
def mcxcClass (c : Cls) : Bool :=
  c.mixins == [.Mbi_MixinApp, .Mbi_MixinBca, .Mbi_MixinFcf, .Mbi_ExportMixinApp] && c.imageType == 0

/-- the tag of a boot configuration area -/
def bcaTag : Bytes := [0x6B, 0x63, 0x66, 0x67]

/-- option set of an mcxc image: application long enough to contain the FCF, accepted by `Mbi_MixinApp.mix_validate`, the FCF
    block given (16 bytes), the BCA block given (64 bytes with the tag) or absent - then the application itself must not
    carry the tag at 0x3C0 -, every setting the class does not have at its default -/
def mcxcCfgWF (cfg : Cfg) : Bool :=
  let a := appData cfg
  a.length ≥ fcfOffset + fcfSize && a.length < 2 ^ 31
  && !(rd32 a 0 == rd32 a 4 && rd32 a 4 == rd32 a 8)
  && (match cfg.fcf with | some f => f.length == fcfSize | none => false)
  && (match cfg.bca with
      | some b => b.length == bcaSize && b.take 4 == bcaTag
      | none => slice a bcaOffset (bcaOffset + 4) != bcaTag)
  && cfg.loadAddress == 0 && cfg.imageVersion == 0 && cfg.subType == 0 && cfg.tz == .enabled && !cfg.hwKey
  && cfg.keyStore.isNone && cfg.hmacKey.isNone && cfg.ctrIv.isEmpty && cfg.reloc.isNone && cfg.cert.isEmpty
  && cfg.sigLen == 0 && cfg.fwVersion == 0 && cfg.digest.isNone

theorem mcxc_setAt_slice (A w : Bytes) (off : Nat) (h : off + w.length ≤ A.length) :
    slice (setAt A off w) off (off + w.length) = w := by
  unfold setAt
  have hl : (A.take off).length = off := by simp only [List.length_take]; omega
  have := slice_append_mid (A.take off) w (A.drop (off + w.length))
  rw [hl] at this
  exact this

theorem mcxc_setAt_drop (A w : Bytes) (off : Nat) (h : off + w.length ≤ A.length) :
    (setAt A off w).drop off = w ++ A.drop (off + w.length) := by
  unfold setAt
  have hl : (A.take off).length = off := by simp only [List.length_take]; omega
  rw [List.append_assoc, List.drop_left' hl]

theorem mcxc_setAt_take (A w : Bytes) (off j : Nat) (h : off + w.length ≤ A.length) (hj : j ≤ off) :
    (setAt A off w).take j = A.take j := by
  unfold setAt
  have hl : (A.take off).length = off := by simp only [List.length_take]; omega
  rw [List.append_assoc, List.take_append_of_le_length (by omega), List.take_take, Nat.min_eq_left hj]

theorem mcxc_setAt_idem (A w : Bytes) (off : Nat) (h : off + w.length ≤ A.length) :
    setAt (setAt A off w) off w = setAt A off w := by
  have hl : (A.take off).length = off := by simp only [List.length_take]; omega
  conv => lhs; arg 1; unfold setAt
  exact setAt_mid (A.take off) w (A.drop (off + w.length)) w off hl rfl

theorem mcxc_setAt_rd32 (A w : Bytes) (off k : Nat) (h : off + w.length ≤ A.length) (hk : k + 4 ≤ off) :
    rd32 (setAt A off w) k = rd32 A k := by
  unfold rd32
  congr 1
  apply List.ext_getElem?
  intro i
  simp only [List.getElem?_take, List.getElem?_drop]
  split
  · exact setAt_getElem? A w off _ (Or.inl (by omega)) h
  · rfl

open SpsdkVerif.Generated.MbiClasses (Method Attr provider attrs preParsed isData parent) in
/-- the class with its TrustZone preset size left open -/
def mcxcCls (tz : Nat) : Cls := ⟨0, [.Mbi_MixinApp, .Mbi_MixinBca, .Mbi_MixinFcf, .Mbi_ExportMixinApp], tz⟩

theorem mcxc_cls_eq (c : Cls) (hc : mcxcClass c = true) : c = mcxcCls c.tzSize := by
  unfold mcxcClass at hc
  simp only [Bool.and_eq_true, beq_iff_eq] at hc
  cases c
  simp only at hc
  simp [mcxcCls, hc.1, hc.2]

section facts
open SpsdkVerif.Generated.MbiClasses (Method Attr)
variable (tz : Nat)

theorem mcxc_res_collect : (mcxcCls tz).resolve .collect_data = some .Mbi_ExportMixinApp := rfl
theorem mcxc_res_dis : (mcxcCls tz).resolve .disassemble_image = some .Mbi_ExportMixinApp := rfl
theorem mcxc_res_enc : (mcxcCls tz).resolve .encrypt = none := rfl
theorem mcxc_res_penc : (mcxcCls tz).resolve .post_encrypt = none := rfl
theorem mcxc_res_fin : (mcxcCls tz).resolve .finalize = none := rfl
theorem mcxc_signKind : (mcxcCls tz).signKind = .none := rfl
theorem mcxc_dataMixins : (mcxcCls tz).dataMixins = [.Mbi_MixinApp, .Mbi_MixinBca, .Mbi_MixinFcf] := rfl
theorem mcxc_parseOrder : parseOrder (mcxcCls tz) = some [.Mbi_MixinApp, .Mbi_MixinBca, .Mbi_MixinFcf] := rfl
theorem mcxc_attr_ivt : (mcxcCls tz).hasAttr .ivt_table = false := rfl
theorem mcxc_attr_clean : (mcxcCls tz).hasAttr .clean_ivt = false := rfl
theorem mcxc_attr_bca : (mcxcCls tz).hasAttr .bca = true := rfl
theorem mcxc_attr_fcf : (mcxcCls tz).hasAttr .fcf = true := rfl
theorem mcxc_attr_tab : (mcxcCls tz).hasAttr .app_table = false := rfl
theorem mcxc_attr_dis : (mcxcCls tz).hasAttr .disassembly_app_data = false := rfl
theorem mcxc_flags (cfg : Cfg) : flagsOf (mcxcCls tz) cfg = 0 := by
  have h1 : (mcxcCls tz).hasTrustZone = false := rfl
  have h2 : (mcxcCls tz).hasAttr .image_subtype = false := rfl
  have h3 : (mcxcCls tz).hasAttr .user_hw_key_enabled = false := rfl
  have h4 : (mcxcCls tz).hasAttr .key_store = false := rfl
  have h5 : (mcxcCls tz).hasAttr .image_version = false := rfl
  have h6 : (mcxcCls tz).hasAttr .image_version_to_image_type = false := rfl
  have h7 : (mcxcCls tz).imageType = 0 := rfl
  unfold flagsOf
  rw [h1, h2, h3, h4, h5, h6, h7, mcxc_attr_tab]
  simp [createFlags]

end facts

structure McxcCfg (cfg : Cfg) : Prop where
  hlen : fcfOffset + fcfSize ≤ (appData cfg).length
  hlt : (appData cfg).length < 2 ^ 31
  hwords : ¬ (rd32 (appData cfg) 0 = rd32 (appData cfg) 4 ∧ rd32 (appData cfg) 4 = rd32 (appData cfg) 8)
  hfcf : ∃ f, cfg.fcf = some f ∧ f.length = fcfSize
  hbca : (∃ b, cfg.bca = some b ∧ b.length = bcaSize ∧ b.take 4 = bcaTag)
          ∨ (cfg.bca = none ∧ slice (appData cfg) bcaOffset (bcaOffset + 4) ≠ bcaTag)
  hla : cfg.loadAddress = 0
  hiv : cfg.imageVersion = 0
  hst : cfg.subType = 0
  htz : cfg.tz = .enabled
  hhw : cfg.hwKey = false
  hks : cfg.keyStore = none
  hhmac : cfg.hmacKey = none
  hctr : cfg.ctrIv = []
  hreloc : cfg.reloc = none
  hcert : cfg.cert = []
  hsig : cfg.sigLen = 0
  hfw : cfg.fwVersion = 0
  hdig : cfg.digest = none

theorem mcxcCfg_of (cfg : Cfg) (hw : mcxcCfgWF cfg = true) : McxcCfg cfg := by
  unfold mcxcCfgWF at hw
  simp only [Bool.and_eq_true] at hw
  obtain ⟨⟨⟨⟨⟨⟨⟨⟨⟨⟨⟨⟨⟨⟨⟨⟨⟨a1, a2⟩, a3⟩, a4⟩, a5⟩, a6⟩, a7⟩, a8⟩, a9⟩, a10⟩, a11⟩, a12⟩, a13⟩, a14⟩, a15⟩, a16⟩, a17⟩,
    a18⟩ := hw
  refine { hlen := by simpa using a1, hlt := by simpa using a2, hwords := ?_, hfcf := ?_, hbca := ?_,
           hla := by simpa using a6, hiv := by simpa using a7, hst := by simpa using a8, htz := by simpa using a9,
           hhw := by simpa using a10, hks := by simpa using a11, hhmac := by simpa using a12,
           hctr := by simpa using a13, hreloc := by simpa using a14, hcert := by simpa using a15,
           hsig := by simpa using a16, hfw := by simpa using a17, hdig := by simpa using a18 }
  · intro ⟨x1, x2⟩
    rw [x1, x2] at a3
    simp at a3
  · cases hf : cfg.fcf with
    | none => rw [hf] at a4; simp at a4
    | some f => rw [hf] at a4; exact ⟨f, rfl, by simpa using a4⟩
  · cases hb : cfg.bca with
    | none => rw [hb] at a5; right; exact ⟨rfl, by simpa using a5⟩
    | some b => rw [hb] at a5; left; exact ⟨b, rfl, by simpa using a5⟩

/-- where the blocks go and what is written there -/
def mcxcOff (cfg : Cfg) : Nat := if cfg.bca.isSome then bcaOffset else fcfOffset
def mcxcBlk (cfg : Cfg) : Bytes := cfg.bca.getD [] ++ cfg.fcf.getD []
def mcxcImg (cfg : Cfg) : Bytes := setAt (appData cfg) (mcxcOff cfg) (mcxcBlk cfg)

theorem mcxc_blk (h : McxcCfg cfg) :
    mcxcOff cfg + (mcxcBlk cfg).length = fcfOffset + fcfSize
    ∧ (cfg.bca.getD []).length = (if cfg.bca.isSome then bcaSize else 0) ∧ (cfg.fcf.getD []).length = fcfSize := by
  obtain ⟨f, hf, hfl⟩ := h.hfcf
  unfold mcxcOff mcxcBlk
  rcases h.hbca with ⟨b, hb, hbl, _⟩ | ⟨hb, _⟩
  · simp [hb, hf, hbl, hfl, bcaOffset, bcaSize, fcfOffset, fcfSize]
  · simp [hb, hf, hfl]

theorem mcxc_validate (tz : Nat) (h : McxcCfg cfg) : validate (mcxcCls tz) cfg = .ok () := by
  obtain ⟨f, hf, _⟩ := h.hfcf
  have hl := h.hlen
  have hw := h.hwords
  unfold validate
  rw [mcxc_dataMixins]
  have h1 : ¬ (appData cfg).length < minAppSize := by
    simp only [fcfOffset, fcfSize] at hl; simp only [minAppSize]; omega
  have p1 : SpsdkVerif.Generated.MbiClasses.provider .Mbi_MixinApp .mix_validate = some .Mbi_MixinApp := rfl
  have p2 : SpsdkVerif.Generated.MbiClasses.provider .Mbi_MixinBca .mix_validate = some .Mbi_MixinBca := rfl
  have p3 : SpsdkVerif.Generated.MbiClasses.provider .Mbi_MixinFcf .mix_validate = some .Mbi_MixinFcf := rfl
  simp [List.forM, validateMixin, p1, p2, p3, h1, hw, hf, bind, Except.bind, pure, Except.pure]

theorem mcxc_totalLen (tz : Nat) (cfg : Cfg) :
    totalLen (mcxcCls tz) cfg = (((appData cfg).length + (if cfg.bca.isSome then bcaSize else 0)
      + (if cfg.fcf.isSome then fcfSize else 0) : Nat) : Int) := by
  show (appData cfg).length + ((if cfg.bca.isSome then bcaSize else 0 : Int) + ((if cfg.fcf.isSome then fcfSize else 0 : Int) + 0)) = _
  split <;> split <;> push_cast <;> omega

theorem mcxc_packGuard (tz : Nat) (h : McxcCfg cfg) : packGuard (mcxcCls tz) cfg = .ok () := by
  have hlt := h.hlt
  unfold packGuard
  rw [mcxc_totalLen, mcxc_flags, h.hsig, h.hla, h.hfw]
  rw [if_neg]
  simp only [bcaSize, fcfSize, encIvtCopySize, encIvSize]
  split <;> split <;> omega

theorem mcxc_collectApp (tz : Nat) (h : McxcCfg cfg) : collectApp (mcxcCls tz) cfg = .ok (mcxcImg cfg) := by
  obtain ⟨f, hf, hfl⟩ := h.hfcf
  obtain ⟨hb1, hb2, hb3⟩ := mcxc_blk h
  have hl := h.hlen
  have hne : (appData cfg).isEmpty = false := by
    cases ha : appData cfg with
    | nil => rw [ha] at hl; simp [fcfOffset, fcfSize] at hl
    | cons a l => rfl
  unfold collectApp
  simp only [hne, mcxc_attr_ivt, mcxc_attr_bca, mcxc_attr_fcf, mcxc_attr_tab, Bool.true_and, Bool.false_eq_true,
    if_false, hf, Option.isSome_some, Bool.or_true, if_true]
  unfold mcxcImg setAt mcxcBlk mcxcOff
  rw [hf]
  simp only [Option.getD_some, List.length_append, hb2]
  cases hb : cfg.bca with
  | none => simp [hfl]
  | some b => simp [Nat.add_assoc, hfl]

theorem mcxc_export (tz : Nat) (h : McxcCfg cfg) (signer : Signer) :
    exportImage co (mcxcCls tz) cfg signer = .ok (mcxcImg cfg) := by
  unfold exportImage
  simp only [mcxc_validate tz h, mcxc_packGuard tz h, collect, mcxc_res_collect, mcxc_collectApp tz h, bind, Except.bind,
    encryptStage, mcxc_res_enc, postEncryptStage, mcxc_res_penc, signStage, mcxc_signKind, finalizeStage, mcxc_res_fin]

theorem mcxcImg_length (h : McxcCfg cfg) : (mcxcImg cfg).length = (appData cfg).length := by
  have := (mcxc_blk h).1
  have := h.hlen
  exact setAt_length _ _ _ (by omega)

theorem mcxcImg_aligned (h : McxcCfg cfg) : align4 (mcxcImg cfg) = mcxcImg cfg :=
  align4_of_aligned _ (by rw [mcxcImg_length h]; exact align4_length_mod _)

theorem mcxcImg_drop_fcf (h : McxcCfg cfg) :
    (mcxcImg cfg).drop fcfOffset = cfg.fcf.getD [] ++ (appData cfg).drop (fcfOffset + fcfSize) := by
  obtain ⟨hb1, hb2, hb3⟩ := mcxc_blk h
  have hl := h.hlen
  have hd := mcxc_setAt_drop (appData cfg) (mcxcBlk cfg) (mcxcOff cfg) (by omega)
  rw [hb1] at hd
  unfold mcxcImg
  rcases h.hbca with ⟨b, hb, hbl, _⟩ | ⟨hb, _⟩
  · have ho : mcxcOff cfg = bcaOffset := by simp [mcxcOff, hb]
    have hk : mcxcBlk cfg = b ++ cfg.fcf.getD [] := by simp [mcxcBlk, hb]
    rw [ho, hk] at hd ⊢
    have : fcfOffset = bcaOffset + b.length := by rw [hbl]; rfl
    rw [this, ← List.drop_drop, hd, List.append_assoc, List.drop_left, ← this]
  · have ho : mcxcOff cfg = fcfOffset := by simp [mcxcOff, hb]
    have hk : mcxcBlk cfg = cfg.fcf.getD [] := by simp [mcxcBlk, hb]
    rw [ho, hk] at hd ⊢
    exact hd

theorem mcxc_parseBca (h : McxcCfg cfg) :
    (if ((mcxcImg cfg).drop bcaOffset).length ≥ bcaSize ∧ ((mcxcImg cfg).drop bcaOffset).take 4 = [0x6B, 0x63, 0x66, 0x67]
      then some (((mcxcImg cfg).drop bcaOffset).take bcaSize) else none) = cfg.bca := by
  obtain ⟨hb1, hb2, hb3⟩ := mcxc_blk h
  have hl := h.hlen
  have hlen := mcxcImg_length h
  rcases h.hbca with ⟨b, hb, hbl, hbt⟩ | ⟨hb, hbt⟩
  · have ho : mcxcOff cfg = bcaOffset := by simp [mcxcOff, hb]
    have hk : mcxcBlk cfg = b ++ cfg.fcf.getD [] := by simp [mcxcBlk, hb]
    have hd := mcxc_setAt_drop (appData cfg) (mcxcBlk cfg) (mcxcOff cfg) (by omega)
    rw [ho, hk, List.append_assoc] at hd
    have hd' : (mcxcImg cfg).drop bcaOffset = b ++ (cfg.fcf.getD [] ++ (appData cfg).drop (bcaOffset + (b ++ cfg.fcf.getD []).length)) := by
      unfold mcxcImg; rw [ho, hk]; exact hd
    have h1 : ((mcxcImg cfg).drop bcaOffset).take 4 = b.take 4 := by
      rw [hd', List.take_append_of_le_length (by rw [hbl]; decide)]
    have h2 : ((mcxcImg cfg).drop bcaOffset).take bcaSize = b := by
      rw [hd', ← hbl, List.take_left]
    have h3 : ((mcxcImg cfg).drop bcaOffset).length ≥ bcaSize := by
      rw [List.length_drop, hlen]; simp only [fcfOffset, fcfSize, bcaOffset, bcaSize] at *; omega
    rw [h1, h2, hbt, hb, if_pos ⟨h3, rfl⟩]
  · have ho : mcxcOff cfg = fcfOffset := by simp [mcxcOff, hb]
    have h1 : ((mcxcImg cfg).drop bcaOffset).take 4 = slice (appData cfg) bcaOffset (bcaOffset + 4) := by
      unfold slice
      rw [List.take_drop]
      unfold mcxcImg
      rw [mcxc_setAt_take _ _ _ _ (by omega) (by rw [ho]; decide)]
    rw [h1, hb, if_neg]
    intro ⟨_, h4⟩
    exact hbt h4

theorem mcxc_mixParseAll (tz : Nat) (h : McxcCfg cfg) (dek : Option Bytes) :
    mixParseAll env (mcxcCls tz) dek (mcxcImg cfg) = .ok { bca := cfg.bca, fcf := cfg.fcf } := by
  obtain ⟨f, hf, hfl⟩ := h.hfcf
  have hb := mcxc_parseBca h
  have hd := mcxcImg_drop_fcf h
  rw [hf] at hd
  simp only [Option.getD_some] at hd
  have h1 : ¬ ((mcxcImg cfg).drop fcfOffset).length < fcfSize := by
    rw [hd, List.length_append, hfl]; omega
  have h2 : ((mcxcImg cfg).drop fcfOffset).take fcfSize = f := by
    rw [hd, ← hfl, List.take_left]
  unfold mixParseAll
  rw [mcxc_parseOrder]
  have p1 : SpsdkVerif.Generated.MbiClasses.provider .Mbi_MixinApp .mix_parse = none := rfl
  have p2 : SpsdkVerif.Generated.MbiClasses.provider .Mbi_MixinBca .mix_parse = some .Mbi_MixinBca := rfl
  have p3 : SpsdkVerif.Generated.MbiClasses.provider .Mbi_MixinFcf .mix_parse = some .Mbi_MixinFcf := rfl
  simp only [List.foldlM, mixParse, p1, p2, p3, bind, Except.bind, pure, Except.pure, hb, h1, h2, if_false, hf]

theorem mcxc_canon (tz : Nat) (h : McxcCfg cfg) (dek : Option Bytes) :
    canon (mcxcCls tz) cfg dek = { app := some (mcxcImg cfg), bca := cfg.bca, fcf := cfg.fcf } := by
  have hcfg : ({ cfg with reloc := none } : Cfg) = cfg := by
    have := h.hreloc
    cases cfg; simp_all
  have g1 : (mcxcCls tz).has .Mbi_MixinLoadAddress = false := rfl
  have g2 : (mcxcCls tz).has .Mbi_MixinImageVersion = false := rfl
  have g3 : (mcxcCls tz).has .Mbi_MixinImageSubType = false := rfl
  have g4 : (mcxcCls tz).hasTrustZone = false := rfl
  have g5 : (mcxcCls tz).has .Mbi_MixinHwKey = false := rfl
  have g6 : (mcxcCls tz).has .Mbi_MixinKeyStore = false := rfl
  have g7 : (mcxcCls tz).has .Mbi_MixinHmac = false := rfl
  have g8 : (mcxcCls tz).has .Mbi_MixinCtrInitVector = false := rfl
  have g9 : (mcxcCls tz).has .Mbi_MixinRelocTable = false := rfl
  have g10 : (mcxcCls tz).has .Mbi_MixinCertBlockV1 = false := rfl
  have g11 : (mcxcCls tz).has .Mbi_MixinCertBlockV21 = false := rfl
  have g12 : (mcxcCls tz).manifestKind = none := rfl
  have g13 : (mcxcCls tz).has .Mbi_MixinBca = true := rfl
  have g14 : (mcxcCls tz).has .Mbi_MixinFcf = true := rfl
  unfold canon
  simp only [hcfg, mcxc_attr_clean, mcxc_collectApp tz h, g1, g2, g3, g4, g5, g6, g7, g8, g9, g10, g11, g12, g13, g14,
    Bool.false_eq_true, if_false, if_true, Bool.false_and, Option.isSome_none]
  simp

theorem mcxc_parse (tz : Nat) (h : McxcCfg cfg) (dek : Option Bytes) :
    parseImage co env (mcxcCls tz) dek (mcxcImg cfg) = .ok (canon (mcxcCls tz) cfg dek) := by
  unfold parseImage
  rw [mcxc_mixParseAll tz h dek, mcxc_canon tz h dek]
  simp only [bind, Except.bind, pure, Except.pure, finalizeRevert, mcxc_res_fin, signRevert, mcxc_signKind,
    postEncryptRevert, mcxc_res_penc, encryptRevert, mcxc_res_enc, disassemble, mcxc_res_dis, disassemblyAppData,
    mcxc_attr_dis, mcxc_attr_clean, Bool.false_eq_true, if_false, mcxcImg_aligned h]

/-- the builder's view of the parsed image -/
def mcxcCfg2 (cfg : Cfg) : Cfg := ({ app := some (mcxcImg cfg), bca := cfg.bca, fcf := cfg.fcf } : Parsed).toCfg

theorem mcxc_appData2 (h : McxcCfg cfg) : appData (mcxcCfg2 cfg) = mcxcImg cfg :=
  mcxcImg_aligned h

theorem mcxcCfg_2 (h : McxcCfg cfg) : McxcCfg (mcxcCfg2 cfg) := by
  obtain ⟨hb1, _, _⟩ := mcxc_blk h
  have hl := h.hlen
  have hge : bcaOffset ≤ mcxcOff cfg := by unfold mcxcOff; split <;> decide
  have hin : mcxcOff cfg + (mcxcBlk cfg).length ≤ (appData cfg).length := by omega
  have hA := mcxc_appData2 h
  have hr : ∀ k, k + 4 ≤ bcaOffset → rd32 (mcxcImg cfg) k = rd32 (appData cfg) k := by
    intro k hk; exact mcxc_setAt_rd32 _ _ _ _ hin (by omega)
  refine { hlen := by rw [hA, mcxcImg_length h]; exact h.hlen, hlt := by rw [hA, mcxcImg_length h]; exact h.hlt,
           hwords := ?_, hfcf := h.hfcf, hbca := ?_, hla := rfl, hiv := rfl, hst := rfl, htz := rfl, hhw := rfl,
           hks := rfl, hhmac := rfl, hctr := rfl, hreloc := rfl, hcert := rfl, hsig := rfl, hfw := rfl, hdig := rfl }
  · rw [hA, hr 0 (by decide), hr 4 (by decide), hr 8 (by decide)]; exact h.hwords
  · rcases h.hbca with hb | ⟨hb, hbt⟩
    · left; exact hb
    · right
      refine ⟨hb, ?_⟩
      have ho : mcxcOff cfg = fcfOffset := by simp [mcxcOff, hb]
      rw [hA]
      unfold slice mcxcImg
      rw [mcxc_setAt_take _ _ _ _ hin (by rw [ho]; decide)]
      exact hbt

theorem mcxcImg_2 (h : McxcCfg cfg) : mcxcImg (mcxcCfg2 cfg) = mcxcImg cfg := by
  obtain ⟨hb1, _, _⟩ := mcxc_blk h
  have hl := h.hlen
  show setAt (appData (mcxcCfg2 cfg)) (mcxcOff cfg) (mcxcBlk cfg) = mcxcImg cfg
  rw [mcxc_appData2 h]
  exact mcxc_setAt_idem _ _ _ (by omega)

/-- parse(export(x)) = x for mcxc images, the image is the application with the BCA / FCF blocks put in place (everything
    else untouched, same length), and re-exporting the parsed image gives the same bytes -/
theorem parse_export_mcxc (co : CryptoOps) (env : Env) (c : Cls) (cfg : Cfg) (signer : Signer) (dek : Option Bytes)
    (hc : mcxcClass c = true) (hw : mcxcCfgWF cfg = true) :
    ∃ e, exportImage co c cfg signer = .ok e
      ∧ parseImage co env c dek e = .ok (canon c cfg dek)
      ∧ e.length = (appData cfg).length
      ∧ slice e fcfOffset (fcfOffset + fcfSize) = cfg.fcf.getD []
      ∧ (∀ b, cfg.bca = some b → slice e bcaOffset (bcaOffset + bcaSize) = b)
      ∧ (∀ i, ¬ (fcfOffset ≤ i ∧ i < fcfOffset + fcfSize) → ¬ (cfg.bca.isSome ∧ bcaOffset ≤ i ∧ i < bcaOffset + bcaSize) →
            e[i]? = (appData cfg)[i]?)
      ∧ exportImage co c (canon c cfg dek).toCfg signer = .ok e := by
  have h := mcxcCfg_of cfg hw
  rw [mcxc_cls_eq c hc]
  generalize c.tzSize = tz
  obtain ⟨hb1, hb2, hb3⟩ := mcxc_blk h
  have hl := h.hlen
  have hin : mcxcOff cfg + (mcxcBlk cfg).length ≤ (appData cfg).length := by omega
  have hdf := mcxcImg_drop_fcf h
  refine ⟨mcxcImg cfg, mcxc_export tz h signer, mcxc_parse tz h dek, mcxcImg_length h, ?_, ?_, ?_, ?_⟩
  · unfold slice
    rw [List.drop_take, hdf, Nat.add_sub_cancel_left, ← hb3, List.take_left]
  · intro b hb
    have hp := mcxc_parseBca h
    rw [hb] at hp
    unfold slice
    rw [List.drop_take, Nat.add_sub_cancel_left]
    split at hp
    · exact Option.some.inj hp
    · exact absurd hp (by simp)
  · intro i h1 h2
    refine setAt_getElem? _ _ _ _ ?_ hin
    rw [hb1]
    by_cases hb : cfg.bca.isSome = true
    · have ho : mcxcOff cfg = bcaOffset := by simp [mcxcOff, hb]
      rw [ho]
      simp only [hb, true_and] at h2
      simp only [fcfOffset, fcfSize, bcaOffset, bcaSize] at *
      omega
    · have ho : mcxcOff cfg = fcfOffset := by simp [mcxcOff, hb]
      rw [ho]
      omega
  · rw [mcxc_canon tz h dek]
    have := mcxc_export (co := co) tz (mcxcCfg_2 h) signer
    rw [mcxcImg_2 h] at this
    exact this

end SpsdkVerif.Mbi
