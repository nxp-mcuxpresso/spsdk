/-
The device aborts a host→device data phase (receive_sb_file abort path, C10): the operation fails with
kStatus_AbortDataPhase, the device has exactly the packets before the abort, host and device are in step again.
The links differ at the abort itself: the serial device answers the packet by an ABORT frame, which `_send_frame` raises at
once; the USB-HID device queues a zero-length report, which the host notices before its next packet (`check_errors`) or at
the final read, the idle device ignoring the packets in between.  Either way the handler of `_send_data` reads the final response.
-/
import SpsdkVerif.Model.Mboot
import SpsdkVerif.Proofs.Mboot
import SpsdkVerif.Proofs.MbootRefine

namespace SpsdkVerif.Mboot
open SpsdkVerif H

theorem sendChunks_cons_err {ab : Bool} {c : Bytes} {cs : List Bytes} {sent : Nat} {h h' : Host} {e : HErr}
    (he : writeData ab c h = (.error e, h')) :
    sendChunks ab (c :: cs) sent h = (.ok (sent, some e), h') := by
  rw [sendChunks]
  simp only [he]

/-- without `check_errors` a data report goes out whatever is pending -/
theorem writeData_hid_false {h1 h0 : Host} {st d b r} (hI : h1.Is h0 st d b r) (htr : h0.cfg.tr = .hid)
    (c : Bytes) (hlen : c.length < 65536) :
    ∃ h2, writeData false c h1 = (.ok (), h2) ∧
      h2.Is h0 st (d.stepHid (mkReport Spec.ridDataOut c)).1 b (r ++ (d.stepHid (mkReport Spec.ridDataOut c)).2) := by
  refine ⟨_, ?_, hI.write_hid htr _⟩
  rw [writeData_tr, hI.tr.trans htr]
  show hidWriteData false c h1 = _
  rw [hidWriteData, if_neg (by omega)]
  rfl

/-- `check_errors`: a report is pending before the next data packet is written -/
theorem writeData_hid_pending {h1 h0 : Host} {st d b} (raw : Bytes) (rs : List Bytes)
    (hI : h1.Is h0 st d b (raw :: rs)) (htr : h0.cfg.tr = .hid) (hraw : raw.isEmpty = false)
    (c : Bytes) (hlen : c.length < 65536) :
    writeData true c h1 = (.error .abort, h1.rdR rs) := by
  have e1 : hidDevRead h1 = (.ok raw, h1.rdR rs) := by
    unfold hidDevRead
    simp only [hI.rxR, hraw, Bool.false_eq_true, if_false, Host.rdR]
  have e2 : (do let r ← hidDevRead; pure (some r) : H (Option Bytes)) h1 = (.ok (some raw), h1.rdR rs) := by
    rw [bind_ok e1]; rfl
  rw [writeData_tr, hI.tr.trans htr]
  show hidWriteData true c h1 = _
  rw [hidWriteData, if_neg (by omega)]
  simp only [if_true]
  rw [bind_ok (catch_ok e2)]
  rfl

/-- data packets after the abort: the idle device ignores them -/
theorem sendChunks_ignored {h0 : Host} (htr : h0.cfg.tr = .hid) (d : Dev) (hph : d.phase = .idle)
    (him : d.imageMode = false) (R : List Bytes) :
    ∀ (cs : List Bytes) (h1 : Host) (sent st : Nat), (∀ c ∈ cs, c.length < 65536) → h1.Is h0 st d [] R →
      ∃ h2, sendChunks false cs sent h1 = (.ok (sent + (cs.map List.length).sum, none), h2) ∧ h2.Is h0 st d [] R := by
  intro cs
  induction cs with
  | nil => exact fun h1 sent st _ hI => ⟨h1, rfl, hI⟩
  | cons c cs ih =>
    intro h1 sent st hlen hI
    have hc := hlen c List.mem_cons_self
    obtain ⟨h2, e2, hI2⟩ := writeData_hid_false hI htr c hc
    have hon : d.onData c = none := by
      rw [onData_idle c hph, Dev.strayData, if_neg (fun h => by rw [him] at h; exact absurd h.1 (by decide))]; rfl
    rw [stepHid_data d c hc, hon, List.append_nil] at hI2
    obtain ⟨h3, e3, hI3⟩ := ih h2 (sent + c.length) st (fun x hx => hlen x (List.mem_cons_of_mem _ hx)) hI2
    exact ⟨h3, by rw [sendChunks_cons_ok e2, e3, List.map_cons, List.sum_cons, Nat.add_assoc], hI3⟩

/-- the zero-length report = abort -/
theorem readAny_zeroReport {h1 h0 : Host} {st d b} (k : Nat) (rs : List Bytes)
    (hI : h1.Is h0 st d b (padTo k (mkReport Spec.ridCmdIn []) :: rs)) (htr : h0.cfg.tr = .hid) :
    readAny h1 = (.error .abort, h1.rdR rs) := by
  have e1 : hidDevRead h1 = (.ok (padTo k (mkReport Spec.ridCmdIn [])), h1.rdR rs) := by
    unfold hidDevRead
    simp only [hI.rxR, padTo_isEmpty, Bool.false_eq_true, if_false, Host.rdR]
  have e2 : hidParseFrame (padTo k (mkReport Spec.ridCmdIn [])) = .error .abort := by
    simp [padTo, mkReport, le, hidParseFrame, fromLe]
  rw [readAny_tr, hI.tr.trans htr]
  show hidRead h1 = _
  rw [hidRead, bind_ok e1, lift_run, e2]

/-- `_send_data` when the data phase failed: by an error `err` raised while sending, or noticed at the final read -/
theorem sendData_fail {h1 h2 h3 : Host} (cs : List Bytes) (hop : h1.opened = true) (sent : Nat) (err : Option HErr)
    (rr : Resp) (hst : rr.status ≠ 0)
    (e1 : sendChunks h1.eda cs 0 h1 = (.ok (sent, err), h2))
    (e2 : (match err with | none => catch_ readAny sendDataHandler | some e => sendDataHandler e) h2 = (.ok (.resp rr), h3)) :
    sendData cs h1 =
      ((if h1.cfg.cmdExc then .error (.cmd rr.status) else .ok false), { h3 with status := rr.status }) := by
  unfold sendData
  rw [bind_ok (requireOpen_ok h1 hop), bind_ok (get_run _)]
  simp only []
  rw [bind_ok e1]
  cases err <;>
  · simp only [] at e2 ⊢
    rw [bind_ok e2]
    simp only []
    rw [bind_ok (setStatus_run _ _)]
    simp only [show rr.status ≠ Spec.stSuccess from hst, ne_eq, not_false_eq_true, if_true]
    cases h1.cfg.cmdExc <;> rfl

theorem sendDataHandler_abort (h : Host) : sendDataHandler .abort h = readAny h := by
  rw [sendDataHandler, if_neg (by decide), if_pos (by decide)]

theorem onData_abort {d : Dev} (c : Bytes) {tag a r fs : Nat} (hph : d.phase = .recv tag a r fs)
    (hab : d.abortAfter = some d.pktCount) :
    d.onData c = some ({ d with phase := .idle }, true, some (genericResp Spec.stAbortDataPhase tag)) := by
  rw [Dev.onData, if_pos ((abortsNow_recv hph).mpr hab), Dev.refuseData, hph]

/-- `_send_data` when the device aborts the data phase at the packet `c` that follows the packets `cs1` -/
theorem sendData_abort {h2 h0 : Host} (hop : h0.opened = true) (mp : Nat) (d1 : Dev) (tag a n : Nat)
    (cs1 : List Bytes) (c : Bytes) (cs2 : List Bytes) (htag : tag < 4294967296)
    (hall : ∀ x ∈ cs1 ++ c :: cs2, x ≠ [] ∧ x.length ≤ mp ∧ x.length < 65536) (hn : cs1.flatten.length < n)
    (hmp1 : d1.maxPacket = mp) (hab : d1.abortAfter = some cs1.length) (hpc : d1.pktCount = 0)
    (him : d1.imageMode = false) (hmem : tag = Spec.cWriteMemory → a + n ≤ d1.mem.length)
    (hI : h2.Is h0 0 { d1 with phase := .recv tag a n 0 } [] []) :
    ∃ h3, sendData (cs1 ++ c :: cs2) h2 =
        ((if h0.cfg.cmdExc then .error (.cmd Spec.stAbortDataPhase) else .ok false), h3) ∧
      h3.Is h0 Spec.stAbortDataPhase { d1.store tag a cs1.flatten cs1.length with phase := .idle } [] [] := by
  have hc := (hall c (List.mem_append_right _ List.mem_cons_self)).2.2
  have hlen2 : ∀ x ∈ cs2, x.length < 65536 := fun x hx =>
    (hall x (List.mem_append_right _ (List.mem_cons_of_mem _ hx))).2.2
  obtain ⟨h3, e3, hI3⟩ := sendChunks_quiet h2.eda tag 0 mp (some cs1.length) (c :: cs2) cs1 _ a n 0 h2 0 0 hI rfl hmp1 hab hpc
    (fun x hx => hall x (List.mem_append_left _ hx)) hn (fun i hi e => by rw [Nat.zero_add] at e; cases e; omega) hmem
  rw [Nat.zero_add, store_setPhase] at hI3
  -- the device when the aborted packet arrives, and after it
  obtain ⟨dk, hdk⟩ : ∃ dk : Dev, dk = { d1.store tag a cs1.flatten cs1.length with
      phase := .recv tag (a + cs1.flatten.length) (n - cs1.flatten.length) 0 } := ⟨_, rfl⟩
  have hI3' : h3.Is h0 0 dk [] [] := by rw [hdk]; exact hI3
  obtain ⟨hs1, hs2, hs3, hs4, -⟩ := store_fields d1 tag a cs1.flatten cs1.length
  have hon := onData_abort (d := dk) c (by rw [hdk]) (by rw [hdk]; exact (hs2.trans hab).trans (congrArg some hs3.symm))
  have hdA : ({ dk with phase := .idle } : Dev) = { d1.store tag a cs1.flatten cs1.length with phase := .idle } := by rw [hdk]
  have hop2 : h2.opened = true := hI.opened.trans hop
  have hne : Spec.stAbortDataPhase ≠ 0 := by decide
  have hlt : Spec.stAbortDataPhase < 4294967296 := by decide
  rw [← hdA, ← show h2.cfg.cmdExc = h0.cfg.cmdExc by rw [hI.cfg]]
  cases htr : h0.cfg.tr with
  | serial =>
    obtain ⟨h4, e4, hI4⟩ := writeData_serial hI3' htr h2.eda c hc hon
    obtain ⟨h5, e5, hI5⟩ := readAny_final (.of_serial htr rfl hI4) rfl hlt htag
    exact ⟨_, sendData_fail _ hop2 _ (some .abort) _ hne (e3.trans (sendChunks_cons_err e4))
      ((sendDataHandler_abort h4).trans e5), hI5.setStatus _⟩
  | hid =>
    cases heda : h2.eda with
    | false =>
      rw [heda] at e3
      obtain ⟨h4, e4, hI4⟩ := writeData_hid_false hI3' htr c hc
      rw [stepHid_data dk c hc, hon] at hI4
      obtain ⟨h5, e5, hI5⟩ := sendChunks_ignored htr { dk with phase := .idle } rfl (by rw [hdA]; exact hs4.trans him) _ cs2 h4
        (0 + (cs1.map List.length).sum + c.length) 0 hlen2 hI4
      obtain ⟨h7, e7, hI7⟩ := readAny_final (.of_hid htr _ (hI5.rdR _)) rfl hlt htag
      exact ⟨_, sendData_fail (h2 := h5) _ hop2 _ none _ hne (by rw [heda, e3, sendChunks_cons_ok e4, e5])
        ((catch_err (readAny_zeroReport _ _ hI5 htr)).trans ((sendDataHandler_abort _).trans e7)), hI7.setStatus _⟩
    | true =>
      rw [heda] at e3
      obtain ⟨h4, e4, hI4⟩ := writeData_hid hI3' htr true c hc
      rw [stepHid_data dk c hc, hon] at hI4
      obtain ⟨h7, e7, hI7⟩ := readAny_final (.of_hid htr _ (hI4.rdR _)) rfl hlt htag
      cases cs2 with
      | nil =>
        exact ⟨_, sendData_fail (h2 := h4) _ hop2 _ none _ hne (by rw [heda, e3, sendChunks_cons_ok e4]; rfl)
          ((catch_err (readAny_zeroReport _ _ hI4 htr)).trans ((sendDataHandler_abort _).trans e7)), hI7.setStatus _⟩
      | cons c2 cs3 =>
        have e5 := writeData_hid_pending _ _ hI4 htr (padTo_isEmpty _ _ _) c2 (hlen2 c2 List.mem_cons_self)
        exact ⟨_, sendData_fail _ hop2 _ (some .abort) _ hne (by rw [heda, e3, sendChunks_cons_ok e4, sendChunks_cons_err e5]; rfl)
          ((sendDataHandler_abort _).trans e7), hI7.setStatus _⟩

theorem split_ne_nil_of_lt {mp : Nat} {l : Bytes} {j : Nat} (h : j < (split mp l).length) : l ≠ [] := by
  intro e; rw [e] at h; exact absurd h (Nat.not_lt_zero _)

theorem split_at (mp : Nat) (l : Bytes) (k : Nat) (hk : k < (split mp l).length) :
    split mp l = (split mp l).take k ++ (split mp l)[k] :: (split mp l).drop (k + 1) := by
  rw [← List.drop_eq_getElem_cons hk, List.take_append_drop]

theorem split_take_lt (mp : Nat) (hmp : 0 < mp) (l : Bytes) (k : Nat) (hk : k < (split mp l).length) :
    ((split mp l).take k).flatten.length < l.length := by
  have h := congrArg List.length (split_flatten' mp hmp l)
  rw [split_at mp l k hk, List.flatten_append, List.flatten_cons, List.length_append, List.length_append] at h
  have := List.length_pos_iff.mpr (split_chunks' mp hmp l _ (List.getElem_mem hk)).2
  omega

/-- `dataOutCmd` against a device that aborts the data phase at its `(k+1)`-th packet -/
theorem dataOutCmd_abort {h : Host} {d : Dev} (hs : Synced h d) (hmp : 0 < d.maxPacket ∧ d.maxPacket < 65536)
    (hmps : h.mps = some d.maxPacket)
    {tag : Nat} {params : List Nat} (data : Bytes) (hwf : (⟨tag, Spec.flagHasDataPhase, params⟩ : CmdPkt).WF)
    {d1 : Dev} {a k : Nat}
    (hexec : d.exec ⟨tag, Spec.flagHasDataPhase, params⟩ = .fromHost d1 (genericResp 0 tag) a data.length 0)
    (hmp1 : d1.maxPacket = d.maxPacket) (hab : d1.abortAfter = some k)
    (hpc : d1.pktCount = 0) (him : d1.imageMode = false) (hk : k < (split d.maxPacket data).length)
    (hmem : tag = Spec.cWriteMemory → a + data.length ≤ d1.mem.length) :
    ∃ h3, dataOutCmd tag params data h = (specFail h.cfg.cmdExc Spec.stAbortDataPhase (.bool false), h3) ∧
      h3.Is h Spec.stAbortDataPhase
        { d1.store tag a ((split d.maxPacket data).take k).flatten k with phase := .idle } [] [] := by
  have htag : tag < 4294967296 := by have := hwf.tag; simp at this; omega
  obtain ⟨h2, e2, hmid⟩ := processCmd_fromHost hs.is hs.opened _ hwf (genericResp_parses 0 tag (by omega) htag) hexec
  rw [cmdResult_ok _ _ rfl] at e2
  rw [if_neg (fun e => split_ne_nil_of_lt hk (List.length_eq_zero_iff.mp e))] at hmid
  have hall := split_chunks_lt d.maxPacket hmp.1 hmp.2 data
  rw [split_at _ data k hk] at hall
  obtain ⟨h3, e3, hI3⟩ := sendData_abort hs.opened d.maxPacket d1 tag a data.length _ _ _ htag hall
    (split_take_lt _ hmp.1 data k hk) hmp1 (by rw [hab, List.length_take, Nat.min_eq_left (Nat.le_of_lt hk)]) hpc him hmem hmid
  rw [← split_at _ data k hk] at e3
  rw [List.length_take, Nat.min_eq_left (Nat.le_of_lt hk)] at hI3
  refine ⟨h3, ?_, hI3⟩
  rw [dataOutCmd, specFail, bind_ok (splitData_ok data h d.maxPacket hmps hmp.1), bind_ok e2]
  simp only [if_true]
  cases hce : h.cfg.cmdExc <;> rw [hce] at e3
  · rw [bind_ok e3]; rfl
  · rw [bind_err e3]; rfl

set_option linter.unusedVariables false in
/-- serial link: ABORT frame instead of the ACK of packet `k+1`; USB-HID: a zero-length report, noticed before the next
    packet (`check_errors=True`) or at the final read -/
theorem abort_refines (h : Host) (d d' : Dev) (op : Op) (res : Except HErr Val) (st k : Nat)
    (hs : Synced h d) (hmp : 0 < d.maxPacket ∧ d.maxPacket < 65536) (hmem : d.mem.length < 4294967296)
    (hnf : d.faults = []) (hab : d.abortAfter = some k) (himg : d.imageMode = false)
    (hmps : h.mps = some d.maxPacket) (heda : h.eda = false) (hargs : op.argsOK)
    (hspec : specAbort h.cfg.cmdExc d k op = some (d', res, st)) :
    ∃ h', runOp op h = (res, h') ∧ Synced h' d' ∧ h'.status = st ∧ h'.cfg = h.cfg ∧ h'.mps = h.mps ∧
      h'.eda = (match op with | .receiveSbFile _ c => h.cfg.cmdExc && c | _ => false) := by
  cases op with
  | writeMemory a data m =>
    obtain ⟨ha, hn, hm⟩ := hargs
    dsimp only [specAbort] at hspec
    split at hspec <;> rename_i hc
    · cases hspec
      obtain ⟨h3, e3, hI3⟩ := dataOutCmd_abort hs hmp hmps data
        (wf_mk (tag := Spec.cWriteMemory) (words3 ⟨ha, hn, clampMemId_lt hm⟩))
        ((exec_writeMemory d hnf a data.length (clampMemId m)).trans (if_pos hc.1)) rfl hab rfl himg hc.2 (fun _ => hc.1)
      exact Refines.of_run hs heda ⟨h3, e3, hI3⟩ rfl hs.idle
    · cases hspec
  | kpWriteKeyStore data =>
    dsimp only [specAbort] at hspec
    split at hspec <;> rename_i hc
    · cases hspec
      obtain ⟨h3, e3, hI3⟩ := dataOutCmd_abort hs hmp hmps data
        (wf_mk (tag := Spec.cKeyProvisioning) (words_cons (by decide) (words_cons (by decide) (words1 hargs))))
        (exec_kpData d hnf Spec.kpWriteKeyStore 0 data.length (.inr rfl)) rfl hab rfl himg hc (fun e => absurd e (by decide))
      exact Refines.of_run hs heda ⟨h3, e3, hI3⟩ rfl hs.idle
    · cases hspec
  | receiveSbFile data c =>
    have hn : data.length < 4294967296 := hargs
    dsimp only [specAbort] at hspec
    split at hspec <;> rename_i hc
    · cases hspec
      obtain ⟨h2, e2, hmid⟩ := processCmd_fromHost hs.is hs.opened _
        (wf_mk (tag := Spec.cReceiveSbFile) (fl := Spec.flagHasDataPhase) (words1 hn))
        (genericResp_parses 0 Spec.cReceiveSbFile (by omega) (by decide)) (exec_receiveSbFile d hnf data.length)
      rw [cmdResult_ok _ _ rfl] at e2
      rw [if_neg (fun e => split_ne_nil_of_lt hc (List.length_eq_zero_iff.mp e))] at hmid
      have hall := split_chunks_lt d.maxPacket hmp.1 hmp.2 data
      rw [split_at _ data k hc] at hall
      obtain ⟨h3, e3, hI3⟩ := sendData_abort (h0 := { h with eda := c }) hs.opened d.maxPacket { d.next with sb := [] }
        Spec.cReceiveSbFile 0 data.length _ _ _ (by decide) hall (split_take_lt _ hmp.1 data k hc) rfl
        (by rw [List.length_take, Nat.min_eq_left (Nat.le_of_lt hc)]; exact hab) rfl himg (fun e => absurd e (by decide))
        (hmid.setEda c)
      rw [← split_at _ data k hc] at e3
      rw [List.length_take, Nat.min_eq_left (Nat.le_of_lt hc)] at hI3
      have hrun : runOp (.receiveSbFile data c) h =
          (do modify (fun h => { h with eda := c })
              let ok ← sendData (split d.maxPacket data)
              modify (fun h => { h with eda := false })
              pure (.bool ok) : H Val) h2 := by
        show receiveSbFile data c h = _
        rw [receiveSbFile, bind_ok (splitData_ok data h d.maxPacket hmps hmp.1), bind_ok e2]
        rfl
      unfold specFail
      by_cases hce : h.cfg.cmdExc = true
      · simp only [hce, if_true, Bool.true_and]
        exact ⟨h3, hrun.trans (by rw [bind_ok (modify_run _ _)]; exact bind_err (e3.trans (congrArg (·, h3) (if_pos hce)))),
          hI3.synced (h := { h with eda := c }) ⟨hs.peer, hs.idle, hs.rxB, hs.rxR, hs.opened⟩ rfl hs.idle⟩
      · simp only [Bool.eq_false_iff.mpr hce, Bool.false_eq_true, if_false, Bool.false_and]
        exact Refines.of_run hs heda ⟨{ h3 with eda := false }, hrun.trans (by
          rw [bind_ok (modify_run _ _), bind_ok (e3.trans (congrArg (·, h3) (if_neg hce))), bind_ok (modify_run _ _)]; rfl),
          { hI3 with eda := heda.symm }⟩ rfl hs.idle
    · cases hspec
  | _ => cases hspec

end SpsdkVerif.Mboot
