/-
C01, configuration path: what `load_from_config` makes of the TrustZone keys (`enableTrustZone`, `trustZonePresetFile`).
The loaders' decisions (`tzLoad`) and the table "which mixin's loader decides" (`tzConfigLoader`) are GENERATED from the
source (Generated/MbiClasses.lean); here they are compared with what the configuration schema says the keys request
(`tzRequestedTag`, Model/Mbi.lean), and carried through the export to the TrustZone-type bits of the image.
-/
import SpsdkVerif.Proofs.MbiPlain
import SpsdkVerif.Proofs.MbiSignedV1
import SpsdkVerif.Proofs.MbiSignedV21
import SpsdkVerif.Proofs.MbiEncrypted

namespace SpsdkVerif.Mbi
open SpsdkVerif SpsdkVerif.Misc SpsdkVerif.Crypto
open SpsdkVerif.Generated.IvtConsts
open SpsdkVerif.Generated.MbiClasses (MixinName Method Attr TzChoice tzLoad tzConfigLoader)

/-- the two loaders decide as the schema describes the keys: optional TrustZone is DISABLED unless `enableTrustZone` is true
    (a preset file named next to `enableTrustZone: false` does not switch it on), then the preset file if one is named, else
    the default; mandatory TrustZone: the preset file if one is named, else the default -/
theorem tzLoad_spec (en pf : Bool) :
    tzLoad .Mbi_MixinTrustZone en pf = some (if en then (if pf then .preset else .enabled) else .disabled)
    ∧ tzLoad .Mbi_MixinTrustZoneMandatory en pf = some (if pf then .preset else .enabled) := by
  cases en <;> cases pf <;> decide

/-- every class of the database: classes that list the optional mixin itself use its loader, the other classes with a TrustZone
    setting use the mandatory loader (directly or through the manifest mixins), classes without TrustZone read no key -/
theorem tzLoader_classes : ∀ c ∈ allClasses,
    (c.mixins.contains .Mbi_MixinTrustZone = true → c.tzLoader = some .Mbi_MixinTrustZone)
    ∧ (c.mixins.contains .Mbi_MixinTrustZone = false → c.hasTrustZone = true → c.tzLoader = some .Mbi_MixinTrustZoneMandatory)
    ∧ (c.hasTrustZone = false → c.tzLoader = none) := by
  decide +kernel

theorem tzFromBinary_ok {c : Cls} {raw : Bytes} {t : TzCfg} (h : tzFromBinary c raw = .ok t) :
    t = .custom (raw.take c.tzSize) := by
  unfold tzFromBinary at h
  split at h
  · cases h
  · split at h
    · cases h
    · cases h; rfl

theorem presetTruthy_true {k : TzKeys} (h : k.presetTruthy = true) : ∃ d, k.preset = some (some d) := by
  unfold TzKeys.presetTruthy at h
  split at h
  · exact ⟨_, by assumption⟩
  · cases h

/-- the `preset` branch of `tzOfConfig` -/
theorem tzOfConfig_preset_branch {c : Cls} {k : TzKeys} {t : TzCfg} (hp : k.presetTruthy = true)
    (h : (match k.preset with
          | some (some d) => (tzFromBinary c d).map some
          | _ => (.error .other : PyRes (Option TzCfg))) = .ok (some t)) :
    ∃ d, k.preset = some (some d) ∧ t = .custom (d.take c.tzSize) := by
  obtain ⟨d, hd⟩ := presetTruthy_true hp
  refine ⟨d, hd, ?_⟩
  rw [hd] at h
  simp only at h
  cases hb : tzFromBinary c d with
  | error e => rw [hb] at h; cases h
  | ok t' =>
    rw [hb] at h
    have : t' = t := by
      have h' : (Except.ok (some t') : PyRes (Option TzCfg)) = .ok (some t) := h
      cases h'; rfl
    subst this
    exact tzFromBinary_ok hb

/-- what `load_from_config` sets is what the keys request: the type, and for a preset file its content -/
theorem tzOfConfig_requested (c : Cls) (k : TzKeys) (t : TzCfg)
    (hl : c.tzLoader = some .Mbi_MixinTrustZone ∨ c.tzLoader = some .Mbi_MixinTrustZoneMandatory)
    (h : tzOfConfig c k = .ok (some t)) :
    t.tag = tzRequestedTag (c.tzLoader == some .Mbi_MixinTrustZone) k
    ∧ (t.tag = tzCustom → ∃ d, k.preset = some (some d) ∧ t = .custom (d.take c.tzSize)) := by
  obtain ⟨s1, s2⟩ := tzLoad_spec k.enableTruthy k.presetTruthy
  unfold tzOfConfig at h
  rcases hl with hl | hl
  · rw [hl] at h ⊢
    simp only [s1] at h
    have hb : ((some MixinName.Mbi_MixinTrustZone : Option MixinName) == some .Mbi_MixinTrustZone) = true := by decide
    rw [hb]
    unfold tzRequestedTag
    cases he : k.enableTruthy <;> cases hp : k.presetTruthy <;>
      simp only [he, hp, Bool.false_eq_true, ↓reduceIte] at h
    · cases h; exact ⟨by decide, fun hc => absurd hc (by decide)⟩
    · cases h; exact ⟨by decide, fun hc => absurd hc (by decide)⟩
    · cases h; exact ⟨by decide, fun hc => absurd hc (by decide)⟩
    · obtain ⟨d, hd, ht⟩ := tzOfConfig_preset_branch hp h
      subst ht
      exact ⟨rfl, fun _ => ⟨d, hd, rfl⟩⟩
  · rw [hl] at h ⊢
    simp only [s2] at h
    have hb : ((some MixinName.Mbi_MixinTrustZoneMandatory : Option MixinName) == some .Mbi_MixinTrustZone) = false := by
      decide
    rw [hb]
    unfold tzRequestedTag
    cases hp : k.presetTruthy <;>
      simp only [hp, Bool.false_eq_true, ↓reduceIte] at h
    · cases h; exact ⟨by simp [TzCfg.tag], fun hc => absurd hc (by decide)⟩
    · obtain ⟨d, hd, ht⟩ := tzOfConfig_preset_branch hp h
      subst ht
      exact ⟨rfl, fun _ => ⟨d, hd, rfl⟩⟩

/-- the exported image exists and its flag word is the flag word of the settings (every family) -/
theorem export_flags {co : CryptoOps} {env : Env} {c : Cls} {cfg : Cfg} {signer : Signer}
    (h : Hyp co env c cfg signer) :
    ∃ e, exportImage co c cfg signer = .ok e ∧ rd32 e ivtImageFlagsOffset = flagsOf c cfg := by
  rcases family_cases h with hf | hf | hf | hf
  · obtain ⟨e, he, _, hfl, _⟩ := header_describes_plain h hf; exact ⟨e, he, hfl⟩
  · obtain ⟨e, he, _, hfl, _⟩ := header_describes_signedV1 h hf; exact ⟨e, he, hfl⟩
  · obtain ⟨e, he, _, hfl, _⟩ := header_describes_signedV21 h hf; exact ⟨e, he, hfl⟩
  · obtain ⟨e, he, _, hfl, _⟩ := header_describes_encrypted h hf; exact ⟨e, he, hfl⟩

/-- END TO END: the image exported for the settings `load_from_config` derives from the configuration carries, in the
    TrustZone-type bits of the flag word, exactly what the configuration requests -/
theorem config_tz_in_image {co : CryptoOps} {env : Env} {c : Cls} {cfg : Cfg} {signer : Signer}
    (h : Hyp co env c cfg signer) (htz : c.hasTrustZone = true) (k : TzKeys)
    (hl : c.tzLoader = some .Mbi_MixinTrustZone ∨ c.tzLoader = some .Mbi_MixinTrustZoneMandatory)
    (hk : tzOfConfig c k = .ok (some cfg.tz)) :
    ∃ e, exportImage co c cfg signer = .ok e
      ∧ getTzType (rd32 e ivtImageFlagsOffset) = tzRequestedTag (c.tzLoader == some .Mbi_MixinTrustZone) k
      ∧ (cfg.tz.tag = tzCustom → ∃ d, k.preset = some (some d) ∧ cfg.tz.bytes = d.take c.tzSize) := by
  obtain ⟨e, he, hfl⟩ := export_flags h
  obtain ⟨r1, r2⟩ := tzOfConfig_requested c k cfg.tz hl hk
  refine ⟨e, he, ?_, ?_⟩
  · rw [hfl, getTzType_flagsOf h, htz, if_pos rfl, r1]
  · intro hc
    obtain ⟨d, hd, ht⟩ := r2 hc
    exact ⟨d, hd, by rw [ht]; rfl⟩

end SpsdkVerif.Mbi
