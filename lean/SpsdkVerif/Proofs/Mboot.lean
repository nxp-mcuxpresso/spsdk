/- The wire formats of Model/Mboot.lean: little-endian integers, CRC-16, frame / report / command / response codecs,
   splitting into packets. -/
import SpsdkVerif.Model.Mboot

namespace SpsdkVerif.Mboot
open SpsdkVerif

theorem toNat_ofNat8 (x : Nat) : (UInt8.ofNat x).toNat = x % 256 := by
  simp [UInt8.toNat_ofNat']

theorem toNat_ofNat8_lt {x : Nat} (h : x < 256) : (UInt8.ofNat x).toNat = x := by
  rw [toNat_ofNat8, Nat.mod_eq_of_lt h]

theorem xor_cancel_right {a b c : Nat} (h : a ^^^ c = b ^^^ c) : a = b := by
  have := congrArg (· ^^^ c) h
  simpa [Nat.xor_assoc, Nat.xor_self, Nat.xor_zero] using this

theorem xor_cancel_left {a b c : Nat} (h : c ^^^ a = c ^^^ b) : a = b := by
  rw [Nat.xor_comm c a, Nat.xor_comm c b] at h
  exact xor_cancel_right h

@[simp] theorem le_length (n v : Nat) : (le n v).length = n := by
  induction n generalizing v with
  | zero => simp [le]
  | succ n ih => simp [le, ih]

theorem fromLe_le (n v : Nat) : fromLe (le n v) = v % 256 ^ n := by
  induction n generalizing v with
  | zero => simp [le, fromLe, Nat.mod_one]
  | succ n ih =>
    simp only [le, fromLe, ih, toNat_ofNat8]
    rw [Nat.pow_succ, Nat.mul_comm (256 ^ n) 256, Nat.mod_mul, Nat.mod_mod]

theorem fromLe_le_of_lt (n v : Nat) (h : v < 256 ^ n) : fromLe (le n v) = v := by
  rw [fromLe_le, Nat.mod_eq_of_lt h]

theorem fromLe_lt (b : Bytes) : fromLe b < 256 ^ b.length := by
  induction b with
  | nil => simp [fromLe]
  | cons x r ih =>
    simp only [fromLe, List.length_cons, Nat.pow_succ]
    have := x.toNat_lt
    omega

theorem le_fromLe (b : Bytes) : le b.length (fromLe b) = b := by
  induction b with
  | nil => rfl
  | cons x r ih =>
    have hx := x.toNat_lt
    rw [List.length_cons, fromLe, le, Nat.add_mul_mod_self_left, Nat.mod_eq_of_lt hx,
      Nat.add_mul_div_left _ _ (by decide), Nat.div_eq_of_lt hx, Nat.zero_add, ih, UInt8.ofNat_toNat]

theorem le_injective (n a b : Nat) (ha : a < 256 ^ n) (hb : b < 256 ^ n) (h : le n a = le n b) : a = b := by
  rw [← fromLe_le_of_lt n a ha, ← fromLe_le_of_lt n b hb, h]

@[simp] theorem take_le_self (n v : Nat) : (le n v).take n = le n v :=
  List.take_of_length_le (by simp)

@[simp] theorem drop_le_self (n v : Nat) : (le n v).drop n = [] :=
  List.drop_of_length_le (by simp)

@[simp] theorem take_le_append (n v : Nat) (r : Bytes) : (le n v ++ r).take n = le n v := by
  rw [List.take_append_of_le_length (by simp)]; simp [List.take_of_length_le]

@[simp] theorem drop_le_append (n v : Nat) (r : Bytes) : (le n v ++ r).drop n = r := by
  rw [List.drop_append_of_le_length (by simp)]; simp [List.drop_of_length_le]

theorem le2_cases (v : Nat) : le 2 v = [UInt8.ofNat (v % 256), UInt8.ofNat (v / 256 % 256)] := by
  simp [le]

theorem u32s_flatMap_le (ps : List Nat) (h : ∀ p ∈ ps, p < 4294967296) : u32s ps.length (ps.flatMap (le 4)) = ps := by
  induction ps with
  | nil => rfl
  | cons p r ih =>
    rw [List.length_cons, List.flatMap_cons, u32s, take_le_append, drop_le_append,
      fromLe_le_of_lt 4 p (h p List.mem_cons_self), ih fun q hq => h q (List.mem_cons_of_mem _ hq)]

theorem flatMap_le4_length (ps : List Nat) : (ps.flatMap (le 4)).length = 4 * ps.length := by
  induction ps with
  | nil => rfl
  | cons p r ih => rw [List.flatMap_cons, List.length_append, le_length, ih, List.length_cons]; omega

theorem xor_lt_65536 {a b : Nat} (ha : a < 65536) (hb : b < 65536) : a ^^^ b < 65536 :=
  Nat.xor_lt_two_pow (n := 16) ha hb

theorem crcBit_lt {s : Nat} (h : s < 65536) : crcBit s < 65536 := by
  unfold crcBit
  split
  · exact xor_lt_65536 (by omega) (by decide)
  · omega

theorem xor_poly_odd (x : Nat) : (x * 2 ^^^ Spec.crcPoly) % 2 = 1 := by
  rw [Nat.xor_mod_two_eq_one]; simp [Spec.crcPoly]

/-- the bit shifted out decides whether the (odd) polynomial is xored in, so the parity of the result tells the branch -/
theorem crcBit_inj {a b : Nat} (ha : a < 65536) (hb : b < 65536) (h : crcBit a = crcBit b) : a = b := by
  unfold crcBit at h
  split at h <;> split at h
  · have := xor_cancel_right h; omega
  · have := xor_poly_odd (a - 32768); omega
  · have := xor_poly_odd (b - 32768); omega
  · omega

theorem byte_hi (b : UInt8) : b.toNat * 256 < 65536 := by have := b.toNat_lt; omega

theorem repeat_crcBit_lt (n : Nat) {a : Nat} (ha : a < 65536) : Nat.repeat crcBit n a < 65536 := by
  induction n with
  | zero => exact ha
  | succ n ih => exact crcBit_lt ih

theorem repeat_crcBit_inj (n : Nat) {a b : Nat} (ha : a < 65536) (hb : b < 65536)
    (h : Nat.repeat crcBit n a = Nat.repeat crcBit n b) : a = b := by
  induction n with
  | zero => exact h
  | succ n ih => exact ih (crcBit_inj (repeat_crcBit_lt n ha) (repeat_crcBit_lt n hb) h)

theorem crcByte_eq (s : Nat) (b : UInt8) : crcByte s b = Nat.repeat crcBit 8 (s ^^^ (b.toNat * 256)) := by
  simp only [crcByte, Nat.repeat]

theorem crcByte_lt {s : Nat} (b : UInt8) (h : s < 65536) : crcByte s b < 65536 := by
  rw [crcByte_eq]; exact repeat_crcBit_lt 8 (xor_lt_65536 h (byte_hi b))

theorem crcByte_inj {s t : Nat} {x y : UInt8} (hs : s < 65536) (ht : t < 65536) (h : crcByte s x = crcByte t y) :
    s ^^^ (x.toNat * 256) = t ^^^ (y.toNat * 256) := by
  rw [crcByte_eq, crcByte_eq] at h
  exact repeat_crcBit_inj 8 (xor_lt_65536 hs (byte_hi x)) (xor_lt_65536 ht (byte_hi y)) h

theorem foldl_crcByte_lt (d : Bytes) {s : Nat} (h : s < 65536) : d.foldl crcByte s < 65536 := by
  induction d generalizing s with
  | nil => exact h
  | cons x r ih => rw [List.foldl_cons]; exact ih (crcByte_lt x h)

theorem foldl_crcByte_inj (d : Bytes) {s t : Nat} (hs : s < 65536) (ht : t < 65536)
    (h : d.foldl crcByte s = d.foldl crcByte t) : s = t := by
  induction d generalizing s t with
  | nil => exact h
  | cons x r ih =>
    rw [List.foldl_cons, List.foldl_cons] at h
    exact xor_cancel_right (crcByte_inj hs ht (ih (crcByte_lt x hs) (crcByte_lt x ht) h))

theorem crc16_lt (d : Bytes) : crc16 d < 65536 := by
  unfold crc16
  exact foldl_crcByte_lt d (by omega)

/-- every step of the register is injective (`crcBit_inj`), so the one differing byte still shows after the suffix -/
theorem crc16_single_byte_ne (pre suf : Bytes) (x y : UInt8) (h : x ≠ y) :
    crc16 (pre ++ x :: suf) ≠ crc16 (pre ++ y :: suf) := by
  unfold crc16
  simp only [List.foldl_append, List.foldl_cons]
  intro e
  have hs : pre.foldl crcByte 0 < 65536 := foldl_crcByte_lt pre (by omega)
  have e2 := xor_cancel_left (crcByte_inj hs hs (foldl_crcByte_inj suf (crcByte_lt x hs) (crcByte_lt y hs) e))
  exact h (UInt8.toNat_inj.mp (by omega))

theorem startByte_toNat : (UInt8.ofNat Spec.startByte).toNat = Spec.startByte := by decide

theorem mkFrame_length (t : Nat) (p : Bytes) : (mkFrame t p).length = 6 + p.length := by
  simp [mkFrame]; omega

theorem frame_roundtrip' (t : Nat) (p rest : Bytes) (ht : t < 256) (hp : p.length < 65536) :
    parseFrame (mkFrame t p ++ rest) = .ok (t, p, rest) := by
  have hcrc := crc16_lt (crcInput t p)
  have h1 : fromLe (le 2 p.length) = p.length := fromLe_le_of_lt 2 _ (by simpa using hp)
  have h2 : fromLe (le 2 (frameCrc t p)) = frameCrc t p := fromLe_le_of_lt 2 _ (by simpa [frameCrc] using hcrc)
  rw [le2_cases] at h1 h2
  simp only [mkFrame, le2_cases, List.cons_append, List.nil_append, parseFrame]
  have e1 : (UInt8.ofNat t).toNat = t := toNat_ofNat8_lt ht
  simp only [startByte_toNat, e1, h1, h2, ne_eq, not_true_eq_false, if_false, List.length_append]
  simp

theorem hid_roundtrip' (rid : Nat) (p pad : Bytes) (hr : rid < 256) (hp : p.length < 65536) :
    parseReport (mkReport rid p ++ pad) = some (rid, p) := by
  have h1 : fromLe (le 2 p.length) = p.length := fromLe_le_of_lt 2 _ (by simpa using hp)
  rw [le2_cases] at h1
  simp only [mkReport, le2_cases, List.cons_append, List.nil_append, parseReport, h1]
  have e1 : (UInt8.ofNat rid).toNat = rid := toNat_ofNat8_lt hr
  simp [e1]

structure CmdPkt.WF (p : CmdPkt) : Prop where
  tag : p.tag < 256
  flags : p.flags < 256
  count : p.params.length < 256
  params : ∀ v ∈ p.params, v < 4294967296

theorem cmd_roundtrip' (p : CmdPkt) (h : p.WF) : parseCmd p.encode = some p := by
  obtain ⟨tag, flags, params⟩ := p
  simp only [CmdPkt.encode, List.cons_append, List.nil_append, parseCmd, toNat_ofNat8_lt h.tag, toNat_ofNat8_lt h.flags,
    toNat_ofNat8_lt h.count, u32s_flatMap_le params h.params, flatMap_le4_length, if_true]

theorem toBytes_ok (p : CmdPkt) (h : p.WF) : p.toBytes = .ok p.encode := by
  have h4 : p.params.any (fun v => decide (4294967296 ≤ v)) = false :=
    List.any_eq_false.mpr fun v hv => by have := h.params v hv; simp; omega
  have := h.tag; have := h.flags; have := h.count
  rw [CmdPkt.toBytes, if_neg (by rw [h4]; simp; omega)]

theorem encode_length (p : CmdPkt) : p.encode.length = 4 + 4 * p.params.length := by
  simp only [CmdPkt.encode, List.length_append, List.length_cons, List.length_nil, flatMap_le4_length]

theorem genericResp_parse (st tag : Nat) (h1 : st < 4294967296) (h2 : tag < 4294967296) :
    parseCmdResponse (genericResp st tag) =
      .ok { kind := .generic, tag := Spec.rGeneric, pc := 2, status := st, cmdTag := tag } := by
  simp [genericResp, parseCmdResponse, fromLe_le_of_lt 4 st h1, fromLe_le_of_lt 4 tag h2]
  rfl

/-- the responses that announce a data phase of `len` bytes -/
theorem lenResp_parse (t st len : Nat) (h1 : st < 4294967296) (h2 : len < 4294967296)
    (ht : t = Spec.rReadMemory ∨ t = Spec.rFlashReadResource ∨ t = Spec.rKeyProv) :
    parseCmdResponse (lenResp t st len) = .ok { kind := kindOf t, tag := t, pc := 2, status := st, length := len } := by
  simp [lenResp, parseCmdResponse, fromLe_le_of_lt 4 st h1, fromLe_le_of_lt 4 len h2]
  rcases ht with rfl | rfl | rfl <;> rfl

theorem readMemResp_parse (st len : Nat) (h1 : st < 4294967296) (h2 : len < 4294967296) :
    parseCmdResponse (readMemResp st len) =
      .ok { kind := .readMemory, tag := Spec.rReadMemory, pc := 2, status := st, length := len } :=
  lenResp_parse _ st len h1 h2 (.inl rfl)

theorem getPropResp_parse (st : Nat) (vals : List Nat) (h1 : st < 4294967296) (hv : ∀ v ∈ vals, v < 4294967296)
    (hn : vals.length < 255) :
    parseCmdResponse (getPropResp st vals) =
      .ok { kind := .getProperty, tag := Spec.rGetProperty, pc := 1 + vals.length, status := st, values := vals } := by
  have k : kindOf (UInt8.ofNat Spec.rGetProperty).toNat = .getProperty := by decide
  have c : ¬ (4 + 4 * vals.length < 4 * (1 + vals.length) ∨ 1 + vals.length = 0) := by omega
  simp only [getPropResp, List.cons_append, List.nil_append, parseCmdResponse, k, toNat_ofNat8_lt (show 1 + vals.length < 256 by omega),
    List.length_append, le_length, flatMap_le4_length, take_le_append, drop_le_append, fromLe_le_of_lt 4 st h1,
    Nat.add_sub_cancel_left, u32s_flatMap_le vals hv, if_neg c, if_neg (show ¬ 4 + 4 * vals.length < 4 by omega)]
  rfl

theorem readOnceResp_parse (st : Nat) (vals : List Nat) (h1 : st < 4294967296) (hv : ∀ v ∈ vals, v < 4294967296)
    (hn : vals.length < 254) (hpos : 0 < vals.length) :
    parseCmdResponse (readOnceResp st (4 * vals.length) vals) =
      .ok { kind := .flashReadOnce, tag := Spec.rFlashReadOnce, pc := 2 + vals.length, status := st,
            length := 4 * vals.length, values := vals, data := vals.flatMap (le 4) } := by
  have k : kindOf (UInt8.ofNat Spec.rFlashReadOnce).toNat = .flashReadOnce := by decide
  have c : ¬ (4 + (4 + 4 * vals.length) < 4 * (2 + vals.length) ∨ 2 + vals.length < 2) := by omega
  have e8 : ∀ x : Bytes, (le 4 st ++ (le 4 (4 * vals.length) ++ x)).drop 8 = x := fun x => by
    rw [show 8 = 4 + 4 from rfl, ← List.drop_drop, drop_le_append, drop_le_append]
  simp only [readOnceResp, List.cons_append, List.nil_append, List.append_assoc, parseCmdResponse, k,
    toNat_ofNat8_lt (show 2 + vals.length < 256 by omega), List.length_append, le_length, flatMap_le4_length,
    take_le_append, drop_le_append, e8, fromLe_le_of_lt 4 st h1, fromLe_le_of_lt 4 (4 * vals.length) (by omega),
    Nat.add_sub_cancel_left, u32s_flatMap_le vals hv, if_neg c, if_neg (show ¬ 4 + (4 + 4 * vals.length) < 4 by omega),
    if_pos (show 0 < 4 * vals.length by omega)]
  rw [← flatMap_le4_length, List.take_length]
  rfl

theorem splitN_nil (n f : Nat) : splitN n f [] = [] := by cases f <;> rfl

theorem splitN_succ (n f : Nat) {l : Bytes} (hl : l ≠ []) : splitN n (f + 1) l = l.take n :: splitN n f (l.drop n) := by
  rw [splitN, if_neg (by simpa using hl)]

theorem splitN_spec (n : Nat) (hn : 0 < n) (f : Nat) (l : Bytes) (h : l.length ≤ f) :
    (splitN n f l).flatten = l ∧ (∀ c ∈ splitN n f l, c.length ≤ n ∧ c ≠ []) ∧ (splitN n f l).length ≤ l.length := by
  induction f generalizing l with
  | zero => rw [List.length_eq_zero_iff.mp (Nat.le_zero.mp h)]; simp [splitN]
  | succ f ih =>
    by_cases hl : l = []
    · rw [hl, splitN_nil]; simp
    · have hpos := List.length_pos_iff.mpr hl
      obtain ⟨h1, h2, h3⟩ := ih (l.drop n) (by rw [List.length_drop]; omega)
      rw [splitN_succ n f hl]
      refine ⟨by rw [List.flatten_cons, h1, List.take_append_drop], ?_, ?_⟩
      · intro c hc
        rcases List.mem_cons.mp hc with rfl | hc
        · exact ⟨List.length_take_le _ _, fun e => hl (by simpa [Nat.ne_of_gt hn] using e)⟩
        · exact h2 c hc
      · rw [List.length_cons]; rw [List.length_drop] at h3; omega

theorem split_flatten' (n : Nat) (hn : 0 < n) (l : Bytes) : (split n l).flatten = l :=
  (splitN_spec n hn _ l (Nat.le_refl _)).1

theorem split_chunks' (n : Nat) (hn : 0 < n) (l : Bytes) : ∀ c ∈ split n l, c.length ≤ n ∧ c ≠ [] :=
  (splitN_spec n hn _ l (Nat.le_refl _)).2.1

theorem split_length_le (n : Nat) (hn : 0 < n) (l : Bytes) : (split n l).length ≤ l.length :=
  (splitN_spec n hn _ l (Nat.le_refl _)).2.2

theorem split_nil (n : Nat) : split n [] = [] := rfl

theorem splitN_fuel (n : Nat) (hn : 0 < n) (f : Nat) (l : Bytes) (h : l.length ≤ f) : splitN n f l = split n l := by
  induction f using Nat.strongRecOn generalizing l with
  | _ f ih =>
    by_cases hl : l = []
    · rw [hl, splitN_nil]; rfl
    · have hpos := List.length_pos_iff.mpr hl
      obtain ⟨g, rfl⟩ : ∃ g, f = g + 1 := ⟨f - 1, by omega⟩
      obtain ⟨m, hm⟩ : ∃ m, l.length = m + 1 := ⟨l.length - 1, by omega⟩
      have hd : (l.drop n).length ≤ m := by rw [List.length_drop]; omega
      rw [split, hm, splitN_succ n g hl, splitN_succ n m hl, ih g (Nat.lt_succ_self g) _ (by omega),
        ih m (by omega) _ hd]

theorem split_cons (n : Nat) (hn : 0 < n) (l : Bytes) (hl : l ≠ []) :
    split n l = l.take n :: split n (l.drop n) := by
  obtain ⟨m, hm⟩ : ∃ m, l.length = m + 1 := ⟨l.length - 1, by have := List.length_pos_iff.mpr hl; omega⟩
  rw [split, hm, splitN_succ n m hl, splitN_fuel n hn m _ (by rw [List.length_drop]; omega)]

end SpsdkVerif.Mboot
