/- The exported FILE against the independent checker (Spec/AhabRom.lean), entry level: where the `BinaryImage` tree (C16) puts
   containers and images, the zero fill in front of the first image, what `update_fields` establishes for every entry (and that a second call changes
   nothing, Model/AhabResign.lean), the entry check, and what an accepting entry check implies. -/
import SpsdkVerif.Model.AhabResign
import SpsdkVerif.Proofs.Ahab
import SpsdkVerif.Proofs.Crypto
import SpsdkVerif.Properties.C16
import SpsdkVerif.Crypto.Break

namespace SpsdkVerif.Ahab
open SpsdkVerif SpsdkVerif.Misc
open SpsdkVerif.Generated
open SpsdkVerif.Spec.AhabRom (slice rd checkEntry looksLikeContainer Params ImageRep paramsV1 paramsV2 hashOfTag padHash)
open SpsdkVerif.Crypto (CryptoOps CryptoLaws cbcDec)

def romParams (v : Ver) (maxC maxI : Nat) : Params :=
  match v with | .v1 => paramsV1 maxC maxI | .v2 => paramsV2 maxC maxI

theorem romParams_bits (v : Ver) (maxC maxI : Nat) :
    (romParams v maxC maxI).encBit = v.encOff ∧ (romParams v maxC maxI).hashBits = v.hashSize ∧ v.hashOff = 8 ∧ v.encSize = 1 := by
  cases v <;> exact ⟨rfl, rfl, rfl, rfl⟩

theorem romParams_size (v : Ver) (maxC maxI : Nat) :
    (romParams v maxC maxI).containerSize = v.containerSize ∧ (romParams v maxC maxI).version = v.containerVersion ∧
    (romParams v maxC maxI).sbVersion = v.sigBlockVersion ∧ (romParams v maxC maxI).maxContainers = maxC ∧
    (romParams v maxC maxI).maxImages = maxI := by
  cases v <;> exact ⟨rfl, rfl, rfl, rfl, rfl⟩

theorem isEncrypted_iff (v : Ver) (flags : Nat) :
    Iae.isEncrypted v flags = true ↔ (flags >>> v.encOff) % 2 = 1 := by
  unfold Iae.isEncrypted
  rw [getF_eq, (romParams_bits v 0 0).2.2.2, Nat.shiftRight_eq_div_pow]
  simp

theorem checkEntry_accepts (c : CryptoOps) (v : Ver) (maxC maxI : Nat) (bin X : Bytes) (base pos : Nat) (e : Iae)
    (alg : Crypto.HashAlg) (dek : Option Bytes)
    (hX : slice bin pos X.length = X) (henc : encodeIae v.iaeLayout e = .ok X) (hwf : IaeWF e)
    (hin : base + e.imageOffset + e.imageSize ≤ bin.length)
    (halg : hashAlgOfTag (Iae.hashTag v e.flags) = some alg)
    (hhash : e.hash = extendTo 64 (c.hash alg (slice bin (base + e.imageOffset) e.imageSize)))
    (hcr : Iae.isEncrypted v e.flags = true → ∃ k, dek = some k ∧ e.imageSize % 16 = 0 ∧
      c.hash .sha256 (cbcDec c k (e.iv.drop 16) (slice bin (base + e.imageOffset) e.imageSize)) = e.iv) :
    checkEntry c (romParams v maxC maxI) bin base pos dek =
      .ok ⟨base + e.imageOffset, e.imageSize, e.flags, Iae.isEncrypted v e.flags⟩ := by
  have hl := encodeIae_length henc
  obtain ⟨f1, f2, f3, f4, f5⟩ := iae_fields hwf henc
  obtain ⟨pb1, pb2, pb3, _⟩ := romParams_bits v maxC maxI
  have r1 : rd bin pos 4 = e.imageOffset := by
    have := rd_of_eq bin X pos 0 4 hX (by omega); rw [Nat.add_zero] at this; rw [this, f1]
  have r2 : rd bin (pos + 4) 4 = e.imageSize := by rw [rd_of_eq bin X pos 4 4 hX (by omega), f2]
  have r3 : rd bin (pos + 0x18) 4 = e.flags := by rw [rd_of_eq bin X pos 0x18 4 hX (by omega), f3]
  have r4 : slice bin (pos + Spec.AhabRom.hashFieldOff) Spec.AhabRom.hashFieldLen = e.hash :=
    (slice_of_eq bin X pos 0x20 64 hX (by omega)).trans f4
  have r5 : slice bin (pos + Spec.AhabRom.ivFieldOff) Spec.AhabRom.ivFieldLen = e.iv :=
    (slice_of_eq bin X pos 0x60 32 hX (by omega)).trans f5
  have htag : (e.flags >>> 8) % 2 ^ (romParams v maxC maxI).hashBits = Iae.hashTag v e.flags := by
    unfold Iae.hashTag
    rw [getF_eq, pb2, pb3, Nat.shiftRight_eq_div_pow]
  unfold checkEntry
  simp only [r1, r2, r3, r4, r5]
  rw [if_neg (by omega), htag, show hashOfTag = hashAlgOfTag from rfl, halg]
  simp only
  rw [show padHash = extendTo 64 from rfl, ← hhash, if_neg (fun h => h rfl), pb1]
  by_cases he : Iae.isEncrypted v e.flags = true
  · obtain ⟨k, rfl, h16, hiv⟩ := hcr he
    rw [if_pos ((isEncrypted_iff v e.flags).1 he)]
    simp only [h16, hiv, he, ne_eq, not_true_eq_false, if_false]
  · rw [if_neg (fun h => he ((isEncrypted_iff v e.flags).2 h)), Bool.eq_false_iff.2 he]

section tree
open SpsdkVerif.BinImg SpsdkVerif.C16

theorem addAll_children (p : Img) : ∀ (l : List Img) (x : Img), x ∈ (addAll p l).children ↔ x ∈ p.children ∨ x ∈ l := by
  intro l
  induction l generalizing p with
  | nil => intro x; simp [addAll]
  | cons c l ih =>
    intro x
    have := ih (p.addImage c) x
    simp only [addAll, List.foldl_cons] at this ⊢
    rw [this, children_addImage, mem_insertSorted, List.mem_cons, or_comm (a := x = c), or_assoc]

/-- `add_image` touches only the children -/
theorem addAll_fields (p : Img) : ∀ (l : List Img), (addAll p l).size = p.size ∧ (addAll p l).offset = p.offset ∧
    (addAll p l).alignment = p.alignment ∧ (addAll p l).binary = p.binary ∧ (addAll p l).pattern = p.pattern := by
  intro l
  induction l generalizing p with
  | nil => exact ⟨rfl, rfl, rfl, rfl, rfl⟩
  | cons c l ih =>
    have := ih (p.addImage c)
    cases p
    exact this

theorem addAll_alignWF (p : Img) (l : List Img) (hp : AlignWF p) (hl : ∀ x ∈ l, AlignWF x) : AlignWF (addAll p l) := by
  cases hp with
  | mk _ h1 h2 h3 =>
    have f := addAll_fields p l
    refine AlignWF.mk _ (by rw [f.2.2.1]; exact h1) (by rw [f.1, f.2.2.1]; exact h2) ?_
    intro c hc
    rcases (addAll_children p l c).1 hc with h | h
    · exact h3 c h
    · exact hl c h

theorem leaf_alignWF (s o : Nat) (b : Option Bytes) (pat : Option Pattern) : AlignWF (Img.mk s o 1 b pat []) :=
  AlignWF.mk _ (by simp [Img.alignment]) (by simp [Img.size, Img.alignment, Nat.mod_one]) (fun c hc => by cases hc)

theorem contNode_alignWF (ch : Chip) (v : Ver) (us : List UContainer) (cbytes : List Bytes) : AlignWF (contNode ch v us cbytes) := by
  refine addAll_alignWF _ _ (leaf_alignWF _ _ _ _) (fun x hx => ?_)
  obtain ⟨ub, _, rfl⟩ := List.mem_map.1 hx
  exact leaf_alignWF _ _ _ _

theorem contNode_mem (ch : Chip) (v : Ver) (us : List UContainer) (cbytes : List Bytes) :
    contNode ch v us cbytes ∈ (imageInfo ch v us cbytes).children :=
  (addAll_children _ _ _).2 (Or.inl (List.mem_singleton.2 rfl))

theorem imageInfo_alignWF (ch : Chip) (v : Ver) (us : List UContainer) (cbytes : List Bytes) (hA : 0 < ch.imageAlignment) :
    AlignWF (imageInfo ch v us cbytes) := by
  refine addAll_alignWF _ _ (AlignWF.mk _ hA (alignNat_spec _ _ hA).1 (fun c hc => ?_)) (fun x hx => ?_)
  · cases List.mem_singleton.1 hc; exact contNode_alignWF ch v us cbytes
  · obtain ⟨p, _, rfl⟩ := List.mem_map.1 hx
    exact leaf_alignWF _ _ _ _

theorem leaf_export (size off : Nat) (b : Bytes) (hle : b.length ≤ size) (h0 : size = 0 → b = []) :
    (Img.mk size off 1 (some b) none []).export = .ok (extendTo size b) := by
  have hL : (Img.mk size off 1 (some b) none []).len = size := by
    unfold Img.len
    by_cases hs : size = 0
    · have := h0 hs; subst this; subst hs; simp [binLen, childrenEnd, alignNat]
    · simp [hs]
  unfold Img.export
  rw [hL]
  by_cases hb : b = []
  · subst hb
    simp [finishExport, ownBuf, patBlock, alignNat_one, extendTo]
  · have hne : b.isEmpty = false := by cases b <;> simp_all
    by_cases he : size = b.length
    · subst he; simp [hne, extendTo]
    · have : (size == b.length) = false := by simpa using he
      simp only [hne, this, Bool.not_false, Bool.true_and, Bool.false_eq_true, if_false]
      simp [finishExport, ownBuf, patBlock, hne, alignNat_one, extendTo]

/-- the exported AHAB image holds every container at its offset and every image (zero-extended to its size) at its offset -/
theorem tree_places (ch : Chip) (v : Ver) (us : List UContainer) (cbytes : List Bytes) (bin : Bytes)
    (hA : 0 < ch.imageAlignment)
    (hv : (imageInfo ch v us cbytes).validate = .ok ()) (hb : (imageInfo ch v us cbytes).export = .ok bin) :
    (∀ u b, (u, b) ∈ us.zip cbytes → b ≠ [] → headerLength v u.placed.length (sbLayout v u.cont.sb).length = b.length →
      slice bin u.base b.length = b) ∧
    (∀ p ∈ allPlaced us, p.ready.image.length ≤ p.ready.size → (p.ready.size = 0 → p.ready.image = []) →
      slice bin p.offset p.ready.size = extendTo p.ready.size p.ready.image) := by
  have hroot := imageInfo_alignWF ch v us cbytes hA
  have hcnoff : (contNode ch v us cbytes).offset = 0 := (addAll_fields _ _).2.1
  refine ⟨fun u b hub hne hlen => ?_, fun p hp hle h0 => ?_⟩
  · have hmem : contImg v u b ∈ (contNode ch v us cbytes).children :=
      (addAll_children _ _ _).2 (Or.inr (List.mem_map.2 ⟨(u, b), hub, rfl⟩))
    have hexp : (contImg v u b).export = .ok b := by
      unfold contImg
      rw [hlen, leaf_export b.length u.base b (Nat.le_refl _) (fun h => List.eq_nil_of_length_eq_zero h), extendTo_self]
    have := export_desc_at _ _ _ bin b hv hroot
      (DescAt.step _ _ _ _ (contNode_mem ch v us cbytes) (DescAt.step _ _ _ _ hmem (DescAt.self _))) hb hexp
    rw [hcnoff] at this
    simpa [slice, contImg, Img.offset] using this
  · have hmem : dataImg p ∈ (imageInfo ch v us cbytes).children :=
      (addAll_children _ _ _).2 (Or.inr (List.mem_map.2 ⟨p, hp, rfl⟩))
    have := export_desc_at _ _ _ bin _ hv hroot (DescAt.step _ _ _ _ hmem (DescAt.self _)) hb (leaf_export _ p.offset _ hle h0)
    rw [extendTo_length _ _ hle] at this
    simpa [slice, dataImg, Img.offset] using this

theorem minList_of_le : ∀ (l : List Nat) (d : Nat), (∀ x ∈ l, d ≤ x) → minList l d = d
  | [], _, _ => rfl
  | x :: xs, d, h => by
    simp only [minList]
    have : min d x = d := Nat.min_eq_left (h x (by simp))
    rw [this]
    exact minList_of_le xs d (fun y hy => h y (by simp [hy]))

theorem al8_startAddr (ch : Chip) (v : Ver) : al8 (ch.startAddr v) = ch.startAddr v := by
  unfold Chip.startAddr
  split <;> cases v <;> decide

/-- no image in front of the recommended start address: the "AHAB Containers" block ends exactly there -/
theorem startReal_eq (ch : Chip) (v : Ver) (us : List UContainer) (h : ∀ p ∈ allPlaced us, ch.startAddr v ≤ p.offset) :
    startReal ch v us = ch.startAddr v := by
  unfold startReal
  rw [minList_of_le, al8_startAddr]
  intro x hx
  obtain ⟨u, hu, hx⟩ := List.mem_flatMap.1 hx
  obtain ⟨p, hp, rfl⟩ := List.mem_map.1 hx
  exact h p (List.mem_flatMap.2 ⟨u, hu, hp⟩)

theorem len_of_size (i : Img) (h : i.size ≠ 0) : i.len = i.size := by
  cases i with
  | mk s o a b p ch =>
    simp only [Img.size] at h
    rw [Img.len]; simp [h, Img.size]

end tree

theorem slice_one_of_get (l : Bytes) (k : Nat) (x : UInt8) (h : l[k]? = some x) : slice l k 1 = [x] := by
  obtain ⟨hlt, hx⟩ := List.getElem?_eq_some_iff.1 h
  unfold slice
  rw [List.drop_eq_getElem_cons hlt, hx]
  simp

theorem zero_not_container (p : Params) (bin : Bytes) (base : Nat) (h : bin[base + 3]? = some 0) :
    looksLikeContainer p bin base = false := by
  unfold looksLikeContainer rd
  rw [slice_one_of_get bin (base + 3) 0 h]
  have : (leDec [0] == Spec.AhabRom.containerTag) = false := by decide
  rw [this]
  simp

theorem unpackInts_cons (w : Nat) (ws : List Nat) (b : Bytes) (x : Nat) (xs : List Nat)
    (h : unpackInts (w :: ws) b = some (x :: xs)) : x = leDec (b.take w) ∧ unpackInts ws (b.drop w) = some xs := by
  rw [unpackInts] at h
  split at h
  · cases h
  · split at h
    · rename_i vs hvs
      cases h
      exact ⟨rfl, hvs⟩
    · cases h

/-- the parser's head check looks at byte 3 (the tag) -/
theorem decodeHeader_tag (v : Ver) (b : Bytes) (hd : Header) (h : decodeHeader v b = some hd) :
    leDec (slice b 3 1) = AhabConsts.containerTag := by
  unfold decodeHeader at h
  rw [(hdrLayout_widths v).1] at h
  split at h
  · cases h
  · split at h
    · rename_i ver len tag fl sw fu n sbo r hu
      split at h
      · cases h
      · rename_i hc
        simp only [not_or, Decidable.not_not] at hc
        obtain ⟨_, h1⟩ := unpackInts_cons _ _ _ _ _ hu
        obtain ⟨_, h2⟩ := unpackInts_cons _ _ _ _ _ h1
        obtain ⟨h3, _⟩ := unpackInts_cons _ _ _ _ _ h2
        rw [← hc.1, h3]
        simp [slice]
    · cases h

theorem zero_not_header (v : Ver) (bin : Bytes) (base : Nat) (h : bin[base + 3]? = some 0) :
    decodeHeader v (bin.drop base) = none := by
  cases hh : decodeHeader v (bin.drop base) with
  | none => rfl
  | some hd =>
    have := decodeHeader_tag v _ hd hh
    have hs : slice (bin.drop base) 3 1 = slice bin (base + 3) 1 := by simp [slice]
    rw [hs, slice_one_of_get bin (base + 3) 0 h] at this
    exact absurd this (by decide)

theorem alignNat_ge (n a : Nat) (ha : 0 < a) : n ≤ alignNat n a := (alignNat_spec n a ha).2.1

theorem validSize_ge (ch : Chip) (v : Ver) (flags sa : Nat) (image : Bytes) :
    image.length ≤ validSize ch v flags sa image ∧ (validSize ch v flags sa image = 0 → image = []) := by
  unfold validSize
  cases image with
  | nil => simp
  | cons x xs =>
    have h4 : 0 < (if ch.isEle v flags = true then 4 else 1) := by split <;> omega
    simp only [List.isEmpty_cons, Bool.false_eq_true, if_false]
    split
    · next h1 => have := alignNat_ge (x :: xs).length sa (Nat.pos_of_ne_zero h1); exact ⟨this, fun h => by rw [h] at this; cases this⟩
    · have := alignNat_ge (x :: xs).length _ h4; exact ⟨this, fun h => by rw [h] at this; cases this⟩

theorem readyEntry_spec (c : CryptoOps) (hc : CryptoLaws c) (ch : Chip) (v : Ver) (dek : Option Bytes) (e : Entry) (r : Ready)
    (h : readyEntry c ch v dek e = .ok r) :
    ∃ a, hashAlgOfTag (Iae.hashTag v e.flags) = some a ∧
      r.hash = extendTo 64 (c.hash a (extendTo r.size r.image)) ∧ r.hash.length = 64 ∧ r.iv.length = 32 ∧
      r.size = validSize ch v e.flags e.sizeAlign r.image ∧
      (Iae.isEncrypted v e.flags = true → r.iv = c.hash .sha256 (storedImage ch e.data) ∧
        ∀ k, dek = some k → r.image = Crypto.cbcEnc c k (r.iv.drop 16) (Crypto.zeroPad16 (storedImage ch e.data))) := by
  unfold readyEntry at h
  simp only at h
  split at h
  · cases h
  next a ha =>
  cases h
  refine ⟨a, ha, rfl, ?_, ?_, rfl, fun he => ?_⟩
  · exact extendTo_length 64 _ (by rw [hc.hash_len]; cases a <;> decide)
  · show (if Iae.isEncrypted v e.flags = true then c.hash .sha256 (storedImage ch e.data) else zerosB AhabConsts.iaeIvLen).length = 32
    split
    · rw [hc.hash_len]; rfl
    · rw [zerosB_length]; rfl
  · simp only [he, if_true]
    exact ⟨trivial, fun k hk => by subst hk; rfl⟩

theorem readyEntries_spec (c : CryptoOps) (ch : Chip) (v : Ver) (dek : Option Bytes) :
    ∀ (es : List Entry) (rs : List Ready), readyEntries c ch v dek es = .ok rs →
      rs.length = es.length ∧ ∀ er ∈ es.zip rs, readyEntry c ch v dek er.1 = .ok er.2
  | [], rs, h => by cases h; exact ⟨rfl, fun _ h => by cases h⟩
  | e :: es, rs, h => by
    unfold readyEntries at h
    split at h <;> cases h
    next r rs' h1 h2 =>
    have ih := readyEntries_spec c ch v dek es rs' h2
    refine ⟨by simp [ih.1], fun er her => ?_⟩
    rcases List.mem_cons.1 her with rfl | her
    · exact h1
    · exact ih.2 er her

theorem updateContainers_entries (c : CryptoOps) (ch : Chip) (v : Ver) : ∀ (cs : List Container) (ix cur : Nat)
    (us : List UContainer), updateContainers c ch v ix cur cs = .ok us →
    ∀ u ∈ us, ∀ p ∈ u.placed,
      readyEntry c ch v (if u.cont.sb.blob.isSome then u.cont.dek else none) p.entry = .ok p.ready ∧
      p.iae = mkIae u.base p.offset p.entry p.ready
  | [], _, _, us, h => by cases h; intro u hu; cases hu
  | ct :: rest, ix, cur, us, h => by
    obtain ⟨base, rs, us', _, hr, hu, rfl⟩ := updateContainers_cons h
    intro u hu'
    rcases List.mem_cons.1 hu' with rfl | hu'
    · intro p hp
      have hpe := placeEntries_assigned ch v base (ct.entries.zip rs) cur
      refine ⟨(readyEntries_spec c ch v _ ct.entries rs hr).2 (p.entry, p.ready) ?_, hpe.2.2.2 p hp⟩
      rw [← hpe.2.2.1]
      exact List.mem_map.2 ⟨p, hp, rfl⟩
    · exact updateContainers_entries c ch v rest (ix + 1) _ us' hu u hu'

theorem reReady_fix (c : CryptoOps) (hc : CryptoLaws c) (ch : Chip) (v : Ver) (dek : Option Bytes) (e : Entry) (r : Ready)
    (h : readyEntry c ch v dek e = .ok r) : reReady c ch v e r = .ok r := by
  obtain ⟨a, _, _, hhl, _, hsize, henc⟩ := readyEntry_spec c hc ch v dek e r h
  unfold reReady
  have hne : r.hash.isEmpty = false := by
    cases hh : r.hash with
    | nil => rw [hh] at hhl; simp at hhl
    | cons x xs => rfl
  simp only [hne, Bool.false_eq_true, if_false]
  have hiv : (if (r.iv.all (· == 0) && Iae.isEncrypted v e.flags) = true then c.hash .sha256 (storedImage ch e.data) else r.iv) = r.iv := by
    split
    · rename_i hcnd
      simp only [Bool.and_eq_true] at hcnd
      exact ((henc hcnd.2).1).symm
    · rfl
  rw [hiv, ← hsize]

theorem rePlaced_fix (c : CryptoOps) (hc : CryptoLaws c) (ch : Chip) (v : Ver) (dek : Option Bytes) (base : Nat) :
    ∀ (ps : List Placed), (∀ p ∈ ps, readyEntry c ch v dek p.entry = .ok p.ready ∧ p.iae = mkIae base p.offset p.entry p.ready) →
      rePlaced c ch v base ps = .ok ps
  | [], _ => rfl
  | p :: ps, h => by
    have hp := h p (by simp)
    unfold rePlaced
    rw [reReady_fix c hc ch v dek p.entry p.ready hp.1, rePlaced_fix c hc ch v dek base ps (fun q hq => h q (by simp [hq]))]
    simp only
    rw [← hp.2]

theorem reupdateAll_fix (c : CryptoOps) (hc : CryptoLaws c) (ch : Chip) (v : Ver) :
    ∀ (us : List UContainer), (∀ u ∈ us, ∀ p ∈ u.placed,
      readyEntry c ch v (if u.cont.sb.blob.isSome then u.cont.dek else none) p.entry = .ok p.ready ∧
      p.iae = mkIae u.base p.offset p.entry p.ready) → reupdateAll c ch v us = .ok us
  | [], _ => rfl
  | u :: us, h => by
    unfold reupdateAll
    rw [rePlaced_fix c hc ch v _ u.base u.placed (h u (by simp)), reupdateAll_fix c hc ch v us (fun w hw => h w (by simp [hw]))]

theorem exportAll_spec (v : Ver) : ∀ (us : List UContainer) (cbytes : List Bytes), exportAll v us = .ok cbytes →
    cbytes.length = us.length ∧ ∀ ub ∈ us.zip cbytes, ub.1.export v = .ok ub.2
  | [], cb, h => by cases h; exact ⟨rfl, fun _ h => by cases h⟩
  | u :: us, cb, h => by
    unfold exportAll at h
    split at h <;> cases h
    next b bs h1 h2 =>
    have ih := exportAll_spec v us bs h2
    refine ⟨by simp [ih.1], fun ub hub => ?_⟩
    rcases List.mem_cons.1 hub with rfl | hub
    · exact h1
    · exact ih.2 ub hub

theorem Image.export_unfold (c : CryptoOps) (img : Image) (bin : Bytes) (h : img.export c = .ok bin) :
    ∃ us cbytes, img.update c = .ok us ∧ offsetsOk us = true ∧ exportAll img.ver us = .ok cbytes ∧
      (imageInfo img.chip img.ver us cbytes).validate = .ok () ∧ (imageInfo img.chip img.ver us cbytes).export = .ok bin := by
  unfold Image.export at h
  split at h
  · cases h
  next us hu =>
  split at h
  · cases h
  next ho =>
  split at h
  · cases h
  next cbytes he =>
  simp only at h
  split at h
  · cases h
  next hv => exact ⟨us, cbytes, hu, by simpa using ho, he, hv, h⟩

/-- in the exported file, container `k` occupies `[k * CONTAINER_SIZE, k * CONTAINER_SIZE + len)` -/
theorem container_in_file (c : CryptoOps) (img : Image) (bin : Bytes)
    (hexp : img.export c = .ok bin) (hA : 0 < img.chip.imageAlignment)
    (us : List UContainer) (hus : img.update c = .ok us) (k : Nat) (u : UContainer) (hk : us[k]? = some u)
    (hblob : BlobLenOK u.cont.sb) :
    ∃ cb, u.export img.ver = .ok cb ∧ u.base = k * img.ver.containerSize ∧ k ≤ 3 ∧
      slice bin (k * img.ver.containerSize) cb.length = cb := by
  obtain ⟨us', cbytes, hus', _, hall, hval, hbin⟩ := Image.export_unfold c img bin hexp
  rw [hus] at hus'; cases hus'
  have hea := exportAll_spec img.ver us cbytes hall
  obtain ⟨cb, hcb⟩ : ∃ cb, cbytes[k]? = some cb :=
    ⟨_, List.getElem?_eq_getElem (by rw [hea.1]; exact (List.getElem?_eq_some_iff.1 hk).1)⟩
  have hcbm : (u, cb) ∈ us.zip cbytes := List.mem_of_getElem? (List.getElem?_zip_eq_some.2 ⟨hk, hcb⟩)
  have hcbe : u.export img.ver = .ok cb := hea.2 (u, cb) hcbm
  have hb := (updateContainers_bases c img.chip img.ver img.containers 0 _ us hus).2 k u hk
  rw [Nat.zero_add] at hb
  have hlen := exportContainer_length hblob hcbe
  rw [List.length_map] at hlen
  have hcbne : cb ≠ [] := by
    intro h; rw [h, headerLength_eq, sbo_exact] at hlen; simp at hlen; omega
  have hcbin := (tree_places img.chip img.ver us cbytes bin hA hval hbin).1 u cb hcbm hcbne hlen.symm
  rw [hb.2.1] at hcbin
  exact ⟨cb, hcbe, hb.2.1, hb.2.2.1, hcbin⟩

/-- in the exported file every image lies, zero-extended to its size, at its offset, behind the start of its container -/
theorem image_in_file (c : CryptoOps) (hc : CryptoLaws c) (img : Image) (bin : Bytes)
    (hexp : img.export c = .ok bin) (hA : 0 < img.chip.imageAlignment)
    (us : List UContainer) (hus : img.update c = .ok us) (u : UContainer) (hu : u ∈ us) (p : Placed) (hp : p ∈ u.placed) :
    slice bin p.offset p.ready.size = extendTo p.ready.size p.ready.image ∧ p.ready.image.length ≤ p.ready.size ∧
    u.base ≤ p.offset := by
  obtain ⟨us', cbytes, hus', hoff, _, hval, hbin⟩ := Image.export_unfold c img bin hexp
  rw [hus] at hus'; cases hus'
  have hent := updateContainers_entries c img.chip img.ver img.containers 0 _ us hus u hu p hp
  obtain ⟨a, _, _, _, _, hsize, _⟩ := readyEntry_spec c hc img.chip img.ver _ p.entry p.ready hent.1
  have hvs := validSize_ge img.chip img.ver p.entry.flags p.entry.sizeAlign p.ready.image
  rw [← hsize] at hvs
  refine ⟨(tree_places img.chip img.ver us cbytes bin hA hval hbin).2 p (List.mem_flatMap.2 ⟨u, hu, hp⟩) hvs.1 hvs.2, hvs.1, ?_⟩
  have := (List.all_eq_true.1 ((List.all_eq_true.1 hoff) u hu)) p hp
  simpa using this

/-- `rom_accepts`, hash / placement / decryption part: the independent entry check accepts every image-array entry of an
    exported image, for every cryptographic instance satisfying `CryptoLaws`.
    The hypothesis on encrypted entries (the stored cipher text is not zero-extended after encryption and its plain text is a
    whole number of AES blocks) excludes exactly the open finding C06-encrypted-size-alignment. -/
theorem checkEntry_accepts_export (c : CryptoOps) (hc : CryptoLaws c) (img : Image) (bin : Bytes) (maxC maxI : Nat)
    (hexp : img.export c = .ok bin) (hA : 0 < img.chip.imageAlignment)
    (us : List UContainer) (hus : img.update c = .ok us) (u : UContainer) (hu : u ∈ us)
    (i : Nat) (p : Placed) (hp : u.placed[i]? = some p)
    (hblob : BlobLenOK u.cont.sb) (hsz : 0 < p.ready.size)
    (hnoext : Iae.isEncrypted img.ver p.entry.flags = true → u.cont.sb.blob.isSome = true →
      p.ready.size = p.ready.image.length ∧ (storedImage img.chip p.entry.data).length % 16 = 0 ∧ u.cont.dek.isSome = true) :
    Iae.isEncrypted img.ver p.entry.flags = true ∧ u.cont.sb.blob.isSome = false ∨
    checkEntry c (romParams img.ver maxC maxI) bin u.base (u.base + (16 + 128 * i))
        (if u.cont.sb.blob.isSome then u.cont.dek else none) =
      .ok ⟨p.offset, p.ready.size, p.entry.flags, Iae.isEncrypted img.ver p.entry.flags⟩ := by
  by_cases hcase : Iae.isEncrypted img.ver p.entry.flags = true ∧ u.cont.sb.blob.isSome = false
  · exact Or.inl hcase
  right
  have hpm : p ∈ u.placed := List.mem_of_getElem? hp
  obtain ⟨hready, hiae⟩ := updateContainers_entries c img.chip img.ver img.containers 0 _ us hus u hu p hpm
  obtain ⟨a, halg, hhash, hhl, hivl, _, hencr⟩ := readyEntry_spec c hc img.chip img.ver _ p.entry p.ready hready
  obtain ⟨hdata, hle, hbase⟩ := image_in_file c hc img bin hexp hA us hus u hu p hpm
  -- the 128 bytes of the entry in the file
  obtain ⟨k, hk⟩ := List.getElem?_of_mem hu
  obtain ⟨cb, hcbe, hub, _, hcbin⟩ := container_in_file c img bin hexp hA us hus k u hk hblob
  obtain ⟨hd, ab, s, e1, e2, _, rfl, _⟩ := exportContainer_ok hcbe
  obtain ⟨X, hX, hsl, hlen⟩ := (encodeIaes_at e2).2 i p.iae (by simp [hp])
  have hXl := encodeIae_length hX
  have hXbin : slice bin (u.base + (16 + 128 * i)) X.length = X := by
    rw [hub, hXl, slice_of_eq bin _ _ (16 + 128 * i) 128 hcbin (by simp only [List.length_append, (encodeHeader_ok e1).2.2]; omega),
      List.append_assoc, slice_append_right _ _ _ _ (encodeHeader_ok e1).2.2, slice_append_left _ _ _ _ hlen, hsl]
  -- the image it points at
  have hin : p.offset + p.ready.size ≤ bin.length := by
    have hl := congrArg List.length hdata
    rw [extendTo_length _ _ hle] at hl
    simp only [slice, List.length_take, List.length_drop] at hl
    omega
  have hio : u.base + (p.offset - u.base) = p.offset := by omega
  have := checkEntry_accepts c img.ver maxC maxI bin X u.base (u.base + (16 + 128 * i)) p.iae a
    (if u.cont.sb.blob.isSome then u.cont.dek else none) hXbin hX (by rw [hiae]; exact ⟨hhl, hivl⟩)
  rw [hiae] at this
  simp only [mkIae, hio] at this
  refine this hin halg (by rw [hdata]; exact hhash) (fun he => ?_)
  have hbs : u.cont.sb.blob.isSome = true := by
    cases hb : u.cont.sb.blob.isSome
    · exact absurd ⟨he, hb⟩ hcase
    · rfl
  obtain ⟨hsz', h16, hdk⟩ := hnoext he hbs
  obtain ⟨k, hk⟩ := Option.isSome_iff_exists.1 hdk
  have hi := (hencr he).2 k (by simp [hbs, hk])
  refine ⟨k, by simp [hbs, hk], ?_, ?_⟩
  · rw [hsz', hi, Crypto.cbcEnc_length hc]
    exact Nat.mul_mod_right 16 _
  · rw [hdata, hsz', extendTo_self, hi, Crypto.cbc_inv_pad hc k _ _ (by simp [hivl])]
    have hz : Crypto.zeroPad16 (storedImage img.chip p.entry.data) = storedImage img.chip p.entry.data := by
      unfold Crypto.zeroPad16 Crypto.zeroPad
      rw [h16]; simp [Crypto.zeros]
    rw [hz, ← (hencr he).1]

theorem le_foldl_max : ∀ (l : List Nat) (init x : Nat), x ∈ l ∨ x ≤ init → x ≤ l.foldl max init
  | [], init, x, h => by
    rcases h with h | h
    · cases h
    · exact h
  | a :: l, init, x, h => by
    simp only [List.foldl_cons]
    apply le_foldl_max l (max init a) x
    rcases h with h | h
    · rcases List.mem_cons.1 h with rfl | h
      · exact Or.inr (Nat.le_max_right _ _)
      · exact Or.inl h
    · exact Or.inr (Nat.le_trans h (Nat.le_max_left _ _))

/-- a guard `if c then error else x` that ends in `ok` was passed -/
theorem ok_of_guard {α : Type} {c : Prop} [Decidable c] {e : String} {x : Except String α} {r : α}
    (h : (if c then .error e else x) = .ok r) : ¬ c ∧ x = .ok r := by
  split at h
  · cases h
  · exact ⟨‹_›, h⟩

theorem checkEntry_ok (c : CryptoOps) (p : Params) (bin : Bytes) (base pos : Nat) (dek : Option Bytes) (r : ImageRep)
    (h : checkEntry c p bin base pos dek = .ok r) :
    r.offset = base + rd bin pos 4 ∧ r.size = rd bin (pos + 4) 4 ∧ r.flags = rd bin (pos + 0x18) 4 ∧
    r.offset + r.size ≤ bin.length ∧
    ∃ a, hashOfTag ((r.flags >>> 8) % 2 ^ p.hashBits) = some a ∧
      slice bin (pos + Spec.AhabRom.hashFieldOff) Spec.AhabRom.hashFieldLen = padHash (c.hash a (slice bin r.offset r.size)) := by
  unfold checkEntry at h
  simp only at h
  obtain ⟨hin, h⟩ := ok_of_guard h
  split at h
  · cases h
  next a ha =>
  obtain ⟨hh, h⟩ := ok_of_guard h
  -- whichever way the decryption check is passed, the report holds offset, size and flags as read
  have hr : r.offset = base + rd bin pos 4 ∧ r.size = rd bin (pos + 4) 4 ∧ r.flags = rd bin (pos + 0x18) 4 := by
    split at h
    · split at h
      · cases h
      · obtain ⟨_, h⟩ := ok_of_guard h
        obtain ⟨_, h⟩ := ok_of_guard h
        cases h; exact ⟨rfl, rfl, rfl⟩
    · cases h; exact ⟨rfl, rfl, rfl⟩
  obtain ⟨r1, r2, r3⟩ := hr
  rw [r1, r2, r3]
  exact ⟨rfl, rfl, rfl, by omega, a, ha, Decidable.not_not.1 hh⟩

theorem padHash_inj (d d' : Bytes) (hl : d.length = d'.length) (h : padHash d = padHash d') : d = d' := by
  unfold padHash at h
  exact (List.append_inj h hl).1

end SpsdkVerif.Ahab
