/-
C01 - Master Boot Image: parse(export(x)) = x and a self-describing header.

Model: `SpsdkVerif.Mbi` (Model/Mbi.lean) - an interpreter of mixin lists over the GENERATED class table, mixin facts,
IVT constants, flag getters and `create_flags` (Generated/MbiClasses.lean, Generated/IvtConsts.lean).
All statements quantify over every payload, option value, key, IV, signature and certificate block (unbounded), and over
every class with `ClassWF c = true`; `all_classes_wf` decides `ClassWF` for every IVT class of the generated table.
Helper lemmas: Proofs/Mbi*.lean.
-/
import SpsdkVerif.Proofs.MbiPlain
import SpsdkVerif.Proofs.MbiSignedV1
import SpsdkVerif.Proofs.MbiSignedV21
import SpsdkVerif.Proofs.MbiEncrypted
import SpsdkVerif.Proofs.MbiMcxc
import SpsdkVerif.Proofs.MbiVx
import SpsdkVerif.Proofs.MbiTzConfig

namespace SpsdkVerif.Properties.C01
open SpsdkVerif SpsdkVerif.Misc SpsdkVerif.Mbi
open SpsdkVerif.Crypto (CryptoOps CryptoLaws)
open SpsdkVerif.Generated.IvtConsts
open SpsdkVerif.Generated.MbiClasses (MixinName)

/-- every IVT class of the generated device table (102 = distinct (mixin list, TrustZone size) pairs of 545 database rows)
    is structurally well-formed -/
theorem all_classes_wf : ∀ c ∈ ivtClasses, ClassWF c = true := by decide +kernel

/-- the table is not empty and contains all four families (the quantifier above is not vacuous) -/
example : ivtClasses.length > 50 ∧ (ivtClasses.map (·.family)).eraseDups.length = 4 := by decide +kernel

/-- nothing leaves the theorems' domain silently: a generated class without IVT is one of the known header-less kinds
    (mc56 "Vx" images with a BCA table, mcxc images with BCA/FCF blocks) -/
theorem non_ivt_classes_known :
    ∀ c ∈ allClasses, c.hasAttr .ivt_table = true ∨ c.has .Mbi_MixinBcaTable = true ∨ c.has .Mbi_MixinBca = true := by
  decide +kernel

/-! ## every mixin of the device database is in the interpreter (mbi_mixin.py vs. the model) -/

/-- the 28 mixins the interpreter of Model/Mbi.lean gives semantics to: by name in `mixLen` / `mixAppLen` / `flagsOf` / the
    collectors / `encryptStage` / `postEncryptStage` / `signStage` / `finalizeStage` / `mixParse` / the reverts, or through their
    parent (`derivesFrom`, `provider`: `Mbi_MixinIvtZeroTotalLength`, `Mbi_MixinTrustZoneMandatory`, `Mbi_MixinHmacMandatory`,
    `Mbi_MixinManifestCrc/Digest`).  Two of them only add configuration keys and have no export / parse behaviour of their own:
    `Mbi_MixinFwVersion` (the value is carried by the manifest mixins) and `Mbi_MixinLoadAddressOptional` (= `Mbi_MixinLoadAddress`
    with default 0 in `mix_load_from_config`). -/
def interpretedMixins : List MixinName :=
  [.Mbi_MixinApp, .Mbi_MixinIvt, .Mbi_MixinIvtZeroTotalLength, .Mbi_MixinLoadAddress, .Mbi_MixinLoadAddressOptional,
   .Mbi_MixinTrustZone, .Mbi_MixinTrustZoneMandatory, .Mbi_MixinImageSubType, .Mbi_MixinImageVersion, .Mbi_MixinHwKey,
   .Mbi_MixinKeyStore, .Mbi_MixinHmacMandatory, .Mbi_MixinCtrInitVector, .Mbi_MixinRelocTable, .Mbi_MixinFwVersion,
   .Mbi_MixinCertBlockV1, .Mbi_MixinCertBlockV21, .Mbi_MixinManifestCrc, .Mbi_MixinManifestDigest,
   .Mbi_ExportMixinApp, .Mbi_ExportMixinAppTrustZone, .Mbi_ExportMixinAppTrustZoneCertBlock,
   .Mbi_ExportMixinAppCertBlockManifest, .Mbi_ExportMixinAppTrustZoneCertBlockEncrypt, .Mbi_ExportMixinCrcSign,
   .Mbi_ExportMixinRsaSign, .Mbi_ExportMixinEccSign, .Mbi_ExportMixinHmacKeyStoreFinalize]

/-- no IVT class of the generated device table lists a mixin outside that list (a mixin class added to mbi_mixin.py and to a
    device's class makes this fail until the interpreter knows it) -/
theorem all_mixins_interpreted : ∀ c ∈ ivtClasses, ∀ m ∈ c.mixins, interpretedMixins.contains m = true := by decide +kernel

/-- the Vx model (Model/MbiVx.lean) is keyed by `Vx.Kind`, not by mixin names: which kind an mc56 / mwct mixin list is -/
def vxKindOfMixins (ms : List MixinName) : Option Vx.Kind :=
  if ms = [.Mbi_MixinApp, .Mbi_MixinBcaTable, .Mbi_MixinFcfObsolete, .Mbi_ExportMixinAppFcf] then some .plain
  else if ms = [.Mbi_MixinApp, .Mbi_MixinBcaTable, .Mbi_MixinFcfObsolete, .Mbi_ExportMixinCrcSignBca, .Mbi_ExportMixinAppFcf] then some .crc
  else if ms = [.Mbi_MixinApp, .Mbi_MixinBcaTable, .Mbi_MixinBcaObsolete, .Mbi_MixinFcfObsolete, .Mbi_MixinCertBlockVx,
                .Mbi_ExportMixinAppBcaFcf, .Mbi_ExportMixinEccSignVx] then some .signed
  else none

/-- every header-less class with a BCA table is EXACTLY one of the three mixin lists the Vx model covers, and the `sign`
    provider the generated MRO facts resolve for it is the one of that kind -/
theorem vx_classes_known : ∀ c ∈ allClasses, c.has .Mbi_MixinBcaTable = true →
    ∃ k, vxKindOfMixins c.mixins = some k
      ∧ c.resolve .sign = (match k with | .plain => none | .crc => some .Mbi_ExportMixinCrcSignBca | .signed => some .Mbi_ExportMixinEccSignVx)
      ∧ c.resolve .collect_data = (match k with | .signed => some .Mbi_ExportMixinAppBcaFcf | _ => some .Mbi_ExportMixinAppFcf) := by
  decide +kernel

/-- all 40 mixin classes of mbi_mixin.py (the generated `MixinName`) are accounted for: interpreted (IVT classes), one of the
    Vx lists, the two mcxc block mixins, or used by no class of the device database -/
theorem mixin_census : ∀ m : MixinName,
    interpretedMixins.contains m = true
    ∨ [MixinName.Mbi_MixinBcaTable, .Mbi_MixinBcaObsolete, .Mbi_MixinFcfObsolete, .Mbi_MixinCertBlockVx, .Mbi_ExportMixinAppBcaFcf,
       .Mbi_ExportMixinAppFcf, .Mbi_ExportMixinCrcSignBca, .Mbi_ExportMixinEccSignVx].contains m = true
    ∨ [MixinName.Mbi_MixinBca, .Mbi_MixinFcf].contains m = true
    ∨ (allClasses.all (fun c => !c.mixins.contains m)) = true := by
  intro m; cases m <;> decide +kernel

/-! ## the IVT flag word: bit-field independence over the generated masks / shifts / `create_flags` -/

theorem flags_fields (t tz sub ver ksLen : Nat) (hTz hSub hHw hw hKs ksSet hTab tab hVer hV2T v2t : Bool)
    (ht : t ≤ imageTypeMask) (htz : tz ≤ tzTypeMask) (hsub : sub ≤ subTypeMask) (hver : ver ≤ imgVerMask) :
    let f := createFlags t hTz tz hSub sub hHw hw hKs ksSet ksLen hTab tab hVer ver hV2T v2t
    getImageType f = t ∧ getTzType f = (if hTz then tz else 0) ∧ getSubType f = (if hSub then sub else 0)
    ∧ getHwKeyEnabled f = (hHw && hw) ∧ getKeyStorePresented f = (hKs && ksSet && decide (ksLen > 0))
    ∧ getAppTablePresented f = (hTab && tab) ∧ getImageVersion f = (if hVer && hV2T && v2t then ver else 0)
    ∧ f < 2 ^ 32 :=
  Mbi.flags_fields t tz sub ver ksLen hTz hSub hHw hw hKs ksSet hTab tab hVer hV2T v2t ht htz hsub hver

/-- the same round trip with the FORMAT's field widths as literals (6-bit image type, 2-bit TrustZone type, 2-bit sub type,
    16-bit image version - not the generated masks): every getter reads back what `create_flags` wrote over the FULL range of
    its field.  A getter mask narrower than the field the creator writes (e.g. `IVT_IMAGE_FLAGS_IMG_VER_MASK = 0xFF`) makes
    this theorem fail although `flags_fields` (domain = the generated mask) would still be provable. -/
theorem flags_fields_format_widths (t tz sub ver ksLen : Nat) (hTz hSub hHw hw hKs ksSet hTab tab hVer hV2T v2t : Bool)
    (ht : t < 2 ^ 6) (htz : tz < 2 ^ 2) (hsub : sub < 2 ^ 2) (hver : ver < 2 ^ 16) :
    let f := createFlags t hTz tz hSub sub hHw hw hKs ksSet ksLen hTab tab hVer ver hV2T v2t
    getImageType f = t ∧ getTzType f = (if hTz then tz else 0) ∧ getSubType f = (if hSub then sub else 0)
    ∧ getHwKeyEnabled f = (hHw && hw) ∧ getKeyStorePresented f = (hKs && ksSet && decide (ksLen > 0))
    ∧ getAppTablePresented f = (hTab && tab) ∧ getImageVersion f = (if hVer && hV2T && v2t then ver else 0)
    ∧ f < 2 ^ 32 :=
  Mbi.flags_fields t tz sub ver ksLen hTz hSub hHw hw hKs ksSet hTab tab hVer hV2T v2t
    (by have : imageTypeMask = 2 ^ 6 - 1 := by decide
        omega)
    (by have : tzTypeMask = 2 ^ 2 - 1 := by decide
        omega)
    (by have : subTypeMask = 2 ^ 2 - 1 := by decide
        omega)
    (by have : imgVerMask = 2 ^ 16 - 1 := by decide
        omega)

/-- `get_image_version (create_flags … v …) = v` for EVERY 16-bit version of a class that stores it -/
theorem image_version_roundtrip (t tz sub v ksLen : Nat) (hTz hSub hHw hw hKs ksSet hTab tab : Bool)
    (ht : t < 2 ^ 6) (htz : tz < 2 ^ 2) (hsub : sub < 2 ^ 2) (hv : v < 2 ^ 16) :
    getImageVersion (createFlags t hTz tz hSub sub hHw hw hKs ksSet ksLen hTab tab true v true true) = v :=
  (flags_fields_format_widths t tz sub v ksLen hTz hSub hHw hw hKs ksSet hTab tab true true true ht htz hsub hv).2.2.2.2.2.2.1

/-- the hypotheses are satisfiable at the top of every range -/
example : (63 : Nat) < 2 ^ 6 ∧ (3 : Nat) < 2 ^ 2 ∧ (0xFFFF : Nat) < 2 ^ 16
    ∧ getImageVersion (createFlags 63 true 3 true 3 true true true true 1424 true true true 0xFFFF true true) = 0xFFFF := by decide

/-- `clean_ivt` undoes `update_ivt` (on the four IVT words) -/
theorem ivt_update_clean (c : Cls) (cfg : Cfg) (app : Mbi.Bytes) (total crcOff : Nat) (h : minIvtSize ≤ app.length) :
    cleanIvt (updateIvt c cfg app total crcOff) = cleanIvt app := Mbi.cleanIvt_updateIvt c cfg app total crcOff h

/-- the four words read back as written -/
theorem ivt_update_words (c : Cls) (cfg : Cfg) (app : Mbi.Bytes) (total crcOff : Nat) (h : minIvtSize ≤ app.length)
    (hf : flagsOf c cfg < 2 ^ 32) (ht : total < 2 ^ 32) (ho : crcOff < 2 ^ 32) (hl : cfg.loadAddress < 2 ^ 32) :
    let u := updateIvt c cfg app total crcOff
    rd32 u ivtImageLengthOffset = (if c.zeroTotalLength then 0 else total)
    ∧ rd32 u ivtImageFlagsOffset = flagsOf c cfg
    ∧ rd32 u ivtCrcCertificateOffset = (if c.imageType = 0 then 0 else crcOff)
    ∧ rd32 u ivtLoadAddrOffset = (if c.hasAttr .load_address then cfg.loadAddress else 0) :=
  Mbi.updateIvt_words c cfg app total crcOff h hf ht ho hl

/-- every other byte is untouched and the length is kept -/
theorem ivt_update_frame (c : Cls) (cfg : Cfg) (app : Mbi.Bytes) (total crcOff : Nat) (h : minIvtSize ≤ app.length) :
    (updateIvt c cfg app total crcOff).length = app.length
    ∧ ∀ i, ¬ (32 ≤ i ∧ i < 44) → ¬ (52 ≤ i ∧ i < 56) → (updateIvt c cfg app total crcOff)[i]? = app[i]? :=
  Mbi.updateIvt_frame c cfg app total crcOff h

/-- the table parses back to the same entries in the same order, and the application is cut where it started -/
theorem reloc_roundtrip (pre : Mbi.Bytes) (es : List RelocEntry) (hne : es ≠ []) (hok : ∀ e ∈ es, relocEntryOk e = true)
    (hlen : pre.length + (relocExport es pre.length).length < 2 ^ 32) :
    relocParse (pre ++ relocExport es pre.length) = .ok (some (es, pre.length)) :=
  Mbi.reloc_roundtrip pre es hne hok hlen

/-- hypotheses shared by the image theorems: crypto laws, a structurally well-formed class, an option set the builder
    accepts with values that fit their fields, the external certificate code answering what the builder was told, and a
    signature provider returning signatures of the announced length -/
abbrev Hyp := Mbi.Hyp

/-- "disassemble cuts exactly what collect appended": for every collector, given the TrustZone / certificate the
    mixins parsed, `disassemble_image` recovers the cleaned application and the relocation table -/
theorem disassemble_collect {co : CryptoOps} {env : Env} {c : Cls} {cfg : Cfg} {signer : Signer}
    (h : Hyp co env c cfg signer) (dek : Option Mbi.Bytes) (p : Parsed) (hp : p.tz = cfg.tz)
    (hcert : p.cert.isSome = c.hasAttr .cert_block) (hr : p.reloc = none) :
    ∃ raw, collect c cfg = .ok raw
      ∧ disassemble c p raw = .ok { p with app := (canon c cfg dek).app, reloc := (canon c cfg dek).reloc } := by
  rcases Mbi.family_cases h with hf | hf | hf | hf
  · exact Mbi.disassemble_collect_plain h hf dek p hp hcert hr
  · exact Mbi.disassemble_collect_signedV1 h hf dek p hp hcert hr
  · exact Mbi.disassemble_collect_signedV21 h hf dek p hp hcert hr
  · exact Mbi.disassemble_collect_encrypted h hf dek p hp hcert hr

/-- parse(export(x)) = x: same application (IVT words cleaned, padded to 4), same settings, for every well-formed class
    and option set; `dek` is the decryption key handed to the parser (the image key for encrypted images) -/
theorem parse_export {co : CryptoOps} {env : Env} {c : Cls} {cfg : Cfg} {signer : Signer}
    (h : Hyp co env c cfg signer) (dek : Option Mbi.Bytes) (hdek : c.family = some .encrypted → dek = cfg.hmacKey) :
    ∃ e, exportImage co c cfg signer = .ok e ∧ parseImage co env c dek e = .ok (canon c cfg dek) := by
  rcases Mbi.family_cases h with hf | hf | hf | hf
  · exact Mbi.parse_export_plain h hf dek
  · exact Mbi.parse_export_signedV1 h hf dek
  · exact Mbi.parse_export_signedV21 h hf dek
  · exact Mbi.parse_export_encrypted h hf dek (hdek hf)

/-- the class quantifier of the property: every IVT class of the device database -/
theorem parse_export_all_classes {co : CryptoOps} {env : Env} {c : Cls} {cfg : Cfg} {signer : Signer}
    (hc : c ∈ ivtClasses) (laws : CryptoLaws co) (hcfg : cfgWF c cfg = true) (henv : EnvOK env c cfg)
    (hsig : ∀ m, (signer m).length = cfg.sigLen) (dek : Option Mbi.Bytes) (hdek : c.family = some .encrypted → dek = cfg.hmacKey) :
    ∃ e, exportImage co c cfg signer = .ok e ∧ parseImage co env c dek e = .ok (canon c cfg dek) :=
  parse_export ⟨laws, all_classes_wf c hc, hcfg, henv, hsig⟩ dek hdek

/-- re-exporting the parsed image with the same keys (and any signature of the right length) reproduces every byte
    outside the signature field -/
theorem reexport {co : CryptoOps} {env : Env} {c : Cls} {cfg : Cfg} {signer : Signer}
    (h : Hyp co env c cfg signer) (signer' : Signer) (hs' : ∀ m, (signer' m).length = cfg.sigLen)
    (dek : Option Mbi.Bytes) (hdek : c.has .Mbi_MixinHmac = true → dek = cfg.hmacKey) :
    ∃ e e', exportImage co c cfg signer = .ok e ∧ exportImage co c (canon c cfg dek).toCfg signer' = .ok e'
      ∧ eqOutsideSig c cfg e e' := by
  rcases Mbi.family_cases h with hf | hf | hf | hf
  · exact Mbi.reexport_plain h hf signer' hs' dek hdek
  · exact Mbi.reexport_signedV1 h hf signer' hs' dek hdek
  · exact Mbi.reexport_signedV21 h hf signer' hs' dek hdek
  · exact Mbi.reexport_encrypted h hf signer' hs' dek hdek

/-- the words the boot ROM reads describe the emitted bytes: 0x20 = emitted length (0 for zero-total-length classes),
    0x24 = flags of the settings, 0x34 = load address, 0x28 = 0 (plain) / CRC-32-MPEG2 of the image without that word (CRC) /
    offset of the certificate block = length of application + relocation table = where the block really is (signed) -/
theorem header_describes {co : CryptoOps} {env : Env} {c : Cls} {cfg : Cfg} {signer : Signer}
    (h : Hyp co env c cfg signer) :
    ∃ e, exportImage co c cfg signer = .ok e
      ∧ rd32 e ivtImageLengthOffset = (if c.zeroTotalLength then 0 else e.length)
      ∧ rd32 e ivtImageFlagsOffset = flagsOf c cfg
      ∧ rd32 e ivtLoadAddrOffset = (if c.has .Mbi_MixinLoadAddress then cfg.loadAddress else 0)
      ∧ (c.imageType = 0 → rd32 e ivtCrcCertificateOffset = 0)
      ∧ (c.signKind = .crc → rd32 e ivtCrcCertificateOffset
            = crc32m (e.take ivtCrcCertificateOffset ++ e.drop (ivtCrcCertificateOffset + 4)))
      ∧ (c.hasAttr .cert_block = true →
          rd32 e ivtCrcCertificateOffset = appLen c cfg
          ∧ (let off := appLen c cfg + (if c.has .Mbi_MixinHmac then hmacSize + (cfg.keyStore.getD []).length else 0)
             slice e off (off + cfg.cert.length)
               = (if c.has .Mbi_MixinCertBlockV1 then certInImage c cfg else cfg.cert))) := by
  rcases Mbi.family_cases h with hf | hf | hf | hf
  · exact Mbi.header_describes_plain h hf
  · exact Mbi.header_describes_signedV1 h hf
  · exact Mbi.header_describes_signedV21 h hf
  · exact Mbi.header_describes_encrypted h hf

/-- the emitted length is the sum of the mixins' `mix_len` plus the terms the exporters add on top
    (RSA signature; encrypted IVT copy + counter IV) -/
theorem total_len_sum {co : CryptoOps} {env : Env} {c : Cls} {cfg : Cfg} {signer : Signer}
    (h : Hyp co env c cfg signer) :
    ∃ e, exportImage co c cfg signer = .ok e
      ∧ (e.length : Int) = totalLen c cfg + (if c.signKind = .rsa then cfg.sigLen else 0)
          + (if c.family = some .encrypted then encIvtCopySize + encIvSize else 0) := by
  rcases Mbi.family_cases h with hf | hf | hf | hf
  · exact Mbi.total_len_sum_plain h hf
  · exact Mbi.total_len_sum_signedV1 h hf
  · exact Mbi.total_len_sum_signedV21 h hf
  · exact Mbi.total_len_sum_encrypted h hf

/-- the four slices of the encrypted image that the forward `post_encrypt` takes - GENERATED from its AST, constants by value -
    are the ones `postEncryptStage` (Model/Mbi.lean) is written from: `[:64]` (the IVT part that gets the new words),
    `[64:app_len]` (rest of the application AND the relocation table: the bound is `app_len` = application + relocation table,
    not the length of the application), `[:56]` (copy of the encrypted IVT), `[app_len:]` (TrustZone data).  A changed bound
    (seeded change C02f: `len(self.app)`) breaks this obligation in addition to the concrete oracle failures. -/
theorem post_encrypt_slices :
    postEncryptSlices = [("", "64"), ("64", "app_len"), ("", "56"), ("app_len", "")]
    ∧ hmacOffset = 64 ∧ encIvtCopySize = 56 := by decide

/-! ## images without IVT: mcxc (BCA / FCF blocks inside the application) and mc56 / mwct "Vx" images (Model/MbiVx.lean) -/

/-- every generated class without IVT is either an mc56 class (BCA table) or THE mcxc class -/
theorem mcxc_classes_known :
    ∀ c ∈ allClasses, c.hasAttr .ivt_table = true ∨ c.has .Mbi_MixinBcaTable = true ∨ mcxcClass c = true := by
  decide +kernel

/-- mcxc: parse(export(x)) = x, the image is the application with the BCA / FCF blocks in place (nothing else touched, same
    length), and re-exporting the parsed image gives the same bytes -/
theorem parse_export_mcxc (co : CryptoOps) (env : Env) (c : Cls) (cfg : Cfg) (signer : Signer) (dek : Option Mbi.Bytes)
    (hc : mcxcClass c = true) (hw : mcxcCfgWF cfg = true) :
    ∃ e, exportImage co c cfg signer = .ok e
      ∧ parseImage co env c dek e = .ok (canon c cfg dek)
      ∧ e.length = (appData cfg).length
      ∧ slice e fcfOffset (fcfOffset + fcfSize) = cfg.fcf.getD []
      ∧ (∀ b, cfg.bca = some b → slice e bcaOffset (bcaOffset + bcaSize) = b)
      ∧ (∀ i, ¬ (fcfOffset ≤ i ∧ i < fcfOffset + fcfSize) → ¬ (cfg.bca.isSome ∧ bcaOffset ≤ i ∧ i < bcaOffset + bcaSize) →
            e[i]? = (appData cfg)[i]?)
      ∧ exportImage co c (canon c cfg dek).toCfg signer = .ok e := Mbi.parse_export_mcxc co env c cfg signer dek hc hw

/-- Vx: the exporters write only into the tool-owned byte ranges; elsewhere the image is the (4-padded) application -/
theorem vx_export_frame (co : CryptoOps) (k : Vx.Kind) (cfg : Vx.Cfg) (signer : Signer) (hw : Vx.cfgWF k cfg = true)
    (hs : ∀ m, (signer m).length = vxImgBcaOffset - vxImgSignatureOffset)
    (hh : ∀ m, (co.hash .sha256 m).length = vxImgDigestSize) :
    ∃ e, Vx.exportImage co k cfg signer = .ok e
      ∧ e.length = (if cfg.justHeader then vxImgDukBlockOffset else (align4 cfg.app).length)
      ∧ ∀ i, i < e.length → Vx.owned k cfg i = false → e[i]? = (align4 cfg.app)[i]? := Vx.vx_export_frame co k cfg signer hw hs hh

/-- Vx: parse(export(x)) gives the image back as the application, with life cycle and firmware version -/
theorem vx_parse_export (co : CryptoOps) (k : Vx.Kind) (cfg : Vx.Cfg) (signer : Signer) (hw : Vx.cfgWF k cfg = true)
    (hs : ∀ m, (signer m).length = vxImgBcaOffset - vxImgSignatureOffset)
    (hh : ∀ m, (co.hash .sha256 m).length = vxImgDigestSize) :
    ∃ e, Vx.exportImage co k cfg signer = .ok e
      ∧ Vx.parseImage k e = .ok ⟨e, (if cfg.lifecycle = 0xFF then ((align4 cfg.app).getD vxImgFcfLifecycleOffset 0).toNat else cfg.lifecycle),
                                  (if k = .signed then cfg.fwVersion else 0)⟩ := Vx.vx_parse_export co k cfg signer hw hs hh

/-- Vx CRC images: the BCA words describe the data part of the emitted image -/
theorem vx_crc_describes (co : CryptoOps) (cfg : Vx.Cfg) (signer : Signer) (hw : Vx.cfgWF .crc cfg = true) :
    ∃ e, Vx.exportImage co .crc cfg signer = .ok e
      ∧ rd32 e (vxImgBcaOffset + 4) = vxImgDataStart
      ∧ rd32 e (vxImgBcaOffset + 8) = (e.drop vxImgDataStart).length
      ∧ rd32 e (vxImgBcaOffset + 12) = crc32m (e.drop vxImgDataStart) := Vx.vx_crc_describes co cfg signer hw

/-- Vx signed images: BCA words, digest and signature describe / cover exactly header + BCA + data of the emitted image -/
theorem vx_signed_describes (co : CryptoOps) (cfg : Vx.Cfg) (signer : Signer) (hw : Vx.cfgWF .signed cfg = true)
    (hj : cfg.justHeader = false) (hs : ∀ m, (signer m).length = vxImgBcaOffset - vxImgSignatureOffset)
    (hh : ∀ m, (co.hash .sha256 m).length = vxImgDigestSize) :
    ∃ e, Vx.exportImage co .signed cfg signer = .ok e
      ∧ (rd32 e vxImgBcaImageLengthOffset : Int) = (e.length : Int) - vxImgDataStart + (vxImgDigestOffset + (vxImgFcfOffset - vxImgBcaOffset))
      ∧ rd32 e vxImgBcaFwVersionOffset = cfg.fwVersion
      ∧ slice e vxImgDigestOffset vxImgSignatureOffset = co.hash .sha256 (Vx.dataToSign e)
      ∧ slice e vxImgSignatureOffset vxImgBcaOffset = signer (Vx.dataToSign e)
      ∧ slice e vxImgIskOffset (vxImgIskOffset + cfg.cert.length) = cfg.cert
      ∧ (cfg.addHash = true → slice e vxImgIskHashOffset (vxImgIskHashOffset + vxImgIskHashSize) = cfg.certHash) :=
  Vx.vx_signed_describes co cfg signer hw hj hs hh

/-- Vx: re-export of the parsed image reproduces it (outside the signature slot for signed images) -/
theorem vx_reexport (co : CryptoOps) (k : Vx.Kind) (cfg : Vx.Cfg) (signer signer' : Signer) (hw : Vx.cfgWF k cfg = true)
    (hj : cfg.justHeader = false)
    (hs : ∀ m, (signer m).length = vxImgBcaOffset - vxImgSignatureOffset)
    (hs' : ∀ m, (signer' m).length = vxImgBcaOffset - vxImgSignatureOffset)
    (hh : ∀ m, (co.hash .sha256 m).length = vxImgDigestSize) :
    ∃ e e', Vx.exportImage co k cfg signer = .ok e ∧ Vx.exportImage co k { cfg with app := e } signer' = .ok e'
      ∧ e'.length = e.length
      ∧ ∀ i, ¬ (k = .signed ∧ vxImgSignatureOffset ≤ i ∧ i < vxImgBcaOffset) → e'[i]? = e[i]? :=
  Vx.vx_reexport co k cfg signer signer' hw hj hs hs' hh

/-- a Vx configuration satisfying the hypotheses (non-vacuity) -/
example : Vx.cfgWF .signed { app := List.replicate 3100 7, lifecycle := 0x90, fwVersion := 5, cert := List.replicate 136 1,
                             certHash := List.replicate 16 2 } = true := by
  simp only [Vx.cfgWF, align4_length, List.length_replicate]
  decide

/-! ## configuration path: the TrustZone keys `enableTrustZone` / `trustZonePresetFile` (loaders GENERATED from the source) -/

/-- the two `mix_load_from_config` decide as the schema describes the keys: optional TrustZone stays DISABLED unless
    `enableTrustZone` is true (a preset file named next to `enableTrustZone: false` / no `enableTrustZone` does not switch it
    on); enabled: the preset file if one is named, else the default; mandatory TrustZone: preset file if named, else default -/
theorem tz_config_loaders (en pf : Bool) :
    Generated.MbiClasses.tzLoad .Mbi_MixinTrustZone en pf
        = some (if en then (if pf then Generated.MbiClasses.TzChoice.preset else .enabled) else .disabled)
    ∧ Generated.MbiClasses.tzLoad .Mbi_MixinTrustZoneMandatory en pf
        = some (if pf then Generated.MbiClasses.TzChoice.preset else .enabled) := Mbi.tzLoad_spec en pf

/-- which loader decides, for every class of the database: the optional one exactly for the classes that list
    `Mbi_MixinTrustZone` itself, the mandatory one for every other class with a TrustZone setting (directly or through the
    manifest mixins' `super()` chain), none for classes without TrustZone -/
theorem tz_config_loader_of_class : ∀ c ∈ allClasses,
    (c.mixins.contains .Mbi_MixinTrustZone = true → c.tzLoader = some .Mbi_MixinTrustZone)
    ∧ (c.mixins.contains .Mbi_MixinTrustZone = false → c.hasTrustZone = true → c.tzLoader = some .Mbi_MixinTrustZoneMandatory)
    ∧ (c.hasTrustZone = false → c.tzLoader = none) := Mbi.tzLoader_classes

/-- the setting `load_from_config` derives is what the keys request (schema text, `tzRequestedTag`): its type, and for a
    preset file the file's content -/
theorem tz_config_requested (c : Cls) (k : TzKeys) (t : TzCfg)
    (hl : c.tzLoader = some .Mbi_MixinTrustZone ∨ c.tzLoader = some .Mbi_MixinTrustZoneMandatory)
    (h : tzOfConfig c k = .ok (some t)) :
    t.tag = tzRequestedTag (c.tzLoader == some .Mbi_MixinTrustZone) k
    ∧ (t.tag = tzCustom → ∃ d, k.preset = some (some d) ∧ t = .custom (d.take c.tzSize)) := Mbi.tzOfConfig_requested c k t hl h

/-- END TO END (configuration → image): the image exported for the settings `load_from_config` derives carries in the
    TrustZone-type bits of its flag word exactly what the configuration requests, and its TrustZone block is the preset file -/
theorem config_tz_in_image {co : CryptoOps} {env : Env} {c : Cls} {cfg : Cfg} {signer : Signer}
    (h : Mbi.Hyp co env c cfg signer) (htz : c.hasTrustZone = true) (k : TzKeys)
    (hl : c.tzLoader = some .Mbi_MixinTrustZone ∨ c.tzLoader = some .Mbi_MixinTrustZoneMandatory)
    (hk : tzOfConfig c k = .ok (some cfg.tz)) :
    ∃ e, exportImage co c cfg signer = .ok e
      ∧ getTzType (rd32 e ivtImageFlagsOffset) = tzRequestedTag (c.tzLoader == some .Mbi_MixinTrustZone) k
      ∧ (cfg.tz.tag = tzCustom → ∃ d, k.preset = some (some d) ∧ cfg.tz.bytes = d.take c.tzSize) :=
  Mbi.config_tz_in_image h htz k hl hk

/-- `enableTrustZone: false` with a preset file still named: the request is DISABLED (the seeded defect C01c) -/
example : tzRequestedTag true { enable := some false, preset := some (some [1, 2, 3, 4]) } = tzDisabled
    ∧ tzRequestedTag true { enable := none, preset := some (some [1, 2, 3, 4]) } = tzDisabled
    ∧ tzRequestedTag false { enable := some false, preset := some (some [1, 2, 3, 4]) } = tzCustom := by decide

/-! ## non-vacuity: a concrete non-trivial configuration satisfies the hypotheses (decided) -/

/-- an RSA signed load-to-RAM class with HMAC and key store, a relocation table of two entries and a (fake, structurally valid)
    certificate block of 164 bytes; `EnvOK` holds for the constant environment -/
example : ∃ c ∈ ivtClasses, ∃ cfg : Cfg, c.family = some .signedV1 ∧ c.has .Mbi_MixinHmac = true ∧ cfgWF c cfg = true
    ∧ (cfg.reloc.map List.length) = some 2
    ∧ EnvOK ⟨fun _ => cfg.sigLen, fun _ => 0, fun _ => true⟩ c cfg :=
  ⟨Mbi.exampleSignedClass, by decide +kernel, Mbi.exampleSignedCfg, by decide +kernel, by decide +kernel, by decide +kernel,
   by decide +kernel, ⟨fun _ _ => ⟨rfl, rfl⟩, fun h => absurd h (by decide +kernel)⟩⟩

/-- the encrypted class of the same family with counter IV and the image key as `dek` -/
example : ∃ c ∈ ivtClasses, ∃ cfg : Cfg, c.family = some .encrypted ∧ cfgWF c cfg = true ∧ cfg.ctrIv.length = 16 :=
  ⟨Mbi.exampleEncClass, by decide +kernel, { Mbi.exampleSignedCfg with ctrIv := List.replicate 16 0x11 }, by decide +kernel,
   by decide +kernel, by decide +kernel⟩

/-- … and that encrypted configuration CARRIES A RELOCATION TABLE of two entries (the encrypted + relocation-table combination is
    inside the domain of `parse_export` / `header_describes` / `total_len_sum`: `post_encrypt` keeps `image[64 : app_len]`,
    `app_len` = application + relocation table), with the application strictly shorter than `app_len` -/
example : ∃ c ∈ ivtClasses, ∃ cfg : Cfg, c.family = some .encrypted ∧ cfgWF c cfg = true
    ∧ (cfg.reloc.map List.length) = some 2 ∧ (appData cfg).length < appLen c cfg :=
  ⟨Mbi.exampleEncClass, by decide +kernel, { Mbi.exampleSignedCfg with ctrIv := List.replicate 16 0x11 }, by decide +kernel,
   by decide +kernel, by decide +kernel, by decide +kernel⟩

/-- a CRC XIP class with TrustZone and a 61-byte payload (padded to 64) with custom TrustZone data -/
example : ∃ c ∈ ivtClasses, ∃ cfg : Cfg, c.signKind = .crc ∧ cfgWF c cfg = true ∧ cfg.app.length = 61 :=
  ⟨Mbi.exampleCrcClass, by decide +kernel, Mbi.exampleCrcCfg, by decide +kernel⟩

end SpsdkVerif.Properties.C01
