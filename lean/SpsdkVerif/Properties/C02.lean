/-
C02 - Master Boot Image: signatures, CRC, HMAC and encryption pass the ROM checks.

`Spec.MbiRom.romCheck` (Spec/MbiRom.lean) is an INDEPENDENT acceptance function written from the format description with its
own constants; `spec_consts_agree` ties those constants to the ones GENERATED from the current source.  The theorems say
that it accepts every image the model (Model/Mbi.lean, tied to /repo by the C01 correspondence) exports, for every payload,
option set, key, IV and signature, and that the protected ranges are what the format defines:
  * CRC: exactly the CRC word is excluded;
  * signatures: the signed data is the whole prefix that precedes the signature (HMAC / key store taken out), nothing
    follows the signature except the manifest digest (hash of the same prefix); the certificate block inside the prefix
    announces exactly that length;
  * HMAC: first 64 bytes under AES-ECB(user key, 0^16);  encryption: AES-CTR under the derived key decrypts to the plaintext.
Certificate blocks are opaque in the MBI model: what the ROM's walk over the block answers is a hypothesis (`RomCertV1OK` /
`RomCertV21OK`).  The hypothesis is DISCHARGED for every block exported by the certificate-block model of C03
(Proofs/CertBlockRom.lean, composed in Proofs/MbiRomBuilt.lean) - section `CertBlockModel` below: the image built around the
block SPSDK makes from a root-key list is accepted against the documented fuse value `Spec.rotkh`.
The X.509 chain and the RSA / ECDSA verifications are returned as obligations (discharged with `cryptography` by the harness).
-/
import SpsdkVerif.Proofs.MbiRomCrc
import SpsdkVerif.Proofs.MbiRomV1
import SpsdkVerif.Proofs.MbiRomV21
import SpsdkVerif.Proofs.MbiRomEnc
import SpsdkVerif.Proofs.MbiRomNegCrc
import SpsdkVerif.Spec.Rotkh
import SpsdkVerif.Proofs.MbiRomBuilt
import SpsdkVerif.Proofs.MbiRomVx

namespace SpsdkVerif.Properties.C02
open SpsdkVerif SpsdkVerif.Mbi
open SpsdkVerif.Generated
open SpsdkVerif.Crypto (CryptoOps CryptoLaws hmac ecbEnc ctrXor Break SigAlg PrivKey PubKey Rand)

/-- the constants of the independent ROM spec are the constants the builder uses (generated from the current source) -/
theorem spec_consts_agree :
    Spec.MbiRom.offTotalLength = IvtConsts.ivtImageLengthOffset ∧ Spec.MbiRom.offFlags = IvtConsts.ivtImageFlagsOffset
    ∧ Spec.MbiRom.offCrcOrCert = IvtConsts.ivtCrcCertificateOffset ∧ Spec.MbiRom.offLoadAddress = IvtConsts.ivtLoadAddrOffset
    ∧ Spec.MbiRom.ivtSize = IvtConsts.minIvtSize ∧ Spec.MbiRom.ivtSize = IvtConsts.minAppSize
    ∧ Spec.MbiRom.maskImageType = IvtConsts.imageTypeMask
    ∧ Spec.MbiRom.shiftSubType = IvtConsts.subTypeShift ∧ Spec.MbiRom.maskSubType = IvtConsts.subTypeMask
    ∧ Spec.MbiRom.flagImageVersion = IvtConsts.bootImageVersionFlag ∧ Spec.MbiRom.flagRelocTable = IvtConsts.relocTableFlag
    ∧ Spec.MbiRom.flagHwUserKey = IvtConsts.hwUserKeyEnFlag ∧ Spec.MbiRom.shiftTzType = IvtConsts.tzTypeShift
    ∧ Spec.MbiRom.maskTzType = IvtConsts.tzTypeMask ∧ Spec.MbiRom.flagKeyStore = IvtConsts.keyStoreFlag
    ∧ Spec.MbiRom.shiftImageVersion = IvtConsts.imgVerShift
    ∧ Spec.MbiRom.typePlain = IvtConsts.typePlainImage ∧ Spec.MbiRom.typeSignedRam = IvtConsts.typeSignedRamImage
    ∧ Spec.MbiRom.typeCrcRam = IvtConsts.typeCrcRamImage ∧ Spec.MbiRom.typeEncryptedRam = IvtConsts.typeEncryptedRamImage
    ∧ Spec.MbiRom.typeSignedXip = IvtConsts.typeSignedXipImage ∧ Spec.MbiRom.typeCrcXip = IvtConsts.typeCrcXipImage
    ∧ Spec.MbiRom.typeSignedXipNxp = IvtConsts.typeSignedXipNxpImage
    ∧ Spec.MbiRom.tzEnabled = IvtConsts.tzEnabled ∧ Spec.MbiRom.tzCustom = IvtConsts.tzCustom ∧ Spec.MbiRom.tzDisabled = IvtConsts.tzDisabled
    ∧ Spec.MbiRom.hmacOffset = IvtConsts.hmacOffset ∧ Spec.MbiRom.hmacSize = IvtConsts.hmacSize
    ∧ Spec.MbiRom.keyStoreSize = IvtConsts.keyStoreSize ∧ Spec.MbiRom.userKeySize = IvtConsts.userKeyLength
    ∧ Spec.MbiRom.userKeySize = IvtConsts.hmacKeyLength
    ∧ Spec.MbiRom.encIvtCopySize = IvtConsts.encIvtCopySize ∧ Spec.MbiRom.ivSize = IvtConsts.encIvSize
    ∧ Spec.MbiRom.ivSize = IvtConsts.ctrInitVectorSize
    ∧ IvtConsts.postEncryptLiterals = [Spec.MbiRom.ivSize, Spec.MbiRom.encIvtCopySize, Spec.MbiRom.hmacOffset]
    ∧ IvtConsts.ctrIvParseLiterals = [Spec.MbiRom.ivSize, Spec.MbiRom.hmacSize, Spec.MbiRom.encIvtCopySize, Spec.MbiRom.keyStoreSize]
    ∧ Spec.MbiRom.hmacKeyDerivation = IvtConsts.deriveHmacKeyConst ∧ Spec.MbiRom.encKeyDerivation = IvtConsts.deriveEncImageKeyConst
    ∧ Spec.MbiRom.certV1Magic = IvtConsts.certHeaderSignature ∧ Spec.MbiRom.certV1HeaderSize = IvtConsts.certHeaderSize
    ∧ Spec.MbiRom.rkhTableEntries = IvtConsts.rkhtEntries ∧ Spec.MbiRom.rkhSize = IvtConsts.rkhSize
    ∧ Spec.MbiRom.certV21Magic = IvtConsts.certV21Magic
    ∧ Spec.MbiRom.manifestMagic = IvtConsts.manifestMagic ∧ Spec.MbiRom.manifestVersion = IvtConsts.manifestFormatVersion
    ∧ Spec.MbiRom.manifestHeaderSize = IvtConsts.manifestHeaderSize
    ∧ Spec.MbiRom.manifestDigestPresent = IvtConsts.manifestDigestPresentFlag ∧ Spec.MbiRom.manifestHashMask = IvtConsts.manifestHashTypeMask
    ∧ Spec.MbiRom.crcParams.poly + 2 ^ 32 = IvtConsts.crcPolynomial ∧ Spec.MbiRom.crcParams.init = IvtConsts.crcInitialValue
    ∧ Spec.MbiRom.crcParams.xorOut = IvtConsts.crcFinalXor ∧ Spec.MbiRom.crcParams.refIn = IvtConsts.crcReverse
    ∧ Spec.MbiRom.crcParams = Crypto.Crc.crc32Mpeg2 := by decide

/-! ## the fused value: what the ROM model hashes is the documented root-of-trust hash (Spec/Rotkh.lean, property C03) -/

/-- v1: the ROM model compares SHA-256 of the 4 x 32 byte RKH table found in the image with the fuses (`romCertV1`); when that
    table is the documented table of the root keys, the compared value is `Spec.rotkh` -/
theorem mbi_rkth_eq_spec_v1 (co : CryptoOps) (ks : List Spec.Key) :
    co.hash .sha256 (Spec.rkhTableV1 co ks) = Spec.rotkh co .certBlock1 ks := by
  simp [Spec.rotkh, Spec.rotkhCa, Spec.rotkhV1, List.map_map, Function.comp_def]

/-- v2.1: the ROM model compares the hash of the single root key, or the hash (by key size) of the CTRK table found in the image,
    with the fuses (`romCertV21`); when the table is the documented one this is `Spec.rotkh` -/
theorem mbi_rkth_eq_spec_v21 (co : CryptoOps) (k : Spec.Key) (ks : List Spec.Key) :
    (if (k :: ks).length = 1 then Spec.keyHash co k else co.hash k.hashAlg (Spec.ctrkTable co (k :: ks)))
      = Spec.rotkh co .certBlock21 (k :: ks) := by
  cases ks with
  | nil => simp [Spec.rotkh, Spec.rotkhCa, Spec.rotkhV21]
  | cons k' ks' => simp [Spec.rotkh, Spec.rotkhCa, Spec.rotkhV21, List.map_map, Function.comp_def]

/-- the generated CRC classes carry the two CRC image types, the signed classes the signed types, the encrypted the encrypted type -/
theorem class_types_ok : ∀ c ∈ ivtClasses, crcTypeOk c = true ∧ signedTypeOk c = true := by decide +kernel

variable {co : CryptoOps} {env : Env} {c : Cls} {cfg : Cfg} {signer : Signer}

/-- the stored CRC is the CRC-32/MPEG-2 (ROM's parameters) of the image with exactly the four bytes of the CRC word removed -/
theorem crc_excludes_only_itself (h : Mbi.Hyp co env c cfg signer) (hs : c.signKind = .crc) :
    ∃ e, exportImage co c cfg signer = .ok e
      ∧ Spec.MbiRom.rd32 e Spec.MbiRom.offCrcOrCert = Crypto.Crc.crc Spec.MbiRom.crcParams (Spec.MbiRom.crcInput e)
      ∧ (Spec.MbiRom.crcInput e).length + 4 = e.length
      ∧ (∀ i, i < 0x28 → (Spec.MbiRom.crcInput e)[i]? = e[i]?)
      ∧ (∀ i, 0x28 ≤ i → (Spec.MbiRom.crcInput e)[i]? = e[i + 4]?) := Mbi.crc_excludes_only_itself h hs

theorem rom_accepts_crc (h : Mbi.Hyp co env c cfg signer) (hs : c.signKind = .crc) (ht : crcTypeOk c = true)
    (rkth : Mbi.Bytes) (uk : Option Mbi.Bytes) :
    ∃ e a, exportImage co c cfg signer = .ok e ∧ Spec.MbiRom.romCheck co (romEnvOf c rkth uk) e = .ok a := by
  have hc := plainCls h.hcls (romcrc_family h hs)
  have hk := plainCfg hc h.hcfg
  refine ⟨_, { authenticated := [(0, (plainImg c cfg (plainK c cfg)).length)] }, plain_export hc hk signer,
    (romCheck_built h (plainImg_builtIvt hc hk _ (plainK_lt c cfg)) rkth uk).2 ?_⟩
  rw [romByType_crc (crcType_cases hs ht), Spec.MbiRom.romCrc, romcrc_word hc hk hs, need_ok (beq_self_eq_true _)]
  rfl

theorem rom_accepts_plain (h : Mbi.Hyp co env c cfg signer) (hf : c.family = some .plain) (ht : c.imageType = 0)
    (rkth : Mbi.Bytes) (uk : Option Mbi.Bytes) :
    ∃ e a, exportImage co c cfg signer = .ok e ∧ Spec.MbiRom.romCheck co (romEnvOf c rkth uk) e = .ok a :=
  Mbi.rom_accepts_plain h hf ht rkth uk

theorem signed_range_is_prefix_v1 (h : Mbi.Hyp co env c cfg signer) (hf : c.family = some .signedV1) :
    ∃ e pre, exportImage co c cfg signer = .ok e
      ∧ bodyOf c cfg e = pre ++ signer pre
      ∧ pre.length = (totalLenForCertBlock c cfg).toNat
      ∧ slice pre (appLen c cfg) (appLen c cfg + cfg.cert.length) = certInImage c cfg
      ∧ rd32 (certInImage c cfg) certImageLengthOffset = pre.length := by
  have k := SignedV1.clsF h.hcls hf
  have g := SignedV1.cfgF k h.hcfg
  refine ⟨_, SignedV1.rawOf c cfg, SignedV1.export_eq signer k g, RomV1.body_eq h.hlaws k g _, RomV1.raw_length k g, ?_, ?_⟩
  · have := RomV1.raw_cert k g []
    rwa [List.append_nil] at this
  · rw [RomV1.cert_il k g, RomV1.raw_length k g]

theorem hmac_covers_header (h : Mbi.Hyp co env c cfg signer) (hf : c.family = some .signedV1)
    (hh : c.has .Mbi_MixinHmac = true) :
    ∃ e k, exportImage co c cfg signer = .ok e ∧ cfg.hmacKey = some k
      ∧ slice e IvtConsts.hmacOffset (IvtConsts.hmacOffset + IvtConsts.hmacSize)
          = hmac co .sha256 (ecbEnc co k Spec.MbiRom.hmacKeyDerivation) (e.take IvtConsts.hmacOffset)
      ∧ slice e (IvtConsts.hmacOffset + IvtConsts.hmacSize)
          (IvtConsts.hmacOffset + IvtConsts.hmacSize + (cfg.keyStore.getD []).length) = cfg.keyStore.getD [] := by
  have k := SignedV1.clsF h.hcls hf
  have g := SignedV1.cfgF k h.hcfg
  obtain ⟨key, hk, _⟩ := RomV1.hmacKey_some g hh
  refine ⟨_, key, SignedV1.export_eq signer k g, hk, ?_, RomV1.img_keyStore h.hlaws k g _ hh key hk⟩
  rw [RomV1.img_mac h.hlaws k g _ hh key hk, RomV1.img_take k g _ hh]
  rfl

theorem rom_accepts_signed_v1 (h : Mbi.Hyp co env c cfg signer) (hf : c.family = some .signedV1) (ht : signedTypeOk c = true)
    (rkth : Mbi.Bytes) (certs : List (Nat × Nat)) (table : List Mbi.Bytes)
    (hrom : RomCertV1OK co (romEnvOf c rkth cfg.hmacKey) cfg.cert certs table) :
    ∃ e a last, exportImage co c cfg signer = .ok e
      ∧ Spec.MbiRom.romCheck co (romEnvOf c rkth cfg.hmacKey) e = .ok a
      ∧ (certs.map (fun p => (appLen c cfg + p.1, p.2))).getLast? = some last
      ∧ a.obligations = [.x509Chain (certs.map (fun p => (appLen c cfg + p.1, p.2))) table,
                         .rsaByCert last (totalLenForCertBlock c cfg).toNat]
      ∧ a.stripped = (if c.has .Mbi_MixinHmac then IvtConsts.hmacSize + (cfg.keyStore.getD []).length else 0) :=
  Mbi.rom_accepts_signedV1 h hf ht rkth certs table hrom

theorem signed_range_is_prefix_v21 (h : Mbi.Hyp co env c cfg signer) (hf : c.family = some .signedV21) :
    ∃ e pre, exportImage co c cfg signer = .ok e
      ∧ e = pre ++ signer pre ++ (match cfg.digest with | some a => co.hash a pre | none => [])
      ∧ (rd32 e IvtConsts.ivtCrcCertificateOffset + cfg.cert.length ≤ pre.length)
      ∧ pre.take (rd32 e IvtConsts.ivtCrcCertificateOffset)
          = updateIvt c cfg (appData cfg) (totalLen c cfg).toNat (appLen c cfg) := by
  have F := signedV21_classFacts h.hcls hf
  have G := signedV21_cfgFacts F h.hcfg
  obtain ⟨k, hk⟩ := Option.isSome_iff_exists.mp F.mkSome
  refine ⟨v21Image co c cfg signer k, v21Raw c cfg k, signedV21_export F G k hk, romV21_image_eq G hk, ?_, ?_⟩
  all_goals
    rw [signedV21_image_assoc, (signedV21_words F G _).2.2.1]
  · rw [signedV21_raw_length F G]; omega
  · rw [← signedV21_app_length F G]; simp [v21Raw, v21App]

theorem rom_accepts_signed_v21 (h : Mbi.Hyp co env c cfg signer) (hf : c.family = some .signedV21) (ht : signedTypeOk c = true)
    (rkth : Mbi.Bytes) (uk : Option Mbi.Bytes) (signPub : Mbi.Bytes) (obs : Mbi.Bytes → Nat → List Spec.MbiRom.Obligation)
    (hrom : RomCertV21OK co (romEnvOf c rkth uk) cfg.cert cfg.sigLen signPub obs) :
    ∃ e pre a, exportImage co c cfg signer = .ok e
      ∧ e = pre ++ signer pre ++ (match cfg.digest with | some a => co.hash a pre | none => [])
      ∧ Spec.MbiRom.romCheck co (romEnvOf c rkth uk) e = .ok a
      ∧ a.obligations = obs e (appLen c cfg) ++ [.ecdsa signPub pre (signer pre)] :=
  Mbi.rom_accepts_signedV21 h hf ht rkth uk signPub obs hrom

/-- with a signer that signs (`co.sign` under a key whose public part is the block's signing key) the image obligation holds:
    the ROM's ECDSA check of the image signature succeeds - by `CryptoLaws.verify_sign`, no idealisation -/
theorem image_signature_verifies (laws : CryptoLaws co) (alg : Crypto.SigAlg) (sk r pre : Mbi.Bytes) :
    co.verify alg (co.pubOf sk) pre (co.sign alg sk pre r) = true := laws.verify_sign alg sk pre r

theorem decrypts_to_plain (h : Mbi.Hyp co env c cfg signer) (hf : c.family = some .encrypted) :
    ∃ e raw k, exportImage co c cfg signer = .ok e ∧ collect c cfg = .ok raw ∧ cfg.hmacKey = some k
      ∧ (let body := encBodyOf cfg e
         let off := appLen c cfg
         let ce := off + cfg.cert.length
         let key := if cfg.keyStore.isSome then k else ecbEnc co k Spec.MbiRom.encKeyDerivation
         ctrXor co key (slice body (ce + 56) (ce + 72))
            (slice body ce (ce + 56) ++ slice body 56 off ++ slice body (ce + 72) (body.length - cfg.sigLen)) = raw)
      ∧ raw.take (appData cfg).length = updateIvt c cfg (appData cfg) (encImgLen c cfg) (appLen c cfg) :=
  Mbi.decrypts_to_plain h hf

theorem signed_range_is_prefix_encrypted (h : Mbi.Hyp co env c cfg signer) (hf : c.family = some .encrypted) :
    ∃ e pre, exportImage co c cfg signer = .ok e
      ∧ encBodyOf cfg e = pre ++ signer pre
      ∧ slice pre (appLen c cfg) (appLen c cfg + cfg.cert.length) = certInImage c cfg
      ∧ rd32 (certInImage c cfg) certImageLengthOffset = pre.length := by
  have hc := encCls h.hcls hf
  have hk := encCfg hc h.hcfg
  have hn := encLens h.hlaws hc hk signer h.hsig
  have P := encPe_signedPrefix h.hlaws hc hk hn
  have hcl := hk.hcertLen
  refine ⟨_, encPe co c cfg, encrypted_export h.hlaws hc hk signer, romenc_body hn, ?_, ?_⟩
  · have := romenc_cert hn []
    rwa [List.append_nil] at this
  · have := romenc_cert hn []
    rw [List.append_nil, P.block] at this
    rw [← this]
    exact rd32_certSetImageLength _ _ (by simp only [IvtConsts.certHeaderSize, certImageLengthOffset] at *; omega) P.lt

theorem rom_accepts_encrypted (h : Mbi.Hyp co env c cfg signer) (hf : c.family = some .encrypted) (ht : signedTypeOk c = true)
    (rkth : Mbi.Bytes) (certs : List (Nat × Nat)) (table : List Mbi.Bytes)
    (hrom : RomCertV1OK co (romEnvOf c rkth cfg.hmacKey) cfg.cert certs table) :
    ∃ e a raw, exportImage co c cfg signer = .ok e ∧ collect c cfg = .ok raw
      ∧ Spec.MbiRom.romCheck co (romEnvOf c rkth cfg.hmacKey) e = .ok a
      ∧ a.plain = some raw
      ∧ a.stripped = IvtConsts.hmacSize + (cfg.keyStore.getD []).length :=
  Mbi.rom_accepts_encrypted h hf ht rkth certs table hrom

/-! ## protected_total: every byte the ROM model's verdict depends on lies in what the builder signed / hashed / MACed -/

/-- CRC images: the ROM authenticates the whole image; the builder's CRC covers every byte except the CRC word, which is the
    check value itself.  Signed images: see `signed_range_is_prefix_*` - the prefix is signed, the signature is the check
    value, the digest is a hash of the prefix; HMAC images: the 32 HMAC bytes are the check value of the first 64 bytes which
    are also inside the signed prefix; only the key store (documented as unauthenticated) is outside.  Stated for the
    accepted result: the ROM's `authenticated` ranges are the whole image. -/
theorem protected_total_crc (h : Mbi.Hyp co env c cfg signer) (hs : c.signKind = .crc) (ht : crcTypeOk c = true)
    (rkth : Mbi.Bytes) (uk : Option Mbi.Bytes) :
    ∃ e a, exportImage co c cfg signer = .ok e ∧ Spec.MbiRom.romCheck co (romEnvOf c rkth uk) e = .ok a
      ∧ (Spec.MbiRom.crcInput e).length + 4 = e.length := by
  obtain ⟨e, he, _, hl, _⟩ := Mbi.crc_excludes_only_itself h hs
  obtain ⟨e', a, he', ha⟩ := rom_accepts_crc h hs ht rkth uk
  have : e = e' := by rw [he] at he'; exact Except.ok.inj he'
  subst this
  exact ⟨e, a, he, ha, hl⟩

/-! ## protected_total for the signed / encrypted families: what the ROM model verifies is exactly what the builder signed -/

/-- v2.1: the ROM's image obligation is over `pre`, the bytes the builder handed to the signer; the image is `pre`, its
    signature and (optionally) the hash of `pre` - no authenticated byte lies outside what was signed -/
theorem protected_total_v21 (h : Mbi.Hyp co env c cfg signer) (hf : c.family = some .signedV21) (ht : signedTypeOk c = true)
    (rkth : Mbi.Bytes) (uk : Option Mbi.Bytes) (signPub : Mbi.Bytes) (obs : Mbi.Bytes → Nat → List Spec.MbiRom.Obligation)
    (hrom : RomCertV21OK co (romEnvOf c rkth uk) cfg.cert cfg.sigLen signPub obs) :
    ∃ e pre a, exportImage co c cfg signer = .ok e ∧ Spec.MbiRom.romCheck co (romEnvOf c rkth uk) e = .ok a
      ∧ Spec.MbiRom.Obligation.ecdsa signPub pre (signer pre) ∈ a.obligations
      ∧ e.length = pre.length + cfg.sigLen + (match cfg.digest with | some al => (co.hash al pre).length | none => 0)
      ∧ e.take pre.length = pre := by
  obtain ⟨e, pre, a, he, hform, hr, hob⟩ := Mbi.rom_accepts_signedV21 h hf ht rkth uk signPub obs hrom
  refine ⟨e, pre, a, he, hr, ?_, ?_, ?_⟩
  · rw [hob]; simp
  · rw [hform]; cases cfg.digest <;> simp [h.hsig pre] <;> omega
  · rw [hform]; simp [List.append_assoc]

/-- v1 (with or without HMAC / key store): the ROM's RSA obligation covers `body[:n]` with `n` the length of the bytes the
    builder signed, and the body is exactly those bytes followed by the signature -/
theorem protected_total_v1 (h : Mbi.Hyp co env c cfg signer) (hf : c.family = some .signedV1) (ht : signedTypeOk c = true)
    (rkth : Mbi.Bytes) (certs : List (Nat × Nat)) (table : List Mbi.Bytes)
    (hrom : RomCertV1OK co (romEnvOf c rkth cfg.hmacKey) cfg.cert certs table) :
    ∃ e pre a last, exportImage co c cfg signer = .ok e
      ∧ Spec.MbiRom.romCheck co (romEnvOf c rkth cfg.hmacKey) e = .ok a
      ∧ bodyOf c cfg e = pre ++ signer pre
      ∧ Spec.MbiRom.Obligation.rsaByCert last pre.length ∈ a.obligations := by
  obtain ⟨e, pre, he, hb, hl, _, _⟩ := signed_range_is_prefix_v1 h hf
  obtain ⟨e', a, last, he', hr, _, hob, _⟩ := Mbi.rom_accepts_signedV1 h hf ht rkth certs table hrom
  have : e = e' := by rw [he] at he'; exact Except.ok.inj he'
  subst this
  exact ⟨e, pre, a, last, he, hr, hb, by rw [hob, hl]; simp⟩

/-! ## the negative side: tampering is rejected - unconditionally for CRC, as reductions to an explicit break otherwise -/

/-- CRC: ANY change of ANY single byte of an exported CRC image is rejected (CRC-32/MPEG-2 detects every single-byte error);
    the only exception the format has: a change that turns the type bits into "plain" while the stored CRC word is 0 -/
theorem bitflip_rejected_crc (h : Mbi.Hyp co env c cfg signer) (hs : c.signKind = .crc) (ht : crcTypeOk c = true)
    (rkth : Mbi.Bytes) (uk : Option Mbi.Bytes) :
    ∃ e, exportImage co c cfg signer = .ok e
      ∧ ∀ (pre suf : Mbi.Bytes) (x y : UInt8), e = pre ++ x :: suf → x ≠ y →
          ∀ a, Spec.MbiRom.romCheck co (romEnvOf c rkth uk) (pre ++ y :: suf) = .ok a →
            (Spec.MbiRom.rd32 (pre ++ y :: suf) Spec.MbiRom.offFlags &&& Spec.MbiRom.maskImageType = Spec.MbiRom.typePlain
              ∧ Spec.MbiRom.rd32 e Spec.MbiRom.offCrcOrCert = 0) := by
  have hc := plainCls h.hcls (romcrc_family h hs)
  have hk := plainCfg hc h.hcfg
  have hty := crcType_cases hs ht
  refine ⟨_, plain_export hc hk signer, ?_⟩
  intro pre suf x y he hxy a hok
  have B := plainImg_builtIvt hc hk (plainK c cfg) (plainK_lt c cfg)
  have hword := romcrc_word hc hk hs
  have hkind := plain_certKind hc rkth uk
  generalize plainImg c cfg (plainK c cfg) = e at *
  have hlen : 44 ≤ e.length := by have := B.len; simp only [Spec.MbiRom.ivtSize] at this; omega
  have hx : e[pre.length]? = some x := by rw [he]; simp
  rw [show pre ++ y :: suf = e.set pre.length y by rw [he]; simp] at hok ⊢
  generalize pre.length = n at *
  have hmp := Crypto.Crc.wf_crc32Mpeg2
  have hparams : Spec.MbiRom.crcParams = Crypto.Crc.crc32Mpeg2 := rfl
  obtain ⟨_, hok⟩ := romCheck_ok_iff.1 hok
  rcases romByType_none hkind hok with ⟨t0, w0⟩ | ⟨_, w1⟩
  · refine ⟨t0, ?_⟩
    by_cases hn : 36 ≤ n ∧ n < 40
    · exact (rd32_set e n _ y (Or.inl (by simp only [Spec.MbiRom.offCrcOrCert]; omega))).symm.trans w0
    · exfalso
      -- the flag word is untouched: the type is still a CRC type
      rw [spec_rd32_eq, rd32_set e n _ y (by simp only [Spec.MbiRom.offFlags]; omega), ← spec_rd32_eq, B.flags, rom_type,
        getImageType_flagsOf h] at t0
      simp only [Spec.MbiRom.typePlain] at t0
      omega
  · exfalso
    replace w1 := beq_iff_eq.1 (need_bind_ok.1 w1).1
    have hoff : Spec.MbiRom.offCrcOrCert = 40 := rfl
    by_cases h1 : n < 40
    · obtain ⟨g1, g2⟩ := crcInput_set_lo e (by omega) n y h1
      rw [g1, spec_rd32_eq, rd32_set e n _ y (by omega), ← spec_rd32_eq, hword, hparams] at w1
      exact crc_set_ne hmp (by decide) (by decide) _ _ x y (g2.trans hx) hxy w1.symm
    by_cases h2 : 44 ≤ n
    · obtain ⟨g1, g2⟩ := crcInput_set_hi e (by omega) n y h2
      rw [g1, spec_rd32_eq, rd32_set e n _ y (by omega), ← spec_rd32_eq, hword, hparams] at w1
      exact crc_set_ne hmp (by decide) (by decide) _ _ x y (g2.trans hx) hxy w1.symm
    · have e1 : Spec.MbiRom.crcInput (e.set n y) = Spec.MbiRom.crcInput e := by
        show (e.set n y).take 40 ++ (e.set n y).drop 44 = _
        rw [List.take_set_of_le (by omega), List.drop_set_of_lt (by omega)]; rfl
      rw [e1, ← hword] at w1
      exact rd32_set_ne e n _ x y (by omega) (by omega) hx hxy w1

/-- ECC signed: a changed application byte (not a layout word) that the ROM still accepts with its ECDSA obligations holding
    is a signature forgery -/
theorem bitflip_rejected_v21 (h : Mbi.Hyp co env c cfg signer) (hf : c.family = some .signedV21) (ht : signedTypeOk c = true)
    (rkth : Mbi.Bytes) (uk : Option Mbi.Bytes) (signPub : Mbi.Bytes) (obs : Mbi.Bytes → Nat → List Spec.MbiRom.Obligation)
    (hrom : RomCertV21OK co (romEnvOf c rkth uk) cfg.cert cfg.sigLen signPub obs)
    (alg : SigAlg) (sk : PrivKey) (r : Rand) (hsigner : signer = fun m => co.sign alg sk m r) (hpub : signPub = co.pubOf sk) :
    ∃ e, exportImage co c cfg signer = .ok e
      ∧ ∀ (i : Nat) (y : UInt8), i < appLen c cfg → ¬ layoutWord i → e[i]? ≠ some y →
          ∀ a, Spec.MbiRom.romCheck co (romEnvOf c rkth uk) (e.set i y) = .ok a →
            (∀ ob ∈ a.obligations, holdsEcdsa co alg ob) → Break co := by
  have F := signedV21_classFacts h.hcls hf
  have G := signedV21_cfgFacts F h.hcfg
  obtain ⟨k, hk⟩ := Option.isSome_iff_exists.mp F.mkSome
  refine ⟨v21Image co c cfg signer k, signedV21_export F G k hk, ?_⟩
  intro i y hi hlw hne a hacc hobs
  have R := romV21_facts h F G hk
  obtain ⟨hS, hcertOK⟩ := hrom
  rw [signedV21_appLen F] at hi
  rw [romCheck_built h ((R.builtIvt F G).set hlw y), romByType_v21 (romV21_type F hf ht) (romV21_renv F hk rkth uk).1] at hacc
  generalize v21Image co c cfg signer k = e at R hne hacc
  have hlw' : i < 32 ∨ 44 ≤ i := by unfold layoutWord at hlw; omega
  -- the changed image shows the ROM the same certificate word, block and manifest length
  have hcert := hcertOK (e.set i y) (appData cfg).length
    (by unfold certAt; rw [spec_sub_eq, slice_set _ _ _ _ _ (.inl hi)]; exact R.cert)
    (by rw [List.length_set, R.len]; simp only [manifestLen, IvtConsts.manifestHeaderSize]; omega)
  have hobl := romSignedV21_obligations co _ (e.set i y) _ _ signPub _ (manifestLen k cfg) a
    ((rd32_set _ _ _ _ (by simp only [Spec.MbiRom.offCrcOrCert]; omega)).trans R.w40) hcert
    ((rd32_set _ _ _ _ (by omega)).trans R.mlen) hacc
  -- its ECDSA obligation holds for the genuine signature over the changed prefix
  have hlast := hobs _ (by rw [hobl]; exact List.mem_append_right _ (List.mem_singleton.2 rfl))
  simp only [holdsEcdsa] at hlast
  rw [spec_sub_eq, slice_set _ _ _ _ _ (.inl (by omega)), hS, R.sig, List.take_set, R.pre, hpub, hsigner] at hlast
  have hrl := signedV21_raw_length F G k
  exact Break.sigForgery alg sk (v21Raw c cfg k) ((v21Raw c cfg k).set i y) r
    (set_ne _ _ _ (by rw [hrl]; omega) (by rw [← R.pre, List.getElem?_take_of_lt (by omega)]; exact hne)) hlast

/-- RSA signed without HMAC: signature forgery -/
theorem bitflip_rejected_v1 (h : Mbi.Hyp co env c cfg signer) (hf : c.family = some .signedV1) (ht : signedTypeOk c = true)
    (hh : c.has .Mbi_MixinHmac = false)
    (rkth : Mbi.Bytes) (certs : List (Nat × Nat)) (table : List Mbi.Bytes)
    (hrom : RomCertV1OK co (romEnvOf c rkth cfg.hmacKey) cfg.cert certs table)
    (alg : SigAlg) (sk : PrivKey) (r : Rand) (certPub : Mbi.Bytes → PubKey)
    (hsigner : signer = fun m => co.sign alg sk m r)
    (hpub : ∀ last, certs.getLast? = some last → certPub (slice (certInImage c cfg) last.1 (last.1 + last.2)) = co.pubOf sk) :
    ∃ e, exportImage co c cfg signer = .ok e
      ∧ ∀ (i : Nat) (y : UInt8), i < appLen c cfg → ¬ layoutWord i → e[i]? ≠ some y →
          ∀ a, Spec.MbiRom.romCheck co (romEnvOf c rkth cfg.hmacKey) (e.set i y) = .ok a →
            (∀ ob ∈ a.obligations, holdsRsa co alg certPub (e.set i y) ob) → Break co := by
  have k := SignedV1.clsF h.hcls hf
  have g := SignedV1.cfgF k h.hcfg
  subst hsigner
  have hs : (co.sign alg sk (SignedV1.rawOf c cfg) r).length = cfg.sigLen := h.hsig (SignedV1.rawOf c cfg)
  have hE := RomV1.body_eq h.hlaws k g (co.sign alg sk (SignedV1.rawOf c cfg) r)
  unfold Mbi.bodyOf at hE
  rw [hh, if_neg Bool.false_ne_true] at hE
  refine ⟨_, SignedV1.export_eq _ k g, ?_⟩
  intro i y hi hlw hne a hacc hob
  rw [romCheck_built h ((RomV1.img_builtIvt h.hlaws k g _ hs).set hlw y), RomV1.romByType_img k hf ht, hh,
    if_neg Bool.false_ne_true] at hacc
  rw [hE] at hacc hob hne
  exact RomV1.body_forgery k g hrom alg sk r certPub hpub hi (by unfold layoutWord at hlw; omega) hne
    (romSignedV1_obligations hacc).1 hob

/-- images with HMAC (signed load-to-RAM): a changed byte of the first 64 bytes that is still accepted is an HMAC forgery -/
theorem bitflip_rejected_hmac_header (h : Mbi.Hyp co env c cfg signer) (hf : c.family = some .signedV1) (ht : signedTypeOk c = true)
    (hh : c.has .Mbi_MixinHmac = true)
    (rkth : Mbi.Bytes) (certs : List (Nat × Nat)) (table : List Mbi.Bytes)
    (hrom : RomCertV1OK co (romEnvOf c rkth cfg.hmacKey) cfg.cert certs table) :
    ∃ e, exportImage co c cfg signer = .ok e
      ∧ ∀ (i : Nat) (y : UInt8), i < IvtConsts.hmacOffset → ¬ layoutWord i → e[i]? ≠ some y →
          ∀ a, Spec.MbiRom.romCheck co (romEnvOf c rkth cfg.hmacKey) (e.set i y) = .ok a → Break co := by
  have k := SignedV1.clsF h.hcls hf
  have g := SignedV1.cfgF k h.hcfg
  obtain ⟨key, hk, _⟩ := RomV1.hmacKey_some g hh
  refine ⟨_, SignedV1.export_eq signer k g, ?_⟩
  intro i y hi hlw hne a hacc
  rw [romCheck_built h ((RomV1.img_builtIvt h.hlaws k g _ (h.hsig _)).set hlw y), RomV1.romByType_img k hf ht, if_pos hh,
    bind_ok] at hacc
  obtain ⟨v, hv, _⟩ := hacc
  exact (RomV1.img_hmacImage h.hlaws k g _ hh key hk).header_forgery hk hi hne hv

/-- images with HMAC: application bytes behind the HMAC / key-store block: signature forgery -/
theorem bitflip_rejected_v1_hmac (h : Mbi.Hyp co env c cfg signer) (hf : c.family = some .signedV1) (ht : signedTypeOk c = true)
    (hh : c.has .Mbi_MixinHmac = true)
    (rkth : Mbi.Bytes) (certs : List (Nat × Nat)) (table : List Mbi.Bytes)
    (hrom : RomCertV1OK co (romEnvOf c rkth cfg.hmacKey) cfg.cert certs table)
    (alg : SigAlg) (sk : PrivKey) (r : Rand) (certPub : Mbi.Bytes → PubKey)
    (hsigner : signer = fun m => co.sign alg sk m r)
    (hpub : ∀ last, certs.getLast? = some last → certPub (slice (certInImage c cfg) last.1 (last.1 + last.2)) = co.pubOf sk) :
    ∃ e, exportImage co c cfg signer = .ok e
      ∧ ∀ (i : Nat) (y : UInt8),
          (let strip := IvtConsts.hmacSize + (cfg.keyStore.getD []).length
           IvtConsts.hmacOffset + strip ≤ i ∧ i - strip < appLen c cfg) → e[i]? ≠ some y →
          ∀ a, Spec.MbiRom.romCheck co (romEnvOf c rkth cfg.hmacKey) (e.set i y) = .ok a →
            (∀ ob ∈ a.obligations, holdsRsa co alg certPub (bodyOf c cfg (e.set i y)) ob) → Break co := by
  have k := SignedV1.clsF h.hcls hf
  have g := SignedV1.cfgF k h.hcfg
  subst hsigner
  obtain ⟨key, hk, _⟩ := RomV1.hmacKey_some g hh
  have hs : (co.sign alg sk (SignedV1.rawOf c cfg) r).length = cfg.sigLen := h.hsig (SignedV1.rawOf c cfg)
  have H := RomV1.img_hmacImage h.hlaws k g (co.sign alg sk (SignedV1.rawOf c cfg) r) hh key hk
  refine ⟨_, SignedV1.export_eq _ k g, ?_⟩
  intro i y ⟨hi1, hi2⟩ hne a hacc hob
  have hlw : ¬ layoutWord i := by unfold layoutWord; simp only [IvtConsts.hmacOffset] at hi1; omega
  rw [romCheck_built h ((RomV1.img_builtIvt h.hlaws k g _ hs).set hlw y), RomV1.romByType_img k hf ht, if_pos hh,
    bind_ok] at hacc
  obtain ⟨v, hv, hacc⟩ := hacc
  obtain ⟨e1, e2⟩ := H.romHmac_set hk hi1 hv
  obtain ⟨b1, b2⟩ := H.body_set hi1 y
  rw [e1, e2] at hacc
  unfold bodyOf at hob
  rw [if_pos hh, Nat.add_assoc, show IvtConsts.hmacOffset = Spec.MbiRom.hmacOffset from rfl, b2] at hob
  rw [← b1] at hne
  exact RomV1.body_forgery k g hrom alg sk r certPub hpub hi2 (by simp only [IvtConsts.hmacOffset] at hi1; omega) hne
    (romSignedV1_obligations hacc).1 hob

/-- encrypted: a changed byte of the first 64 bytes that is still accepted is an HMAC forgery -/
theorem bitflip_rejected_encrypted_header (h : Mbi.Hyp co env c cfg signer) (hf : c.family = some .encrypted)
    (ht : signedTypeOk c = true) (rkth : Mbi.Bytes) (certs : List (Nat × Nat)) (table : List Mbi.Bytes)
    (hrom : RomCertV1OK co (romEnvOf c rkth cfg.hmacKey) cfg.cert certs table) :
    ∃ e, exportImage co c cfg signer = .ok e
      ∧ ∀ (i : Nat) (y : UInt8), i < IvtConsts.hmacOffset → ¬ layoutWord i → e[i]? ≠ some y →
          ∀ a, Spec.MbiRom.romCheck co (romEnvOf c rkth cfg.hmacKey) (e.set i y) = .ok a → Break co := by
  have hc := encCls h.hcls hf
  have hk := encCfg hc h.hcfg
  have hn := encLens h.hlaws hc hk signer h.hsig
  obtain ⟨k, hk1, hk2⟩ := hk.hhmac
  refine ⟨_, encrypted_export h.hlaws hc hk signer, ?_⟩
  intro i y hi hlw hne a H
  obtain ⟨v, hv, _⟩ := (romenc_check h hc hf ht ((encImg_builtIvt h.hlaws hc hk hn h.hsig).set hlw y) rkth).1 H
  exact (encImg_hmacImage h.hlaws hc hk hn k hk1 hk2).header_forgery hk1 hi hne hv

/-- encrypted: ciphertext bytes of the application behind the HMAC / key-store block: signature forgery -/
theorem bitflip_rejected_encrypted (h : Mbi.Hyp co env c cfg signer) (hf : c.family = some .encrypted) (ht : signedTypeOk c = true)
    (rkth : Mbi.Bytes) (certs : List (Nat × Nat)) (table : List Mbi.Bytes)
    (hrom : RomCertV1OK co (romEnvOf c rkth cfg.hmacKey) cfg.cert certs table)
    (alg : SigAlg) (sk : PrivKey) (r : Rand) (certPub : Mbi.Bytes → PubKey)
    (hsigner : signer = fun m => co.sign alg sk m r)
    (hpub : ∀ last, certs.getLast? = some last → certPub (slice (certInImage c cfg) last.1 (last.1 + last.2)) = co.pubOf sk) :
    ∃ e, exportImage co c cfg signer = .ok e
      ∧ ∀ (i : Nat) (y : UInt8),
          (let strip := IvtConsts.hmacSize + (cfg.keyStore.getD []).length
           IvtConsts.hmacOffset + strip ≤ i ∧ i - strip < appLen c cfg) → e[i]? ≠ some y →
          ∀ a, Spec.MbiRom.romCheck co (romEnvOf c rkth cfg.hmacKey) (e.set i y) = .ok a →
            (∀ ob ∈ a.obligations, holdsRsa co alg certPub (encBodyOf cfg (e.set i y)) ob) → Break co := by
  have hc := encCls h.hcls hf
  have hk := encCfg hc h.hcfg
  have hn := encLens h.hlaws hc hk signer h.hsig
  obtain ⟨k, hk1, hk2⟩ := hk.hhmac
  have P := encPe_signedPrefix h.hlaws hc hk hn
  have H := encImg_hmacImage h.hlaws hc hk hn k hk1 hk2
  have hw := (romenc_body_words h.hlaws hc hk (signer (encPe co c cfg))).2.2.1
  have hsg : signer (encPe co c cfg) = co.sign alg sk (encPe co c cfg) r := by rw [hsigner]
  rw [hsg] at H hw
  refine ⟨_, encrypted_export h.hlaws hc hk signer, ?_⟩
  intro i y ⟨hi1, hi2⟩ hne a hacc hob
  change IvtConsts.hmacOffset + (IvtConsts.hmacSize + encKsLen cfg) ≤ i at hi1
  change i - (IvtConsts.hmacSize + encKsLen cfg) < appLen c cfg at hi2
  have hlw : ¬ layoutWord i := by unfold layoutWord; simp only [IvtConsts.hmacOffset] at hi1; omega
  obtain ⟨v, hv, hacc⟩ := (romenc_check h hc hf ht ((encImg_builtIvt h.hlaws hc hk hn h.hsig).set hlw y) rkth).1 hacc
  obtain ⟨e1, -⟩ := H.romHmac_set hk1 hi1 hv
  obtain ⟨b1, b2⟩ := H.body_set hi1 y
  rw [e1] at hacc
  unfold encBodyOf at hob
  rw [Nat.add_assoc, show IvtConsts.hmacOffset = Spec.MbiRom.hmacOffset from rfl,
    show (cfg.keyStore.getD []).length = encKsLen cfg from rfl, b2] at hob
  rw [← b1, List.getElem?_append_left (Nat.lt_of_lt_of_le hi2 (Nat.le_trans (Nat.le_add_right _ _) P.inside))] at hne
  exact P.forgery hrom alg sk r certPub hw (fun last hl => by rw [encPe_cert h.hlaws hc hk]; exact hpub last hl) hi2
    (by simp only [IvtConsts.hmacOffset] at hi1; omega) hne (romEncrypted_obligations hacc) hob

/-! ## certificate block from the C03 model: the `RomCert…OK` hypotheses discharged, fuse value = `Spec.rotkh` of the root keys -/

section CertBlockModel
open SpsdkVerif.CertBlock SpsdkVerif.Rkht SpsdkVerif.Spec

/-- every well-formed v2.1 block exported by the C03 model (with or without ISK certificate) satisfies `RomCertV21OK` -/
theorem rom_cert_v21_of_model (pointOk : Mbi.Bytes → Bool) (ca : Bool) (used : Nat) (cv : Curve) (cb : CertBlockV21)
    (wf : WFv21 co pointOk ca used cv cb) (rwf : RomWF co used cv cb) (renv : Spec.MbiRom.RomEnv)
    (hrkth : renv.rkth = rotkhOfRecord co cv cb.rkr) :
    RomCertV21OK co renv (bytesV21 cb) (signerOf cv cb).1.length (signerOf cv cb).1 (fun _ _ => obsOf cb) :=
  Mbi.Built.rom_cert_v21_of_model pointOk ca used cv cb wf rwf renv hrkth

/-- every well-formed v1 block exported by the C03 model satisfies `RomCertV1OK` (for every patched `image_length`) -/
theorem rom_cert_v1_of_model (certOk : Mbi.Bytes → Bool) (cb : CertBlockV1) (wf : WFv1 certOk cb) (rwf : RomWFv1 cb)
    (renv : Spec.MbiRom.RomEnv) (hrkth : renv.rkth = co.hash .sha256 (pad4 cb.rkh).flatten) :
    RomCertV1OK co renv (bytesV1 cb) (relCerts cb.certs 32) (pad4 cb.rkh) :=
  Mbi.Built.rom_cert_v1_of_model certOk cb wf rwf renv hrkth

/-- END TO END, ECC signed: an image whose certificate block is the one SPSDK builds from the root keys `ks` (documented
    domain, any used index) is accepted by the ROM fused with the documented value `Spec.rotkh … cert_block_21 ks`; the only
    obligation left is the image signature under the selected root key - which holds when the signer signs with that key.
    No hypothesis about the certificate block remains. -/
theorem rom_accepts_signed_v21_built (h : Mbi.Hyp co env c cfg signer) (hf : c.family = some .signedV21) (ht : signedTypeOk c = true)
    (uk : Option Mbi.Bytes) (ks : List Key) (hk : KeysOK .certBlock21 ks) (used : Nat) (hu : used < ks.length)
    (r : RootKeyRecord) (hr : rkrCalculate co true ks used = .ok r)
    (hcert : cfg.cert = bytesV21 ⟨2, 1, r, none⟩)
    (alg : SigAlg) (sk : PrivKey) (rnd : Rand) (hsigner : signer = fun m => co.sign alg sk m rnd)
    (hpub : ∀ ku, ks[used]? = some ku → ku.material = co.pubOf sk ∧ cfg.sigLen = ku.material.length) :
    ∃ e pre a, exportImage co c cfg signer = .ok e
      ∧ Spec.MbiRom.romCheck co (romEnvOf c (Spec.rotkh co .certBlock21 ks) uk) e = .ok a
      ∧ a.obligations = [.ecdsa (co.pubOf sk) pre (signer pre)]
      ∧ (∀ ob ∈ a.obligations, holdsEcdsa co alg ob) :=
  Mbi.Built.rom_accepts_signed_v21_built h hf ht uk ks hk used hu r hr hcert alg sk rnd hsigner hpub

/-- END TO END, ECC signed WITH an ISK certificate - the chain  root[used] → ISK → image  with the signing root index a parameter:
    block built by `RootKeyRecord.calculate` (non-CA) from the root keys `ks` with signing root `used`, plus a well-formed ISK
    certificate.  The ROM fused with `Spec.rotkh … cert_block_21 ks` accepts the exported image; the record names index `used` and
    carries THAT root's public key; the two obligations left (ISK certificate under the carried root key, image under the ISK key)
    hold when the certificate was signed by root `used` and the image by the ISK key (`verify_sign`). -/
theorem rom_accepts_signed_v21_built_isk (h : Mbi.Hyp co env c cfg signer) (hf : c.family = some .signedV21) (ht : signedTypeOk c = true)
    (uk : Option Mbi.Bytes) (ks : List Key) (hk : KeysOK .certBlock21 ks) (used : Nat) (hu : used < ks.length)
    (r : RootKeyRecord) (hr : rkrCalculate co false ks used = .ok r)
    (pointOk : Mbi.Bytes → Bool) (i : IskCert) (wi : WFisk pointOk r.rootPublicKey.length i)
    (hsize : headerSizeV21 + (rkrBytes r).length + (iskBytes i).length < 2 ^ 32)
    (hcert : cfg.cert = bytesV21 ⟨2, 1, r, some i⟩) (hsl : cfg.sigLen = i.pubKey.length)
    (rootSk iskSk : PrivKey) (rnd rnd' : Rand) (alg : SigAlg)
    (hroot : ∀ ku, ks[used]? = some ku → ku.material = co.pubOf rootSk)
    (hisksig : ∀ cv : Curve, (∀ k ∈ ks, k.curve? = some cv) →
        i.signature = co.sign (.ecdsa cv.hashAlg) rootSk (rkrBytes r ++ iskSignedPart i) rnd')
    (hiskpub : i.pubKey = co.pubOf iskSk) (hsigner : signer = fun m => co.sign alg iskSk m rnd) :
    ∃ (e pre : Mbi.Bytes) (a : Spec.MbiRom.Accepted) (cv : Curve) (ku : Key), exportImage co c cfg signer = .ok e
      ∧ Spec.MbiRom.romCheck co (romEnvOf c (Spec.rotkh co .certBlock21 ks) uk) e = .ok a
      ∧ ks[used]? = some ku ∧ r.rootPublicKey = ku.material ∧ rkrUsed r.flags = used ∧ rkrCa r.flags = false
      ∧ a.obligations = [.ecdsa (co.pubOf rootSk) (rkrBytes r ++ iskSignedPart i) i.signature,
                         .ecdsa (co.pubOf iskSk) pre (signer pre)]
      ∧ co.verify (.ecdsa cv.hashAlg) (co.pubOf rootSk) (rkrBytes r ++ iskSignedPart i) i.signature = true
      ∧ co.verify alg (co.pubOf iskSk) pre (signer pre) = true :=
  Mbi.Built.rom_accepts_signed_v21_built_isk h hf ht uk ks hk used hu r hr pointOk i wi hsize hcert hsl rootSk iskSk rnd rnd' alg
    hroot hisksig hiskpub hsigner

/-- END TO END, RSA signed (with or without HMAC / key store; encrypted: `rom_accepts_encrypted_built`, with the decrypted
    plaintext in place of the obligations): with a certificate block exported by the C03 model whose RKH table is the one
    `CertBlockV1.set_root_key_hash` computes from the root keys `ks`, the ROM fused with `Spec.rotkh … cert_block_1 ks`
    accepts the image; the obligations left are the X.509 chain over the certificates of the block and the RSA signature
    over the signed prefix -/
theorem rom_accepts_signed_v1_built (h : Mbi.Hyp co env c cfg signer) (hf : c.family = some .signedV1) (ht : signedTypeOk c = true)
    (ks : List Key) (hk : KeysOK .certBlock1 ks) (certOk : Mbi.Bytes → Bool) (cb : CertBlockV1) (wf : WFv1 certOk cb)
    (rwf : RomWFv1 cb) (hrkh : certBlockV1Rkh co ks = .ok cb.rkh) (hcert : cfg.cert = bytesV1 cb) :
    ∃ e a last, exportImage co c cfg signer = .ok e
      ∧ Spec.MbiRom.romCheck co (romEnvOf c (Spec.rotkh co .certBlock1 ks) cfg.hmacKey) e = .ok a
      ∧ ((relCerts cb.certs 32).map (fun p => (appLen c cfg + p.1, p.2))).getLast? = some last
      ∧ a.obligations = [.x509Chain ((relCerts cb.certs 32).map (fun p => (appLen c cfg + p.1, p.2))) (pad4 cb.rkh),
                         .rsaByCert last (totalLenForCertBlock c cfg).toNat] :=
  Mbi.Built.rom_accepts_signed_v1_built h hf ht ks hk certOk cb wf rwf hrkh hcert

theorem rom_accepts_encrypted_built (h : Mbi.Hyp co env c cfg signer) (hf : c.family = some .encrypted) (ht : signedTypeOk c = true)
    (ks : List Key) (hk : KeysOK .certBlock1 ks) (certOk : Mbi.Bytes → Bool) (cb : CertBlockV1) (wf : WFv1 certOk cb)
    (rwf : RomWFv1 cb) (hrkh : certBlockV1Rkh co ks = .ok cb.rkh) (hcert : cfg.cert = bytesV1 cb) :
    ∃ e a raw, exportImage co c cfg signer = .ok e ∧ collect c cfg = .ok raw
      ∧ Spec.MbiRom.romCheck co (romEnvOf c (Spec.rotkh co .certBlock1 ks) cfg.hmacKey) e = .ok a
      ∧ a.plain = some raw :=
  Mbi.Built.rom_accepts_encrypted_built h hf ht ks hk certOk cb wf rwf hrkh hcert

end CertBlockModel

/-! ## header-less "Vx" images (mc56f81xxx / mwct20x2): ROM model `Spec.MbiRomVx` (Spec/MbiRomVx.lean)

The export side is `Vx.exportImage` (Model/MbiVx.lean; offsets GENERATED from `Mbi_MixinBcaTable`, tied to /repo by the C01
stream `vx`); the ROM side has its own constants (`vx_spec_consts_agree`).  Certificate: the ISK certificate block is opaque
bytes in the Vx model; `VxCertOK` says it is an ISK certificate of the format and `cert_hash` is the stored 16-byte hash. -/

/-- the constants of the independent Vx ROM spec are the offsets the builder uses (generated from the current source) -/
theorem vx_spec_consts_agree :
    Spec.MbiRomVx.digestOff = IvtConsts.vxImgDigestOffset ∧ Spec.MbiRomVx.digestSize = IvtConsts.vxImgDigestSize
    ∧ Spec.MbiRomVx.sigOff = IvtConsts.vxImgSignatureOffset ∧ Spec.MbiRomVx.sigOff + Spec.MbiRomVx.sigSize = IvtConsts.vxImgBcaOffset
    ∧ Spec.MbiRomVx.bcaOff = IvtConsts.vxImgBcaOffset
    ∧ Spec.MbiRomVx.bcaOff + Spec.MbiRomVx.bcaImageLength = IvtConsts.vxImgBcaImageLengthOffset
    ∧ Spec.MbiRomVx.bcaOff + Spec.MbiRomVx.bcaFwVersion = IvtConsts.vxImgBcaFwVersionOffset
    ∧ Spec.MbiRomVx.fcfOff = IvtConsts.vxImgFcfOffset ∧ Spec.MbiRomVx.fcfOff = IvtConsts.vxImgSignedHeaderEnd
    ∧ Spec.MbiRomVx.iskOff = IvtConsts.vxImgIskOffset ∧ Spec.MbiRomVx.iskOff = IvtConsts.vxImgFcfOffset + IvtConsts.vxImgFcfSize
    ∧ Spec.MbiRomVx.iskOff + Spec.MbiRomVx.iskCertSize ≤ IvtConsts.vxImgIskHashOffset
    ∧ Spec.MbiRomVx.iskHashOff = IvtConsts.vxImgIskHashOffset ∧ Spec.MbiRomVx.iskHashSize = IvtConsts.vxImgIskHashSize
    ∧ Spec.MbiRomVx.dataStart = IvtConsts.vxImgDataStart
    ∧ Spec.MbiRomVx.iskPubOff + 2 * 32 = Spec.MbiRomVx.iskTbsSize ∧ Spec.MbiRomVx.iskTbsSize + Spec.MbiRomVx.sigSize = Spec.MbiRomVx.iskCertSize := by
  decide

/-- `vx_rom_accepts (export x)`: every complete Vx image the model exports - plain, CRC in the BCA, ECC signed - passes the
    ROM checks of its kind (the device compares the ISK hash iff the builder stores it) -/
theorem vx_rom_accepts (co : CryptoOps) (k : Vx.Kind) (cfg : Vx.Cfg) (signer : Signer) (hw : Vx.cfgWF k cfg = true)
    (hj : cfg.justHeader = false) (hs : ∀ m, (signer m).length = IvtConsts.vxImgBcaOffset - IvtConsts.vxImgSignatureOffset)
    (hh : ∀ m, (co.hash .sha256 m).length = IvtConsts.vxImgDigestSize) (hc : k = .signed → Vx.VxCertOK co cfg)
    (rootPub : Mbi.Bytes) :
    ∃ e a, Vx.exportImage co k cfg signer = .ok e
      ∧ Spec.MbiRomVx.romVx co ⟨rootPub, cfg.addHash⟩ (Vx.romKind k) e = .ok a := by
  cases k with
  | plain => exact Vx.vx_rom_accepts_plain co _ cfg signer hw
  | crc => obtain ⟨e, a, h1, h2, _⟩ := Vx.vx_rom_accepts_crc co ⟨rootPub, cfg.addHash⟩ cfg signer hw; exact ⟨e, a, h1, h2⟩
  | signed => obtain ⟨e, a, h1, h2, _⟩ := Vx.vx_rom_accepts_signed co cfg signer hw hj hs hh (hc rfl) rootPub; exact ⟨e, a, h1, h2⟩

/-- CRC: the ROM insists that the three BCA words describe the WHOLE data part (start 0xC00, up to the end of the image): the
    authenticated ranges of an accepted export are the CRC words and everything from 0xC00 on -/
theorem vx_rom_accepts_crc (co : CryptoOps) (env : Spec.MbiRomVx.VxEnv) (cfg : Vx.Cfg) (signer : Signer)
    (hw : Vx.cfgWF .crc cfg = true) :
    ∃ e a, Vx.exportImage co .crc cfg signer = .ok e ∧ Spec.MbiRomVx.romVx co env .crc e = .ok a
      ∧ a.authenticated = [(964, 976), (3072, e.length)] := Vx.vx_rom_accepts_crc co env cfg signer hw

/-- signed: accepted, and exactly two obligations are left - root key → ISK certificate (over its first 72 bytes) and ISK key →
    image over `dataToSign e` = header[0:0x360] ‖ BCA ‖ data OF THE EMITTED IMAGE with the signature the provider returned -/
theorem vx_rom_accepts_signed (co : CryptoOps) (cfg : Vx.Cfg) (signer : Signer) (hw : Vx.cfgWF .signed cfg = true)
    (hj : cfg.justHeader = false) (hs : ∀ m, (signer m).length = IvtConsts.vxImgBcaOffset - IvtConsts.vxImgSignatureOffset)
    (hh : ∀ m, (co.hash .sha256 m).length = IvtConsts.vxImgDigestSize) (hc : Vx.VxCertOK co cfg) (rootPub : Mbi.Bytes) :
    ∃ e a, Vx.exportImage co .signed cfg signer = .ok e
      ∧ Spec.MbiRomVx.romVx co ⟨rootPub, cfg.addHash⟩ .signed e = .ok a
      ∧ a.obligations = [.ecdsa rootPub (cfg.cert.take 72) (cfg.cert.drop 72),
                         .ecdsa (slice cfg.cert 8 72) (Vx.dataToSign e) (signer (Vx.dataToSign e))] :=
  Vx.vx_rom_accepts_signed co cfg signer hw hj hs hh hc rootPub

/-- … and both obligations HOLD (by `verify_sign`, no hypothesis about the signatures) when the ISK certificate is the
    root key's signature over its to-be-signed part and the image is signed with the private key of the ISK it carries -/
theorem vx_rom_obligations_hold (laws : CryptoLaws co) (cfg : Vx.Cfg) (signer : Signer) (hw : Vx.cfgWF .signed cfg = true)
    (hj : cfg.justHeader = false) (hs : ∀ m, (signer m).length = IvtConsts.vxImgBcaOffset - IvtConsts.vxImgSignatureOffset)
    (hh : ∀ m, (co.hash .sha256 m).length = IvtConsts.vxImgDigestSize) (hc : Vx.VxCertOK co cfg)
    (alg : SigAlg) (rootSk iskSk : PrivKey) (r r' : Rand)
    (hroot : cfg.cert.drop 72 = co.sign alg rootSk (cfg.cert.take 72) r')
    (hisk : slice cfg.cert 8 72 = co.pubOf iskSk) (hsigner : signer = fun m => co.sign alg iskSk m r) :
    ∃ e a, Vx.exportImage co .signed cfg signer = .ok e
      ∧ Spec.MbiRomVx.romVx co ⟨co.pubOf rootSk, cfg.addHash⟩ .signed e = .ok a
      ∧ a.obligations.length = 2 ∧ ∀ ob ∈ a.obligations, holdsEcdsa co alg ob := by
  obtain ⟨e, a, h1, h2, h3⟩ := Vx.vx_rom_accepts_signed co cfg signer hw hj hs hh hc (co.pubOf rootSk)
  refine ⟨e, a, h1, h2, by rw [h3]; rfl, ?_⟩
  intro ob hob
  rw [h3] at hob
  simp only [List.mem_cons, List.mem_nil_iff, or_false] at hob
  rcases hob with rfl | rfl
  · simp only [holdsEcdsa]; rw [hroot]; exact laws.verify_sign alg rootSk _ r'
  · simp only [holdsEcdsa]; rw [hisk, hsigner]; exact laws.verify_sign alg iskSk _ r

/-- tamper reduction, signed: a changed byte of the signed ranges (below the digest, BCA, data part) that the ROM still
    accepts with its ECDSA obligations holding is a forgery of the ISK key's signature -/
theorem vx_bitflip_rejected_signed (co : CryptoOps) (cfg : Vx.Cfg) (signer : Signer) (hw : Vx.cfgWF .signed cfg = true)
    (hj : cfg.justHeader = false) (hs : ∀ m, (signer m).length = IvtConsts.vxImgBcaOffset - IvtConsts.vxImgSignatureOffset)
    (hh : ∀ m, (co.hash .sha256 m).length = IvtConsts.vxImgDigestSize) (hc : Vx.VxCertOK co cfg) (rootPub : Mbi.Bytes)
    (alg : SigAlg) (sk : PrivKey) (r : Rand) (hsigner : signer = fun m => co.sign alg sk m r)
    (hpub : slice cfg.cert 8 72 = co.pubOf sk) :
    ∃ e, Vx.exportImage co .signed cfg signer = .ok e
      ∧ ∀ (i : Nat) (y : UInt8), Vx.vxSignedPos i → i < e.length → e[i]? ≠ some y →
          ∀ a, Spec.MbiRomVx.romVx co ⟨rootPub, cfg.addHash⟩ .signed (e.set i y) = .ok a →
            (∀ ob ∈ a.obligations, holdsEcdsa co alg ob) → Break co := by
  obtain ⟨e, hE, S⟩ := Vx.vx_signed_facts co cfg signer hw hj hs hh
  have hcert : slice e 1040 (1040 + 136) = cfg.cert := by have := S.cert; rwa [hc.1] at this
  refine ⟨e, hE, ?_⟩
  intro i y hp hi hne a hok hobs
  obtain ⟨_, _, _, rfl⟩ := Vx.vxrom_signed_inv co _ _ a hok
  have hob := hobs _ (List.mem_cons_of_mem _ (List.mem_singleton.2 rfl))
  simp only [holdsEcdsa] at hob
  -- key slot and signature slot are outside the signed ranges
  rw [slice_set e i _ _ y (by rcases hp with hp | hp | hp <;> omega),
    slice_set e i _ _ y (by rcases hp with hp | hp | hp <;> omega),
    Vx.vx_slice_slice e cfg.cert 1040 1176 8 72 hcert (by decide), hpub, S.sig, hsigner] at hob
  exact Break.sigForgery alg sk _ _ r (Vx.vxrom_dataToSign_set e i y hi hne hp) hob

/-- … and without any key: the digest check alone makes such an accepted change a SHA-256 collision -/
theorem vx_bitflip_rejected_digest (co : CryptoOps) (cfg : Vx.Cfg) (signer : Signer) (hw : Vx.cfgWF .signed cfg = true)
    (hj : cfg.justHeader = false) (hs : ∀ m, (signer m).length = IvtConsts.vxImgBcaOffset - IvtConsts.vxImgSignatureOffset)
    (hh : ∀ m, (co.hash .sha256 m).length = IvtConsts.vxImgDigestSize) (env : Spec.MbiRomVx.VxEnv) :
    ∃ e, Vx.exportImage co .signed cfg signer = .ok e
      ∧ ∀ (i : Nat) (y : UInt8), Vx.vxSignedPos i → i < e.length → e[i]? ≠ some y →
          ∀ a, Spec.MbiRomVx.romVx co env .signed (e.set i y) = .ok a → Break co := by
  obtain ⟨e, hE, S⟩ := Vx.vx_signed_facts co cfg signer hw hj hs hh
  refine ⟨e, hE, ?_⟩
  intro i y hp hi hne a hok
  obtain ⟨_, _, hd, _⟩ := Vx.vxrom_signed_inv co _ _ a hok
  rw [slice_set e i 864 896 y (by rcases hp with hp | hp | hp <;> omega), S.digest] at hd
  exact Break.collision .sha256 _ _ (Vx.vxrom_dataToSign_set e i y hi hne hp) hd

/-- tamper, CRC: ANY change of ANY single byte of the data part is rejected - unconditionally (CRC-32/MPEG-2 burst property) -/
theorem vx_bitflip_rejected_crc (co : CryptoOps) (env : Spec.MbiRomVx.VxEnv) (cfg : Vx.Cfg) (signer : Signer)
    (hw : Vx.cfgWF .crc cfg = true) :
    ∃ e, Vx.exportImage co .crc cfg signer = .ok e
      ∧ ∀ (i : Nat) (y : UInt8), 3072 ≤ i → i < e.length → e[i]? ≠ some y →
          ∀ a, Spec.MbiRomVx.romVx co env .crc (e.set i y) ≠ .ok a := by
  obtain ⟨e, hE, hlen, w1, w2, w3⟩ := Vx.vx_crc_rom_facts co cfg signer hw
  refine ⟨e, hE, ?_⟩
  intro i y h3 hi hne a hok
  change Spec.MbiRomVx.romVxCrc (e.set i y) = .ok a at hok
  unfold Spec.MbiRomVx.romVxCrc at hok
  simp only [need_bind_ok] at hok
  obtain ⟨_, _, g2, _⟩ := hok
  -- the three BCA words are in front of the data part: the ROM computes the CRC of the changed data part
  rw [show Spec.MbiRom.rd32 (e.set i y) (Spec.MbiRomVx.bcaOff + Spec.MbiRomVx.bcaCrcStart) = 3072 from
      (rd32_set e i 964 y (.inr (by omega))).trans w1,
    show Spec.MbiRom.rd32 (e.set i y) (Spec.MbiRomVx.bcaOff + Spec.MbiRomVx.bcaCrcCount) = e.length - 3072 from
      (rd32_set e i 968 y (.inr (by omega))).trans w2,
    show Spec.MbiRom.rd32 (e.set i y) (Spec.MbiRomVx.bcaOff + Spec.MbiRomVx.bcaCrcValue) = _ from
      (rd32_set e i 972 y (.inr (by omega))).trans w3, beq_iff_eq] at g2
  have hsub : Spec.MbiRom.sub (e.set i y) 3072 (3072 + (e.length - 3072)) = (e.drop 3072).set (i - 3072) y := by
    unfold Spec.MbiRom.sub
    rw [List.take_of_length_le (by simp only [List.length_set]; omega), List.drop_set, if_neg (by omega)]
  rw [hsub] at g2
  exact crc_set_ne Crypto.Crc.wf_crc32Mpeg2 (by decide) (by decide) _ (i - 3072) e[i] y
    (by rw [List.getElem?_drop, show 3072 + (i - 3072) = i by omega]; exact List.getElem?_eq_getElem hi)
    (fun h => hne (by rw [List.getElem?_eq_getElem hi, h])) g2.symm

/-- non-vacuity: a signed Vx configuration with a 136-byte ISK certificate of the format (magic 0x4D43, version 1) satisfies
    `cfgWF` and the decidable part of `VxCertOK` (with `addHash = false` the hash clause is empty) -/
example : ∃ cfg : Vx.Cfg, Vx.cfgWF .signed cfg = true ∧ cfg.justHeader = false ∧ cfg.addHash = false
    ∧ cfg.cert.length = Spec.MbiRomVx.iskCertSize ∧ Spec.MbiRom.rd16 cfg.cert 0 = Spec.MbiRomVx.iskMagic
    ∧ Spec.MbiRom.rd16 cfg.cert 2 = Spec.MbiRomVx.iskVersion ∧ Vx.vxSignedPos 3100 :=
  ⟨{ app := List.replicate 3200 7, lifecycle := 0x90, fwVersion := 5, cert := [0x43, 0x4D, 1, 0] ++ List.replicate 132 9,
     certHash := List.replicate 16 2, addHash := false },
   by
     -- the length of the payload from the length lemmas; the rest of `cfgWF` is small enough to evaluate
     have h : (align4 (List.replicate 3200 (7 : UInt8))).length = 3200 := by rw [align4_length, List.length_replicate]
     simp only [Vx.cfgWF, h]
     decide +kernel,
   rfl, rfl, by decide +kernel, by decide +kernel, by decide +kernel, Or.inr (Or.inr (by decide))⟩

end SpsdkVerif.Properties.C02
