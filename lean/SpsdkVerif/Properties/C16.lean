/-
C16 — BinaryImage: composition, validation (and, via the harness, file formats) preserve bytes and addresses.

Model: Model/BinImage.lean (hand-written; tied to spsdk/utils/images.py by the tree correspondence of
harness/props/C16.py).  Helper lemmas: Proofs/BinImage.lean.
-/
import SpsdkVerif.Model.BinImage
import SpsdkVerif.Proofs.BinImage
import SpsdkVerif.Model.HexFmt
import SpsdkVerif.Proofs.HexFmt
import SpsdkVerif.Generated.BinImageGeo
import SpsdkVerif.Proofs.BinImageGen
import SpsdkVerif.Model.HexFmtOw
import SpsdkVerif.Proofs.HexFmtOw
import SpsdkVerif.Model.BinImageOps
import SpsdkVerif.Proofs.BinImageOps

namespace SpsdkVerif.C16
open SpsdkVerif SpsdkVerif.BinImg SpsdkVerif.Misc

/-! ## geometry, stated independently of `validate` -/

/-- two siblings overlap (plain interval intersection; an empty image counts when strictly inside the other) -/
def OverlapPair (c s : Img) : Prop :=
  c.offset < s.offset + s.len ∧ s.offset < c.offset + c.len

/-- somewhere in the tree: own binary larger than the image, a child sticking out of its parent, or two
    siblings overlapping -/
inductive GeoErr : Img → Prop
  | bin (i : Img) : binLen i.binary > i.len → GeoErr i
  | child (i c : Img) : c ∈ i.children → GeoErr c → GeoErr i
  | sticks (i c : Img) : c ∈ i.children → c.offset + c.len > i.len → GeoErr i
  | overlap (i : Img) (a b : Nat) (ca cb : Img) : a ≠ b → i.children[a]? = some ca →
      i.children[b]? = some cb → OverlapPair ca cb → GeoErr i

/-- validation reports an error exactly when the geometry is wrong -/
theorem validate_iff (i : Img) : i.validate = .ok () ↔ ¬ GeoErr i := by
  induction i using Img.induct' with
  | h s o a b p ch ih =>
    rw [validate_ok_iff, noOverlap_iff_idx]
    constructor
    · rintro ⟨h1, h2, h3⟩ hg
      cases hg with
      | bin _ hb => simp only [Img.binary] at hb; omega
      | child _ c hc hgc => exact (ih c hc).1 (h2 c hc).1 hgc
      | sticks _ c hc hs => have := (h2 c hc).2; omega
      | overlap _ x y ca cb hxy hx hy hov => exact h3 x y ca cb hxy hx hy hov
    · intro hn
      refine ⟨?_, ?_, ?_⟩
      · apply Nat.le_of_not_lt; intro hlt; exact hn (.bin _ hlt)
      · intro c hc
        refine ⟨(ih c hc).2 (fun hg => hn (.child _ c hc hg)), ?_⟩
        apply Nat.le_of_not_lt; intro hlt; exact hn (.sticks _ c hc hlt)
      · intro x y ca cb hxy hx hy hov
        exact hn (.overlap _ x y ca cb hxy hx hy hov)

/-! ## alignment well-formedness: what the constructor establishes (`_size = align(size, alignment)`) -/

inductive AlignWF : Img → Prop
  | mk (i : Img) : 0 < i.alignment → i.size % i.alignment = 0 → (∀ c ∈ i.children, AlignWF c) → AlignWF i

/-- the reported length is a multiple of the alignment -/
theorem len_aligned (i : Img) (h : AlignWF i) : i.len % i.alignment = 0 := by
  cases h with
  | mk _ h1 h2 _ =>
    cases i with
    | mk s o a b p ch =>
      simp only [Img.alignment, Img.size] at *
      rw [Img.len]
      split
      · exact h2
      · exact (alignNat_spec _ _ h1).1

/-- a valid tree exports, and the buffer has exactly the reported length -/
theorem export_length (i : Img) (hv : i.validate = .ok ()) (ha : AlignWF i) :
    ∃ b, i.export = .ok b ∧ b.length = i.len := by
  induction i using Img.induct' with
  | h s o a bin p ch ih =>
    cases ha with
    | mk _ h1 h2 h3 =>
      obtain ⟨b, hb, hl, _⟩ := export_spec s o a bin p ch h1 h2 hv
        (fun c hc => ih c hc (validate_child _ c hv hc).1 (h3 c hc))
      exact ⟨b, hb, hl⟩

/-- every sub-image's bytes appear at its offset -/
theorem export_child_at (i c : Img) (b bc : Bytes) (hv : i.validate = .ok ()) (ha : AlignWF i)
    (hc : c ∈ i.children) (hb : i.export = .ok b) (hbc : c.export = .ok bc) :
    (b.drop c.offset).take bc.length = bc := by
  cases i with
  | mk s o a bin p ch =>
    cases ha with
    | mk _ h1 h2 h3 =>
      obtain ⟨b', hb', _, _, hat⟩ := export_spec s o a bin p ch h1 h2 hv
        (fun c hc => export_length c (validate_child _ c hv hc).1 (h3 c hc))
      rw [hb] at hb'; cases hb'
      exact take_drop_of_get b bc c.offset (hat c hc bc hbc)

/-- … at every depth: a descendant reached through offsets `o₁, o₂, …` appears at the absolute offset `Σ oₖ` -/
inductive DescAt : Img → Nat → Img → Prop
  | self (i : Img) : DescAt i 0 i
  | step (i c d : Img) (o : Nat) : c ∈ i.children → DescAt c o d → DescAt i (c.offset + o) d

theorem export_desc_at (i d : Img) (o : Nat) (b bd : Bytes) (hv : i.validate = .ok ()) (ha : AlignWF i)
    (hd : DescAt i o d) (hb : i.export = .ok b) (hbd : d.export = .ok bd) :
    (b.drop o).take bd.length = bd := by
  induction hd generalizing b with
  | self i =>
    rw [hb] at hbd; cases hbd
    simp
  | step i c d o hc _ ih =>
    have hvc := (validate_child i c hv hc).1
    have hac : AlignWF c := by cases ha with | mk _ _ _ h3 => exact h3 c hc
    obtain ⟨bc, hbc, _⟩ := export_length c hvc hac
    exact take_drop_trans b bc bd c.offset o (export_child_at i c b bc hv ha hc hb hbc)
      (ih bc hvc hac hbc hbd)

/-- the own binary sits at offset 0 wherever no sub-image covers it -/
theorem export_own_binary (i : Img) (b bin : Bytes) (k : Nat) (hv : i.validate = .ok ()) (ha : AlignWF i)
    (hb : i.export = .ok b) (hbin : i.binary = some bin) (hk : k < bin.length)
    (hfree : ∀ c ∈ i.children, k < c.offset ∨ c.offset + c.len ≤ k) :
    b[k]? = bin[k]? := by
  cases i with
  | mk s o a bin' p ch =>
    simp only [Img.binary, Img.children] at hbin hfree
    subst hbin
    cases ha with
    | mk _ h1 h2 h3 =>
      obtain ⟨b', hb', _, hfr, _⟩ := export_spec s o a (some bin) p ch h1 h2 hv
        (fun c hc => export_length c (validate_child _ c hv hc).1 (h3 c hc))
      rw [hb] at hb'; cases hb'
      rw [hfr k hfree, ownBuf_get_bin _ _ _ _ hk]

/-- everything else holds the fill pattern -/
theorem export_fill (i : Img) (b : Bytes) (k : Nat) (hv : i.validate = .ok ()) (ha : AlignWF i)
    (hb : i.export = .ok b) (hk : k < i.len) (hbin : binLen i.binary ≤ k)
    (hfree : ∀ c ∈ i.children, k < c.offset ∨ c.offset + c.len ≤ k) :
    b[k]? = (patBlock i.pattern i.len)[k]? := by
  cases i with
  | mk s o a bin p ch =>
    simp only [Img.binary, Img.children, Img.pattern] at hbin hfree ⊢
    cases ha with
    | mk _ h1 h2 h3 =>
      obtain ⟨b', hb', _, hfr, _⟩ := export_spec s o a bin p ch h1 h2 hv
        (fun c hc => export_length c (validate_child _ c hv hc).1 (h3 c hc))
      rw [hb] at hb'; cases hb'
      rw [hfr k hfree, ownBuf_get_fill _ _ _ _ hbin]

/-- alignment padding only ever extends the end: with a derived size, exporting with alignment `a` is exporting
    with alignment 1 plus appended padding -/
theorem align_extends (off a : Nat) (bin : Option Bytes) (pat : Option Pattern) (ch : List Img) (b1 : Bytes)
    (ha : 0 < a) (h1 : (Img.mk 0 off 1 bin pat ch).export = .ok b1) (hne : b1 ≠ []) :
    ∃ pad, (Img.mk 0 off a bin pat ch).export = .ok (b1 ++ pad) ∧
      (b1 ++ pad).length = alignNat b1.length a := by
  exact align_extends' off a bin pat ch b1 ha h1

def SortedByOffset (l : List Img) : Prop := l.Pairwise (fun x y => x.offset ≤ y.offset)

/-- `add_image` keeps the children sorted by offset and neither loses nor duplicates any -/
theorem insertSorted_sorted (c : Img) (l : List Img) (h : SortedByOffset l) :
    SortedByOffset (insertSorted c l) ∧ (insertSorted c l).length = l.length + 1 ∧
      (∀ x, x ∈ insertSorted c l ↔ x = c ∨ x ∈ l) := by
  exact ⟨sorted_insertSorted c l h, length_insertSorted c l, mem_insertSorted c l⟩

/-- `append_image` puts the new image at the previous end of the parent -/
theorem appendImage_offset (p c : Img) :
    ∃ c', c' ∈ (p.appendImage c).children ∧ c'.offset = p.len ∧ c'.len = c.len := by
  refine ⟨c.withOffset p.len, ?_, offset_withOffset _ _, len_withOffset _ _⟩
  rw [Img.appendImage, children_addImage, mem_insertSorted]
  exact Or.inl rfl

def exTree : Img :=
  .mk 0 0 4 (some [1, 2, 3]) (some .ones)
    [.mk 0 4 1 (some [9, 9]) none [], .mk 3 8 1 none (some .inc) [.mk 0 1 1 (some [7]) none []]]

example : exTree.validate = .ok () ∧ exTree.len = 12 ∧
    exTree.export = .ok [1, 2, 3, 0xFF, 9, 9, 0xFF, 0xFF, 0, 7, 2, 0xFF] := by decide
example : AlignWF exTree := by
  refine .mk _ (by decide) (by decide) ?_
  intro c hc
  simp [exTree, Img.children] at hc
  rcases hc with rfl | rfl
  · exact .mk _ (by decide) (by decide) (by intro c hc; simp [Img.children] at hc)
  · refine .mk _ (by decide) (by decide) ?_
    intro c hc
    simp [Img.children] at hc
    subst hc
    exact .mk _ (by decide) (by decide) (by intro c hc; simp [Img.children] at hc)
example : (Img.mk 8 0 1 none none [.mk 0 0 1 (some [1, 2, 3, 4]) none [], .mk 0 3 1 (some [5]) none []]).validate
    = .error .overlap := by decide
example : (Img.mk 4 0 1 none none [.mk 0 2 1 (some [1, 2, 3]) none []]).validate = .error .sticksOut := by decide

end SpsdkVerif.C16

/-!
# File formats: Intel-HEX and S-record text (Model/HexFmt.lean, helper lemmas Proofs/HexFmt.lean)

"Saving an image as HEX or S19 and loading it again gives the same bytes at the same addresses", for the
writer / reader pair SPSDK uses (`bincopy.BinFile.as_ihex` / `as_srec`, `add_ihex` / `add_srec` behind the
format sniffing of `BinFile.add`).  The model is tied to the real code by the `hexfmt_model` stream
(emitted text byte for byte, decoded segments, accept / refuse of malformed text).
-/
namespace SpsdkVerif.C16
open SpsdkVerif.HexFmt

/-- what `save_binary_image` hands to bincopy for an image whose data-carrying nodes do not overlap: segments
    in ascending order, non-overlapping (touching allowed), non-empty, inside the 32-bit address space -/
def SegsOK (segs : List Seg) : Prop :=
  (∀ s ∈ segs, s.data ≠ [] ∧ s.addr + s.data.length ≤ 2 ^ 32) ∧
  segs.Pairwise (fun a b => a.addr + a.data.length ≤ b.addr)

theorem segsOK_from (segs : List Seg) (h : SegsOK segs) : SegsFrom 0 segs :=
  segsFrom_of_pairwise segs 0 (fun s hs => ⟨Nat.zero_le _, (h.1 s hs).1, (h.1 s hs).2⟩) h.2

/-- an emitted Intel-HEX record parses back to its type, address and data (the checksum verifies) -/
theorem ihex_record_roundtrip (type addr : Nat) (data : HexFmt.Bytes) (ht : type < 256) (ha : addr < 65536)
    (hd : data.length < 256) : unpackIhex (packIhex type addr data) = .ok (type, addr, data) :=
  unpackIhex_packIhex type addr data ht ha hd

/-- an emitted S-record of any type (address width 2, 3 or 4 bytes) parses back to its type, address and data -/
theorem srec_record_roundtrip (t : UInt8) (w addr : Nat) (data : HexFmt.Bytes) (hw : srecWidth t = some w)
    (ha : addr < 256 ^ w) (hd : data.length + w + 1 < 256) : unpackSrec (packSrec t w addr data) = .ok (t, addr, data) :=
  unpackSrec_packSrec t w addr data hw ha hd

/-- changing any single byte of an emitted Intel-HEX record (length, address, type, data or checksum byte; in
    particular any single hex digit) makes the reader refuse the record -/
theorem ihex_checksum_detects_single_byte (type addr : Nat) (data pre post : HexFmt.Bytes) (x y : UInt8) (hxy : x ≠ y)
    (hrec : packIhex type addr data = 58 :: hexBytes (pre ++ x :: post)) (r : Nat × Nat × HexFmt.Bytes) :
    unpackIhex (58 :: hexBytes (pre ++ y :: post)) ≠ .ok r := by
  intro h
  have h1 := unpackIhex_ok_sum _ r h
  have h0 : sumBytes (pre ++ x :: post) % 256 = 0 := by
    simp only [packIhex, List.cons.injEq, true_and] at hrec
    rw [← hexBytes_inj _ _ hrec]
    exact sum_of_crcIhex _ (by rw [List.getLast?_concat, List.dropLast_concat])
  exact hxy (sum_single_byte pre post x y (by rw [h0, h1]))

/-- … and so for an emitted S-record -/
theorem srec_checksum_detects_single_byte (t : UInt8) (w addr : Nat) (data pre post : HexFmt.Bytes) (x y : UInt8) (hxy : x ≠ y)
    (hrec : packSrec t w addr data = 83 :: t :: hexBytes (pre ++ x :: post)) (r : UInt8 × Nat × HexFmt.Bytes) :
    unpackSrec (83 :: t :: hexBytes (pre ++ y :: post)) ≠ .ok r := by
  intro h
  have h1 := unpackSrec_ok_sum t _ r h
  have h0 : sumBytes (pre ++ x :: post) % 256 = 255 := by
    simp only [packSrec, List.cons.injEq, true_and] at hrec
    rw [← hexBytes_inj _ _ hrec]
    exact sum_of_crcSrec _ (by rw [List.getLast?_concat, List.dropLast_concat])
  exact hxy (sum_single_byte pre post x y (by rw [h0, h1]))

/-- merging touching segments (what bincopy does on `add_binary`, and again when reading) changes no byte at
    any address -/
theorem normalize_same_bytes (segs : List Seg) (a : Nat) : memAt (normalize segs) a = memAt segs a := by
  simpa [normalize] using memAt_foldl segs a []

/-- the reader's general `Segments.add` (fast path, linear insert, merge loop), on an ascending list whose
    current segment is the last one and for data at or behind its end, is "merge when touching, else append" -/
theorem reader_add_ascending (l : List Seg) (s : Seg) (hb : ∀ x ∈ l, x.max ≤ lastMax l) (hs : lastMax l ≤ s.addr) :
    SegList.add ⟨l, l.length - 1⟩ s = .ok ⟨addSorted l s, (addSorted l s).length - 1⟩ :=
  add_sorted l s hb hs

/-- Intel-HEX: for every ascending, non-overlapping list of non-empty segments in the 32-bit address space
    (any number, any lengths, touching or crossing 64 KiB boundaries) and every optional 32-bit execution start
    address, the writer succeeds and the reader gives back the same segments (touching ones merged) and the
    same start address -/
theorem ihex_roundtrip (exec : Option Nat) (segs : List Seg) (h : SegsOK segs) (he : ∀ e, exec = some e → e < 2 ^ 32) :
    ∃ text, ihexEncode exec segs = .ok text ∧ ihexDecode text = .ok ⟨normalize segs, exec⟩ := by
  obtain ⟨text, h1, h2, _⟩ := ihex_roundtrip_from exec segs (segsOK_from segs h) he
  exact ⟨text, h1, h2⟩

/-- … hence the same bytes at the same addresses -/
theorem ihex_roundtrip_bytes (exec : Option Nat) (segs : List Seg) (h : SegsOK segs) (he : ∀ e, exec = some e → e < 2 ^ 32) :
    ∃ text img, ihexEncode exec segs = .ok text ∧ ihexDecode text = .ok img ∧ img.exec = exec ∧
      ∀ a, memAt img.segs a = memAt segs a := by
  obtain ⟨text, h1, h2⟩ := ihex_roundtrip exec segs h he
  exact ⟨text, _, h1, h2, rfl, fun a => normalize_same_bytes segs a⟩

/-- S-record: the same, as long as bincopy can count the records (it refuses more than 0xffffff of them) -/
theorem srec_roundtrip (exec : Option Nat) (segs : List Seg) (h : SegsOK segs) (he : ∀ e, exec = some e → e < 2 ^ 32)
    (hn : ((normalize segs).flatMap Seg.chunks).length ≤ 0xffffff) :
    ∃ text, srecEncode exec segs = .ok text ∧ srecDecode text = .ok ⟨normalize segs, exec⟩ := by
  obtain ⟨text, _, h1, h2, _⟩ := srec_roundtrip_from exec segs (segsOK_from segs h) he hn
  exact ⟨text, h1, h2⟩

theorem srec_roundtrip_bytes (exec : Option Nat) (segs : List Seg) (h : SegsOK segs) (he : ∀ e, exec = some e → e < 2 ^ 32)
    (hn : ((normalize segs).flatMap Seg.chunks).length ≤ 0xffffff) :
    ∃ text img, srecEncode exec segs = .ok text ∧ srecDecode text = .ok img ∧ img.exec = exec ∧
      ∀ a, memAt img.segs a = memAt segs a := by
  obtain ⟨text, h1, h2⟩ := srec_roundtrip exec segs h he hn
  exact ⟨text, _, h1, h2, rfl, fun a => normalize_same_bytes segs a⟩

/-- the record-count hypothesis is exactly bincopy's limit: beyond it `as_srec` raises -/
theorem srec_too_many_records (exec : Option Nat) (segs : List Seg)
    (hn : ¬ ((normalize segs).flatMap Seg.chunks).length ≤ 0xffffff) : srecEncode exec segs = .error .fmt := by
  unfold srecEncode srecFooter
  have h1 : ¬ ((normalize segs).flatMap Seg.chunks).length ≤ 0xffff := by omega
  simp only [h1, hn, if_false]

/-- through `load_binary_image`'s path for text files (format sniffing on the first line: S-record first, then
    Intel-HEX; refusal of a file without segments): a non-empty image written as HEX is recognised as HEX and
    loaded back -/
theorem ihex_load_roundtrip (exec : Option Nat) (segs : List Seg) (h : SegsOK segs) (hne : segs ≠ [])
    (he : ∀ e, exec = some e → e < 2 ^ 32) :
    ∃ text, ihexEncode exec segs = .ok text ∧ loadText text = .ok ⟨normalize segs, exec⟩ :=
  load_ihex_roundtrip_from exec segs (segsOK_from segs h) hne he

/-- … and one written as S19 is recognised as S-record and loaded back -/
theorem srec_load_roundtrip (exec : Option Nat) (segs : List Seg) (h : SegsOK segs) (hne : segs ≠ [])
    (he : ∀ e, exec = some e → e < 2 ^ 32) (hn : ((normalize segs).flatMap Seg.chunks).length ≤ 0xffffff) :
    ∃ text, srecEncode exec segs = .ok text ∧ loadText text = .ok ⟨normalize segs, exec⟩ :=
  load_srec_roundtrip_from exec segs (segsOK_from segs h) hne he hn

/-! ## non-vacuity and sanity (texts as bincopy 20.1.1 writes them) -/

/-- two touching segments whose union crosses a 64 KiB boundary, one at the very top of the address space -/
def exSegs : List Seg := [⟨0xFFFF, [0xAA, 0xBB]⟩, ⟨0x10001, [0xCC]⟩, ⟨0xFFFFFFFE, [1, 2]⟩]

example : SegsOK exSegs := by
  refine ⟨by decide, ?_⟩
  simp [exSegs, List.pairwise_cons]

example : normalize exSegs = [⟨0xFFFF, [0xAA, 0xBB, 0xCC]⟩, ⟨0xFFFFFFFE, [1, 2]⟩] := by decide

-- ":03FFFF00AABBCCCE\n:02000004FFFFFC\n:02FFFE000102FE\n:0400000520000401D2\n:00000001FF\n"
def exIhex : HexFmt.Bytes :=
  [58, 48, 51, 70, 70, 70, 70, 48, 48, 65, 65, 66, 66, 67, 67, 67, 69, 10, 58, 48, 50, 48, 48, 48, 48, 48, 52, 70, 70, 70, 70,
   70, 67, 10, 58, 48, 50, 70, 70, 70, 69, 48, 48, 48, 49, 48, 50, 70, 69, 10, 58, 48, 52, 48, 48, 48, 48, 48, 53, 50, 48, 48,
   48, 48, 52, 48, 49, 68, 50, 10, 58, 48, 48, 48, 48, 48, 48, 48, 49, 70, 70, 10]

-- "S3080000FFFFAABBCCC8\nS307FFFFFFFE0102FA\nS5030002FA\nS70520000401D5\n"
def exSrec : HexFmt.Bytes :=
  [83, 51, 48, 56, 48, 48, 48, 48, 70, 70, 70, 70, 65, 65, 66, 66, 67, 67, 67, 56, 10, 83, 51, 48, 55, 70, 70, 70, 70, 70, 70,
   70, 69, 48, 49, 48, 50, 70, 65, 10, 83, 53, 48, 51, 48, 48, 48, 50, 70, 65, 10, 83, 55, 48, 53, 50, 48, 48, 48, 48, 52, 48,
   49, 68, 53, 10]

example : ihexEncode (some 0x20000401) exSegs = .ok exIhex := by decide
example : srecEncode (some 0x20000401) exSegs = .ok exSrec := by decide
example : loadText exIhex = .ok ⟨normalize exSegs, some 0x20000401⟩ := by decide
example : loadText exSrec = .ok ⟨normalize exSegs, some 0x20000401⟩ := by decide
-- a flipped digit, an unknown record type, an odd number of digits, an empty file body
example : ihexDecode [58, 48, 48, 48, 48, 48, 48, 48, 49, 70, 69, 10] = .error .fmt := by decide     -- ":00000001FE"
example : ihexDecode [58, 48, 48, 48, 48, 48, 48, 48, 54, 70, 65, 10] = .error .fmt := by decide     -- ":00000006FA"
example : ihexDecode [58, 48, 48, 48, 48, 48, 48, 48, 49, 70, 70, 70, 10] = .error .value := by decide -- ":00000001FFF"
example : loadText [58, 48, 48, 48, 48, 48, 48, 48, 49, 70, 70, 10] = .error .fmt := by decide       -- only an EOF record
-- out-of-order and overlapping data records go through the general `Segments.add`
example : (SegList.add ⟨[⟨0, [1, 2]⟩, ⟨8, [3]⟩], 1⟩ ⟨2, [9]⟩) = .ok ⟨[⟨0, [1, 2, 9]⟩, ⟨8, [3]⟩], 0⟩ := by decide
example : (SegList.add ⟨[⟨0, [1, 2]⟩, ⟨8, [3]⟩], 1⟩ ⟨1, [9]⟩) = .error .fmt := by decide

end SpsdkVerif.C16

/-!
# The geometry code as it is written NOW (Generated/BinImageGeo.lean) is what the hand model computes

`tools/extract/gen_C16.py` re-reads `spsdk/utils/images.py` on every run and emits the integer / boolean code of
`__len__`, `aligned_start/length`, the three checks of `validate()`, the insertion rule of `add_image`, `append_image`,
`min_offset` / `update_offsets`, the `offset` default of `load_from_config`, the fast path of `export()`, what
`save_binary_image` hands to bincopy, the format list and the ELF magic, with `self.x` as explicit parameters.
Every theorem below is for ALL arguments; a changed comparison, a dropped alignment, an `or`-default, a reordered
write makes one of them unprovable.  Together with the theorems of the first part (which are about the hand model)
they say that those theorems speak about the present source.
-/
namespace SpsdkVerif.C16
open SpsdkVerif SpsdkVerif.BinImg SpsdkVerif.Misc SpsdkVerif.GeoComb SpsdkVerif.Generated.BinImageGeo

/-- `len(image)` of the source = `Img.len` of the model, for every tree (explicit size wins; else the maximum of the own
    binary's length and every child's end, aligned) -/
theorem len_generated (i : Img) (ha : 0 < i.alignment) :
    genLen i.size (binTruthy i.binary) (rawLen i.binary) i.alignment (kidsOf i.children) = .ok (i.len : Int) :=
  genLen_eq i ha

/-- `aligned_start` rounds the absolute address down, `aligned_length` spans from there to the end rounded up
    (exact integer reading of `math.floor(a / b)` / `math.ceil(a / b)`: operands below 2^53) -/
theorem aligned_generated (abs len al : Nat) (ha : 0 < al) :
    genAlignedStart abs al = ((abs / al * al : Nat) : Int) ∧
    genAlignedLength abs len al = (alignNat (abs + len) al : Int) - ((abs / al * al : Nat) : Int) :=
  ⟨genAlignedStart_eq abs al, genAlignedLength_eq abs len al ha⟩

/-- the three decisions of `validate()` are the model's: own binary larger than the image (offsets and lengths are
    naturals in the model), child not inside its parent, two different children sharing a byte - with the source's
    inclusive-end arithmetic, whichever way the comparisons are spelled -/
theorem validate_checks_generated (off len b l pl sb sl : Nat) (bin : Option Bytes) :
    vSelfErr off len (binTruthy bin) (rawLen bin) = decide (binLen bin > len) ∧
    vChildErr b l pl = decide ((b : Int) + l - 1 ≥ pl) ∧
    vSiblingErr b l sb sl = !(decide (((b : Int) + l - 1 < sb) ∨ ((b : Int) > sb + sl - 1))) :=
  ⟨vSelfErr_eq off len bin, vChildErr_eq b l pl, vSiblingErr_eq b l sb sl⟩

/-- the model's sibling scan is the generated sibling check over all other children -/
theorem overlap_scan_generated (b l : Nat) (sibs : List (Nat × Nat)) :
    overlapsAny b l sibs = sibs.any (fun s => vSiblingErr b l s.1 s.2) := by
  induction sibs with
  | nil => rfl
  | cons s rest ih =>
    obtain ⟨sb, sl⟩ := s
    rw [overlapsAny, List.any_cons, vSiblingErr_eq, ← ih]
    by_cases h : ((b : Int) + l - 1 < sb) ∨ ((b : Int) > sb + sl - 1)
    · simp only [h, if_true, decide_true, Bool.not_true, Bool.false_or]
    · simp only [h, if_false, decide_false, Bool.not_false, Bool.true_or]

/-- a tree on which none of the generated checks fires, anywhere -/
inductive GenValid : Img → Prop
  | mk (i : Img) :
      vSelfErr i.offset i.len (binTruthy i.binary) (rawLen i.binary) = false →
      (∀ c ∈ i.children, GenValid c) →
      (∀ c ∈ i.children, vChildErr c.offset c.len i.len = false) →
      (∀ (a b : Nat) (ca cb : Img), a ≠ b → i.children[a]? = some ca → i.children[b]? = some cb →
        vSiblingErr ca.offset ca.len cb.offset cb.len = false) →
      GenValid i

/-- `validate()` of the model succeeds exactly on the trees the source's checks (as generated) let through; with
    `validate_iff` above: the source's checks fire exactly on wrong geometry -/
theorem validate_iff_generated (i : Img) : i.validate = .ok () ↔ GenValid i := by
  induction i using Img.induct' with
  | h s o a b p ch ih =>
    rw [validate_ok_iff, noOverlap_iff_idx]
    constructor
    · rintro ⟨h1, h2, h3⟩
      refine .mk _ ?_ (fun c hc => (ih c hc).1 (h2 c hc).1) ?_ ?_
      · simp only [Img.binary, Img.offset]
        rw [vSelfErr_eq]; simp only [decide_eq_false_iff_not]; omega
      · intro c hc
        have := (h2 c hc).2
        rw [vChildErr_eq]; simp only [decide_eq_false_iff_not]; omega
      · intro x y ca cb hxy hx hy
        have := h3 x y ca cb hxy hx hy
        unfold Ov at this
        rw [vSiblingErr_eq]; simp only [Bool.not_eq_false', decide_eq_true_eq]; omega
    · intro hg
      cases hg with
      | mk _ g1 g2 g3 g4 =>
        simp only [Img.binary, Img.offset] at g1
        simp only [Img.children] at g2 g3 g4
        refine ⟨?_, ?_, ?_⟩
        · rw [vSelfErr_eq] at g1; simp only [decide_eq_false_iff_not] at g1; omega
        · intro c hc
          refine ⟨(ih c hc).2 (g2 c hc), ?_⟩
          have := g3 c hc
          rw [vChildErr_eq] at this; simp only [decide_eq_false_iff_not] at this; omega
        · intro x y ca cb hxy hx hy
          have := g4 x y ca cb hxy hx hy
          rw [vSiblingErr_eq] at this; simp only [Bool.not_eq_false', decide_eq_true_eq] at this
          unfold Ov; omega

/-- `validate()` visits what the model visits: itself, every child recursively and against its parent, every ordered
    pair of different children; all refusals are SPSDK errors -/
theorem validate_shape_generated :
    validateShape = ["child:raises-spsdk", "child:validate-recursively", "self:raises-spsdk", "sibling:raises-spsdk"] := rfl

/-- `add_image`: the model's sorted insert is "before the first child the generated condition holds for, else at the end" -/
theorem add_image_generated (c : Img) (l : List Img) :
    insertSorted c l = insertAt l (firstIdx (fun x => genInsertBefore c.offset x.offset) l) c := by
  induction l with
  | nil => rfl
  | cons x xs ih =>
    rw [insertSorted, firstIdx, genInsertBefore_eq]
    by_cases h : c.offset < x.offset
    · simp [h, insertAt]
    · simp only [h, if_false, decide_false, Bool.false_eq_true]
      rw [ih]
      simp [insertAt]

/-- `append_image`: the offset given is the parent's current length -/
theorem append_image_generated (p c : Img) :
    p.appendImage c = p.addImage (c.withOffset (genAppendOffset p.len).toNat) := by
  simp [Img.appendImage, genAppendOffset]

/-- `min_offset` is the least child offset; `update_offsets` moves it into the image's own offset: every absolute address
    stays, no child offset becomes negative, one becomes 0 -/
theorem update_offsets_generated (off : Int) (kids : List (Int × Int)) (h : kids ≠ []) :
    ∃ m, genMinOffset kids = .ok m ∧
      (∀ k ∈ kids, genUpdSelfOffset off m + genUpdChildOffset k.1 m = off + k.1 ∧ 0 ≤ genUpdChildOffset k.1 m) ∧
      ∃ k ∈ kids, genUpdChildOffset k.1 m = 0 := by
  obtain ⟨m, hm, ⟨k0, hk0, he⟩, hle⟩ := genMinOffset_spec kids h
  refine ⟨m, hm, ?_, ⟨k0, hk0, ?_⟩⟩
  · intro k hk
    have := hle k hk
    simp only [genUpdSelfOffset, genUpdChildOffset]
    omega
  · simp only [genUpdChildOffset]; omega

/-- `load_from_config`: an explicit `offset` of a region - 0 included - is used as it is, for both region kinds … -/
theorem config_offset_explicit_generated (v abs len al : Int) :
    genCfgOffsetFile (some v) abs len al = v ∧ genCfgOffsetBlock (some v) abs len al = v := by
  constructor <;> simp [genCfgOffsetFile, genCfgOffsetBlock]

/-- … and a region without one goes to the current length of the (root) image rounded up to its alignment -/
theorem config_offset_default_generated (len al : Nat) (ha : 0 < al) :
    genCfgOffsetFile none 0 len al = (alignNat len al : Int) ∧ genCfgOffsetBlock none 0 len al = (alignNat len al : Int) := by
  have h := genAlignedLength_eq 0 len al ha
  simp only [Nat.zero_add, Nat.zero_div, Nat.zero_mul, Int.natCast_zero, Int.sub_zero] at h
  constructor
  · rw [← h]; simp [genCfgOffsetFile, genAlignedLength]
  · rw [← h]; simp [genCfgOffsetBlock, genAlignedLength]

/-- `export()`: the model takes the fast path (own binary returned untouched) exactly under the source's condition -/
theorem export_fast_generated (i : Img) :
    i.export = if genExportFast (binTruthy i.binary) (rawLen i.binary) i.len i.size i.children.length = true
      then .ok (i.binary.getD []) else finishExport i.alignment i.pattern (placeChildren i.children (ownBuf i.len i.binary i.pattern)) := by
  cases i with
  | mk s o al bin pat ch =>
    simp only [Img.binary, Img.size, Img.children, Img.alignment, Img.pattern, genExportFast_eq]
    rw [export_eq]
    refine ite_congr (propext ?_) (fun _ => rfl) (fun _ => rfl)
    simp only [Bool.and_eq_true, decide_eq_true_iff, List.length_eq_zero_iff]
    rcases bin with _ | _ | ⟨x, xs⟩ <;> simp [binLen, binTruthy, rawLen, and_comm]

/-- HEX / S19: a node hands bincopy first its whole pattern block (whenever it has a pattern and a non-zero length -
    also when it has a binary), then its binary, both at its absolute address with overwrite, then its children -/
theorem save_plan_generated (pat bin : Bool) (binLen len : Int) :
    savePatternWritten pat bin binLen len = (pat && decide (len ≠ 0)) ∧ savePatternSize len = len ∧
    saveBinaryWritten pat bin binLen len = bin ∧
    saveOrder = ["pattern@absolute-address+overwrite", "binary@absolute-address+overwrite", "children"] := by
  refine ⟨?_, ?_, ?_, rfl⟩
  · rw [Bool.eq_iff_iff]; simp [savePatternWritten] <;> omega
  · simp [savePatternSize]
  · rw [Bool.eq_iff_iff]; simp [saveBinaryWritten] <;> omega

/-- the formats of the property and where each goes; what makes a file an ELF file -/
theorem formats_generated :
    formatWriters = [("BIN", "export"), ("HEX", "as_ihex"), ("S19", "as_srec")] ∧
    elfMagic = [0x7f, 0x45, 0x4c, 0x46] ∧ elfSniffLen = elfMagic.length := ⟨rfl, rfl, rfl⟩

example : GenValid exTree := (validate_iff_generated exTree).mp (by decide)
example : genLen 0 true 3 4 [(4, 2), (8, 3)] = .ok 12 := by decide

end SpsdkVerif.C16

/-!
# HEX / S19 of ARBITRARY image trees: bincopy's overwrite path (Model/HexFmtOw.lean, lemmas Proofs/HexFmtOw.lean)

`save_binary_image(.., 'HEX' | 'S19')` hands bincopy, node by node, the pattern block, then the own binary, then the
sub-images, each with `add_binary(.., overwrite=True)`; these writes touch and overlap.  The theorems below are about
the general `_Segments.add(segment, overwrite=True)` / `_Segment.add_data` as written (fast path, linear insert, prepend /
overwrite / append, deletion and merging of following segments), for ALL write sequences, and connect it to the text
round trips above: whatever the tree, what is read back from the written file is, at every address, the last write that
covers it.  Tied to the real code by the `hexfmt_trees` stream.
-/
namespace SpsdkVerif.C16
open SpsdkVerif.HexFmt SpsdkVerif.BinImg

/-- one `add_binary(data, address, overwrite=True)`: for every normal segment list (ascending, strictly separated,
    non-empty - what a `BinFile` holds), every position of bincopy's "current segment" and every non-empty data it
    succeeds, the list stays normal, and every address holds the new data where that lies, the old content elsewhere -/
theorem overwrite_add_spec (st : SegList) (seg : Seg) (hn : Norm st.list) (hcur : st.list = [] ∨ st.cur < st.list.length)
    (hd : seg.data ≠ []) :
    ∃ st', st.addOw seg = .ok st' ∧ Norm st'.list ∧ st'.cur < st'.list.length ∧
      ∀ a, memAt st'.list a = owAt seg (memAt st.list a) a :=
  addOw_spec st seg hn hcur hd

/-- any sequence of overwriting writes into a fresh `BinFile`: never an `AddDataError`, and the memory is "last write wins" -/
theorem overwrite_writes_spec (ws : List Seg) (hw : ∀ w ∈ ws, w.data ≠ []) :
    ∃ st, addAllOw ⟨[], 0⟩ ws = .ok st ∧ Norm st.list ∧ ∀ a, memAt st.list a = memW ws a := by
  obtain ⟨st, h1, h2, _, h4⟩ := addAllOw_spec ws hw ⟨[], 0⟩ norm_nil (Or.inl rfl)
  exact ⟨st, h1, h2, h4⟩

/-- … and when all writes lie in the 32-bit address space the result is a writer input of the round-trip theorems
    above, already merged -/
theorem overwrite_writes_segsOK (ws : List Seg) (hw : ∀ w ∈ ws, w.data ≠ []) (hb : ∀ w ∈ ws, w.addr + w.data.length ≤ 2 ^ 32) :
    ∃ st, addAllOw ⟨[], 0⟩ ws = .ok st ∧ SegsOK st.list ∧ normalize st.list = st.list ∧ (ws ≠ [] → st.list ≠ []) ∧
      ∀ a, memAt st.list a = memW ws a := by
  obtain ⟨st, h1, h2, h3, h4⟩ := addAllOw_spec ws hw ⟨[], 0⟩ norm_nil (Or.inl rfl)
  have hbnd := segs_bound ws st.list (2 ^ 32) h2.2 hb h4
  refine ⟨st, h1, ⟨fun s hs => ⟨h2.2 s hs, hbnd s hs⟩, h2.1.imp Nat.le_of_lt⟩, normalize_of_noAdj _ (norm_noAdj _ h2),
    fun hne hnil => ?_, h4⟩
  have := h3 (Or.inr hne)
  rw [hnil] at this
  exact Nat.not_lt_zero _ this

/-- Intel-HEX for ANY write plan (touching, overlapping, in any order): the file is written, read back it gives exactly the
    `BinFile`'s segments and start address (also through `load_binary_image`'s sniffing path), and at every address the
    last write that covers it -/
theorem writes_ihex_roundtrip (exec : Option Nat) (ws : List Seg) (hw : ∀ w ∈ ws, w.data ≠ [])
    (hb : ∀ w ∈ ws, w.addr + w.data.length ≤ 2 ^ 32) (he : ∀ e, exec = some e → e < 2 ^ 32) :
    ∃ st text, addAllOw ⟨[], 0⟩ ws = .ok st ∧ ihexEncode exec st.list = .ok text ∧
      ihexDecode text = .ok ⟨st.list, exec⟩ ∧ (ws ≠ [] → loadText text = .ok ⟨st.list, exec⟩) ∧
      ∀ a, memAt st.list a = memW ws a := by
  obtain ⟨st, h1, h2, h3, h4, h5⟩ := overwrite_writes_segsOK ws hw hb
  obtain ⟨text, t1, t2⟩ := ihex_roundtrip exec st.list h2 he
  rw [h3] at t2
  refine ⟨st, text, h1, t1, t2, ?_, h5⟩
  intro hne
  obtain ⟨text', u1, u2⟩ := ihex_load_roundtrip exec st.list h2 (h4 hne) he
  rw [t1] at u1; cases u1
  rw [h3] at u2; exact u2

/-- S-record: the same, under bincopy's record-count limit -/
theorem writes_srec_roundtrip (exec : Option Nat) (ws : List Seg) (hw : ∀ w ∈ ws, w.data ≠ [])
    (hb : ∀ w ∈ ws, w.addr + w.data.length ≤ 2 ^ 32) (he : ∀ e, exec = some e → e < 2 ^ 32)
    (hn : ∀ st, addAllOw ⟨[], 0⟩ ws = .ok st → (st.list.flatMap Seg.chunks).length ≤ 0xffffff) :
    ∃ st text, addAllOw ⟨[], 0⟩ ws = .ok st ∧ srecEncode exec st.list = .ok text ∧
      srecDecode text = .ok ⟨st.list, exec⟩ ∧ (ws ≠ [] → loadText text = .ok ⟨st.list, exec⟩) ∧
      ∀ a, memAt st.list a = memW ws a := by
  obtain ⟨st, h1, h2, h3, h4, h5⟩ := overwrite_writes_segsOK ws hw hb
  have hn' : ((normalize st.list).flatMap Seg.chunks).length ≤ 0xffffff := by rw [h3]; exact hn st h1
  obtain ⟨text, t1, t2⟩ := srec_roundtrip exec st.list h2 he hn'
  rw [h3] at t2
  refine ⟨st, text, h1, t1, t2, ?_, h5⟩
  intro hne
  obtain ⟨text', u1, u2⟩ := srec_load_roundtrip exec st.list h2 (h4 hne) he hn'
  rw [t1] at u1; cases u1
  rw [h3] at u2; exact u2

/-- `save_binary_image(path, 'HEX')` of ANY image tree lying in the 32-bit address space (valid or not, nodes touching or
    overlapping, any patterns / sizes / alignments / nesting): the file is written, and reading it back gives at every
    address the last of the tree's writes (pattern block, own binary, sub-images in order) that covers it -/
theorem save_ihex_roundtrip (exec : Option Nat) (i : Img) (hb : ∀ w ∈ i.savePlan 0, w.addr + w.data.length ≤ 2 ^ 32)
    (he : ∀ e, exec = some e → e < 2 ^ 32) :
    ∃ segs text, i.saveSegs = .ok segs ∧ i.saveIhex exec = .ok text ∧ ihexDecode text = .ok ⟨segs, exec⟩ ∧
      ∀ a, memAt segs a = memW (i.savePlan 0) a := by
  obtain ⟨st, text, h1, h2, h3, _, h5⟩ := writes_ihex_roundtrip exec (i.savePlan 0) (savePlan_nonempty i 0) hb he
  refine ⟨st.list, text, ?_, ?_, h3, h5⟩
  · simp only [Img.saveSegs, h1]
  · simp only [Img.saveIhex, Img.saveSegs, h1, h2]

theorem save_srec_roundtrip (exec : Option Nat) (i : Img) (hb : ∀ w ∈ i.savePlan 0, w.addr + w.data.length ≤ 2 ^ 32)
    (he : ∀ e, exec = some e → e < 2 ^ 32)
    (hn : ∀ segs, i.saveSegs = .ok segs → (segs.flatMap Seg.chunks).length ≤ 0xffffff) :
    ∃ segs text, i.saveSegs = .ok segs ∧ i.saveSrec exec = .ok text ∧ srecDecode text = .ok ⟨segs, exec⟩ ∧
      ∀ a, memAt segs a = memW (i.savePlan 0) a := by
  obtain ⟨st, text, h1, h2, h3, _, h5⟩ := writes_srec_roundtrip exec (i.savePlan 0) (savePlan_nonempty i 0) hb he
    (fun st hst => hn st.list (by simp only [Img.saveSegs, hst]))
  refine ⟨st.list, text, ?_, ?_, h3, h5⟩
  · simp only [Img.saveSegs, h1]
  · simp only [Img.saveSrec, Img.saveSegs, h1, h2]

/-! non-vacuity: a parent with pattern and binary, a child overwriting the middle, a second child touching the first -/
def exOwTree : Img :=
  .mk 12 0x1000 1 (some [1, 2, 3]) (some .ones)
    [.mk 0 2 1 (some [9, 9]) none [], .mk 3 4 1 none (some .inc) []]

example : exOwTree.savePlan 0 = [⟨0x1000, List.replicate 12 0xFF⟩, ⟨0x1000, [1, 2, 3]⟩, ⟨0x1002, [9, 9]⟩, ⟨0x1004, [0, 1, 2]⟩] := by decide
example : exOwTree.saveSegs = .ok [⟨0x1000, [1, 2, 9, 9, 0, 1, 2, 0xFF, 0xFF, 0xFF, 0xFF, 0xFF]⟩] := by decide
example : ∀ w ∈ exOwTree.savePlan 0, w.addr + w.data.length ≤ 2 ^ 32 := by decide
example : Norm [⟨0, [1]⟩, ⟨5, [2, 3]⟩] := ⟨by simp [List.pairwise_cons, Seg.max], by decide⟩
-- prepend + overwrite + append across two segments, one deleted, one merged
example : addAllOw ⟨[], 0⟩ [⟨10, [1, 2]⟩, ⟨20, [3]⟩, ⟨30, [4, 5, 6]⟩, ⟨8, List.replicate 23 7⟩] =
    .ok ⟨[⟨8, List.replicate 23 7 ++ [5, 6]⟩], 0⟩ := by decide
example : exOwTree.export = .ok [1, 2, 9, 9, 0, 1, 2, 0xFF, 0xFF, 0xFF, 0xFF, 0xFF] := by decide

end SpsdkVerif.C16

/-!
# The remaining tree operations (Model/BinImageOps.lean, lemmas Proofs/BinImageOps.lean)

`join_images`, `get_image_by_absolute_address`, `update_offsets` / `min_offset`, `find_sub_image`, and what can be said
about fill patterns that have no deterministic model (`rand`): lengths and validation never look at a pattern.
Tied to the real objects by the `tree_ops` stream.
-/
namespace SpsdkVerif.C16
open SpsdkVerif SpsdkVerif.BinImg SpsdkVerif.Misc SpsdkVerif.Generated.BinImageGeo

/-- `join_images` preserves the export: a valid tree becomes one leaf with the same length whose export is, byte for byte,
    the export of the tree, and which still validates -/
theorem join_images_preserves_export (i : Img) (hv : i.validate = .ok ()) (ha : AlignWF i) :
    ∃ b j, i.export = .ok b ∧ i.joinImages = .ok j ∧ j.children = [] ∧ j.len = i.len ∧ j.offset = i.offset ∧
      j.export = .ok b ∧ j.validate = .ok () := by
  obtain ⟨b, hb, hl⟩ := export_length i hv ha
  have h0 : 0 < i.alignment := by cases ha with | mk _ h1 _ _ => exact h1
  obtain ⟨j1, j2, j3, j4⟩ := joinImages_spec i b h0 hb hl
  exact ⟨b, _, hb, j1, rfl, j2, rfl, j3, j4⟩

/-- … and it fails exactly when `export()` fails (the object is then left as it was) -/
theorem join_images_error (i : Img) (e : PyErr) : i.joinImages = .error e ↔ i.export = .error e := by
  cases i with
  | mk s o a bin p ch =>
    rw [Img.joinImages]
    cases h : (Img.mk s o a bin p ch).export with
    | error e' => simp
    | ok b => simp

/-- `get_image_by_absolute_address` (as repaired by e6ec992, `>=`): the image returned is a descendant reached through the
    returned path, at the returned offset, and it CONTAINS the address - full strength -/
theorem get_by_address_sound (i : Img) (addr : Nat) (path : List Nat) (o : Nat) (d : Img)
    (h : i.getByAddr addr = .ok (path, o, d)) :
    SubAt i o d ∧ atPath path i = some d ∧ pathOffset path i = o ∧ i.offset + o ≤ addr ∧ addr < i.offset + o + d.len :=
  searchNow.sound i addr path o d h

/-- the image found contains the address (for the search before the repair only under the hypothesis "not the end address
    of the image found": `getByAddrLax_contains_partial`) -/
theorem get_by_address_contains (i : Img) (addr : Nat) (path : List Nat) (o : Nat) (d : Img)
    (h : i.getByAddr addr = .ok (path, o, d)) : i.offset + o ≤ addr ∧ addr < i.offset + o + d.len :=
  (searchNow.sound i addr path o d h).2.2.2

/-- what the repair changed, exactly: the pre-fix search (`getByAddrLax`, `>`) and the present one agree on an address unless
    it is the END address of the image the pre-fix search stopped at -/
theorem get_by_address_strict_iff (i : Img) (addr : Nat) (path : List Nat) (off : Nat) (d : Img)
    (h : i.getByAddrLax addr = .ok (path, off, d)) :
    i.getByAddr addr = .ok (path, off, d) ↔ addr ≠ i.offset + off + d.len := by
  constructor
  · intro hs
    have := (get_by_address_sound i addr path off d hs).2.2.2.2
    omega
  · intro hne
    have := (searchLax.sound i addr path off d h).2.2.2.2
    exact getByAddr_of_lt i addr path off d h (by omega)

/-- it refuses only addresses outside the root (`[offset, offset + len)`), only with an SPSDK error, and answers every
    address inside the root -/
theorem get_by_address_error (i : Img) (addr : Nat) (e : PyErr) (h : i.getByAddr addr = .error e) :
    e = .spsdk ∧ (addr < i.offset ∨ i.offset + i.len ≤ addr) :=
  searchNow.error i addr e h

theorem get_by_address_total (i : Img) (addr : Nat) (h1 : i.offset ≤ addr) (h2 : addr < i.offset + i.len) :
    ∃ r, i.getByAddr addr = .ok r :=
  searchNow.ok_of_range i addr h1 h2

/-- the reachability relation of `get_image_by_absolute_address` is the one of `export_desc_at`: the bytes of the image
    found sit at the returned offset of the root's export -/
theorem subAt_descAt (i d : Img) (o : Nat) (h : SubAt i o d) : DescAt i o d := by
  induction h with
  | self i => exact .self i
  | step i c d o hc _ ih => exact .step i c d o hc ih

theorem get_by_address_export (i d : Img) (addr : Nat) (path : List Nat) (o : Nat) (b bd : Bytes)
    (hv : i.validate = .ok ()) (ha : AlignWF i) (h : i.getByAddr addr = .ok (path, o, d))
    (hb : i.export = .ok b) (hbd : d.export = .ok bd) : (b.drop o).take bd.length = bd :=
  export_desc_at i d o b bd hv ha (subAt_descAt i d o (searchNow.sound i addr path o d h).1) hb hbd

/-- `update_offsets`: with at least one sub-image it succeeds, the least child offset moves into the image's own offset,
    every sub-image keeps its absolute address, length, content, export and validation verdict, the least child offset
    becomes 0 and the order is kept; without sub-images `min([])` raises -/
theorem update_offsets_spec (i : Img) (hne : i.children ≠ []) :
    ∃ m j, minOffset i.children = some m ∧ i.updateOffsets = .ok j ∧ j.offset = i.offset + m ∧
      j.children.length = i.children.length ∧
      (∀ (k : Nat) (c : Img), i.children[k]? = some c → ∃ c' : Img, j.children[k]? = some c' ∧ c'.offset + m = c.offset ∧
        j.offset + c'.offset = i.offset + c.offset ∧ c'.len = c.len ∧ c'.export = c.export ∧ c'.validate = c.validate) ∧
      minOffset j.children = some 0 := by
  obtain ⟨m, j, h1, h2, h3, _, _, _, _, h4, h5, h6, _⟩ := updateOffsets_spec i hne
  refine ⟨m, j, h1, h2, h3, h4, ?_, h6⟩
  intro k c hk
  obtain ⟨c', a1, a2, a3, a4, _, a6, a7⟩ := h5 k c hk
  exact ⟨c', a1, a2, a3, a4, a6, a7⟩

theorem update_offsets_error (i : Img) : (∃ e, i.updateOffsets = .error e) ↔ i.children = [] := by
  cases i with
  | mk s o a b p ch =>
    rw [Img.updateOffsets]
    cases hm : minOffset ch with
    | none => simp [Img.children, (minOffset_none ch).1 hm]
    | some m =>
      simp only [Img.children]
      constructor
      · rintro ⟨e, he⟩; cases he
      · intro h; subst h; simp [minOffset] at hm

/-- the `size` setter and the constructor agree, as the source has them NOW (both generated from images.py): each stores
    the value rounded up to the alignment, which is what the model's `setSize` stores (false for seeded change C16g) -/
theorem set_size_agrees_with_constructor (i : Img) (n : Nat) (ha : 0 < i.alignment) :
    genSetSize n i.alignment = genCtorSize n i.alignment ∧ genSetSize n i.alignment = .ok ((i.setSize n).size : Int) ∧
      (i.setSize n).size % i.alignment = 0 := by
  cases i with
  | mk s o a b p ch =>
    simp only [Img.alignment, Img.setSize, Img.size] at ha ⊢
    exact ⟨by rw [genSetSize_eq n a ha, genCtorSize_eq n a ha], genSetSize_eq n a ha, (alignNat_spec n a ha).1⟩

/-- after `image.size = n` (any `n`, multiple of the alignment or not) the image is as well-formed as a constructed one:
    its reported length is a multiple of the alignment, and when it validates it exports exactly `len()` bytes -/
theorem set_size_export_length (i : Img) (n : Nat) (ha : 0 < i.alignment) (hc : ∀ c ∈ i.children, AlignWF c)
    (hv : (i.setSize n).validate = .ok ()) :
    AlignWF (i.setSize n) ∧ (i.setSize n).len % i.alignment = 0 ∧
      ∃ b, (i.setSize n).export = .ok b ∧ b.length = (i.setSize n).len := by
  have hw : AlignWF (i.setSize n) := by
    cases i with
    | mk s o a b p ch =>
      simp only [Img.alignment, Img.children] at ha hc
      exact .mk _ ha (alignNat_spec n a ha).1 hc
  have hal : (i.setSize n).alignment = i.alignment := by cases i; rfl
  refine ⟨hw, ?_, export_length _ hv hw⟩
  rw [← hal]; exact len_aligned _ hw

/-- a non-zero assigned size is the reported length -/
theorem set_size_len (i : Img) (n : Nat) (ha : 0 < i.alignment) (hn : 0 < n) : (i.setSize n).len = alignNat n i.alignment := by
  cases i with
  | mk s o a b p ch =>
    simp only [Img.alignment] at ha
    have := (alignNat_spec n a ha).2.1
    simp only [Img.setSize, Img.len, Img.alignment]
    rw [if_pos (by omega)]

example : ((Img.mk 0 0 4 (some [1, 2, 3, 4, 5]) (some .ones) []).setSize 7).export = .ok [1, 2, 3, 4, 5, 0xFF, 0xFF, 0xFF] ∧
    ((Img.mk 0 0 4 (some [1, 2, 3, 4, 5]) (some .ones) []).setSize 7).validate = .ok () := by decide

/-- `find_sub_image`: the first sub-image with that name, an error exactly when there is none -/
theorem find_sub_image_spec (names : List String) (name : String) :
    (∀ k, findSub names name = some k → names[k]? = some name ∧ ∀ j, j < k → names[j]? ≠ some name) ∧
    (findSub names name = none ↔ name ∉ names) :=
  ⟨fun k h => findSub_some names name k h, findSub_none names name⟩

/-- fill patterns (incl. `rand`, which has no deterministic model): two trees that differ only in their patterns have the
    same length, the same validation verdict, and exports of the same length -/
theorem pattern_independence (i j : Img) (h : i.erasePat = j.erasePat) :
    i.len = j.len ∧ i.validate = j.validate ∧
      ∀ bi bj, i.export = .ok bi → j.export = .ok bj → bi.length = bj.length :=
  ⟨by rw [← len_erasePat i, ← len_erasePat j, h], by rw [← validate_erasePat i, ← validate_erasePat j, h],
    fun bi bj hi hj => by rw [export_length_eq i bi hi, export_length_eq j bj hj, ← expLen_erasePat i, ← expLen_erasePat j, h]⟩

example : exTree.children ≠ [] := by decide
example : ∃ r, exTree.getByAddr 9 = .ok r := get_by_address_total exTree 9 (by decide) (by decide)
example : (Img.mk 0 0 4 (some [1]) (some .ones) []).erasePat = (Img.mk 0 0 4 (some [1]) (some .inc) []).erasePat := by
  simp [Img.erasePat, erasePatList]

end SpsdkVerif.C16
