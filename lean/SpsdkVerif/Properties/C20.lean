/-
C20 — number parsing, alignment and byte-order helpers satisfy their contracts.

Only property theorems and non-vacuity examples live here; helper lemmas are in Proofs/Misc.lean, Misc2.lean, Misc3.lean.
Theorems about `Generated.PyFuns.*` are statements about bodies re-translated from /repo's
Python source on every run; theorems about `Misc.*` are about the hand model that the C20
correspondence sweep ties to the implementation.
-/
import SpsdkVerif.Generated.PyFuns
import SpsdkVerif.Model.Misc
import SpsdkVerif.Proofs.Misc
import SpsdkVerif.Generated.PyFuns2
import SpsdkVerif.Generated.EnumTables
import SpsdkVerif.Model.Misc2
import SpsdkVerif.Proofs.Misc2
import SpsdkVerif.Generated.PyFuns3
import SpsdkVerif.Generated.Misc3Tables
import SpsdkVerif.Model.Misc3
import SpsdkVerif.Proofs.Misc3

namespace SpsdkVerif.C20
open SpsdkVerif SpsdkVerif.Generated.PyFuns SpsdkVerif.Misc

/-! ## Generated integer helpers -/

/-- `align` refuses exactly a non-positive alignment or a negative number, with an SPSDK error. -/
theorem align_err (n a : Int) : (a ≤ 0 ∨ n < 0) ↔ align n a = .error .spsdk := by
  unfold align
  by_cases h : a ≤ 0 ∨ n < 0
  · simp [h]
  · have h3 : ¬ a = 0 := by omega
    simp [h, h3]

/-- otherwise it returns a multiple of the alignment, not below the input and less than one alignment above -/
theorem align_spec (n a : Int) (ha : 0 < a) (hn : 0 ≤ n) :
    ∃ r, align n a = .ok r ∧ a ∣ r ∧ n ≤ r ∧ r < n + a :=
  align_nat_spec n a ha hn

/-- … which is the smallest such value. -/
theorem align_least (n a m : Int) (ha : 0 < a) (hn : 0 ≤ n) (hm : a ∣ m) (hnm : n ≤ m) :
    ∃ r, align n a = .ok r ∧ r ≤ m := by
  obtain ⟨r, hr, ⟨k, hk⟩, h1, h2⟩ := align_spec n a ha hn
  refine ⟨r, hr, ?_⟩
  obtain ⟨j, hj⟩ := hm
  subst hk hj
  -- a*k < n + a ≤ a*j + a = a*(j+1) → k < j+1 → k ≤ j
  have : a * k < a * (j + 1) := by rw [Int.mul_add]; omega
  have : k < j + 1 := Int.lt_of_mul_lt_mul_left this (Int.le_of_lt ha)
  exact Int.mul_le_mul_of_nonneg_left (by omega) (Int.le_of_lt ha)

/-- range checks answer truthfully -/
theorem checkRange_iff (x lo hi : Int) : check_range x lo hi = .ok (decide (lo ≤ x ∧ x ≤ hi)) := by
  simp [check_range]

theorem swap16_err (x : Int) : (x < 0 ∨ x > 0xFFFF) ↔ swap16 x = .error .spsdk := by
  unfold swap16
  by_cases h : x < 0 ∨ x > 65535
  · simp [h]
  · simp [h]

/-- `swap16` exchanges the two bytes … -/
theorem swap16_spec (x : Int) (h0 : 0 ≤ x) (h1 : x ≤ 0xFFFF) :
    swap16 x = .ok (x % 256 * 256 + x / 256) := by
  obtain ⟨k, rfl⟩ := Int.eq_ofNat_of_zero_le h0
  have h : ¬ ((k : Int) < 0 ∨ (k : Int) > 65535) := by omega
  have hk : k < 65536 := by omega
  simp only [swap16, pyShl_nat, pyShr_nat, pyAnd_nat, pyOr_nat]
  simp [h]
  have := swap16_nat k hk
  rw [this]
  omega

/-- … and is an involution on its domain. -/
theorem swap16_invol (x : Int) (h0 : 0 ≤ x) (h1 : x ≤ 0xFFFF) :
    ∃ y, swap16 x = .ok y ∧ swap16 y = .ok x := by
  refine ⟨_, swap16_spec x h0 h1, ?_⟩
  rw [swap16_spec _ (by omega) (by omega)]
  congr 1
  omega

theorem sbAlign_spec (n : Int) (hn : 0 ≤ n) :
    ∃ r, sbAlign n = .ok r ∧ (16 : Int) ∣ r ∧ n ≤ r ∧ r < n + 16 := by
  obtain ⟨r, hr, hd, h1, h2⟩ := align_spec n 16 (by omega) hn
  exact ⟨r, by simp [sbAlign, hr], hd, h1, h2⟩

/-- `to_num_blocks` accepts exactly multiples of 16 and then returns the quotient. -/
theorem sbToNumBlocks_spec (n : Int) :
    sbToNumBlocks n = if n % 16 = 0 then .ok (n / 16) else .error .spsdk := by
  simp only [sbToNumBlocks, sbIsAligned, pyMod, pyFloorDiv]
  rw [Int.fmod_eq_emod_of_nonneg _ (by omega), Int.fdiv_eq_ediv_of_nonneg _ (by omega)]
  by_cases h : n % 16 = 0 <;> simp [h]

/-- device id / group id are independent fields of the memory id -/
theorem memId_roundtrip (d g : Int) (hd : 0 ≤ d ∧ d < 256) (hg : 0 ≤ g ∧ g < 16) :
    ∃ m, getMemoryId d g = .ok m ∧ getDeviceId m = .ok d ∧ getGroupId m = .ok g := by
  obtain ⟨d, rfl⟩ := Int.eq_ofNat_of_zero_le hd.1
  obtain ⟨g, rfl⟩ := Int.eq_ofNat_of_zero_le hg.1
  have := memId_nat d g (by omega) (by omega)
  refine ⟨_, rfl, ?_, ?_⟩
  · simp only [getDeviceId, pyShl_nat, pyShr_nat, pyAnd_nat, pyOr_nat]
    exact congrArg (fun n : Nat => (Except.ok (n : Int) : PyRes Int)) this.1
  · simp only [getGroupId, pyShl_nat, pyShr_nat, pyAnd_nat, pyOr_nat]
    exact congrArg (fun n : Nat => (Except.ok (n : Int) : PyRes Int)) this.2

/-! ## `value_to_int` against the documented grammar

The grammar, written independently of the model (split on `_`, no state machine):
after ASCII strip and lower-casing, `[0x|0b|0o] groups [suffix]` where `groups` are non-empty runs of
base digits separated by single `_`, and `suffix` is at most three characters of `u`/`l`.
(Recorded deviation inherited from Python's `int(·, 2)`: after a `0b` prefix the digits may carry a
second `0b` and one `_` directly after it, e.g. `0b0b_1 = 1`.) -/

def splitUs : List Char → List (List Char)
  | [] => [[]]
  | c :: cs =>
    if c == '_' then [] :: splitUs cs
    else match splitUs cs with
      | g :: gs => (c :: g) :: gs
      | [] => [[c]]

def ofDigits (base : Nat) (ds : List Char) : Nat := ds.foldl (fun acc c => acc * base + digitVal c) 0

/-- groups separated by single underscores, every group a non-empty run of digits `< base` -/
def groupsValue (base : Nat) (s : List Char) : Option Nat :=
  if (splitUs s).all (fun g => !g.isEmpty && g.all (fun c => digitVal c < base))
  then some (ofDigits base (s.filter (· != '_'))) else none

/-- the model's underscore state machine computes exactly the grammar's group value.
    (The leading-underscore guard sits on the `digitsValue` side, where `pyIntOf` has it:
    `digitsValue base s false 0 = if s.head? = some '_' then none else groupsValue base s`
    is false for `s = "_1"`: `digitsValue 10 "_1" false 0 = some 1`, the state machine started with
    `prevUs = false` accepts a leading underscore, which is why `pyIntOf` tests it beforehand.) -/
theorem digitsValue_eq_groups (base : Nat) (s : List Char) (hs : s ≠ []) :
    (if s.head? = some '_' then none else digitsValue base s false 0) = groupsValue base s := by
  simp only [groupsValue, ofDigits]
  exact digitsValue_groups_gen splitUs rfl (fun _ _ => rfl) base s hs

/-- Documented number grammar on an already stripped, lower-cased string. -/
def numGrammar (t : List Char) : Option Nat :=
  let parse (base : Nat) (body : List Char) : Option (Option Nat) :=   -- none = structure mismatch
    let num := body.takeWhile isNumCh
    let suf := body.dropWhile isNumCh
    if num.isEmpty || suf.length > 3 || !suf.all isSufCh then none
    else
      let num' := if base == 2 then
          (match num with
           | '0' :: 'b' :: '_' :: r => r
           | '0' :: 'b' :: r => r
           | r => r) else num
      if num'.isEmpty || num'.head? = some '_' then some none else some (groupsValue base num')
  match t with
  | '0' :: 'x' :: rest => (match parse 16 rest with | some r => r | none => (parse 10 t).join)
  | '0' :: 'o' :: rest => (match parse 8 rest with | some r => r | none => (parse 10 t).join)
  | '0' :: 'b' :: rest => (match parse 2 rest with | some r => r | none => (parse 10 t).join)
  | _ => (parse 10 t).join

/-- A string is accepted exactly when it matches the grammar, and then has its mathematical value. -/
theorem valueToInt_eq_grammar (raw : List Char) (h : raw ≠ []) :
    valueToInt raw = numGrammar ((strip raw).map lowerCh) := by
  have he : raw.isEmpty = false := by cases raw <;> simp_all
  simp only [valueToInt, he, Bool.false_eq_true, if_false]
  generalize (strip raw).map lowerCh = t
  unfold numGrammar
  extract_lets parse
  have key : ∀ (base : Nat) (body : List Char),
      parse base body = (matchNumSuf body).map (pyIntOf base) := by
    intro base body
    simp only [parse, matchNumSuf]
    generalize List.takeWhile isNumCh body = num
    generalize List.dropWhile isNumCh body = suf
    by_cases hc : (num.isEmpty || decide (suf.length > 3) || !suf.all isSufCh) = true
    · have hc' : (!num.isEmpty && decide (suf.length ≤ 3) && suf.all isSufCh) = false := by
        cases h1 : num.isEmpty <;> cases h2 : suf.all isSufCh <;> simp_all <;> omega
      simp [hc, hc']
    · have hc' : (!num.isEmpty && decide (suf.length ≤ 3) && suf.all isSufCh) = true := by
        cases h1 : num.isEmpty <;> cases h2 : suf.all isSufCh <;> simp_all <;> omega
      rw [if_neg hc, if_pos hc', Option.map_some, pyIntOf_eq_groups groupsValue digitsValue_eq_groups]
      exact (apply_ite some _ _ _).symm
  clear_value parse
  simp only [key]
  rcases t with _ | ⟨c0, _ | ⟨c1, rest⟩⟩
  · cases hm : matchNumSuf [] <;> simp [regexMatch, hm]
  · by_cases h0 : c0 = '0'
    · subst h0; cases hm : matchNumSuf ['0'] <;> simp [regexMatch, hm]
    · cases hm : matchNumSuf [c0] <;> simp [regexMatch, hm]
  · by_cases h0 : c0 = '0'
    case neg => cases hm : matchNumSuf (c0 :: c1 :: rest) <;> simp [regexMatch, h0, hm]
    subst h0
    by_cases hx : c1 = 'x'
    · subst hx
      cases hm : matchNumSuf rest <;> cases hm' : matchNumSuf ('0' :: 'x' :: rest) <;>
        simp [regexMatch, hm, hm']
    by_cases ho : c1 = 'o'
    · subst ho
      cases hm : matchNumSuf rest <;> cases hm' : matchNumSuf ('0' :: 'o' :: rest) <;>
        simp [regexMatch, hm, hm']
    by_cases hb : c1 = 'b'
    · subst hb
      cases hm : matchNumSuf rest <;> cases hm' : matchNumSuf ('0' :: 'b' :: rest) <;>
        simp [regexMatch, hm, hm']
    cases hm : matchNumSuf ('0' :: c1 :: rest) <;> simp [regexMatch, hx, ho, hb, hm]

/-- the empty string is refused -/
theorem valueToInt_empty : valueToInt [] = none := by
  simp [valueToInt]

/-- plain decimal digit strings have their decimal value -/
theorem valueToInt_decimal (ds : List Char) (h : ds ≠ []) (hd : ∀ c ∈ ds, '0' ≤ c ∧ c ≤ '9') :
    valueToInt ds = some (ofDigits 10 ds) :=
  valueToInt_digits ds h hd

/-! ## integer ↔ bytes -/

theorem beEnc_length (n v : Nat) : (beEnc n v).length = n := Misc.beEnc_length n v

/-- integer-to-bytes conversions round-trip -/
theorem beDec_beEnc (n v : Nat) (h : v < 256 ^ n) : beDec (beEnc n v) = v := Misc.beDec_beEnc n v h

theorem leDec_leEnc (n v : Nat) (h : v < 256 ^ n) : leDec (leEnc n v) = v := Misc.leDec_leEnc n v h

/-- `byteLen` is the minimal width -/
theorem byteLen_min (v : Nat) : v < 256 ^ byteLen v ∧ (0 < v → 256 ^ (byteLen v - 1) ≤ v) :=
  ⟨lt_pow_byteLen v, pow_byteLen_le v⟩

/-- the width picked without `byte_cnt`: minimal, or (align_to_2n) 1, 2, then the next multiple of 4 -/
theorem getBytesCnt_default (v : Nat) (a2n : Bool) :
    getBytesCnt v a2n 0 = .ok (
      let m := max (byteLen v) 1
      if a2n && m > 2 then (m + 3) / 4 * 4 else m) := by
  by_cases hv : v = 0
  · subst hv; simp [getBytesCnt, byteLen, byteLenF]
  · have := byteLen_pos v hv
    have hm : max (byteLen v) 1 = byteLen v := by omega
    simp [getBytesCnt, hv, hm]

/- Full-strength statement (FALSE, kept for reference):

  theorem valueToBytes_roundtrip (v : Nat) (a2n le : Bool) (bc : Nat) :
      (∃ b, valueToBytes v a2n bc le = .ok b ∧ (if le then leDec b else beDec b) = v ∧
          (bc ≠ 0 → b.length = bc))
      ∨ (valueToBytes v a2n bc le = .error .spsdk ∧ bc ≠ 0 ∧ 256 ^ bc ≤ v)

  Counter-example: `v = 65536` (three bytes), `a2n = true`, `bc = 3`.  With `align_to_2n` the needed
  width is first rounded up to 4 and *then* compared with `byte_cnt`, so the call is refused
  (model and `value_to_bytes(65536, align_to_2n=True, byte_cnt=3)` alike: SPSDKValueError
  "Value takes more bytes than required byte count 3 after align") although `65536 < 256 ^ 3`.
  See the `example` after the partial theorem. -/

/-- with an explicit `byte_cnt` the value either fits and gets that width, or is refused with an SPSDK error.
    Extra hypothesis `hfit` (exactly the complement of the failing region): when `align_to_2n` rounding
    applies (`byteLen v > 2`) and the value itself fits `bc`, the rounded width fits `bc` too.
    It holds whenever `a2n = false`, or `bc ≤ 2`, or `bc % 4 = 0` (and trivially for `bc = 0`). -/
theorem valueToBytes_roundtrip_partial (v : Nat) (a2n le : Bool) (bc : Nat)
    (hfit : a2n = true → 2 < byteLen v → byteLen v ≤ bc → (byteLen v + 3) / 4 * 4 ≤ bc) :
    (∃ b, valueToBytes v a2n bc le = .ok b ∧ (if le then leDec b else beDec b) = v ∧
        (bc ≠ 0 → b.length = bc))
    ∨ (valueToBytes v a2n bc le = .error .spsdk ∧ bc ≠ 0 ∧ 256 ^ bc ≤ v) := by
  rcases getBytesCnt_cases v a2n bc hfit with ⟨n, h1, h2, h3⟩ | ⟨h1, h2, h3⟩
  · left
    refine ⟨_, by simp only [valueToBytes, h1]; rfl, ?_, ?_⟩
    · cases le
      · simpa using beDec_beEnc n v h2
      · simpa using leDec_leEnc n v h2
    · intro hb
      cases le <;> simp [leEnc, beEnc_length, h3 hb]
  · right
    exact ⟨by simp only [valueToBytes, h1], h2, h3⟩

/-- the hypothesis is implied by the parameter-only condition … -/
example (v bc : Nat) (a2n : Bool) (h : a2n = false ∨ bc ≤ 2 ∨ bc % 4 = 0) :
    a2n = true → 2 < byteLen v → byteLen v ≤ bc → (byteLen v + 3) / 4 * 4 ≤ bc := by
  intro h1 h2 h3; rcases h with h | h | h
  · simp [h] at h1
  · omega
  · omega

/-- … and the excluded point really fails the full statement: refused although the value fits 3 bytes -/
example : valueToBytes 65536 true 3 false = .error .spsdk ∧ 65536 < 256 ^ 3 ∧
    ¬ (true = true → 2 < byteLen 65536 → byteLen 65536 ≤ 3 → (byteLen 65536 + 3) / 4 * 4 ≤ 3) := by decide

/-! ## byte-order and bit-reversal helpers are involutions (error outside their domain) -/

theorem swap32_invol (x : Int) (h0 : 0 ≤ x) (h1 : x ≤ 0xFFFFFFFF) :
    ∃ y, swap32 x = .ok y ∧ swap32 y = .ok x := by
  obtain ⟨k, rfl⟩ := Int.eq_ofNat_of_zero_le h0
  have hk : k < 256 ^ 4 := by omega
  -- the result is the four bytes read backwards, and reading backwards twice gives the bytes back
  refine ⟨_, swap32_nat k hk, ?_⟩
  rw [swap32_nat _ (leDec_beEnc_range 4 k), leDec_beEnc_twice 4 k hk]

theorem swap32_err (x : Int) : (x < 0 ∨ x > 0xFFFFFFFF) ↔ swap32 x = .error .spsdk := by
  unfold swap32
  by_cases h : x < 0 ∨ x > 0xFFFFFFFF <;> simp [h]

theorem reverseBits_invol (x n : Nat) (h : x < 2 ^ n) (hn : 0 < n) :
    reverseBits (reverseBits x n) n = x :=
  reverseBits_invol' x n h hn

theorem reverseBytesInLongs_invol (b : Bytes) (h : b.length % 4 = 0) :
    ∃ c, reverseBytesInLongs b = .ok c ∧ reverseBytesInLongs c = .ok b := by
  obtain ⟨h1, h2⟩ := revLongs_spec b h
  refine ⟨revLongs b, by simp [reverseBytesInLongs, h, revLongs], ?_⟩
  have : (revLongs b).length % 4 = 0 := by rw [h1]; exact h
  simp only [reverseBytesInLongs, this]
  simpa [revLongs] using h2

theorem reverseBytesInLongs_err (b : Bytes) : b.length % 4 ≠ 0 ↔ reverseBytesInLongs b = .error .spsdk := by
  unfold reverseBytesInLongs
  by_cases h : b.length % 4 ≠ 0 <;> simp [h]

theorem changeEndianness_invol (b : Bytes) (h : b.length = 1 ∨ b.length = 2 ∨ b.length % 4 = 0) :
    ∃ c, changeEndianness b = .ok c ∧ changeEndianness c = .ok b := by
  rw [changeEndianness_eq]
  by_cases h12 : b.length = 1 ∨ b.length = 2
  · exact ⟨b.reverse, if_pos h12, by rw [changeEndianness_eq, List.length_reverse, if_pos h12, List.reverse_reverse]⟩
  · have h4 : b.length % 4 = 0 := by omega
    obtain ⟨hl, hi⟩ := revLongs_spec b h4
    exact ⟨revLongs b, by rw [if_neg h12, if_pos h4], by rw [changeEndianness_eq, hl, if_neg h12, if_pos h4, hi]⟩

theorem swapBytes_invol (b : Bytes) (h : b.length % 2 = 0) :
    ∃ c, swapBytes b = .ok c ∧ swapBytes c = .ok b := by
  obtain ⟨h1, h2⟩ := swapPairs_spec b
  exact ⟨swapPairs b, by simp [swapBytes, h], by simp [swapBytes, h1, h, h2]⟩

/-! ## padding helpers only ever append -/

theorem alignBlock_spec (d : Bytes) (a : Int) (p : UInt8) (ha : 0 < a) :
    ∃ r, alignBlock d a p = .ok r ∧ d <+: r ∧ (r.length : Int) % a = 0 ∧
      d.length ≤ r.length ∧ (r.length : Int) < d.length + a ∧ ∀ x ∈ r.drop d.length, x = p := by
  obtain ⟨k, rfl⟩ := Int.eq_ofNat_of_zero_le (Int.le_of_lt ha)
  have hk : 0 < k := by omega
  obtain ⟨s1, s2, s3⟩ := alignNat_spec d.length k hk
  have hna : ¬ ((k : Int) ≤ 0) := by omega
  refine ⟨_, by simp only [alignBlock, hna, if_false]; rfl, List.prefix_append _ _, ?_, ?_, ?_, ?_⟩
  · simp only [List.length_append, List.length_replicate, Int.toNat_natCast]
    have : d.length + (alignNat d.length k - d.length) = alignNat d.length k := by omega
    rw [this]
    exact_mod_cast congrArg Nat.cast s1
  · simp
  · simp only [List.length_append, List.length_replicate, Int.toNat_natCast]
    omega
  · intro x hx
    simp at hx
    exact hx.2

theorem alignBlock_err (d : Bytes) (a : Int) (p : UInt8) : a ≤ 0 ↔ alignBlock d a p = .error .spsdk := by
  unfold alignBlock
  by_cases h : a ≤ 0 <;> simp [h]

theorem extendBlock_spec (d : Bytes) (len : Int) (p : UInt8) :
    extendBlock d len p =
      if len < d.length then .error .spsdk else .ok (d ++ List.replicate (len.toNat - d.length) p) := by
  rfl

theorem extendBlock_length (d : Bytes) (len : Int) (p : UInt8) (h : (d.length : Int) ≤ len) :
    ∃ r, extendBlock d len p = .ok r ∧ (r.length : Int) = len ∧ d <+: r := by
  have hn : ¬ (len < d.length) := by omega
  refine ⟨_, by simp only [extendBlock, hn, if_false]; rfl, ?_, List.prefix_append _ _⟩
  simp only [List.length_append, List.length_replicate]
  omega

theorem pattern_block_length (p : Pattern) (size : Nat) : (p.block size).length = size := by
  cases p <;> simp [Pattern.block, cycleTake_length]

/-- BCD version numbers: the textual form parses back to the number -/
theorem bcd_roundtrip (n : Nat) (h : bcdDigitOk n = true) :
    bcdFromDigits (bcdToDigits n) = .ok n :=
  bcd_roundtrip' n h

/-! ## non-vacuity: concrete non-trivial values meet the hypotheses / exercise the definitions -/

example : align 13 8 = .ok 16 ∧ align 16 8 = .ok 16 ∧ align 5 0 = .error .spsdk := by decide
example : check_range 3 0 3 = .ok true ∧ check_range (-5) 0 3 = .ok false ∧ check_range 4 0 3 = .ok false := by decide
example : swap16 0x1234 = .ok 0x3412 := by decide
example : valueToInt " 0x1F_0ul ".toList = some 0x1F0 ∧ valueToInt "0b".toList = none ∧
          valueToInt "1__0".toList = none ∧ valueToInt "0b0b_1".toList = some 1 := by decide +kernel
example : valueToBytes 70000 true 0 false = .ok [0, 1, 0x11, 0x70] := by decide
example : reverseBits 0b0011 4 = 0b1100 := by decide
example : bcdDigitOk 0x1234 = true ∧ bcdFromDigits (bcdToDigits 0x1234) = .ok 0x1234 := by decide

/-! # More of the code regenerated from the source, and more of the glue in the model

`Generated.PyFuns2.*` are translated from /repo on every run by the extended translator (while loops with an explicit
fuel argument, unrolled constant `for`, `int(ceil(a / b))` with the explicit 2^53 float guard, `Optional[int]`).
Each is shown to agree with the hand model (Model/Misc.lean) on its domain, and the key contracts are restated over the
GENERATED function, so a changed source line must re-prove (or fails here). -/

section PyFuns2
open SpsdkVerif.Generated.PyFuns2 SpsdkVerif.Generated.EnumTables

/-! ## `get_bytes_cnt_of_int` (generated, with fuel) -/

/-- For a non-negative value the translated function — `while value != 0` loop included — computes what the hand model
    computes, for every fuel above the byte count.  `byte_cnt` is an `Optional[int]` of which only the truthiness and the
    value matter (`bcO.getD 0 = bc`: `None` and `0` both mean "not given").
    Domain restriction `h53`: the source rounds with `int(ceil(cnt / 4))`, a FLOAT division; the translator keeps the
    result only where it is exact (`cnt < 2^53`, i.e. values of fewer than 2^53 bytes). -/
theorem getBytesCnt_generated_eq_model (fuel v : Nat) (a2n : Bool) (bc : Nat) (bcO : Option Int)
    (hbc : bcO.getD 0 = (bc : Int)) (hf : byteLen v < fuel) (h53 : byteLen v < 2 ^ 53) :
    getBytesCntOfInt fuel (v : Int) a2n bcO = liftNat (getBytesCnt v a2n bc) :=
  getBytesCnt_gen_eq fuel v a2n bc bcO hbc hf h53

/-- termination for `value ≥ 0`: some fuel suffices, every larger fuel gives the same answer, and the answer is never
    "fuel exhausted" -/
theorem getBytesCntGen_terminates (v : Nat) (a2n : Bool) (bc : Nat) (bcO : Option Int)
    (hbc : bcO.getD 0 = (bc : Int)) (h53 : byteLen v < 2 ^ 53) :
    ∃ fuel₀ r, r ≠ .error .other ∧ ∀ fuel, fuel₀ ≤ fuel → getBytesCntOfInt fuel (v : Int) a2n bcO = r := by
  refine ⟨byteLen v + 1, liftNat (getBytesCnt v a2n bc), ?_, fun fuel h => getBytesCnt_gen_eq fuel v a2n bc bcO hbc (by omega) h53⟩
  exact getBytesCnt_ne_other v a2n bc

/-- negative values are refused with an SPSDK error for every fuel — before the loop, which would never end on them
    (`-1 >> 8 == -1`).  Fix 55a6c57; before it `get_bytes_cnt_of_int(-1)`, `value_to_bytes(-1)` and `load_hex_string(-1, n)`
    did not return (this theorem then read `= .error .other` = "fuel exhausted" for every fuel). -/
theorem getBytesCntGen_neg_refused (fuel : Nat) (v : Int) (hv : v < 0) (a2n : Bool) (bcO : Option Int) :
    getBytesCntOfInt fuel v a2n bcO = .error .spsdk :=
  getBytesCnt_gen_neg fuel v hv a2n bcO

/-- so the translated function answers for EVERY integer with enough fuel: it never runs out of fuel above the byte count -/
theorem getBytesCntGen_total (v : Int) (a2n : Bool) (bcO : Option Int) (hbc : 0 ≤ bcO.getD 0) (h53 : byteLen v.toNat < 2 ^ 53) :
    ∃ fuel₀, ∀ fuel, fuel₀ ≤ fuel → getBytesCntOfInt fuel v a2n bcO ≠ .error .other := by
  by_cases hv : v < 0
  · exact ⟨0, fun fuel _ => by rw [getBytesCnt_gen_neg fuel v hv a2n bcO]; intro h; cases h⟩
  · obtain ⟨n, rfl⟩ := Int.eq_ofNat_of_zero_le (Int.not_lt.1 hv)
    refine ⟨byteLen n + 1, fun fuel hf => ?_⟩
    have hb : bcO.getD 0 = ((bcO.getD 0).toNat : Int) := by omega
    rw [getBytesCnt_gen_eq fuel n a2n _ bcO hb (by omega) (by simpa using h53)]
    exact getBytesCnt_ne_other n a2n _

example : (0 : Int) ≤ (some (3 : Int)).getD 0 ∧ byteLen (-70000 : Int).toNat < 2 ^ 53 ∧ byteLen (70000 : Int).toNat < 2 ^ 53 := by decide

/-- contract over the generated function: without `byte_cnt` the documented width (minimal; with `align_to_2n` 1, 2,
    then the next multiple of 4) -/
theorem getBytesCntGen_default (fuel v : Nat) (a2n : Bool) (hf : byteLen v < fuel) (h53 : byteLen v < 2 ^ 53) :
    getBytesCntOfInt fuel (v : Int) a2n none = .ok ((
      let m := max (byteLen v) 1
      if a2n && m > 2 then (m + 3) / 4 * 4 else m : Nat) : Int) := by
  rw [getBytesCnt_gen_eq fuel v a2n 0 none rfl hf h53, getBytesCnt_default]
  rfl

/-- contract over the generated function: the chosen width holds the value; an explicit `byte_cnt` is honoured or the
    call is refused with an SPSDK error exactly when the value does not fit (same side condition as
    `valueToBytes_roundtrip_partial`) -/
theorem getBytesCntGen_fits (fuel v : Nat) (a2n : Bool) (bc : Nat) (bcO : Option Int)
    (hbc : bcO.getD 0 = (bc : Int)) (hf : byteLen v < fuel) (h53 : byteLen v < 2 ^ 53)
    (hfit : a2n = true → 2 < byteLen v → byteLen v ≤ bc → (byteLen v + 3) / 4 * 4 ≤ bc) :
    (∃ n : Nat, getBytesCntOfInt fuel (v : Int) a2n bcO = .ok (n : Int) ∧ v < 256 ^ n ∧ (bc ≠ 0 → n = bc))
    ∨ (getBytesCntOfInt fuel (v : Int) a2n bcO = .error .spsdk ∧ bc ≠ 0 ∧ 256 ^ bc ≤ v) := by
  rw [getBytesCnt_gen_eq fuel v a2n bc bcO hbc hf h53]
  rcases getBytesCnt_cases v a2n bc hfit with ⟨n, h1, h2, h3⟩ | ⟨h1, h2, h3⟩
  · exact Or.inl ⟨n, by rw [h1]; rfl, h2, h3⟩
  · exact Or.inr ⟨by rw [h1]; rfl, h2, h3⟩

/-! ## `BcdVersion3._check_number` (generated, `for index in range(4)` unrolled) -/

theorem bcdCheckNumber_generated_eq_model (n : Int) :
    bcdCheckNumber n = if 0 ≤ n ∧ bcdDigitOk n.toNat = true then .ok true else .error .spsdk :=
  bcdCheckNumber_eq n

/-- whatever the generated check accepts round-trips through the textual form -/
theorem bcd_roundtrip_generated (n : Int) (h : bcdCheckNumber n = .ok true) :
    0 ≤ n ∧ bcdFromDigits (bcdToDigits n.toNat) = .ok n.toNat := by
  rw [bcdCheckNumber_eq] at h
  by_cases hc : 0 ≤ n ∧ bcdDigitOk n.toNat = true
  · exact ⟨hc.1, bcd_roundtrip' _ hc.2⟩
  · rw [if_neg hc] at h; cases h

/-! ## guards and length arithmetic of `swap32`, `reverse_bytes_in_longs`, `extend_block`, `align_block` (generated slices) -/

/-- the model's `swap32` is the generated guard followed by the byte swap -/
theorem swap32_guard_generated (x : Int) :
    swap32 x = match swap32Guard x with
      | .error e => .error e
      | .ok _ => .ok (Int.ofNat (leDec (beEnc 4 x.toNat))) := by
  unfold swap32 swap32Guard
  by_cases h : x < 0 ∨ x > 0xFFFFFFFF
  · rcases h with h | h <;> simp [h]
  · have h1 : ¬ x < 0 := by omega
    have h2 : ¬ x > 4294967295 := by omega
    simp [h1, h2]

theorem swap32Guard_err (x : Int) : (x < 0 ∨ x > 0xFFFFFFFF) ↔ swap32Guard x = .error .spsdk := by
  unfold swap32Guard
  by_cases h : x < 0 ∨ x > 4294967295
  · rcases h with h | h <;> simp [h]
  · have h1 : ¬ x < 0 := by omega
    have h2 : ¬ x > 4294967295 := by omega
    simp [h1, h2]

theorem reverseBytesInLongs_guard_generated (b : Bytes) :
    reverseBytesInLongs b = match revLongsGuard b.length with
      | .error e => .error e
      | .ok _ => .ok ((chunk4 b).map List.reverse).flatten := by
  unfold reverseBytesInLongs revLongsGuard
  simp only [pyMod, Int.fmod_eq_emod_of_nonneg _ (show (0 : Int) ≤ 4 by omega)]
  by_cases h : b.length % 4 = 0
  · have : (b.length : Int) % 4 = 0 := by omega
    simp [h, this]
  · have : ¬ (b.length : Int) % 4 = 0 := by omega
    simp [h, this]

/-- `extend_block`: the model is the generated `num_padding` computation followed by appending that many padding bytes -/
theorem extendBlock_generated (d : Bytes) (len pad : Int) (p : UInt8) :
    extendBlock d len p = match extendBlockNumPadding d.length len pad with
      | .error e => .error e
      | .ok n => .ok (d ++ List.replicate n.toNat p) := by
  unfold extendBlock extendBlockNumPadding
  by_cases h : len < d.length
  · simp [h]
  · simp only [h, if_false, decide_false, Bool.false_eq_true]
    congr 3
    omega

/-- the generated `num_padding` of `align_block`: refused exactly for `alignment ≤ 0`, otherwise the distance to the
    smallest multiple of the alignment not below the length (`0 ≤ r < a`, `a ∣ len + r`) -/
theorem alignBlockNumPadding_spec (len : Nat) (a : Int) :
    (a ≤ 0 → alignBlockNumPadding len a = .error .spsdk) ∧
    (0 < a → ∃ r, alignBlockNumPadding len a = .ok r ∧ 0 ≤ r ∧ r < a ∧ a ∣ (len : Int) + r) := by
  constructor
  · intro ha
    unfold alignBlockNumPadding
    by_cases h : a < 0
    · simp [h]
    · have h0 : a = 0 := by omega
      have := (align_err (len : Int) a).1 (Or.inl ha)
      simp [h, this]
  · intro ha
    obtain ⟨r, hr, hd, h1, h2⟩ := align_spec (len : Int) a ha (by omega)
    have hn : ¬ a < 0 := by omega
    refine ⟨r - len, by simp [alignBlockNumPadding, hn, hr], by omega, by omega, ?_⟩
    have : (len : Int) + (r - len) = r := by omega
    rw [this]; exact hd

/-- `align_block`: the model is the generated `num_padding` computation followed by appending that many padding bytes
    (proved through the *contract* of the generated `align`, so any spelling of `align` that satisfies `align_spec` works) -/
theorem alignBlock_generated (d : Bytes) (a : Int) (p : UInt8) :
    alignBlock d a p = match alignBlockNumPadding d.length a with
      | .error e => .error e
      | .ok n => .ok (d ++ List.replicate n.toNat p) := by
  by_cases ha : a ≤ 0
  · rw [(alignBlockNumPadding_spec d.length a).1 ha]
    simp [alignBlock, ha]
  · have ha' : 0 < a := by omega
    obtain ⟨k, rfl⟩ := Int.eq_ofNat_of_zero_le (Int.le_of_lt ha')
    have hk : 0 < k := by omega
    obtain ⟨r, hr, h0, h1, h2⟩ := (alignBlockNumPadding_spec d.length (k : Int)).2 ha'
    obtain ⟨m1, m2, m3⟩ := alignNat_int d.length k hk
    have : (d.length : Int) + r = alignNat d.length k :=
      mult_unique (k : Int) d.length _ _ ha' h2 m1 ⟨by omega, by omega⟩ ⟨m2, m3⟩
    rw [hr]
    simp only [alignBlock, ha, if_false, Int.toNat_natCast]
    congr 3
    omega

/-! ## `load_hex_string`, literal branch (hand model `Misc.loadHexString`, behaviour after fixes 69fb592 / fd2f580)

For a string literal `s` (that is not the name of an existing file): `"0x"` is prepended unless present, the text goes
through `value_to_int` (so `_` separators and `u/l` suffixes are accepted) and the NUMBER is written big-endian on
`expected_size` bytes by `value_to_bytes(…, align_to_2n=False, byte_cnt=expected_size)`.  Hence: accepted exactly when the
literal denotes a number below `256 ^ expected_size`, i.e. at most `expected_size` significant bytes — a shorter literal
is zero-extended on the left, leading zero bytes of a longer one are dropped.  A bytes source must have exactly
`expected_size` bytes; an int source still goes through `align_to_2n=True` (`widthA`). -/

theorem loadHexString_literal_iff (s : List Char) (n : Int) (hs : s ≠ []) (hn : 1 ≤ n) (b : Bytes) :
    (loadHexString (.str s) n = .ok (some b) ↔
      ∃ v, valueToInt (with0x s) = some v ∧ v < 256 ^ n.toNat ∧ b = beEnc n.toNat v) ∧
    (loadHexString (.str s) n = .ok (some b) →
      (b.length : Int) = n ∧ ∃ v, valueToInt (with0x s) = some v ∧ beDec b = v) ∧
    ((¬ ∃ v, valueToInt (with0x s) = some v ∧ v < 256 ^ n.toNat) → loadHexString (.str s) n = .error .spsdk) := by
  rw [loadHexString_str s n hs hn]
  cases hv : valueToInt (with0x s) with
  | none => simp
  | some v =>
    by_cases hw : v < 256 ^ n.toNat
    · simp only [hw, if_true]
      refine ⟨⟨fun h => ⟨v, rfl, hw, ?_⟩, fun ⟨v', e, _, hb⟩ => ?_⟩, fun h => ?_, fun h => absurd ⟨v, rfl, hw⟩ h⟩
      · cases h; rfl
      · cases e; rw [hb]
      · cases h
        refine ⟨?_, v, rfl, beDec_beEnc _ _ hw⟩
        rw [beEnc_length]; omega
    · simp only [hw, if_false]
      refine ⟨⟨fun h => (by cases h), fun ⟨v', e, hw', _⟩ => ?_⟩, fun h => (by cases h), by simp⟩
      cases e; exact absurd hw' hw

/-- value preserved: the hex text of exactly `expected_size` bytes (lower case, with or without `0x`) loads to those
    bytes — for EVERY size ≥ 1 (before fix 69fb592 this failed for sizes 3, 5, 6, 7, 9, …) -/
theorem loadHexString_exact_hex (bs : Bytes) (n : Int) (hlen : (bs.length : Int) = n) (hn : 1 ≤ n) :
    loadHexString (.str (hexOf bs)) n = .ok (some bs) ∧
    loadHexString (.str ('0' :: 'x' :: hexOf bs)) n = .ok (some bs) := by
  have hne : bs ≠ [] := by intro h; subst h; simp at hlen; omega
  have hN : n.toNat = bs.length := by omega
  obtain ⟨p1, p2⟩ := valueToInt_hexOf bs hne
  have hw := beDec_lt bs
  constructor
  · rw [loadHexString_str _ n (hexOf_ne_nil bs hne) hn, p1]
    simp only [hN, hw, if_true, beEnc_beDec]
  · rw [loadHexString_str _ n (by simp) hn, p2]
    simp only [hN, hw, if_true, beEnc_beDec]

/-- a shorter hex literal is zero-extended on the left to `expected_size` bytes -/
theorem loadHexString_short_hex (bs : Bytes) (n : Int) (hne : bs ≠ []) (hlen : (bs.length : Int) ≤ n) :
    loadHexString (.str (hexOf bs)) n = .ok (some (beEnc n.toNat (beDec bs))) ∧
    beDec (beEnc n.toNat (beDec bs)) = beDec bs := by
  have hpos : 0 < bs.length := List.length_pos_iff.2 hne
  have hw : beDec bs < 256 ^ n.toNat :=
    Nat.lt_of_lt_of_le (beDec_lt bs) (Nat.pow_le_pow_right (by omega) (by omega))
  refine ⟨?_, beDec_beEnc _ _ hw⟩
  rw [loadHexString_str _ n (hexOf_ne_nil bs hne) (by omega), (valueToInt_hexOf bs hne).1]
  simp only [hw, if_true]

/-- a bytes source is accepted exactly when it has `expected_size` bytes (returned unchanged); an int is written
    big-endian on `expected_size` bytes when its `align_to_2n` width fits -/
theorem loadHexString_bytes_int (n : Int) (hn : 1 ≤ n) :
    (∀ b : Bytes, b ≠ [] → loadHexString (.bytes b) n = if (b.length : Int) = n then .ok (some b) else .error .spsdk) ∧
    (∀ v : Nat, v ≠ 0 → loadHexString (.int v) n =
      if widthA v ≤ n.toNat then .ok (some (beEnc n.toNat v)) else .error .spsdk) := by
  have hn' : ¬ n < 1 := by omega
  have hN : n.toNat ≠ 0 := by omega
  constructor
  · intro b hb
    have : b.isEmpty = false := by cases b <;> simp_all
    simp [loadHexString, HexSrc.falsy, this, hn']
  · intro v hv
    have h1 : ((v : Int) == 0) = false := by simp [hv]
    have h2 : ¬ ((v : Int) < 0) := by omega
    simp only [loadHexString, HexSrc.falsy, h1, hn', h2, Bool.false_eq_true, if_false, Int.toNat_natCast, valueToBytes,
      getBytesCnt_true v _ hN]
    by_cases hw : widthA v ≤ n.toNat <;> simp [hw]

/-- recorded behaviour -/
example : loadHexString (.str "010203".toList) 3 = .ok (some [1, 2, 3]) ∧          -- exactly 3 bytes (refused before 69fb592)
          loadHexString (.str "0102".toList) 3 = .ok (some [0, 1, 2]) ∧           -- 2 bytes: zero-extended
          loadHexString (.str "0001020304".toList) 4 = .ok (some [1, 2, 3, 4]) ∧  -- 5 bytes with a zero first byte: accepted
          loadHexString (.str "0101020304".toList) 4 = .error .spsdk ∧            -- 5 significant bytes: refused
          loadHexString (.bytes [1, 2]) 16 = .error .spsdk ∧                      -- bytes of the wrong size (accepted before fd2f580)
          loadHexString (.bytes [1, 2]) 2 = .ok (some [1, 2]) ∧
          loadHexString (.int 0x010203) 3 = .error .spsdk ∧                       -- int sources still round the width up
          loadHexString (.str "12_34ul".toList) 2 = .ok (some [0x12, 0x34]) ∧     -- number grammar, not just hex digits
          loadHexString (.str "".toList) 2 = .ok none := by decide +kernel                -- falsy source: random value

/-! ## `value_to_bool`, `BinaryPattern`, `split_data` -/

/-- strings are true exactly for the four spellings in the source (generated table), ints by `!= 0` -/
theorem valueToBool_spec :
    (∀ s, valueToBool (.str s) = true ↔ s ∈ valueToBoolTrue) ∧ (∀ i, valueToBool (.int i) = true ↔ i ≠ 0) ∧
    valueToBool .none = false ∧ (∀ b, valueToBool (.bool b) = b) := by
  refine ⟨fun s => by simp [valueToBool], fun i => by simp [valueToBool], rfl, fun _ => rfl⟩

/-- `BinaryPattern(p)` is accepted exactly for a number (`value_to_int` grammar) or one of the special names -/
theorem patternAccept_iff (p : List Char) :
    patternAccept p = true ↔ (∃ v, valueToInt p = some v) ∨ p ∈ binaryPatternSpecial := by
  simp [patternAccept, Option.isSome_iff_exists]

/-- the `pattern` property of a number re-parses to the same number (`hex()` stays inside the grammar), so it is
    accepted again and is a fixed point of the property -/
theorem patternProp_reparse (p : List Char) (v : Nat) (h : valueToInt p = some v) :
    valueToInt (patternProp p) = some v ∧ patternAccept (patternProp p) = true ∧
    patternProp (patternProp p) = patternProp p := by
  have e : patternProp p = pyHex v := by simp [patternProp, h]
  have k := valueToInt_pyHex v
  refine ⟨by rw [e, k], by rw [e]; simp [patternAccept, k], ?_⟩
  rw [e]; simp [patternProp, k]

/-- special names are their own `pattern` (none of them is a number) -/
example : binaryPatternSpecial.all (fun p => patternProp p == p && patternAccept p) = true := by decide +kernel

/-- `split_data` with a positive size: the chunks concatenate to the data, every chunk has 1..size bytes, all but the
    last exactly `size`, and there are ⌈len/size⌉ of them -/
theorem splitData_spec (d : Bytes) (size : Int) (h : 0 < size) :
    ∃ cs, splitData d size = .ok cs ∧ cs.flatten = d ∧ (∀ c ∈ cs, 1 ≤ c.length ∧ (c.length : Int) ≤ size) ∧
      (∀ c ∈ cs.dropLast, (c.length : Int) = size) ∧ cs.length = (d.length + size.toNat - 1) / size.toNat := by
  obtain ⟨k, rfl⟩ := Int.eq_ofNat_of_zero_le (Int.le_of_lt h)
  have hk : 0 < k := by omega
  obtain ⟨i1, i2, i3, i4⟩ := chunksF_spec d.length k d hk (Nat.le_refl _)
  have h0 : ¬ (k : Int) = 0 := by omega
  have h1 : ¬ (k : Int) < 0 := by omega
  refine ⟨_, by simp only [splitData, h0, h1, if_false]; rfl, ?_, ?_, ?_, ?_⟩
  · simpa using i1
  · intro c hc
    have := i2 c (by simpa using hc)
    exact ⟨this.1, by omega⟩
  · intro c hc
    have := i3 c (by simpa using hc)
    omega
  · simpa using i4

/-- size 0 is a `ValueError`; a NEGATIVE size silently yields no chunk at all (the data is dropped) — robustness
    observation, the callers pass positive constants -/
theorem splitData_nonpos (d : Bytes) (size : Int) (h : size ≤ 0) :
    splitData d size = if size = 0 then .error .other else .ok [] := by
  unfold splitData
  by_cases h0 : size = 0
  · simp [h0]
  · have : size < 0 := by omega
    simp [h0, this]

/-! ## `SpsdkEnum` lookups (generic model over a member table; two real tables generated from the source) -/

/-- unknown tag / label → `SPSDKKeyError`, and only then -/
theorem enum_unknown_iff (E : List EnumRow) :
    (∀ t, fromTag E t = .error .spsdk ↔ ∀ m ∈ E, m.1 ≠ t) ∧
    (∀ l, fromLabel E l = .error .spsdk ↔ ∀ m ∈ E, upper m.2.1 ≠ upper l) := by
  constructor
  · intro t
    rcases find?_cases (fun m : EnumRow => m.1 == t) E with ⟨h, hall⟩ | ⟨m, h, hm, hp⟩
    · simp only [fromTag, h, true_iff]
      exact fun m hm => by simpa using hall m hm
    · simp only [fromTag, h, reduceCtorEq, false_iff]
      exact fun hall => hall m hm (by simpa using hp)
  · intro l
    rcases find?_cases (fun m : EnumRow => upper m.2.1 == upper l) E with ⟨h, hall⟩ | ⟨m, h, hm, hp⟩
    · simp only [fromLabel, h, true_iff]
      exact fun m hm => by simpa using hall m hm
    · simp only [fromLabel, h, reduceCtorEq, false_iff]
      exact fun hall => hall m hm (by simpa using hp)

/-- a successful lookup returns a member carrying that tag / that label up to case -/
theorem enum_lookup_sound (E : List EnumRow) (m : EnumRow) :
    (∀ t, fromTag E t = .ok m → m ∈ E ∧ m.1 = t) ∧
    (∀ l, fromLabel E l = .ok m → m ∈ E ∧ upper m.2.1 = upper l) := by
  constructor
  · intro t h
    rcases find?_cases (fun m : EnumRow => m.1 == t) E with ⟨hf, _⟩ | ⟨m', hf, hm, hp⟩ <;>
      simp only [fromTag, hf] at h <;> cases h
    exact ⟨hm, by simpa using hp⟩
  · intro l h
    rcases find?_cases (fun m : EnumRow => upper m.2.1 == upper l) E with ⟨hf, _⟩ | ⟨m', hf, hm, hp⟩ <;>
      simp only [fromLabel, hf] at h <;> cases h
    exact ⟨hm, by simpa using hp⟩

/-- label lookup is case-insensitive -/
theorem fromLabel_caseInsensitive (E : List EnumRow) (l l' : List Char) (h : upper l = upper l') :
    fromLabel E l = fromLabel E l' := by
  unfold fromLabel; rw [h]

/-- on a well-formed table (tags distinct, labels distinct up to case) the lookups are mutually inverse:
    `from_tag(get_tag(label)) = from_label(label)`, `from_label(get_label(tag)) = from_tag(tag)`,
    and every member is found by its own tag and by its own label -/
theorem enum_roundtrip (E : List EnumRow) (hwf : enumWF E = true) :
    (∀ m ∈ E, fromTag E m.1 = .ok m ∧ fromLabel E m.2.1 = .ok m) ∧
    (∀ l m, fromLabel E l = .ok m → getTag E l = .ok m.1 ∧ fromTag E m.1 = .ok m) ∧
    (∀ t m, fromTag E t = .ok m → getLabel E t = .ok m.2.1 ∧ fromLabel E m.2.1 = .ok m) := by
  simp only [enumWF, Bool.and_eq_true, decide_eq_true_eq] at hwf
  have key : ∀ m ∈ E, fromTag E m.1 = .ok m ∧ fromLabel E m.2.1 = .ok m := by
    intro m hm
    constructor
    · unfold fromTag
      rw [show E.find? (fun m' => m'.1 == m.1) = some m from find_unique (fun m : EnumRow => m.1) E hwf.1 m hm]
    · unfold fromLabel
      rw [show E.find? (fun m' => upper m'.2.1 == upper m.2.1) = some m from
        find_unique (fun m : EnumRow => upper m.2.1) E hwf.2 m hm]
  refine ⟨key, ?_, ?_⟩
  · intro l m h
    exact ⟨by simp [getTag, h], (key m ((enum_lookup_sound E m).2 l h).1).1⟩
  · intro t m h
    exact ⟨by simp [getLabel, h], (key m ((enum_lookup_sound E m).1 t h).1).2⟩

/-- `contains` answers truthfully -/
theorem enum_contains_iff (E : List EnumRow) :
    (∀ t, containsTag E t = true ↔ ∃ m ∈ E, m.1 = t) ∧
    (∀ l, containsLabel E l = true ↔ ∃ m ∈ E, upper m.2.1 = upper l) := by
  constructor
  · intro t; simp [containsTag, List.find?_isSome]
  · intro l; simp [containsLabel, List.find?_isSome]

/-- the two real member tables (regenerated from the source) are well-formed and non-empty, so `enum_roundtrip` applies:
    a duplicated tag or a label clash up to case introduced in the source fails here -/
theorem real_enums_wf :
    enumWF enumSb2CmdTag = true ∧ enumWF enumAhabTargetMemory = true ∧
    enumSb2CmdTag ≠ [] ∧ enumAhabTargetMemory ≠ [] := by decide +kernel

example : fromLabel enumAhabTargetMemory "NoR".toList = .ok (1, "nor".toList, none) ∧
          fromTag enumSb2CmdTag 6 = .error .spsdk ∧ getTag enumSb2CmdTag "erase".toList = .ok 7 ∧
          (getDescription enumSb2CmdTag 11 none).toOption.join.isSome = true ∧
          getDescription enumSb2CmdTag 1 (some ['d']) = .ok (some ['d']) := by decide +kernel

/-! ## non-vacuity for the generated functions -/

example : getBytesCntOfInt 10 70000 true none = .ok 4 ∧ getBytesCntOfInt 10 70000 false none = .ok 3 ∧
          getBytesCntOfInt 10 65536 true (some 3) = .error .spsdk ∧ getBytesCntOfInt 10 0 true (some 0) = .ok 1 ∧
          getBytesCntOfInt 2 70000 true none = .error .other ∧          -- fuel too small
          getBytesCntOfInt 64 (-1) true none = .error .spsdk ∧ getBytesCntOfInt 0 (-1) true none = .error .spsdk := by decide   -- refused (fix 55a6c57)
example : bcdCheckNumber 0x1234 = .ok true ∧ bcdCheckNumber 0x12A4 = .error .spsdk ∧ bcdCheckNumber (-1) = .error .spsdk := by decide
example : alignBlockNumPadding 13 8 = .ok 3 ∧ alignBlockNumPadding 16 8 = .ok 0 ∧ alignBlockNumPadding 5 0 = .error .spsdk ∧
          extendBlockNumPadding 5 9 0 = .ok 4 ∧ extendBlockNumPadding 5 4 0 = .error .spsdk := by decide
example : splitData [1, 2, 3, 4, 5, 6, 7] 3 = .ok [[1, 2, 3], [4, 5, 6], [7]] ∧ splitData [1, 2] (-1) = .ok [] := by decide
example : patternProp "0b101".toList = "0x5".toList ∧ patternAccept "inc".toList = true ∧ patternAccept "incr".toList = false ∧
          patternAccept "".toList = false := by decide +kernel

end PyFuns2

/-! # The remaining public helpers (Model/Misc3.lean, helpers Proofs/Misc3.lean)

`reverse_bits` on every integer, `format_value`, `value_to_bytes` on every source type, `extend_block` with an integer
padding, `find_first`, `SpsdkSoftEnum`, `Endianness`, `change_endianness` for every width, `size_fmt`, `BcdVersion3`
text round trip, `SecBootBlckSize.align_block_fill_zeros`, and the FILE branch of `load_hex_string`.
`PyFuns3.*` / `Misc3Tables.*` are regenerated from the source on every run. -/

section PyFuns3
open SpsdkVerif.Generated.PyFuns2 SpsdkVerif.Generated.PyFuns3 SpsdkVerif.Generated.EnumTables SpsdkVerif.Generated.Misc3Tables

theorem reverseBitsI_err (x n : Int) : (x < 0 ∨ n < 0) ↔ reverseBitsI x n = .error .other := by
  unfold reverseBitsI
  by_cases h : x < 0 ∨ n < 0 <;> simp [h]

theorem reverseBitsI_invol (x n : Int) (h0 : 0 ≤ x) (hn : 0 < n) (h : x.toNat < 2 ^ n.toNat) :
    ∃ y, reverseBitsI x n = .ok y ∧ reverseBitsI (y : Int) n = .ok x.toNat := by
  have h1 : ¬ (x < 0 ∨ n < 0) := by omega
  refine ⟨reverseBits x.toNat n.toNat, by simp only [reverseBitsI, h1, if_false], ?_⟩
  have h2 : ¬ (((reverseBits x.toNat n.toNat : Nat) : Int) < 0 ∨ n < 0) := by omega
  simp only [reverseBitsI, h2, if_false, Int.toNat_natCast]
  rw [reverseBits_invol _ _ h (by omega)]

theorem extendBlockI_spec (d : Bytes) (len pad : Int) :
    extendBlockI d len pad =
      if len < d.length then .error .spsdk
      else if len = d.length then .ok d
      else if pad < 0 ∨ pad > 255 then .error .other
      else .ok (d ++ List.replicate (len.toNat - d.length) (UInt8.ofNat pad.toNat)) := by
  unfold extendBlockI extendBlockNumPadding
  by_cases h : len < d.length
  · simp [h]
  · by_cases h2 : len = d.length
    · simp [h2]
    · have h3 : ¬ (len - (d.length : Int) = 0) := by omega
      simp only [h, h2, h3, if_false, decide_false, Bool.false_eq_true]
      by_cases h4 : pad < 0 ∨ pad > 255
      · simp [h4]
      · simp only [h4, if_false]
        congr 3
        omega

theorem extendBlockI_byte (d : Bytes) (len : Int) (p : UInt8) :
    extendBlockI d len (p.toNat : Int) = extendBlock d len p := by
  rw [extendBlockI_spec, extendBlock_spec]
  have hp := p.toNat_lt
  by_cases h : len < d.length
  · simp [h]
  · by_cases h2 : len = d.length
    · subst h2; simp
    · have h4 : ¬ ((p.toNat : Int) < 0 ∨ (p.toNat : Int) > 255) := by omega
      simp [h, h2, h4]

theorem findFirst_spec {α} (l : List α) (p : α → Bool) :
    (∀ a, findFirst l p = some a ↔ p a = true ∧ ∃ pre post, l = pre ++ a :: post ∧ ∀ x ∈ pre, p x = false) ∧
    (findFirst l p = none ↔ ∀ x ∈ l, p x = false) := by
  constructor
  · intro a
    simp [findFirst, List.find?_eq_some_iff_append]
  · simp [findFirst]

theorem softFromTag_spec (E : List EnumRow) (cls : List Char) (t : Int) :
    (softFromTag E cls t).1 = t ∧
    (∀ m, fromTag E t = .ok m → softFromTag E cls t = m ∧ softGetLabel E cls t = m.2.1) ∧
    (fromTag E t = .error .spsdk → softFromTag E cls t = softUnknownRow cls t ∧
        softGetDescription E cls t none ≠ none) := by
  refine ⟨?_, ?_, ?_⟩
  · unfold softFromTag
    cases h : fromTag E t with
    | ok m => exact ((enum_lookup_sound E m).1 t h).2
    | error e => rfl
  · intro m h
    simp [softFromTag, softGetLabel, h]
  · intro h
    simp [softFromTag, softGetDescription, h, softUnknownRow]

theorem endianness_members :
    endiannessMembers = [("BIG".toList, "big".toList), ("LITTLE".toList, "little".toList)] := by decide +kernel

theorem changeEndianness_widths (b : Bytes) :
    (changeEndianness b = .error .spsdk ↔ b.length ≠ 1 ∧ b.length ≠ 2 ∧ b.length % 4 ≠ 0) ∧
    (∀ c, changeEndianness b = .ok c → c.length = b.length) ∧
    (b.length ≤ 4 → b.length ≠ 3 → changeEndianness b = .ok b.reverse ∧ leDec b.reverse = beDec b) := by
  rw [changeEndianness_eq]
  refine ⟨?_, fun c hc => ?_, fun h4 h3 => ⟨?_, by simp [leDec]⟩⟩
  · split
    · simp only [reduceCtorEq, false_iff]; omega
    · split
      · simp only [reduceCtorEq, false_iff]; omega
      · simp only [true_iff]; omega
  · split at hc
    · cases hc; exact List.length_reverse
    · split at hc
      · rename_i h; cases hc; exact (revLongs_spec b h).1
      · cases hc
  · -- up to four bytes the word-wise reversal is the plain one
    match b, h4, h3 with
    | [], _, _ => rfl
    | [a], _, _ => rfl
    | [a, b'], _, _ => rfl
    | [a, b', c], _, h3 => simp at h3
    | [a, b', c, d], _, _ => simp [revLongs, chunk4]
    | _ :: _ :: _ :: _ :: _ :: _, h4, _ => simp at h4

theorem sbFillZeros_spec (d : Bytes) :
    ∃ r, sbAlignBlockFillZeros d = .ok r ∧ d <+: r ∧ sbIsAligned r.length = .ok true ∧
      sbToNumBlocks r.length = .ok ((r.length : Int) / 16) ∧ sbAlign d.length = .ok (r.length : Int) ∧
      ∀ x ∈ r.drop d.length, x = 0 := by
  obtain ⟨r, hr, hp, hm, hle, hlt, hz⟩ := alignBlock_spec d 16 0 (by omega)
  refine ⟨r, hr, hp, ?_, ?_, ?_, hz⟩
  · have := sbToNumBlocks_spec (r.length : Int)
    simp only [sbIsAligned, pyMod]
    rw [Int.fmod_eq_emod_of_nonneg _ (by omega)]
    simp [hm]
  · rw [sbToNumBlocks_spec]; simp [hm]
  · obtain ⟨r', hr', hd, h1, h2⟩ := sbAlign_spec (d.length : Int) (by omega)
    rw [hr']
    congr 1
    obtain ⟨k, hk⟩ := hd
    have : (r.length : Int) = 16 * ((r.length : Int) / 16) := by omega
    omega

theorem formatValuePadding_spec (size : Int) :
    formatValuePadding size = .ok (if size % 8 ≠ 0 then size else size / 8 * 2) := by
  have e1 : pyMod size 8 = size % 8 := by
    simp only [pyMod]; exact Int.fmod_eq_emod_of_nonneg _ (by omega)
  have e2 : pyFloorDiv size 8 = size / 8 := by
    simp only [pyFloorDiv]; exact Int.fdiv_eq_ediv_of_nonneg _ (by omega)
  simp only [formatValuePadding, e1, e2]
  by_cases h : size % 8 = 0 <;> simp [h]

theorem formatValue_err (value size : Int) (d : List Char) (p : Bool) :
    size < 0 ↔ formatValue value size d p = .error .other := by
  unfold formatValue
  rw [formatValuePadding_spec]
  by_cases h8 : size % 8 = 0
  · simp only [h8, ne_eq, not_true_eq_false, if_false]
    by_cases h : size < 0
    · have : size / 8 * 2 < 0 := by omega
      simp [h, this]
    · have : ¬ size / 8 * 2 < 0 := by omega
      simp [h, this]
  · simp only [h8, ne_eq, not_false_eq_true, if_true]
    by_cases h : size < 0 <;> simp [h]

theorem guards3_spec :
    (∀ n : Nat, bcdNumFromStrGuard n = if 1 ≤ n ∧ n ≤ 4 then .ok true else .error .spsdk) ∧
    (∀ v : Int, unpackTimestampGuard v = if 0 ≤ v ∧ v ≤ 0xFFFFFFFFFFFFFFFF then .ok true else .error .spsdk) := by
  refine ⟨bcdNumFromStrGuard_eq, ?_⟩
  · intro v
    unfold unpackTimestampGuard
    by_cases h : 0 ≤ v ∧ v ≤ 0xFFFFFFFFFFFFFFFF
    · have h1 : ¬ (v < 0) := by omega
      have h2 : ¬ (v > 18446744073709551615) := by omega
      simp [h, h1, h2]
    · by_cases h1 : v < 0
      · simp [h, h1]
      · have h2 : v > 18446744073709551615 := by omega
        simp [h, h2]


/-! ## `value_to_bytes` on every source type -/

/-- bytes come back unchanged whatever `byte_cnt` says; a string is converted exactly like the number it denotes
    (`value_to_bytes(s) = value_to_bytes(value_to_int(s))`) and refused with an SPSDK error when it is no number -/
theorem valueToBytesAny_spec (a2n le : Bool) (bc : Option Int) :
    (∀ b, valueToBytesAny (.bytes b) a2n bc le = .ok b) ∧
    (∀ s v, valueToInt s = some v → valueToBytesAny (.str s) a2n bc le = valueToBytesAny (.int v) a2n bc le) ∧
    (∀ s, valueToInt s = none → valueToBytesAny (.str s) a2n bc le = .error .spsdk) ∧
    (∀ v : Nat, bc.getD 0 = 0 → valueToBytesAny (.int v) a2n bc le = valueToBytes v a2n 0 le) := by
  refine ⟨fun _ => rfl, ?_, ?_, ?_⟩
  · intro s v h
    have : ¬ ((v : Int) < 0) := by omega
    simp [valueToBytesAny, h, this]
  · intro s h; simp [valueToBytesAny, h]
  · intro v h
    have : ¬ ((v : Int) < 0) := by omega
    simp [valueToBytesAny, h, this]

/-! ## `size_fmt` (exact arithmetic) -/

/-- the printed mantissa is the nearest tenth (ties to even) of the exact quotient -/
theorem sizeFmt_rounding (a d : Nat) (hd : 0 < d) :
    2 * (roundHalfEven a d * d) ≤ 2 * a + d ∧ 2 * a ≤ 2 * (roundHalfEven a d * d) + d :=
  roundHalfEven_spec a d hd

/-- the unit is the largest one not above the value — as long as the loop does not run off the end of the unit list.
    FULL statement (false on the current code, known finding C20-size-fmt-last-unit): the upper bound `n < base^(r+1)`
    for every `n`; it fails from `base^6` on, where `r = 6` divisions are made but the label stays at the 6th unit (`P`). -/
theorem sizeFmt_unit_partial (base n : Nat) (suffix : List Char) :
    let r := (sizeFmtLoop base n (sizeFmtUnits suffix) 0 ['B']).1
    (r = 0 ∨ base ^ r ≤ n) ∧ (r < (sizeFmtUnits suffix).length → n < base ^ (r + 1)) ∧ r ≤ (sizeFmtUnits suffix).length := by
  obtain ⟨a, b, _, d⟩ := sizeFmtLoop_spec base n (sizeFmtUnits suffix) 0 ['B'] (Or.inl rfl)
  exact ⟨a, fun h => b (by omega), by omega⟩

example : sizeFmtBases = [(1000, "B".toList), (1024, "iB".toList)] ∧ sizeFmtPrefixes = "kMGTP".toList := by decide +kernel
example : sizeFmt 0 true = "0 B".toList ∧ sizeFmt 1023 true = "1023 B".toList ∧ sizeFmt (-2000) true = "-2000 B".toList ∧
          sizeFmt 1024 true = "1.0 kiB".toList ∧ sizeFmt 1536 true = "1.5 kiB".toList ∧ sizeFmt 1076 true = "1.1 kiB".toList ∧
          sizeFmt 1050 false = "1.0 kB".toList ∧ sizeFmt 1150 false = "1.2 kB".toList ∧      -- ties go to the even tenth
          sizeFmt (1024 * 1024 - 1) true = "1024.0 kiB".toList := by decide +kernel
/-- the defect: one exbibyte prints like one pebibyte -/
example : sizeFmt (1024 ^ 6) true = "1.0 PiB".toList ∧ sizeFmt (1024 ^ 5) true = "1.0 PiB".toList := by decide +kernel

/-! ## `BcdVersion3`: text form round trip -/

/-- `from_str(str(v)) = v` for every version the constructor accepts -/
theorem bcd_str_roundtrip (a b c : Nat) (ha : bcdDigitOk a = true) (hb : bcdDigitOk b = true) (hc : bcdDigitOk c = true) :
    bcdFromStr (bcdStr (a, b, c)) = .ok (a, b, c) := by
  have nd : ∀ n, bcdDigitOk n = true → '.' ∉ bcdToDigits n := by
    intro n hn hm
    exact (dec_facts _ ((bcdToDigits_facts n hn).2.2.1 _ hm)).2.2.1 rfl
  have e : bcdStr (a, b, c) = bcdToDigits a ++ '.' :: (bcdToDigits b ++ '.' :: bcdToDigits c) := by simp [bcdStr]
  simp only [bcdFromStr]
  rw [e, splitOn_append '.' _ _ (nd a ha), splitOn_append '.' _ _ (nd b hb), splitOn_nosep '.' _ (nd c hc)]
  simp only [bcdNumFromStr_digits a ha, bcdNumFromStr_digits b hb, bcdNumFromStr_digits c hc]

/-- whatever text `from_str` accepts, the printed form of the result parses back to the same version
    (the printed form is canonical even where the accepted text was not — see the finding below) -/
theorem bcd_canonical (t : List Char) (v : Nat × Nat × Nat) (h : bcdFromStr t = .ok v) :
    bcdFromStr (bcdStr v) = .ok v := by
  obtain ⟨a, b, c, _, ha, hb, hc⟩ := (bcdFromStr_ok_iff t v).1 h
  exact bcd_str_roundtrip _ _ _ (bcdNumFromStr_ok a _ ha) (bcdNumFromStr_ok b _ hb) (bcdNumFromStr_ok c _ hc)

/-- the generated constant `BcdVersion3.DEFAULT` is a valid version -/
theorem bcd_default_valid : bcdFromStr bcdDefault = .ok (0x999, 0x999, 0x999) := by decide

/-- the documented grammar `#.#.#`, `#` = 1–4 decimal digits, as a predicate on the text -/
def BcdGrammar (t : List Char) : Prop :=
  ∃ a b c : List Char, t = a ++ '.' :: (b ++ '.' :: c) ∧
    ∀ p ∈ [a, b, c], 1 ≤ p.length ∧ p.length ≤ 4 ∧ ∀ ch ∈ p, '0' ≤ ch ∧ ch ≤ '9'

/-- `str.split` re-joins to the text -/
theorem splitOn_join3 (t a b c : List Char) (h : splitOn '.' t = [a, b, c]) : t = a ++ '.' :: (b ++ '.' :: c) := by
  have key : ∀ (t : List Char) (g : List Char) (gs : List (List Char)), splitOn '.' t = g :: gs →
      t = joinWith ['.'] (g :: gs) := by
    intro t
    induction t with
    | nil => intro g gs h; simp [splitOn] at h; obtain ⟨rfl, rfl⟩ := h; rfl
    | cons ch cs ih =>
      intro g gs h
      rw [splitOn] at h
      by_cases hc : ch = '.'
      · subst hc
        simp only [beq_self_eq_true, if_true, List.cons.injEq] at h
        obtain ⟨rfl, rfl⟩ := h
        cases hs : splitOn '.' cs with
        | nil => exact absurd hs (splitOn_ne_nil '.' cs)
        | cons g' gs' =>
          have := ih g' gs' hs
          rw [this]
          simp [joinWith]
      · have hc' : (ch == '.') = false := by simp [hc]
        simp only [hc', if_false, Bool.false_eq_true] at h
        cases hs : splitOn '.' cs with
        | nil => exact absurd hs (splitOn_ne_nil '.' cs)
        | cons g' gs' =>
          rw [hs] at h
          simp only [List.cons.injEq] at h
          obtain ⟨rfl, rfl⟩ := h
          have := ih g' gs' hs
          rw [this]
          cases gs' with
          | nil => simp [joinWith]
          | cons g'' gs'' => simp [joinWith]
  have := key t a [b, c] h
  simpa [joinWith] using this

/-- AFTER fix 619e9e1 the parser accepts exactly the documented grammar: whatever `from_str` accepts is `#.#.#` with 1–4
    decimal digits per component (before the fix `'0x1.+2. 3'`, `'1_2.0.0'`, `'-0.0.0'` and non-ASCII digits were accepted) … -/
theorem bcdFromStr_grammar (t : List Char) (v : Nat × Nat × Nat) (h : bcdFromStr t = .ok v) : BcdGrammar t := by
  obtain ⟨a, b, c, hs, ha, hb, hc⟩ := (bcdFromStr_ok_iff t v).1 h
  refine ⟨a, b, c, splitOn_join3 t a b c hs, fun p hp => ?_⟩
  simp only [List.mem_cons, List.not_mem_nil, or_false] at hp
  rcases hp with rfl | rfl | rfl
  · exact bcdNumFromStr_grammar _ _ ha
  · exact bcdNumFromStr_grammar _ _ hb
  · exact bcdNumFromStr_grammar _ _ hc

/-- … and every refusal is an SPSDK error (before the fix an empty or `_1` / `zz` component raised `ValueError`) -/
theorem bcdFromStr_err_spsdk (t : List Char) (e : PyErr) (h : bcdFromStr t = .error e) : e = .spsdk := by
  unfold bcdFromStr at h
  split at h
  · rename_i a b c _
    cases ha : bcdNumFromStr a with
    | error e' => rw [ha] at h; cases h; exact bcdNumFromStr_err a _ ha
    | ok x =>
      cases hb : bcdNumFromStr b with
      | error e' => rw [ha, hb] at h; cases h; exact bcdNumFromStr_err b _ hb
      | ok y =>
        cases hc : bcdNumFromStr c with
        | error e' => rw [ha, hb, hc] at h; cases h; exact bcdNumFromStr_err c _ hc
        | ok z => rw [ha, hb, hc] at h; cases h
  · cases h; rfl

/-- the generated alphabet of the component check -/
theorem bcd_alphabet : bcdNumAlphabet = "0123456789abcdefABCDEF".toList := by decide +kernel

/-- behaviour after fix 619e9e1 (each of the first six was accepted or a `ValueError` before) -/
example : bcdFromStr "0x1.+2. 3".toList = .error .spsdk ∧ bcdFromStr "1_2.0.0".toList = .error .spsdk ∧
          bcdFromStr "-0.0.0".toList = .error .spsdk ∧ bcdFromStr ".0.0".toList = .error .spsdk ∧
          bcdFromStr "_1.0.0".toList = .error .spsdk ∧ bcdFromStr "zz.0.0".toList = .error .spsdk ∧
          bcdFromStr "a.0.0".toList = .error .spsdk ∧ bcdFromStr "12345.0.0".toList = .error .spsdk ∧
          bcdFromStr "1.2".toList = .error .spsdk ∧ bcdFromStr "9999.0.10".toList = .ok (0x9999, 0, 0x10) := by decide +kernel
example : BcdGrammar "12.0.9999".toList :=
  ⟨"12".toList, "0".toList, "9999".toList, by decide +kernel, by decide +kernel⟩
example : bcdDigitOk 0x9999 = true ∧ bcdDigitOk 0x12 = true ∧ bcdStr (0x12, 0, 0x9999) = "12.0.9999".toList := by decide +kernel

/-! ## `load_hex_string`: the FILE branch -/

/-- A key file is read as a NUMBER when its (ASCII) text denotes one that fits `expected_size` bytes — then the result is
    that number big-endian on `expected_size` bytes, exactly as for a literal — and as RAW BYTES otherwise, which must then
    be exactly `expected_size` long; anything else is refused with an SPSDK error. -/
theorem loadHexFile_spec (content : Bytes) (n : Int) (hn : 1 ≤ n) :
    loadHexFile content n =
      match (asciiText content).bind (fun t => if t.isEmpty then none else valueToInt (with0x t)) with
      | some v => if v < 256 ^ n.toNat then .ok (some (beEnc n.toNat v))
                  else if (content.length : Int) = n then .ok (some content) else .error .spsdk
      | none => if (content.length : Int) = n then .ok (some content) else .error .spsdk :=
  loadHexFile_eq content n hn

/-- every accepted key file yields exactly `expected_size` bytes -/
theorem loadHexFile_length (content : Bytes) (n : Int) (hn : 1 ≤ n) (b : Bytes) (h : loadHexFile content n = .ok (some b)) :
    (b.length : Int) = n := by
  rw [loadHexFile_eq content n hn] at h
  split at h
  · split at h
    · cases h; rw [beEnc_length]; omega
    · split at h
      · cases h; assumption
      · cases h
  · split at h
    · cases h; assumption
    · cases h

/-- a file that is not ASCII text (a binary key) is returned verbatim when it has `expected_size` bytes, else refused -/
theorem loadHexFile_binary (content : Bytes) (n : Int) (hn : 1 ≤ n) (h : asciiText content = none) :
    loadHexFile content n = if (content.length : Int) = n then .ok (some content) else .error .spsdk := by
  rw [loadHexFile_eq content n hn, h]; rfl

/-- an existing file takes precedence over reading the source as a literal; without one the literal branch is used -/
theorem loadHexStringFS_dispatch (s : List Char) (n : Int) (hs : s ≠ []) (hn : 1 ≤ n) :
    (∀ content, loadHexStringFS (some content) (.str s) n = loadHexFile content n) ∧
    loadHexStringFS none (.str s) n = loadHexString (.str s) n := by
  have he : s.isEmpty = false := by cases s <;> simp_all
  have hn' : ¬ n < 1 := by omega
  exact ⟨fun c => by simp [loadHexStringFS, he, hn'], rfl⟩

def asciiBytes (s : String) : Bytes := s.toList.map (fun c => UInt8.ofNat c.toNat)

/-- recorded behaviour of the file branch -/
example : loadHexFile (asciiBytes "0102\n") 2 = .ok (some [1, 2]) ∧          -- hex text + newline
          loadHexFile (asciiBytes "0x0102") 2 = .ok (some [1, 2]) ∧
          loadHexFile (asciiBytes "  0102") 2 = .error .spsdk ∧                -- LEADING blanks: `0x` is prepended before the strip
          loadHexFile [0xFF, 0xFE] 2 = .ok (some [0xFF, 0xFE]) ∧                                             -- binary key
          loadHexFile [0xFF, 0xFE, 0x01] 2 = .error .spsdk ∧
          loadHexFile (asciiBytes "12") 2 = .ok (some [0, 0x12]) ∧             -- AMBIGUITY: a 2-byte binary key b"12" reads as the number 0x12
          loadHexFile [] 2 = .error .spsdk := by decide +kernel

/-! ## non-vacuity for the remaining helpers -/

example : reverseBitsI 2 1 = .ok 1 ∧ reverseBitsI 1 1 = .ok 1 ∧            -- x ≥ 2^n: mirrored on its own bit length, not an involution
          reverseBitsI 6 2 = .ok 3 ∧ reverseBitsI (-1) 4 = .error .other ∧ reverseBitsI 3 4 = .ok 12 := by decide
example : (0 : Int) ≤ 3 ∧ (0 : Int) < 4 ∧ (3 : Int).toNat < 2 ^ (4 : Int).toNat := by decide
example : formatValue 0x12345 32 "_".toList true = .ok "0x0001_2345".toList ∧ formatValue 5 3 "_".toList true = .ok "0b101".toList ∧
          formatValue (-5) 8 "_".toList true = .ok "-0x05".toList ∧ formatValue 5 (-8) "_".toList true = .error .other ∧
          formatValue 0x12345 20 "-:".toList false = .ok "0001:-0010:-0011:-0100:-0101".toList := by decide +kernel
example : extendBlockI [1, 2] 2 300 = .ok [1, 2] ∧ extendBlockI [1, 2] 3 300 = .error .other ∧ extendBlockI [1, 2] 4 7 = .ok [1, 2, 7, 7] ∧
          extendBlockI [1, 2] 1 0 = .error .spsdk := by decide
example : findFirst [1, 2, 3, 4] (fun x => x % 2 == 0) = some 2 ∧ findFirst ([] : List Nat) (fun _ => true) = none := by decide
example : softFromTag enumFlagsSrkSet "FlagsSrkSet".toList 1 = (1, "nxp".toList, some "Signed by NXP keys".toList) ∧
          softGetLabel enumFlagsSrkSet "FlagsSrkSet".toList 99 = "FlagsSrkSet:Unknown_0x63".toList ∧
          softGetLabel enumFlagsSrkSet "FlagsSrkSet".toList (-3) = "FlagsSrkSet:Unknown_-0x3".toList ∧
          fromTag enumFlagsSrkSet 99 = .error .spsdk ∧ enumWF enumFlagsSrkSet = true := by decide +kernel
example : changeEndianness [1, 2, 3, 4] = .ok [4, 3, 2, 1] ∧ changeEndianness [1, 2, 3] = .error .spsdk ∧
          changeEndianness [1, 2, 3, 4, 5, 6, 7, 8] = .ok [4, 3, 2, 1, 8, 7, 6, 5] ∧ changeEndianness [1, 2, 3, 4, 5] = .error .spsdk := by decide +kernel
example : sbAlignBlockFillZeros [1, 2, 3] = .ok ([1, 2, 3] ++ List.replicate 13 0) ∧ sbBlockSize = 16 := by decide
example : valueToBytesAny (.str " 1_000 ".toList) true none false = .ok [3, 0xE8] ∧ valueToBytesAny (.bytes [1, 2, 3]) true (some 1) false = .ok [1, 2, 3] ∧
          valueToBytesAny (.int 5) true (some (-1)) false = .error .spsdk ∧ valueToBytesAny (.int 0) true (some (-1)) false = .error .other ∧
          valueToBytesAny (.int (-1)) true none false = .error .spsdk ∧ loadHexString (.int (-1)) 4 = .error .spsdk := by decide +kernel   -- negative ints refused (fix 55a6c57)

end PyFuns3

end SpsdkVerif.C20
