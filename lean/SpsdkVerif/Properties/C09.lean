/-
C09 — ciphers, MACs, hashes, CRCs and KDFs match their standards and invert.

Only property theorems, specification definitions and non-vacuity examples live here.
  * Part A: the modes (defined in Crypto/Modes.lean over an ARBITRARY `c : CryptoOps`) invert, for every
    key, IV/nonce/tweak, message and length — needs only `CryptoLaws c` (`Sm4Laws c` for SM4).
  * Part B: SPSDK's wrappers (Model/SymWrappers.lean, tied to /repo by the C09 correspondence sweep)
    round-trip, including the IV defaulted on either side; exactly which inputs are refused.
  * Part C: `Counter` advances exactly by the stated number of blocks, 32-bit wrap included.
  * Part D: constants regenerated from the source on every run (`Generated/SymConsts`, `Generated/CrcTable`)
    equal the documented / catalogue values; structure of HMAC/CMAC/HKDF, key-store and SB3.1 derivations.
  * Part F: the three CRCs of `CRC_ALGORITHMS` are the remainders of their polynomial definition; single-byte
    detection, affinity, residues.
  * Part G: more structure of the hash / MAC / KDF glue; negative statements as reductions to `Break`.
  * Part H: the incremental forms: streaming hash and HMAC, CRC continuation and bursts, positioned AES-CTR.
  * Part E (last): the executable instance satisfies the laws (so Part A/B are not vacuous).
"Produces the ciphertext the standard prescribes" for OpenSSL itself is a differential test against the
Lean reference (harness/props/C09.py), not a theorem.
-/
import SpsdkVerif.Model.SymWrappers
import SpsdkVerif.Proofs.Crypto
import SpsdkVerif.Proofs.SymWrappers
import SpsdkVerif.Proofs.ExecLaws
import SpsdkVerif.Proofs.Crc
import SpsdkVerif.Crypto.Break
import SpsdkVerif.Model.SymStream
import SpsdkVerif.Proofs.SymStream
import SpsdkVerif.Generated.CounterConsts

namespace SpsdkVerif.C09
open SpsdkVerif SpsdkVerif.Crypto SpsdkVerif.SymWrappers SpsdkVerif.Generated SpsdkVerif.SymStream
open SpsdkVerif.Misc (beEnc beDec leEnc leDec)

variable {c : CryptoOps}

/-! ## Part A — modes invert (every instance with the block laws; all keys/IVs/messages/lengths) -/

theorem ecb_inv (h : CryptoLaws c) (k m : Bytes) (hm : m.length % 16 = 0) : ecbDec c k (ecbEnc c k m) = m :=
  Crypto.ecb_inv h k m hm

theorem cbc_inv (h : CryptoLaws c) (k iv m : Bytes) (hiv : iv.length = 16) (hm : m.length % 16 = 0) :
    cbcDec c k iv (cbcEnc c k iv m) = m :=
  Crypto.cbc_inv h k iv m hiv hm

/-- with SPSDK's zero padding: ANY message length; what comes back is the zero-padded message -/
theorem cbc_inv_pad (h : CryptoLaws c) (k iv m : Bytes) (hiv : iv.length = 16) :
    cbcDec c k iv (cbcEnc c k iv (zeroPad16 m)) = zeroPad16 m :=
  Crypto.cbc_inv_pad h k iv m hiv

/-- the padding only appends zeros, fewer than 16, up to the next block boundary -/
theorem zeroPad16_spec (m : Bytes) :
    ∃ n, n < 16 ∧ zeroPad16 m = m ++ List.replicate n 0 ∧ (m.length + n) % 16 = 0 := by
  refine ⟨(16 - m.length % 16) % 16, by omega, rfl, by omega⟩

theorem sm4cbc_inv (h : Sm4Laws c) (k iv m : Bytes) (hiv : iv.length = 16) (hm : m.length % 16 = 0) :
    sm4CbcDec c k iv (sm4CbcEnc c k iv m) = m :=
  Crypto.sm4cbc_inv h k iv m hiv hm

/-- CTR is an involution: every key, every counter block, every message length (also non-block-multiples) -/
theorem ctr_invol (h : CryptoLaws c) (k iv m : Bytes) : ctrXor c k iv (ctrXor c k iv m) = m :=
  Crypto.ctr_invol h k iv m

theorem ctr_length (h : CryptoLaws c) (k iv m : Bytes) : (ctrXor c k iv m).length = m.length :=
  Crypto.ctrXor_length h k iv m

theorem xts_inv (h : CryptoLaws c) (k1 k2 t m : Bytes) (hm : m.length % 16 = 0) :
    xtsDec c k1 k2 t (xtsEnc c k1 k2 t m) = m :=
  Crypto.xts_inv h k1 k2 t m hm

/-- CCM decrypt-and-verify of an encryption: every key, nonce, associated data, tag length ≤ 16, message -/
theorem ccm_inv (h : CryptoLaws c) (k n a : Bytes) (t : Nat) (m : Bytes) (ht : t ≤ 16) :
    ccmDec c k n a t (ccmEnc c k n a t m) = some m :=
  Crypto.ccm_inv h k n a t m ht

/-- RFC 3394: every KEK, every payload that is a multiple of 8 and at least 16 bytes -/
theorem kw_inv (h : CryptoLaws c) (kek p : Bytes) (hp : p.length % 8 = 0) (hp16 : 16 ≤ p.length) :
    kwUnwrap c kek (kwWrap c kek p) = some p :=
  Crypto.kw_inv h kek p hp hp16

/-! ## Part B — SPSDK's wrappers -/

/-- a legal `iv_data` argument: absent, empty (both mean "default") or 16 bytes -/
def IvArg (iv : Option Bytes) : Prop := iv = none ∨ iv = some [] ∨ ∃ v, iv = some v ∧ v.length = 16

/-- the IV the wrappers end up using -/
def effIv (iv : Option Bytes) : Bytes := ivOrDefault iv 16

theorem effIv_default : effIv none = zeros 16 ∧ effIv (some []) = zeros 16 := by
  simp [effIv, ivOrDefault]

/-- `aes_cbc_decrypt(key, aes_cbc_encrypt(key, m, iv₁), iv₂)` returns the zero-padded message whenever both
    sides end up with the same IV — given or defaulted on either side — for every legal key and every message length. -/
theorem aesCbc_roundtrip (h : CryptoLaws c) (k m : Bytes) (iv₁ iv₂ : Option Bytes) (hk : aesKeyOk k = true)
    (h₁ : IvArg iv₁) (h₂ : IvArg iv₂) (he : effIv iv₁ = effIv iv₂) :
    ∃ ct, aesCbcEncrypt c k m iv₁ = .ok ct ∧ ct.length = (zeroPad16 m).length ∧
      aesCbcDecrypt c k ct iv₂ = .ok (zeroPad16 m) := by
  have l₁ : (ivOrDefault iv₁ 16).length = 16 := ivOrDefault_length iv₁ 16 h₁
  have l₂ : (ivOrDefault iv₂ 16).length = 16 := ivOrDefault_length iv₂ 16 h₂
  have hp := zeroPad16_length_mod m
  have hl : (cbcEnc c k (ivOrDefault iv₁ 16) (zeroPad16 m)).length = (zeroPad16 m).length := by
    rw [cbcEnc_length h]; omega
  refine ⟨cbcEnc c k (ivOrDefault iv₁ 16) (zeroPad16 m), ?_, hl, ?_⟩
  · simp [aesCbcEncrypt, aesKeyOk_listed hk, hk, SymConsts.aesCbcEncDefaultIvLen, SymConsts.aesCbcEncIvBits, l₁]
  · have hm : (cbcEnc c k (ivOrDefault iv₁ 16) (zeroPad16 m)).length % 16 = 0 := by rw [hl]; exact hp
    simp only [effIv] at he
    simp [aesCbcDecrypt, aesKeyOk_listed hk, hk, SymConsts.aesCbcDecDefaultIvLen, SymConsts.aesCbcDecIvBits, l₂, hm]
    rw [← he]
    exact Crypto.cbc_inv_pad h k _ m l₁

/-- the IV left to default on both sides (DESIGN §7 #3: false before `fix: … default IV is one block`) -/
theorem aesCbc_default_iv (h : CryptoLaws c) (k m : Bytes) (hk : aesKeyOk k = true) :
    ∃ ct, aesCbcEncrypt c k m none = .ok ct ∧ aesCbcDecrypt c k ct none = .ok (zeroPad16 m) := by
  obtain ⟨ct, h1, _, h2⟩ := aesCbc_roundtrip h k m none none hk (Or.inl rfl) (Or.inl rfl) rfl
  exact ⟨ct, h1, h2⟩

/-- defaulted on one side, sixteen explicit zero bytes on the other -/
theorem aesCbc_default_vs_zero_iv (h : CryptoLaws c) (k m : Bytes) (hk : aesKeyOk k = true) :
    (∃ ct, aesCbcEncrypt c k m none = .ok ct ∧ aesCbcDecrypt c k ct (some (zeros 16)) = .ok (zeroPad16 m)) ∧
    (∃ ct, aesCbcEncrypt c k m (some (zeros 16)) = .ok ct ∧ aesCbcDecrypt c k ct none = .ok (zeroPad16 m)) := by
  have hz : IvArg (some (zeros 16)) := Or.inr (Or.inr ⟨_, rfl, by simp⟩)
  have e : effIv none = effIv (some (zeros 16)) := by simp [effIv, ivOrDefault, zeros]
  obtain ⟨ct, h1, _, h2⟩ := aesCbc_roundtrip h k m none _ hk (Or.inl rfl) hz e
  obtain ⟨ct', h1', _, h2'⟩ := aesCbc_roundtrip h k m _ none hk hz (Or.inl rfl) e.symm
  exact ⟨⟨ct, h1, h2⟩, ⟨ct', h1', h2'⟩⟩

/-- exactly the documented refusals of `aes_cbc_encrypt`: SPSDKError iff the key size is not one of the listed
    ones or the (given) IV is not 16 bytes; accepted iff the key is 16/24/32 bytes and the IV is fine -/
theorem aesCbcEncrypt_refusals (k m : Bytes) (iv : Option Bytes) :
    (aesCbcEncrypt c k m iv = .error .spsdk ↔ (aesKeySizeListed k = false ∨ (effIv iv).length ≠ 16)) ∧
    ((∃ ct, aesCbcEncrypt c k m iv = .ok ct) ↔ (aesKeyOk k = true ∧ (effIv iv).length = 16)) := by
  simp only [aesCbcEncrypt, effIv, SymConsts.aesCbcEncDefaultIvLen, SymConsts.aesCbcEncIvBits]
  have hx : (ivOrDefault iv 16).length * 8 = 128 ↔ (ivOrDefault iv 16).length = 16 := by omega
  have hkl : aesKeyOk k = true → aesKeySizeListed k = true := aesKeyOk_listed
  rcases Bool.eq_false_or_eq_true (aesKeySizeListed k) with h1 | h1 <;>
    rcases Bool.eq_false_or_eq_true (aesKeyOk k) with h3 | h3 <;>
    by_cases h2 : (ivOrDefault iv 16).length = 16 <;> simp_all

theorem aesCbcDecrypt_refusals (k ct : Bytes) (iv : Option Bytes) :
    (aesCbcDecrypt c k ct iv = .error .spsdk ↔ (aesKeySizeListed k = false ∨ (effIv iv).length ≠ 16)) ∧
    ((∃ m, aesCbcDecrypt c k ct iv = .ok m) ↔ (aesKeyOk k = true ∧ (effIv iv).length = 16 ∧ ct.length % 16 = 0)) := by
  simp only [aesCbcDecrypt, effIv, SymConsts.aesCbcDecDefaultIvLen, SymConsts.aesCbcDecIvBits]
  have hx : (ivOrDefault iv 16).length * 8 = 128 ↔ (ivOrDefault iv 16).length = 16 := by omega
  have hkl : aesKeyOk k = true → aesKeySizeListed k = true := aesKeyOk_listed
  rcases Bool.eq_false_or_eq_true (aesKeySizeListed k) with h1 | h1 <;>
    rcases Bool.eq_false_or_eq_true (aesKeyOk k) with h3 | h3 <;>
    by_cases h2 : (ivOrDefault iv 16).length = 16 <;> by_cases h4 : ct.length % 16 = 0 <;> simp_all

/-- SM4-CBC twin -/
theorem sm4Cbc_roundtrip (h : Sm4Laws c) (k m : Bytes) (iv₁ iv₂ : Option Bytes) (hk : k.length = 16)
    (h₁ : IvArg iv₁) (h₂ : IvArg iv₂) (he : effIv iv₁ = effIv iv₂) :
    ∃ ct, sm4CbcEncrypt c k m iv₁ = .ok ct ∧ ct.length = (zeroPad16 m).length ∧
      sm4CbcDecrypt c k ct iv₂ = .ok (zeroPad16 m) := by
  have l₁ : (ivOrDefault iv₁ 16).length = 16 := ivOrDefault_length iv₁ 16 h₁
  have l₂ : (ivOrDefault iv₂ 16).length = 16 := ivOrDefault_length iv₂ 16 h₂
  have hp := zeroPad16_length_mod m
  have hl : (sm4CbcEnc c k (ivOrDefault iv₁ 16) (zeroPad16 m)).length = (zeroPad16 m).length := by
    unfold sm4CbcEnc; rw [cbcEncWith_length (h.enc_len k)]; omega
  refine ⟨sm4CbcEnc c k (ivOrDefault iv₁ 16) (zeroPad16 m), ?_, hl, ?_⟩
  · simp [sm4CbcEncrypt, sm4KeyOk, hk, SymConsts.sm4CbcEncDefaultIvLen, SymConsts.sm4CbcEncIvBits, l₁]
  · have hm : (sm4CbcEnc c k (ivOrDefault iv₁ 16) (zeroPad16 m)).length % 16 = 0 := by rw [hl]; exact hp
    simp only [effIv] at he
    simp [sm4CbcDecrypt, sm4KeyOk, hk, SymConsts.sm4CbcDecDefaultIvLen, SymConsts.sm4CbcDecIvBits, l₂, hm]
    rw [← he]
    exact Crypto.sm4cbc_inv_pad h k _ m l₁

theorem sm4Cbc_default_iv (h : Sm4Laws c) (k m : Bytes) (hk : k.length = 16) :
    ∃ ct, sm4CbcEncrypt c k m none = .ok ct ∧ sm4CbcDecrypt c k ct none = .ok (zeroPad16 m) := by
  obtain ⟨ct, h1, _, h2⟩ := sm4Cbc_roundtrip h k m none none hk (Or.inl rfl) (Or.inl rfl) rfl
  exact ⟨ct, h1, h2⟩

theorem aesEcb_roundtrip (h : CryptoLaws c) (k m : Bytes) (hk : aesKeyOk k = true) (hm : m.length % 16 = 0) :
    ∃ ct, aesEcbEncrypt c k m = .ok ct ∧ ct.length = m.length ∧ aesEcbDecrypt c k ct = .ok m := by
  have hl : (ecbEnc c k m).length = m.length := by rw [ecbEnc_length h]; omega
  refine ⟨ecbEnc c k m, by simp [aesEcbEncrypt, hk, hm], hl, ?_⟩
  simp [aesEcbDecrypt, hk, hl, hm, Crypto.ecb_inv h k m hm]

/-- ECB refuses exactly bad key lengths and non-block-multiples (with the library's exception, not SPSDKError) -/
theorem aesEcbEncrypt_refusals (k m : Bytes) :
    (∃ ct, aesEcbEncrypt c k m = .ok ct) ↔ (aesKeyOk k = true ∧ m.length % 16 = 0) := by
  simp only [aesEcbEncrypt]
  by_cases h1 : aesKeyOk k = true <;> by_cases h2 : m.length % 16 = 0 <;> simp_all

theorem aesCtr_roundtrip (h : CryptoLaws c) (k m nonce : Bytes) (hk : aesKeyOk k = true) (hn : nonce.length = 16) :
    ∃ ct, aesCtr c k m nonce = .ok ct ∧ ct.length = m.length ∧ aesCtr c k ct nonce = .ok m := by
  refine ⟨ctrXor c k nonce m, aesCtr_ok hk hn m, ctrXor_length h k nonce m, ?_⟩
  rw [aesCtr_ok hk hn, Crypto.ctr_invol h k nonce m]

/-- XTS, data unit = the whole input of at least one block, ANY length ≥ 16: whole blocks as IEEE 1619 XTS
    (`Crypto.xts_inv`), a trailing partial block by ciphertext stealing (what OpenSSL does; `xtsSteal_inv`) -/
theorem aesXts_roundtrip (h : CryptoLaws c) (k m tweak : Bytes) (hk : k.length = 32 ∨ k.length = 64)
    (hd : (k.take (k.length / 2) == k.drop (k.length / 2)) = false) (ht : tweak.length = 16)
    (hm : 16 ≤ m.length) :
    ∃ ct, aesXtsEncrypt c k m tweak = .ok ct ∧ ct.length = m.length ∧ aesXtsDecrypt c k ct tweak = .ok m := by
  have hk' : (k.length == 32 || k.length == 64) = true := by rcases hk with h | h <;> simp [h]
  have hc : ∀ x : Bytes, 16 ≤ x.length → xtsCheck k x tweak = none := by
    intro x hx
    have : ¬ (0 < x.length ∧ x.length < 16) := by omega
    simp [xtsCheck, hk', hd, ht, this]
  obtain ⟨hl, hinv⟩ := xtsSteal_inv (h.dec_enc (k.take (k.length / 2))) (h.enc_len (k.take (k.length / 2)))
    (c.encBlk (k.drop (k.length / 2)) tweak) m (h.enc_len _ _) hm
  refine ⟨_, by simp only [aesXtsEncrypt, hc m hm], hl, ?_⟩
  simp only [aesXtsDecrypt, hc _ (by rw [hl]; exact hm), hinv]

/-- on whole blocks the wrapper is plain XTS -/
theorem aesXts_aligned (k m tweak : Bytes) (hc : xtsCheck k m tweak = none) (hm : m.length % 16 = 0) :
    aesXtsEncrypt c k m tweak = .ok (xtsEnc c (k.take (k.length / 2)) (k.drop (k.length / 2)) tweak m) := by
  simp only [aesXtsEncrypt, hc, xtsSteal_aligned _ _ _ _ hm]; rfl

theorem aesCcm_roundtrip (h : CryptoLaws c) (k m nonce aad : Bytes) (t : Int) (hp : ccmParamsOk k nonce t = true)
    (hm : m.length < 256 ^ (15 - nonce.length)) :
    ∃ ct, aesCcmEncrypt c k m nonce aad t = .ok ct ∧ (ct.length : Int) = m.length + t ∧
      aesCcmDecrypt c k ct nonce aad t = .ok m := by
  have ht : t.toNat ≤ 16 ∧ (t.toNat : Int) = t := by
    simp only [ccmParamsOk, Bool.and_eq_true, Bool.or_eq_true, beq_iff_eq] at hp
    omega
  refine ⟨ccmEnc c k nonce aad t.toNat m, ?_, ?_, ?_⟩
  · simp [aesCcmEncrypt, hp, Nat.not_le.mpr hm]
  · rw [ccmEnc_length h _ _ _ _ _ ht.1]; omega
  · simp [aesCcmDecrypt, hp, Crypto.ccm_inv h k nonce aad t.toNat m ht.1]

theorem aesKeyWrap_roundtrip (h : CryptoLaws c) (kek p : Bytes) (hk : aesKeyOk kek = true)
    (hp : p.length % 8 = 0) (hp16 : 16 ≤ p.length) :
    ∃ w, aesKeyWrap c kek p = .ok w ∧ w.length = p.length + 8 ∧ aesKeyUnwrap c kek w = .ok p := by
  refine ⟨kwWrap c kek p, ?_, kwWrap_length h kek p hp, ?_⟩
  · have : ¬ (p.length < 16 ∨ p.length % 8 ≠ 0) := by omega
    simp [aesKeyWrap, hk, this]
  · simp [aesKeyUnwrap, hk, Crypto.kw_inv h kek p hp hp16]

/-! ## Part C — `Counter` -/

/-- apply a sequence of `increment` calls -/
def Counter.run (cn : Counter) (incs : List Int) : Counter := incs.foldl Counter.increment cn

theorem Counter.run_spec (cn : Counter) (incs : List Int) :
    (Counter.run cn incs).ctr = cn.ctr + incs.sum ∧ (Counter.run cn incs).nonce = cn.nonce ∧
      (Counter.run cn incs).little = cn.little := by
  induction incs generalizing cn with
  | nil => simp [Counter.run]
  | cons v incs ih =>
    have := ih (cn.increment v)
    simp only [Counter.run, List.foldl_cons] at this ⊢
    simp only [Counter.increment] at this
    simp [this, Counter.increment]; omega

/-- a counter is refused exactly when the nonce is not 16 bytes long -/
theorem counter_new_refusal (nonce : Bytes) (cv : Option Int) (l : Bool) :
    Counter.new nonce cv l = .error .spsdk ↔ nonce.length ≠ 16 := by
  simp only [Counter.new]; split <;> simp_all

/-- "advances exactly by the number of blocks stated, including 32-bit wrap": after any sequence of increments
    the value is the first 12 nonce bytes followed by (initial word + ctr_value + Σ increments) mod 2^32 in the
    chosen byte order (DESIGN §7 #4: before `fix: Counter.value …` this raised OverflowError past 2^32). -/
theorem counter_value (nonce : Bytes) (cv : Option Int) (l : Bool) (incs : List Int) (hn : nonce.length = 16) :
    ∃ cn, Counter.new nonce cv l = .ok cn ∧
      (Counter.run cn incs).value =
        nonce.take 12 ++ enc32 l ((((dec32 l (nonce.drop 12) : Nat) : Int) + cv.getD 0 + incs.sum) % 4294967296).toNat := by
  refine ⟨⟨nonce.take 12, (dec32 l (nonce.drop 12) : Int) + cv.getD 0, l⟩, by simp [Counter.new, hn], ?_⟩
  obtain ⟨h1, h2, h3⟩ := Counter.run_spec ⟨nonce.take 12, (dec32 l (nonce.drop 12) : Int) + cv.getD 0, l⟩ incs
  simp [Counter.value, h1, h2, h3]

theorem counter_value_length (nonce : Bytes) (cv : Option Int) (l : Bool) (incs : List Int) (cn : Counter)
    (h : Counter.new nonce cv l = .ok cn) : (Counter.run cn incs).value.length = 16 := by
  simp only [Counter.new] at h
  split at h
  · cases h
  · cases h
    obtain ⟨_, h2, _⟩ := Counter.run_spec ⟨nonce.take 12, (dec32 l (nonce.drop 12) : Int) + cv.getD 0, l⟩ incs
    simp only [Counter.value, h2, List.length_append, enc32_length, List.length_take]
    omega

/-- one step, read back as a 32-bit word: `word' = (word + k) mod 2^32`, for every `k` (also negative, also ≥ 2^32) -/
theorem counter_step (cn : Counter) (k : Int) (hn : cn.nonce.length = 12) :
    ((dec32 cn.little ((cn.increment k).value.drop 12) : Nat) : Int) =
      ((dec32 cn.little (cn.value.drop 12) : Nat) + k) % 4294967296 := by
  rw [dec32_value cn hn, show cn.little = (cn.increment k).little from rfl, dec32_value (cn.increment k) hn,
    Int.emod_add_emod]
  rfl

/-- the nonce part never changes -/
theorem counter_nonce_fixed (cn : Counter) (k : Int) (hn : cn.nonce.length = 12) :
    (cn.increment k).value.take 12 = cn.value.take 12 := by
  simp [Counter.value, Counter.increment, List.take_left' hn]

/-! ## Part D — constants regenerated from the source, and the structure of the MAC/KDF constructions -/

/-- the default IV substituted by all four CBC wrappers is one block, and the required IV size is 128 bits -/
theorem default_iv_consts :
    SymConsts.aesCbcEncDefaultIvLen = 16 ∧ SymConsts.aesCbcDecDefaultIvLen = 16 ∧
    SymConsts.sm4CbcEncDefaultIvLen = 16 ∧ SymConsts.sm4CbcDecDefaultIvLen = 16 ∧
    SymConsts.aesCbcEncIvBits = 128 ∧ SymConsts.aesCbcDecIvBits = 128 ∧
    SymConsts.sm4CbcEncIvBits = 128 ∧ SymConsts.sm4CbcDecIvBits = 128 := by decide +kernel

/-- the AES-ECB inputs of `KeyStore.derive_*` are the documented constants; all master keys are 32 bytes -/
theorem keystore_consts :
    SymConsts.deriveHmacKeyInput = zeros 16 ∧
    SymConsts.deriveEncImageKeyInput = [1] ++ zeros 15 ++ [2] ++ zeros 15 ∧
    SymConsts.deriveSbKekInput = [3] ++ zeros 15 ++ [4] ++ zeros 15 ∧
    SymConsts.hmacKeyLen = 32 ∧ SymConsts.encImageMasterKeyLen = 32 ∧ SymConsts.sbKekMasterKeyLen = 32 ∧
    SymConsts.otfadKekMasterKeyLen = 32 ∧ SymConsts.otfadKekInputLen = 16 ∧
    SymConsts.otpMasterKeySize = 32 ∧ SymConsts.otfadKeySize = 16 ∧ SymConsts.sbkekSize = 32 := by decide +kernel

/-- the derived keys are the block encryptions of those constants under the 32-byte master key:
    one block for the HMAC key, two blocks (a 32-byte key) for the image-encryption key and the SB KEK -/
theorem keystore_derivations (h : CryptoLaws c) (k : Bytes) (hk : k.length = 32) :
    deriveHmacKey c k = .ok (c.encBlk k (zeros 16)) ∧
    deriveEncImageKey c k = .ok (c.encBlk k ([1] ++ zeros 15) ++ c.encBlk k ([2] ++ zeros 15)) ∧
    deriveSbKekKey c k = .ok (c.encBlk k ([3] ++ zeros 15) ++ c.encBlk k ([4] ++ zeros 15)) := by
  have hk' : aesKeyOk k = true := by simp [aesKeyOk, hk]
  have e16 := h.enc_len
  refine ⟨?_, ?_, ?_⟩ <;>
    simp [deriveHmacKey, deriveEncImageKey, deriveSbKekKey, SymConsts.hmacKeyLen, SymConsts.encImageMasterKeyLen,
      SymConsts.sbKekMasterKeyLen, hk, hk', aesEcbEncrypt, SymConsts.deriveHmacKeyInput,
      SymConsts.deriveEncImageKeyInput, SymConsts.deriveSbKekInput, ecbEnc, ecbEncWith, mapBlocks, zeros]

theorem keystore_refusals (k : Bytes) (hk : k.length ≠ 32) :
    deriveHmacKey c k = .error .spsdk ∧ deriveEncImageKey c k = .error .spsdk ∧
    deriveSbKekKey c k = .error .spsdk ∧ ∀ i, deriveOtfadKekKey c k i = .error .spsdk := by
  simp [deriveHmacKey, deriveEncImageKey, deriveSbKekKey, deriveOtfadKekKey, SymConsts.hmacKeyLen,
    SymConsts.encImageMasterKeyLen, SymConsts.sbKekMasterKeyLen, SymConsts.otfadKekMasterKeyLen, hk]

/-- the three rows of `CRC_ALGORITHMS`, translated from crcmod's conventions, are the catalogue parameter sets
    CRC-32 (ISO-HDLC), CRC-32/MPEG-2 and CRC-16/XMODEM — and there are exactly these three -/
theorem crc_table_standard :
    (crcLookup "CRC32").map crcParams = some Crc.crc32 ∧
    (crcLookup "CRC32_MPEG").map crcParams = some Crc.crc32Mpeg2 ∧
    (crcLookup "CRC16_XMODEM").map crcParams = some Crc.crc16Xmodem ∧
    CrcTable.table.map (·.1) = ["CRC32", "CRC32_MPEG", "CRC16_XMODEM"] := by decide +kernel

/-- HKDF is fixed to SHA-256 -/
theorem hkdf_hash_const : hkdfAlg = .sha256 := by decide +kernel

/-- RFC 2104: `H((K0 ⊕ opad) ‖ H((K0 ⊕ ipad) ‖ m))`, `K0` = key (hashed if longer than a block) zero-padded to a block -/
theorem hmac_def (a : HashAlg) (k m : Bytes) :
    hmac c a k m =
      c.hash a ((hmacKey0 c a k).map (· ^^^ 0x5c) ++ c.hash a ((hmacKey0 c a k).map (· ^^^ 0x36) ++ m)) ∧
    hmacKey0 c a k = (if k.length > a.blockSize then c.hash a k else k) ++
      zeros (a.blockSize - (if k.length > a.blockSize then c.hash a k else k).length) := ⟨rfl, rfl⟩

theorem hmacKey0_length (h : CryptoLaws c) (a : HashAlg) (k : Bytes) : (hmacKey0 c a k).length = a.blockSize := by
  have hs := hashSize_le_block a
  simp only [hmacKey0]
  split
  · simp [h.hash_len]; omega
  · simp; omega

/-- SP 800-38B: subkeys by doubling `E_K(0^128)`, last block masked with K1 (complete) or padded `10…0` and
    masked with K2, CBC-MAC over the result -/
theorem cmac_def (k m : Bytes) :
    cmac c k m =
      (let k1 := cmacDbl (c.encBlk k (zeros 16))
       let k2 := cmacDbl k1
       let n := if m.length = 0 then 1 else blocksFor m.length
       let lastB := m.drop (16 * (n - 1))
       cbcMac (c.encBlk k) (m.take (16 * (n - 1)) ++
         (if lastB.length = 16 then xorBytes lastB k1
          else xorBytes (lastB ++ [0x80] ++ zeros (15 - lastB.length)) k2))) := rfl

/-- RFC 5869: extract = HMAC(salt or HashLen zeros, IKM); expand = T(1) ‖ T(2) ‖ … truncated -/
theorem hkdf_def (a : HashAlg) (salt ikm info : Bytes) (len : Nat) :
    hkdf c a salt ikm info len =
      (hkdfExpandAux c a (hmac c a (if salt.isEmpty then zeros a.size else salt) ikm) info
        ((len + a.size - 1) / a.size) 1 []).take len ∧
    (∀ prk n i prev, hkdfExpandAux c a prk info (n + 1) i prev =
      hmac c a prk (prev ++ info ++ [UInt8.ofNat i]) ++
        hkdfExpandAux c a prk info n (i + 1) (hmac c a prk (prev ++ info ++ [UInt8.ofNat i]))) := ⟨rfl, fun _ _ _ _ => rfl⟩

/-- SB3.1 derivation data: exactly 32 bytes = label (12, LE) ‖ context (12) ‖ length (4, BE) ‖ iteration (4, BE) -/
theorem sb31_kdf_layout (dc rights kl it : Nat) (mode : KdfMode) (hr : rights ≤ 3) (hk : kl = 128 ∨ kl = 256)
    (hd : dc < 2 ^ 96) (hi : it < 2 ^ 32) :
    ∃ d, kdfData dc rights mode kl it = .ok d ∧ d.length = 32 ∧
      d.take 12 = leEnc 12 dc ∧
      (d.drop 12).take 12 = zeros 8 ++ [UInt8.ofNat (rights * 64), if mode = .kdk then 0x01 else 0x10, 0,
        if kl = 128 then 0x20 else 0x21] ∧
      (d.drop 24).take 4 = beEnc 4 kl ∧ d.drop 28 = beEnc 4 it := by
  have h1 : ¬ ((dc : Int) < 0 ∨ (dc : Int) ≥ 2 ^ 96) := by
    have : ((2 : Int) ^ 96) = ((2 ^ 96 : Nat) : Int) := by norm_cast
    omega
  have h2 : ¬ ((it : Int) < 0 ∨ (it : Int) ≥ 2 ^ 32) := by
    have : ((2 : Int) ^ 32) = ((2 ^ 32 : Nat) : Int) := by norm_cast
    omega
  have h3 : ((0 : Int) ≤ rights ∧ (rights : Int) ≤ 3) := by omega
  have h4 : ((kl : Int) = 128 ∨ (kl : Int) = 256) := by omega
  have hl12 := Misc.leEnc_length 12 dc
  refine ⟨_, by simp only [kdfData, h1, h2, h3, h4, not_true_eq_false, if_false]; rfl, ?_, ?_, ?_, ?_, ?_⟩
  · simp [Misc.leEnc_length, Misc.beEnc_length, zeros]
  · simp [hl12]
  · have e : ((kl : Int) = 128) ↔ kl = 128 := by omega
    simp [List.take_append, hl12, zeros, Misc.beEnc_length, e]
  · simp [List.drop_append, List.take_append, hl12, zeros, Misc.beEnc_length]
  · simp [List.drop_append, hl12, zeros, Misc.beEnc_length]

/-- illegal access rights / key lengths are refused with an SPSDK error -/
theorem sb31_kdf_refusals (dc rights kl it : Int) (mode : KdfMode)
    (h : ¬ (0 ≤ rights ∧ rights ≤ 3) ∨ ¬ (kl = 128 ∨ kl = 256)) :
    kdfData dc rights mode kl it = .error .spsdk := by
  simp only [kdfData]
  rcases h with h | h
  · simp [h]
  · by_cases hr : (0 ≤ rights ∧ rights ≤ 3) <;> simp [hr, h]

/-- the derived key is CMAC(key, data(1)) for 128-bit keys and CMAC(key, data(1)) ‖ CMAC(key, data(2)) for 256-bit
    keys, hence exactly `key_length / 8` bytes -/
theorem sb31_derive_key (h : CryptoLaws c) (key : Bytes) (dc rights : Nat) (mode : KdfMode)
    (hkey : aesKeyOk key = true) (hr : rights ≤ 3) (hd : dc < 2 ^ 96) :
    (∃ d1, kdfData dc rights mode 128 1 = .ok d1 ∧ deriveKey c key dc rights mode 128 = .ok (cmac c key d1)) ∧
    (∃ d1 d2, kdfData dc rights mode 256 1 = .ok d1 ∧ kdfData dc rights mode 256 2 = .ok d2 ∧
      deriveKey c key dc rights mode 256 = .ok (cmac c key d1 ++ cmac c key d2) ∧
      (cmac c key d1 ++ cmac c key d2).length = 32) := by
  obtain ⟨d1, e1, _⟩ := sb31_kdf_layout dc rights 128 1 mode hr (Or.inl rfl) hd (by omega)
  obtain ⟨d2, e2, _⟩ := sb31_kdf_layout dc rights 256 1 mode hr (Or.inr rfl) hd (by omega)
  obtain ⟨d3, e3, _⟩ := sb31_kdf_layout dc rights 256 2 mode hr (Or.inr rfl) hd (by omega)
  have e1' : kdfData dc rights mode 128 1 = .ok d1 := e1
  have e2' : kdfData dc rights mode 256 1 = .ok d2 := e2
  have e3' : kdfData dc rights mode 256 2 = .ok d3 := e3
  refine ⟨⟨d1, e1', ?_⟩, ⟨d2, d3, e2', e3', ?_, ?_⟩⟩
  · simp [deriveKey, e1', cmacW, hkey]
  · simp [deriveKey, e2', e3', cmacW, hkey]
  · simp [cmac_length h]

/-! ## Part F — the three CRCs of `CRC_ALGORITHMS` equal their reference (polynomial) definition -/

/-- what the proofs need from a row of the generated table: ≥ 8 bits wide, truncated polynomial and initial register
    in range, constant term 1, and `G(x)` is the polynomial exactly as written in the source (with its leading term) -/
theorem crc_table_wf : ∀ e ∈ CrcTable.table,
    8 ≤ (crcParams e.2.2).width ∧ (crcParams e.2.2).poly < 2 ^ (crcParams e.2.2).width ∧
    (crcParams e.2.2).init < 2 ^ (crcParams e.2.2).width ∧ (crcParams e.2.2).poly % 2 = 1 ∧
    Crc.gen (crcParams e.2.2) = e.2.2.polynomial := by decide +kernel

theorem crcLookup_mem {name : String} {cfg : CrcTable.CrcConfig} (h : crcLookup name = some cfg) :
    ∃ e ∈ CrcTable.table, e.2.2 = cfg := by
  simp only [crcLookup, Option.map_eq_some_iff] at h
  obtain ⟨e, he, rfl⟩ := h
  exact ⟨e, List.mem_of_find?_eq_some he, rfl⟩

/-- **`crc_generic_spec`**: for each algorithm of the table, every message `d`: the shift register computed bit by bit
    is THE polynomial of degree < width congruent to `init·x^(8|d|) + M(x)·x^width` modulo the generator polynomial
    written in the source, in GF(2)[x] (`M` = the message, bytes bit-reversed for the reflected CRC-32); the CRC is that
    remainder, bit-reversed for CRC-32, xor the final value. -/
theorem crc_generic_spec (name : String) (cfg : CrcTable.CrcConfig) (h : crcLookup name = some cfg) (d : Bytes) :
    Crc.register (crcParams cfg) d < 2 ^ (crcParams cfg).width ∧
    Crc.CongrMod cfg.polynomial
      (((crcParams cfg).init <<< (8 * d.length)) ^^^ (Crc.msgPoly (crcParams cfg) d <<< (crcParams cfg).width))
      (Crc.register (crcParams cfg) d) ∧
    (∀ r, r < 2 ^ (crcParams cfg).width →
      Crc.CongrMod cfg.polynomial
        (((crcParams cfg).init <<< (8 * d.length)) ^^^ (Crc.msgPoly (crcParams cfg) d <<< (crcParams cfg).width)) r →
      r = Crc.register (crcParams cfg) d) ∧
    crcCalculate name d = .ok ((if cfg.reverse then Crc.reflect (crcParams cfg).width (Crc.register (crcParams cfg) d)
      else Crc.register (crcParams cfg) d) ^^^ cfg.finalXor) := by
  obtain ⟨e, he, rfl⟩ := crcLookup_mem h
  obtain ⟨w8, hp, hi, _, hg⟩ := crc_table_wf e he
  have wf : Crc.WF (crcParams e.2.2) := ⟨w8, hp⟩
  rw [← hg]
  refine ⟨Crc.registerFrom_lt wf d _ hi, Crc.registerFrom_congr wf d _ hi,
    fun r hr hc => Crc.registerFrom_unique wf d _ r hi hr hc, ?_⟩
  simp only [crcCalculate, h, Crc.crc]
  rfl

/-- without reflection (XMODEM, MPEG-2) the message polynomial is simply the big-endian integer of the message -/
theorem crc_msgPoly_plain (cfg : CrcTable.CrcConfig) (hr : cfg.reverse = false) (d : Bytes) :
    Crc.msgPoly (crcParams cfg) d = beDec d :=
  Crc.msgPoly_eq_beDec _ hr d

/-- **single-byte error detection** for all three algorithms (`crc16_burst` is the XMODEM instance):
    two messages that differ in exactly one byte never have the same CRC -/
theorem crc_burst (name : String) (cfg : CrcTable.CrcConfig) (h : crcLookup name = some cfg)
    (pre suf : Bytes) (x y : UInt8) (hxy : x ≠ y) :
    crcCalculate name (pre ++ x :: suf) ≠ crcCalculate name (pre ++ y :: suf) := by
  obtain ⟨e, he, rfl⟩ := crcLookup_mem h
  obtain ⟨w8, hp, hi, hodd, _⟩ := crc_table_wf e he
  simp only [crcCalculate, h]
  intro heq
  exact Crc.crc_burst ⟨w8, hp⟩ hodd hi pre suf x y hxy (by injection heq)

theorem crc16_burst (pre suf : Bytes) (x y : UInt8) (hxy : x ≠ y) :
    Crc.crc Crc.crc16Xmodem (pre ++ x :: suf) ≠ Crc.crc Crc.crc16Xmodem (pre ++ y :: suf) :=
  Crc.crc_burst Crc.wf_crc16Xmodem (by decide) (by decide) pre suf x y hxy

/-- all three are affine maps of the message; CRC-16/XMODEM (zero init, zero xor-out) is linear -/
theorem crc_affine (name : String) (cfg : CrcTable.CrcConfig) (h : crcLookup name = some cfg) (a b c : Bytes)
    (h1 : a.length = b.length) (h2 : b.length = c.length) :
    Crc.crc (crcParams cfg) (xorBytes (xorBytes a b) c) =
      Crc.crc (crcParams cfg) a ^^^ Crc.crc (crcParams cfg) b ^^^ Crc.crc (crcParams cfg) c := by
  obtain ⟨e, he, rfl⟩ := crcLookup_mem h
  obtain ⟨w8, hp, hi, _, _⟩ := crc_table_wf e he
  exact Crc.crc_affine ⟨w8, hp⟩ hi a b c h1 h2

theorem crc16_linear (a b : Bytes) (hl : a.length = b.length) :
    Crc.crc Crc.crc16Xmodem (xorBytes a b) = Crc.crc Crc.crc16Xmodem a ^^^ Crc.crc Crc.crc16Xmodem b :=
  Crc.crc16Xmodem_xor a b hl

/-- **residues**: a message followed by its own CRC (big-endian for XMODEM / MPEG-2, little-endian for CRC-32) checks to a
    constant: 0, 0 and 0x2144DF1C — the receiver-side test "CRC over data ‖ CRC" used by frame formats -/
theorem crc_residues (m : Bytes) :
    Crc.crc Crc.crc16Xmodem (m ++ beEnc 2 (Crc.crc Crc.crc16Xmodem m)) = 0 ∧
    Crc.crc Crc.crc32Mpeg2 (m ++ beEnc 4 (Crc.crc Crc.crc32Mpeg2 m)) = 0 ∧
    Crc.crc Crc.crc32 (m ++ leEnc 4 (Crc.crc Crc.crc32 m)) = 0x2144DF1C :=
  ⟨Crc.crc_append_self_zero Crc.wf_crc16Xmodem (by decide) rfl rfl rfl 2 rfl m,
   Crc.crc_append_self_zero Crc.wf_crc32Mpeg2 (by decide) rfl rfl rfl 4 rfl m,
   Crc.crc32_residue m⟩

/-! ## Part G — more structure of the hash / MAC / KDF glue, and negative statements as reductions to a break -/

/-- `Hash(alg)`, any number of `update` calls, `finalize` = the one-shot `get_hash` of the concatenation — for every
    way of splitting a message (the library's streaming object is tied to this by the correspondence sweep over all
    splits of short messages) -/
theorem hash_stream_eq_oneshot (a : HashAlg) (parts : List Bytes) :
    (parts.foldl HashObj.update (HashObj.new a)).finalize c = getHash c a parts.flatten := by
  suffices h : ∀ (o : HashObj), (parts.foldl HashObj.update o).finalize c = c.hash o.alg (o.data ++ parts.flatten) by
    simpa [HashObj.new, getHash] using h (HashObj.new a)
  induction parts with
  | nil => intro o; simp [HashObj.finalize]
  | cons p ps ih => intro o; simp [ih, HashObj.update, List.append_assoc]

theorem hash_split (a : HashAlg) (m : Bytes) (i : Nat) :
    (((HashObj.new a).update (m.take i)).update (m.drop i)).finalize c = getHash c a m := by
  have := hash_stream_eq_oneshot (c := c) a [m.take i, m.drop i]
  simpa using this

/-- every member of the generated `EnumHashAlgorithm` has the digest length of its standard; `NONE` is refused -/
theorem hash_enum_spec :
    SymConsts.hashEnum.map (fun e => (e.2.2, getHashLength e.2.2)) =
      [("sha1", .ok 20), ("sha256", .ok 32), ("sha384", .ok 48), ("sha512", .ok 64), ("md5", .ok 16), ("sm3", .ok 32),
       ("none", .error .spsdk)] := by decide +kernel

/-- the labels of the four modelled algorithms select exactly those algorithms -/
theorem hash_enum_modelled : ∀ a : HashAlg, hashKindOfLabel a.name = some (.modelled a) := by
  intro a; cases a <;> decide

/-- RFC 2104 key normalisation: longer than a block → hashed first; shorter → zero padding is immaterial -/
theorem hmac_key_normalisation (h : CryptoLaws c) (a : HashAlg) (k m : Bytes) :
    (k.length > a.blockSize → hmac c a k m = hmac c a (c.hash a k) m) ∧
    (∀ j, k.length + j ≤ a.blockSize → hmac c a (k ++ zeros j) m = hmac c a k m) :=
  ⟨Crypto.hmac_long_key h a k m, fun j hj => Crypto.hmac_key_zero_pad a k m j hj⟩

/-- HKDF: requested length honoured; shorter outputs are prefixes of longer ones; the first block is
    HMAC(PRK, info ‖ 01); an empty salt means `HashLen` zero bytes (equivalently the empty HMAC key) -/
theorem hkdf_structure (h : CryptoLaws c) (a : HashAlg) (salt ikm info : Bytes) (len len' : Nat) :
    (hkdf c a salt ikm info len).length = len ∧
    (len ≤ len' → hkdf c a salt ikm info len = (hkdf c a salt ikm info len').take len) ∧
    (0 < len → len ≤ a.size →
      hkdf c a salt ikm info len = (hmac c a (hkdfExtract c a salt ikm) (info ++ [1])).take len) ∧
    hkdfExtract c a [] ikm = hmac c a (zeros a.size) ikm ∧ hkdfExtract c a [] ikm = hmac c a [] ikm :=
  ⟨Crypto.hkdf_length h a salt ikm info len, Crypto.hkdf_prefix h a salt ikm info len len',
   Crypto.hkdf_first_block a salt ikm info len, (Crypto.hkdfExtract_empty_salt a ikm).1,
   (Crypto.hkdfExtract_empty_salt a ikm).2⟩

/-- the SPSDK wrapper: exactly the lengths up to 255 blocks of SHA-256 are served, with exactly that many bytes -/
theorem hkdfW_spec (h : CryptoLaws c) (salt ikm info : Bytes) (len : Nat) :
    (len ≤ 255 * 32 → ∃ okm, hkdfW c salt ikm info len = .ok okm ∧ okm.length = len) ∧
    (255 * 32 < len → hkdfW c salt ikm info len = .error .other) := by
  have hs : hkdfAlg.size = 32 := by decide +kernel
  constructor
  · intro hl
    refine ⟨hkdf c hkdfAlg salt ikm info len, by simp [hkdfW, hs, Nat.not_lt.mpr hl],
      Crypto.hkdf_length h _ salt ikm info len⟩
  · intro hl; simp [hkdfW, hs, hl]

/-- CMAC uses the right subkey: K1 = dbl(E_K(0¹²⁸)) on a complete last block, K2 = dbl(K1) on a padded one
    (which includes the empty message) -/
theorem cmac_subkeys (k m : Bytes) :
    (∀ n, 0 < n → m.length = 16 * n →
      cmac c k m = cbcMac (c.encBlk k) (m.take (16 * (n - 1)) ++
        xorBytes (m.drop (16 * (n - 1))) (cmacDbl (c.encBlk k (zeros 16))))) ∧
    ((m.length % 16 ≠ 0 ∨ m.length = 0) →
      cmac c k m = cbcMac (c.encBlk k) (m.take (16 * (m.length / 16)) ++
        xorBytes (m.drop (16 * (m.length / 16)) ++ [0x80] ++ zeros (15 - m.length % 16))
          (cmacDbl (cmacDbl (c.encBlk k (zeros 16)))))) :=
  ⟨fun n hn hm => Crypto.cmacWith_complete _ m n hn hm, fun hm => Crypto.cmacWith_partial _ m hm⟩

/-- the SB3.1 derivation data EXECUTED from the source by the generator's AST interpreter on the whole finite
    parameter domain equals the model, row by row (120 rows: accepted ones byte for byte, refused ones as SPSDKError) -/
theorem sb31_kdf_table_agrees : ∀ r ∈ Sb31Kdf.table,
    kdfData r.1 r.2.1 (if r.2.2.1 then .kdk else .blk) r.2.2.2.1 r.2.2.2.2.1 =
      (match r.2.2.2.2.2 with
       | some b => .ok b
       | none => .error .spsdk) := by decide +kernel

/-- `cmac_validate`/`hmac_validate` accept a tag computed for another message only if the MAC itself is broken -/
theorem cmacValidate_sound (k m m' : Bytes) (hv : cmacValidate c k m' (cmac c k m) = .ok true) :
    m' = m ∨ Break c := by
  by_cases hm : m' = m
  · exact Or.inl hm
  · right
    simp only [cmacValidate] at hv
    split at hv
    · cases hv
    · exact Break.cmacForgery k m' m hm (by simpa using hv)

theorem hmacValidate_sound (a : HashAlg) (k m m' : Bytes) (hv : hmacValidate c a k m' (hmac c a k m) = true) :
    m' = m ∨ Break c := by
  by_cases hm : m' = m
  · exact Or.inl hm
  · exact Or.inr (Break.hmacForgery a k m' m hm (by simpa [hmacValidate] using hv))

/-- equal digests of different data are a collision -/
theorem getHash_binding (a : HashAlg) (m m' : Bytes) (he : getHash c a m = getHash c a m') : m = m' ∨ Break c := by
  by_cases hm : m = m'
  · exact Or.inl hm
  · exact Or.inr (Break.collision a m m' hm he)

/-- a wrapped key unwraps under a different KEK only if RFC 3394's integrity check is broken -/
theorem aesKeyUnwrap_wrong_kek (kek kek' p x : Bytes) (hu : aesKeyUnwrap c kek' (kwWrap c kek p) = .ok x) :
    kek' = kek ∨ Break c := by
  by_cases hk : kek' = kek
  · exact Or.inl hk
  · right
    refine Break.wrapForgery kek kek' p (fun e => hk e.symm) ?_
    simp only [aesKeyUnwrap] at hu
    split at hu
    · cases hu
    · split at hu
      · rename_i hs; simp [hs]
      · cases hu

/-- a CCM ciphertext is accepted under another nonce / associated data / after modification only if CCM is broken -/
theorem aesCcmDecrypt_tamper (k n n' a a' m ct' x : Bytes) (t : Int)
    (hd : aesCcmDecrypt c k ct' n' a' t = .ok x) :
    (n', a', ct') = (n, a, ccmEnc c k n a t.toNat m) ∨ Break c := by
  by_cases he : (n', a', ct') = (n, a, ccmEnc c k n a t.toNat m)
  · exact Or.inl he
  · right
    refine Break.ccmForgery k n n' a a' t.toNat m ct' he ?_
    simp only [aesCcmDecrypt] at hd
    split at hd
    · cases hd
    · split at hd
      · rename_i hs; simp [hs]
      · cases hd

/-! ## Part H — the incremental forms: streaming hash, CRC continuation and bursts, positioned AES-CTR -/

/-- **streaming SHA = one-shot SHA, for ALL chunkings.**  `ShaObj` is the running state of `Hash(alg)` written out over
    the Lean FIPS 180-4 reference (chaining value, < 1 block of buffer, byte count — the data itself is not kept);
    any number of `update` calls with chunks of any size (empty ones included), then `finalize`, gives the digest of the
    concatenation.  SHA-1, SHA-256, SHA-384, SHA-512. -/
theorem sha_stream_eq_oneshot (a : HashAlg) (chunks : List Bytes) :
    (chunks.foldl ShaObj.update (ShaObj.new a)).finalize = Sha.hash a chunks.flatten :=
  shaObj_stream a chunks

/-- the same with `update_int` calls mixed in: each contributes the minimal big-endian bytes of `abs(value)` -/
theorem hash_calls_eq_oneshot (a : HashAlg) (calls : List HashCall) :
    (calls.foldl ShaObj.call (ShaObj.new a)).finalize = getHash execOps a (calls.map HashCall.data).flatten := by
  rw [foldl_call, shaObj_stream]; rfl

/-- hence the state machine and the "remember everything" model `HashObj` agree on every call sequence -/
theorem shaObj_refines_hashObj (a : HashAlg) (chunks : List Bytes) :
    (chunks.foldl ShaObj.update (ShaObj.new a)).finalize =
      (chunks.foldl HashObj.update (HashObj.new a)).finalize execOps := by
  rw [sha_stream_eq_oneshot, hash_stream_eq_oneshot]; rfl

/-- the buffer holds exactly the bytes after the last complete block — never a whole block -/
theorem sha_stream_buffer (a : HashAlg) (chunks : List Bytes) :
    (chunks.foldl ShaObj.update (ShaObj.new a)).buffered = chunks.flatten.length % a.blockSize ∧
    (chunks.foldl ShaObj.update (ShaObj.new a)).buffered < a.blockSize := by
  rw [shaObj_buffered]
  exact ⟨rfl, Nat.mod_lt _ (by cases a <;> decide)⟩

/-- the generic statement behind it: any Merkle–Damgård hash with a non-empty block -/
theorem md_stream_eq_oneshot {σ : Type} (A : MdAlg σ) (hb : 0 < A.blk) (chunks : List Bytes) :
    A.finalize (chunks.foldl A.update A.init) = A.oneShot chunks.flatten :=
  A.stream_eq_oneShot hb chunks

/-- incremental HMAC (the library object under `spsdk_hmac.hmac`: inner hash pre-fed with `K0 ⊕ ipad`, outer hash at
    `finalize`) over the streaming SHA = RFC 2104 on the concatenation, every chunking, every key length -/
theorem hmac_stream_eq_oneshot (a : HashAlg) (key : Bytes) (chunks : List Bytes) :
    (chunks.foldl HmacObj.update (HmacObj.new a key)).finalize = hmacW execOps a key chunks.flatten :=
  hmacObj_stream a key chunks

/-- the CRC of the model is a left fold of the byte step over the message, starting from the initial register -/
theorem crc_is_fold (name : String) (cfg : CrcTable.CrcConfig) (h : crcLookup name = some cfg) (d : Bytes) :
    crcCalculate name d = .ok ((if cfg.reverse
      then Crc.reflect (crcParams cfg).width (d.foldl (Crc.byteStep (crcParams cfg)) (crcParams cfg).init)
      else d.foldl (Crc.byteStep (crcParams cfg)) (crcParams cfg).init) ^^^ cfg.finalXor) := by
  simp only [crcCalculate, h]; rfl

/-- `crcParams` (no bit reversal of the start register) is exact for every row of `CRC_ALGORITHMS` -/
theorem crcParamsExact_table : ∀ e ∈ CrcTable.table, crcParamsExact e.2.2 = crcParams e.2.2 := by decide +kernel

/-- **continuation** as the code offers it (`crc_obj.initial_value = crc_so_far; crc_obj.calculate(rest)`, used by the MBI
    CRC mixin): resuming from the CRC of `a` over `b` is the CRC of `a ++ b` — all three algorithms (the reflected CRC-32
    included), every split point -/
theorem crc_resume (name : String) (cfg : CrcTable.CrcConfig) (h : crcLookup name = some cfg) (a b : Bytes) :
    crcResume name (Crc.crc (crcParams cfg) a) b = crcCalculate name (a ++ b) := by
  obtain ⟨e, he, rfl⟩ := crcLookup_mem h
  obtain ⟨w8, hp, hi, _, _⟩ := crc_table_wf e he
  have := CrcX.crc_resume (p := crcParams e.2.2) ⟨w8, hp⟩ hi a b
  simp only [crcResume, crcCalculate, h]
  rw [← this]
  rfl

/-- any number of pieces -/
theorem crc_pieces (name : String) (cfg : CrcTable.CrcConfig) (h : crcLookup name = some cfg) (pieces : List Bytes) :
    crcPieces name pieces = crcCalculate name pieces.flatten := by
  cases pieces with
  | nil => rfl
  | cons p ps =>
    simp only [crcPieces, List.flatten_cons]
    induction ps generalizing p with
    | nil => simp
    | cons q qs ih =>
      have e : crcCalculate name p = .ok (Crc.crc (crcParams cfg) p) := by simp [crcCalculate, h]
      simp only [List.foldl_cons, e, crc_resume name cfg h p q]
      have := ih (p ++ q)
      simpa [List.append_assoc] using this

/-- **burst detection at full strength**: for each algorithm of the table, two messages of equal length whose message
    polynomials differ by `B·x^j`, `B ≠ 0`, `deg B < width` — i.e. every error pattern confined to a window of at most
    `width` consecutive bits (16 resp. 32), at any bit offset, across byte boundaries; single-bit errors are `B = 1` —
    never have the same CRC.  (For the reflected CRC-32 the window is in transmission order: `msgPoly` reverses each byte.) -/
theorem crc_burst_width (name : String) (cfg : CrcTable.CrcConfig) (h : crcLookup name = some cfg)
    (m m' : Bytes) (hl : m.length = m'.length) (B j : Nat) (hB0 : B ≠ 0) (hB : B < 2 ^ (crcParams cfg).width)
    (hd : Crc.msgPoly (crcParams cfg) m ^^^ Crc.msgPoly (crcParams cfg) m' = B <<< j) :
    crcCalculate name m ≠ crcCalculate name m' := by
  obtain ⟨e, he, rfl⟩ := crcLookup_mem h
  obtain ⟨w8, hp, hi, hodd, _⟩ := crc_table_wf e he
  simp only [crcCalculate, h]
  intro heq
  exact Crc.crc_detects_burst ⟨w8, hp⟩ hodd hi m m' hl B j hB0 hB hd (by injection heq)

/-- for XMODEM and MPEG-2 (not reflected) in plain terms: the big-endian integers of the two messages differ by a
    non-zero `B < 2^width` shifted to any position -/
theorem crc_burst_width_plain (name : String) (cfg : CrcTable.CrcConfig) (h : crcLookup name = some cfg)
    (hr : cfg.reverse = false) (m m' : Bytes) (hl : m.length = m'.length) (B j : Nat) (hB0 : B ≠ 0)
    (hB : B < 2 ^ (crcParams cfg).width) (hd : beDec m ^^^ beDec m' = B <<< j) :
    crcCalculate name m ≠ crcCalculate name m' := by
  refine crc_burst_width name cfg h m m' hl B j hB0 hB ?_
  rw [Crc.msgPoly_eq_beDec _ hr, Crc.msgPoly_eq_beDec _ hr]; exact hd

/-- single-bit errors, every position, every message -/
theorem crc_single_bit (name : String) (cfg : CrcTable.CrcConfig) (h : crcLookup name = some cfg)
    (m m' : Bytes) (hl : m.length = m'.length) (j : Nat)
    (hd : Crc.msgPoly (crcParams cfg) m ^^^ Crc.msgPoly (crcParams cfg) m' = 2 ^ j) :
    crcCalculate name m ≠ crcCalculate name m' := by
  obtain ⟨e, he, rfl⟩ := crcLookup_mem h
  obtain ⟨w8, _, _, _, _⟩ := crc_table_wf e he
  refine crc_burst_width name _ h m m' hl 1 j (by decide) (Nat.one_lt_two_pow (by omega)) ?_
  rw [hd, Nat.shiftLeft_eq, Nat.one_mul]

/-- **AES-CTR split at any block boundary**: `aes_ctr_encrypt(k, a ++ b, iv)` = `aes_ctr_encrypt(k, a, iv)` followed by
    `aes_ctr_encrypt(k, b, iv advanced by len(a)/16 as a 128-bit big-endian integer)` — every block cipher with 16-byte
    outputs, every key the wrapper accepts, every length of `b` -/
theorem aesCtr_split (h : CryptoLaws c) (k iv a b : Bytes) (n : Nat) (hk : aesKeyOk k = true) (hiv : iv.length = 16)
    (ha : a.length = 16 * n) :
    aesCtr c k (a ++ b) iv = .ok (ctrXor c k iv a ++ ctrXor c k (ctrBlock iv n) b) ∧
    aesCtr c k a iv = .ok (ctrXor c k iv a) ∧ aesCtr c k b (ctrBlock iv n) = .ok (ctrXor c k (ctrBlock iv n) b) := by
  refine ⟨?_, aesCtr_ok hk hiv a, aesCtr_ok hk (Misc.beEnc_length 16 _) b⟩
  rw [aesCtr_ok hk hiv]
  simp only [ctrXor]
  rw [ctrXorWith_split (h.enc_len k) iv a b n ha]

/-- **`Counter` positions the keystream**: the pattern `out += aes_ctr_encrypt(key, chunk, counter.value);
    counter.increment(len(chunk) // 16)` over block-aligned chunks equals ONE call on the concatenation with the initial
    counter value, for every chunking, as long as the 32-bit word (big-endian, the default) does not overflow -/
theorem counter_positions_ctr (h : CryptoLaws c) (k : Bytes) (hk : aesKeyOk k = true) (chunks : List Bytes)
    (cn : Counter) (hn : cn.nonce.length = 12) (hl : cn.little = false) (hal : ∀ ch ∈ chunks, ch.length % 16 = 0)
    (hw : Counter.word cn + chunks.flatten.length / 16 < 4294967296) :
    ctrChunks c k cn chunks = aesCtr c k chunks.flatten cn.value :=
  ctrChunks_eq h k hk chunks cn hn hl hal hw

/-- one `increment(n)` without overflow lands on block `n` of the 128-bit stream … -/
theorem counter_lands_on_block (cn : Counter) (hn : cn.nonce.length = 12) (hl : cn.little = false) (n : Nat)
    (hw : Counter.word cn + n < 4294967296) : (cn.increment (n : Int)).value = ctrBlock cn.value n :=
  counter_block_be cn hn hl n hw

/-- … and ACROSS the 32-bit wrap it does not: `Counter` keeps the nonce and wraps the word, the 128-bit counter of
    AES-CTR carries into the nonce.  So "two calls = one call" is false exactly from the wrap on; the positions `Counter`
    reaches there are those of `counter_value` (what the boot ROM's `uint32_t` counter does), not those of one long CTR call.
    The full statement "for all block-aligned splits incl. the wrap, two calls = one call" is therefore NOT a theorem. -/
theorem counter_wrap_diverges (cn : Counter) (hn : cn.nonce.length = 12) (hl : cn.little = false) (n : Nat)
    (hn32 : n < 4294967296) (hw : 4294967296 ≤ Counter.word cn + n) :
    (cn.increment (n : Int)).value ≠ ctrBlock cn.value n ∧
    (cn.increment (n : Int)).value = cn.nonce ++ beEnc 4 (Counter.word cn + n - 4294967296) ∧
    ctrBlock cn.value n = beEnc 12 (beDec cn.nonce + 1) ++ beEnc 4 (Counter.word cn + n - 4294967296) :=
  SymStream.counter_wrap_diverges cn hn hl n hn32 hw

/-- the constants of `Counter` regenerated from spsdk/crypto/symmetric.py on every run (required nonce length, nonce bytes
    kept, counter word size, the mask in `.value`, default increment, default byte order) are the modelled ones -/
theorem counter_consts :
    CounterConsts.nonceLen = 16 ∧ CounterConsts.nonceKeep = 12 ∧ CounterConsts.wordBytes = 4 ∧
    CounterConsts.wordMask = 4294967295 ∧ CounterConsts.defaultIncrement = 1 ∧ CounterConsts.defaultLittle = true := by decide +kernel

/-- … and the model's `Counter` is built from exactly those: refused iff the nonce length differs from the source's,
    `value` = kept nonce bytes ‖ the word reduced modulo `mask + 1`, of total length `nonceKeep + wordBytes` -/
theorem counter_model_uses_source_consts (nonce : Bytes) (cv : Option Int) (l : Bool) :
    (Counter.new nonce cv l = .error .spsdk ↔ (nonce.length : Int) ≠ CounterConsts.nonceLen) ∧
    (∀ cn, Counter.new nonce cv l = .ok cn →
      (cn.nonce.length : Int) = CounterConsts.nonceKeep ∧
      (cn.value.length : Int) = CounterConsts.nonceKeep + CounterConsts.wordBytes ∧
      cn.value = cn.nonce ++ enc32 l (cn.ctr % (CounterConsts.wordMask + 1)).toNat) := by
  refine ⟨?_, ?_⟩
  · rw [counter_new_refusal]; simp only [CounterConsts.nonceLen]; omega
  · intro cn h
    simp only [Counter.new] at h
    split at h
    · cases h
    · rename_i hn
      cases h
      simp only [Counter.value, CounterConsts.nonceKeep, CounterConsts.wordBytes, CounterConsts.wordMask,
        List.length_append, List.length_take, enc32_length]
      refine ⟨by omega, by omega, rfl⟩

/-! ## Part E — the laws are satisfiable: by the executable FIPS-197 AES / SM4 / SHA instance itself -/

/-- `decBlk k (encBlk k b) = b` etc. for the AES, SM4 and SHA written out in Crypto/{Aes,Sm4,Sha}.lean -/
theorem exec_laws : CryptoLaws execOps ∧ Sm4Laws execOps := ⟨execOps_laws, execOps_sm4Laws⟩

/-- hence every theorem above speaks about the instance the correspondence sweep runs -/
theorem exec_aesCbc_default_iv (k m : Bytes) (hk : aesKeyOk k = true) :
    ∃ ct, aesCbcEncrypt execOps k m none = .ok ct ∧ aesCbcDecrypt execOps k ct none = .ok (zeroPad16 m) :=
  aesCbc_default_iv execOps_laws k m hk

/-! ## non-vacuity -/

example : IvArg none ∧ IvArg (some []) ∧ IvArg (some (zeros 16)) :=
  ⟨Or.inl rfl, Or.inr (Or.inl rfl), Or.inr (Or.inr ⟨_, rfl, by simp⟩)⟩
example : aesKeyOk (zeros 16) = true ∧ aesKeyOk (zeros 24) = true ∧ aesKeyOk (zeros 32) = true ∧ aesKeyOk (zeros 64) = false := by decide +kernel
example : ccmParamsOk (zeros 16) (zeros 13) 4 = true ∧ ccmParamsOk (zeros 32) (zeros 7) 16 = true ∧
    ccmParamsOk (zeros 16) (zeros 14) 4 = false ∧ ccmParamsOk (zeros 16) (zeros 12) 5 = false := by decide +kernel
/-- wrap-around really happens in the model: start word ff ff ff ff, one increment -/
example : (Counter.increment ⟨zeros 12, 4294967295, false⟩ 1).value = zeros 16 := by decide +kernel
example : (Counter.increment ⟨zeros 12, 4294967295, true⟩ 2).value = zeros 12 ++ [1, 0, 0, 0] := by decide +kernel
example : kdfData 1 3 .blk 256 2 =
    .ok ([1,0,0,0,0,0,0,0,0,0,0,0] ++ zeros 8 ++ [0xC0, 0x10, 0, 0x21] ++ [0,0,1,0] ++ [0,0,0,2]) := by decide +kernel
example : zeroPad16 [1, 2, 3] = [1, 2, 3] ++ zeros 13 ∧ zeroPad16 (zeros 16) = zeros 16 ∧ zeroPad16 [] = [] := by decide +kernel
/-- CRC check values of the catalogue ("123456789") computed by the kernel from the generated table -/
example : crcCalculate "CRC16_XMODEM" [0x31,0x32,0x33,0x34,0x35,0x36,0x37,0x38,0x39] = .ok 0x31C3 := by decide +kernel
example : crcCalculate "CRC32" [0x31,0x32,0x33,0x34,0x35,0x36,0x37,0x38,0x39] = .ok 0xCBF43926 := by decide +kernel
example : crcCalculate "CRC32_MPEG" [0x31,0x32,0x33,0x34,0x35,0x36,0x37,0x38,0x39] = .ok 0x0376E6E7 := by decide +kernel

/-- non-vacuity of Part H: a chunking with an empty chunk, a chunk crossing a block boundary and an `update_int` -/
example : (([HashCall.bytes [], .bytes (zeros 70), .int 258, .bytes [7]].map HashCall.data).flatten).length = 73 := by decide +kernel
example : (([[1, 2, 3], [], zeros 61, [9]].foldl alg256.update alg256.init).buf.length,
           ([[1, 2, 3], [], zeros 61, [9]].foldl alg256.update alg256.init).total) = (1, 65) := by decide +kernel
/-- burst hypotheses: a 9-bit error pattern straddling a byte boundary (XMODEM, 4-byte messages), and a single bit -/
example : beDec [0, 0x12, 0x34, 0] ^^^ beDec [0, 0x0D, 0xC4, 0] = 0x1FF <<< 12 ∧ (0x1FF : Nat) ≠ 0 ∧
    0x1FF < 2 ^ (crcParams ⟨0x11021, 0, 0, false⟩).width := by decide +kernel
example : Crc.msgPoly (crcParams ⟨0x104C11DB7, 0, 0xFFFFFFFF, true⟩) [1, 2] ^^^
    Crc.msgPoly (crcParams ⟨0x104C11DB7, 0, 0xFFFFFFFF, true⟩) [1, 3] = 2 ^ 7 := by decide +kernel
/-- CRC continuation on the reflected CRC-32 really needs the exact (bit-reversing) start register -/
example : crcResume "CRC32" 0x83DCEFB7 [0x32] = crcCalculate "CRC32" [0x31, 0x32] ∧
    crcCalculate "CRC32" [0x31] = .ok 0x83DCEFB7 := by decide +kernel
/-- Counter hypotheses: no-wrap and wrap cases exist -/
example : Counter.word ⟨zeros 12, 4294967294, false⟩ + 1 < 4294967296 ∧
    4294967296 ≤ Counter.word ⟨zeros 12, 4294967294, false⟩ + 2 := by decide +kernel

end SpsdkVerif.C09
