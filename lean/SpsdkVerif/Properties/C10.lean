/-
C10 — bootloader protocols: data arrives intact, results mirror the device, faults surface.

Model  : Model/Mboot.lean — host (`MbootSerialProtocol`, `MbootBulkProtocol`, `CmdPacket`/`parse_cmd_response`,
         `McuBoot._process_cmd/_read_data/_send_data/_split_data/_get_max_packet_size` and the public operations)
         and a reference bootloader `Dev`; tied to /repo by harness/props/C10.py (per-operation differential on
         replayed transcripts, with and without faults).
Consts : Generated/MbootConsts.lean is regenerated from /repo on every run; section 1 proves that it agrees with the
         protocol constants (`Spec`) the model and the reference device are written with.
Lemmas : Proofs/Mboot.lean (codecs, CRC, splitting), Proofs/MbootFault.lean (corrupted frames, status codes, data phases),
         Proofs/MbootTrunc.lean (truncation; the silent-link lemmas are at its end), Proofs/MbootBound.lean (number of reads),
         Proofs/MbootRefine.lean (symbolic execution of host + live reference device), Proofs/MbootAbort.lean (aborted data phase).
SDP    : sections 7 and 7b; Model/Sdp.lean, Proofs/Sdp.lean, Proofs/SdpRefine.lean, Proofs/SdpFault.lean.
Values : section 8; Model/MbootProps.lean, Proofs/MbootProps.lean.

*Observable success* (`succeeded`): nothing raised, value not `None`/`False`, `status_code == SUCCESS`.
-/
import SpsdkVerif.Model.Mboot
import SpsdkVerif.Generated.MbootConsts
import SpsdkVerif.Proofs.Mboot
import SpsdkVerif.Proofs.MbootFault
import SpsdkVerif.Proofs.MbootRefine
import SpsdkVerif.Proofs.MbootBound
import SpsdkVerif.Proofs.MbootTrunc
import SpsdkVerif.Proofs.MbootAbort
import SpsdkVerif.Model.Sdp
import SpsdkVerif.Generated.SdpConsts
import SpsdkVerif.Proofs.Sdp
import SpsdkVerif.Proofs.SdpRefine
import SpsdkVerif.Proofs.SdpFault
import SpsdkVerif.Model.MbootProps
import SpsdkVerif.Generated.MbootProps
import SpsdkVerif.Proofs.MbootProps

namespace SpsdkVerif.C10
open SpsdkVerif SpsdkVerif.Mboot SpsdkVerif.Mboot.Fault
open SpsdkVerif.Generated.MbootConsts (Fmt Endian)

/-! ## 1. constants generated from /repo agree with the protocol constants -/

theorem gen_frame_constants_agree :
    Generated.MbootConsts.frameStartByte = Spec.startByte ∧
    Generated.MbootConsts.frameNotReady = [0] ∧
    Generated.MbootConsts.maxPingDummyBytes = Spec.maxPingDummy ∧
    Generated.MbootConsts.maxUartOpenAttempts = Spec.openAttempts ∧
    Generated.MbootConsts.fpTypes =
      [("ACK", Spec.fAck), ("NACK", Spec.fNak), ("ABORT", Spec.fAbort), ("CMD", Spec.fCmd), ("DATA", Spec.fData),
       ("PING", Spec.fPing), ("PINGR", Spec.fPingR)] := by decide +kernel

theorem gen_report_ids_agree :
    Generated.MbootConsts.reportIds =
      [("CMD_OUT", Spec.ridCmdOut), ("DATA_OUT", Spec.ridDataOut), ("CMD_IN", Spec.ridCmdIn), ("DATA_IN", Spec.ridDataIn)] :=
  rfl

/-- tag, flags and argument count of the command packet every modelled API method builds -/
theorem gen_api_packets_agree :
    Generated.MbootConsts.apiPackets =
      [("flash_erase_all", Spec.cFlashEraseAll, 0, 1), ("flash_erase_region", Spec.cFlashEraseRegion, 0, 3),
       ("read_memory", Spec.cReadMemory, 0, 3), ("write_memory", Spec.cWriteMemory, Spec.flagHasDataPhase, 3),
       ("fill_memory", Spec.cFillMemory, 0, 3), ("get_property", Spec.cGetProperty, 0, 2),
       ("set_property", Spec.cSetProperty, 0, 2), ("receive_sb_file", Spec.cReceiveSbFile, Spec.flagHasDataPhase, 1),
       ("execute", Spec.cExecute, 0, 3), ("call", Spec.cCall, 0, 2),
       ("flash_erase_all_unsecure", Spec.cFlashEraseAllUnsecure, 0, 0), ("configure_memory", Spec.cConfigureMemory, 0, 2),
       ("reliable_update", Spec.cReliableUpdate, 0, 1), ("reset", Spec.cReset, 0, 0),
       ("flash_read_once", Spec.cFlashReadOnce, 0, 2), ("flash_program_once", Spec.cFlashProgramOnce, 0, 2),
       ("efuse_read_once", Spec.cFlashReadOnce, 0, 2), ("efuse_program_once", Spec.cFlashProgramOnce, 0, 3),
       ("flash_read_resource", Spec.cFlashReadResource, 0, 3), ("kp_enroll", Spec.cKeyProvisioning, 0, 1),
       ("kp_set_intrinsic_key", Spec.cKeyProvisioning, 0, 3), ("kp_write_nonvolatile", Spec.cKeyProvisioning, 0, 2),
       ("kp_read_nonvolatile", Spec.cKeyProvisioning, 0, 2), ("kp_set_user_key", Spec.cKeyProvisioning, Spec.flagHasDataPhase, 3),
       ("kp_write_key_store", Spec.cKeyProvisioning, Spec.flagHasDataPhase, 3), ("kp_read_key_store", Spec.cKeyProvisioning, 0, 1),
       ("update_life_cycle", Spec.cUpdateLifeCycle, 0, 1), ("ele_message", Spec.cEleMessage, 0, 5),
       ("tp_oem_set_master_share", Spec.cTrustProvisioning, 0, 5), ("tp_hsm_enc_blk", Spec.cTrustProvisioning, 0, 9),
       ("fuse_program", Spec.cFuseProgram, Spec.flagHasDataPhase, 3), ("fuse_read", Spec.cFuseRead, 0, 3)] ∧
    Generated.MbootConsts.tpApiOperations =
      [("tp_oem_set_master_share", Spec.tpOemSetMasterShare), ("tp_hsm_enc_blk", Spec.tpHsmEncBlock)] ∧
    Generated.MbootConsts.kpApiOperations =
      [("kp_enroll", Spec.kpEnroll), ("kp_set_intrinsic_key", Spec.kpSetIntrinsicKey), ("kp_write_nonvolatile", Spec.kpWriteNonVolatile),
       ("kp_read_nonvolatile", Spec.kpReadNonVolatile), ("kp_set_user_key", Spec.kpSetUserKey),
       ("kp_write_key_store", Spec.kpWriteKeyStore), ("kp_read_key_store", Spec.kpReadKeyStore)] := ⟨rfl, rfl, rfl⟩

def kindOfClass : Option String → RKind
  | some "GenericResponse" => .generic
  | some "GetPropertyResponse" => .getProperty
  | some "ReadMemoryResponse" => .readMemory
  | some "FlashReadResourceResponse" => .flashReadResource
  | some "FlashReadOnceResponse" => .flashReadOnce
  | some "KeyProvisioningResponse" => .keyProv
  | some "TrustProvisioningResponse" => .trustProv
  | _ => .plain

/-- the response-class table of `parse_cmd_response` (wherever it is defined: inline or hoisted; emitted sorted by tag) is the
    model's `kindOf`, for every header tag byte -/
theorem gen_response_table_agrees :
    (List.range 256).all (fun t => kindOfClass (Generated.MbootConsts.knownResponses.lookup t) == kindOf t) = true := by
  decide +kernel

theorem gen_status_codes_agree :
    Generated.MbootConsts.stSuccess = Spec.stSuccess ∧ Generated.MbootConsts.stFail = Spec.stFail ∧
    Generated.MbootConsts.stNoResponse = Spec.stNoResponse ∧
    Generated.MbootConsts.stUnknownProperty = Spec.stUnknownProperty ∧
    Generated.MbootConsts.stReadOnlyProperty = Spec.stReadOnlyProperty ∧
    Generated.MbootConsts.stMemoryRangeInvalid = Spec.stMemoryRangeInvalid ∧
    Generated.MbootConsts.stUnknownCommand = Spec.stUnknownCommand ∧
    Generated.MbootConsts.stAbortDataPhase = Spec.stAbortDataPhase ∧
    Generated.MbootConsts.stSendingOperationConditionError = Spec.stSendingOperationConditionError ∧
    Generated.MbootConsts.stOtpVerifyFail = Spec.stOtpVerifyFail ∧
    Generated.MbootConsts.propMaxPacketSize = Spec.propMaxPacketSize ∧
    Generated.MbootConsts.defaultMaxPacketSize = Spec.defaultMaxPacket ∧
    Generated.MbootConsts.cmdHeaderSize = 4 := by decide +kernel

/-- every struct format of the codec functions: byte order and field widths as the model lays the bytes out -/
theorem gen_formats_agree :
    Generated.MbootConsts.fmtSerialCreateFrame = [⟨.little, [1, 1, 2, 2], 1⟩] ∧
    Generated.MbootConsts.fmtSerialFrameCrc = [⟨.little, [1, 1, 2], 1⟩] ∧
    Generated.MbootConsts.fmtSerialAck = [⟨.native, [1, 1], 0⟩] ∧
    Generated.MbootConsts.fmtPingResponse = [⟨.little, [4, 2, 2], 0⟩] ∧
    Generated.MbootConsts.fmtSerialPing = [⟨.native, [1, 1], 0⟩, ⟨.native, [1, 1], 1⟩] ∧
    Generated.MbootConsts.fmtHidCreateFrame = [⟨.little, [1, 1, 2], 0⟩] ∧
    Generated.MbootConsts.fmtHidParseFrame = [⟨.little, [1, 1, 2], 0⟩] ∧
    Generated.MbootConsts.fmtCmdHeaderToBytes = [⟨.native, [1, 1, 1, 1], 0⟩] ∧
    Generated.MbootConsts.fmtCmdHeaderFromBytes = [⟨.native, [1, 1, 1, 1], 0⟩] ∧
    Generated.MbootConsts.fmtCmdPacketToBytes = [⟨.little, [], 4⟩] ∧
    Generated.MbootConsts.fmtCmdResponseInit = [⟨.little, [4], 0⟩] ∧
    Generated.MbootConsts.fmtGenericResponseInit = [⟨.little, [4, 4], 0⟩] ∧
    Generated.MbootConsts.fmtGetPropertyResponseInit = [⟨.little, [], 4⟩] ∧
    Generated.MbootConsts.fmtReadMemoryResponseInit = [⟨.little, [4, 4], 0⟩] ∧
    Generated.MbootConsts.fmtNoResponseInit = [⟨.little, [4], 0⟩] := by decide +kernel

/-- the serial protocol asks for CRC-16/XMODEM and `CRC_ALGORITHMS` defines it as the model computes it -/
theorem gen_crc_params_agree :
    Generated.MbootConsts.serialCrcAlg = "CRC16_XMODEM" ∧ Generated.MbootConsts.crcWidth = 16 ∧
    Generated.MbootConsts.crcPoly = Spec.crcPoly ∧ Generated.MbootConsts.crcInit = 0 ∧
    Generated.MbootConsts.crcXorOut = 0 ∧ Generated.MbootConsts.crcReverse = false := by decide +kernel

/-- `_clamp_down_memory_id`, evaluated from the source on 0..300 and some large ids, is the model's `clampMemId`
    (a semantic table: a harmless rewrite of the function keeps it, a changed boundary breaks it) -/
theorem gen_clamp_agrees :
    Generated.MbootConsts.clampDownTable.length = 306 ∧
    Generated.MbootConsts.clampDownTable.all (fun q => clampMemId q.1 == q.2) = true := by decide +kernel

/-! ## 2. codecs -/

/-- `frame_roundtrip`: what `_create_frame` builds, the device decodes — type, payload and what follows -/
theorem frame_roundtrip (t : Nat) (p rest : Bytes) (ht : t < 256) (hp : p.length < 2 ^ 16) :
    parseFrame (mkFrame t p ++ rest) = .ok (t, p, rest) :=
  frame_roundtrip' t p rest ht (by simpa using hp)

/-- the host's own reader returns the payload of a well-formed DATA frame, leaves what follows and acknowledges -/
theorem host_reads_data_frame (h : Host) (p rest : Bytes) (hp0 : p ≠ []) (hp : p.length < 2 ^ 16)
    (hrx : h.rxB = mkFrame Spec.fData p ++ rest) :
    serialRead h = (.ok (.data p), ({ h with reads := h.reads + 5, rxB := rest }).write ackFrame) := by
  have hlen : p.length < 65536 := by simpa using hp
  have e1 : (UInt8.ofNat Spec.fData).toNat = Spec.fData := by decide
  have hrx' : h.rxB = UInt8.ofNat Spec.startByte :: UInt8.ofNat Spec.fData ::
      (le 2 p.length ++ (le 2 (frameCrc Spec.fData p) ++ (p ++ rest))) := by
    rw [hrx]; simp [mkFrame]
  have hh := readFrameHeader_none h (UInt8.ofNat Spec.fData) _ hrx'
  have r1 := devRead_append { h with reads := h.reads + 1 + 1, rxB := le 2 p.length ++ (le 2 (frameCrc Spec.fData p) ++ (p ++ rest)) } (le 2 p.length) _
    (by simp [le]) rfl
  have r2 := devRead_append { h with reads := h.reads + 1 + 1 + 1, rxB := le 2 (frameCrc Spec.fData p) ++ (p ++ rest) } (le 2 (frameCrc Spec.fData p)) _
    (by simp [le]) rfl
  have r3 := devRead_append { h with reads := h.reads + 1 + 1 + 1 + 1, rxB := p ++ rest } p rest hp0 rfl
  simp only [le_length] at r1 r2
  have l1 : fromLe (le 2 p.length) = p.length := fromLe_le_of_lt 2 _ (by simpa using hlen)
  have l2 : fromLe (le 2 (frameCrc Spec.fData p)) = frameCrc Spec.fData p :=
    fromLe_le_of_lt 2 _ (by simpa [frameCrc] using crc16_lt (crcInput Spec.fData p))
  have hz : p.length ≠ 0 := fun e => hp0 (List.length_eq_zero_iff.mp e)
  have c1 : ¬ (Spec.fData = Spec.fAbort) := by decide
  have c2 : ¬ (Spec.fData = Spec.fCmd) := by decide
  unfold serialRead
  simp only [Fault.bind_run, hh, e1, c1, if_false, r1, r2, l1, l2, hz, r3, sendAck, Fault.devWrite_run,
    ne_eq, not_true_eq_false, c2, Fault.pure_run]

/-- `hid_roundtrip`: what `MbootBulkProtocol._create_frame` builds (possibly padded by the HID layer) the device decodes -/
theorem hid_roundtrip (rid : Nat) (p pad : Bytes) (hr : rid < 256) (hp : p.length < 2 ^ 16) :
    parseReport (mkReport rid p ++ pad) = some (rid, p) :=
  hid_roundtrip' rid p pad hr (by simpa using hp)

/-- the host's `_parse_frame` returns exactly the payload of a data report, whatever padding follows -/
theorem hid_host_roundtrip (p pad : Bytes) (hp0 : p ≠ []) (hp : p.length < 2 ^ 16) :
    hidParseFrame (mkReport Spec.ridDataIn p ++ pad) = .ok (.data p) := by
  have hlen : p.length < 65536 := by simpa using hp
  have h1 : fromLe (le 2 p.length) = p.length := fromLe_le_of_lt 2 _ (by simpa using hlen)
  rw [le2_cases] at h1
  have hz : p.length ≠ 0 := fun e => hp0 (List.length_eq_zero_iff.mp e)
  simp only [mkReport, le2_cases, List.cons_append, List.nil_append, hidParseFrame, h1, hz, if_false]
  have c : ¬ (Spec.ridDataIn % 256 = Spec.ridCmdIn) := by decide
  have c2 : ¬ (p.length + pad.length < p.length) := by omega
  simp [c, c2]

/-- a report shorter than its length field is refused (fix C10-1), it never yields data -/
theorem hid_truncated_report_refused (rid : Nat) (p : Bytes) (k : Nat) (hp : p.length < 2 ^ 16) (hk : k < 4 + p.length)
    (hp0 : p ≠ []) :
    hidParseFrame ((mkReport rid p).take k) = .error .conn := by
  have hlen : p.length < 65536 := by simpa using hp
  have h1 : fromLe (le 2 p.length) = p.length := fromLe_le_of_lt 2 _ (by simpa using hlen)
  rw [le2_cases] at h1
  have hz : p.length ≠ 0 := fun e => hp0 (List.length_eq_zero_iff.mp e)
  simp only [mkReport, le2_cases, List.cons_append, List.nil_append]
  match k, hk with
  | 0, _ => rfl
  | 1, _ => rfl
  | 2, _ => rfl
  | 3, _ => rfl
  | k + 4, hk =>
    simp only [List.take_succ_cons, hidParseFrame, h1, hz, if_false]
    have : (p.take k).length < p.length := by simp; omega
    simp
    intro hcontra
    omega

/-- `cmd_roundtrip`: `CmdPacket.to_bytes(padding=False)` succeeds on a well-formed packet and the device decodes it back -/
theorem cmd_roundtrip (p : CmdPkt) (h : p.WF) : p.toBytes = .ok p.encode ∧ parseCmd p.encode = some p :=
  ⟨toBytes_ok p h, cmd_roundtrip' p h⟩

/-- `response_roundtrip`: the responses the device builds are parsed by `parse_cmd_response` to the same fields -/
theorem response_roundtrip (st x : Nat) (vals : List Nat) (h1 : st < 2 ^ 32) (h2 : x < 2 ^ 32)
    (hv : ∀ v ∈ vals, v < 2 ^ 32) (hn : vals.length < 255) :
    parseCmdResponse (genericResp st x) = .ok { kind := .generic, tag := Spec.rGeneric, pc := 2, status := st, cmdTag := x } ∧
    parseCmdResponse (readMemResp st x) = .ok { kind := .readMemory, tag := Spec.rReadMemory, pc := 2, status := st, length := x } ∧
    parseCmdResponse (getPropResp st vals) =
      .ok { kind := .getProperty, tag := Spec.rGetProperty, pc := 1 + vals.length, status := st, values := vals } :=
  ⟨genericResp_parse st x (by simpa using h1) (by simpa using h2),
   readMemResp_parse st x (by simpa using h1) (by simpa using h2),
   getPropResp_parse st vals (by simpa using h1) (fun v hv' => by simpa using hv v hv') hn⟩

/-! ## 3. `_split_data`: the chunks are the data, in order, each non-empty and no larger than the packet size -/

theorem split_data_concat (n : Nat) (hn : 0 < n) (data : Bytes) : (split n data).flatten = data :=
  split_flatten' n hn data

theorem split_data_bounds (n : Nat) (hn : 0 < n) (data : Bytes) :
    ∀ c ∈ split n data, c.length ≤ n ∧ c ≠ [] :=
  split_chunks' n hn data

/-! ## 4. CRC-16/XMODEM detects every single corrupted byte -/

/-- two inputs that differ in exactly one byte have different CRC-16 (injectivity of the register update,
    no 2^16 enumeration needed) -/
theorem crc16_single_byte (pre suf : Bytes) (x y : UInt8) (h : x ≠ y) :
    crc16 (pre ++ x :: suf) ≠ crc16 (pre ++ y :: suf) :=
  crc16_single_byte_ne pre suf x y h

/-- one byte of the type / CRC / payload region of a frame changed ⇒ the decoder reports a CRC error,
    never a frame (of the same or of another type or payload) -/
theorem corrupt_frame_rejected (t : Nat) (p rest : Bytes) (t' c' : Nat) (p' : Bytes) (ht : t < 256)
    (hp : p.length < 2 ^ 16) (hc : Corrupted t p t' c' p') :
    parseFrame (rawFrame t' p.length c' p' ++ rest) = .error .badCrc := by
  obtain ⟨h1, h2, h3, h4⟩ := corrupted_facts ht hc
  have := parseFrame_raw t' c' p' rest h3 (by rw [h2]; simpa using hp) h4
  rw [h2] at this
  rw [this, if_neg h1]

/-- … and `MbootSerialProtocol.read()` raises (connection error; abort if the type became ABORT) -/
theorem corrupt_frame_raises (h : Host) (t : Nat) (p rest : Bytes) (t' c' : Nat) (p' : Bytes) (ht : t < 256)
    (hp : p.length < 2 ^ 16) (hc : Corrupted t p t' c' p') (hrx : h.rxB = rawFrame t' p.length c' p' ++ rest) :
    (serialRead h).1 = .error .conn ∨ (serialRead h).1 = .error .abort := by
  obtain ⟨h1, h2, h3, h4⟩ := corrupted_facts ht hc
  exact serialRead_rejects h t' c' p' rest h3 (by rw [h2]; simpa using hp) h4 (by rw [h2]; exact hrx) h1

/-! ## 5. faults surface -/

/-- **missing response / stream cut off**: on a link that stays silent no operation that talks to the device
    reports success (it returns `None`/`False`/a non-SUCCESS status or raises) -/
theorem no_response_never_succeeds (h : Host) (op : Op) (hs : Starved h) (ht : talks h.cfg op) :
    ¬ succeeded (runOp op h).1 (runOp op h).2 :=
  silent_link_never_succeeds h op hs ht

/-- **truncated response, at EVERY position**: the device→host byte stream of the CRC-framed serial link (whatever it
    contains: well-formed or garbage) is cut after `k` bytes, for every `k`, in the middle of a frame, between frames,
    in the middle of a data phase: the operation is observably identical to the run on the full stream (result, status
    code, bytes written), or it does not report success.  (`talks` excludes exactly: `open` over HID, a zero-length
    chunked read, `load_image` over HID or of nothing, and `reset`, whose missing response is ignored by design.) -/
theorem truncation_safe_serial (h : Host) (op : Op) (k : Nat) (cs : List (List Bytes))
    (htr : h.cfg.tr = .serial) (hstrict : h.cfg.partialReads = false) (hpeer : h.peer = .script cs)
    (ht : talks h.cfg op) :
    observable (runOp op (h.truncate k)) = observable (runOp op h) ∨
      ¬ succeeded (runOp op (h.truncate k)).1 (runOp op (h.truncate k)).2 :=
  Trunc.truncation_safe_serial h op k cs htr hstrict hpeer ht

/-- … and over USB-HID: the stream is cut after any number of whole reports (a report cut short is refused by
    `hid_truncated_report_refused`) -/
theorem truncation_safe_hid (h : Host) (op : Op) (k : Nat) (cs : List (List Bytes))
    (htr : h.cfg.tr = .hid) (hpeer : h.peer = .script cs) (ht : talks h.cfg op) :
    observable (runOp op (h.truncateReports k)) = observable (runOp op h) ∨
      ¬ succeeded (runOp op (h.truncateReports k)).1 (runOp op (h.truncateReports k)).2 :=
  Trunc.truncation_safe_hid h op k cs htr hpeer ht

/-- **the link goes silent before or during the data phase of a write**: `_send_data` raises -/
theorem write_data_phase_silent_link_raises (h : Host) (cs : List Bytes) (hs : Starved h) :
    ∃ e, (sendData cs h).1 = .error e :=
  sendData_starved h cs hs

/-- **… of a read**: `_read_data` ends with status NO_RESPONSE (or raises with `cmd_exception`), never success -/
theorem read_data_phase_silent_link_fails (h : Host) (tag n : Nat) (hs : Starved h) :
    ¬ succeeded ((readData tag n h).1.map Val.bytes) (readData tag n h).2 :=
  readData_starved h tag n hs

/-- **status codes are reported as the device sent them** -/
theorem status_mirrors_response (h h' : Host) (p : CmdPkt) (r : Resp) (hr : processCmd p h = (.ok r, h')) :
    h'.status = r.status ∧ (h'.cfg.cmdExc = true → r.status = Spec.stSuccess) :=
  processCmd_ok h h' p r hr

/-- **device error status**: a command whose response carries a non-SUCCESS status returns `False` and shows that status -/
theorem error_status_surfaces (h h' : Host) (tag : Nat) (ps : List Nat) (r : Resp)
    (hp : processCmd ⟨tag, 0, ps⟩ h = (.ok r, h')) (hst : r.status ≠ Spec.stSuccess) :
    simpleCmd tag ps h = (.ok (.bool false), h') ∧ h'.status = r.status :=
  simpleCmd_error_status h h' tag ps r hp hst

/-- … and success is reported only when a response with status SUCCESS was received -/
theorem success_needs_success_response (h : Host) (tag : Nat) (ps : List Nat)
    (hs : succeeded (simpleCmd tag ps h).1 (simpleCmd tag ps h).2) :
    ∃ r h', processCmd ⟨tag, 0, ps⟩ h = (.ok r, h') ∧ r.status = Spec.stSuccess ∧ h'.status = Spec.stSuccess :=
  simpleCmd_success h tag ps hs

/-- **partial data never comes with SUCCESS** (`_read_data`, fix C10-2): on ANY device→host stream, data returned
    while `status_code == SUCCESS` has exactly the announced length -/
theorem read_data_success_complete (h h' : Host) (tag n : Nat) (d : Bytes)
    (hr : readData tag n h = (.ok d, h')) (hst : h'.status = Spec.stSuccess) : d.length = n :=
  readData_success_complete h h' tag n d hr hst

/-- **NAK / ABORT / timeout / damaged ACK in the data phase**: `_send_data` returns `True` only if every packet was
    written without any error and the final response carried SUCCESS — on ANY device→host stream -/
theorem send_data_true_only_if_all_acked (h h' : Host) (cs : List Bytes) (hne : ∀ c ∈ cs, c ≠ [])
    (hr : sendData cs h = (.ok true, h')) :
    (∃ h1, sendChunks h.eda cs 0 h = (.ok ((cs.map List.length).sum, none), h1)) ∧ h'.status = Spec.stSuccess :=
  sendData_true h h' cs hne hr

/-- … the same for `load_image` (`_send_data(NO_COMMAND, …)`, no final response): `True` only if every packet was written
    without error — a NAK/ABORT/timeout on the LAST packet's acknowledgement yields `False`, on ANY stream -/
theorem load_image_true_only_if_all_acked (h h' : Host) (cs : List Bytes) (hne : ∀ c ∈ cs, c ≠ [])
    (hr : sendDataNoResp cs h = (.ok true, h')) :
    ∃ h1, sendChunks h.eda cs 0 h = (.ok ((cs.map List.length).sum, none), h1) :=
  sendDataNoResp_true h h' cs hne hr

/-- **NAK / ABORT instead of the ACK of a command**: McuBootConnectionError / McuBootDataAbortError is raised -/
theorem nak_abort_raise (h : Host) (p : CmdPkt) (x : Bytes) (hwf : p.WF) (ho : h.opened = true)
    (htr : h.cfg.tr = .serial) :
    ((h.write (mkFrame Spec.fCmd p.encode)).rxB = nakFrame ++ x → (processCmd p h).1 = .error .conn) ∧
    ((h.write (mkFrame Spec.fCmd p.encode)).rxB = abortFrame ++ x → (processCmd p h).1 = .error .abort) :=
  processCmd_nak_abort h p x hwf ho htr

/-! ## 6. without faults: host + reference bootloader = the specification

`specOp` (Model/Mboot.lean) is the abstract effect of an operation: written bytes are in the device memory once, in
order (`splice`), nothing else is touched; read bytes are exactly `mem[a, a+n)`; properties and status codes are the
device's; an operation the device refuses returns `False`/`None` (or raises `McuBootCommandError(status)` with
`cmd_exception`) and shows the device's status.  The device refuses data packets larger than its max packet size, so the
refinement also says that every packet the host sends is no larger than the negotiated size.
Covered: get/set property, fill, erase region/all, read_memory (un-chunked and the UsbDevice chunk loop), write_memory,
receive_sb_file, execute/call/erase-all-unsecure/configure-memory/reliable-update, key provisioning (enroll, intrinsic key,
(non)volatile, set user key, write/read key store), flash_read_resource, flash/efuse read once, flash_program_once,
efuse_program_once with and without verification (locked word ⇒ OTP_VERIFY_FAIL), load_image, update_life_cycle,
ele_message, tp_oem_set_master_share, tp_hsm_enc_blk (`Op.logCmd`), fuse_program (data phase), fuse_read (data phase). -/

/-- one operation on the CRC-framed serial link (all data lengths, all packet sizes `0 < mp < 2^16`) -/
theorem op_refines_serial (h : Host) (d d' : Dev) (op : Op) (res : Except HErr Val) (st : Nat)
    (htr : h.cfg.tr = .serial)
    (hs : Synced h d) (hd : d.OK) (hmps : h.mps = some d.maxPacket) (heda : h.eda = false)
    (hargs : op.argsOK) (hspec : specOp h.cfg.cmdExc h.cfg.usb d op = some (d', res, st)) :
    ∃ h', runOp op h = (res, h') ∧ Synced h' d' ∧ h'.status = st ∧ h'.cfg = h.cfg ∧ h'.mps = h.mps ∧ h'.eda = false :=
  Mboot.op_refines_serial h d d' op res st htr hs hd hmps heda hargs hspec

/-- one operation over USB-HID reports (`cfg.usb`: the device object is a `UsbDevice`, then `read_memory` takes the chunked path) -/
theorem op_refines_hid (h : Host) (d d' : Dev) (op : Op) (res : Except HErr Val) (st : Nat)
    (htr : h.cfg.tr = .hid)
    (hs : Synced h d) (hd : d.OK) (hmps : h.mps = some d.maxPacket) (heda : h.eda = false)
    (hargs : op.argsOK) (hspec : specOp h.cfg.cmdExc h.cfg.usb d op = some (d', res, st)) :
    ∃ h', runOp op h = (res, h') ∧ Synced h' d' ∧ h'.status = st ∧ h'.cfg = h.cfg ∧ h'.mps = h.mps ∧ h'.eda = false :=
  Mboot.op_refines_hid h d d' op res st htr hs hd hmps heda hargs hspec

/-- run a list of operations; result and `status_code` after each one -/
def runOps : List Op → Host → List (Except HErr Val × Nat) × Host
  | [], h => ([], h)
  | op :: ops, h =>
    let x := runOp op h
    let y := runOps ops x.2
    ((x.1, x.2.status) :: y.1, y.2)

/-- the abstract specification of a list of operations on the device -/
def specOps (ce usb : Bool) : List Op → Dev → Option (List (Except HErr Val × Nat) × Dev)
  | [], d => some ([], d)
  | op :: ops, d =>
    match specOp ce usb d op with
    | none => none
    | some (d1, r, st) =>
      match specOps ce usb ops d1 with
      | none => none
      | some (rs, d2) => some ((r, st) :: rs, d2)

/-- `no_fault_refines`: any sequence of (covered) operations, both transports, by induction over the history -/
theorem no_fault_refines (ops : List Op) (h : Host) (d d' : Dev) (rs : List (Except HErr Val × Nat))
    (hs : Synced h d) (hd : d.OK) (hmps : h.mps = some d.maxPacket) (heda : h.eda = false)
    (hargs : ∀ op ∈ ops, op.argsOK) (hspec : specOps h.cfg.cmdExc h.cfg.usb ops d = some (rs, d')) :
    ∃ h', runOps ops h = (rs, h') ∧ Synced h' d' := by
  induction ops generalizing h d rs with
  | nil => cases hspec; exact ⟨h, rfl, hs⟩
  | cons op ops ih =>
    rw [specOps] at hspec
    split at hspec
    · cases hspec
    rename_i d1 r st h1
    split at hspec
    · cases hspec
    rename_i rs2 d2 h2
    cases hspec
    have hop : op.argsOK := hargs op List.mem_cons_self
    obtain ⟨ok1, mp1, _⟩ := specOp_OK h.cfg.cmdExc h.cfg.usb d d1 op r st hd hs.idle hop h1
    obtain ⟨h', e1, s1, st1, c1, m1, ed1⟩ := Mboot.op_refines h d d1 op r st hs hd hmps heda hop h1
    obtain ⟨h'', e2, s2⟩ := ih h' d1 rs2 s1 ok1 (by rw [m1, hmps, mp1]) ed1
      (fun o ho => hargs o (List.mem_cons_of_mem _ ho)) (c1 ▸ h2)
    exact ⟨h'', by simp only [runOps, e1, e2, st1], s2⟩

/-! ### `Op.logCmd`, `Op.fuseProgram`, `Op.fuseRead`

All theorems of sections 5, 6 and 6b quantify over `Op`, hence over these operations too (silent link, truncation at every
position, bounded reads, refinement); the statements below spell out what the refinement says for them. -/

/-- the API abbreviations run exactly the packet of the generated `apiPackets` table: tag, no flag, the parameter words in
    the order of the method's `CmdPacket(...)` call -/
theorem log_cmds_packets (lc a b c d k n e f : Nat) :
    runOp (Op.updateLifeCycle lc) = simpleCmd Spec.cUpdateLifeCycle [lc] ∧
    runOp (Op.eleMessage a b c d) = simpleCmd Spec.cEleMessage [0, a, b, c, d] ∧
    runOp (Op.tpOemSetMasterShare a b c d) = simpleCmd Spec.cTrustProvisioning [Spec.tpOemSetMasterShare, a, b, c, d] ∧
    runOp (Op.tpHsmEncBlk a b k c d n e f) = simpleCmd Spec.cTrustProvisioning [Spec.tpHsmEncBlock, a, b, k, c, d, n, e, f] :=
  ⟨rfl, rfl, rfl, rfl⟩

/-- `update_life_cycle` / `ele_message` / `tp_oem_set_master_share` / `tp_hsm_enc_blk` without faults, both transports: the
    device received exactly one command with exactly the caller's words (it is appended to the device's command log), the
    call returns `True` with status SUCCESS -/
theorem log_cmd_refines (h : Host) (d : Dev) (t : Nat) (ps : List Nat)
    (hs : Synced h d) (hd : d.OK) (hmps : h.mps = some d.maxPacket) (heda : h.eda = false)
    (hargs : (Op.logCmd t ps).argsOK)
    (ht : t = Spec.cUpdateLifeCycle ∨ t = Spec.cEleMessage ∨
      (t = Spec.cTrustProvisioning ∧ (ps.head? = some Spec.tpOemSetMasterShare ∨ ps.head? = some Spec.tpHsmEncBlock))) :
    ∃ h', runOp (.logCmd t ps) h = (.ok (.bool true), h') ∧ Synced h' (d.logged t ps) ∧ h'.status = Spec.stSuccess := by
  have hspec : specOp h.cfg.cmdExc h.cfg.usb d (.logCmd t ps) = some (d.logged t ps, .ok (.bool true), Spec.stSuccess) := by
    simp only [specOp, if_pos ht]
  obtain ⟨h', e, s, st, _⟩ := Mboot.op_refines h d _ _ _ _ hs hd hmps heda hargs hspec
  exact ⟨h', e, s, st⟩

/-- `fuse_program(address, data, mem_id)` without faults, both transports, every length and packet size: the device
    received the command (address, length, clamped id — recorded) and then exactly `data`, once and in order, in
    `⌈len/maxPacket⌉` accepted packets; the call returns `True` -/
theorem fuse_program_refines (h : Host) (d : Dev) (a : Nat) (data : Bytes) (m : Nat)
    (hs : Synced h d) (hd : d.OK) (hmps : h.mps = some d.maxPacket) (heda : h.eda = false)
    (hargs : (Op.fuseProgram a data m).argsOK) :
    ∃ h' d', runOp (.fuseProgram a data m) h = (.ok (.bool true), h') ∧ Synced h' d' ∧ h'.status = Spec.stSuccess ∧
      d'.sb = data ∧ d'.pktCount = (split d.maxPacket data).length ∧
      d'.log = d.log ++ [(Spec.cFuseProgram, [a, data.length, clampMemId m])] ∧ d'.mem = d.mem := by
  obtain ⟨h', e, s, st, _⟩ := Mboot.op_refines h d _ (.fuseProgram a data m) _ _ hs hd hmps heda hargs rfl
  exact ⟨h', _, e, s, st, rfl, rfl, rfl, rfl⟩

/-- `fuse_read(address, length, mem_id)` without faults: the bytes returned are exactly the device's bytes of the requested
    range, completely; a range the device refuses gives `None` (or raises `McuBootCommandError`) with the device's status -/
theorem fuse_read_refines (h : Host) (d : Dev) (a n m : Nat)
    (hs : Synced h d) (hd : d.OK) (hmps : h.mps = some d.maxPacket) (heda : h.eda = false)
    (hargs : (Op.fuseRead a n m).argsOK) :
    ∃ h', Synced h' { d with ncmd := d.ncmd + 1, pktCount := 0 } ∧
      (a + n ≤ d.resource.length →
        runOp (.fuseRead a n m) h = (.ok (.bytes ((d.resource.drop a).take n)), h') ∧ h'.status = Spec.stSuccess) ∧
      (¬ a + n ≤ d.resource.length →
        runOp (.fuseRead a n m) h = (specFail h.cfg.cmdExc Spec.stMemoryRangeInvalid .none, h') ∧
          h'.status = Spec.stMemoryRangeInvalid) := by
  by_cases hc : a + n ≤ d.resource.length
  · have hspec : specOp h.cfg.cmdExc h.cfg.usb d (.fuseRead a n m) =
        some ({ d with ncmd := d.ncmd + 1, pktCount := 0 }, .ok (.bytes ((d.resource.drop a).take n)), Spec.stSuccess) := by
      simp only [specOp, if_pos hc]
    obtain ⟨h', e, s, st, _⟩ := Mboot.op_refines h d _ _ _ _ hs hd hmps heda hargs hspec
    exact ⟨h', s, fun _ => ⟨e, st⟩, fun x => absurd hc x⟩
  · have hspec : specOp h.cfg.cmdExc h.cfg.usb d (.fuseRead a n m) =
        some ({ d with ncmd := d.ncmd + 1, pktCount := 0 }, specFail h.cfg.cmdExc Spec.stMemoryRangeInvalid .none,
              Spec.stMemoryRangeInvalid) := by
      simp only [specOp, if_neg hc]
    obtain ⟨h', e, s, st, _⟩ := Mboot.op_refines h d _ _ _ _ hs hd hmps heda hargs hspec
    exact ⟨h', s, fun x => absurd x hc, fun _ => ⟨e, st⟩⟩

/-- `enable_data_abort` after an aborted operation: `receive_sb_file(check_errors=c)` resets it only on normal return -/
def abortEda (ce : Bool) : Op → Bool
  | .receiveSbFile _ c => ce && c
  | _ => false

/-- **the device aborts a host→device data phase** (the `receive_sb_file` abort path; also write_memory and
    kp_write_key_store): serial link — ABORT frame instead of the ACK of packet `k+1`; USB-HID — a zero-length report,
    noticed before the next packet (`check_errors=True`) or at the final read.  Exactly the `k` packets before the abort took
    effect on the device, the operation returns `False` (raises `McuBootCommandError(AbortDataPhase)` with
    `cmd_exception`), `status_code` is the device's AbortDataPhase, and host and device are in step again. -/
theorem abort_refines (h : Host) (d d' : Dev) (op : Op) (res : Except HErr Val) (st k : Nat)
    (hs : Synced h d) (hmp : 0 < d.maxPacket ∧ d.maxPacket < 65536) (hmem : d.mem.length < 4294967296)
    (hnf : d.faults = []) (hab : d.abortAfter = some k) (himg : d.imageMode = false)
    (hmps : h.mps = some d.maxPacket) (heda : h.eda = false) (hargs : op.argsOK)
    (hspec : specAbort h.cfg.cmdExc d k op = some (d', res, st)) :
    ∃ h', runOp op h = (res, h') ∧ Synced h' d' ∧ h'.status = st ∧ h'.cfg = h.cfg ∧ h'.mps = h.mps ∧
      h'.eda = abortEda h.cfg.cmdExc op := by
  obtain ⟨h', a, b, c, e, f, g⟩ := Mboot.abort_refines h d d' op res st k hs hmp hmem hnf hab himg hmps heda hargs hspec
  refine ⟨h', a, b, c, e, f, ?_⟩
  cases op <;> exact g

/-! ## 6b. bounded time -/

/-- `bounded`: on ANY replayed stream (well-formed or garbage, both transports, strict or partial reads) an operation
    makes at most `pending + dataLen + 16` calls of `device.read`, where `pending` is what the stream can deliver and
    `dataLen` the number of bytes of the host→device data phase: there is no unbounded retry loop (the 0x00 "not ready"
    skipping consumes the stream; the number of failed reads is at most the number of data packets plus a constant). -/
theorem reads_bounded (h : Host) (op : Op) (hpeer : (∃ cs, h.peer = .script cs) ∨ h.peer = .none) :
    (runOp op h).2.reads ≤ h.reads + h.pending + op.dataLen + 16 :=
  Bound.reads_bounded h op hpeer

/-! ## 7. SDP (Model/Sdp.lean): serial protocol and USB-HID, against a reference i.MX ROM -/

theorem gen_sdp_constants_agree :
    Generated.SdpConsts.commandTags =
      [("READ_REGISTER", Sdp.Spec.cReadRegister), ("WRITE_REGISTER", Sdp.Spec.cWriteRegister), ("WRITE_FILE", Sdp.Spec.cWriteFile),
       ("ERROR_STATUS", Sdp.Spec.cErrorStatus), ("WRITE_CSF", Sdp.Spec.cWriteCsf), ("WRITE_DCD", Sdp.Spec.cWriteDcd),
       ("JUMP_ADDRESS", Sdp.Spec.cJumpAddress), ("SKIP_DCD_HEADER", Sdp.Spec.cSkipDcdHeader), ("SET_BAUDRATE", 0x0D0D), ("PING", 0x5AA6)] ∧
    Generated.SdpConsts.responseValues =
      [("BAUDRATE_SET", 0x09D00D90), ("LOCKED", Sdp.Spec.rLocked), ("WRITE_DATA_OK", Sdp.Spec.rWriteDataOk),
       ("UNLOCKED", Sdp.Spec.rUnlocked), ("WRITE_FILE_OK", Sdp.Spec.rWriteFileOk),
       ("SKIP_DCD_HEADER_OK", Sdp.Spec.rSkipDcdHeaderOk), ("HAB_SUCCESS", 0xF0F0F0F0)] ∧
    Generated.SdpConsts.statusCodes =
      [("SUCCESS", Sdp.Spec.stSuccess), ("CMD_FAILURE", 1), ("HAB_IS_LOCKED", Sdp.Spec.stHabIsLocked), ("READ_DATA_FAILURE", 10),
       ("WRITE_REGISTER_FAILURE", Sdp.Spec.stWriteRegisterFailure), ("WRITE_IMAGE_FAILURE", Sdp.Spec.stWriteImageFailure),
       ("WRITE_DCD_FAILURE", Sdp.Spec.stWriteDcdFailure), ("WRITE_CSF_FAILURE", Sdp.Spec.stWriteCsfFailure),
       ("SKIP_DCD_HEADER_FAILURE", Sdp.Spec.stSkipDcdHeaderFailure)] ∧
    Generated.SdpConsts.cmdPacketEndian = "big" ∧ Generated.SdpConsts.cmdPacketWidths = [2, 4, 1, 4, 4, 1] ∧
    Generated.SdpConsts.readBlock = Sdp.Spec.maxRead ∧
    Generated.SdpConsts.hidReports =
      [("CMD", Sdp.Spec.ridCmd, Sdp.Spec.defaultPackSize), ("DATA", Sdp.Spec.ridData, Sdp.Spec.defaultPackSize),
       ("HAB", Sdp.Spec.ridHab, 4), ("RET", Sdp.Spec.ridRet, Sdp.Spec.retSize)] ∧
    Generated.SdpConsts.sdpsSignatures.lookup "CBW_BLTC_SIGNATURE" = some Sdp.Spec.cbwSignature ∧
    Generated.SdpConsts.sdpsCommandTags = [("FW_DOWNLOAD", Sdp.Spec.cbwFwDownload)] ∧
    Generated.SdpConsts.sdpsCommandFlags.lookup "HOST_TO_DEVICE_DIR" = some 0 ∧
    Generated.SdpConsts.sdpsCmdFormat = "<IIIBxxbIxxxxxxxxxxx" :=
  ⟨rfl, rfl, rfl, rfl, rfl, rfl, rfl, by decide +kernel, rfl, by decide +kernel, rfl⟩

/-- the 16-byte SDP command packet (`">HIB2IB"`) is decoded by the ROM to the same fields -/
theorem sdp_cmd_roundtrip (c : Sdp.Cmd) (h : c.fits) : Sdp.parseCmd c.encode = some c ∧ c.encode.length = 16 :=
  ⟨Sdp.parseCmd_encode c h, Sdp.encode_length c⟩

/-- missing response / stream cut off: on a silent link every SDP operation (serial protocol and USB-HID) raises SdpConnectionError -/
theorem sdp_silent_link_raises (h : Sdp.Host) (op : Sdp.Op) (hs : Sdp.Silent h)
    (hop : ∀ nc ps d, op ≠ .sdpsWriteFile nc ps d) : (Sdp.runOp op h).1 = .error .conn :=
  Sdp.runOp_silent h op hs hop

/-- device error status: `write` / `skip_dcd` report `True` only if the status word read is the OK value -/
theorem sdp_true_needs_ok_status (st okv failSt : Nat) (h h' : Sdp.Host)
    (hr : Sdp.statusTail st okv failSt h = (.ok (.bool true), h')) : st = okv :=
  Sdp.statusTail_true st okv failSt h h' hr

/-- bytes read are returned completely: whatever the stream, `_read_data` returns exactly `length` bytes or raises -/
theorem sdp_read_data_complete (length : Nat) (d : Bytes) (h h' : Sdp.Host)
    (hr : Sdp.readData length h = (.ok d, h')) : d.length = length :=
  Sdp.readDataLoop_length length (length + h.rxR.length + h.fuelHint + 1) [] d h h' hr

/-- `sdp_op_refines`: one SDP operation (read / write register, write file / dcd / csf, skip dcd, jump, read status) in closed
    loop with the reference i.MX ROM — over `SDPSerialProtocol` and over `SDPBulkProtocol` (USB-HID reports) — has exactly
    the effect `Sdp.specOp` defines: read bytes are the ROM's memory for every length (64-byte blocks), written bytes are in
    ROM memory once and in order, a refused write / file reports `False` (or raises) with the failure status, `status_code`
    and `hab_status` mirror the HAB word, and host and ROM are in step again -/
theorem sdp_op_refines (h : Sdp.Host) (r r' : Sdp.Rom) (op : Sdp.Op) (res : Except Sdp.SErr Sdp.Val) (st hab : Nat)
    (hs : Sdp.Synced h r) (hr : r.OK) (hargs : op.argsOK) (hspec : Sdp.specOp h.ce r op = some (r', res, st, hab)) :
    ∃ h', Sdp.runOp op h = (res, h') ∧ Sdp.Synced h' r' ∧ h'.status = st ∧ h'.hab = hab ∧ h'.ce = h.ce ∧ h'.tr = h.tr ∧
      h'.packSize = h.packSize :=
  Sdp.sdp_op_refines h r r' op res st hab hs hr hargs hspec

/-- `sdp_no_fault_refines`: any sequence of SDP operations, by induction over the history -/
theorem sdp_no_fault_refines (ops : List Sdp.Op) (h : Sdp.Host) (r r' : Sdp.Rom)
    (rs : List (Except Sdp.SErr Sdp.Val × Nat × Nat))
    (hs : Sdp.Synced h r) (hr : r.OK) (hargs : ∀ op ∈ ops, op.argsOK) (hspec : Sdp.specOps h.ce ops r = some (rs, r')) :
    ∃ h', Sdp.runOps ops h = (rs, h') ∧ Sdp.Synced h' r' :=
  Sdp.sdp_no_fault_refines ops h r r' rs hs hr hargs hspec

/-- SDPS / SDP-over-HID framing: the reports carry exactly the image once and in order, each `1 + size` bytes with the
    report id first, `⌈len/size⌉` of them -/
theorem sdps_reports_deliver (rid size : Nat) (b : Bytes) (hs : 0 < size) :
    (((Sdp.hidFrames rid size b).map (List.drop 1)).flatten.take b.length = b) ∧
    (∀ f ∈ Sdp.hidFrames rid size b, f.length = 1 + size ∧ f.head? = some (UInt8.ofNat rid)) ∧
    ((Sdp.hidFrames rid size b).length = (b.length + size - 1) / size) :=
  Sdp.hidFrames_deliver rid size b hs

/-! ### 7b. SDP fault side and SDPS end-to-end (Proofs/SdpFault.lean)

`Sdp.succeeded r`: nothing raised and the value is not `False` (SDP's `status_code` may legitimately be HAB_IS_LOCKED on a
successful call, so it is not part of SDP's observable success); `Sdp.observable` = (result, status_code, hab_status, every
byte written). -/

/-- **wrong status word** (write_file / write_dcd / write_csf): `_send_data` returns `True` only if the status word read
    from the ROM is the OK value of that command — on ANY device→host stream, both transports -/
theorem sdp_send_data_true_needs_ok (c : Sdp.Cmd) (data : Sdp.Bytes) (h h' : Sdp.Host)
    (hr : Sdp.sendData c data h = (.ok true, h')) :
    (c.tag = Sdp.Spec.cWriteFile → h'.cmdStatus = Sdp.Spec.rWriteFileOk) ∧
    (c.tag = Sdp.Spec.cWriteDcd → h'.cmdStatus = Sdp.Spec.rWriteDataOk) ∧
    (c.tag = Sdp.Spec.cWriteCsf → h'.cmdStatus = Sdp.Spec.rWriteDataOk) :=
  Sdp.sendData_true_ok c data h h' hr

/-- **truncated / dropped answer, at EVERY byte position** (`SDPSerialProtocol`): the ROM→host byte stream — whatever it
    contains — is cut after `k` bytes, for every `k` and every SDP operation: the call is observably the run on the full
    stream, or it does not succeed (`Sdp.succeeded`: it raises or returns `False`) -/
theorem sdp_truncation_safe_serial (h : Sdp.Host) (op : Sdp.Op) (k : Nat) (cs : List (List Sdp.Bytes))
    (htr : h.tr = .serial) (hpeer : h.peer = .script cs) :
    Sdp.observable (Sdp.runOp op (h.truncate k)) = Sdp.observable (Sdp.runOp op h) ∨
      ¬ Sdp.succeeded (Sdp.runOp op (h.truncate k)).1 :=
  Sdp.truncation_safe_serial h op k cs htr hpeer

/-- … and over USB-HID (`SDPBulkProtocol` report framing): the stream is cut after any number of whole reports (dropped
    reports; a report shorter than a status word makes `CmdResponse.value` raise, see `Sdp.respValue`) -/
theorem sdp_truncation_safe_hid (h : Sdp.Host) (op : Sdp.Op) (k : Nat) (cs : List (List Sdp.Bytes))
    (htr : h.tr = .hid) (hpeer : h.peer = .script cs) :
    Sdp.observable (Sdp.runOp op (h.truncateHid k)) = Sdp.observable (Sdp.runOp op h) ∨
      ¬ Sdp.succeeded (Sdp.runOp op (h.truncateHid k)).1 :=
  Sdp.truncation_safe_hid h op k cs htr hpeer

/-- **SDPS.write_file / SDP-over-HID chunking, end to end**: over USB-HID the call writes exactly the command-block reports
    (unless the family's ROM takes none) followed by the data reports of the family's pack size, nothing else, reads
    nothing and returns; with `sdps_reports_deliver` the data reports carry the image once and in order -/
theorem sdps_write_file_delivers (noCmd : Bool) (ps : Nat) (data : Sdp.Bytes) (h : Sdp.Host) (htr : h.tr = .hid)
    (hps : 0 < ps) (hlen : data.length < 2 ^ 32) :
    ∃ h', Sdp.runOp (.sdpsWriteFile noCmd ps data) h = (.ok .none, h') ∧ h'.packSize = ps ∧
      h'.txRev = (Sdp.hidFrames Sdp.Spec.ridData ps data).reverse ++
                 (if noCmd then [] else (Sdp.hidFrames Sdp.Spec.ridCmd ps (Sdp.cbw data.length)).reverse) ++ h.txRev ∧
      ((Sdp.hidFrames Sdp.Spec.ridData ps data).map (List.drop 1)).flatten.take data.length = data := by
  obtain ⟨h', e, p, t⟩ := Sdp.sdpsWriteFile_delivers noCmd ps data h htr hps (by simpa using hlen)
  exact ⟨h', e, p, t, (Sdp.hidFrames_deliver Sdp.Spec.ridData ps data hps).1⟩

/-! ## 8. property values are decoded as the device sent them (`parse_property_value`, Model/MbootProps.lean) -/

def className : MbootProps.PClass → String × List Nat
  | .version => ("VersionValue", [1])
  | .peripherals => ("AvailablePeripheralsValue", [1])
  | .int => ("IntValue", [1])
  | .commands => ("AvailableCommandsValue", [1])
  | .enum => ("EnumValue", [1])
  | .bool tv => ("BoolValue", tv)
  | .regions => ("ReservedRegionsValue", [1])
  | .uid => ("DeviceUidValue", [1])
  | .extMem => ("ExternalMemoryAttributesValue", [1])
  | .irq => ("IrqNotifierPinValue", [1])
  | .fuseLock => ("FuseLockedStatus", [1])
  | .intList => ("IntListValue", [1])

/-- the `PROPERTIES` dict regenerated from the source is the model's `classOf`, for every tag byte
    (a tag without an entry is decoded as `PropertyTag.UNKNOWN`), and the enum lists the decoders iterate over agree -/
theorem gen_property_table_agrees :
    (List.range 256).all (fun t =>
      ((Generated.MbootProps.propertyClasses.lookup t).getD
        ((Generated.MbootProps.propertyClasses.lookup 255).getD ("?", []))) == className (MbootProps.classOf t)) = true ∧
    Generated.MbootConsts.commandTags.map (·.2) = MbootProps.allCommandTags ∧
    Generated.MbootProps.peripheryTags.map (·.2) = MbootProps.allPeripheryTags ∧
    Generated.MbootProps.extMemPropTags.map (·.2) = [0, 1, 2, 4, 8, 16] := by decide +kernel

/-- a version word whose mark byte is an upper-case letter or zero is reported exactly (`VersionValue.to_int()`);
    any other mark byte is dropped by `Version.from_int` — e.g. `0x20010203` is reported as `0x00010203` -/
theorem version_reported_as_sent (v : Nat) (hv : v < 2 ^ 32)
    (hm : (64 < v / 2 ^ 24 ∧ v / 2 ^ 24 < 91) ∨ v / 2 ^ 24 = 0) :
    (MbootProps.Version.fromInt v).toInt = v :=
  MbootProps.toInt_fromInt v (by simpa using hv) (by simpa using hm)

/-- version comparison is the lexicographic order of (major, minor, fixation), the mark is ignored -/
theorem version_order (a b : Nat) :
    (MbootProps.Version.fromInt a).le (MbootProps.Version.fromInt b) =
      decide (a % 2 ^ 24 ≤ b % 2 ^ 24) := by
  -- the three low bytes of `v`, put together again, are `v mod 2^24` (`omega` is slow on these literals)
  have low (v : Nat) : v / 2 ^ 16 % 256 * 65536 + v / 2 ^ 8 % 256 * 256 + v % 256 = v % 2 ^ 24 := by
    show v / (256 * 256) % 256 * (256 * 256) + v / 256 % 256 * 256 + v % 256 = v % (256 * (256 * 256))
    rw [Nat.mod_mul, Nat.mod_mul, Nat.div_div_eq_div_mul]
    generalize v / (256 * 256) % 256 = x, v / 256 % 256 = y, v % 256 = z
    omega
  obtain ⟨_, a2, a3, _⟩ := MbootProps.fromInt_fields a
  obtain ⟨_, b2, b3, _⟩ := MbootProps.fromInt_fields b
  rw [MbootProps.Version.le, MbootProps.toInt_noMark _ a2 a3, MbootProps.toInt_noMark _ b2 b3]
  simp only [MbootProps.Version.fromInt, MbootProps.shr_mod, low]

/-- reserved regions: exactly the device's `(start, end)` pairs with a non-zero end, in order; an odd word count is refused -/
theorem reserved_regions_as_sent (ps : List (Nat × Nat)) (x : Nat) :
    MbootProps.regionsOf (ps.flatMap (fun q => [q.1, q.2])) = .ok (ps.filter (fun q => q.2 ≠ 0)) ∧
    MbootProps.regionsOf (ps.flatMap (fun q => [q.1, q.2]) ++ [x]) = .error .other :=
  ⟨MbootProps.regionsOf_pairs ps, MbootProps.regionsOf_odd ps x⟩

/-- available commands: a command tag is listed iff it is a known tag and its bit `tag − 1` is set in the device's word -/
theorem available_commands_as_sent (v t : Nat) :
    t ∈ MbootProps.commandTagsOf MbootProps.allCommandTags v ↔
      t ∈ MbootProps.allCommandTags ∧ 0 < t ∧ v.testBit (t - 1) = true :=
  MbootProps.mem_commandTagsOf _ v t

/-- the unique device id bytes decode back to exactly the device's words -/
theorem device_uid_as_sent (raw : List Nat) (h : ∀ w ∈ raw, w < 2 ^ 32) :
    MbootProps.fromLe4 (MbootProps.uidBytes raw) = raw :=
  MbootProps.fromLe4_uidBytes raw (fun w hw => by simpa using h w hw)

/-! ## non-vacuity and sanity examples -/

example : (MbootProps.Version.fromInt 0x20010203).toInt = 0x00010203 := by decide +kernel
example : MbootProps.parseProperty 0x0C [1, 2, 3, 0, 5, 6] = .ok (.regions [(1, 2), (5, 6)]) := by decide +kernel

/-- a concrete device / host pair satisfying every hypothesis of the refinement theorems, and a history on it -/
def exDev : Dev := { mem := [1, 2, 3, 4, 5, 6, 7, 8, 9, 10], maxPacket := 4, props := [(1, 77)], rwProps := [10] }
def exHost : Host := { mps := some 4, peer := .live exDev }
example : Synced exHost exDev := ⟨rfl, rfl, rfl, rfl, rfl⟩
example : exDev.OK := ⟨by decide, by decide, by decide, rfl, by decide, by decide, rfl, by decide⟩
example : specOps false false [.writeMemory 2 [9, 9, 9, 9, 9] 0, .readMemory 0 10 0 false, .readMemory 8 3 0 false] exDev =
    some ([(.ok (.bool true), 0), (.ok (.bytes [1, 2, 9, 9, 9, 9, 9, 8, 9, 10]), 0), (.ok .none, 10200)],
          { exDev with mem := [1, 2, 9, 9, 9, 9, 9, 8, 9, 10], ncmd := 3 }) := by decide +kernel

example : specAbort false { mem := [1, 2, 3, 4, 5, 6], maxPacket := 2, abortAfter := some 1 } 1 (.writeMemory 1 [9, 9, 9, 9] 0) =
    some ({ mem := [1, 9, 9, 4, 5, 6], maxPacket := 2, abortAfter := some 1, ncmd := 1, pktCount := 1 }, .ok (.bool false),
          Spec.stAbortDataPhase) := by decide +kernel
-- the hypotheses of `log_cmd_refines` / `fuse_*_refines` are satisfiable on the example device
example : (Op.tpHsmEncBlk 1 2 0x10 3 4 1 5 6).argsOK := ⟨by decide, by decide, by decide⟩
example : (Op.fuseProgram 4 [1, 2, 3, 4, 5] 9).argsOK ∧ (Op.fuseRead 0 4 0).argsOK :=
  ⟨⟨by decide, by decide, by decide⟩, ⟨by decide, by decide, by decide⟩⟩
example : specOps false false [Op.updateLifeCycle 0x5A, .fuseProgram 4 [1, 2, 3, 4, 5] 9, .fuseRead 1 2 0, .fuseRead 3 9 0]
      { exDev with resource := [7, 8, 9, 10] } =
    some ([(.ok (.bool true), 0), (.ok (.bool true), 0), (.ok (.bytes [8, 9]), 0), (.ok .none, 10200)],
          { exDev with resource := [7, 8, 9, 10], sb := [1, 2, 3, 4, 5], ncmd := 4, pktCount := 0,
                       log := [(0x18, [0x5A]), (0x14, [4, 5, 0])] }) := by decide +kernel
example : crc16 [0x31, 0x32, 0x33, 0x34, 0x35, 0x36, 0x37, 0x38, 0x39] = 0x31C3 := by decide +kernel
-- the ping response of the bootloader reference manual
example : pingResponse 0x50010300 0 = [0x5A, 0xA7, 0x00, 0x03, 0x01, 0x50, 0x00, 0x00, 0xFB, 0x40] := by decide +kernel
example : Corrupted Spec.fData [1, 2, 3] Spec.fData (frameCrc Spec.fData [1, 2, 3]) [1, 7, 3] :=
  .payload [1] [3] 2 7 rfl (by decide)
example : Starved { peer := .script [[[]], []] } := ⟨rfl, by simp, by simp [Peer.silent]⟩
example : (⟨Spec.cWriteMemory, 1, [0x20000000, 512, 0]⟩ : CmdPkt).WF := ⟨by decide, by decide, by decide, by decide⟩
example : split 4 [1, 2, 3, 4, 5, 6, 7, 8, 9] = [[1, 2, 3, 4], [5, 6, 7, 8], [9]] := by decide +kernel
example : (⟨Sdp.Spec.cReadRegister, 0x20000000, 32, 4, 0⟩ : Sdp.Cmd).fits := by decide +kernel
example : (⟨Sdp.Spec.cReadRegister, 0x20000000, 32, 4, 0⟩ : Sdp.Cmd).encode =
    [0x01, 0x01, 0x20, 0, 0, 0, 0x20, 0, 0, 0, 4, 0, 0, 0, 0, 0] := by decide +kernel
example : Sdp.Synced { peer := .live { mem := [1, 2, 3] } } { mem := [1, 2, 3] } :=
  ⟨Or.inl ⟨rfl, rfl⟩, rfl, rfl, rfl, rfl, by decide⟩
example : Sdp.specOps false [.writeFile 1 [9, 9], .read 0 3 32] { mem := [1, 2, 3] } =
    some ([(.ok (.bool true), 0, Sdp.Spec.rUnlocked), (.ok (.bytes [1, 9, 9]), 0, Sdp.Spec.rUnlocked)],
          { mem := [1, 9, 9], ncmd := 2 }) := by decide +kernel
example : Sdp.Silent {} := ⟨rfl, by simp, [], rfl, by simp⟩
-- hypotheses of the SDP fault theorems are satisfiable; a cut stream raises, the full one succeeds
example : ({ peer := .script [[Sdp.be 4 Sdp.Spec.rUnlocked, Sdp.be 4 Sdp.Spec.rWriteDataOk]] } : Sdp.Host).tr = .serial ∧
    (Sdp.runOp (.write 0 1 4 32) { peer := .script [[Sdp.be 4 Sdp.Spec.rUnlocked, Sdp.be 4 Sdp.Spec.rWriteDataOk]] }).1 = .ok (.bool true) ∧
    (Sdp.runOp (.write 0 1 4 32)
      (({ peer := .script [[Sdp.be 4 Sdp.Spec.rUnlocked, Sdp.be 4 Sdp.Spec.rWriteDataOk]] } : Sdp.Host).truncate 6)).1 = .error .conn := by
  decide +kernel
example : (Sdp.sendData ⟨Sdp.Spec.cWriteFile, 0, 0, 2, 0⟩ [1, 2]
    { peer := .script [[], [Sdp.be 4 Sdp.Spec.rUnlocked, Sdp.be 4 Sdp.Spec.rWriteFileOk]] }).1 = .ok true := by decide +kernel
example : ({ tr := .hid } : Sdp.Host).tr = .hid ∧ (0 : Nat) < 4 ∧ ([1, 2, 3, 4, 5] : Sdp.Bytes).length < 2 ^ 32 := by decide +kernel

end SpsdkVerif.C10
