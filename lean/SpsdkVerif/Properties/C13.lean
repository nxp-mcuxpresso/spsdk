/-
C13 — Flash encryption (OTFAD, IEE, BEE): the hardware decrypts what SPSDK encrypts.

Model: Model/FlashEnc.lean — SOFTWARE side as coded in spsdk/utils/crypto/otfad.py, iee.py, spsdk/image/bee.py
(with proposed_fixes/C13-1..4); Spec/FlashEncHw.lean — HARDWARE side written independently from the engine
descriptions; everything over an abstract `c : CryptoOps`.  Tied to /repo by harness/props/C13.py (correspondence on
generated images / blobs / regions, and the compiled hardware model applied to SPSDK's own ciphertext and exported key
blobs).  Specification vocabulary: Proofs/FlashEncDefs.lean.  Proofs: Proofs/FlashEnc*.lean.

Every theorem holds for EVERY `c` with `CryptoLaws c` (all keys, counters, images, lengths, addresses): no AES needed.
-/
import SpsdkVerif.Proofs.FlashEncOtfad
import SpsdkVerif.Proofs.FlashEncKeyBlob
import SpsdkVerif.Proofs.FlashEncIee
import SpsdkVerif.Proofs.FlashEncIeeX
import SpsdkVerif.Proofs.FlashEncBee
import SpsdkVerif.Proofs.FlashEncBeeHdr
import SpsdkVerif.Proofs.FlashEncSb21

namespace SpsdkVerif.C13
open SpsdkVerif SpsdkVerif.Crypto SpsdkVerif.FlashEnc
open SpsdkVerif.Misc (beEnc beDec leEnc leDec)
open SpsdkVerif.Generated.FlashEncConsts

variable {c : CryptoOps}

/-! ## The source constants equal the engine-side values the hardware model is written with -/

theorem consts_agree :
    otfadStartAddrMask = 0x3FF ∧ otfadEndAddrMask = 0x3F8 ∧ otfadKeyFlagMask = 7 ∧ otfadFlagRO = 4 ∧ otfadFlagADE = 2
    ∧ otfadFlagVLD = 1 ∧ otfadKeySize = 16 ∧ otfadCtrSize = 8 ∧ otfadExportIvSize = 8 ∧ otfadExportNBlocks = 5
    ∧ otfadExportBlobSize = 64 ∧ otfadEncBlockSize = 16 ∧ otfadDataUnit = 1024 ∧ otfadWrappedLen = 40
    ∧ otfadTableAlign = 256
    ∧ otfadCtrIncrement = 16
    ∧ ieeLock = 0x95 ∧ ieeUnlock = 0x59 ∧ ieeKey128 = 0x5A ∧ ieeKey256 = 0xA5 ∧ ieeModeBypass = 0x6A ∧ ieeModeXts = 0xA6
    ∧ ieeModeCtrAddr = 0x66 ∧ ieeModeCtrNoAddr = 0xAA ∧ ieeModeCtrKeystream = 0x19
    ∧ ieeHeaderTag = 0x49454542 ∧ ieeKeyblobVersion = 0x56010000 ∧ ieeXtsBlockSize = 4096 ∧ ieeEncBlockSize = 16
    ∧ ieeDataUnit = 4096 ∧ ieeKeyBlobsSize = 384 ∧ ieeKeyFieldSize = 32
    ∧ beeEncrBlockSize = 1024 ∧ beeFacRegions = 4
    ∧ beeTagL = 0x5F474154 ∧ beeTagH = 0x52444845 ∧ beeVersion = 0x56010000 ∧ beePrdbSize = 0x100
    ∧ beeHdrPrdbOffset = 0x80 ∧ beeHdrSize = 0x200 ∧ beeModeCtr = 1
    ∧ crcMpegParams = Crc.crc32Mpeg2 := by
  decide

/-- The context registers the ROM gets from a well-formed key blob describe exactly the blob's address window
    (`start … (end-1) | 0x3FF`, for the inclusive `0x…3FF` and the exclusive `0x…400` way of writing the end alike)
    and its VLD / ADE flags, key and counter. -/
theorem otfad_ctx_range (kb : KeyBlob) (h : kb.WF) (a : Nat) :
    kb.ctx.hit a = (kb.vld && kb.containsAddr a) ∧ kb.ctx.ade = kb.adeFlag ∧ kb.ctx.key = kb.key ∧ kb.ctx.ctr = kb.ctr :=
  FlashEnc.otfad_ctx_range kb h a

/-- `Otfad.encrypt_image` computes, for ANY 16-byte aligned base address, the block-wise specification: every
    16-byte block is a function of (key material, absolute address, plaintext block) only. -/
theorem otfad_refines_spec (h : CryptoLaws c) (bs : List KeyBlob) (hwf : ∀ kb ∈ bs, kb.WF) (hd : BlobsDisjoint bs)
    (base : Nat) (hb : base % 16 = 0) (img : Bytes) (swap : Bool) :
    Otfad.encryptImage c bs img base swap = .ok (otfadSpecImage c bs swap base img) :=
  FlashEnc.otfad_refines_spec h bs hwf hd swap base hb img

/-- The hardware decrypts what SPSDK encrypts: the engine, programmed with the contexts of the same key blobs,
    reads the plaintext back from the encrypted image (the image may have grown by the zero padding of a short
    last block that lies inside a region). -/
theorem otfad_hw_inverts (h : CryptoLaws c) (bs : List KeyBlob) (hwf : ∀ kb ∈ bs, kb.WF) (hd : BlobsDisjoint bs)
    (base : Nat) (hb : base % 16 = 0) (img : Bytes) (swap : Bool) :
    ∃ ct, Otfad.encryptImage c bs img base swap = .ok ct ∧
      (otfadHwReadAll c (bs.map KeyBlob.ctx) swap base ct).take img.length = img ∧
      img.length ≤ ct.length ∧ ct.length ≤ (img.length + 15) / 16 * 16 := by
  refine ⟨_, FlashEnc.otfad_refines_spec h bs hwf hd swap base hb img, ?_, ?_⟩
  · exact FlashEnc.otfad_spec_hw h bs hwf hd swap base hb img
  · exact FlashEnc.otfad_spec_length h bs swap base img

/-- … and leaves every byte outside the windows of the encrypting (ADE∧VLD) blobs untouched. -/
theorem otfad_untouched_outside (h : CryptoLaws c) (bs : List KeyBlob) (hwf : ∀ kb ∈ bs, kb.WF) (hd : BlobsDisjoint bs)
    (base : Nat) (hb : base % 16 = 0) (img : Bytes) (swap : Bool) :
    ∃ ct, Otfad.encryptImage c bs img base swap = .ok ct ∧
      ∀ i, i < img.length → (∀ kb ∈ bs, kb.isEncrypted = true → kb.containsAddr (base + i) = false) → ct[i]? = img[i]? :=
  ⟨_, FlashEnc.otfad_refines_spec h bs hwf hd swap base hb img,
    fun i hi hout => FlashEnc.otfad_spec_outside h bs hwf swap base hb img i hi hout⟩

/-- Position independence: encrypting a large image at once equals encrypting its pieces at their addresses
    (any split point that is a multiple of 16 bytes — in particular of 1 KiB). -/
theorem otfad_position_indep (h : CryptoLaws c) (bs : List KeyBlob) (hwf : ∀ kb ∈ bs, kb.WF) (hd : BlobsDisjoint bs)
    (base : Nat) (hb : base % 16 = 0) (p q : Bytes) (hp : p.length % 16 = 0) (swap : Bool) :
    ∃ a b, Otfad.encryptImage c bs p base swap = .ok a ∧ Otfad.encryptImage c bs q (base + p.length) swap = .ok b ∧
      Otfad.encryptImage c bs (p ++ q) base swap = .ok (a ++ b) := by
  refine ⟨_, _, FlashEnc.otfad_refines_spec h bs hwf hd swap base hb p,
    FlashEnc.otfad_refines_spec h bs hwf hd swap (base + p.length) (by omega) q, ?_⟩
  rw [FlashEnc.otfad_refines_spec h bs hwf hd swap base hb (p ++ q), FlashEnc.otfad_spec_append bs swap base p q hp]

/-- One exported 64-byte key-blob entry unwraps on the ROM side (undo the byte reversal, RFC 3394 unwrap with the
    KEK) to the configured key, counter, start address, end address with flags — with a valid CRC. -/
theorem keyblob_unwraps (h : CryptoLaws c) (kb : KeyBlob) (hwf : kb.WF) (hz : kb.zeroFill.length = 4) (hc : kb.crcFill = [])
    (kek : Bytes) (hk : kek.length = 16) (n : Nat) (hn : n ∈ [0, 2, 4, 8, 16]) (rnd : Bytes) :
    ∃ e, kb.export c kek n rnd = .ok e ∧ e.length = 64 ∧ otfadUnwrapEntry c kek n e = some (kb.ctx, true) :=
  FlashEnc.keyblob_unwraps h kb hwf hz hc kek hk n hn rnd

/-- KEK scrambling is an involution (the engine unscrambles with the same mask / alignment selector). -/
theorem scramble_inv (kek : Bytes) (hk : kek.length = 16) (mask align : Nat) (rev : Bool) (i : Nat) :
    scrambleKek (scrambleKek kek mask align rev i) mask align rev i = kek :=
  FlashEnc.scramble_inv kek hk mask align rev i

/-- The whole exported key-blob table unwraps, entry `i` with the KEK scrambled for index `i`. -/
theorem otfad_table_unwraps (h : CryptoLaws c) (bs : List KeyBlob)
    (hwf : ∀ kb ∈ bs, kb.WF ∧ kb.zeroFill.length = 4 ∧ kb.crcFill = [])
    (kek : Bytes) (hk : kek.length = 16) (scr : Option (Nat × Nat))
    (hscr : ∀ m a, scr = some (m, a) → m < 2 ^ 32 ∧ a < 2 ^ 8) (rev : Bool) (n : Nat) (hn : n ∈ [0, 2, 4, 8, 16]) (rnd : Bytes) :
    ∃ t, Otfad.encryptKeyBlobs c bs kek scr rev n rnd = .ok t ∧ t.length % 256 = 0 ∧
      otfadUnwrapTable c kek scr rev n bs.length 0 t = bs.map (fun kb => some (kb.ctx, true)) :=
  FlashEnc.otfad_table_unwraps h bs hwf kek hk scr hscr rev n hn rnd

theorem iee_refines_spec (h : CryptoLaws c) (bs : List IeeBlob) (hwf : ∀ b ∈ bs, b.WF) (hd : IeeDisjoint bs)
    (base : Nat) (hb : base % 4096 = 0) (img : Bytes) :
    Iee.encryptImage c bs img base = .ok (ieeSpecImage c bs base img) :=
  FlashEnc.iee_refines_spec h bs hwf hd base hb img

/-- AES-XTS 256/512: the engine (tweak = page number, little endian) returns the plaintext of a page. -/
theorem iee_xts_inverts (h : CryptoLaws c) (b : IeeBlob) (hwf : b.WF) (hm : b.mode = .xts) (a : Nat) (ha : a % 4096 = 0)
    (hin : b.start ≤ a ∧ a < b.end_) (d : Bytes) (hd : d.length ≤ 4096) :
    (ieeHwPage c [b.ctx] a (b.encPage c a d)).take d.length = d :=
  FlashEnc.iee_page_inv h b hwf (.inr (.inl hm)) a hin d

/-- AES-CTR 128/256 with address binding. -/
theorem iee_ctr_inverts (h : CryptoLaws c) (b : IeeBlob) (hwf : b.WF) (hm : b.mode = .ctrAddr) (a : Nat) (ha : a % 4096 = 0)
    (hin : b.start ≤ a ∧ a < b.end_) (d : Bytes) (hd : d.length ≤ 4096) :
    (ieeHwPage c [b.ctx] a (b.encPage c a d)).take d.length = d :=
  FlashEnc.iee_page_inv h b hwf (.inr (.inr hm)) a hin d

/-- Whole image, 1..n pairwise disjoint regions in the claimed modes (XTS, CTR with address binding, bypass). -/
theorem iee_hw_inverts (h : CryptoLaws c) (bs : List IeeBlob) (hwf : ∀ b ∈ bs, b.WF ∧ b.claimed) (hd : IeeDisjoint bs)
    (base : Nat) (hb : base % 4096 = 0) (img : Bytes) :
    ∃ ct, Iee.encryptImage c bs img base = .ok ct ∧
      (ieeHwReadAll c (bs.map IeeBlob.ctx) base ct).take img.length = img ∧
      img.length ≤ ct.length ∧ ct.length ≤ (img.length + 15) / 16 * 16 := by
  refine ⟨_, FlashEnc.iee_refines_spec h bs (fun b hb' => (hwf b hb').1) hd base hb img, ?_, ?_⟩
  · exact FlashEnc.iee_spec_hw h bs hwf base img
  · exact FlashEnc.iee_spec_length h bs base img

/-- Bytes in no region — or in a bypass region — are left as they are. -/
theorem iee_untouched_outside (h : CryptoLaws c) (bs : List IeeBlob) (hwf : ∀ b ∈ bs, b.WF) (hd : IeeDisjoint bs)
    (base : Nat) (hb : base % 4096 = 0) (img : Bytes) :
    ∃ ct, Iee.encryptImage c bs img base = .ok ct ∧
      ∀ i, i < img.length → (∀ b ∈ bs, b.mode ≠ .bypass → ¬ (b.start ≤ base + i ∧ base + i < b.end_)) → ct[i]? = img[i]? :=
  ⟨_, FlashEnc.iee_refines_spec h bs hwf hd base hb img,
    fun i hi hout => FlashEnc.iee_spec_outside h bs hwf base hb img i hi hout⟩

theorem iee_position_indep (h : CryptoLaws c) (bs : List IeeBlob) (hwf : ∀ b ∈ bs, b.WF) (hd : IeeDisjoint bs)
    (base : Nat) (hb : base % 4096 = 0) (p q : Bytes) (hp : p.length % 4096 = 0) :
    ∃ a b, Iee.encryptImage c bs p base = .ok a ∧ Iee.encryptImage c bs q (base + p.length) = .ok b ∧
      Iee.encryptImage c bs (p ++ q) base = .ok (a ++ b) := by
  refine ⟨_, _, FlashEnc.iee_refines_spec h bs hwf hd base hb p,
    FlashEnc.iee_refines_spec h bs hwf hd (base + p.length) (by omega) q, ?_⟩
  rw [FlashEnc.iee_refines_spec h bs hwf hd base hb (p ++ q), FlashEnc.iee_spec_append bs base p q hp]

/-- The encrypted key-blob area decrypts with the IBKEKs and parses back (header tag, version, CRC checked) to the
    configured key size, mode, page offset, keys and address range. -/
theorem iee_keyblobs_unwrap (h : CryptoLaws c) (bs : List IeeBlob) (hne : bs ≠ []) (hwf : ∀ b ∈ bs, b.WF)
    (k1 k2 : Bytes) (hk1 : k1.length = 32) (hk2 : k2.length = 32) (hk : k1 ≠ k2) (addr : Nat) :
    ∃ t, Iee.encryptKeyBlobs c bs k1 k2 addr = .ok t ∧
      ieeUnwrapTable c k1 k2 addr bs.length t = bs.map (fun b => some b.ctx) :=
  FlashEnc.iee_keyblobs_unwrap h bs hne hwf k1 k2 hk1 hk2 hk addr

/-- A data blob made of several segments (S-record / HEX / ELF input, nested image): for EVERY list of segments at 4 KiB
    aligned addresses, `export_image` succeeds, keeps every address, and the engine reads every segment back at ITS own
    absolute address ("pieces at their addresses"). -/
theorem iee_segments_invert (h : CryptoLaws c) (bs : List IeeBlob) (hwf : ∀ b ∈ bs, b.WF ∧ b.claimed) (hd : IeeDisjoint bs) :
    ∀ (segs : List (Nat × Bytes)), (∀ sg ∈ segs, sg.1 % 4096 = 0) →
      ∃ out, Iee.exportSegments c bs segs = .ok out ∧ out.map (·.1) = segs.map (·.1) ∧
        ∀ p ∈ out.zip segs, (ieeHwReadAll c (bs.map IeeBlob.ctx) p.2.1 p.1.2).take p.2.2.length = p.2.2
  | [], _ => ⟨[], rfl, rfl, by simp⟩
  | (a, d) :: rest, hal => by
    obtain ⟨ct, h1, h2, _⟩ := iee_hw_inverts h bs hwf hd a (hal (a, d) List.mem_cons_self) d
    obtain ⟨out, o1, o2, o3⟩ := iee_segments_invert h bs hwf hd rest (fun sg hs => hal sg (List.mem_cons_of_mem _ hs))
    refine ⟨(a, ct) :: out, ?_, ?_, ?_⟩
    · simp only [Iee.exportSegments, h1, o1]
    · simp [o2]
    · intro p hp
      rw [List.zip_cons_cons] at hp
      rcases List.mem_cons.mp hp with hp | hp
      · subst hp; exact h2
      · exact o3 p hp

theorem bee_refines_spec (h : CryptoLaws c) (hs : List (Option BeeEngine)) (hwf : ∀ e ∈ beeEngines hs, e.WF)
    (hd : BeeDisjoint (beeEngines hs)) (base : Nat) (hb : base % 16 = 0) (img : Bytes) :
    Bee.exportImage c hs img base = .ok (beeSpecImage c (beeEngines hs) base img) :=
  FlashEnc.bee_refines_spec h hs hwf hd base hb img

theorem bee_inverts (h : CryptoLaws c) (hs : List (Option BeeEngine)) (hwf : ∀ e ∈ beeEngines hs, e.WF)
    (hd : BeeDisjoint (beeEngines hs)) (base : Nat) (hb : base % 16 = 0) (img : Bytes) :
    ∃ ct, Bee.exportImage c hs img base = .ok ct ∧
      (beeHwReadAll c (beeEngines hs) base ct).take img.length = img ∧
      img.length ≤ ct.length ∧ ct.length ≤ (img.length + 15) / 16 * 16 := by
  refine ⟨_, FlashEnc.bee_refines_spec h hs hwf hd base hb img, ?_, ?_⟩
  · exact FlashEnc.bee_spec_hw h _ base img
  · exact FlashEnc.bee_spec_length h _ base img

theorem bee_untouched_outside (h : CryptoLaws c) (hs : List (Option BeeEngine)) (hwf : ∀ e ∈ beeEngines hs, e.WF)
    (hd : BeeDisjoint (beeEngines hs)) (base : Nat) (hb : base % 16 = 0) (img : Bytes) :
    ∃ ct, Bee.exportImage c hs img base = .ok ct ∧
      ∀ i, i < img.length → (∀ e ∈ beeEngines hs, ∀ f ∈ e.facs, f.hit (base + i) = false) → ct[i]? = img[i]? :=
  ⟨_, FlashEnc.bee_refines_spec h hs hwf hd base hb img,
    fun i hi hout => FlashEnc.bee_spec_outside h _ hwf base hb img i hi hout⟩

theorem bee_position_indep (h : CryptoLaws c) (hs : List (Option BeeEngine)) (hwf : ∀ e ∈ beeEngines hs, e.WF)
    (hd : BeeDisjoint (beeEngines hs)) (base : Nat) (hb : base % 16 = 0) (p q : Bytes) (hp : p.length % 16 = 0) :
    ∃ a b, Bee.exportImage c hs p base = .ok a ∧ Bee.exportImage c hs q (base + p.length) = .ok b ∧
      Bee.exportImage c hs (p ++ q) base = .ok (a ++ b) := by
  refine ⟨_, _, FlashEnc.bee_refines_spec h hs hwf hd base hb p,
    FlashEnc.bee_refines_spec h hs hwf hd (base + p.length) (by omega) q, ?_⟩
  rw [FlashEnc.bee_refines_spec h hs hwf hd base hb (p ++ q), FlashEnc.bee_spec_append _ base p q hp]

/-- The 128-bit big-endian increment `cryptography`'s CTR mode applies to `nonce ‖ BE32(v)` never carries into the
    nonce while `v + j < 2^32` … -/
theorem counter_carry (nonce : Bytes) (hn : nonce.length = 12) (v j : Nat) (hv : v + j < 2 ^ 32) :
    ctrBlock (nonce ++ beEnc 4 v) j = nonce ++ beEnc 4 (v + j) :=
  FlashEnc.counter_carry nonce hn v j hv

/-- … which is the case for every 16-byte block of a 1 KiB BEE unit at a 32-bit address (counter word = address >> 4). -/
theorem counter_carry_bee (a j : Nat) (ha : a < 2 ^ 32) (hj : j < 64) : a / 16 + j < 2 ^ 32 := by omega

/-- OTFAD: the counter block of the 16-byte block at a 32-bit address `a` is `CTR ‖ CTR_W0^CTR_W1 ‖ BE32(a)` — the
    address occupies the low word, nothing is added to the nonce part; hardware and software agree on it. -/
theorem counter_otfad (kb : KeyBlob) (h : kb.WF) (a : Nat) (ha : a % 16 = 0) :
    counterValue kb.ctrNonce a = kb.ctx.counter a :=
  FlashEnc.otfad_counter_eq kb h a ha

theorem ctxs_of_table (l : List KeyBlob) :
    (l.map (fun kb => some (kb.ctx, true))).filterMap (fun o => o.map (·.1)) = l.map KeyBlob.ctx := by
  induction l with
  | nil => rfl
  | cons x t ih => simp [ih]

/-- OTFAD end to end: the engine whose contexts the ROM unwraps from the EXPORTED key-blob table (KEK, scrambling, byte
    reversal) reads the plaintext back from the encrypted image. -/
theorem otfad_end_to_end (h : CryptoLaws c) (bs : List KeyBlob)
    (hwf : ∀ kb ∈ bs, kb.WF ∧ kb.zeroFill.length = 4 ∧ kb.crcFill = []) (hd : BlobsDisjoint bs)
    (kek : Bytes) (hk : kek.length = 16) (scr : Option (Nat × Nat))
    (hscr : ∀ m a, scr = some (m, a) → m < 2 ^ 32 ∧ a < 2 ^ 8) (rev : Bool) (n : Nat) (hn : n ∈ [0, 2, 4, 8, 16]) (rnd : Bytes)
    (base : Nat) (hb : base % 16 = 0) (img : Bytes) (swap : Bool) :
    ∃ t ct, Otfad.encryptKeyBlobs c bs kek scr rev n rnd = .ok t ∧ Otfad.encryptImage c bs img base swap = .ok ct ∧
      (otfadHwReadAll c ((otfadUnwrapTable c kek scr rev n bs.length 0 t).filterMap (fun o => o.map (·.1))) swap base ct).take
        img.length = img := by
  obtain ⟨t, ht, _, hu⟩ := otfad_table_unwraps h bs hwf kek hk scr hscr rev n hn rnd
  obtain ⟨ct, hct, hr, _⟩ := otfad_hw_inverts h bs (fun kb hkb => (hwf kb hkb).1) hd base hb img swap
  refine ⟨t, ct, ht, hct, ?_⟩
  rw [hu, ctxs_of_table]
  exact hr

theorem filterMap_id_map_some {α β : Type} (f : α → β) (l : List α) :
    (l.map (fun x => some (f x))).filterMap id = l.map f := by
  induction l with
  | nil => rfl
  | cons x t ih => simp [ih]

/-- IEE end to end: the engine whose regions the ROM parses from the EXPORTED (XTS-encrypted) key-blob area reads the
    plaintext back from the encrypted image. -/
theorem iee_end_to_end (h : CryptoLaws c) (bs : List IeeBlob) (hne : bs ≠ []) (hwf : ∀ b ∈ bs, b.WF ∧ b.claimed)
    (hd : IeeDisjoint bs) (k1 k2 : Bytes) (hk1 : k1.length = 32) (hk2 : k2.length = 32) (hk : k1 ≠ k2) (addr : Nat)
    (base : Nat) (hb : base % 4096 = 0) (img : Bytes) :
    ∃ t ct, Iee.encryptKeyBlobs c bs k1 k2 addr = .ok t ∧ Iee.encryptImage c bs img base = .ok ct ∧
      (ieeHwReadAll c ((ieeUnwrapTable c k1 k2 addr bs.length t).filterMap id) base ct).take img.length = img := by
  obtain ⟨t, ht, hu⟩ := iee_keyblobs_unwrap h bs hne (fun b hb' => (hwf b hb').1) k1 k2 hk1 hk2 hk addr
  obtain ⟨ct, hct, hr, _⟩ := iee_hw_inverts h bs hwf hd base hb img
  refine ⟨t, ct, ht, hct, ?_⟩
  rw [hu, filterMap_id_map_some]
  exact hr

/-- The exported 0x200-byte BEE region header (EKIB = AES-ECB(SW key, KIB), EPRDB = AES-CBC(KIB key, KIB IV, PRDB))
    decrypts and parses on the ROM side to the configured SW key, counter and FAC regions. -/
theorem bee_header_unwraps (hl : CryptoLaws c) (h : BeeHdr) (hw : h.WF) :
    ∃ b, h.export c = .ok b ∧ b.length = 512 ∧ beeHeaderUnwrap c h.engine.key b = some h.engine :=
  FlashEnc.bee_header_unwraps hl h hw

/-- BEE end to end: every exported region header parses back to its engine, and these engines read the plaintext
    back from the encrypted image. -/
theorem bee_end_to_end (h : CryptoLaws c) (hdrs : List BeeHdr) (hwf : ∀ x ∈ hdrs, x.WF)
    (hd : BeeDisjoint (hdrs.map (·.engine))) (base : Nat) (hb : base % 16 = 0) (img : Bytes) :
    (∀ x ∈ hdrs, ∃ b, x.export c = .ok b ∧ beeHeaderUnwrap c x.engine.key b = some x.engine) ∧
    ∃ ct, Bee.exportImage c (hdrs.map (fun x => some x.engine)) img base = .ok ct ∧
      (beeHwReadAll c (hdrs.map (·.engine)) base ct).take img.length = img := by
  have he : beeEngines (hdrs.map (fun x => some x.engine)) = hdrs.map (·.engine) := by
    unfold beeEngines; exact filterMap_id_map_some _ hdrs
  constructor
  · intro x hx
    obtain ⟨b, h1, _, h3⟩ := FlashEnc.bee_header_unwraps h x (hwf x hx)
    exact ⟨b, h1, h3⟩
  · have hwf' : ∀ e ∈ beeEngines (hdrs.map (fun x => some x.engine)), e.WF := by
      rw [he]; intro e hm
      obtain ⟨x, hx, rfl⟩ := List.mem_map.mp hm
      exact (hwf x hx).eng
    obtain ⟨ct, h1, h2, _⟩ := bee_inverts h (hdrs.map (fun x => some x.engine)) hwf' (by rw [he]; exact hd) base hb img
    exact ⟨ct, h1, by rw [he] at h2; exact h2⟩

/-- The `KeyBlob` constructor accepts exactly the well-formed blobs (key 16 bytes, counter 8 bytes, aligned start,
    `start ≤ end < 2^32`, flags within the mask) — for blobs that can be exported (`end = 0` only without flags). -/
theorem keyblob_ctor_wf (kb : KeyBlob) (he : kb.end_ = 0 → kb.flags = 0) : kb.ctorOk = true ↔ kb.WF :=
  ⟨fun h => FlashEnc.sb21_wf_of_ctorOk kb h he, FlashEnc.sb21_ctorOk_of_wf kb⟩

/-- The padding unit of the SB2.1 `encrypt` command (`sb21EncryptAlign`, 512 in the source) is a positive multiple of 16.
    `sb21_encrypt_inverts` uses no fact about it: `encrypt_image` pads to 16 bytes itself, and the engine's read is cut
    to the length of the data. -/
theorem sb21_align_ok : sb21EncryptAlign % 16 = 0 ∧ 0 < sb21EncryptAlign := by decide

/-- SB2.1 `encrypt (id) { load data > address; }` + `keywrap (id)`: the engine programmed with the context of the WRAPPED
    key blob (flags = low bits of the BD `end` value) reads the data back at the LOAD address — for every 16-byte aligned
    load address whose (512-byte padded) data fit the blob's window, whether `end` enables decryption (`…011b`) or not. -/
theorem sb21_encrypt_inverts (h : CryptoLaws c) (start end_ : Nat) (key ctr : Bytes) (swap : Bool)
    (address : Nat) (data : Bytes) (hwf : (Sb21.blob start end_ key ctr (end_ &&& otfadKeyFlagMask)).WF)
    (ha16 : address % 16 = 0) (hne : 0 < data.length)
    (hfit : Sb21.fits (Sb21.blob start end_ key ctr (end_ &&& otfadKeyFlagMask)) address
      (zeroPad sb21EncryptAlign data).length) :
    ∃ ct, Sb21.encrypt c start end_ key ctr swap address data = .ok ct ∧
      (otfadHwReadAll c [(Sb21.blob start end_ key ctr (end_ &&& otfadKeyFlagMask)).ctx] swap address ct).take data.length
        = data :=
  FlashEnc.sb21_encrypt_inverts h start end_ key ctr swap address data hwf ha16 hne hfit

/-- SB2.1 `keywrap (id)`: the wrapped blob unwraps to the blob's key, counter, range and the RO/ADE/VLD flags given in
    the low bits of the BD `end` value, with a valid CRC. -/
theorem sb21_keywrap_unwraps (h : CryptoLaws c) (start end_ : Nat) (key ctr kek rnd : Bytes)
    (hwf : (Sb21.blob start end_ key ctr (end_ &&& otfadKeyFlagMask)).WF) (hk : kek.length = 16) (hr : rnd.length = 4) :
    ∃ e, Sb21.keywrap c start end_ key ctr kek rnd = .ok e ∧ e.length = 64 ∧
      otfadUnwrapEntry c kek 0 e = some ((Sb21.blob start end_ key ctr (end_ &&& otfadKeyFlagMask)).ctx, true) :=
  FlashEnc.sb21_keywrap_unwraps h start end_ key ctr kek rnd hwf hk hr

/-! ## IEE, extended engine (`ieeHwPageX` / `ieeCtrReadX` of Spec/FlashEncHw.lean, under the assumptions A-PO and A-CTR
    stated there): the remaining CTR modes, the page-offset register, unaligned (16-byte granular) CTR starts -/

/-- AES-CTR 128/256 in ALL THREE CTR modes (with / without address binding, keystream only), for EVERY 16-byte aligned
    system address `p` (not only page aligned), every length, every initial counter (the 32-bit wrap of the counter word
    included: both sides reduce `word + (L >> 4)` mod 2^32) and every page offset: the engine, reading block by block
    from `p`, returns what SPSDK encrypted for the logical address `L = p + 4 KiB · pageOffset`. -/
theorem iee_ctr_modes_invert (h : CryptoLaws c) (b : IeeBlob) (hwf : b.WF) (hc : b.mode.isCtr = true) (p : Nat)
    (hp : p % 16 = 0) (d : Bytes) :
    ∃ ct, b.encryptImage c (b.ctx.logical p) d = .ok ct ∧ ct.length = (d.length + 15) / 16 * 16 ∧
      b.ctx.isCtrMode = true ∧ (ieeCtrReadX c b.ctx (blocksFor ct.length) p ct).take d.length = d := by
  obtain ⟨ct, h1, h2, h3⟩ := FlashEnc.ieex_ctr_any h b hwf hc p hp d
  exact ⟨ct, h1, h2, (FlashEnc.ieex_ctx_isCtrMode b hc).1, h3⟩

/-- The assumption A-CTR cannot be weakened: if ANY CTR-type engine (keystream block = AES_key1(`ctr`)) turns the block
    SPSDK wrote for address `a` back into the plaintext block, then `ctr = KEY2[127:32] ‖ BE32(KEY2[31:0] + (a >> 4))` —
    in every CTR mode, since SPSDK has one code path for the three of them. -/
theorem iee_ctr_engine_only (h : CryptoLaws c) (b : IeeBlob) (hwf : b.WF) (hc : b.mode.isCtr = true) (a : Nat)
    (ha : a % 16 = 0) (blk ctr ct : Bytes) (hblk : blk.length = 16) (hctr : ctr.length = 16)
    (henc : b.encryptImage c a blk = .ok ct) (hdec : xorBytes ct (c.encBlk (IeeCtx.word b.key1) ctr) = blk) :
    ctr = (IeeCtx.word b.key2).take 12 ++ beEnc 4 (beDec ((IeeCtx.word b.key2).drop 12) + a / 16) :=
  FlashEnc.ieex_ctr_engine_only h b hwf hc a ha blk ctr ct hblk hctr henc hdec

/-- Whole image, 1..n pairwise disjoint regions in ANY of the five modes mixed freely (page offset 0): the extended
    engine reads the plaintext back. -/
theorem iee_hw_inverts_all_modes (h : CryptoLaws c) (bs : List IeeBlob) (hwf : ∀ b ∈ bs, b.WF ∧ b.pageOffset = 0)
    (hd : IeeDisjoint bs) (base : Nat) (hb : base % 4096 = 0) (img : Bytes) :
    ∃ ct, Iee.encryptImage c bs img base = .ok ct ∧
      (ieeHwReadAllX c (bs.map IeeBlob.ctx) base ct).take img.length = img ∧
      img.length ≤ ct.length ∧ ct.length ≤ (img.length + 15) / 16 * 16 := by
  refine ⟨_, FlashEnc.iee_refines_spec h bs (fun b hb' => (hwf b hb').1) hd base hb img, ?_, ?_⟩
  · exact FlashEnc.ieex_spec_hw h bs hwf base img
  · exact FlashEnc.iee_spec_length h bs base img

/-- … end to end: the extended engine programmed from the EXPORTED key-blob area. -/
theorem iee_end_to_end_all_modes (h : CryptoLaws c) (bs : List IeeBlob) (hne : bs ≠ [])
    (hwf : ∀ b ∈ bs, b.WF ∧ b.pageOffset = 0) (hd : IeeDisjoint bs) (k1 k2 : Bytes) (hk1 : k1.length = 32)
    (hk2 : k2.length = 32) (hk : k1 ≠ k2) (addr : Nat) (base : Nat) (hb : base % 4096 = 0) (img : Bytes) :
    ∃ t ct, Iee.encryptKeyBlobs c bs k1 k2 addr = .ok t ∧ Iee.encryptImage c bs img base = .ok ct ∧
      (ieeHwReadAllX c ((ieeUnwrapTable c k1 k2 addr bs.length t).filterMap id) base ct).take img.length = img := by
  obtain ⟨t, ht, hu⟩ := iee_keyblobs_unwrap h bs hne (fun b hb' => (hwf b hb').1) k1 k2 hk1 hk2 hk addr
  obtain ⟨ct, hct, hr, _⟩ := iee_hw_inverts_all_modes h bs hwf hd base hb img
  refine ⟨t, ct, ht, hct, ?_⟩
  rw [hu, filterMap_id_map_some]
  exact hr

/-- Page offset with AES-XTS: the engine reading the system page `p` of the region decrypts what SPSDK encrypted for
    the logical page `p + 4 KiB · pageOffset` (A-PO: SPSDK's data address is the LOGICAL address). -/
theorem iee_xts_page_offset (h : CryptoLaws c) (b : IeeBlob) (hwf : b.WF) (hm : b.mode = .xts) (p : Nat) (hp : p % 4096 = 0)
    (hin : b.start ≤ p ∧ p < b.end_) (d : Bytes) (h0 : 0 < d.length) (hd : d.length ≤ 4096) :
    ∃ ct, b.encryptImage c (b.ctx.logical p) d = .ok ct ∧ (ieeHwPageX c [b.ctx] p ct).take d.length = d :=
  FlashEnc.ieex_xts_page_offset h b hwf hm p hp hin d h0 hd

/-- The layout `IeeKeyBlob.plain_data` writes (offsets and sizes GENERATED from the pack formats / align_block sizes of the
    source) is the layout the ROM-side parser `ieeParseBlob` (hand-written literals) reads: every field of a parsed blob
    is the slice at the generated offset, the CRC covers exactly the bytes before the generated CRC offset. -/
theorem iee_layout_agree :
    ieeBlobOffVersion = 4 ∧ ieeBlobOffAttr = 8 ∧ ieeAttrSize = 4 ∧ ieeBlobOffPageOffset = 12 ∧ ieeBlobOffKey1 = 16 ∧
    ieeBlobOffKey2 = 48 ∧ ieeBlobOffStart = 80 ∧ ieeBlobOffEnd = 84 ∧ ieeBlobOffCrc = 92 ∧ ieeBlobSize = 96 ∧
    ieeBlobOffAttr + ieeAttrSize = ieeBlobOffPageOffset ∧ ieeBlobOffKey1 + ieeKeyFieldSize = ieeBlobOffKey2 ∧
    ieeBlobOffKey2 + ieeKeyFieldSize = ieeBlobOffStart ∧ ieeBlobSize * 4 = ieeKeyBlobsSize := by
  decide

theorem iee_parse_reads_layout (p : Bytes) (x : IeeCtx) (hx : ieeParseBlob p = some x) :
    ieeBlobSize ≤ p.length ∧
    leDec (p.take 4) = ieeHeaderTag ∧ leDec ((p.drop ieeBlobOffVersion).take 4) = ieeKeyblobVersion ∧
    x.keySizeTag = (p.getD (ieeBlobOffAttr + 1) 0).toNat ∧ x.modeTag = (p.getD (ieeBlobOffAttr + 2) 0).toNat ∧
    x.pageOffset = leDec ((p.drop ieeBlobOffPageOffset).take 4) ∧
    x.key1 = (p.drop ieeBlobOffKey1).take ieeKeyFieldSize ∧ x.key2 = (p.drop ieeBlobOffKey2).take ieeKeyFieldSize ∧
    x.start = leDec ((p.drop ieeBlobOffStart).take 4) ∧ x.end_ = leDec ((p.drop ieeBlobOffEnd).take 4) ∧
    leDec ((p.drop ieeBlobOffCrc).take 4) = crc32MpegHw (p.take ieeBlobOffCrc) := by
  unfold ieeParseBlob at hx
  split at hx
  · exact absurd hx (by simp)
  · split at hx
    · exact absurd hx (by simp)
    · split at hx
      · exact absurd hx (by simp)
      · rename_i h1 h2 h3
        simp only [Option.some.injEq] at hx
        subst hx
        simp only [ieeBlobSize, ieeBlobOffVersion, ieeBlobOffAttr, ieeBlobOffPageOffset, ieeBlobOffKey1, ieeBlobOffKey2,
          ieeBlobOffStart, ieeBlobOffEnd, ieeBlobOffCrc, ieeKeyFieldSize, ieeHeaderTag, ieeKeyblobVersion]
        refine ⟨by omega, ?_, ?_, trivial, trivial, trivial, trivial, trivial, trivial, trivial, ?_⟩
        · exact Classical.byContradiction (fun hh => h2 (Or.inl hh))
        · exact Classical.byContradiction (fun hh => h2 (Or.inr hh))
        · exact Classical.byContradiction (fun hh => h3 hh)

/-! ## Non-vacuity and the defect the fix removes -/

section Examples

private def pad16 (b : Bytes) : Bytes := (b ++ zeros 16).take 16

/-- a toy block permutation (not AES) — only to evaluate examples -/
private def toy : CryptoOps where
  hash := fun _ m => m
  encBlk := fun k b => (xorBytes (pad16 b) (pad16 k)).map (· + 1)
  decBlk := fun k b => xorBytes ((pad16 b).map (· - 1)) (pad16 k)
  sm4Enc := fun _ b => b
  sm4Dec := fun _ b => b
  sign := fun _ _ m _ => m
  verify := fun _ _ _ _ => true
  pubOf := fun sk => sk

private def exKb : KeyBlob :=
  { start := 0x1000, end_ := 0x1FFF, key := List.replicate 16 0x11, ctr := [1, 2, 3, 4, 5, 6, 7, 8], flags := 3 }
private def exKb2 : KeyBlob :=
  { start := 0x2400, end_ := 0x2C00, key := List.replicate 16 0x22, ctr := [8, 7, 6, 5, 4, 3, 2, 1], flags := 7 }
private def exImg : Bytes := (List.range 32).map (fun i => UInt8.ofNat (3 * i + 1))

example : exKb.WF ∧ exKb2.WF ∧ BlobsDisjoint [exKb, exKb2] := by decide

/-- DESIGN §7 #20: with the pre-fix walk (1 KiB steps counted from the image start) a 16-byte aligned base that is
    not 1 KiB aligned leaves the chunk straddling the blob boundary unencrypted, and the engine — which decrypts the
    in-range part — does NOT return the plaintext … -/
example : ∃ ct, Otfad.encryptImageOld toy [exKb] exImg 0x0FF0 false = .ok ct ∧
    otfadHwReadAll toy [exKb.ctx] false 0x0FF0 ct ≠ exImg := by
  refine ⟨exImg, by decide +kernel, by decide +kernel⟩

/-- … while the fixed walk does. -/
example : ∃ ct, Otfad.encryptImage toy [exKb] exImg 0x0FF0 false = .ok ct ∧
    otfadHwReadAll toy [exKb.ctx] false 0x0FF0 ct = exImg := by
  refine ⟨otfadSpecImage toy [exKb] false 0x0FF0 exImg, by decide +kernel, by decide +kernel⟩

private def exIee : IeeBlob :=
  { lock := false, keySize := .k128, mode := .xts, start := 0x1000, end_ := 0x3000,
    key1 := List.replicate 16 1, key2 := List.replicate 16 2 }

example : exIee.WF ∧ exIee.claimed ∧ IeeDisjoint [exIee] := by
  refine ⟨⟨by decide, by decide, by decide, by decide, by decide, by decide, by decide, by decide⟩, by simp [IeeBlob.claimed, exIee],
    by simp [IeeDisjoint]⟩

private def exIeeNA : IeeBlob :=
  { lock := false, keySize := .k256, mode := .ctrNoAddr, start := 0x3000, end_ := 0x5000,
    key1 := List.replicate 32 5, key2 := List.replicate 12 6 ++ [0xF0, 0xFF, 0xFF, 0xFF], pageOffset := 3 }
private def exIeeKS : IeeBlob :=
  { lock := true, keySize := .k128, mode := .ctrKeystream, start := 0x6000, end_ := 0x7000,
    key1 := List.replicate 16 7, key2 := List.replicate 16 0xFF }

/-- non-vacuity of the theorems about the extended IEE engine: the two remaining CTR modes (counter word next to the 32-bit wrap, a
    non-zero page offset), all five modes side by side -/
example : exIeeNA.WF ∧ exIeeNA.mode.isCtr = true ∧ exIeeKS.WF ∧ exIeeKS.mode.isCtr = true ∧ exIeeKS.pageOffset = 0 ∧
    IeeDisjoint [exIee, exIeeNA, exIeeKS] := by
  refine ⟨⟨by decide, by decide, by decide, by decide, by decide, by decide, by decide, by decide⟩, rfl,
    ⟨by decide, by decide, by decide, by decide, by decide, by decide, by decide, by decide⟩, rfl, rfl,
    by simp [IeeDisjoint, exIee, exIeeNA, exIeeKS]⟩

/-- … and the engine really depends on the assumptions: at an unaligned-in-page address with a wrapping counter the toy
    engine reads SPSDK's CTRWOAddress ciphertext back, and does NOT when read one block further on -/
example : (match exIeeNA.encryptImage toy (exIeeNA.ctx.logical 0x3010) exImg with
    | .ok ct => decide (ct ≠ exImg ∧ ieeCtrReadX toy exIeeNA.ctx 2 0x3010 ct = exImg ∧ ieeCtrReadX toy exIeeNA.ctx 2 0x3020 ct ≠ exImg)
    | .error _ => false) = true := by
  decide +kernel

/-- non-vacuity of `iee_parse_reads_layout`: the plain key blob of `exIeeNA` parses -/
example : (exIeeNA.plainData.toOption.bind ieeParseBlob).isSome = true := by decide +kernel

private def exBee : BeeEngine := ⟨List.replicate 16 7, List.replicate 12 9 ++ [0, 0, 0, 0], [⟨0x1000, 0x800⟩]⟩

example : exBee.WF ∧ BeeDisjoint [exBee] := by
  refine ⟨⟨by decide, by decide, by decide, by decide⟩, by simp [BeeDisjoint, beeAllFacs, exBee]⟩

/-- non-vacuity of `sb21_encrypt_inverts` at a load address other than the key blob start, and for an `end` with ADE = 0 -/
example : (Sb21.blob 0x1000 0x1FFF (List.replicate 16 0x11) [1, 2, 3, 4, 5, 6, 7, 8] (0x1FFF &&& otfadKeyFlagMask)).WF ∧
    (Sb21.blob 0x2000 0x23FD (List.replicate 16 0x11) [1, 2, 3, 4, 5, 6, 7, 8] (0x23FD &&& otfadKeyFlagMask)).WF := by
  decide

example : (match Sb21.encrypt toy 0x1000 0x1FFF (List.replicate 16 0x11) [1, 2, 3, 4, 5, 6, 7, 8] false 0x1400 exImg with
    | .ok ct => decide (ct.take 32 ≠ exImg ∧
        (otfadHwReadAll toy [(Sb21.blob 0x1000 0x1FFF (List.replicate 16 0x11) [1, 2, 3, 4, 5, 6, 7, 8] 7).ctx] false 0x1400 ct).take 32
          = exImg)
    | .error _ => false) = true := by
  decide +kernel

private def exHdr : BeeHdr := ⟨exBee, [1], 0, List.replicate 16 3, List.replicate 16 4⟩

example : exHdr.WF :=
  ⟨⟨by decide, by decide, by decide, by decide⟩, by decide, by decide, by decide, by decide, by decide, by decide⟩

end Examples

end SpsdkVerif.C13
