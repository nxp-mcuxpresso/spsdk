/-
C12 — per-device configuration areas: template, configuration and binary round trip.

Model      : Model/ConfigArea.lean (hand-written, on top of the C16 `BinaryImage` model; tied to /repo by harness/props/C12.py:
             layouts compared with the live `Registers` objects, export/parse/computed/seal/CRC compared with the real code).
Generated  : Generated/RegLayouts.lean (every distinct register layout of the device database after alias/revision
             resolution, binary sizes, prefill bytes, computed-field rules, seal words), Generated/PfrRules.lean (bit-expression trees
             of the two computed-field functions of spsdk/pfr/pfr.py).
Helper lemmas: Proofs/ConfigArea.lean (binary level), Proofs/ConfigAreaCfg.lean (configuration level), Proofs/ConfigAreaGrp.lean
             (grouped registers, scalar decoding).

What is proved here is generic: it holds for EVERY layout accepted by the Boolean checker `layoutWFb`
(`layoutWFb_sound`), and the checker is run by the kernel over the whole generated table
(`gen_layouts_wf_partial`).  The clauses "the template is valid YAML, satisfies the schema and loads" live in
ruamel.yaml / PyYAML / fastjsonschema and are decided only by the exhaustive enumeration on the real code (harness).
-/
import SpsdkVerif.Model.ConfigArea
import SpsdkVerif.Proofs.ConfigArea
import SpsdkVerif.Proofs.ConfigAreaCfg
import SpsdkVerif.Proofs.ConfigAreaGrp
import SpsdkVerif.Proofs.RegistersCfg
import SpsdkVerif.Proofs.RegistersGen
import SpsdkVerif.Properties.C11
import SpsdkVerif.Generated.RegLayouts
import SpsdkVerif.Generated.RegDetails
import SpsdkVerif.Generated.PfrRules
import SpsdkVerif.Generated.ScalarRule
import SpsdkVerif.Generated.CrcTable

namespace SpsdkVerif.C12
open SpsdkVerif SpsdkVerif.CfgArea SpsdkVerif.Misc SpsdkVerif.BinImg

/-! ## well-formedness of a layout (specification) and the verified checker -/

def FieldDisj (f g : BF) : Prop := f.off + f.width ≤ g.off ∨ g.off + g.width ≤ f.off

/-- a register: whole bytes, all bits backed by (sub-)registers, bit-fields inside the register and pairwise disjoint -/
structure RegWF (r : RegL) : Prop where
  bytes : r.width % 8 = 0
  pos : 0 < r.width
  cov : r.cov = r.width
  fieldsIn : ∀ f ∈ r.fields, f.off + f.width ≤ r.width
  fieldsDisj : r.fields.Pairwise FieldDisj

/-- computed-field rules refer to existing 32-bit registers, at most one rule per register -/
structure ComputedWF (l : Layout) : Prop where
  regs : ∀ ir ∈ l.computed, ∃ r, l.regs[ir.1]? = some r ∧ r.width = 32 ∧ ir.2 ≤ 1
  nodup : (l.computed.map (·.1)).Nodup

/-- a well-formed area layout; for an area with a binary form: registers pairwise disjoint (`BinWF.disjoint`), inside the
    image (`BinWF.inside`), the export has the documented size, computed rules and seal words fit -/
structure LayoutWF (l : Layout) : Prop where
  regs : ∀ r ∈ l.regs, RegWF r
  bin : l.binary = true → BinWF l ∧ l.regs ≠ [] ∧ (l.docSize ≠ 0 → l.exportLen = l.docSize) ∧ ComputedWF l ∧
    (l.sealCount ≠ 0 → l.size ≠ 0 ∧ l.sealStart + l.sealCount * 4 ≤ l.size)

/-- every raw register value fits its register (what `Register.set_value` enforces) -/
def StateOK (l : Layout) (vals : Vals) : Prop := RV (fun r v => v < 2 ^ r.width) l.regs vals

theorem regWFb_sound (r : RegL) (h : regWFb r = true) : RegWF r := by
  simp only [regWFb, Bool.and_eq_true, beq_iff_eq, decide_eq_true_eq, List.all_eq_true] at h
  obtain ⟨⟨⟨⟨h1, h2⟩, h3⟩, h4⟩, h5⟩ := h
  refine ⟨h1, h2, h3, h4, ?_⟩
  refine (pairwiseB_sound _ _ h5).imp ?_
  intro f g hfg
  simpa [fieldDisjB, FieldDisj] using hfg

/-- **the Boolean checker is sound** -/
theorem layoutWFb_sound (l : Layout) (h : layoutWFb l = true) : LayoutWF l := by
  simp only [layoutWFb, Bool.and_eq_true, List.all_eq_true, Bool.or_eq_true, Bool.not_eq_true', beq_iff_eq, decide_eq_true_eq,
    bne_iff_ne, ne_eq, List.isEmpty_eq_false_iff] at h
  obtain ⟨hr, hb⟩ := h
  refine ⟨fun r hr' => regWFb_sound r (hr r hr'), fun hbin => ?_⟩
  obtain ⟨⟨⟨⟨⟨hd, hin⟩, hne⟩, hdoc⟩, hcomp⟩, hseal⟩ := hb.resolve_left (by simp [hbin])
  simp only [computedWFb, Bool.and_eq_true, List.all_eq_true] at hcomp
  refine ⟨⟨fun r hr' => let w := regWFb_sound r (hr r hr'); ⟨w.bytes, w.pos, w.cov⟩, ?_, hin.resolve_left⟩, hne, hdoc.resolve_left,
    ⟨fun ir hir => ?_, nodupB_sound _ hcomp.2⟩, hseal.resolve_left⟩
  · exact (pairwiseB_sound _ _ hd).imp fun hab => by simpa [disjointB, DisjR] using hab
  · have := hcomp.1 ir hir
    split at this
    · next r hr' =>
      simp only [Bool.and_eq_true, beq_iff_eq, decide_eq_true_eq] at this
      exact ⟨r, hr', this⟩
    · cases this

/-! ## the table obligation: every generated layout passes the checker (kernel evaluation)

Full-strength statement (FALSE on the pinned tree, so not provable):
    `∀ l ∈ Generated.RegLayouts.layouts, layoutWFb l = true`.
The layouts named below are ill-formed in the database itself (data defects; the harness shows their effect on the real code
where there is one, see known_findings.jsonl):
  * ifr_cmactable_a0.json (kw45/kw47): 128-bit "Hash update needed" registers overlap the reserved registers behind them,
    a reserved register at offset 0x16 (22) overlaps its neighbours; six registers share one name/uid;
  * kw47b42zb7/ifr_romcfg_a0.json: reserved registers at 0x109 and 0x10A (16 bit each) overlap in byte 0x10A;
  * mcxn946 pfr_cmpa_a0.json / pfr_cfpa_a0.json: the groups CUST_MK_SK_KEY_BLOB (384 bit) / DICE_Certificate (1152 bit) have a
    single 32-bit sub-register in revision a0 (`cov ≠ width`) and overlap the following reserved words. -/

def knownIllFormed : List String :=
  ["devices/kw45b41z8/ifr_cmactable_a0.json", "devices/kw47b42zb7/ifr_cmactable_a0.json",
   "devices/kw47b42zb7/ifr_romcfg_a0.json", "devices/mcxn946/pfr_cmpa_a0.json", "devices/mcxn946/pfr_cfpa_a0.json"]

theorem gen_layouts_wf_partial :
    (Generated.RegLayouts.layouts.all (fun l => knownIllFormed.contains l.name || layoutWFb l)) = true := by
  -- evaluated: the linear-time form of the checker, and the name list only for a layout it rejects (a name costs the kernel
  -- more than its layout: the literal is UTF-8 encoded before it is compared)
  rw [all_or_comm]
  simp only [← layoutFastB_eq]
  decide +kernel

/-- … hence every generated layout outside the named data defects is well-formed -/
theorem gen_layouts_wellformed (l : Layout) (hl : l ∈ Generated.RegLayouts.layouts)
    (hk : knownIllFormed.contains l.name = false) : LayoutWF l := by
  have h := gen_layouts_wf_partial
  rw [List.all_eq_true] at h
  have := h l hl
  rw [hk, Bool.false_or] at this
  exact layoutWFb_sound l this


/-! ## the second generated table: initial values, names, access, enum tables (every fact below is evaluated by the kernel over the
    whole database; a typo in a register JSON - a reset value that does not fit, an enum value wider than its field, a renamed
    computed bit-field, a duplicated name - makes the corresponding theorem fail to check) -/

def layoutsD : List (Layout × LayoutD) := Generated.RegLayouts.layouts.zip Generated.RegDetails.details

/-- Register names / uids.  Full-strength statement (false on the pinned tree): `regNamesB` for every layout.
    Refuted by ifr_cmactable_a0.json (six registers named 'Reserved 0x00012' with uid 'Reserved00012', three with uid 'field000');
    known finding C12-cmactable-duplicate-register-names. -/
def knownDuplicateRegNames : List String :=
  ["devices/kw45b41z8/ifr_cmactable_a0.json", "devices/kw47b42zb7/ifr_cmactable_a0.json"]

/-- Bit-field names inside one register.  Full-strength statement (false on the pinned tree): `fieldNamesB` for every layout.
    Refuted by XMCD configOption1 ('reserved' twice / three times) and the i.MX91/95 fuse words with several 'Restricted'
    fields; known finding C12-duplicate-bitfield-names. -/
def knownDuplicateFieldNames : List String :=
  ["common/xmcd/flexspi_ram_simplified.json", "common/xmcd/xspi_ram_simplified.json",
   "devices/mimx9131/fuses.json", "devices/mimx9596/fuses.json"]

/-- all per-layout facts about the details table in one Boolean (one kernel evaluation of the 0.7 MB table) -/
def detailsOkB (ld : Layout × LayoutD) : Bool :=
  alignedB ld.1 ld.2 && resetsB ld.1 ld.2 && enumsFitB ld.1 ld.2 && computedTargetsB ld.1 ld.2 &&
  (knownDuplicateRegNames.contains ld.1.name || (regNamesB ld.1 ld.2 && findRegB ld.2)) &&
  (knownDuplicateFieldNames.contains ld.1.name || fieldNamesB ld.2)

theorem gen_details_ok :
    Generated.RegLayouts.layouts.length = Generated.RegDetails.details.length ∧ layoutsD.all detailsOkB = true := by
  have flip (xs : List String) (s : String) (b : Bool) : (xs.contains s || b) = (b || xs.contains s) := Bool.or_comm _ _
  refine ⟨by decide +kernel, ?_⟩
  unfold detailsOkB
  simp only [flip]
  decide +kernel

theorem details_all {p : Layout × LayoutD → Bool} (h : ∀ ld, detailsOkB ld = true → p ld = true) :
    layoutsD.all p = true := by
  have := gen_details_ok.2
  rw [List.all_eq_true] at this ⊢
  exact fun ld hld => h ld (this ld hld)

/-- both tables describe the same registers, the same number of bit-fields per register and the same computed-field rules -/
theorem gen_details_aligned : layoutsD.all (fun ld => alignedB ld.1 ld.2) = true :=
  details_all (fun ld h => by simp only [detailsOkB, Bool.and_eq_true] at h; exact h.1.1.1.1.1)

/-- every initial register value fits its register; every bit-field reset value fits its field (after its SHIFT_RIGHT
    processor) and is exactly what the field reads in the initial register value -/
theorem gen_resets_fit : layoutsD.all (fun ld => resetsB ld.1 ld.2) = true :=
  details_all (fun ld h => by simp only [detailsOkB, Bool.and_eq_true] at h; exact h.1.1.1.1.2)

/-- every enum value of every bit-field fits the field: a template or configuration naming it loads -/
theorem gen_enums_fit : layoutsD.all (fun ld => enumsFitB ld.1 ld.2) = true :=
  details_all (fun ld h => by simp only [detailsOkB, Bool.and_eq_true] at h; exact h.1.1.1.2)

/-- the computed bit-field the database names is exactly the bits the rule function writes (inverse half-word: bits 16..31 of a
    32-bit register, inverse byte: bits 8..15), and it is hidden in the loaded object -/
theorem gen_computed_targets : layoutsD.all (fun ld => computedTargetsB ld.1 ld.2) = true :=
  details_all (fun ld h => by simp only [detailsOkB, Bool.and_eq_true] at h; exact h.1.1.2)

theorem gen_reg_names_unique_partial :
    layoutsD.all (fun ld => knownDuplicateRegNames.contains ld.1.name || (regNamesB ld.1 ld.2 && findRegB ld.2)) = true :=
  details_all (fun ld h => by simp only [detailsOkB, Bool.and_eq_true] at h; exact h.1.2)

/-- … hence `find_reg(name)` (first register whose name OR uid is the key) resolves the name of every register of every
    generated layout to that very register: a configuration keyed by register names addresses the registers it was taken from -/
theorem gen_find_reg_resolves_partial (l : Layout) (d : LayoutD) (hld : (l, d) ∈ layoutsD)
    (hk : knownDuplicateRegNames.contains l.name = false) (i j : Nat) (r r' : RegD)
    (hi : d.regs[i]? = some r) (hj : d.regs[j]? = some r') (hm : r'.name = r.name ∨ r'.uid = r.name) : j = i := by
  have h := gen_reg_names_unique_partial
  rw [List.all_eq_true] at h
  have := h (l, d) hld
  simp only [hk, Bool.false_or, Bool.and_eq_true] at this
  exact findRegB_sound d this.2 i j r r' hi hj hm

theorem gen_field_names_unique_partial :
    layoutsD.all (fun ld => knownDuplicateFieldNames.contains ld.1.name || fieldNamesB ld.2) = true :=
  details_all (fun ld h => by simp only [detailsOkB, Bool.and_eq_true] at h; exact h.2)

/-- the seal words are whole 32-bit registers of the page -/
theorem gen_seal_words_are_registers : Generated.RegLayouts.layouts.all sealRegsB = true := by decide +kernel

/-- the XMCD header word of every XMCD layout has the bit-fields the model's `xmcdHeader` assumes:
    size[0:12] type[12:16] instance[16:20] interface[20:24] version[24:28] tag[28:32] -/
theorem gen_xmcd_header_fields :
    (Generated.RegLayouts.layouts.filter (·.kind == 7)).all (fun l =>
      match l.regs with
      | r :: _ => r.off == 0 && r.width == 32 && r.fields == [⟨0, 12⟩, ⟨12, 4⟩, ⟨16, 4⟩, ⟨20, 4⟩, ⟨24, 4⟩, ⟨28, 4⟩]
      | [] => false) = true := by decide +kernel

/-! ## enum names in configurations (generic: the statement behind fix C12-1) -/

/-- whatever the enum table (names may be shared by several values), the configuration value produced for `v` decodes back to `v` -/
theorem enum_roundtrip (enums : List (Nat × Nat)) (v : Nat) : decodeCfgVal enums (enumValue enums v) = some v := by
  simp only [enumValue]
  split
  · split
    · next h => simpa [decodeCfgVal] using h
    · rfl
  · rfl

/-- a name is used only when it is the one `get_enum_constant` resolves to this value -/
theorem enum_name_used_iff (enums : List (Nat × Nat)) (v n : Nat) (h : enumValue enums v = .name n) :
    enumConstant enums n = some v := by
  have := enum_roundtrip enums v
  rw [h] at this
  exact this

/-! ## export: documented fixed size -/

/-- the export of a well-formed area succeeds and has exactly `exportLen` bytes … -/
theorem area_export_size (l : Layout) (vals : Vals) (wf : LayoutWF l) (hb : l.binary = true) (hs : StateOK l vals) :
    ∃ b, exportArea l vals = .ok b ∧ b.length = l.exportLen :=
  export_ok l vals (wf.bin hb).1 hs.length

/-- … which is the documented size of the area wherever one is documented (PFR/IFR pages, BCA, FCF) -/
theorem area_export_doc_size (l : Layout) (vals : Vals) (wf : LayoutWF l) (hb : l.binary = true) (hs : StateOK l vals)
    (hd : l.docSize ≠ 0) : ∃ b, exportArea l vals = .ok b ∧ b.length = l.docSize := by
  obtain ⟨b, h1, h2⟩ := area_export_size l vals wf hb hs
  exact ⟨b, h1, by rw [h2, (wf.bin hb).2.2.1 hd]⟩

/-- the bytes of every register are its little-endian value at its offset -/
theorem area_export_register_bytes (l : Layout) (vals : Vals) (b : Bytes) (wf : LayoutWF l) (hb : l.binary = true)
    (hs : StateOK l vals) (he : exportArea l vals = .ok b) :
    RV (fun r v => slice b r.off r.bytes = leEnc r.bytes v) l.regs vals :=
  rv_of_regImgs l.regs vals hs.length
    (fun r v hr hm => export_slice l vals b (wf.bin hb).1 hs.length he r v hr hm)

/-! ## parse ∘ export -/

/-- parsing the export into an object that held `cur`: every visible register gets the exported value back,
    hidden (reserved) registers keep what the object held -/
theorem area_export_parse (l : Layout) (vals cur : Vals) (b : Bytes) (wf : LayoutWF l) (hb : l.binary = true)
    (hs : StateOK l vals) (he : exportArea l vals = .ok b) :
    parseArea l b cur = mergeHidden l.regs vals cur := by
  have bw := (wf.bin hb).1
  obtain ⟨b', he', hlen⟩ := export_ok l vals bw hs.length
  rw [he] at he'; cases he'
  apply parseAux_of_slices
  refine ((area_export_register_bytes l vals b wf hb hs he).and hs).imp ?_
  intro r v hr h
  obtain ⟨h8, _, hcov⟩ := bw.regs r hr
  refine ⟨h.1, h.2, ?_, hcov, h8⟩
  rw [hlen, Layout.exportLen]
  split
  · exact bw.inside (by assumption) r hr
  · exact le_maxStop hr

/-- values restored: parsing the export into the same object (or any object with the same reserved registers,
    e.g. a fresh one when the reserved registers were never written) gives back every value -/
theorem area_values_restored (l : Layout) (vals : Vals) (b : Bytes) (wf : LayoutWF l) (hb : l.binary = true)
    (hs : StateOK l vals) (he : exportArea l vals = .ok b) : parseArea l b vals = vals := by
  rw [area_export_parse l vals vals b wf hb hs he, mergeHidden_self]

/-- export ∘ parse ∘ export = export -/
theorem area_parse_export (l : Layout) (vals : Vals) (b : Bytes) (wf : LayoutWF l) (hb : l.binary = true)
    (hs : StateOK l vals) (he : exportArea l vals = .ok b) : exportArea l (parseArea l b vals) = .ok b := by
  rw [area_values_restored l vals b wf hb hs he, he]

/-- the same for a fresh object: if `cur` agrees with `vals` on the reserved registers -/
theorem area_parse_export_fresh (l : Layout) (vals cur : Vals) (b : Bytes) (wf : LayoutWF l) (hb : l.binary = true)
    (hs : StateOK l vals) (he : exportArea l vals = .ok b) (hc : mergeHidden l.regs vals cur = vals) :
    exportArea l (parseArea l b cur) = .ok b := by
  rw [area_export_parse l vals cur b wf hb hs he, hc, he]

/-! ## computed fields -/

/-- the two rules establish their relation for every input value, give a 32-bit value and keep the user's bits -/
theorem rule_holds (rule v : Nat) : RuleHolds rule (applyRule rule v) := by
  simp only [applyRule]
  split
  · next h => subst h; exact invHighHalf_holds v
  · split
    · next h => subst h; exact invLow8_holds v
    · next h1 h2 => simp [RuleHolds, h1, h2]

theorem rule_bound (rule v : Nat) (h : rule ≤ 1) : applyRule rule v < 2 ^ 32 := by
  have : rule = 0 ∨ rule = 1 := by omega
  rcases this with rfl | rfl
  · exact invHighHalf_lt v
  · exact invLow8_lt v

theorem rule_keeps_user_bits (v : Nat) (hv : v < 2 ^ 32) :
    applyRule 0 v &&& 0xFFFF = v &&& 0xFFFF ∧ applyRule 1 v &&& 0xFFFF00FF = v &&& 0xFFFF00FF :=
  ⟨invHighHalf_low v, invLow8_keeps v hv⟩

/-- the model's rules are the functions of the CURRENT source: `Generated/PfrRules.lean` holds the bodies of
    `pfr_reg_inverse_high_half` / `pfr_reg_inverse_lower_8_bits` as bit-expression trees (constants read by value); the VERIFIED
    equivalence checker `bitEquiv32` (Base/BitExpr.lean) compares them semantically with the model's rules - every bit below the
    bound by brute force over the input bits it depends on, the constant part above - so any rewrite of the source that computes
    the same function passes and any change of behaviour on a 32-bit input fails, whatever the shape of the body -/
theorem rule0_is_source : Generated.PfrRules.rule0.map (fun e => BitExpr.bitEquiv32 e specRule0) = some true := by decide +kernel
theorem rule1_is_source : Generated.PfrRules.rule1.map (fun e => BitExpr.bitEquiv32 e specRule1) = some true := by decide +kernel

/-- … i.e. on every 32-bit register value the source functions compute the model's rules -/
theorem rules_are_source :
    (∃ e, Generated.PfrRules.rule0 = some e ∧ ∀ v, v < 2 ^ 32 → BitExpr.eval e v = applyRule 0 v) ∧
    (∃ e, Generated.PfrRules.rule1 = some e ∧ ∀ v, v < 2 ^ 32 → BitExpr.eval e v = applyRule 1 v) := by
  obtain ⟨e0, h0, p0⟩ := Option.map_eq_some_iff.1 rule0_is_source
  obtain ⟨e1, h1, p1⟩ := Option.map_eq_some_iff.1 rule1_is_source
  exact ⟨⟨e0, h0, fun v hv => by rw [BitExpr.bitEquiv32_sound e0 specRule0 p0 v hv, specRule0_eval]; rfl⟩,
    ⟨e1, h1, fun v hv => by rw [BitExpr.bitEquiv32_sound e1 specRule1 p1 v hv, specRule1_eval]; rfl⟩⟩

/-- after `set_config`, every computed register the configuration mentions satisfies its rule … -/
theorem computed_hold (l : Layout) (m : Nat → Bool) (vals : Vals) (wf : LayoutWF l) (hb : l.binary = true)
    (hs : StateOK l vals) (ir : Nat × Nat) (hir : ir ∈ l.computed) (hm : m ir.1 = true) :
    RuleHolds ir.2 ((computeAll l.computed m vals).getD ir.1 0) := by
  have cw := (wf.bin hb).2.2.2.1
  obtain ⟨r, hr, _, _⟩ := cw.regs ir hir
  have hi : ir.1 < vals.length := by
    rw [← hs.length]
    exact (List.getElem?_eq_some_iff.1 hr).1
  rw [computeAll_get l.computed m vals cw.nodup ir hir hm hi]
  exact rule_holds _ _

/-- … every other register is untouched … -/
theorem computed_frame (l : Layout) (m : Nat → Bool) (vals : Vals) (i : Nat)
    (h : ∀ ir ∈ l.computed, ir.1 = i → m i = false) :
    (computeAll l.computed m vals).getD i 0 = vals.getD i 0 := computeAll_frame l.computed m vals i h

/-- … the state stays valid … -/
theorem computed_state_ok (l : Layout) (m : Nat → Bool) (vals : Vals) (wf : LayoutWF l) (hb : l.binary = true)
    (hs : StateOK l vals) : StateOK l (computeAll l.computed m vals) := by
  have cw := (wf.bin hb).2.2.2.1
  refine rv_of_getD (hs.length.trans (computeAll_length l.computed m vals).symm) fun i r hr => ?_
  by_cases hc : ∃ ir ∈ l.computed, ir.1 = i ∧ m i = true
  · obtain ⟨ir, hir, rfl, hm⟩ := hc
    obtain ⟨r', hr', hw, hrule⟩ := cw.regs ir hir
    cases hr.symm.trans hr'
    rw [computeAll_get l.computed m vals cw.nodup ir hir hm (hs.length ▸ (List.getElem?_eq_some_iff.1 hr).1), hw]
    exact rule_bound _ _ hrule
  · rw [computeAll_frame l.computed m vals i fun ir hir he => Bool.eq_false_iff.2 fun hmi => hc ⟨ir, hir, he, hmi⟩]
    exact rv_pick hs hr

/-- … and therefore the relation holds IN THE EXPORTED BINARY: the 4 bytes at the register's offset decode to a word
    that satisfies the rule -/
theorem computed_in_binary (l : Layout) (m : Nat → Bool) (vals : Vals) (b : Bytes) (wf : LayoutWF l) (hb : l.binary = true)
    (hs : StateOK l vals) (he : exportArea l (computeAll l.computed m vals) = .ok b)
    (ir : Nat × Nat) (hir : ir ∈ l.computed) (hm : m ir.1 = true) :
    ∃ r, l.regs[ir.1]? = some r ∧ RuleHolds ir.2 (leDec (slice b r.off 4)) := by
  have cw := (wf.bin hb).2.2.2.1
  obtain ⟨r, hr, hw, _⟩ := cw.regs ir hir
  refine ⟨r, hr, ?_⟩
  have hs' := computed_state_ok l m vals wf hb hs
  have hp := area_values_restored l _ b wf hb hs' he
  have hbytes := area_export_register_bytes l _ b wf hb hs' he
  obtain ⟨h1, h2⟩ := rv_pick (hbytes.and hs') hr
  have hb4 : r.bytes = 4 := by simp [RegL.bytes, hw]
  rw [hb4] at h1
  rw [h1, Misc.leDec_leEnc 4 _ (by rw [hw] at h2; omega)]
  exact computed_hold l m vals wf hb hs ir hir hm

/-! ## seal -/

theorem sealMark_length : Generated.RegLayouts.sealMark.length = 4 := by decide

/-- `export(add_seal=True)`: same size, the seal words hold the mark, nothing else changes -/
theorem seal_in_place (l : Layout) (vals : Vals) (b : Bytes) (wf : LayoutWF l) (hb : l.binary = true) (hs : StateOK l vals)
    (hsz : l.size ≠ 0) (he : exportArea l vals = .ok b) :
    ∃ bs, exportSealed Generated.RegLayouts.sealMark l vals = .ok bs ∧ bs.length = l.size ∧
      slice bs l.sealStart (l.sealCount * 4) = repeatBytes Generated.RegLayouts.sealMark l.sealCount ∧
      bs.take l.sealStart = b.take l.sealStart ∧
      bs.drop (l.sealStart + l.sealCount * 4) = b.drop (l.sealStart + l.sealCount * 4) := by
  obtain ⟨b', he', hlen⟩ := area_export_size l vals wf hb hs
  rw [he] at he'; cases he'
  have hl : b.length = l.size := by rw [hlen, Layout.exportLen, if_pos hsz]
  obtain ⟨bs, h1, h2⟩ := seal_spec Generated.RegLayouts.sealMark b l sealMark_length hl
    (fun hc => ((wf.bin hb).2.2.2.2 hc).2)
  exact ⟨bs, by simp [exportSealed, he, h1], h2⟩

/-! ## XMCD and TrustZone -/

/-- the XMCD block is an ordinary area (header word + option block): size, parse and re-export are the generic theorems;
    the size and tag fields of the header word read back what was put in -/
theorem xmcd_header_fields (tag size bt inst iface : Nat) (hs : size < 2 ^ 12) (ht : tag < 2 ^ 4) :
    xmcdSizeField (xmcdHeader tag size bt inst iface) = size ∧ xmcdTagField (xmcdHeader tag size bt inst iface) = tag :=
  ⟨xmcd_size_field tag size bt inst iface hs, xmcd_tag_field tag size bt inst iface ht⟩

theorem xmcd_roundtrip (l : Layout) (vals : Vals) (wf : LayoutWF l) (hb : l.binary = true) (hs : StateOK l vals) :
    ∃ b, exportArea l vals = .ok b ∧ b.length = l.exportLen ∧ parseArea l b vals = vals ∧
      exportArea l (parseArea l b vals) = .ok b ∧ xmcdCrc l vals = .ok (beEnc 4 (crc32Mpeg b)) := by
  obtain ⟨b, he, hlen⟩ := area_export_size l vals wf hb hs
  exact ⟨b, he, hlen, area_values_restored l vals b wf hb hs he, area_parse_export l vals b wf hb hs he,
    by simp [xmcdCrc, he]⟩

/-- the CRC the model computes is the one the SOURCE names: `XMCD.calculate_crc` uses the `CrcAlg` member `xmcdCrcAlg`
    (read from xmcd.py), whose row in `CRC_ALGORITHMS` (read from crc.py by the C09 generator) is a non-reflected CRC with
    exactly the model's polynomial, start value and final xor -/
theorem xmcd_crc_is_source_algorithm :
    ∃ cfg, (Generated.CrcTable.table.find? (fun row => row.1 == Generated.RegLayouts.xmcdCrcAlg)).map (·.2.2) = some cfg ∧
      cfg.reverse = false ∧ ∀ b, crc32Mpeg b = crcMsb32 (cfg.polynomial % 2 ^ 32) cfg.initialValue cfg.finalXor b :=
  ⟨⟨0x104C11DB7, 0xFFFFFFFF, 0x0, false⟩, by decide, rfl, fun _ => rfl⟩

/-- the model's CRC is CRC-32/MPEG-2 (check value of the catalogue for "123456789") -/
theorem xmcd_crc_check : crc32Mpeg [0x31, 0x32, 0x33, 0x34, 0x35, 0x36, 0x37, 0x38, 0x39] = 0x0376E6E7 := by decide +kernel

/-- TrustZone preset: `n` words of 32 bit export to `4n` bytes that parse back to the same words (a longer binary is
    accepted, its tail ignored) -/
theorem tz_roundtrip (ws : List Nat) (tail : Bytes) (h : ∀ w ∈ ws, w < 2 ^ 32) :
    ∃ b, tzExport ws = .ok b ∧ b.length = 4 * ws.length ∧ tzParse ws.length (b ++ tail) = .ok ws :=
  tz_roundtrip' ws tail h

/-- the model packs little-endian unsigned 32-bit words because the SOURCE does: the struct formats of `_custom_export` /
    `_parse_raw_data` are read by value and normalised (`L` and `I` are the same 4-byte unsigned item under the standard-size
    prefix `<`) -/
theorem gen_tz_struct_formats :
    Generated.RegLayouts.tzPackFormat = ("<", "I", 4) ∧ Generated.RegLayouts.tzUnpackFormat = ("<", "I", 4) := by decide

theorem tz_short_binary_refused (n : Nat) (b : Bytes) (h : b.length < 4 * n) : tzParse n b = .error .spsdk := by
  have : n > b.length / 4 := by omega
  simp [tzParse, this]

/-! ## the parsers of FCB / BCA / FCF and the option words of the memory configuration -/

/-- **BCA**: the parser accepts the export of every state whose tag register holds the tag, and restores it -/
theorem bca_parse_export (tag : Bytes) (ti : Nat) (l : Layout) (vals : Vals) (b : Bytes) (r : RegL) (wf : LayoutWF l)
    (hb : l.binary = true) (hs : StateOK l vals) (he : exportArea l vals = .ok b)
    (hr : l.regs[ti]? = some r) (ht : leEnc r.bytes (vals.getD ti 0) = tag) :
    bcaParse tag ti l b vals = .ok vals := by
  simp only [bcaParse]
  rw [area_values_restored l vals b wf hb hs he]
  exact tagCheck_ok tag ti l vals r hr ht

/-- **FCF**: the parser accepts the export (whose length is the documented one) and restores every value -/
theorem fcf_parse_export (minSize : Nat) (l : Layout) (vals : Vals) (b : Bytes) (wf : LayoutWF l)
    (hb : l.binary = true) (hs : StateOK l vals) (he : exportArea l vals = .ok b) (hm : minSize ≤ l.exportLen) :
    fcfParse minSize l b vals = .ok vals := by
  obtain ⟨b', he', hlen⟩ := area_export_size l vals wf hb hs
  rw [he] at he'; cases he'
  have : ¬ b.length < minSize := by omega
  simp only [fcfParse, this, if_false]
  rw [area_values_restored l vals b wf hb hs he]

/-- **FCB**, plain image: accepted and restored over the WHOLE block of whatever memory type (no fixed 0x200 window) -/
theorem fcb_parse_export (minSize : Nat) (tag : Bytes) (ti : Nat) (l : Layout) (vals : Vals) (b : Bytes) (r : RegL)
    (wf : LayoutWF l) (hb : l.binary = true) (hs : StateOK l vals) (he : exportArea l vals = .ok b)
    (hm : minSize ≤ l.exportLen) (hr : l.regs[ti]? = some r) (ho : r.off = 0) (hl : r.bytes = tag.length)
    (ht : leEnc r.bytes (vals.getD ti 0) = tag) (hsw : tag ≠ swapPairs tag) :
    fcbParse minSize tag ti l b vals = .ok vals := by
  obtain ⟨b', he', hlen⟩ := area_export_size l vals wf hb hs
  rw [he] at he'; cases he'
  have h1 : ¬ b.length < minSize := by omega
  have hsl := (rv_pick (area_export_register_bytes l vals b wf hb hs he) hr)
  have htk : b.take tag.length = tag := by
    have : slice b r.off r.bytes = tag := by rw [hsl, ht]
    simpa [slice, ho, hl] using this
  simp only [fcbParse, h1, if_false, htk, if_neg hsw]
  rw [area_values_restored l vals b wf hb hs he]
  exact tagCheck_ok tag ti l vals r hr ht

/-- **FCB**, byte-swapped image (as some tools store it): detected by the swapped tag, swapped back, accepted and restored -/
theorem fcb_parse_swapped (minSize : Nat) (tag : Bytes) (ti : Nat) (l : Layout) (vals : Vals) (b : Bytes) (r : RegL)
    (wf : LayoutWF l) (hb : l.binary = true) (hs : StateOK l vals) (he : exportArea l vals = .ok b)
    (hm : minSize ≤ l.exportLen) (hr : l.regs[ti]? = some r) (ho : r.off = 0) (hl : r.bytes = tag.length) (h4 : tag.length = 4)
    (ht : leEnc r.bytes (vals.getD ti 0) = tag) (hev : l.exportLen % 2 = 0) (h4l : 4 ≤ l.exportLen) :
    fcbParse minSize tag ti l (swapPairs b) vals = .ok vals := by
  obtain ⟨b', he', hlen⟩ := area_export_size l vals wf hb hs
  rw [he] at he'; cases he'
  obtain ⟨hsl1, hsl2⟩ := swapPairs_spec b
  have h1 : ¬ (swapPairs b).length < minSize := by rw [hsl1]; omega
  have hsl := (rv_pick (area_export_register_bytes l vals b wf hb hs he) hr)
  have htk : b.take tag.length = tag := by
    have : slice b r.off r.bytes = tag := by rw [hsl, ht]
    simpa [slice, ho, hl] using this
  have htk' : (swapPairs b).take tag.length = swapPairs tag := by
    rw [h4, swapPairs_take4 b (by omega), ← h4, htk]
  have hsb : swapBytes (swapPairs b) = .ok b := by
    simp [swapBytes, hsl1, hlen, hev, hsl2]
  simp only [fcbParse, h1, if_false, htk', if_true, hsb]
  rw [area_values_restored l vals b wf hb hs he]
  exact tagCheck_ok tag ti l vals r hr ht

/-- **memory configuration**: the option words that count (what `blhost configure-memory` receives), written with
    `option_words_to_bytes` and parsed into any object of the same peripheral, give the same option words again -/
theorem memcfg_parse_option_words (rule fi ud : Nat) (l : Layout) (vals cur ws : List Nat) (hw : WordsFrom 0 l.regs)
    (hne : l.regs ≠ []) (hs : StateOK l vals) (hc : l.regs.length = cur.length)
    (how : optionWords [rule, 0, fi, ud] l vals = .ok ws) :
    optionWords [rule, 0, fi, ud] l (parseArea l (owBytes ws) cur) = .ok ws := by
  simp only [optionWords] at how
  cases hn : owCount [rule, 0, fi, ud] l vals with
  | error e => rw [hn] at how; cases how
  | ok n =>
    rw [hn] at how
    simp only [Except.ok.injEq] at how
    have hpos := owCount_pos rule fi ud l vals n hne hn
    have hlv : l.regs.length = vals.length := hs.length
    have hb : ∀ w ∈ ws, w < 2 ^ 32 := by
      intro w hwm
      rw [← how] at hwm
      exact stateOK_words hw hs w (List.mem_of_mem_take hwm)
    have hwl : ws.length = min n vals.length := by rw [← how]; simp
    have hp : parseArea l (owBytes ws) cur = ws ++ cur.drop ws.length := by
      have := parseAux_words l.regs [] ws cur (by simpa using hw) hb hc
      simp only [List.nil_append] at this
      rw [parseArea, this, List.take_of_length_le (by omega), Nat.min_eq_left (by omega)]
    have hvpos : 1 ≤ vals.length := by
      rw [← hlv]; cases hr : l.regs with | nil => exact absurd hr hne | cons _ _ => simp
    have h0 : (ws ++ cur.drop ws.length).getD 0 0 = vals.getD 0 0 := by
      rw [← how]
      cases vals with
      | nil => simp at hvpos
      | cons v vs => cases n with
        | zero => omega
        | succ m => simp
    rw [hp]
    simp only [optionWords]
    rw [owCount_congr rule fi ud l _ vals h0, hn]
    simp only [Except.ok.injEq]
    by_cases hle : n ≤ vals.length
    · have : ws.length = n := by omega
      rw [List.take_append_of_le_length (by omega), List.take_of_length_le (by omega)]
    · have hwv : ws = vals := by rw [← how]; exact List.take_of_length_le (by omega)
      have : cur.drop ws.length = [] := by
        apply List.drop_eq_nil_of_le; rw [hwv]; omega
      rw [this, List.append_nil, List.take_of_length_le (by rw [hwv]; omega)]


/-! ### … and the database satisfies the hypotheses of these parser theorems -/

theorem fcb_tag_not_symmetric : Generated.RegLayouts.fcbTag ≠ swapPairs Generated.RegLayouts.fcbTag ∧
    Generated.RegLayouts.fcbTag.length = 4 := by decide

/-- every FCB layout (each memory type of each family): the tag register is the first word and RESETS to the FCB tag (the
    export of an unmodified template is accepted - repaired defect C12-2), the block is at least `FCB.SIZE` long and of even
    length, so `fcb_parse_export` / `fcb_parse_swapped` apply to the whole block of every memory type -/
theorem gen_fcb_table :
    (layoutsD.filter (fun ld => ld.1.kind == 6)).all
      (fun ld => fcbTableB Generated.RegLayouts.fcbSize Generated.RegLayouts.fcbTag ld.1 ld.2) = true := by decide +kernel

/-- every BCA layout: first word = tag register resetting to `kcfg`; every FCF layout is at least `FCF.SIZE` long -/
theorem gen_bca_fcf_table :
    (layoutsD.filter (fun ld => ld.1.kind == 4)).all (fun ld => fcbTableB Generated.RegLayouts.bcaSize Generated.RegLayouts.bcaTag ld.1 ld.2) = true ∧
    (Generated.RegLayouts.layouts.filter (·.kind == 5)).all (fun l => decide (Generated.RegLayouts.fcfSize ≤ l.exportLen)) = true := by
  constructor <;> decide +kernel

/-- every memcfg peripheral of every family: the option-word count rule of the database is resolvable against the option-word
    specification it is combined with (rule `OptionSize` needs that bit-field in the first word - repaired defect C12-4), and
    the option words are visible 32-bit words at offsets 0, 4, 8, … -/
theorem gen_memcfg_table :
    (layoutsD.filter (fun ld => ld.1.kind == 9)).all (fun ld => memcfgTableB ld.1 ld.2) = true := by decide +kernel

/-! ## BCA / FCF / FCB / memory-configuration option words end to end over the GENERATED layouts (bca.py, fcf.py, fcb.py,
    segments_base.py, memcfg.py): size, own parser, byte order - every family, revision and memory type of the database -/

/-- the segment areas of the table have a binary form, and the documented size of a BCA / FCF layout IS `BCA.SIZE` / `FCF.SIZE` -/
theorem gen_segment_sizes :
    (Generated.RegLayouts.layouts.filter (fun l => l.kind == 4 || l.kind == 5 || l.kind == 6)).all (fun l => l.binary &&
      (l.kind != 4 || l.docSize == Generated.RegLayouts.bcaSize) && (l.kind != 5 || l.docSize == Generated.RegLayouts.fcfSize)) = true := by
  decide +kernel

theorem fcbTableB_spec {minSize : Nat} {tag : Bytes} {l : Layout} {d : LayoutD} (h : fcbTableB minSize tag l d = true) :
    ∃ ti r rd, d.aux = [ti] ∧ l.regs[ti]? = some r ∧ d.regs[ti]? = some rd ∧ r.off = 0 ∧ r.width = 32 ∧ leEnc 4 rd.init = tag ∧
      minSize ≤ l.exportLen ∧ l.exportLen % 2 = 0 := by
  unfold fcbTableB at h
  split at h
  · next ti haux =>
    simp only [Bool.and_eq_true, decide_eq_true_eq, beq_iff_eq] at h
    obtain ⟨⟨h1, h2⟩, h3⟩ := h
    split at h1
    · next r rd hr hrd =>
      simp only [Bool.and_eq_true, beq_iff_eq, Bool.not_eq_true'] at h1
      exact ⟨ti, r, rd, haux, hr, hrd, h1.1.1.1, h1.1.1.2, h1.2, h2, h3⟩
    · cases h1
  · cases h

/-- **BCA, every generated layout** (every family / revision that has a BCA): a state whose TAG word holds `kcfg` exports to exactly
    `BCA.SIZE` bytes, `BCA.parse` accepts them and gives the state back; the fresh object (template state) is such a state -/
theorem gen_bca_roundtrip (l : Layout) (d : LayoutD) (hld : (l, d) ∈ layoutsD) (hk : l.kind = 4)
    (hill : knownIllFormed.contains l.name = false) (vals : Vals) (hs : StateOK l vals) :
    ∃ ti, d.aux = [ti] ∧ leEnc 4 (d.initVals.getD ti 0) = Generated.RegLayouts.bcaTag ∧
      (leEnc 4 (vals.getD ti 0) = Generated.RegLayouts.bcaTag →
        ∃ b, exportArea l vals = .ok b ∧ b.length = Generated.RegLayouts.bcaSize ∧
          bcaParse Generated.RegLayouts.bcaTag ti l b vals = .ok vals) := by
  have hl : l ∈ Generated.RegLayouts.layouts := (List.of_mem_zip hld).1
  have wf := gen_layouts_wellformed l hl hill
  have h1 := List.all_eq_true.1 gen_segment_sizes l (List.mem_filter.2 ⟨hl, by simp [hk]⟩)
  simp only [hk, Bool.and_eq_true, bne_self_eq_false, Bool.false_or, beq_iff_eq] at h1
  obtain ⟨⟨hb, hdoc⟩, _⟩ := h1
  obtain ⟨ti, r, rd, haux, hr, hrd, _, hw, hinit, hmin, _⟩ :=
    fcbTableB_spec (List.all_eq_true.1 gen_bca_fcf_table.1 (l, d) (List.mem_filter.2 ⟨hld, by simp [hk]⟩))
  refine ⟨ti, haux, by simp [LayoutD.initVals, List.getD_eq_getElem?_getD, List.getElem?_map, hrd, hinit], fun htag => ?_⟩
  obtain ⟨b, he, hlen⟩ := area_export_size l vals wf hb hs
  exact ⟨b, he, by rw [hlen, (wf.bin hb).2.2.1 (by rw [hdoc]; decide), hdoc],
    bca_parse_export _ ti l vals b r wf hb hs he hr (by simpa [RegL.bytes, hw] using htag)⟩

/-- **FCF, every generated layout**: every state exports to exactly `FCF.SIZE` bytes, `FCF.parse` accepts them and gives the state back -/
theorem gen_fcf_roundtrip (l : Layout) (hl : l ∈ Generated.RegLayouts.layouts) (hk : l.kind = 5)
    (hill : knownIllFormed.contains l.name = false) (vals : Vals) (hs : StateOK l vals) :
    ∃ b, exportArea l vals = .ok b ∧ b.length = Generated.RegLayouts.fcfSize ∧
      fcfParse Generated.RegLayouts.fcfSize l b vals = .ok vals := by
  have wf := gen_layouts_wellformed l hl hill
  have h1 := List.all_eq_true.1 gen_segment_sizes l (List.mem_filter.2 ⟨hl, by simp [hk]⟩)
  simp only [hk, Bool.and_eq_true, bne_self_eq_false, Bool.false_or, beq_iff_eq] at h1
  obtain ⟨⟨hb, _⟩, hdoc⟩ := h1
  have hmin := List.all_eq_true.1 gen_bca_fcf_table.2 l (List.mem_filter.2 ⟨hl, by simp [hk]⟩)
  obtain ⟨b, he, hlen⟩ := area_export_size l vals wf hb hs
  exact ⟨b, he, by rw [hlen, (wf.bin hb).2.2.1 (by rw [hdoc]; decide), hdoc],
    fcf_parse_export _ l vals b wf hb hs he (of_decide_eq_true hmin)⟩

/-- **FCB, every generated layout** (every memory type of every family): a state whose tag word holds `FCFB` exports to the whole
    block of that memory type (at least `FCB.SIZE`, even length); `FCB.parse` accepts the block AND its byte-swapped form and gives
    the state back; the fresh object (template state) is such a state -/
theorem gen_fcb_roundtrip (l : Layout) (d : LayoutD) (hld : (l, d) ∈ layoutsD) (hk : l.kind = 6)
    (hill : knownIllFormed.contains l.name = false) (vals : Vals) (hs : StateOK l vals) :
    ∃ ti, d.aux = [ti] ∧ leEnc 4 (d.initVals.getD ti 0) = Generated.RegLayouts.fcbTag ∧
      (leEnc 4 (vals.getD ti 0) = Generated.RegLayouts.fcbTag →
        ∃ b, exportArea l vals = .ok b ∧ b.length = l.exportLen ∧ Generated.RegLayouts.fcbSize ≤ b.length ∧
          fcbParse Generated.RegLayouts.fcbSize Generated.RegLayouts.fcbTag ti l b vals = .ok vals ∧
          fcbParse Generated.RegLayouts.fcbSize Generated.RegLayouts.fcbTag ti l (swapPairs b) vals = .ok vals) := by
  have hl : l ∈ Generated.RegLayouts.layouts := (List.of_mem_zip hld).1
  have wf := gen_layouts_wellformed l hl hill
  have h1 := List.all_eq_true.1 gen_segment_sizes l (List.mem_filter.2 ⟨hl, by simp [hk]⟩)
  simp only [hk, Bool.and_eq_true] at h1
  have hb : l.binary = true := h1.1.1
  obtain ⟨ti, r, rd, haux, hr, hrd, ho, hw, hinit, hmin, hev⟩ :=
    fcbTableB_spec (List.all_eq_true.1 gen_fcb_table (l, d) (List.mem_filter.2 ⟨hld, by simp [hk]⟩))
  have hb4 : r.bytes = 4 := by simp [RegL.bytes, hw]
  have htl : Generated.RegLayouts.fcbTag.length = 4 := fcb_tag_not_symmetric.2
  refine ⟨ti, haux, by simp [LayoutD.initVals, List.getD_eq_getElem?_getD, List.getElem?_map, hrd, hinit], fun htag => ?_⟩
  obtain ⟨b, he, hlen⟩ := area_export_size l vals wf hb hs
  have h4l : 4 ≤ l.exportLen := Nat.le_trans (by decide) hmin
  exact ⟨b, he, hlen, hlen ▸ hmin,
    fcb_parse_export _ _ ti l vals b r wf hb hs he hmin hr ho (by rw [hb4, htl]) (by rw [hb4]; exact htag) fcb_tag_not_symmetric.1,
    fcb_parse_swapped _ _ ti l vals b r wf hb hs he hmin hr ho (by rw [hb4, htl]) htl (by rw [hb4]; exact htag) hev h4l⟩

/-- **memory configuration, every generated peripheral layout** (memcfg.py): the count rule of the database is one of the three the
    code knows and addresses the first option word; whenever the option words of a state exist, writing them with
    `option_words_to_bytes` (little-endian 32-bit words, in order) and parsing them into ANY object of that peripheral gives the same
    option words -/
theorem gen_memcfg_roundtrip (l : Layout) (d : LayoutD) (hld : (l, d) ∈ layoutsD) (hk : l.kind = 9)
    (vals cur ws : List Nat) (hs : StateOK l vals) (hc : l.regs.length = cur.length)
    (how : optionWords d.aux l vals = .ok ws) :
    (owBytes ws).length = 4 * ws.length ∧ optionWords d.aux l (parseArea l (owBytes ws) cur) = .ok ws := by
  have h := List.all_eq_true.1 gen_memcfg_table (l, d) (List.mem_filter.2 ⟨hld, by simp [hk]⟩)
  simp only [memcfgTableB, Bool.and_eq_true, Bool.not_eq_true', List.isEmpty_eq_false_iff] at h
  obtain ⟨⟨haux, hw⟩, hne⟩ := h
  refine ⟨owBytes_length ws, ?_⟩
  split at haux
  · next rule ri fi ud hax =>
    rw [hax] at how ⊢
    simp only [Bool.and_eq_true, decide_eq_true_eq, Bool.or_eq_true, beq_iff_eq] at haux
    rcases haux.2 with rfl | ⟨rfl, _⟩
    · -- rule `All`: the register index is not looked at
      have e : ∀ vs, optionWords [0, ri, fi, ud] l vs = optionWords [0, 0, fi, ud] l vs := fun vs => by simp [optionWords, owCount]
      rw [e] at how ⊢
      exact memcfg_parse_option_words 0 fi ud l vals cur ws (wordsFromB_sound 0 l.regs hw) hne hs hc how
    · exact memcfg_parse_option_words rule fi ud l vals cur ws (wordsFromB_sound 0 l.regs hw) hne hs hc how
  · cases haux

/-! ## configuration level: `get_config` → `load_from_config` (on top of the C11 configuration theorems) -/

/-- a well-formed register with its details is a well-formed C11 register -/
theorem toReg_wf (r : RegL) (rd : RegD) (v : Nat) (wf : RegWF r) (hv : v < 2 ^ r.width) : C11.RegWF (toReg r rd v) := by
  refine ⟨rfl, rfl, hv, fun f hf => ?_, ?_⟩
  · obtain ⟨k, hk, rfl⟩ := List.mem_iff_getElem.1 hf
    simp only [toReg, List.getElem_zipWith, toField]
    exact wf.fieldsIn _ (List.getElem_mem _)
  · rw [List.pairwise_iff_getElem]
    intro i j hi hj hij
    simp only [toReg, List.length_zipWith] at hi hj
    simp only [toReg, List.getElem_zipWith, toField]
    exact List.pairwise_iff_getElem.1 wf.fieldsDisj i j (by omega) (by omega) hij

theorem stateOK_get {l : Layout} {vals : Vals} {i : Nat} {r : RegL} {v : Nat} (hs : StateOK l vals)
    (hr : l.regs[i]? = some r) (hv : vals[i]? = some v) : v < 2 ^ r.width := by
  have := rv_pick hs hr
  simpa [List.getD_eq_getElem?_getD, hv] using this

/-- **Configuration round trip, index level.**  For a well-formed layout without byte-reversed registers: the configuration
    taken from state `vals` (`get_config`) loads (`load_yml_config`) into an object in state `init` - e.g. a freshly constructed
    one - and afterwards every register holds its value of `vals`, provided `init` agrees with `vals` on the bits a configuration
    does not carry (bits no bit-field covers; hidden bit-fields that hold their reset value). -/
theorem area_config_roundtrip_idx (l : Layout) (d : LayoutD) (vals init : Vals)
    (ha : Aligned3 l.regs d.regs vals) (hai : Aligned3 l.regs d.regs init)
    (wf : ∀ r ∈ l.regs, RegWF r) (hs : StateOK l vals) (hs0 : StateOK l init)
    (hrest : ∀ (i : Nat) (r : RegL) (rd : RegD) (v v0 : Nat), l.regs[i]? = some r → d.regs[i]? = some rd → vals[i]? = some v → init[i]? = some v0 →
      ∀ k, ¬ Regs.Carried (toRegMeta rd) (toReg r rd v) k → v0.testBit k = v.testBit k) :
    ∃ cfg rf', Regs.getConfig (toMeta d) (toFile l d vals) = .ok cfg ∧
      Regs.loadConfig (toMeta d) (toFile l d init) cfg = .ok rf' ∧ valuesOf rf' = vals := by
  have hok (i : Nat) (r : RegL) (rd : RegD) (v v0 : Nat) (hr : l.regs[i]? = some r) (hv : vals[i]? = some v)
      (hv0 : init[i]? = some v0) : C11.RegOK (toRegMeta rd) (toReg r rd v) (toReg r rd v0) :=
    have hw := wf r (List.mem_of_getElem? hr)
    ⟨⟨rfl, rfl, rfl, rfl, rfl, rfl, rfl⟩, .plain (toReg_wf r rd v hw (stateOK_get hs hr hv)),
      .plain (toReg_wf r rd v0 hw (stateOK_get hs0 hr hv0)), fun hne => absurd rfl hne⟩
  simp only [toFile, toFileFrom_eq, valuesOf]
  refine config_roundtrip_vals toReg (·.value) l d vals init ha hai (fun i r rd v v0 hr _ hv hv0 => hok i r rd v v0 hr hv hv0)
    fun i r rd v v0 r' hr hrd hv hv0 hrt => ?_
  have := (C11.config_roundtrip_same_state (toRegMeta rd) _ _ r' hrt (hok i r rd v v0 hr hv hv0)
    (hrest i r rd v v0 hr hrd hv hv0)).1 true
  have hp' : r'.subW = 0 ∧ r'.reverse = false := by
    cases hrt with
    | whole _ _ => exact ⟨rfl, rfl⟩
    | group hne => exact absurd rfl hne
    | fields x _ _ _ _ => exact ⟨rfl, rfl⟩
  rw [Regs.getAlt_plain r' _ true hp'.1 hp'.2, Regs.getAlt_plain (toReg r rd v) _ true rfl rfl] at this
  exact Except.ok.inj this


/-- **Configuration round trip** (`load_from_config(get_config(x))`), for every well-formed layout without byte-reversed
    registers whose names resolve (`findRegB`, `fieldNamesB`: kernel-checked for the generated tables): the dictionary
    `get_config` hands out, keyed by register and bit-field NAMES, is resolved by `find_reg` / `find_bitfield` to the registers
    it was taken from, loads into a fresh object, restores every value, and the fresh object then exports the same binary. -/
theorem area_config_roundtrip (l : Layout) (d : LayoutD) (vals : Vals)
    (ha : alignedB l d = true) (hlen : vals.length = l.regs.length) (wf : LayoutWF l)
    (hf : findRegB d = true) (hn : fieldNamesB d = true) (hs : StateOK l vals) (hs0 : StateOK l d.initVals)
    (hrest : ∀ (i : Nat) (r : RegL) (rd : RegD) (v : Nat), l.regs[i]? = some r → d.regs[i]? = some rd → vals[i]? = some v →
      ∀ k, ¬ Regs.Carried (toRegMeta rd) (toReg r rd v) k → rd.init.testBit k = v.testBit k) :
    ∃ cfg n rf', Regs.getConfig (toMeta d) (toFile l d vals) = .ok cfg ∧
      nameCfg d cfg = some n ∧ resolveCfg d n = some cfg ∧
      Regs.loadConfig (toMeta d) (toFile l d d.initVals) cfg = .ok rf' ∧ valuesOf rf' = vals ∧
      exportArea l (valuesOf rf') = exportArea l vals := by
  simp only [alignedB, Bool.and_eq_true] at ha
  have h3 : Aligned3 l.regs d.regs vals := aligned3_of_alignedB ha.1 hlen
  have hdl : d.regs.length = l.regs.length := (aligned3_lengths h3).1
  have h30 : Aligned3 l.regs d.regs d.initVals := aligned3_of_alignedB ha.1 (by simp [LayoutD.initVals, hdl])
  obtain ⟨cfg, rf', h1, h2, h4⟩ := area_config_roundtrip_idx l d vals d.initVals h3 h30 wf.regs hs hs0
    fun i r rd v v0 hr hrd hv hv0 k hk => initVals_get hrd hv0 ▸ hrest i r rd v hr hrd hv k hk
  obtain ⟨n, hn1, hn2⟩ := names_resolve d (toFile l d vals) cfg hf hn (by simp only [toFile]; rw [toFileFrom_length h3, hdl]) (by
    intro i x rd hx hrd
    obtain ⟨r, rd', v, hr, hrd', _, rfl⟩ := pick3 h3 hx
    cases hrd.symm.trans hrd'
    simp [toReg, aligned3_fields h3 hr hrd]) h1
  exact ⟨cfg, n, rf', h1, hn1, hn2, h2, h4, by rw [h4]⟩

theorem stateOK_init_of_resetsB (l : Layout) (d : LayoutD) (h : resetsB l d = true) : StateOK l d.initVals := by
  simp only [resetsB] at h
  simp only [StateOK, LayoutD.initVals]
  generalize l.regs = rs at h ⊢
  generalize d.regs = rds at h ⊢
  induction rs generalizing rds with
  | nil => cases rds with | nil => exact .nil | cons _ _ => simp [zipAll] at h
  | cons r rs ih =>
    cases rds with
    | nil => simp [zipAll] at h
    | cons rd rds =>
      simp only [zipAll, Bool.and_eq_true, decide_eq_true_eq] at h
      exact .cons h.1.1 (ih rds h.2)

/-- … and the database: every generated layout without byte-reversed registers, outside the named data defects, has the
    configuration round trip -/
theorem gen_config_roundtrip (l : Layout) (d : LayoutD) (hld : (l, d) ∈ layoutsD)
    (hk1 : knownIllFormed.contains l.name = false) (hk2 : knownDuplicateRegNames.contains l.name = false)
    (hk3 : knownDuplicateFieldNames.contains l.name = false) (_hnr : noReversedB d = true)
    (vals : Vals) (hlen : vals.length = l.regs.length) (hs : StateOK l vals)
    (hrest : ∀ (i : Nat) (r : RegL) (rd : RegD) (v : Nat), l.regs[i]? = some r → d.regs[i]? = some rd → vals[i]? = some v →
      ∀ k, ¬ Regs.Carried (toRegMeta rd) (toReg r rd v) k → rd.init.testBit k = v.testBit k) :
    ∃ cfg n rf', Regs.getConfig (toMeta d) (toFile l d vals) = .ok cfg ∧
      nameCfg d cfg = some n ∧ resolveCfg d n = some cfg ∧
      Regs.loadConfig (toMeta d) (toFile l d d.initVals) cfg = .ok rf' ∧ valuesOf rf' = vals ∧
      exportArea l (valuesOf rf') = exportArea l vals := by
  have hl : l ∈ Generated.RegLayouts.layouts := (List.of_mem_zip hld).1
  have wf := gen_layouts_wellformed l hl hk1
  have hall : ∀ {p : Layout × LayoutD → Bool}, layoutsD.all p = true → p (l, d) = true := by
    intro p hp; rw [List.all_eq_true] at hp; exact hp (l, d) hld
  have ha := hall gen_details_aligned
  have hr := hall gen_resets_fit
  have hn := hall gen_reg_names_unique_partial
  have hfn := hall gen_field_names_unique_partial
  simp only [hk2, Bool.false_or, Bool.and_eq_true] at hn
  simp only [hk3, Bool.false_or] at hfn
  exact area_config_roundtrip l d vals ha hlen wf hn.2 hfn hs (stateOK_init_of_resetsB l d hr) hrest


/-! ## configuration round trip with grouped registers (byte-reversed, alternative widths) and with the state hypothesis
    reduced to the bits no bit-field covers (Phase 3; helper lemmas in Proofs/ConfigAreaGrp.lean) -/

/-- one register of a well-formed layout with its details, in two states, satisfies the C11 round-trip conditions -/
theorem regOK_G (r : RegL) (rd : RegD) (v v0 : Nat) (wf : RegWF r) (hv : v < 2 ^ r.width) (hv0 : v0 < 2 ^ r.width)
    (gf : GroupFacts r rd) (hz : rd.subW ≠ 0 → rd.alts ≠ [] → v0 = 0) (hst : rd.subW ≠ 0 → AltStable r rd v) :
    C11.RegOK (toRegMeta rd) (toRegG r rd v) (toRegG r rd v0) := by
  by_cases h0 : rd.subW = 0
  · rw [toRegG_plain r rd v h0, toRegG_plain r rd v0 h0]
    exact ⟨⟨rfl, rfl, rfl, rfl, rfl, rfl, rfl⟩, .plain (toReg_wf r rd v wf hv), .plain (toReg_wf r rd v0 wf hv0),
      fun hne => absurd rfl hne⟩
  · rw [toRegG_group r rd v h0 hv, toRegG_group r rd v0 h0 hv0]
    have hw := gf.width h0
    have g1 := groupWF_G r rd v wf.bytes h0 hw
    have g0 := groupWF_G r rd v0 wf.bytes h0 hw
    have aok : ∀ x, C11.AltOK (toRegMeta rd).alts { groupBase r rd with subs := Regs.distribute (groupBase r rd) x } := fun x =>
      ⟨gf.alts h0, gf.order h0⟩
    refine ⟨⟨rfl, rfl, rfl, rfl, rfl, by simp only [Regs.distribute_length], rfl⟩, .group g1 rfl (aok v), .group g0 rfl (aok v0), ?_⟩
    intro _
    by_cases hal : rd.alts = []
    · rw [show (toRegMeta rd).alts = [] from hal]
      exact C11.altRT_nil _ _ g1 (by simp only [Regs.distribute_length])
    · refine ⟨fun i _ => ?_, fun hr a ha hlt => ?_⟩
      · rw [hz h0 hal]; exact distribute_zero r rd i
      · rw [assemble_G r rd v h0 hw hv] at hlt ⊢
        exact hst h0 hr a ha hlt

/-- the raw value a register holds after the round trip -/
theorem value_G (r : RegL) (rd : RegD) (v v0 : Nat) (r' : Regs.Reg) (hv : v < 2 ^ r.width) (hv0 : v0 < 2 ^ r.width)
    (gf : GroupFacts r rd) (hrt : C11.RegRT (toRegMeta rd) (toRegG r rd v) (toRegG r rd v0) r')
    (hrest : rd.subW = 0 → r.fields ≠ [] → ∀ k, ¬ Regs.Carried (toRegMeta rd) (toReg r rd v) k → v0.testBit k = v.testBit k) :
    (if r'.isGroup then Regs.assemble r' else r'.value) = v := by
  by_cases h0 : rd.subW = 0
  · rw [toRegG_plain r rd v h0, toRegG_plain r rd v0 h0] at hrt
    cases hrt with
    | whole _ _ => simp [Regs.Reg.isGroup, toReg]
    | group hne => exact absurd rfl hne
    | fields x hne _ hx hbits =>
      have hfne : r.fields ≠ [] := by
        intro he; apply hne; simp [toReg, he]
      have : x = v := by
        apply Nat.eq_of_testBit_eq; intro k
        by_cases hc : Regs.Carried (toRegMeta rd) (toReg r rd v) k
        · exact (hbits k).1 hc
        · rw [(hbits k).2 hc]; exact hrest h0 hfne k hc
      simp [Regs.Reg.isGroup, toReg, this]
  · rw [toRegG_group r rd v h0 hv, toRegG_group r rd v0 h0 hv0] at hrt
    cases hrt with
    | whole _ hp => exact absurd hp h0
    | group _ =>
      have hg : (groupBase r rd).subW ≠ 0 := h0
      simp only [Regs.Reg.isGroup, bne_iff_ne, ne_eq, hg, not_false_eq_true, if_true]
      exact assemble_G r rd v h0 (gf.width h0) hv
    | fields x _ hp _ _ => exact absurd hp h0

/-- **Configuration round trip, index level, grouped registers included.**  For a well-formed layout whose registers are plain
    registers or database-like groups (byte-reversed or not, with or without alternative widths): the configuration taken from state
    `vals` loads into an object in state `init` and afterwards EVERY register - groups through their sub-registers - holds its raw
    value of `vals`.  `hrest` is only asked for plain registers WITH bit-fields. -/
theorem area_config_roundtrip_groups_idx (l : Layout) (d : LayoutD) (vals init : Vals)
    (ha : Aligned3 l.regs d.regs vals) (hai : Aligned3 l.regs d.regs init)
    (wf : ∀ r ∈ l.regs, RegWF r) (hs : StateOK l vals) (hs0 : StateOK l init)
    (hg : ∀ (i : Nat) (r : RegL) (rd : RegD), l.regs[i]? = some r → d.regs[i]? = some rd → GroupFacts r rd)
    (hz : ∀ (i : Nat) (rd : RegD) (v0 : Nat), d.regs[i]? = some rd → init[i]? = some v0 → rd.subW ≠ 0 → rd.alts ≠ [] → v0 = 0)
    (hst : ∀ (i : Nat) (r : RegL) (rd : RegD) (v : Nat), l.regs[i]? = some r → d.regs[i]? = some rd → vals[i]? = some v →
      rd.subW ≠ 0 → AltStable r rd v)
    (hrest : ∀ (i : Nat) (r : RegL) (rd : RegD) (v v0 : Nat), l.regs[i]? = some r → d.regs[i]? = some rd → vals[i]? = some v →
      init[i]? = some v0 → rd.subW = 0 → r.fields ≠ [] →
      ∀ k, ¬ Regs.Carried (toRegMeta rd) (toReg r rd v) k → v0.testBit k = v.testBit k) :
    ∃ cfg rf', Regs.getConfig (toMeta d) (toFileG l d vals) = .ok cfg ∧
      Regs.loadConfig (toMeta d) (toFileG l d init) cfg = .ok rf' ∧ valuesOfG rf' = vals := by
  simp only [toFileG, toFileFromG_eq, valuesOfG]
  exact config_roundtrip_vals toRegG _ l d vals init ha hai
    (fun i r rd v v0 hr hrd hv hv0 => regOK_G r rd v v0 (wf r (List.mem_of_getElem? hr)) (stateOK_get hs hr hv)
      (stateOK_get hs0 hr hv0) (hg i r rd hr hrd) (hz i rd v0 hrd hv0) (hst i r rd v hr hrd hv))
    fun i r rd v v0 r' hr hrd hv hv0 hrt => value_G r rd v v0 r' (stateOK_get hs hr hv) (stateOK_get hs0 hr hv0)
      (hg i r rd hr hrd) hrt (hrest i r rd v v0 hr hrd hv hv0)

theorem toRegG_fields_length (r : RegL) (rd : RegD) (v : Nat) (hfl : r.fields.length = rd.fields.length)
    (gf : GroupFacts r rd) (hv : v < 2 ^ r.width) : (toRegG r rd v).fields.length = rd.fields.length := by
  by_cases h0 : rd.subW = 0
  · rw [toRegG_plain r rd v h0]; simp [toReg, hfl]
  · rw [toRegG_group r rd v h0 hv]
    have := gf.nofields h0
    rw [this] at hfl
    simp [groupBase, ← hfl]

/-- **Configuration round trip** (`load_from_config(get_config(x))`) for every well-formed layout, byte-reversed and alternative-width
    groups (ROTKH, RKTH, reversed fuse groups) INCLUDED, whose group structure is database-like (`groupsB`), whose reset values are
    what the fresh registers read (`resetsB`) and whose names resolve: the name-keyed dictionary `get_config` hands out resolves to
    the registers it came from, loads into a FRESH object, restores every raw register value, and the fresh object exports the same
    binary.  What is asked of the state: (`hunc`) on the bits of a register with bit-fields that NO bit-field covers it agrees with
    the fresh object (such bits cannot be expressed in a configuration), and (`hst`) a byte-reversed alternative-width group is
    unambiguous (`AltStable`, vacuous for values that fit the alternative width: `altStable_of_fits`). -/
theorem area_config_roundtrip_groups (l : Layout) (d : LayoutD) (vals : Vals)
    (ha : alignedB l d = true) (hlen : vals.length = l.regs.length) (wf : LayoutWF l)
    (hgr : groupsB l d = true) (hres : resetsB l d = true)
    (hf : findRegB d = true) (hn : fieldNamesB d = true) (hs : StateOK l vals)
    (hst : ∀ (i : Nat) (r : RegL) (rd : RegD) (v : Nat), l.regs[i]? = some r → d.regs[i]? = some rd → vals[i]? = some v →
      rd.subW ≠ 0 → AltStable r rd v)
    (hunc : ∀ (i : Nat) (r : RegL) (rd : RegD) (v : Nat), l.regs[i]? = some r → d.regs[i]? = some rd → vals[i]? = some v →
      rd.subW = 0 → r.fields ≠ [] → ∀ k, k < r.width → ¬ Covered r k → rd.init.testBit k = v.testBit k) :
    ∃ cfg n rf', Regs.getConfig (toMeta d) (toFileG l d vals) = .ok cfg ∧
      nameCfg d cfg = some n ∧ resolveCfg d n = some cfg ∧
      Regs.loadConfig (toMeta d) (toFileG l d d.initVals) cfg = .ok rf' ∧ valuesOfG rf' = vals ∧
      exportArea l (valuesOfG rf') = exportArea l vals := by
  simp only [alignedB, Bool.and_eq_true] at ha
  simp only [groupsB, Bool.and_eq_true] at hgr
  have h3 : Aligned3 l.regs d.regs vals := aligned3_of_alignedB ha.1 hlen
  have hdl : d.regs.length = l.regs.length := (aligned3_lengths h3).1
  have h30 : Aligned3 l.regs d.regs d.initVals := aligned3_of_alignedB ha.1 (by simp [LayoutD.initVals, hdl])
  have hs0 : StateOK l d.initVals := stateOK_init_of_resetsB l d hres
  have hgf : ∀ (i : Nat) (r : RegL) (rd : RegD), l.regs[i]? = some r → d.regs[i]? = some rd → GroupFacts r rd :=
    fun i r rd hr hrd => groupOkB_sound r rd (zipAll_get hgr.1 i r rd hr hrd)
  obtain ⟨cfg, rf', h1, h2, h4⟩ := area_config_roundtrip_groups_idx l d vals d.initVals h3 h30 wf.regs hs hs0 hgf
    (fun i rd v0 hrd hv0 hne hal => by
      obtain ⟨r, hr⟩ : ∃ r, l.regs[i]? = some r := ⟨_, List.getElem?_eq_getElem (hdl ▸ (List.getElem?_eq_some_iff.1 hrd).1)⟩
      exact initVals_get hrd hv0 ▸ ((hgf i r rd hr hrd).fresh hne).resolve_left hal)
    hst fun i r rd v v0 hr hrd hv hv0 h0 hfne k hk => by
      have e0 := stateOK_get hs0 hr hv0
      rw [initVals_get hrd hv0] at e0 ⊢
      by_cases hc : Covered r k
      · exact not_carried_covered r rd v k (aligned3_fields h3 hr hrd) (fieldResets_of_resetsB l d hres i r rd hr hrd) hc hk
      · by_cases hkw : k < r.width
        · exact hunc i r rd v hr hrd hv h0 hfne k hkw hc
        · rw [Regs.testBit_eq_false_of_lt e0 (by omega), Regs.testBit_eq_false_of_lt (stateOK_get hs hr hv) (by omega)]
  obtain ⟨n, hn1, hn2⟩ := names_resolve d (toFileG l d vals) cfg hf hn (by simp only [toFileG]; rw [toFileFromG_length h3, hdl]) (by
    intro i x rd hx hrd
    obtain ⟨r, rd', v, hr, hrd', hv, rfl⟩ := pick3G h3 hx
    cases hrd.symm.trans hrd'
    exact toRegG_fields_length r rd v (aligned3_fields h3 hr hrd) (hgf i r rd hr hrd) (stateOK_get hs hr hv)) h1
  exact ⟨cfg, n, rf', h1, hn1, hn2, h2, h4, by rw [h4]⟩

/-! ### … and the database: the group structure of every generated layout is database-like -/

/-- every register of every generated layout is a plain, non-reversed register without alternative widths, or a group without
    bit-fields of its own, exactly as wide as its sub-registers, whose alternative widths are byte and sub-register multiples not wider
    than the group, with normal sub-register order when there are alternative widths and a zero initial value in that case; and no
    register name is the name or uid of a sub-register.  Full-strength statement (false on the pinned tree): `groupsB` for every
    layout; refuted by mcxn946 pfr_cmpa_a0 / pfr_cfpa_a0 (group wider than its sub-registers, known finding
    C12-group-wider-than-subregs, already in `knownIllFormed`). -/
theorem gen_groups_ok_partial :
    layoutsD.all (fun ld => knownIllFormed.contains ld.1.name || groupsB ld.1 ld.2) = true := by
  rw [all_or_comm]; decide +kernel

/-- **every generated layout** outside the named data defects - the 21 layouts with byte-reversed groups (ROTKH, RKTH, SRKH,
    OTFAD keys, …) and the alternative-width groups included - has the configuration round trip; the hypotheses left are about the
    STATE only: unambiguous reversed alternative-width values (`hst`) and agreement with the fresh object on bits no bit-field covers
    (`hunc`); everything about the layout is a kernel-checked fact of the generated tables -/
theorem gen_config_roundtrip_groups (l : Layout) (d : LayoutD) (hld : (l, d) ∈ layoutsD)
    (hk1 : knownIllFormed.contains l.name = false) (hk2 : knownDuplicateRegNames.contains l.name = false)
    (hk3 : knownDuplicateFieldNames.contains l.name = false)
    (vals : Vals) (hlen : vals.length = l.regs.length) (hs : StateOK l vals)
    (hst : ∀ (i : Nat) (r : RegL) (rd : RegD) (v : Nat), l.regs[i]? = some r → d.regs[i]? = some rd → vals[i]? = some v →
      rd.subW ≠ 0 → AltStable r rd v)
    (hunc : ∀ (i : Nat) (r : RegL) (rd : RegD) (v : Nat), l.regs[i]? = some r → d.regs[i]? = some rd → vals[i]? = some v →
      rd.subW = 0 → r.fields ≠ [] → ∀ k, k < r.width → ¬ Covered r k → rd.init.testBit k = v.testBit k) :
    ∃ cfg n rf', Regs.getConfig (toMeta d) (toFileG l d vals) = .ok cfg ∧
      nameCfg d cfg = some n ∧ resolveCfg d n = some cfg ∧
      Regs.loadConfig (toMeta d) (toFileG l d d.initVals) cfg = .ok rf' ∧ valuesOfG rf' = vals ∧
      exportArea l (valuesOfG rf') = exportArea l vals := by
  have hl : l ∈ Generated.RegLayouts.layouts := (List.of_mem_zip hld).1
  have wf := gen_layouts_wellformed l hl hk1
  have hall : ∀ {p : Layout × LayoutD → Bool}, layoutsD.all p = true → p (l, d) = true := by
    intro p hp; rw [List.all_eq_true] at hp; exact hp (l, d) hld
  have ha := hall gen_details_aligned
  have hr := hall gen_resets_fit
  have hn := hall gen_reg_names_unique_partial
  have hfn := hall gen_field_names_unique_partial
  have hgr := hall gen_groups_ok_partial
  simp only [hk2, Bool.false_or, Bool.and_eq_true] at hn
  simp only [hk3, Bool.false_or] at hfn
  simp only [hk1, Bool.false_or] at hgr
  exact area_config_roundtrip_groups l d vals ha hlen wf hgr hr hn.2 hfn hs hst hunc

/-! ## hex-string registers (`config_as_hexstring`: FCF BACKDOOR_COMPARISON_KEY, CMPA ROTKH, fuse key groups): the text
    `get_hex_value` writes - hexadecimal digits WITHOUT prefix - is read back as the value by `_load_yml_config`

`Generated/ScalarRule.lean` holds, read from the AST of the CURRENT source, which parser `_load_yml_config` applies to a scalar under
which condition and in which order (plain scalar and `{value: x}` entry). -/

/-- for a hex-string register given as a string, the first parser that applies is `int(x, 16)` - in both places -/
theorem scalar_rule_hex_first :
    Generated.ScalarRule.scalarRule.map hexFirstB = some true ∧ Generated.ScalarRule.dictValueRule.map hexFirstB = some true := by
  decide

/-- **`load(get_hex_value(v)) = v`** for a `config_as_hexstring` register of `w` bits (`w` a multiple of 4, e.g. an alternative
    width) and EVERY `v < 2^w` - the digit-only texts ('0000000000000010', '1122334455667788', all nines) and the texts that look
    like a binary literal ('0B11…') included: the `w/4` digits written by `get_hex_value` decode to `v` under the rule of the
    current source -/
theorem hexstring_scalar_roundtrip (w v : Nat) (h4 : w % 4 = 0) (hw : 0 < w) (hv : v < 2 ^ w) :
    (∃ rule, Generated.ScalarRule.scalarRule = some rule ∧ decodeScalar rule true (.digits (hexDigits (w / 4) v)) = some v) ∧
    (∃ rule, Generated.ScalarRule.dictValueRule = some rule ∧ decodeScalar rule true (.digits (hexDigits (w / 4) v)) = some v) := by
  have hn : 0 < w / 4 := by omega
  have hv' : v < 16 ^ (w / 4) := by
    have : (16 : Nat) ^ (w / 4) = 2 ^ w := by
      rw [show (16 : Nat) = 2 ^ 4 from rfl, ← Nat.pow_mul]; congr 1; omega
    rw [this]; exact hv
  obtain ⟨r1, e1, p1⟩ := Option.map_eq_some_iff.1 scalar_rule_hex_first.1
  obtain ⟨r2, e2, p2⟩ := Option.map_eq_some_iff.1 scalar_rule_hex_first.2
  exact ⟨⟨r1, e1, decodeScalar_hex r1 p1 _ v hn hv'⟩, ⟨r2, e2, decodeScalar_hex r2 p2 _ v hn hv'⟩⟩

example : hexDigits 16 0x10 = [0, 0, 0, 0, 0, 0, 0, 0, 0, 0, 0, 0, 0, 0, 1, 0] := by decide
/-- why the order matters (seeded change C12f): "try `value_to_int` first, fall back to base 16" reads the digit-only text of 0x10
    as the decimal number 10, and a text that starts with 0B as a binary literal; the checker refuses that rule -/
example : decodeScalar [⟨.always, .valueToInt, true⟩, ⟨.hexReg, .hex16, false⟩] true (.digits (hexDigits 16 0x10)) = some 10 := by decide
example : decodeScalar [⟨.always, .valueToInt, true⟩, ⟨.hexReg, .hex16, false⟩] true (.digits (hexDigits 4 0x0B11)) = some 3 := by decide
example : decodeScalar [⟨.always, .valueToInt, true⟩, ⟨.hexReg, .hex16, false⟩] true (.digits (hexDigits 4 0xBEEF)) = some 0xBEEF := by decide
example : hexFirstB [⟨.always, .valueToInt, true⟩, ⟨.hexReg, .hex16, false⟩] = false := by decide

/-! ## alternative-width, byte-reversed registers (ROTKH of the CMPA, RKTH fuse group) -/

section Rotkh
open SpsdkVerif.Regs

/-- the stored raw value of a byte-reversed value of `n` bytes, exported little endian over `n + d` bytes, is the big-endian
    byte string of the value, left-justified and zero padded -/
theorem reversed_field_bytes (n d v : Nat) (hv : v < 256 ^ n) :
    leEnc (n + d) (leDec (beEnc n v)) = beEnc n v ++ List.replicate d 0 := by
  have hx : leDec (beEnc n v) < 256 ^ n := leDec_beEnc_lt n v
  have hpad := beEnc_pad n d (leDec (beEnc n v)) hx
  have hrev : (beEnc n (leDec (beEnc n v))).reverse = beEnc n v := by
    have h := (beDec_reverse_spec (beEnc n v)).2
    rw [beEnc_length'] at h
    simp only [leDec]
    rw [h, List.reverse_reverse]
  simp only [leEnc]
  rw [Nat.add_comm, hpad, List.reverse_append, hrev, List.reverse_replicate]

/-- **ROTKH / RKTH placement** (register of 384 bit with the alternative width 256, byte reversed; `gen_alt_width` of C11 ties
    `altWidth` to the current `Register.get_alt_width`): EVERY value below 2^256 - short ones with leading zero bytes included, down to
    0 and 1 - selects the 256-bit width, and the 48 exported bytes of the stored raw value are the 32-byte big-endian value followed
    by 16 zero bytes; a value that needs more than 32 bytes uses the full width. -/
theorem rotkh_placement (v : Nat) :
    (v < 2 ^ 256 → altWidth [256] 384 v = 256 ∧ ∃ x, brev 256 v = some x ∧ leEnc 48 x = beEnc 32 v ++ List.replicate 16 0) ∧
    (2 ^ 256 ≤ v → v < 2 ^ 384 → altWidth [256] 384 v = 384 ∧ ∃ x, brev 384 v = some x ∧ leEnc 48 x = beEnc 48 v) := by
  constructor
  · intro hv
    have e32 : (256 : Nat) ^ 32 = 2 ^ 256 := by decide
    have h256 : v < 256 ^ 32 := by rw [e32]; exact hv
    have hfit : byteCnt v ≤ 256 / 8 := (byteCnt_le_iff v 32 (by decide)).2 h256
    refine ⟨altWidth_cons_fit 256 [] 384 v hfit (by simp), leDec (beEnc 32 v), ?_, ?_⟩
    · rw [brev_eq 256 v (by decide) hv]
    · exact reversed_field_bytes 32 16 v h256
  · intro hlo hhi
    have e32 : (256 : Nat) ^ 32 = 2 ^ 256 := by decide
    have h256 : ¬ v < 256 ^ 32 := by rw [e32]; omega
    have hnf : ¬ byteCnt v ≤ 256 / 8 := fun h => h256 ((byteCnt_le_iff v 32 (by decide)).1 h)
    have e48 : (256 : Nat) ^ 48 = 2 ^ 384 := by decide
    have h384 : v < 256 ^ 48 := by rw [e48]; exact hhi
    refine ⟨by rw [altWidth_cons_nofit 256 [] 384 v hnf, altWidth_nil], leDec (beEnc 48 v), ?_, ?_⟩
    · rw [brev_eq 384 v (by decide) hhi]
    · have := reversed_field_bytes 48 0 v h384
      simpa using this

end Rotkh

/-! ## the database: every (family, revision, area) row uses one of the generated layouts, hence … -/

theorem gen_layouts_roundtrip (l : Layout) (hl : l ∈ Generated.RegLayouts.layouts)
    (hk : knownIllFormed.contains l.name = false) (hb : l.binary = true) (vals : Vals) (hs : StateOK l vals) :
    ∃ b, exportArea l vals = .ok b ∧ b.length = l.exportLen ∧ (l.docSize ≠ 0 → b.length = l.docSize) ∧
      parseArea l b vals = vals ∧ exportArea l (parseArea l b vals) = .ok b := by
  have wf := gen_layouts_wellformed l hl hk
  obtain ⟨b, he, hlen⟩ := area_export_size l vals wf hb hs
  exact ⟨b, he, hlen, fun hd => by rw [hlen, (wf.bin hb).2.2.1 hd],
    area_values_restored l vals b wf hb hs he, area_parse_export l vals b wf hb hs he⟩

/-! ## non-vacuity -/

/-- a small page: two visible registers (one with bit-fields and a computed upper half), a reserved word, a seal word -/
def exLayout : Layout :=
  Layout.ofRaw "example" 0 16 0xFF 16 true [(0, 0)] 12 1
    [[0, 32, 0, 32, 0, 16, 16, 16], [4, 16, 0, 16], [8, 32, 1, 32], [12, 32, 0, 32]]

example : layoutWFb exLayout = true := by decide
example : LayoutWF exLayout := layoutWFb_sound _ (by decide)
example : StateOK exLayout [0x1234, 0xBEEF, 7, 0] :=
  .cons (by decide) (.cons (by decide) (.cons (by decide) (.cons (by decide) .nil)))
example : computeAll exLayout.computed (fun _ => true) [0x1234, 0xBEEF, 7, 0] = [0xEDCB1234, 0xBEEF, 7, 0] := by decide
example : exportArea exLayout [0xEDCB1234, 0xBEEF, 7, 0] =
    .ok [0x34, 0x12, 0xCB, 0xED, 0xEF, 0xBE, 0xFF, 0xFF, 7, 0, 0, 0, 0, 0, 0, 0] := by decide
-- the reserved register (index 2) is not touched by parse
example : parseArea exLayout [0x34, 0x12, 0xCB, 0xED, 0xEF, 0xBE, 0xFF, 0xFF, 7, 0, 0, 0, 0, 0, 0, 0] [0, 0, 99, 0]
    = [0xEDCB1234, 0xBEEF, 99, 0] := by decide
example : exportSealed Generated.RegLayouts.sealMark exLayout [0xEDCB1234, 0xBEEF, 7, 0] =
    .ok [0x34, 0x12, 0xCB, 0xED, 0xEF, 0xBE, 0xFF, 0xFF, 7, 0, 0, 0, 0x53, 0x45, 0x41, 0x4C] := by decide
-- an overlapping layout is refused by the checker
example : layoutWFb (Layout.ofRaw "bad" 0 8 0 0 true [] 0 0 [[0, 32, 0, 32], [2, 32, 0, 32]]) = false := by decide
-- the generated table is not empty and contains binary areas with computed fields and seals
example : Generated.RegLayouts.layouts.any (fun l => l.binary && !l.computed.isEmpty && l.sealCount != 0) = true := by
  decide +kernel
example : tzExport [1, 0xFFFFFFFF] = .ok [1, 0, 0, 0, 0xFF, 0xFF, 0xFF, 0xFF] := by decide
example : RuleHolds 0 0xEDCB1234 ∧ RuleHolds 1 0x0000A55A := by decide

/-! ### non-vacuity of the grouped-register configuration round trip -/

/-- a 16-bit register with three 4-bit bit-fields (the middle one hidden; bits 12..15 covered by no bit-field) and a byte-reversed
    group of two 16-bit sub-registers with the alternative width 16 -/
def exLayoutG : Layout := Layout.ofRaw "exampleG" 0 8 0 0 true [] 0 0 [[0, 16, 0, 16, 0, 4, 4, 4, 8, 4], [4, 32, 0, 32]]
def exDetailsG : LayoutD := LayoutD.ofRaw 99 [] []
  [([0x0120, 1, 2, 4], [[0, 4, 0, 10], [2, 5, 0, 11], [1, 4, 0, 12]]), ([0, 3, 4, 5, 16, 2, 0, 1, 16, 6, 7, 8, 9], [])]

example : layoutWFb exLayoutG = true ∧ alignedB exLayoutG exDetailsG = true ∧ groupsB exLayoutG exDetailsG = true ∧
    resetsB exLayoutG exDetailsG = true ∧ findRegB exDetailsG = true ∧ fieldNamesB exDetailsG = true := by decide

def exR0 : RegL := ⟨0, 16, false, 16, [⟨0, 4⟩, ⟨4, 4⟩, ⟨8, 4⟩]⟩
def exR1 : RegL := ⟨4, 32, false, 32, []⟩
theorem exLayoutG_regs : exLayoutG.regs = [exR0, exR1] := by decide
theorem exDetailsG_subW : exDetailsG.regs.map (·.subW) = [0, 16] ∧ exDetailsG.regs.map (·.alts) = [[], [16]] ∧
    exDetailsG.regs.map (·.init) = [0x0120, 0] := by decide

/-- the state: the hidden bit-field at its reset value 2, the uncovered bits 12..15 as in the fresh object, the group holding the
    byte-reversed 16-bit value 0xABCD (raw 0xCDAB: fits the alternative width) -/
def exValsG : Vals := [0x0325, 0xCDAB]

example : StateOK exLayoutG exValsG := .cons (by decide) (.cons (by decide) .nil)

/-- what the model computes for it: the group is written out through its byte-reversed 16-bit view and comes back -/
example : (Regs.getConfig (toMeta exDetailsG) (toFileG exLayoutG exDetailsG exValsG)).toOption.map (·.map (·.2)) =
    some [.fields [(0, .num 5), (2, .num 3)], .value 0xABCD] := by decide
example : (Regs.getConfig (toMeta exDetailsG) (toFileG exLayoutG exDetailsG exValsG)).toOption.bind (fun cfg =>
    (Regs.loadConfig (toMeta exDetailsG) (toFileG exLayoutG exDetailsG exDetailsG.initVals) cfg).toOption.map valuesOfG) =
    some exValsG := by decide

/-- … and the hypotheses of `area_config_roundtrip_groups` hold for it (non-vacuity, all of them at once) -/
example : ∃ cfg n rf', Regs.getConfig (toMeta exDetailsG) (toFileG exLayoutG exDetailsG exValsG) = .ok cfg ∧
      nameCfg exDetailsG cfg = some n ∧ resolveCfg exDetailsG n = some cfg ∧
      Regs.loadConfig (toMeta exDetailsG) (toFileG exLayoutG exDetailsG exDetailsG.initVals) cfg = .ok rf' ∧ valuesOfG rf' = exValsG ∧
      exportArea exLayoutG (valuesOfG rf') = exportArea exLayoutG exValsG := by
  refine area_config_roundtrip_groups exLayoutG exDetailsG exValsG (by decide) rfl (layoutWFb_sound _ (by decide)) (by decide)
    (by decide) (by decide) (by decide) (.cons (by decide) (.cons (by decide) .nil)) ?_ ?_
  · intro i r rd v hr hrd hv hne
    apply altStable_of_fits
    have ha : (exDetailsG.regs.map (·.alts))[i]? = some rd.alts := by simp [hrd]
    rw [exDetailsG_subW.2.1] at ha
    match i, hv, ha with
    | 0, _, ha => simp at ha; intro a h; rw [ha] at h; cases h
    | 1, hv, ha =>
      simp [exValsG] at hv ha; subst hv
      intro a h; rw [← ha] at h; simp at h; subst h; decide
    | i + 2, hv, _ => simp [exValsG] at hv
  · intro i r rd v hr hrd hv h0 _ k hk hnc
    have hs : (exDetailsG.regs.map (·.subW))[i]? = some rd.subW := by simp [hrd]
    have hi : (exDetailsG.regs.map (·.init))[i]? = some rd.init := by simp [hrd]
    rw [exDetailsG_subW.1] at hs
    rw [exDetailsG_subW.2.2] at hi
    rw [exLayoutG_regs] at hr
    match i, hr, hv, hs, hi with
    | 0, hr, hv, _, hi =>
      simp at hr hi; simp [exValsG] at hv; subst hr; subst hv; rw [← hi]
      have hk' : k < 16 := hk
      by_cases h12 : k < 12
      · exfalso; apply hnc
        by_cases h4 : k < 4
        · exact ⟨⟨0, 4⟩, by simp [exR0], by simp, by simpa using h4⟩
        · by_cases h8 : k < 8
          · exact ⟨⟨4, 4⟩, by simp [exR0], by simp; omega, by simp; omega⟩
          · exact ⟨⟨8, 4⟩, by simp [exR0], by simp; omega, by simp; omega⟩
      · have : k = 12 ∨ k = 13 ∨ k = 14 ∨ k = 15 := by omega
        rcases this with rfl | rfl | rfl | rfl <;> decide
    | 1, _, _, hs, _ => simp at hs; omega
    | i + 2, hr, _, _, _ => simp at hr

end SpsdkVerif.C12
