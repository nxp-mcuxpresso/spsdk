/-
C18 — database cache: no crash point or concurrent start can break or skew SPSDK.

What is proved here is about the action programs of `Model/DbCache.lean`, instantiated with the guards
that `tools/extract/gen_C18.py` reads from the CURRENT source (`Generated/CacheGuards.lean`):

  * `guards_wf`, `caught_covers`, `sites_guarded` — decided on the generated tables: the lexical facts the
    proofs need hold in the source as it is now (caught exception classes, lock regions, handler shape);
  * `crash_states_harmless`, `answers_equal_disabled` — one process started on ANY cache state a crash can
    leave (missing, empty, any prefix, stale, valid);
  * `schedule_safe`, `schedule_terminates` — ALL interleavings of ANY number of processes, with SIGKILLs
    at any point (inside `pickle.dump`: any prefix written), from any such state.

Assumed, not proved (stated as hypotheses; the harness measures them on every run):
  `PickleOK`  — `pickle.load (pickle.dump v) = v`; a strict prefix of a dump, and the empty file, never
                load but raise a class from `measuredPrefixExcs`;
  `Sound`     — fingerprint soundness of whatever object the initial file holds.
The tie between these programs and the Python code is the generated guards plus the trace
correspondence of `harness/props/C18.py` (real processes under a controlled scheduler vs `drv_c18`).
-/
import SpsdkVerif.Generated.CacheGuards
import SpsdkVerif.Model.DbCache
import SpsdkVerif.Proofs.DbCacheInv
import SpsdkVerif.Proofs.DbCacheSeq
import SpsdkVerif.Proofs.DbCacheCodec
import SpsdkVerif.Proofs.DbCacheFatal
import SpsdkVerif.Proofs.DbCacheProgram
import SpsdkVerif.Generated.CachePrograms
import SpsdkVerif.Proofs.DbCacheListingSem
import SpsdkVerif.Proofs.DbCacheFingerprint
import SpsdkVerif.Generated.CacheFingerprint

namespace SpsdkVerif.C18
open SpsdkVerif SpsdkVerif.DbCache

/-- quick-info cache: `DatabaseManager._get_quick_info_db` (load and store) -/
def quickG : Guards := ⟨Generated.CacheGuards.quickLoader, Generated.CacheGuards.quickWriter⟩
/-- config cache: `DatabaseData.__init__` (load) and `DatabaseData.make_cache` (merge + store) -/
def configG : Guards := ⟨Generated.CacheGuards.configLoader, Generated.CacheGuards.configWriter⟩

/-- The MEASURED set of exception classes `pickle.load` raises on the empty file and on strict prefixes of
    both cache files.  The harness re-measures it on every run (every prefix in the thorough tier) and
    fails when it observes a class outside this list. -/
def measuredPrefixExcs : List Exc := [.EOFError, .UnpicklingError]

/-- the lexical facts the proofs below rest on hold for both caches in the current source -/
theorem guards_wf : wfGuards quickG = true ∧ wfGuards configG = true := by decide

/-- every measured class is caught wherever a cache file is unpickled (loaders, and the merge read) -/
theorem caught_covers :
    coversMeasured quickG measuredPrefixExcs = true ∧ coversMeasured configG measuredPrefixExcs = true := by decide

/-- Table obligation over EVERY lexical file operation in the functions that (un)pickle a cache:
    writes are inside the lock and inside a `try` that catches `OSError`; reads/removes tolerate a
    file that vanished; loads catch every measured class.  (Not required: the lock around a load.) -/
def siteOK (s : CacheSite) : Bool :=
  (if s.op == "open_w" || s.op == "dump" || s.op == "replace" then s.inLock && Exc.caughtBy s.caught .OSError else true) &&
  (if s.op == "makedirs" then Exc.caughtBy s.caught .OSError else true) &&
  (if s.op == "open_r" || s.op == "remove" then Exc.caughtBy s.caught .FileNotFoundError else true) &&
  (if s.op == "load" then measuredPrefixExcs.all (Exc.caughtBy s.caught) else true)

theorem sites_guarded : Generated.CacheGuards.sites.all siteOK = true := by decide

/-- the model really has the two shapes the source has (not two copies of one) -/
theorem shapes :
    quickG.w.mergesExisting = false ∧ configG.w.mergesExisting = true ∧
    quickG.l.removeStale = false ∧ configG.l.removeStale = true ∧ configG.l.handlerRemoves = true := by decide

/-- **The program text is the model's.**  The ordered listing of cache actions that the generator reads from the
    three functions (action, lock scope, enclosing branches, handler classes of the enclosing `try`s, in source order)
    equals the canonical text of the model's action programs instantiated with the generated guards
    (`Proofs/DbCacheProgram.lean`).  A reordered / added / dropped action, or one moved out of its lock, `try` or
    branch, breaks this even when no guard flag changes. -/
theorem program_text_canonical :
    Generated.CachePrograms.quickProgram = Program.quick quickG ∧
    Generated.CachePrograms.configLoaderProgram = Program.configLoader configG.l ∧
    Generated.CachePrograms.configWriterProgram = Program.configWriter configG.w := by decide

/-- **The regenerated program means what the model does.**  The generated listings, executed by the generic listing
    semantics of `Proofs/DbCacheListingSem.lean` (items in source order; branch conditions and handlers activated
    dynamically; each action with its obvious effect — no reference to `pstep` or to the guard flags), and the model
    (`pstep` with the generated guards, run to completion) produce the same sequence of observable actions, the same final
    cache file, the same answers and the same fatal/non-fatal outcome — for one process started on every class of
    initial file (missing, empty, truncated, valid, stale, wrong type, garbage) and several query lists.  Kernel-evaluated
    on every run on the listings of the CURRENT source. -/
theorem listing_semantics_agree :
    (ListingSem.initialFiles [0]).all (fun f =>
      ListingSem.runQuick ListingSem.env0 Generated.CachePrograms.quickProgram f
        == ListingSem.modelOutcome ListingSem.env0 quickG f [0]) = true ∧
    (ListingSem.initialFiles [1, 2]).all (fun f => [[1], [1, 2], [3, 1], []].all fun qs =>
      ListingSem.runConfig ListingSem.env0 Generated.CachePrograms.configLoaderProgram
          Generated.CachePrograms.configWriterProgram f qs
        == ListingSem.modelOutcome ListingSem.env0 configG f qs) = true := by
  constructor <;> decide +kernel

/-- … and the comparison is not vacuous: e.g. on the stale config cache the common run removes the file, stores twice. -/
example : (ListingSem.runConfig ListingSem.env0 Generated.CachePrograms.configLoaderProgram
      Generated.CachePrograms.configWriterProgram
      (some (ListingSem.env0.pickle { ty := 1, fp := 0, ents := [(1, 0)] })) [3, 1]).trace =
    ["exists", "acquire", "open_r", "load", "release", "remove", "acquire", "exists", "open_w", "dump", "release",
     "acquire", "exists", "open_r", "load", "open_w", "dump", "release"] := by decide +kernel

/-- Every state a crash can leave is harmless: the empty file and every prefix (strict or not) of a
    dump of a fingerprint-sound object. -/
theorem crash_state_bytes_harmless (env : Env) (G : Guards)
    (hP : PickleOK env measuredPrefixExcs) (hM : coversMeasured G measuredPrefixExcs = true)
    (v : Val) (hv : Sound env v) (n : Nat) : Harmless env G ((env.pickle v).take n) := by
  unfold Harmless
  rcases unpickle_take hP hM v n with ⟨e, he, hc⟩ | h
  · rw [he]; exact hc
  · rw [h]; exact hv

/-- **crash_states_harmless.**  A process started alone on the cache state `f0` — missing, or any prefix
    (empty … complete) of a dump of any fingerprint-sound object, i.e. also a stale or wrong-type one —
    finishes normally (not fatal), answers every query exactly as a load from the data folder, releases the
    lock and leaves the cache missing or complete, valid and up to date. -/
theorem crash_states_harmless (env : Env) (hP : PickleOK env measuredPrefixExcs)
    (v : Val) (hv : Sound env v) (n : Nat) (f0 : Option Bytes)
    (hf : f0 = none ∨ f0 = some ((env.pickle v).take n)) :
    (∃ k sh p, runSeq env quickG k { file := f0, lock := none } (initProc quickG [0]) = (sh, p) ∧
        p.pc = .done ∧ p.answers = disabledAnswers env [0] ∧ sh.lock = none ∧
        (sh.file = none ∨ ∃ b, sh.file = some b ∧ Valid env b)) ∧
    (∀ qs, ∃ k sh p, runSeq env configG k { file := f0, lock := none } (initProc configG qs) = (sh, p) ∧
        p.pc = .done ∧ p.answers = disabledAnswers env qs ∧ sh.lock = none ∧
        (sh.file = none ∨ ∃ b, sh.file = some b ∧ Valid env b)) := by
  have hsafe : ∀ G, coversMeasured G measuredPrefixExcs = true → FileSafe env G f0 := by
    intro G hM b hb
    rcases hf with h | h
    · rw [h] at hb; cases hb
    · rw [h] at hb; cases hb; exact crash_state_bytes_harmless env G hP hM v hv n
  refine ⟨?_, fun qs => ?_⟩
  · exact seq_run env quickG measuredPrefixExcs guards_wf.1 hP f0 (hsafe _ caught_covers.1) [0]
      (Or.inr ⟨by simp, shapes.1⟩)
  · exact seq_run env configG measuredPrefixExcs guards_wf.2 hP f0 (hsafe _ caught_covers.2) qs
      (Or.inl ⟨shapes.2.2.2.1, shapes.2.2.2.2⟩)

/-- **answers_equal_disabled.**  Whatever harmless state the cache is in, the answers of a start equal the
    answers of a start with the cache disabled (`disabledAnswers`: every query loaded from the data folder):
    a cached object is used only if `isinstance ∧ fingerprint = current`. -/
theorem answers_equal_disabled (env : Env) (G : Guards) (hG : G = quickG ∨ G = configG)
    (hP : PickleOK env measuredPrefixExcs) (f0 : Option Bytes) (h0 : FileSafe env G f0) (qs : List Nat)
    (hq : G = quickG → qs = [0]) :
    ∃ k, (runSeq env G k { file := f0, lock := none } (initProc G qs)).2.pc = .done ∧
         (runSeq env G k { file := f0, lock := none } (initProc G qs)).2.answers = disabledAnswers env qs := by
  rcases hG with rfl | rfl
  · obtain ⟨k, sh, p, h, h1, h2, _⟩ := seq_run env quickG measuredPrefixExcs guards_wf.1 hP f0 h0 qs
      (Or.inr ⟨by rw [hq rfl]; simp, shapes.1⟩)
    exact ⟨k, by rw [h]; exact h1, by rw [h]; exact h2⟩
  · obtain ⟨k, sh, p, h, h1, h2, _⟩ := seq_run env configG measuredPrefixExcs guards_wf.2 hP f0 h0 qs
      (Or.inl ⟨shapes.2.2.2.1, shapes.2.2.2.2⟩)
    exact ⟨k, by rw [h]; exact h1, by rw [h]; exact h2⟩

/-- **schedule_safe.**  For every number of processes (`queries.length`), every initial harmless cache state
    and EVERY schedule (any interleaving of the processes' atomic actions, any process killed at any point,
    a kill inside `pickle.dump` leaving any prefix; any lock / open / write failing with an I/O error of `ioExcs`,
    `pickle.dump` failing after any prefix — read-only or full cache folder, lock time-out): in every reachable state no process is fatal, every
    answer given so far is the answer of a load from the data folder, a finished process has answered all
    its queries so, and the cache file is again harmless (so the next start is covered too). -/
theorem schedule_safe (env : Env) (G : Guards) (hG : G = quickG ∨ G = configG)
    (hP : PickleOK env measuredPrefixExcs) (f0 : Option Bytes) (h0 : FileSafe env G f0)
    (queries : List (List Nat)) (sched : List Lbl) (hnw : ∀ l ∈ sched, l.isWipe = false) (s : St)
    (hrun : runSched env G (initSt G f0 queries) sched = some s) :
    (∀ p ∈ s.procs, ProcSafe env p) ∧ FileSafe env G s.sh.file ∧ s.procs.map (·.asked) = queries := by
  rcases hG with rfl | rfl
  · exact (Sched.sched_Inv env quickG _ guards_wf.1 hP caught_covers.1 f0 h0 queries sched hnw s hrun).safe h0
  · exact (Sched.sched_Inv env configG _ guards_wf.2 hP caught_covers.2 f0 h0 queries sched hnw s hrun).safe h0

/-- **schedule_terminates.**  Every schedule is finite (bounded by the initial measure: no livelock), and as
    long as some process is unfinished some process can act (no deadlock on the file lock) — so every maximal
    schedule ends with every process `done` (or killed), and by `schedule_safe` none fatal. -/
theorem schedule_terminates (env : Env) (G : Guards) (hG : G = quickG ∨ G = configG)
    (hP : PickleOK env measuredPrefixExcs) (f0 : Option Bytes) (h0 : FileSafe env G f0)
    (queries : List (List Nat)) (sched : List Lbl) (hnw : ∀ l ∈ sched, l.isWipe = false) (s : St)
    (hrun : runSched env G (initSt G f0 queries) sched = some s) :
    sched.length ≤ (initSt G f0 queries).totalMeasure ∧
    ((∃ p ∈ s.procs, p.pc.terminal = false) → ∃ i, (gstep env G s (.run i)).isSome = true) := by
  refine ⟨?_, fun hl => ?_⟩
  · have h := sched_length_le env G _ _ sched hrun
    have hf : sched.filter (fun l => !l.isWipe) = sched :=
      List.filter_eq_self.mpr (fun l hl => by simp [hnw l hl])
    rw [hf] at h; omega
  · rcases hG with rfl | rfl
    · exact (Sched.sched_Inv env quickG _ guards_wf.1 hP caught_covers.1 f0 h0 queries sched hnw s hrun).progress hl
    · exact (Sched.sched_Inv env configG _ guards_wf.2 hP caught_covers.2 f0 h0 queries sched hnw s hrun).progress hl

/-- the generated guards catch every `Exception` (they are `except Exception`) and every raise site is in its `try` -/
theorem guards_catch_all : CatchAll quickG ∧ CatchAll configG := by
  refine ⟨⟨fun e he => ?_, ?_⟩, ⟨fun e he => ?_, ?_⟩⟩
  · simpa [quickG, Generated.CacheGuards.quickLoader, Generated.CacheGuards.quickWriter, Exc.caughtBy] using he
  · decide
  · simpa [configG, Generated.CacheGuards.configLoader, Generated.CacheGuards.configWriter, Exc.caughtBy] using he
  · decide

/-- **never_fatal.**  Whatever is in the cache file (garbage included), whoever removes the cache folder at whatever
    moment (`wipe`: an SPSDK process running with SPSDK_CACHE_DISABLED `rmtree`s it, breaking the lock of whoever holds
    it), whichever lock / open / write fails with an I/O error (read-only or full folder, time-out), whoever is
    killed: no process of any schedule is ever fatal — provided only that `pickle.load` raises nothing but
    `Exception` subclasses.  (The *answers* under `wipe` are not covered by a theorem: two writers may then share an inode.) -/
theorem never_fatal_any_schedule (env : Env) (G : Guards) (hG : G = quickG ∨ G = configG)
    (hR : RaisesOnlyExceptions env) (f0 : Option Bytes) (queries : List (List Nat)) (sched : List Lbl) (s : St)
    (hrun : runSched env G (initSt G f0 queries) sched = some s) :
    ∀ p ∈ s.procs, ∀ e, p.pc ≠ .fatal e := by
  rcases hG with rfl | rfl
  · exact never_fatal env quickG guards_catch_all.1 hR f0 queries sched s hrun
  · exact never_fatal env configG guards_catch_all.2 hR f0 queries sched s hrun

/-- shape obligations on the two fingerprint functions of the CURRENT source: an unconfigured folder is `continue`d over
    (no other exit from the loop), defaults + device names + device files are stamped with mtime and size, the call site
    hands over the three folders; the config fingerprint hashes its three path parameters and stamps every cached file -/
theorem fingerprint_shapes_wf :
    Fingerprint.wfQuickHash Generated.CacheFingerprint.quickHash = true ∧
    Fingerprint.wfConfigHash Generated.CacheFingerprint.configHash = true := by decide

/-- **Every configured folder is in the fingerprint**, wherever it stands in `[data, restricted, add-ons]` and whichever
    of the others is not configured. -/
theorem fingerprint_covers_all_folders (paths : List (Option Fingerprint.Folder)) (f : Fingerprint.Folder)
    (hf : some f ∈ paths) :
    ∀ it ∈ Fingerprint.folderItems Generated.CacheFingerprint.quickHash f,
      it ∈ Fingerprint.fpInputs Generated.CacheFingerprint.quickHash paths :=
  Fingerprint.covers _ (by decide) paths f hf

/-- **Any visible change of any configured folder changes what is hashed** (installing, updating or removing a
    device file or the defaults of the data, restricted or add-ons folder) — so, SHA-1 collisions apart, a cache made
    before the change fails the fingerprint comparison (`Sound` of the stale object holds vacuously). -/
theorem fingerprint_sees_every_change (pre post : List (Option Fingerprint.Folder)) (f f' : Fingerprint.Folder)
    (hne : Fingerprint.folderItems Generated.CacheFingerprint.quickHash f ≠
           Fingerprint.folderItems Generated.CacheFingerprint.quickHash f') :
    Fingerprint.fpInputs Generated.CacheFingerprint.quickHash (pre ++ some f :: post) ≠
    Fingerprint.fpInputs Generated.CacheFingerprint.quickHash (pre ++ some f' :: post) :=
  Fingerprint.sees_change _ (by decide) pre post f f' hne

/-- why the `continue` matters: with `break` the add-ons folder behind an unconfigured restricted folder is invisible -/
example : Fingerprint.fpInputs { Generated.CacheFingerprint.quickHash with noneAction := "break" }
      [some ⟨some 1, [("dev", some 2)]⟩, none, some ⟨none, [("dev", some 3)]⟩] =
    Fingerprint.fpInputs { Generated.CacheFingerprint.quickHash with noneAction := "break" }
      [some ⟨some 1, [("dev", some 2)]⟩, none, some ⟨none, [("dev", some 4)]⟩] := by decide

/-- … and the hypothesis of `fingerprint_sees_every_change` is satisfiable: an updated device file is a visible change -/
example : Fingerprint.folderItems Generated.CacheFingerprint.quickHash ⟨none, [("dev", some 3)]⟩ ≠
    Fingerprint.folderItems Generated.CacheFingerprint.quickHash ⟨none, [("dev", some 4)]⟩ := by decide

/-- the pickle assumption is satisfiable: a concrete (computable, prefix-free) codec meets `PickleOK` -/
example : ∃ env : Env, PickleOK env measuredPrefixExcs := pickleOK_inhabited

/-- … and with it the hypothesis set of the theorems for the headline crash state (the empty file a kill right
    after `open('wb')` leaves), for both caches — so `schedule_safe` applies to e.g. three processes on it. -/
example : ∃ env : Env, PickleOK env measuredPrefixExcs ∧ FileSafe env quickG (some []) ∧ FileSafe env configG (some []) := by
  refine ⟨Codec.codecEnv, Codec.codec_pickleOK, ?_, ?_⟩
  · intro b hb
    cases hb
    simpa using crash_state_bytes_harmless Codec.codecEnv quickG Codec.codec_pickleOK caught_covers.1
      default (by intro _ e he; cases he) 0
  · intro b hb
    cases hb
    simpa using crash_state_bytes_harmless Codec.codecEnv configG Codec.codec_pickleOK caught_covers.2
      default (by intro _ e he; cases he) 0

example : (initSt quickG (some []) [[0], [0], [0]]).procs.length = 3 := by decide

/-- the missing file is harmless by definition -/
example (env : Env) : FileSafe env quickG none := by intro b hb; cases hb

/-- a stale object (wrong fingerprint, wrong entries) satisfies `Sound` — the theorems cover it -/
example : Sound Codec.codecEnv { ty := Codec.codecEnv.expectedTy, fp := Codec.codecEnv.fpOf [7] + 1, ents := [(7, Codec.codecEnv.loadCfg 7 + 1)] } := by
  intro h
  simp [keys] at h

/-- the unrepaired source did NOT satisfy the obligations: its caught tuple misses `EOFError` -/
example : Exc.caughtBy [.SPSDKError, .UnicodeDecodeError, .FileNotFoundError, .PickleError, .MemoryError] .EOFError = false := by decide
example : Exc.caughtBy [.SPSDKError, .UnicodeDecodeError, .FileNotFoundError, .PickleError, .MemoryError] .UnpicklingError = true := by decide
example : Exc.caughtBy [.SPSDKError, .UnicodeDecodeError, .FileNotFoundError, .PickleError, .MemoryError] .AssertionError = false := by decide

end SpsdkVerif.C18
