/-
C07 — HAB image: layout round trip, CSF authenticates its blocks, encryption inverts.

Model: `Model/Hab.lean` (hand-written, executable; tied to /repo by the image / parse correspondence of
harness/props/C07.py), its integer arithmetic is the AST translation `Generated/HabFuns.lean`, constants and tables
`Generated/HabConsts.lean` (both regenerated from the current source on every run).  Hypotheses: `Model/HabWF.lean`.
Helper lemmas: `Proofs/HabBase.lean`, `Proofs/HabCsf.lean`, `Proofs/HabLayout.lean`, `Proofs/HabSign.lean`,
`Proofs/HabRoundtrip.lean`; the ROM-side reader: `Proofs/HabRomCsf.lean`, `Proofs/HabRomWalk.lean`, `Proofs/HabRomImage.lean`,
`Proofs/HabRomAccept.lean`.

CMS / X.509 / RSA / ECDSA are abstract here (`Signer`); what the theorems establish about signatures is WHICH bytes
are handed to the signer and where the result is referenced.  The signatures themselves are verified on the real
images by the harness.
-/
import SpsdkVerif.Model.Hab
import SpsdkVerif.Model.HabWF
import SpsdkVerif.Proofs.HabRoundtrip
import SpsdkVerif.Proofs.HabRomAccept
import SpsdkVerif.Model.HabDcd
import SpsdkVerif.Proofs.HabDcd
import SpsdkVerif.Spec.HabRom
import SpsdkVerif.Crypto.Exec
import SpsdkVerif.Proofs.Crypto

namespace SpsdkVerif.C07
open SpsdkVerif SpsdkVerif.Hab SpsdkVerif.Misc SpsdkVerif.Generated
open SpsdkVerif.Crypto (CryptoOps CryptoLaws ccmEnc ccmDec ccm_inv ccmEnc_length)

/-! ## 1. the current source agrees with the HAB4 format constants the model is written against -/

theorem tags_agree :
    HabConsts.segTags.lookup "IVT2" = some Spec.tagIVT ∧ HabConsts.segTags.lookup "DCD" = some Spec.tagDCD ∧
    HabConsts.segTags.lookup "CSF" = some Spec.tagCSF ∧ HabConsts.segTags.lookup "CRT" = some Spec.tagCRT ∧
    HabConsts.segTags.lookup "SIG" = some Spec.tagSIG ∧ HabConsts.segTags.lookup "MAC" = some Spec.tagMAC ∧
    HabConsts.cmdTags.lookup "SET" = some Spec.cmdSET ∧ HabConsts.cmdTags.lookup "INS_KEY" = some Spec.cmdINS_KEY ∧
    HabConsts.cmdTags.lookup "AUT_DAT" = some Spec.cmdAUT_DAT ∧ HabConsts.cmdTags.lookup "UNLK" = some Spec.cmdUNLK ∧
    HabConsts.cmdTags.lookup "NOP" = some Spec.cmdNOP ∧
    HabConsts.certFormats.lookup "AEAD" = some Spec.fmtAEAD ∧ HabConsts.certFormats.lookup "CMS" = some Spec.fmtCMS ∧
    HabConsts.insKeyFlags.lookup "ABS" = some Spec.insKeyABS ∧ HabConsts.engines.lookup "OCOTP" = some Spec.engOCOTP ∧
    HabConsts.needUidEngine = "OCOTP" := by decide

/-- struct formats are generated as their normalised field list (`"<7L"`, `"<LLLLLLL"`, `"<IIIIIII"` all read `<IIIIIII`):
    the fields, their widths and the byte order are what the model is written against, not the spelling -/
theorem formats_agree :
    HabConsts.headerFormat = ">BHB" ∧ HabConsts.ivt2Format = "<IIIIIII" ∧ HabConsts.bdtFormat = "<III" ∧
    HabConsts.xmcdHeaderFormat = "<BBBB" ∧ HabConsts.insKeyPack.map Prod.fst = [">BBBBI"] ∧
    HabConsts.autDatPack.map Prod.fst = [">BBBBI", ">II"] ∧ HabConsts.setPack.map Prod.fst = ["BBBB"] ∧
    HabConsts.unlockPack.map Prod.fst = [">I", ">Q"] ∧ HabConsts.macPack.map Prod.fst = [">BBBB"] := by decide

theorem sizes_agree :
    HabConsts.ivt2Size = Spec.ivtSize ∧ HabConsts.bdtSize = Spec.bdtSize ∧ HabConsts.csfSize = Spec.csfSize ∧
    HabConsts.keyblobSize = Spec.keyblobSize ∧ HabConsts.xmcdSegOffset = Spec.xmcdOffset ∧ dcdSegOffN = Spec.dcdOffset ∧
    bdtSegOffN = Spec.ivtSize ∧ HabConsts.ivtVersion = 0x40 ∧ HabConsts.ivtSegOffset = 0 ∧ HabConsts.headerSize = 4 ∧
    HabConsts.bdtStructSize = 12 ∧ HabConsts.xmcdHeaderSize = 4 ∧ HabConsts.xmcdHeaderTag = 0xC ∧
    HabConsts.authCmdIndex = [0, 1, 2] ∧ HabConsts.parseFlags = [0, 8, 12] ∧
    HabConsts.segmentsMappingOrder = ["IVT", "BDT", "DCD", "XMCD", "CSF", "APP"] ∧
    HabConsts.signedBlockGroups = [["IVT", "BDT"], ["DCD"], ["XMCD"]] := by
  refine ⟨by decide, by decide, by decide, by decide, by decide, dcdSegOffN_eq, bdtSegOffN_eq, by decide, by decide,
    by decide, by decide, by decide, by decide, by decide, by decide, by decide, by decide⟩

/-- every (family, boot device) row of the database gives a layout the model covers: the IVT offset is not behind the
    initial load size, the application offset is one `HabContainer.parse` probes, and both are 16-byte aligned -/
theorem devices_wf :
    ∀ r ∈ HabConsts.devices, r.2.2.1 ≤ r.2.2.2 ∧ (r.2.2.2 - r.2.2.1) ∈ HabConsts.knownAppOffsets ∧ r.2.2.2 % 16 = 0 := by
  decide

/-! ## 2. nonce length -/

/-- the nonce length as a function of the data size is a legal CCM nonce length (7..13) and leaves a length field
    (`15 - nonce length` bytes) that can hold the size — for every size a 32-bit image can have -/
theorem nonce_len_spec (n : Nat) :
    7 ≤ nonceLenN n ∧ nonceLenN n ≤ 13 ∧ (n < 2 ^ 32 → n < 256 ^ (15 - nonceLenN n)) := by
  rw [nonceLenN_cases]
  have e2 : (256 : Nat) ^ (15 - 13) = 65536 := by decide
  have e3 : (256 : Nat) ^ (15 - 12) = 16777216 := by decide
  have e4 : (256 : Nat) ^ (15 - 11) = 4294967296 := by decide
  have e32 : (2 : Nat) ^ 32 = 4294967296 := by decide
  by_cases h1 : n < 65536
  · rw [if_pos h1]
    refine ⟨by omega, by omega, ?_⟩
    intro _; rw [e2]; exact h1
  · rw [if_neg h1]
    by_cases h2 : n < 16777216
    · rw [if_pos h2]
      refine ⟨by omega, by omega, ?_⟩
      intro _; rw [e3]; exact h2
    · rw [if_neg h2]
      refine ⟨by omega, by omega, ?_⟩
      intro h; rw [e4]; omega

/-- the builder draws the nonce for the length of the whole image prefix, which is never shorter than what is encrypted -/
theorem nonce_len_covers_data (imgLen dataLen : Nat) (h : dataLen ≤ imgLen) (h32 : imgLen < 2 ^ 32) :
    dataLen < 256 ^ (15 - nonceLenN imgLen) :=
  Nat.lt_of_le_of_lt h ((nonce_len_spec imgLen).2.2 h32)

/-! ## 3. AES-CCM inverts -/

/-- MAC lengths the CSF segment accepts: 4, 6, …, 16 -/
theorem mac_len_accepted (n : Nat) : macLenOk n = true ↔ 4 ≤ n ∧ n ≤ 16 ∧ n % 2 = 0 := macLenOk_iff n

/-- ciphertext ‖ MAC as `CsfHabSegment.encrypt` splits it decrypts (and authenticates) to the plaintext — every DEK
    (128/192/256 bit or anything else), nonce, accepted MAC length and plaintext -/
theorem ccm_restores (cr : CryptoOps) (h : CryptoLaws cr) (dek nonce plain : Misc.Bytes) (macLen : Nat)
    (hm : macLenOk macLen = true) :
    let e := ccmEnc cr dek nonce [] macLen plain
    (e.take plain.length).length = plain.length ∧ (e.drop plain.length).length = macLen ∧
    ccmDec cr dek nonce [] macLen (e.take plain.length ++ e.drop plain.length) = some plain := by
  have ht : macLen ≤ 16 := ((macLenOk_iff macLen).1 hm).2.1
  have hl := ccmEnc_length h dek nonce [] macLen plain ht
  intro e
  refine ⟨by simp [e, hl], by simp [e, hl], ?_⟩
  rw [List.take_append_drop]
  exact ccm_inv h dek nonce [] macLen plain ht

/-! ## 4. CSF commands -/

/-- every command the builder can emit decodes to itself, whatever follows it -/
theorem csf_cmd_roundtrip (c : Cmd) (rest : Misc.Bytes) (h : c.WF) :
    Cmd.decode (c.encode ++ rest) = some c ∧ c.encode.length = c.size :=
  ⟨decode_encode c rest h, encode_length c⟩

/-- a whole CSF segment parses back into its commands (data references refreshed) and their data blocks, and
    re-exports to the same bytes -/
theorem csf_segment_roundtrip (version : Nat) (cmds : List CsfCmd) (h : CsfWF version cmds) :
    parseCsf (csfBytes version cmds) = .ok (version, assignLocs (csfHdrLen cmds) cmds) ∧
    csfBytes version (assignLocs (csfHdrLen cmds) cmds) = csfBytes version cmds ∧
    (csfBytes version cmds).length = HabConsts.csfSize :=
  ⟨parseCsf_csfBytes version cmds h, csfBytes_assignLocs version cmds, csfBytes_length version cmds h⟩

/-- XMCD header: export then parse gives the fields back and re-exports to the same four bytes
    (with `interface << 4 + instance` in `XMCDHeader.export` this is false for every instance ≠ 0) -/
theorem xmcd_header_roundtrip (x : Misc.Bytes) (h : XmcdWF x) :
    xmcdLoad x = .ok x ∧ ∀ pre rest, pre.length = HabConsts.xmcdSegOffset → parseXmcd (pre ++ x ++ rest) = .ok (some x) :=
  ⟨xmcdLoad_id x h, fun pre rest hp => parseXmcd_at x pre rest h hp⟩

/-! ## 5. layout: the IVT points at what is there -/

/-- positions and sizes: every pointer of the IVT designates the place where the structure really is in the exported
    image, and the boot-data length is the real size (from the image start address; plus the key blob for encrypted images) -/
theorem ivt_points (c : Cfg) (b : Built) (h : c.WF) (happ : b.app.length = c.appBin.length)
    (hcsf : c.hasCsf = true → (csfBytes c.version b.cmds).length = HabConsts.csfSize) :
    let img := exportImage c b
    img.take 32 = c.ivt.encode ∧ c.ivt.self = c.start + c.ivtOff ∧ c.ivt.entry = c.entry ∧
    c.ivt.bdt = c.ivt.self + 32 ∧ slice img (c.ivt.bdt - c.ivt.self) 12 = c.bdt.encode ∧
    (∀ d, c.dcd = some d → c.ivt.dcd = c.ivt.self + 64 ∧ slice img (c.ivt.dcd - c.ivt.self) d.length = d) ∧
    (c.dcd = none → c.ivt.dcd = 0) ∧
    (∀ x, c.xmcd = some x → slice img HabConsts.xmcdSegOffset x.length = x) ∧
    c.appOff = c.ils - c.ivtOff ∧ slice img c.appOff b.app.length = b.app ∧
    (c.hasCsf = true → c.ivt.csf = c.ivt.self + c.csfOff ∧ c.appOff + b.app.length ≤ c.csfOff ∧
        slice img (c.ivt.csf - c.ivt.self) HabConsts.csfSize = csfBytes c.version b.cmds ∧
        img.length = c.csfOff + HabConsts.csfSize) ∧
    (c.hasCsf = false → c.ivt.csf = 0 ∧ img.length = c.appOff + b.app.length) ∧
    c.bdt.start = c.start ∧ c.bdt.plugin = 0 ∧
    c.bdt.length = c.ivtOff + img.length + (if isEnc c.flags then HabConsts.keyblobSize else 0) :=
  ivt_points_lemma c b h happ hcsf

/-- the DEK blob the Install Secret Key command points at lies directly behind the CSF (= behind the image) -/
theorem secret_key_behind_csf (c : Cfg) (h : c.WF) :
    secretKeyLocN c.ils c.app.length c.start = c.start + c.ivtOff + c.csfOff + HabConsts.csfSize :=
  secret_key_loc_lemma c h

/-! ## 6. the block lists cover everything that is loaded -/

/-- signed ∪ encrypted blocks: each inside the image before the CSF with address = start address + offset, ascending and
    pairwise disjoint, and they contain IVT + boot data, the DCD, the XMCD block and the whole (16-byte padded) application -/
theorem blocks_cover (c : Cfg) (h : c.WF) (ha : c.flags ≠ 0) :
    let bl := c.allBlocks
    (∀ b ∈ bl, b.base = c.start + b.start ∧ c.ivtOff ≤ b.start ∧ b.start + b.size ≤ c.ivtOff + c.csfOff) ∧
    bl.Pairwise (fun a b => a.start + a.size ≤ b.start) ∧
    (∃ b ∈ bl, b.covers c.ivtOff 64) ∧
    (∀ d, c.dcd = some d → ∃ b ∈ bl, b.covers (c.ivtOff + 64) d.length) ∧
    (∀ x, c.xmcd = some x → ∃ b ∈ bl, b.covers (c.ivtOff + 64) x.length) ∧
    (∃ b ∈ bl, b.covers (c.ivtOff + c.appOff) c.appBin.length) :=
  blocks_cover_lemma c h

/-! ## 7. what is signed -/

/-- the re-sign loop, modelled with fuel, terminates whenever two consecutive signature blocks have the same 4-aligned
    size (`k`-th and `k+1`-th state of the unrolled loop, `k` below the fuel).
    Full strength ("terminates for every signer") is false: a signer whose aligned signature size alternates makes the
    Python `while updated:` loop spin forever; see `sign_loop_can_diverge`. -/
theorem sign_loop_terminates_partial (s : Signer) (version fuel i : Nat) (cmds : List CsfCmd)
    (h0 : (getAut 0 cmds).isSome) (k : Nat) (hk : k < fuel)
    (hst : autSize (signIter s version (k + 1) i cmds) = autSize (signIter s version k i cmds)) :
    (signLoop s version fuel i cmds).isSome :=
  signLoop_terminates s version fuel i cmds h0 k hk hst

/-- when the loop stops, the installed CSF signature is over exactly the header + commands that are exported -/
theorem sign_loop_result (s : Signer) (version fuel i : Nat) (cmds cmds' : List CsfCmd) (n : Nat)
    (h : signLoop s version fuel i cmds = some (cmds', n)) :
    0 < n ∧ ∃ cmd, getAut 0 cmds' = some cmd ∧
      cmd.data = some (sigBlob version (s.csf (n - 1) (csfBase version cmds'))) :=
  signLoop_result s version fuel i cmds cmds' n h

/-- Authenticate CSF: the signed message is exactly the first `header.length` bytes of the exported CSF
    (header + commands, nothing else), and the command's data block is the signature over it -/
theorem auth_csf_msg (cr : CryptoOps) (s : Signer) (fuel : Nat) (c : Cfg) (b : Built)
    (hb : build cr s fuel c = some b) (hc : c.hasCsf = true) (ha : isAuth c.flags = true) :
    b.msgCsf = csfBase c.version b.cmds ∧
    (csfBytes c.version b.cmds).take (csfHdrLen b.cmds) = b.msgCsf ∧
    0 < b.attempts ∧
    ∃ cmd, getAut 0 b.cmds = some cmd ∧ cmd.data = some (sigBlob c.version (s.csf (b.attempts - 1) b.msgCsf)) :=
  auth_csf_lemma cr s fuel c b hb hc ha

/-- Authenticate Data: the signed message is exactly the concatenation of the listed blocks cut out of the FINAL padded
    image (encryption and signing that happen after the bytes were collected do not touch them), the command lists
    exactly these blocks, and its data block is the signature over that message -/
theorem auth_data_msg (cr : CryptoOps) (s : Signer) (fuel : Nat) (c : Cfg) (b : Built) (h : c.WF)
    (hb : build cr s fuel c = some b) (ha : c.flags ≠ 0) :
    b.msgData = blocksData (imagePadded c b.app (some (csfBytes c.version b.cmds))) c.signedBlocks ∧
    ∃ c0, getAut 1 c.cmds = some c0 ∧
      getAut 1 b.cmds = some { cmd := c0.cmd.addBlocks (blockPairs c.signedBlocks),
                               data := some (sigBlob c.version (s.data b.msgData)) } :=
  auth_data_lemma cr s fuel c b h hb ha

/-- encrypted container: the Decrypt Data command lists exactly the encrypted blocks, its MAC block carries the nonce
    and the MAC, and AES-CCM decryption of the listed blocks of the FINAL image restores the (padded) application -/
theorem enc_restores (cr : CryptoOps) (s : Signer) (fuel : Nat) (c : Cfg) (b : Built) (h : c.WF)
    (hb : build cr s fuel c = some b) (he : c.flags = 12) (hl : CryptoLaws cr) (hm : macLenOk c.macLen = true) :
    ∃ mac c0, mac.length = c.macLen ∧ getAut 2 c.cmds = some c0 ∧
      getAut 2 b.cmds = some { cmd := c0.cmd.addBlocks (blockPairs c.encryptedBlocks),
                               data := some (macBlob c.version c.nonce mac) } ∧
      ccmDec cr c.dek c.nonce [] c.macLen
        (blocksData (imagePadded c b.app (some (csfBytes c.version b.cmds))) c.encryptedBlocks ++ mac) = some c.appBin :=
  enc_restores_lemma cr s fuel c b h hb he hl hm

/-! ## 8. round trip -/

/-- layout-level round trip: `parse (export) = ok (segments)` for every well-formed configuration, given for a container
    with a CSF that the CSF lists the application block (`build` guarantees it: `hab_roundtrip_signed`), and for an
    unsigned container that the reset-vector heuristic finds the application (`hvis`; `hab_roundtrip_unsigned`).

    Full strength for UNSIGNED images (without `hvis`) is FALSE on the current code — `HabContainer.parse` has nothing but
    a reset-vector heuristic to locate the application of an image without CSF (known finding
    C07-parse-app-offset-guess, refuted by `roundtrip_needs_visible_app`):

    theorem hab_roundtrip : c.WF → … → parse (exportImage c b) = .ok (expectedParse c b) -/
theorem hab_roundtrip_partial (c : Cfg) (b : Built) (h : c.WF)
    (hd : ∀ d, c.dcd = some d → DcdWF d) (hx : ∀ x, c.xmcd = some x → XmcdWF x)
    (happ : b.app.length = c.appBin.length)
    (hc : c.hasCsf = true → CsfWF c.version b.cmds ∧ (getAut 2 b.cmds).isSome = isEnc c.flags ∧
      csfAppBlock b.cmds = some (c.start + c.ivtOff + c.appOff, c.appBin.length))
    (hvis : c.hasCsf = false → findAppOffset (exportImage c b) c.entry HabConsts.knownAppOffsets = some c.appOff) :
    parse (exportImage c b) = .ok (expectedParse c b) :=
  hab_roundtrip_lemma c b h hd hx happ hc hvis

/-- **signed and encrypted containers round-trip unconditionally** (full strength): whatever `build` produces from a
    well-formed authenticated / encrypted configuration parses back into exactly its segments — IVT, boot data, DCD /
    XMCD, the CSF with all commands and data blocks, and the application (ciphertext when encrypted) taken from the block
    the CSF lists.  No hypothesis about the application contents. -/
theorem hab_roundtrip_signed (cr : CryptoOps) (hl : CryptoLaws cr) (s : Signer) (fuel : Nat) (c : Cfg) (b : Built)
    (h : c.WF) (ha : c.flags ≠ 0) (hb : build cr s fuel c = some b)
    (hd : ∀ d, c.dcd = some d → DcdWF d) (hx : ∀ x, c.xmcd = some x → XmcdWF x)
    (hm : macLenOk c.macLen = true) (hw : CsfWF c.version b.cmds)
    (h2 : (getAut 2 b.cmds).isSome = isEnc c.flags) :
    parse (exportImage c b) = .ok (expectedParse c b) := by
  have hcsf : c.hasCsf = true := by rw [h.csf]; simpa using ha
  exact hab_roundtrip_partial c b h hd hx (build_app_length cr s fuel c b h hb ha (fun _ => ⟨hl, hm⟩))
    (fun _ => ⟨hw, h2, build_app_block cr s fuel c b h hb ha hl hm h2⟩)
    (fun hh => by rw [hcsf] at hh; cases hh)

/-- the hypothesis of `hab_roundtrip_partial` follows from the DECIDABLE predicate `AppVisible` on the configuration (and the
    final application bytes): the second application word passes the reset-vector test, no earlier probed offset does -/
theorem app_visible (c : Cfg) (b : Built) (h : c.WF) (happ : b.app.length = c.appBin.length)
    (hcsf : c.hasCsf = true → (csfBytes c.version b.cmds).length = HabConsts.csfSize) (hv : AppVisible c b.app) :
    findAppOffset (exportImage c b) c.entry HabConsts.knownAppOffsets = some c.appOff :=
  app_visible_lemma c b h happ hcsf hv

/-- `AppVisible` covers every image whose reset vector lies in the heuristic window: DCD / XMCD short enough to end
    before the first probed word (`FrontQuiet`: ≤ 0xC4 bytes), an application of at least 8 bytes whose second word is odd,
    non-zero and in `[entry - 0x400, entry + image length)` -/
theorem app_visible_of_vector (c : Cfg) (app : Misc.Bytes) (h : c.WF) (hq : c.FrontQuiet) (h8 : 8 ≤ app.length)
    (hodd : leDec (slice app 4 4) % 2 = 1)
    (hlo : (c.entry : Int) - HabConsts.resetVectorWindow ≤ leDec (slice app 4 4))
    (hhi : leDec (slice app 4 4) < c.entry + c.imgLen) : AppVisible c app := by
  refine ⟨by rw [appOff_eq]; exact h.appOffKnown, h8, ?_, fun o ho hlt => front_quiet_lemma c h hq o ho hlt⟩
  have hne : leDec (slice app 4 4) ≠ 0 := by omega
  simp [vectorOk, hne, hlo, hhi, hodd]

/-- **unsigned containers round-trip under a decidable hypothesis on the configuration**: every well-formed plain
    container whose application is visible in the sense of `AppVisible` parses back into its segments -/
theorem hab_roundtrip_unsigned (c : Cfg) (b : Built) (h : c.WF) (h0 : c.flags = 0)
    (hd : ∀ d, c.dcd = some d → DcdWF d) (hx : ∀ x, c.xmcd = some x → XmcdWF x)
    (happ : b.app.length = c.appBin.length) (hv : AppVisible c b.app) :
    parse (exportImage c b) = .ok (expectedParse c b) := by
  have hcsf : c.hasCsf = false := by rw [h.csf, h0]; rfl
  exact hab_roundtrip_partial c b h hd hx happ (fun hh => by rw [hcsf] at hh; cases hh)
    (fun _ => app_visible c b h happ (fun hh => by rw [hcsf] at hh; cases hh) hv)

/-! ## 8b. the ROM accepts what the builder exports -/

/-- **`rom_accepts`**: for every well-formed authenticated / encrypted configuration with the standard command list
    (`StdCfg`: Install SRK, Install CSFK, Authenticate CSF, [Set / Unlock / NOP]*, Install Key, Authenticate Data,
    [Install Secret Key, Decrypt Data]) the INDEPENDENT ROM-side reader `Spec.HabRom.habCheck` accepts the exported image
    — every pointer, size, data reference, key slot, block list, coverage of every non-zero byte in front of the CSF, the
    DEK blob location, the MAC block — and what it derives is what the builder signed and encrypted: the message of the
    CSF signature is `b.msgCsf`, the message of the data signature is `b.msgData`, and (encrypted, every `c` with
    `CryptoLaws c`) AES-CCM decryption of the listed blocks with DEK, nonce and MAC out of the CSF gives the padded
    application.  CMS is the abstract `Signer`; `hentry`: the entry point lies inside the application. -/
theorem rom_accepts (cr : CryptoOps) (hl : CryptoLaws cr) (sg : Signer) (fuel : Nat) (c : Cfg) (b : Built) (s : StdCsf)
    (h : c.WF) (hs : StdCfg c s) (ha : c.flags ≠ 0) (hb : build cr sg fuel c = some b)
    (hfit : CsfWF c.version b.cmds)
    (hd : ∀ d, c.dcd = some d → DcdWF d) (hx : ∀ x, c.xmcd = some x → XmcdWF x)
    (hm : macLenOk c.macLen = true) (hn : 7 ≤ c.nonce.length ∧ c.nonce.length ≤ 13) (hver : c.version / 16 = 4)
    (hentry : c.start + c.ils ≤ c.entry ∧ c.entry < c.start + c.ils + c.appBin.length) :
    ∃ r, Spec.HabRom.habCheck cr (exportImage c b) (if isEnc c.flags then some c.dek else none) = .ok r ∧
      r.msgCsf = b.msgCsf ∧ r.msgData = b.msgData ∧ r.plain = (if isEnc c.flags then some c.appBin else none) ∧
      r.csfOff = c.csfOff ∧ r.hdrLen = csfHdrLen b.cmds ∧ r.authBlocks = offs c.ivtOff c.signedBlocks ∧
      r.decBlocks = (if isEnc c.flags then offs c.ivtOff c.encryptedBlocks else []) := by
  obtain ⟨r, h0, h1, h2, h3, h4, h5, h6, h7, _⟩ := rom_accepts_general_lemma cr sg fuel c b s false _ _ h hs.toGen ha hb hfit
    hd hx (fun _ => ⟨hl, hm, hn⟩) hver hentry
  exact ⟨r, h0, h1, h2, h3, h4, h5, h6, h7⟩

/-- **`rom_accepts_general`**: the same for HAB4 FAST AUTHENTICATION (`fast = true`: `Install NOCAK` in the
    configuration — no CSF / image certificate is installed, the CSF is authenticated with key index 1 and the data with
    index 0, the SRK itself; also with Install Secret Key / Decrypt Data) and for NON-STANDARD but legal command orders:
    any number of Set / Unlock / NOP commands in EVERY gap of the mandatory chain, any data references as loaded (`L0`) (`weave gaps …`: in front of Install
    SRK, between any two mandatory commands, behind the last one), `GenCfg` (`Model/HabGen.lean`).  The reader accepts, derives exactly
    the two signed messages, the block lists and the AES-CCM plaintext, and reports the installed keys: the SRK source
    index of the configuration, a CSF and an image certificate iff the chain is the standard one. -/
theorem rom_accepts_general (cr : CryptoOps) (hl : CryptoLaws cr) (sg : Signer) (fuel : Nat) (c : Cfg) (b : Built)
    (s : StdCsf) (fast : Bool) (gaps : List (List Cmd)) (L0 : Nat → Nat)
    (h : c.WF) (hs : GenCfg c s fast gaps L0) (ha : c.flags ≠ 0) (hb : build cr sg fuel c = some b)
    (hfit : CsfWF c.version b.cmds)
    (hd : ∀ d, c.dcd = some d → DcdWF d) (hx : ∀ x, c.xmcd = some x → XmcdWF x)
    (hm : macLenOk c.macLen = true) (hn : 7 ≤ c.nonce.length ∧ c.nonce.length ≤ 13) (hver : c.version / 16 = 4)
    (hentry : c.start + c.ils ≤ c.entry ∧ c.entry < c.start + c.ils + c.appBin.length) :
    ∃ r, Spec.HabRom.habCheck cr (exportImage c b) (if isEnc c.flags then some c.dek else none) = .ok r ∧
      r.msgCsf = b.msgCsf ∧ r.msgData = b.msgData ∧ r.plain = (if isEnc c.flags then some c.appBin else none) ∧
      r.csfOff = c.csfOff ∧ r.hdrLen = csfHdrLen b.cmds ∧ r.authBlocks = offs c.ivtOff c.signedBlocks ∧
      r.decBlocks = (if isEnc c.flags then offs c.ivtOff c.encryptedBlocks else []) ∧
      r.srk.map (·.2.2) = some s.srkSrc ∧ r.csfCert.isSome = !fast ∧ r.imgCert.isSome = !fast :=
  rom_accepts_general_lemma cr sg fuel c b s fast gaps L0 h hs ha hb hfit hd hx (fun _ => ⟨hl, hm, hn⟩) hver hentry

/-- the executable recogniser the model driver runs on EVERY signed configuration the harness generates (stream
    `images`, answer `shape=std|fast`): when it answers, the hypothesis `GenCfg` of `rom_accepts_general` holds for that
    configuration — the theorem speaks about the command lists `CsfHabSegment.load_from_config` really produces -/
theorem gen_shape_sound (c : Cfg) (s : StdCsf) (fast : Bool) (gaps : List (List Cmd)) (L0 : Nat → Nat)
    (h : genShape c = some (s, fast, gaps, L0)) : GenCfg c s fast gaps L0 :=
  genShape_sound_lemma c s fast gaps L0 h

/-- the standard shape of `rom_accepts` is the instance "standard chain, extras only between Authenticate CSF and
    Install Key" of the general one -/
theorem std_cfg_general (c : Cfg) (s : StdCsf) (hs : StdCfg c s) : GenCfg c s false [[], [], [], s.extras] (fun _ => 0) :=
  hs.toGen

/-- … and an unsigned container passes the layout checks of the reader (pointers, boot-data length, entry point) -/
theorem rom_accepts_plain (cr : CryptoOps) (c : Cfg) (b : Built) (h : c.WF) (h0 : c.flags = 0)
    (happ : b.app.length = c.appBin.length)
    (hd : ∀ d, c.dcd = some d → DcdWF d) (hx : ∀ x, c.xmcd = some x → XmcdWF x)
    (hentry : c.start + c.ivtOff ≤ c.entry ∧ c.entry < c.start + c.ils + c.appBin.length) :
    ∃ r, Spec.HabRom.habCheck cr (exportImage c b) none = .ok r ∧ r.csfOff = 0 ∧ r.ivtSelf = c.start + c.ivtOff ∧
      r.start = c.start :=
  ⟨_, rom_accepts_plain_lemma cr c b h h0 happ hd hx hentry, rfl, rfl, rfl⟩

/-! ## 8c. outside the hypotheses: oversize CSF, unaligned initial load size, plugin flag -/

/-- **CSF larger than CSF_SIZE (0x2000)** — precise statement of what the builder does (the hypothesis `CsfWF … ≤ csfSize`
    of `rom_accepts` / `ivt_points` is NECESSARY): `CsfHabSegment.export()` pads to a multiple of CSF_SIZE while
    `CsfHabSegment.size` stays CSF_SIZE, so the exported CSF is ≥ 2·CSF_SIZE, the image is that much longer, and the
    boot-data length is SHORT by exactly the overflow — the clause "boot-data length equal to the real size" fails
    (and the ROM-side reader refuses: `csfOff + 0x2000 ≠ image length`). -/
theorem csf_oversize_bootdata_short (c : Cfg) (b : Built) (h : c.WF) (ha : c.flags ≠ 0)
    (happ : b.app.length = c.appBin.length)
    (hbig : HabConsts.csfSize < (csfBase c.version b.cmds ++ encData b.cmds).length) :
    (exportImage c b).length = c.csfOff + (csfBytes c.version b.cmds).length ∧
    2 * HabConsts.csfSize ≤ (csfBytes c.version b.cmds).length ∧
    c.bdt.length + ((csfBytes c.version b.cmds).length - HabConsts.csfSize) =
      c.ivtOff + (exportImage c b).length + (if isEnc c.flags then HabConsts.keyblobSize else 0) :=
  csf_oversize_lemma c b h ha happ hbig

/-- **initial load size not 16-byte aligned** — `Cfg.WF.ils16` is necessary for "application in front of the CSF":
    the CSF offset aligns `ils + len(app)` while the application is padded from `ils`; with `ils = 0xFFE` and a one-byte
    application the padded application (ends at 0x100E) overruns the CSF offset 0x1000.  For aligned `ils` it never
    does (`Proofs/HabLayout.lean: app_before_csf`, part of `ivt_points`). -/
theorem ils_alignment_needed : ∃ ils n : Nat, ils % 16 ≠ 0 ∧ csfAbs (ils + n) < ils + alignUp n 16 :=
  ⟨0xFFE, 1, by decide, by decide⟩

/-- **plugin images**: the builder has no plugin option — the boot data of every built container has plugin flag 0
    (also in `ivt_points`); the parser keeps a plugin flag 0..2 it reads (`bdt_roundtrip` below) -/
theorem no_plugin_images (c : Cfg) : c.bdt.plugin = 0 := rfl

end SpsdkVerif.C07

/-! ## 9. non-vacuity, sanity checks and refutations of the full-strength statements -/
namespace SpsdkVerif.C07
open SpsdkVerif SpsdkVerif.Hab SpsdkVerif.Misc SpsdkVerif.Generated

/-- 16-byte application: stack pointer, reset vector `rv`, two more words -/
def exApp (rv : Nat) : Misc.Bytes := le32 0x20001000 ++ le32 rv ++ le32 0xDEADBEEF ++ le32 0x12345678

/-- a plain container (serial-downloader like layout: IVT offset 0, application at 0x100) -/
def exPlain (rv : Nat) : Cfg :=
  { flags := 0, start := 0x20200000, ivtOff := 0, ils := 0x100, entry := 0x20200109, dcd := none, xmcd := none,
    app := exApp rv, version := 0x40, cmds := [], dek := [], nonce := [], macLen := 16 }

def exBuilt (c : Cfg) : Built := { app := c.appBin, cmds := [], msgData := [], msgCsf := [], attempts := 0 }

theorem exPlain_wf (rv : Nat) : (exPlain rv).WF :=
  { flags := Or.inl rfl, csf := rfl, ivtLe := by show 0 ≤ 0x100; decide, ils16 := by show 0x100 % 16 = 0; decide,
    appOffKnown := by show 0x100 - 0 ∈ HabConsts.knownAppOffsets; decide,
    notBoth := Or.inl rfl, dcdFits := fun d h => (by cases h), xmcdFits := fun x h => (by cases h),
    addr := by
      have : (exPlain rv).app.length = 16 := by simp [exPlain, exApp]
      rw [this]
      show 0x20200000 + csfAbs (0x100 + 16) + 0x2000 + 0x200 < 2 ^ 32
      decide,
    entry := by show 0x20200109 < 2 ^ 32; decide, nonzero := by show 0 < 0x20200000 + 0; decide }

/-- the builder model really produces this container -/
example (cr : Crypto.CryptoOps) :
    build cr ⟨fun _ => [], fun _ _ => []⟩ 4 (exPlain 0x20200109) = some (exBuilt (exPlain 0x20200109)) := rfl

/-- `hab_roundtrip_partial` applies to this container: all its hypotheses hold (`hvis` by evaluation) -/
example : parse (exportImage (exPlain 0x20200109) (exBuilt (exPlain 0x20200109)))
    = .ok (expectedParse (exPlain 0x20200109) (exBuilt (exPlain 0x20200109))) :=
  hab_roundtrip_partial _ _ (exPlain_wf _) (fun d h => by cases h) (fun x h => by cases h) rfl
    (fun h => by cases h) (fun _ => by decide +kernel)

/-- **Refutation of the unconditional round trip for unsigned images** (known finding C07-parse-app-offset-guess): a well-formed plain
    container whose second application word is even — `parse` does not find the application and raises -/
theorem roundtrip_needs_visible_app :
    ∃ c : Cfg, c.WF ∧ parse (exportImage c (exBuilt c)) ≠ .ok (expectedParse c (exBuilt c)) :=
  ⟨exPlain 0x20200108, exPlain_wf _, by decide +kernel⟩

/-- a signer whose signature size alternates between two 4-aligned sizes -/
def altSigner : Signer := ⟨fun _ => [], fun i _ => List.replicate (4 + 4 * (i % 2)) 0⟩

/-- **Refutation of unconditional termination**: with `altSigner` the re-sign loop exhausts every fuel
    (the Python `while updated:` loop would not return) -/
theorem sign_loop_can_diverge (fuel i : Nat) (d : Misc.Bytes) (hd : d.length % 4 = 0)
    (hne : d.length ≠ 8 + 4 * (i % 2)) :
    signLoop altSigner 0x40 fuel i [⟨.autDat 0 1 0xC5 0 0 0 [], some d⟩] = none := by
  induction fuel generalizing i d with
  | zero => rfl
  | succ fuel ih =>
    have hnew : (sigBlob 0x40 (altSigner.csf i (csfBase 0x40 [⟨.autDat 0 1 0xC5 0 0 0 [], some d⟩]))).length
        = 8 + 4 * (i % 2) := by
      simp [sigBlob, altSigner]; omega
    have h1 : autSize [⟨.autDat 0 1 0xC5 0 0 0 [], some d⟩] = d.length := by
      simp [autSize, getAut, isAut]; exact alignUp_of_mod _ _ (by decide) hd
    have h2 : autSize (resign altSigner 0x40 i [⟨.autDat 0 1 0xC5 0 0 0 [], some d⟩]) = 8 + 4 * (i % 2) := by
      simp only [autSize, resign, mapAut, getAut, isAut, ↓reduceIte, Option.getD_some]
      rw [hnew]; exact alignUp_of_mod _ _ (by decide) (by omega)
    unfold signLoop
    have h0 : (getAut 0 [(⟨.autDat 0 1 0xC5 0 0 0 [], some d⟩ : CsfCmd)]).isNone = false := by
      simp [getAut, isAut]
    rw [h0, h1, h2]
    simp only [Bool.false_eq_true, ↓reduceIte]
    rw [if_neg (by omega)]
    simp only [resign, mapAut, isAut, ↓reduceIte]
    apply ih
    · rw [hnew]; omega
    · rw [hnew]; omega

/-- … while for a signer with a stable size two passes are enough (the RSA case) -/
example : (signLoop ⟨fun _ => [], fun _ _ => List.replicate 256 7⟩ 0x40 2 0
    [⟨.autDat 0 1 0xC5 0 0 0 [], some (sigBlob 0x40 [])⟩]).map (·.2) = some 2 := by decide +kernel

/-- sanity: the CSF offset for the RT10xx flexspi_nor layout and a 4 KiB − 1 / 4 KiB application -/
example : csfOffsetN 0x2000 4095 0x1000 = 0x2000 ∧ csfOffsetN 0x2000 4096 0x1000 = 0x3000 := by
  constructor <;> rw [csfOffsetN_eq] <;> decide

/-- sanity: an Install Key / Authenticate Data / Unlock command round trip by evaluation -/
example : Cmd.decode ((Cmd.autDat 0 2 0xC5 0 0 0x7EC [(0x30001000, 64), (0x30002000, 4096)]).encode ++ [1, 2, 3])
    = some (.autDat 0 2 0xC5 0 0 0x7EC [(0x30001000, 64), (0x30002000, 4096)]) := by decide
example : Cmd.decode (Cmd.unlock 0x21 0b1001 0x0123456789ABCDEF).encode = some (.unlock 0x21 0b1001 0x0123456789ABCDEF) := by
  decide

/-! ### a concrete standard authenticated (not encrypted) container, on which the reader is shown to accept

`exAuth.nonce = []`, so `hn` of `rom_accepts` is false on it.  The example instantiates `Hab.rom_accepts_general_lemma`, which
asks for `CryptoLaws`, MAC length and nonce length of encrypted containers only: what is shown satisfiable are the
hypotheses of that lemma (and of `rom_accepts` apart from `hl`, `hn`). -/

def exS : StdCsf :=
  { srkAlg := 0x17, srkSrc := 1, srkBlob := hdr 0xD7 8 0x40 ++ [1, 2, 3, 4], csfkAlg := 0, csfCert := hdr 0xD7 8 0x42 ++ [5, 6, 7, 8],
    engCsf := 0, cfgCsf := 0, extras := [.unlock 0x1E 2 0], imgAlg := 0, imgSlot := 2, imgCert := hdr 0xD7 6 0x42 ++ [9, 10],
    engDat := 0, cfgDat := 0, skAlg := 0, kek := 0, keySlot := 0, engDec := 0, cfgDec := 0 }

def exAuth : Cfg :=
  { flags := 8, start := 0x20200000, ivtOff := 0, ils := 0x100, entry := 0x20200109, dcd := none, xmcd := none,
    app := exApp 0x20200109, version := 0x42,
    cmds := exS.list (fun _ => 0) (sigBlob 0x42 []) [] (sigBlob 0x42 []) none, dek := [], nonce := [], macLen := 16 }

def exSigner : Signer := ⟨fun _ => [0xAA, 0xBB, 0xCC], fun _ _ => [0xDD, 0xEE, 0xFF, 0x11, 0x22]⟩

theorem exAuth_builds : (build Crypto.execOps exSigner 4 exAuth).isSome = true := by decide +kernel

def exB : Built := (build Crypto.execOps exSigner 4 exAuth).get exAuth_builds

theorem exAuth_wf : exAuth.WF :=
  { flags := Or.inr (Or.inl rfl), csf := rfl, ivtLe := by show 0 ≤ 0x100; decide, ils16 := by show 0x100 % 16 = 0; decide,
    appOffKnown := by show 0x100 - 0 ∈ HabConsts.knownAppOffsets; decide,
    notBoth := Or.inl rfl, dcdFits := fun d h => (by cases h), xmcdFits := fun x h => (by cases h),
    addr := by
      have : exAuth.app.length = 16 := by simp [exAuth, exApp]
      rw [this]
      show 0x20200000 + csfAbs (0x100 + 16) + 0x2000 + 0x200 < 2 ^ 32
      decide,
    entry := by show 0x20200109 < 2 ^ 32; decide, nonzero := by show 0 < 0x20200000 + 0; decide }

theorem exAuth_std : StdCfg exAuth exS :=
  { cmds := rfl, extras := by decide, srkSrc := by decide, imgSlot := by decide, kek := by decide, keySlot := by decide,
    srkBlob := ⟨0x40, [1, 2, 3, 4], by decide, by decide⟩, csfCert := ⟨0x42, [5, 6, 7, 8], by decide, by decide⟩,
    imgCert := ⟨0x42, [9, 10], by decide, by decide⟩ }

/-- the conclusion of `rom_accepts` on this container, as an instance of `Hab.rom_accepts_general_lemma` (`CsfWF` of the built
    command list by `csfWFb`): the reader accepts and reports the two messages -/
example : (match Spec.HabRom.habCheck Crypto.execOps (exportImage exAuth exB) none with
    | .ok r => r.msgCsf == exB.msgCsf && r.msgData == exB.msgData && r.csfOff == exAuth.csfOff
    | .error _ => false) = true := by
  obtain ⟨r, hr, h1, h2, -, h4, -⟩ := rom_accepts_general_lemma Crypto.execOps exSigner 4 exAuth exB exS false _ _ exAuth_wf
    exAuth_std.toGen (by decide) (Option.some_get _).symm (csfWFb_sound _ _ (by decide +kernel)) nofun nofun
    (fun he => absurd he (by decide)) (by decide) (by decide)
  simp only [show Spec.HabRom.habCheck Crypto.execOps (exportImage exAuth exB) none = .ok r from hr, h1, h2, h4,
    beq_self_eq_true, Bool.and_self]

/-! ### a concrete FAST-AUTHENTICATION container (not encrypted) with extras in every gap

As above: `exFast.nonce = []` fails `hn` of `rom_accepts_general`; the hypotheses shown satisfiable are those of
`Hab.rom_accepts_general_lemma` (all of `rom_accepts_general` apart from `hl`, `hn`). -/

/-- NOP in front of Install SRK, Unlock between Install SRK and Authenticate CSF, nothing between Authenticate CSF and
    Authenticate Data, Set + NOP behind Authenticate Data -/
def exGaps : List (List Cmd) := [[.nop 0], [.unlock 0x1E 2 0], [], [.set 1 0x17 0xFF 0, .nop 7]]

def exFast : Cfg :=
  { exAuth with cmds := weave exGaps (mainList true exS (fun _ => 0) (sigBlob 0x42 []) [] (sigBlob 0x42 []) none) }

theorem exFast_gen : GenCfg exFast exS true exGaps (fun _ => 0) :=
  { cmds := rfl, gaps := by decide, srkSrc := by decide, imgSlot := by decide, kek := by decide, keySlot := by decide,
    srkBlob := ⟨0x40, [1, 2, 3, 4], by decide, by decide⟩, csfCert := ⟨0x42, [5, 6, 7, 8], by decide, by decide⟩,
    imgCert := ⟨0x42, [9, 10], by decide, by decide⟩ }

theorem exFast_wf : exFast.WF :=
  { flags := Or.inr (Or.inl rfl), csf := by decide, ivtLe := by show 0 ≤ 0x100; decide, ils16 := by show 0x100 % 16 = 0; decide,
    appOffKnown := by show 0x100 - 0 ∈ HabConsts.knownAppOffsets; decide,
    notBoth := Or.inl rfl, dcdFits := fun d h => (by cases h), xmcdFits := fun x h => (by cases h),
    addr := by
      have : exFast.app.length = 16 := by simp [exFast, exAuth, exApp]
      rw [this]
      show 0x20200000 + csfAbs (0x100 + 16) + 0x2000 + 0x200 < 2 ^ 32
      decide,
    entry := by show 0x20200109 < 2 ^ 32; decide, nonzero := by show 0 < 0x20200000 + 0; decide }

theorem exFast_builds : (build Crypto.execOps exSigner 4 exFast).isSome = true := by decide +kernel

def exFB : Built := (build Crypto.execOps exSigner 4 exFast).get exFast_builds

/-- the conclusion of `rom_accepts_general` on this container (instance of `Hab.rom_accepts_general_lemma`): the reader accepts,
    reports the two messages, SRK source index 1 and NO installed certificate (fast authentication) -/
example : (match Spec.HabRom.habCheck Crypto.execOps (exportImage exFast exFB) none with
    | .ok r => r.msgCsf == exFB.msgCsf && r.msgData == exFB.msgData && r.csfOff == exFast.csfOff &&
               r.csfCert.isNone && r.imgCert.isNone && r.srk.map (·.2.2) == some 1
    | .error _ => false) = true := by
  obtain ⟨r, hr, h1, h2, -, h4, -, -, -, h8, h9, h10⟩ := rom_accepts_general_lemma Crypto.execOps exSigner 4 exFast exFB exS true
    _ _ exFast_wf exFast_gen (by decide) (Option.some_get _).symm (csfWFb_sound _ _ (by decide +kernel)) nofun nofun
    (fun he => absurd he (by decide)) (by decide) (by decide)
  simp only [show Spec.HabRom.habCheck Crypto.execOps (exportImage exFast exFB) none = .ok r from hr, h1, h2, h4,
    show r.srk.map (·.2.2) = some 1 from h8, beq_self_eq_true, Bool.and_self, Bool.true_and]
  rw [← Option.not_isSome, ← Option.not_isSome, show r.csfCert.isSome = false from h9, show r.imgCert.isSome = false from h10]
  rfl

/-- the hypotheses of `csf_oversize_bootdata_short` are satisfiable: the standard container with a 9000-byte SRK table -/
example : HabConsts.csfSize < (csfBase exAuth.version [⟨.insKey 0 3 0 0 0 0, some (List.replicate 9000 0)⟩] ++
    encData [⟨.insKey 0 3 0 0 0 0, some (List.replicate 9000 0)⟩]).length :=
  oversize_of_blob _ _ _ rfl (by rw [List.length_replicate]; decide)

/-- the recogniser answers on the two concrete containers (hypothesis of `gen_shape_sound` satisfiable) -/
example : (genShape exFast).map (fun r => (r.2.1, r.2.2.1)) = some (true, exGaps) ∧
    (genShape exAuth).map (fun r => (r.2.1, r.2.2.1)) = some (false, [[], [], [], [.unlock 0x1E 2 0], [], []]) ∧
    genShape (exPlain 1) = none := by decide +kernel

/-- `GenCfg` with `fast = false` is inhabited too: the standard container above -/
example : GenCfg exAuth exS false [[], [], [], exS.extras] (fun _ => 0) := std_cfg_general _ _ exAuth_std

end SpsdkVerif.C07

namespace SpsdkVerif.C07
open SpsdkVerif SpsdkVerif.Hab SpsdkVerif.Generated
open SpsdkVerif.HabDcd (DCmd dcdEncode dcdParse dcdLen bdtEncode bdtParse)

/-! ## 10. Write Data / Check Data / Initialize, `parse_command` over all command classes, DCD segment, boot data -/

/-- the command tags, the tag set `parse_command` dispatches on, `SegDCD._COMMANDS`, the engine tags, the accepted
    byte widths, the constants of the parameter byte and the Initialize limit of the current source are the ones
    `Model/HabDcd.lean` is written against -/
theorem dcd_tags_agree :
    HabConsts.cmdTags.lookup "WRT_DAT" = some HabDcd.Spec.cmdWRT_DAT ∧
    HabConsts.cmdTags.lookup "CHK_DAT" = some HabDcd.Spec.cmdCHK_DAT ∧
    HabConsts.cmdTags.lookup "INIT" = some HabDcd.Spec.cmdINIT ∧
    (∀ t, t ∈ HabConsts.cmdTags.map Prod.snd ↔ t ∈ HabDcd.Spec.cmdTags) ∧
    (∀ t, t ∈ HabConsts.cmdDispatch.map Prod.fst ↔ t ∈ HabDcd.Spec.cmdTags) ∧
    (∀ t, t ∈ HabConsts.dcdCommands ↔ t ∈ HabDcd.Spec.dcdCommands) ∧
    (∀ t, t ∈ HabConsts.engines.map Prod.snd ↔ t ∈ HabDcd.Spec.engineTags) ∧
    HabConsts.wrtDatWidths = HabDcd.Spec.widths ∧ HabConsts.chkDatWidths = HabDcd.Spec.widths ∧
    HabConsts.initLimit = HabDcd.Spec.initLimit ∧
    HabConsts.writeOps.map Prod.snd = [2, 3, 1, 0] ∧ HabConsts.checkOps.map Prod.snd = [0, 1, 2, 3] := by
  have iff : ∀ A B : List Nat, ((∀ t ∈ A, t ∈ B) ∧ ∀ t ∈ B, t ∈ A) → ∀ t, t ∈ A ↔ t ∈ B := fun _ _ h t => ⟨h.1 t, h.2 t⟩
  exact ⟨by decide, by decide, by decide, iff _ _ (by decide), iff _ _ (by decide), iff _ _ (by decide), iff _ _ (by decide),
    by decide, by decide, by decide, by decide, by decide⟩

/-- struct formats (normalised field lists) of the pack / unpack_from calls and the parameter byte
    `((ops & 3) << 3) | (width & 7)` -/
theorem dcd_formats_agree :
    HabConsts.wrtDatPack.map Prod.fst = [">II"] ∧ HabConsts.wrtDatUnpack.map (·.1) = [">II"] ∧
    HabConsts.chkDatPack.map Prod.fst = [">II", ">I"] ∧ HabConsts.chkDatUnpack.map (·.1) = [">II", ">I"] ∧
    HabConsts.initPack.map Prod.fst = [">I"] ∧ HabConsts.initUnpack.map (·.1) = [">I"] ∧
    HabConsts.headerFormat = ">BHB" ∧ HabConsts.bdtFormat = "<III" ∧
    HabConsts.wrtDatParamConsts = [3, 3, 7] ∧ HabConsts.chkDatParamConsts = [3, 3, 7] ∧
    (∀ w o, HabDcd.parByte w o = ((o &&& 3) <<< 3) ||| (w &&& 7)) := by
  refine ⟨by decide, by decide, by decide, by decide, by decide, by decide, by decide, by decide, by decide,
    by decide, ?_⟩
  intro w o
  have h1 : o &&& 3 = o % 4 := Nat.and_two_pow_sub_one_eq_mod o 2
  have h2 : w &&& 7 = w % 8 := Nat.and_two_pow_sub_one_eq_mod w 3
  have h3 : (o % 4) <<< 3 = 2 ^ 3 * (o % 4) := by rw [Nat.shiftLeft_eq, Nat.mul_comm]
  have h4 : w % 8 < 2 ^ 3 := Nat.mod_lt _ (by decide)
  rw [h1, h2, h3, ← Nat.two_pow_add_eq_or_of_lt h4]
  unfold HabDcd.parByte
  omega

/-- every command class `parse_command` knows: `parse_command(cmd.export() ‖ anything) = cmd` and
    `cmd.size = len(cmd.export())`, for every value the constructors accept (all lengths of Write Data / Initialize /
    Authenticate Data lists up to the 16-bit header length) -/
theorem dcd_cmd_roundtrip (c : DCmd) (rest : Bytes) (h : c.WF) :
    DCmd.decode (c.encode ++ rest) = some c ∧ c.encode.length = c.size :=
  HabDcd.dcmd_roundtrip c rest h

/-- `SegDCD.parse(SegDCD.export() ‖ anything)` returns the parameter byte and the command list, for every list of
    well-formed Write Data / Check Data / NOP / Unlock commands whose total length fits the 16-bit header field -/
theorem dcd_segment_roundtrip (p : Nat) (cmds : List DCmd) (rest : Bytes) (hp : p < 256)
    (hw : ∀ c ∈ cmds, c.WF) (hd : ∀ c ∈ cmds, c.inDcd = true) (hl : dcdLen cmds < 65536) :
    dcdParse (dcdEncode p cmds ++ rest) = .ok (p, cmds) :=
  HabDcd.dcd_segment_roundtrip p cmds rest hp hw hd hl

/-- an exported DCD segment is a DCD block in the sense of the container theorems (`Cfg.dcd`, `DcdWF`) -/
theorem dcd_export_wf (p : Nat) (cmds : List DCmd) (hp : p < 256) (hx : p ≠ 0xC0)
    (hw : ∀ c ∈ cmds, c.WF) (hl : dcdLen cmds < 65536) : DcdWF (dcdEncode p cmds) :=
  HabDcd.dcd_export_wf p cmds hp hx hw hl

/-- `SegBDT.parse(SegBDT.export()) = (start, length, plugin)` -/
theorem bdt_roundtrip (s l p : Nat) (rest : Bytes) (hs : s < 2 ^ 32) (hl : l < 2 ^ 32) (hp : p ≤ 2) :
    bdtParse (bdtEncode s l p ++ rest) = .ok (s, l, p) :=
  HabDcd.bdtParse_bdtEncode s l p rest hs hl hp

/-- Check Data with poll count 0 round-trips (defect C07-checkdata-zero-count, fixed by 8656d83: before, 16 bytes were
    exported under a header length of 12 and the count was lost; reverting the fix breaks `dcd_cmd_roundtrip` for
    `count = some 0` in the correspondence and the oracle).  `DCmd.WF` now admits every count `< 2 ^ 32`, so this is an
    instance of `dcd_cmd_roundtrip`, kept as the explicit statement of the repaired case.  Likewise (6f0b9cd)
    `CmdInitialize(engine, data)` builds the same object as `append` does: `DCmd.init e data` for every word list. -/
theorem checkdata_zero_count_roundtrip (w o a m : Nat) (hw : w ∈ HabDcd.Spec.widths) (ho : o < 4) (ha : a < 2 ^ 32)
    (hm : m < 2 ^ 32) (rest : Bytes) :
    (DCmd.checkData w o a m (some 0)).size = 16 ∧ (DCmd.checkData w o a m (some 0)).encode.length = 16 ∧
    DCmd.decode ((DCmd.checkData w o a m (some 0)).encode ++ rest) = some (.checkData w o a m (some 0)) :=
  HabDcd.checkData_zero_count_roundtrip w o a m hw ho ha hm rest

/-! non-vacuity and sanity -/
def exDcdCmds : List DCmd :=
  [.writeData 4 0 [(0x400FC068, 0xFFFFFFFF), (0x400FC06C, 0)], .writeData 1 3 [], .checkData 2 1 0x401F8000 0x0101 none,
   .checkData 4 3 0xFFFFFFFF 1 (some 0), .other (.nop 0), .other (.unlock 0x1E 1 0)]

example : ∀ c ∈ exDcdCmds, c.WF := by
  intro c hc
  simp only [exDcdCmds, List.mem_cons, List.not_mem_nil, or_false] at hc
  rcases hc with rfl | rfl | rfl | rfl | rfl | rfl
  · exact ⟨by decide, by decide, by decide, by intro p hp; simp at hp; rcases hp with rfl | rfl <;> decide⟩
  · exact ⟨by decide, by decide, by decide, by intro p hp; cases hp⟩
  · exact ⟨by decide, by decide, by decide, by decide, by intro c hc; cases hc⟩
  · exact ⟨by decide, by decide, by decide, by decide, by intro c hc; cases hc; decide⟩
  · exact ⟨show (0 : Nat) < 256 by decide, by decide⟩
  · exact ⟨⟨by decide, by decide, by decide, by intro _; rfl⟩, by decide⟩
example : (∀ c ∈ exDcdCmds, c.inDcd = true) ∧ dcdLen exDcdCmds < 65536 := by decide
example : (DCmd.init 0x1D [1, 0xFFFFFFFE]).WF := ⟨by decide, by decide, by decide⟩
example : dcdParse (dcdEncode 0x41 exDcdCmds) = .ok (0x41, exDcdCmds) := by decide
example : (dcdEncode 0x41 exDcdCmds).length = 68 ∧ (dcdEncode 0x41 exDcdCmds).take 8 = [0xD2, 0, 68, 0x41, 0xCC, 0, 20, 4] := by decide
example : DCmd.decode [0xB4, 0, 12, 0x1D, 0, 0, 0, 1, 0xFF, 0xFF, 0xFF, 0xFE] = some (.init 0x1D [1, 0xFFFFFFFE]) := by decide
example : DCmd.decodeR [0xB4, 0, 8, 0x1D, 0xFF, 0xFF, 0xFF, 0xFF] = .error .spsdk := by decide   -- Initialize refuses 0xFFFFFFFF
example : DCmd.decodeR [0xCC, 0, 4, 3] = .error .spsdk := by decide                                -- width 3
example : DCmd.decodeR [0xCC, 0, 12, 4, 0, 0, 0, 1] = .error .other := by decide                   -- truncated pair
example : dcdParse (dcdEncode 0x41 [.init 0 []]) = .error .spsdk := by decide                      -- Initialize is not a DCD command
example : bdtParse (bdtEncode 0x60000000 0x5000 0) = .ok (0x60000000, 0x5000, 0) := by decide
example : bdtParse (bdtEncode 0 0 3) = .error .spsdk := by decide

end SpsdkVerif.C07
