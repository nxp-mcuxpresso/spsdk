/-
C14 — Bootable image: segments land at the device offsets and come back on parse.

Model: Model/Bimg.lean (hand-written, tied to spsdk/image/bootable_image/{bimg,segments}.py by harness/props/C14.py),
       Model/BinImage.lean (BinaryImage, C16), Generated/BimgTables.lean (every (family, revision, memory type) row of the
       bootable_image feature of the device database + the class constants of the Segment* classes; regenerated on every run).
Helper lemmas: Proofs/BimgExport.lean, Proofs/BimgParse.lean, Proofs/BimgDelimit.lean.
-/
import SpsdkVerif.Model.Bimg
import SpsdkVerif.Model.BimgSpec
import SpsdkVerif.Proofs.BimgDelimit

namespace SpsdkVerif.C14
open SpsdkVerif SpsdkVerif.Misc SpsdkVerif.BinImg SpsdkVerif.Bimg SpsdkVerif.Generated

/-! ## 1. Every generated table row is well formed (`descOK`, defined in Model/BimgSpec.lean)

`descOK d` says: the first segment is static; alignments are positive; static offsets strictly increase; a dynamic
segment is the last entry and directly follows a static application segment; dynamic segments are never INIT segments;
the fill pattern is zeros or ones and belongs to every segment's IMAGE_PATTERNS; the fixed-size window of every static
segment ends before the next static offset; "take the whole rest" parsers (MBI, HAB, SB2.1, SB3.1) are last; boot
headers precede application segments and there is a static application segment; every static offset is a multiple of
every dynamic alignment; no segment class is unknown to the model; the FCB tag is 4 bytes and is not padding. -/

theorem table_wf : ∀ l ∈ BimgTables.layouts, (resolve l).any descOK = true := by
  decide +kernel

/-- every (family, revision, memory type) row points to one of those layouts -/
theorem rows_covered : ∀ r ∈ BimgTables.rows, r.layout < BimgTables.layouts.length := by
  decide +kernel

/-- … hence every (family, revision, memory type) row of the bootable_image feature has a well-formed description -/
theorem rows_wf : ∀ r ∈ BimgTables.rows, ∃ l d, BimgTables.layouts[r.layout]? = some l ∧ resolve l = some d ∧ descOK d = true := by
  intro r hr
  have h1 := rows_covered r hr
  have hl : BimgTables.layouts[r.layout]? = some (BimgTables.layouts[r.layout]'h1) := List.getElem?_eq_getElem h1
  have h2 := table_wf _ (List.getElem_mem h1)
  cases hd : resolve (BimgTables.layouts[r.layout]'h1) with
  | none => simp [hd] at h2
  | some d => exact ⟨_, d, hl, hd, by simpa [hd] using h2⟩

/-- the class constants the fixed-size parsers of the model rely on -/
theorem kinds_fixed_sizes :
    ∀ k ∈ BimgTables.kinds, (parserOf k.parser = .imageVersionAp → k.size = 4) ∧
      (parserOf k.parser = .fcb → 4 ≤ k.size) ∧ (parserOf k.parser = .xmcd → 0 < k.size) ∧
      ((parserOf k.parser = .raw ∧ k.bootHeader = true) → 0 < k.size) ∧
      ((parserOf k.parser = .greedy ∨ parserOf k.parser = .ahab ∨ parserOf k.parser = .sb) → k.size < 0 ∧ k.bootHeader = false) := by
  decide +kernel

/-- the documented segment kinds are there with their documented constants
    (label, SIZE, OFFSET_ALIGNMENT, INIT_SEGMENT, BOOT_HEADER): key blob 256, FCB 512 / 768 (XSPI), image version words 4,
    key store 2048, BEE headers 512, XMCD 512; containers of variable size; the secondary container set floats on a
    1 KiB grid; an image may start at the FCB or at the application container -/
def specKinds : List (String × Int × Int × Bool × Bool) := [
  ("keyblob", 256, 1, false, true), ("fcb", 512, 1, true, true), ("fcb_xspi", 768, 1, true, true),
  ("image_version", 4, 1, false, true), ("image_version_ap", 4, 1, false, true), ("keystore", 2048, 1, false, true),
  ("bee_header_0", 512, 1, false, true), ("bee_header_1", 512, 1, false, true), ("xmcd", 512, 1, false, true),
  ("mbi", -1, 1, true, false), ("hab_container", -1, 1, true, false), ("ahab_container", -1, 1, true, false),
  ("primary_image_container_set", -1, 1, true, false), ("secondary_image_container_set", -1, 1024, false, false),
  ("sb21", -1, 1, true, false), ("sb31", -1, 1, true, false)]

theorem kinds_spec : ∀ k ∈ specKinds,
    k ∈ BimgTables.kinds.map (fun g => (g.label, g.size, g.align, g.initSegment, g.bootHeader)) := by
  decide +kernel

/-! ## 2. Init offset selection and exclusion -/

/-- the setter answers 0 for 0 and otherwise the closest static segment offset at or above the request -/
theorem setInit_spec (segs : List Seg) (req : Int) (m : Nat) (h : setInit segs req = .ok m) :
    (req = 0 ∧ m = 0) ∨
    (0 < req ∧ m ∈ statics segs ∧ req ≤ (m : Int) ∧ ∀ o ∈ statics segs, req ≤ (o : Int) → m ≤ o) := by
  rcases setInit_cases segs req with ⟨_, e⟩ | ⟨h0, e⟩ | ⟨_, _, e⟩ | ⟨hp, m', e, hm⟩ <;> rw [e] at h <;> cases h
  · exact Or.inl ⟨h0, rfl⟩
  · exact Or.inr ⟨hp, hm⟩

/-- … and refuses exactly the negative requests and those above every static offset -/
theorem setInit_error (segs : List Seg) (req : Int) :
    (∃ e, setInit segs req = .error e) ↔ (req < 0 ∨ (0 < req ∧ ∀ o ∈ statics segs, (o : Int) < req)) := by
  rcases setInit_cases segs req with ⟨h, e⟩ | ⟨h, e⟩ | ⟨h, h', e⟩ | ⟨h, m, e, hm, hle, _⟩ <;> rw [e]
  · exact ⟨fun _ => Or.inl h, fun _ => ⟨_, rfl⟩⟩
  · exact ⟨nofun, by omega⟩
  · exact ⟨fun _ => Or.inr ⟨h, h'⟩, fun _ => ⟨_, rfl⟩⟩
  · exact ⟨nofun, fun h' => by rcases h' with h' | ⟨_, h'⟩; omega; have := h' m hm; omega⟩

/-- a segment is excluded exactly when it is static and lies before the init offset (dynamic segments never are) -/
theorem excluded_iff (init : Nat) (s : Seg) : excluded init s = true ↔ ∃ p, s.pos = some p ∧ p < init := by
  exact Bimg.excluded_iff' init s

/-! ## 3. Offsets -/

/-- static segment: table offset − init offset -/
theorem offset_static (init : Nat) (slots : List Slot) (i : Nat) (s : Slot) (p : Nat)
    (hs : slots[i]? = some s) (hp : s.seg.pos = some p) (hex : excluded init s.seg = false) :
    segOffset init slots i = .ok ((p : Int) - init) := by
  unfold segOffset
  rw [hs, bimg_absOffsets_static none slots i s p hs hp]
  simp [hex]

/-- dynamic segment: the aligned end of its predecessor in the table (offset of the predecessor inside the full image
    `a`, its length `t.len`), minus the init offset -/
theorem offset_dynamic (init : Nat) (slots : List Slot) (i : Nat) (t s : Slot) (a : Nat)
    (ht : slots[i]? = some t) (hs : slots[i + 1]? = some s) (hp : s.seg.pos = none)
    (ha : (absOffsets none slots)[i]? = some (some a)) :
    segOffset init slots (i + 1) = .ok ((alignNat (a + t.len) s.seg.align : Nat) - (init : Int)) := by
  unfold segOffset
  rw [hs, bimg_absOffsets_dynamic none slots i t s a ht hs hp ha]
  simp [bimg_excluded_dynamic init s.seg hp]

/-! ## 4. Export: placement, gaps, no overwrite

`Ctx d init raws` (Model/BimgSpec.lean): `descOK d`, one (optional) raw block per table entry, `init` is 0 or a static offset
of the table (what the setter can answer), every supplied static segment ends at or before the next static offset of
the table (`Fits`: "payload sizes up to the next segment's offset"), and at least one segment is present. -/

/-- the export succeeds and has exactly the reported length -/
theorem export_ok (d : Desc) (init : Nat) (raws : List (Option Bytes)) (h : Ctx d init raws) :
    ∃ b, exportImg d init raws = .ok b ∧ imageLen init (mkSlots d.segs raws) = .ok b.length := by
  obtain ⟨b, q, _, hexp, hlen, hbl, _, _⟩ := bimg_export_char d init raws h
  exact ⟨b, hexp, by rw [hbl]; exact hlen⟩

/-- each supplied segment's bytes appear unchanged at its offset -/
theorem placed (d : Desc) (init : Nat) (raws : List (Option Bytes)) (h : Ctx d init raws) (b : Bytes)
    (hb : exportImg d init raws = .ok b) (i : Nat) (s : Slot) (o : Int)
    (hs : (mkSlots d.segs raws)[i]? = some s) (hp : s.present init = true)
    (ho : segOffset init (mkSlots d.segs raws) i = .ok o) :
    0 ≤ o ∧ (b.drop o.toNat).take s.len = s.bytes := by
  obtain ⟨b', q, _, hexp, _, _, hat, _⟩ := bimg_export_char d init raws h
  cases hexp.symm.trans hb
  have g := bimg_geo d init raws h
  obtain ⟨a, hl, hex, rfl⟩ := bimg_segOffset_ok g i s o hs ho
  have hmem := List.mem_of_getElem? hl
  have hge : init ≤ a := g.ge (a, s) hmem hex
  refine ⟨by omega, ?_⟩
  rw [show ((a : Int) - init).toNat = a - init by omega, ← bimg_bytes_length s]
  refine take_drop_of_get _ _ _ fun j hj => hat (a - init, s) ((bimg_mem_placed _).2 ⟨a, hmem, hp, rfl⟩) j ?_
  rwa [bimg_bytes_length] at hj

/-- supplied segments do not overwrite one another: in table order each ends at or before the start of the next -/
theorem no_overwrite (d : Desc) (init : Nat) (raws : List (Option Bytes)) (h : Ctx d init raws)
    (i j : Nat) (s t : Slot) (oi oj : Int) (hij : i < j)
    (hs : (mkSlots d.segs raws)[i]? = some s) (ht : (mkSlots d.segs raws)[j]? = some t)
    (hps : s.present init = true) (hpt : t.present init = true)
    (hoi : segOffset init (mkSlots d.segs raws) i = .ok oi) (hoj : segOffset init (mkSlots d.segs raws) j = .ok oj) :
    oi + s.len ≤ oj := by
  have g := bimg_geo d init raws h
  obtain ⟨a, hl, hex, rfl⟩ := bimg_segOffset_ok g i s oi hs hoi
  obtain ⟨a', hl', hex', rfl⟩ := bimg_segOffset_ok g j t oj ht hoj
  have := before_idx g.chain i j (a, s) (a', t) hij hl hl'
  have := g.ge _ (List.mem_of_getElem? hl) hex
  simp only at *
  omega

/-- every byte outside the supplied segments holds the device's fill pattern -/
theorem gaps_pattern (d : Desc) (init : Nat) (raws : List (Option Bytes)) (h : Ctx d init raws) (b : Bytes)
    (hb : exportImg d init raws = .ok b) (k : Nat) (hk : k < b.length)
    (hfree : ∀ i s o, (mkSlots d.segs raws)[i]? = some s → s.present init = true →
      segOffset init (mkSlots d.segs raws) i = .ok o → ¬ (o ≤ (k : Int) ∧ (k : Int) < o + s.len)) :
    b[k]? = some (if d.pattern = .ones then 0xFF else 0x00) := by
  obtain ⟨b', q, _, hexp, _, _, _, hout⟩ := bimg_export_char d init raws h
  cases hexp.symm.trans hb
  have g := bimg_geo d init raws h
  refine hout k hk fun p hp => ?_
  obtain ⟨a, hmem, hpr, hpa⟩ := (bimg_mem_placed p).1 hp
  obtain ⟨i, hi⟩ := List.getElem?_of_mem hmem
  have hex := ((bimg_present_iff init p.2).1 hpr).1
  have hge : init ≤ a := g.ge (a, p.2) hmem hex
  have := hfree i p.2 _ (bimg_idx_of_layout g i p.2 a hi).1 hpr (bimg_segOffset_of_layout g i p.2 a hi hex)
  omega

/-- the image that starts at a later init offset is the full image without its first `init` bytes (the excluded
    segments simply are not there) -/
theorem export_init_drop (d : Desc) (init : Nat) (raws : List (Option Bytes)) (h : Ctx d init raws) (b0 : Bytes)
    (h0 : exportImg d 0 raws = .ok b0) :
    exportImg d init raws = .ok (b0.drop init) := by
  exact Bimg.export_init_drop' d init raws h b0 h0

/-! ## 5. Parse

`Delimit ext fcbSup init slots`: every supplied, non-excluded segment's bytes are accepted by the segment's parser and
delimit themselves - `parseSeg … (bytes ++ rest) = .present bytes` for every `rest` (for the "whole rest" parsers only
`rest = []`; they are last by `descOK`) - and `find_segment_offset` finds a supplied container at offset 0.
For the segment kinds whose parser is part of the model this is proved below (`*_delimits`); for the container
parsers it is the assumption on `Ext`. -/

/-- raw fixed-size segments (key blob, key store, BEE headers): `SIZE` bytes that are not padding delimit themselves -/
theorem raw_delimits (ext : Ext) (fcbSup : Bool) (s : Seg) (c rest : Bytes) (hp : s.parser = .raw)
    (hsz : 0 < s.size) (hlen : (c.length : Int) = s.size) (hnp : isPadding s c = false) :
    parseSeg ext fcbSup s (c ++ rest) = .present c := by
  unfold parseSeg
  rw [hp]
  exact bimgP_parseRaw s c rest hsz hlen hnp

/-- image version words -/
theorem imageVersion_delimits (ext : Ext) (fcbSup : Bool) (s : Seg) (c rest : Bytes)
    (hp : s.parser = .imageVersion ∨ s.parser = .imageVersionAp) (hsz : s.size = 4) (hlen : c.length = 4) :
    parseSeg ext fcbSup s (c ++ rest) = .present c := by
  have hl : (c.length : Int) = s.size := by omega
  have ht := bimgP_take s c rest hl
  unfold parseSeg
  rcases hp with hp | hp
  · rw [hp]
    simp only []
    rw [if_pos (by omega), ht]
  · rw [hp]
    simp only []
    rw [if_neg (by rw [List.length_append]; omega)]
    rw [hsz] at ht
    simpa using ht

/-- FCB: `SIZE` bytes carrying the tag (plain or byte-swapped) that `FCB.parse` accepts - or, for a family without FCB
    support, any tagged block that is not padding -/
theorem fcb_delimits (ext : Ext) (fcbSup : Bool) (s : Seg) (c rest : Bytes) (hp : s.parser = .fcb)
    (hsz : 4 ≤ s.size) (hlen : (c.length : Int) = s.size)
    (htag : c.take 4 = BimgTables.fcbTag ∨ c.take 4 = BimgTables.fcbTagSwapped)
    (hok : fcbSup = true → ext.fcbOk c = true) (hnp : fcbSup = false → isPadding s c = false) :
    parseSeg ext fcbSup s (c ++ rest) = .present c := by
  have ht := bimgP_take s c rest hlen
  have h4 : (c ++ rest).take 4 = c.take 4 := by
    rw [List.take_append_of_le_length (by omega)]
  unfold parseSeg
  rw [hp]
  simp only []
  rw [if_neg (by rw [List.length_append]; omega), h4]
  have htag' : (c.take 4 == BimgTables.fcbTag || c.take 4 == BimgTables.fcbTagSwapped) = true := by
    rcases htag with h | h <;> simp [h]
  rw [if_pos htag']
  cases fcbSup with
  | true =>
    simp only [if_true]
    rw [ht, hok rfl]
    simp
  | false =>
    simp only [Bool.false_eq_true, if_false]
    exact bimgP_parseRaw s c rest (by omega) hlen (hnp rfl)

/-- application containers: whatever the external parser accepts with the container's own length -/
theorem app_delimits (ext : Ext) (fcbSup : Bool) (s : Seg) (c rest : Bytes)
    (hp : s.parser = .ahab ∨ ((s.parser = .greedy ∨ s.parser = .sb) ∧ rest = [])) (hsz : s.size < 0) (hne : c ≠ [])
    (hacc : ext.app s.kind (c ++ rest) = some c.length) :
    parseSeg ext fcbSup s (c ++ rest) = .present c := by
  have hemp : (c ++ rest).isEmpty = false := by cases c <;> simp_all
  unfold parseSeg
  rcases hp with hp | ⟨hp | hp, hr⟩
  · rw [hp]
    simp only []
    rw [hemp, hacc]
    simp
  · rw [hp]
    simp only []
    rw [hemp, hacc]
    simp [hr]
  · rw [hp]
    simp only []
    rw [hacc]
    simp only []
    subst hr
    unfold parseRaw isPadding
    have : ¬ (0 < s.size) := by omega
    simp [this]

/-- Parsing the exported image with the init offset it was exported with recovers, for every table entry, exactly the
    supplied bytes at the offset where they were placed (`expectedFound`: `some (offset, bytes)` for a present segment,
    `none` for an excluded or absent one) - for the full image (`init = 0`) and for every later init offset.
    `Supplied`: the application segments and the image-version words are supplied (an absent image-version word is
    read back as four padding bytes - `load_from_config` always supplies it). -/
theorem parse_export (ext : Ext) (fcbSup : Bool) (d : Desc) (init : Nat) (raws : List (Option Bytes))
    (h : Ctx d init raws) (hsup : Supplied init (mkSlots d.segs raws)) (hdel : Delimit ext fcbSup init (mkSlots d.segs raws))
    (b : Bytes) (hb : exportImg d init raws = .ok b) :
    walk ext fcbSup init d.segs b = .ok (expectedFound init (mkSlots d.segs raws)) := by
  rw [bimgP_expectedFound (bimg_geo d init raws h)]
  exact (bimgP_world ext fcbSup d init raws h hsup hdel b hb).toPT.walk

/-- `BootableImage.parse` of a full image answers init offset 0 and the supplied segments -/
theorem parseAll_full (ext : Ext) (fcbSup : Bool) (d : Desc) (raws : List (Option Bytes))
    (h : Ctx d 0 raws) (hsup : Supplied 0 (mkSlots d.segs raws)) (hdel : Delimit ext fcbSup 0 (mkSlots d.segs raws))
    (b : Bytes) (hb : exportImg d 0 raws = .ok b) :
    parseAll ext fcbSup d.segs b = .ok (0, expectedFound 0 (mkSlots d.segs raws)) := by
  exact parseAll_of_trial_zero (by simpa using bimgP_trial ext fcbSup d 0 raws h hsup hdel b hb)

/-- … and of an image that starts at a later INIT segment answers that init offset, provided the trials that come
    first (the full image, the INIT segments before it) do not accept the shifted bytes.  Without that hypothesis the
    statement is false on the current code: raw header segments take any bytes and the MBI parser accepts almost
    anything, see the known finding `C14-later-start-misdetected`. -/
theorem parseAll_later (ext : Ext) (fcbSup : Bool) (d : Desc) (init : Nat) (raws : List (Option Bytes))
    (h : Ctx d init raws) (hsup : Supplied init (mkSlots d.segs raws)) (hdel : Delimit ext fcbSup init (mkSlots d.segs raws))
    (b : Bytes) (hb : exportImg d init raws = .ok b)
    (pre post : List Int) (hc : initCandidates d.segs = pre ++ (init : Int) :: post)
    (h0 : trial ext fcbSup d.segs b 0 = none) (hpre : ∀ c ∈ pre, trial ext fcbSup d.segs b c = none) :
    parseAll ext fcbSup d.segs b = .ok (init, expectedFound init (mkSlots d.segs raws)) := by
  exact parseAll_of_trial_later pre post hc h0 hpre (bimgP_trial ext fcbSup d init raws h hsup hdel b hb)

/-- `parse` answers the first trial that accepts, in the order: full image, then the INIT-segment offsets in table order -/
theorem parseAll_first (ext : Ext) (fcbSup : Bool) (segs : List Seg) (bin : Bytes) :
    parseAll ext fcbSup segs bin =
      (match firstSome (trial ext fcbSup segs bin) (0 :: initCandidates segs) with
       | some r => .ok r
       | none => .error .spsdk) := by
  unfold parseAll
  simp only [firstSome]
  cases trial ext fcbSup segs bin 0 with
  | some r => rfl
  | none => rfl

/-- the precise condition of the open finding `C14-later-start-misdetected`: an image that starts at the INIT segment
    `init` is NOT answered with (`init`, the supplied segments) exactly when one of the trials that come first - the full
    image, the INIT candidates before `init` - accepts the shifted bytes with another answer (decidable for a given `Ext`) -/
theorem parseAll_misdetects_iff (ext : Ext) (fcbSup : Bool) (d : Desc) (init : Nat) (raws : List (Option Bytes))
    (h : Ctx d init raws) (hsup : Supplied init (mkSlots d.segs raws)) (hdel : Delimit ext fcbSup init (mkSlots d.segs raws))
    (b : Bytes) (hb : exportImg d init raws = .ok b)
    (pre post : List Int) (hc : initCandidates d.segs = pre ++ (init : Int) :: post) :
    parseAll ext fcbSup d.segs b ≠ .ok (init, expectedFound init (mkSlots d.segs raws)) ↔
      ∃ r, firstSome (trial ext fcbSup d.segs b) (0 :: pre) = some r ∧ r ≠ (init, expectedFound init (mkSlots d.segs raws)) := by
  have ht := bimgP_trial ext fcbSup d init raws h hsup hdel b hb
  rw [parseAll_first, hc]
  have hsplit : (0 : Int) :: (pre ++ (init : Int) :: post) = (0 :: pre) ++ ((init : Int) :: post) := by simp
  rw [hsplit, bimgA_firstSome_append]
  cases hf : firstSome (trial ext fcbSup d.segs b) (0 :: pre) with
  | some r =>
    simp only []
    constructor
    · intro hne
      exact ⟨r, rfl, fun he => hne (by rw [he])⟩
    · rintro ⟨r', hr', hne⟩ he
      cases hr'
      exact hne (by injection he)
  | none =>
    simp only [firstSome, ht]
    constructor
    · intro hne; exact absurd rfl hne
    · rintro ⟨r, hr, _⟩; cases hr

/-! ## 5a. The padding predicate (`Segment._is_padding`) - tied to the source by behaviour

`BimgTables.paddingProbes` is the method's own source evaluated (in isolation, on every run) on a fixed probe set: uniform blocks,
every kind of 00/FF mix, a third byte value, short / long inputs, SIZE ≤ 0, the three IMAGE_PATTERNS lists. -/

/-- a segment description for a probe -/
def probeSeg (size : Int) (pats : List String) : Seg :=
  { kind := 0, size := size, align := 1, initSeg := false, bootHeader := true, parser := .raw, extFind := false, ownLen := false,
    patterns := pats.filterMap patOf, pos := some 0 }

/-- the model's `isPadding` answers every probe like the source's `_is_padding` - a predicate that takes a MIX of fill bytes (or
    anything else than one uniform block of SIZE bytes) for padding changes a probe's answer and breaks this -/
theorem padding_predicate_probes :
    BimgTables.paddingProbesOk = true ∧
    ∀ p ∈ BimgTables.paddingProbes, isPadding (probeSeg p.1 p.2.1) p.2.2.1 = p.2.2.2 := by
  decide +kernel

/-- `isPadding` says: the first SIZE bytes are EXACTLY the block of one of the segment's IMAGE_PATTERNS -/
theorem isPadding_iff (s : Seg) (data : Bytes) :
    isPadding s data = true ↔ 0 < s.size ∧ ∃ p ∈ s.patterns, data.take s.size.toNat = p.block s.size.toNat := by
  unfold isPadding
  simp only [Bool.and_eq_true, decide_eq_true_eq, List.any_eq_true, beq_iff_eq]

/-- … for the zeros / ones patterns of the segment classes: uniformly 0x00 or uniformly 0xFF -/
theorem isPadding_iff_uniform (s : Seg) (data : Bytes) (hp : ∀ p ∈ s.patterns, p = .zeros ∨ p = .ones) :
    isPadding s data = true ↔ 0 < s.size ∧ ∃ p ∈ s.patterns,
      data.take s.size.toNat = List.replicate s.size.toNat (if p = .ones then 0xFF else 0x00) := by
  rw [isPadding_iff]
  constructor
  · rintro ⟨h0, p, hm, he⟩
    exact ⟨h0, p, hm, by rw [he, Bimg.bimg_block p _ (hp p hm)]⟩
  · rintro ⟨h0, p, hm, he⟩
    exact ⟨h0, p, hm, by rw [he, Bimg.bimg_block p _ (hp p hm)]⟩

/-- hence the parse round trip for raw fixed-size segments (key blob, key store, BEE headers): SIZE bytes that are neither
    uniformly 0x00 nor uniformly 0xFF - in particular every MIX of 0x00 and 0xFF bytes - come back unchanged -/
theorem raw_delimits_nonuniform (ext : Ext) (fcbSup : Bool) (s : Seg) (c rest : Bytes) (hpar : s.parser = .raw)
    (hsz : 0 < s.size) (hlen : (c.length : Int) = s.size) (hp : ∀ p ∈ s.patterns, p = .zeros ∨ p = .ones)
    (h0 : c ≠ List.replicate c.length 0x00) (h1 : c ≠ List.replicate c.length 0xFF) :
    parseSeg ext fcbSup s (c ++ rest) = .present c := by
  apply raw_delimits ext fcbSup s c rest hpar hsz hlen
  cases hpad : isPadding s c with
  | false => rfl
  | true =>
    obtain ⟨_, p, hm, he⟩ := (isPadding_iff_uniform s c hp).1 hpad
    have hn : s.size.toNat = c.length := by omega
    rw [hn, List.take_length] at he
    rcases hp p hm with rfl | rfl
    · exact absurd he h0
    · exact absurd he h1

/-! ## 5b. Flash dumps: trailing bytes behind the last segment

`TrailOK init slots n tail` (Model/BimgSpec.lean): the last table entry is not a whole-rest parser, and if it is an absent
floating entry the trailing bytes end at or before the aligned offset where `_parse` would look for it. -/

/-- parsing the exported image FOLLOWED BY trailing bytes recovers exactly the same segments at the same offsets -/
theorem parse_export_trailing (ext : Ext) (fcbSup : Bool) (d : Desc) (init : Nat) (raws : List (Option Bytes))
    (h : Ctx d init raws) (hsup : Supplied init (mkSlots d.segs raws)) (hdel : Delimit ext fcbSup init (mkSlots d.segs raws))
    (b : Bytes) (hb : exportImg d init raws = .ok b) (tail : Bytes)
    (ht : TrailOK init (mkSlots d.segs raws) b.length tail) :
    walk ext fcbSup init d.segs (b ++ tail) = .ok (expectedFound init (mkSlots d.segs raws)) := by
  rw [bimgP_expectedFound (bimg_geo d init raws h)]
  exact (bimgP_tail_world ext fcbSup d init raws h hsup hdel b hb tail ht).walk

/-- … and so does `BootableImage.parse` for a full image … -/
theorem parseAll_full_trailing (ext : Ext) (fcbSup : Bool) (d : Desc) (raws : List (Option Bytes))
    (h : Ctx d 0 raws) (hsup : Supplied 0 (mkSlots d.segs raws)) (hdel : Delimit ext fcbSup 0 (mkSlots d.segs raws))
    (b : Bytes) (hb : exportImg d 0 raws = .ok b) (tail : Bytes)
    (ht : TrailOK 0 (mkSlots d.segs raws) b.length tail) :
    parseAll ext fcbSup d.segs (b ++ tail) = .ok (0, expectedFound 0 (mkSlots d.segs raws)) :=
  parseAll_of_trial_zero (by simpa using bimgP_trial_tail ext fcbSup d 0 raws h hsup hdel b hb tail ht)

/-- … and for an image that starts at a later INIT segment (same proviso on the earlier trials as `parseAll_later`) -/
theorem parseAll_later_trailing (ext : Ext) (fcbSup : Bool) (d : Desc) (init : Nat) (raws : List (Option Bytes))
    (h : Ctx d init raws) (hsup : Supplied init (mkSlots d.segs raws)) (hdel : Delimit ext fcbSup init (mkSlots d.segs raws))
    (b : Bytes) (hb : exportImg d init raws = .ok b) (tail : Bytes)
    (ht : TrailOK init (mkSlots d.segs raws) b.length tail)
    (pre post : List Int) (hc : initCandidates d.segs = pre ++ (init : Int) :: post)
    (h0 : trial ext fcbSup d.segs (b ++ tail) 0 = none) (hpre : ∀ c ∈ pre, trial ext fcbSup d.segs (b ++ tail) c = none) :
    parseAll ext fcbSup d.segs (b ++ tail) = .ok (init, expectedFound init (mkSlots d.segs raws)) :=
  parseAll_of_trial_later pre post hc h0 hpre (bimgP_trial_tail ext fcbSup d init raws h hsup hdel b hb tail ht)

/-- why `TrailOK` excludes the whole-rest parsers (MBI, HAB, SB2.1, SB3.1 rows): the container parser is handed
    container ++ trailing bytes and, when it accepts, ALL of it becomes the segment's raw block (the supplied bytes come back
    as a prefix only) -/
theorem greedy_takes_tail (ext : Ext) (fcbSup : Bool) (s : Seg) (c tail : Bytes)
    (hp : s.parser = .greedy ∨ s.parser = .sb) (hsz : s.size < 0) (hne : c ≠ []) :
    parseSeg ext fcbSup s (c ++ tail) = (match ext.app s.kind (c ++ tail) with
      | some _ => .present (c ++ tail)
      | none => .err) := by
  have hne' : (c ++ tail).isEmpty = false := by cases c <;> simp_all
  unfold parseSeg
  rcases hp with hp | hp <;> rw [hp]
  · simp only [hne', Bool.false_eq_true, if_false]
    cases ext.app s.kind (c ++ tail) <;> rfl
  · cases ext.app s.kind (c ++ tail) with
    | none => rfl
    | some n => simp [parseRaw, isPadding, show ¬ (0 < s.size) by omega]

/-! ## 5c. Every byte of the exported image is accounted for -/

/-- every byte of the exported image lies inside EXACTLY ONE supplied segment and equals that segment's byte there, or lies
    in no segment and holds the device's fill pattern -/
theorem export_bytes_classified (d : Desc) (init : Nat) (raws : List (Option Bytes)) (h : Ctx d init raws) (b : Bytes)
    (hb : exportImg d init raws = .ok b) (k : Nat) (hk : k < b.length) :
    (∃ i s o, (mkSlots d.segs raws)[i]? = some s ∧ s.present init = true ∧
        segOffset init (mkSlots d.segs raws) i = .ok o ∧ o ≤ (k : Int) ∧ (k : Int) < o + s.len ∧
        b[k]? = s.bytes[k - o.toNat]? ∧
        ∀ j t oj, (mkSlots d.segs raws)[j]? = some t → t.present init = true →
          segOffset init (mkSlots d.segs raws) j = .ok oj → oj ≤ (k : Int) → (k : Int) < oj + t.len → j = i) ∨
    ((∀ i s o, (mkSlots d.segs raws)[i]? = some s → s.present init = true →
        segOffset init (mkSlots d.segs raws) i = .ok o → ¬ (o ≤ (k : Int) ∧ (k : Int) < o + s.len)) ∧
      b[k]? = some (if d.pattern = .ones then 0xFF else 0x00)) := by
  by_cases hex : ∃ i s o, (mkSlots d.segs raws)[i]? = some s ∧ s.present init = true ∧
      segOffset init (mkSlots d.segs raws) i = .ok o ∧ o ≤ (k : Int) ∧ (k : Int) < o + s.len
  · obtain ⟨i, s, o, hs, hp, ho, h1, h2⟩ := hex
    left
    obtain ⟨ho0, hbytes⟩ := placed d init raws h b hb i s o hs hp ho
    refine ⟨i, s, o, hs, hp, ho, h1, h2, ?_, ?_⟩
    · have hm : k - o.toNat < s.len := by omega
      have e : k = o.toNat + (k - o.toNat) := by omega
      have := congrArg (fun l => l[k - o.toNat]?) hbytes
      simp only [List.getElem?_take, if_pos hm, List.getElem?_drop] at this
      rw [← this, ← e]
    · intro j t oj ht hpt hoj h3 h4
      rcases Nat.lt_trichotomy j i with hji | hji | hji
      · have := no_overwrite d init raws h j i t s oj o hji ht hs hpt hp hoj ho
        omega
      · exact hji
      · have := no_overwrite d init raws h i j s t o oj hji hs ht hp hpt ho hoj
        omega
  · right
    have hfree : ∀ i s o, (mkSlots d.segs raws)[i]? = some s → s.present init = true →
        segOffset init (mkSlots d.segs raws) i = .ok o → ¬ (o ≤ (k : Int) ∧ (k : Int) < o + s.len) := by
      intro i s o hs hp ho hin
      exact hex ⟨i, s, o, hs, hp, ho, hin.1, hin.2⟩
    exact ⟨hfree, gaps_pattern d init raws h b hb k hk hfree⟩

/-- … for every (family, revision, memory type) row of the database: the row's generated segment table and fill pattern,
    every init offset the setter can answer, every set of supplied segments that fit -/
theorem export_bytes_classified_rows : ∀ r ∈ BimgTables.rows, ∃ l d, BimgTables.layouts[r.layout]? = some l ∧ resolve l = some d ∧
    ∀ (init : Nat) (raws : List (Option Bytes)), raws.length = d.segs.length → (init = 0 ∨ init ∈ statics d.segs) →
      fits (mkSlots d.segs raws) = true → (∃ s ∈ mkSlots d.segs raws, s.present init = true) →
      ∃ b, exportImg d init raws = .ok b ∧ ∀ k, k < b.length →
        (∃ i s o, (mkSlots d.segs raws)[i]? = some s ∧ s.present init = true ∧
          segOffset init (mkSlots d.segs raws) i = .ok o ∧ o ≤ (k : Int) ∧ (k : Int) < o + s.len ∧
          b[k]? = s.bytes[k - o.toNat]?) ∨
        b[k]? = some (if l.pattern = "ones" then 0xFF else 0x00) := by
  intro r hr
  obtain ⟨l, d, hl, hd, hok⟩ := rows_wf r hr
  refine ⟨l, d, hl, hd, ?_⟩
  intro init raws hlen hadm hfits hne
  have h : Ctx d init raws := ⟨hok, hlen, hadm, hfits, hne⟩
  obtain ⟨b, hb, _⟩ := export_ok d init raws h
  refine ⟨b, hb, ?_⟩
  intro k hk
  have hpat : d.pattern = .ones ↔ l.pattern = "ones" := by
    unfold resolve at hd
    split at hd
    · rename_i ss p _ hp
      cases hd
      exact patOf_ones _ _ hp
    · cases hd
  rcases export_bytes_classified d init raws h b hb k hk with ⟨i, s, o, h1, h2, h3, h4, h5, h6, _⟩ | ⟨_, h2⟩
  · exact Or.inl ⟨i, s, o, h1, h2, h3, h4, h5, h6⟩
  · right
    rw [h2]
    simp only [hpat]

/-! ## 6. Parse without memory type (`BootableImage.parse(binary, family)`: the family's memory types in database order) -/

/-- the first memory type whose full-image trial accepts wins (the later-start trials run only when none does) -/
theorem parseAny_first_loop (ext : Ext) (fcbSup : Bool) (descs : List (List Seg)) (bin : Bytes) (i : Nat) (r : Nat × List Found)
    (h : firstSomeIdx (fun segs => trial ext fcbSup segs bin 0) descs 0 = some (i, r)) :
    parseAny ext fcbSup descs bin = .ok (i, r.1, r.2) := by
  unfold parseAny
  rw [h]

/-- a full image made for the `i`-th memory type: if every earlier memory type has the same segment table or rejects the
    image, the answer is a memory type with that segment table (the `i`-th or an earlier twin - e.g. flexspi_nand / semc_nand /
    sd / mmc share one table), init offset 0 and exactly the supplied segments.  The hypothesis on the earlier memory types is
    needed: see the open finding `C14-untyped-parse-mbi-lenient`. -/
theorem parse_any_memtype (ext : Ext) (fcbSup : Bool) (descs : List (List Seg)) (i : Nat) (d : Desc) (raws : List (Option Bytes))
    (hi : descs[i]? = some d.segs)
    (h : Ctx d 0 raws) (hsup : Supplied 0 (mkSlots d.segs raws)) (hdel : Delimit ext fcbSup 0 (mkSlots d.segs raws))
    (b : Bytes) (hb : exportImg d 0 raws = .ok b)
    (hearlier : ∀ j, j < i → ∀ s, descs[j]? = some s → s = d.segs ∨ trial ext fcbSup s b 0 = none) :
    ∃ j, j ≤ i ∧ descs[j]? = some d.segs ∧
      parseAny ext fcbSup descs b = .ok (j, 0, expectedFound 0 (mkSlots d.segs raws)) := by
  have ht : trial ext fcbSup d.segs b 0 = some (0, expectedFound 0 (mkSlots d.segs raws)) := by
    have := bimgP_trial ext fcbSup d 0 raws h hsup hdel b hb
    simpa using this
  obtain ⟨j, r, hjr, hle⟩ := bimgA_firstSomeIdx_exists (fun segs => trial ext fcbSup segs b 0) descs 0 i d.segs _ hi ht
  obtain ⟨_, x, hx, hfx, _⟩ := bimgA_firstSomeIdx_some _ descs 0 j r hjr
  simp only [Nat.sub_zero] at hx
  have hji : j ≤ i := by omega
  have hxd : x = d.segs := by
    rcases Nat.lt_or_ge j i with hlt | hge
    · rcases hearlier j hlt x hx with he | he
      · exact he
      · rw [he] at hfx; cases hfx
    · have : j = i := by omega
      subst this
      rw [hi] at hx; cases hx; rfl
  subst hxd
  rw [ht] at hfx
  cases hfx
  exact ⟨j, hji, hx, parseAny_first_loop ext fcbSup descs b j _ hjr⟩

/-- the selection loop, exactly, for a full image made for the `i`-th memory type - NO assumption on the other memory types:
    the answer is the first memory type in database order whose full-image trial accepts the image; it is the own one or an
    earlier one; when it has the own segment table (own memory type or a twin) the answer is init offset 0 and exactly the
    supplied segments -/
theorem parse_any_selects (ext : Ext) (fcbSup : Bool) (descs : List (List Seg)) (i : Nat) (d : Desc) (raws : List (Option Bytes))
    (hi : descs[i]? = some d.segs)
    (h : Ctx d 0 raws) (hsup : Supplied 0 (mkSlots d.segs raws)) (hdel : Delimit ext fcbSup 0 (mkSlots d.segs raws))
    (b : Bytes) (hb : exportImg d 0 raws = .ok b) :
    ∃ j sj r, j ≤ i ∧ descs[j]? = some sj ∧
      (∀ k, k < j → ∀ s, descs[k]? = some s → trial ext fcbSup s b 0 = none) ∧
      trial ext fcbSup sj b 0 = some r ∧ parseAny ext fcbSup descs b = .ok (j, r.1, r.2) ∧
      (sj = d.segs → r = (0, expectedFound 0 (mkSlots d.segs raws))) := by
  have ht : trial ext fcbSup d.segs b 0 = some (0, expectedFound 0 (mkSlots d.segs raws)) := by
    have := bimgP_trial ext fcbSup d 0 raws h hsup hdel b hb
    simpa using this
  obtain ⟨j, r, hjr, hle⟩ := bimgA_firstSomeIdx_exists (fun segs => trial ext fcbSup segs b 0) descs 0 i d.segs _ hi ht
  obtain ⟨_, x, hx, hfx, hall⟩ := bimgA_firstSomeIdx_some _ descs 0 j r hjr
  simp only [Nat.sub_zero] at hx hall
  refine ⟨j, x, r, by omega, hx, hall, hfx, parseAny_first_loop ext fcbSup descs b j _ hjr, ?_⟩
  intro hxd
  subst hxd
  rw [ht] at hfx
  cases hfx
  rfl

/-- when it is ambiguous, precisely: the answer is NOT (a memory type with the own segment table, init offset 0, the supplied
    segments) if and only if the first memory type whose full-image trial accepts the image comes BEFORE the own one and has
    ANOTHER segment table (decidable for a given `Ext`; on the real parsers this happens for the lenient MBI parser only:
    open finding `C14-untyped-parse-mbi-lenient`, and for images that legitimately are images of both memory types) -/
theorem parse_any_ambiguous_iff (ext : Ext) (fcbSup : Bool) (descs : List (List Seg)) (i : Nat) (d : Desc) (raws : List (Option Bytes))
    (hi : descs[i]? = some d.segs)
    (h : Ctx d 0 raws) (hsup : Supplied 0 (mkSlots d.segs raws)) (hdel : Delimit ext fcbSup 0 (mkSlots d.segs raws))
    (b : Bytes) (hb : exportImg d 0 raws = .ok b) :
    (¬ ∃ j, descs[j]? = some d.segs ∧
        parseAny ext fcbSup descs b = .ok (j, 0, expectedFound 0 (mkSlots d.segs raws))) ↔
    ∃ k s, k < i ∧ descs[k]? = some s ∧ s ≠ d.segs ∧ (trial ext fcbSup s b 0).isSome = true ∧
      ∀ k', k' < k → ∀ s', descs[k']? = some s' → trial ext fcbSup s' b 0 = none := by
  obtain ⟨j, sj, r, hji, hj, hall, hr, hp, hown⟩ := parse_any_selects ext fcbSup descs i d raws hi h hsup hdel b hb
  constructor
  · intro hno
    have hne : sj ≠ d.segs := by
      intro e
      have hr' := hown e
      subst hr'
      subst e
      exact hno ⟨j, hj, hp⟩
    have hlt : j < i := by
      rcases Nat.lt_or_ge j i with hlt | hge
      · exact hlt
      · have : j = i := by omega
        subst this
        rw [hi] at hj
        cases hj
        exact absurd rfl hne
    exact ⟨j, sj, hlt, hj, hne, by rw [hr]; rfl, hall⟩
  · rintro ⟨k, s, hki, hk, hne, hacc, hbefore⟩ ⟨j', hj', hp'⟩
    rw [hp] at hp'
    simp only [Except.ok.injEq, Prod.mk.injEq] at hp'
    obtain ⟨hjj, _, _⟩ := hp'
    subst hjj
    -- the first acceptor is unique: j = k
    rcases Nat.lt_trichotomy j k with hlt | heq | hgt
    · have := hbefore j hlt sj hj
      rw [this] at hr; cases hr
    · subst heq
      rw [hk] at hj'
      cases hj'
      exact hne rfl
    · have := hall k hgt s hk
      rw [this] at hacc; cases hacc

/-! ## 7. `Delimit` discharged for application containers from the container models (C01 MBI, C07 HAB, C05 SB3.1 header)

With `Ext.app` given by the container model, the hypothesis `Delimit.good` of `parse_export` holds for an exported
container - it is a theorem of the container's own round trip, not an assumption.  Not available for AHAB and SB2.1 (no
model of `AHABImage.parse` / `ImageHeaderV2.parse` in C06 / C04, see Proofs/BimgDelimit.lean). -/

/-- MBI: `MasterBootImage.parse` (+ `validate()`) accepts every image `exportImage` emits, for every well-formed class and
    option set (C01 `parse_export`, `reexport`); the class selection on the exported bytes is the hypothesis `hsel` -/
theorem mbi_delimits {co : Crypto.CryptoOps} {env : Mbi.Env} {c : Mbi.Cls} {cfg : Mbi.Cfg} {signer : Mbi.Signer}
    (h : Mbi.Hyp co env c cfg signer) (fixedType : Int) (family : List Mbi.Cls) (dek : Option Bytes)
    (hdek : c.has .Mbi_MixinHmac = true → dek = cfg.hmacKey) (hdek' : c.family = some .encrypted → dek = cfg.hmacKey)
    (e : Bytes) (he : Mbi.exportImage co c cfg signer = .ok e) (hne : e ≠ [])
    (hsel : Mbi.selectClass fixedType family e = some c)
    (ext : Ext) (fcbSup : Bool) (s : Seg) (hp : s.parser = .greedy) (hsz : s.size < 0)
    (hext : ∀ data, ext.app s.kind data = mbiApp co env fixedType family dek data) :
    parseSeg ext fcbSup s (e ++ []) = .present e := by
  apply app_delimits ext fcbSup s e [] (Or.inr ⟨Or.inl hp, rfl⟩) hsz hne
  rw [hext, List.append_nil]
  exact mbi_accepts' h fixedType family dek hdek hdek' e he hsel

/-- HAB, signed and encrypted containers - full strength (C07 `hab_roundtrip_signed`): whatever `build` produces from a
    well-formed authenticated / encrypted configuration is accepted by `HabContainer.parse`; no hypothesis about the application -/
theorem hab_delimits_signed (cr : Crypto.CryptoOps) (hl : Crypto.CryptoLaws cr) (sg : Hab.Signer) (fuel : Nat) (c : Hab.Cfg) (b : Hab.Built)
    (h : c.WF) (ha : c.flags ≠ 0) (hb : Hab.build cr sg fuel c = some b)
    (hd : ∀ d, c.dcd = some d → Hab.DcdWF d) (hx : ∀ x, c.xmcd = some x → Hab.XmcdWF x)
    (hm : Hab.macLenOk c.macLen = true) (hw : Hab.CsfWF c.version b.cmds)
    (h2 : (Hab.getAut 2 b.cmds).isSome = Hab.isEnc c.flags)
    (hne : Hab.exportImage c b ≠ [])
    (ext : Ext) (fcbSup : Bool) (s : Seg) (hp : s.parser = .greedy) (hsz : s.size < 0)
    (hext : ∀ data, ext.app s.kind data = habApp data) :
    parseSeg ext fcbSup s (Hab.exportImage c b ++ []) = .present (Hab.exportImage c b) := by
  have hrt := SpsdkVerif.C07.hab_roundtrip_signed cr hl sg fuel c b h ha hb hd hx hm hw h2
  exact app_delimits ext fcbSup s _ [] (Or.inr ⟨Or.inl hp, rfl⟩) hsz hne (by rw [hext, List.append_nil, habApp, hrt])

/-- HAB, unsigned containers - under the decidable `AppVisible` (C07 `hab_roundtrip_unsigned`): the application-offset
    heuristic of `HabContainer.parse` finds the application.  Full strength is false there (finding C07-parse-app-offset-guess),
    hence `_partial`. -/
theorem hab_delimits_unsigned_partial (c : Hab.Cfg) (b : Hab.Built) (h : c.WF) (h0 : c.flags = 0)
    (hd : ∀ d, c.dcd = some d → Hab.DcdWF d) (hx : ∀ x, c.xmcd = some x → Hab.XmcdWF x)
    (happ : b.app.length = c.appBin.length) (hv : Hab.AppVisible c b.app)
    (hne : Hab.exportImage c b ≠ [])
    (ext : Ext) (fcbSup : Bool) (s : Seg) (hp : s.parser = .greedy) (hsz : s.size < 0)
    (hext : ∀ data, ext.app s.kind data = habApp data) :
    parseSeg ext fcbSup s (Hab.exportImage c b ++ []) = .present (Hab.exportImage c b) := by
  have hrt := SpsdkVerif.C07.hab_roundtrip_unsigned c b h h0 hd hx happ hv
  exact app_delimits ext fcbSup s _ [] (Or.inr ⟨Or.inl hp, rfl⟩) hsz hne (by rw [hext, List.append_nil, habApp, hrt])

/-- MBI rows end to end: with the container parser given by the C01 model, parsing the exported image recovers every supplied
    segment for every init offset; the hypotheses speak about the supplied bytes only (see Proofs/BimgDelimit.lean) -/
theorem parse_export_mbi_row {co : Crypto.CryptoOps} {env : Mbi.Env} {c : Mbi.Cls} {cfg : Mbi.Cfg} {signer : Mbi.Signer}
    (hm : Mbi.Hyp co env c cfg signer) (fixedType : Int) (family : List Mbi.Cls) (dek : Option Bytes)
    (hdek : c.has .Mbi_MixinHmac = true → dek = cfg.hmacKey) (hdek' : c.family = some .encrypted → dek = cfg.hmacKey)
    (e : Bytes) (he : Mbi.exportImage co c cfg signer = .ok e)
    (hsel : Mbi.selectClass fixedType family e = some c)
    (ext : Ext) (fcbSup : Bool) (d : Desc) (init : Nat) (raws : List (Option Bytes))
    (h : Ctx d init raws) (hsup : Supplied init (mkSlots d.segs raws))
    (hkinds : ∀ s ∈ mkSlots d.segs raws, s.seg.parser = .raw ∨ s.seg.parser = .imageVersion ∨ s.seg.parser = .imageVersionAp ∨
      s.seg.parser = .fcb ∨ s.seg.parser = .greedy)
    (hext : ∀ s ∈ mkSlots d.segs raws, s.seg.parser = .greedy → ∀ data, ext.app s.seg.kind data = mbiApp co env fixedType family dek data)
    (hraw : ∀ s ∈ mkSlots d.segs raws, s.present init = true → s.seg.parser = .raw →
      (s.bytes.length : Int) = s.seg.size ∧ isPadding s.seg s.bytes = false)
    (hiv : ∀ s ∈ mkSlots d.segs raws, s.present init = true →
      (s.seg.parser = .imageVersion ∨ s.seg.parser = .imageVersionAp) → s.bytes.length = 4)
    (hfcb : ∀ s ∈ mkSlots d.segs raws, s.present init = true → s.seg.parser = .fcb →
      (s.bytes.length : Int) = s.seg.size ∧
      (s.bytes.take 4 = BimgTables.fcbTag ∨ s.bytes.take 4 = BimgTables.fcbTagSwapped) ∧
      (fcbSup = true → ext.fcbOk s.bytes = true) ∧ (fcbSup = false → isPadding s.seg s.bytes = false))
    (hmbi : ∀ s ∈ mkSlots d.segs raws, s.present init = true → s.seg.parser = .greedy → s.bytes = e)
    (b : Bytes) (hb : exportImg d init raws = .ok b) :
    walk ext fcbSup init d.segs b = .ok (expectedFound init (mkSlots d.segs raws)) := by
  have hparts := bimg_descOK_parts d h.ok
  have hsegOK : ∀ s ∈ mkSlots d.segs raws, segOK d.pattern s.seg = true := by
    intro s hs
    have hmap := bimg_mkSlots_segs d.segs raws h.len
    have : s.seg ∈ d.segs := by
      rw [← hmap]; exact List.mem_map_of_mem (f := fun x : Slot => x.seg) hs
    exact hparts.2.1 _ this
  refine parse_export ext fcbSup d init raws h hsup ⟨?_, ?_⟩ b hb
  · intro s hs hp rest hrest
    have hok := hsegOK s hs
    have P := segOK_facts d.pattern s.seg hok
    rcases hkinds s hs with hk | hk | hk | hk | hk
    · obtain ⟨hl, hnp⟩ := hraw s hs hp hk
      have hbh : s.seg.bootHeader = true := by
        cases hbb : s.seg.bootHeader with
        | true => rfl
        | false =>
          rcases P.appOnly hbb with h' | h' | h' <;> rw [hk] at h' <;> cases h'
      exact raw_delimits ext fcbSup s.seg s.bytes rest hk (P.rawHdr hk hbh) hl hnp
    · exact imageVersion_delimits ext fcbSup s.seg s.bytes rest (Or.inl hk) (P.ivSize (Or.inl hk)) (hiv s hs hp (Or.inl hk))
    · exact imageVersion_delimits ext fcbSup s.seg s.bytes rest (Or.inr hk) (P.ivSize (Or.inr hk)) (hiv s hs hp (Or.inr hk))
    · obtain ⟨hl, htag, hokf, hnp⟩ := hfcb s hs hp hk
      exact fcb_delimits ext fcbSup s.seg s.bytes rest hk (P.fcb hk) hl htag hokf hnp
    · have hrest' : rest = [] := hrest (Or.inl hk)
      subst hrest'
      have hbe := hmbi s hs hp hk
      rw [hbe]
      have hne : e ≠ [] := by
        intro hnil
        have hpos := (bimg_present_iff (init := init) (s := s)).1 hp
        have hlen := bimg_bytes_length (s := s)
        rw [hbe, hnil] at hlen
        simp at hlen
        omega
      exact mbi_delimits hm fixedType family dek hdek hdek' e he hne hsel ext fcbSup s.seg hk
        (P.app (Or.inl hk)).1 (hext s hs hk)
  · intro s hs hp hf rest
    have := (segOK_facts d.pattern s.seg (hsegOK s hs)).find.1 hf
    rcases hkinds s hs with hk | hk | hk | hk | hk <;> rw [hk] at this <;> cases this

/-- SB3.1: a file that begins with an encoded header (fields in range) passes the header validation, whatever follows
    (header reader of the C05 ROM model) -/
theorem sb31_delimits (h : Sb31.Header) (wf : Sb31.Spec.HeaderWF h) (body : Bytes)
    (ext : Ext) (fcbSup : Bool) (s : Seg) (hp : s.parser = .sb) (hsz : s.size < 0)
    (hext : ∀ data, ext.app s.kind data = sb31App data) :
    parseSeg ext fcbSup s ((Sb31.encHeader h ++ body) ++ []) = .present (Sb31.encHeader h ++ body) := by
  have hne : Sb31.encHeader h ++ body ≠ [] := by
    intro he
    have := congrArg List.length he
    simp [Sb31.encHeader, Generated.Sb31Consts.hdrMagic] at this
  apply app_delimits ext fcbSup s _ [] (Or.inr ⟨Or.inr hp, rfl⟩) hsz hne
  rw [hext, List.append_nil]
  exact sb31_accepts' h wf body

/-! ## 7b. One object, many init-offset assignments: history independence -/

/-- the setter recomputes the segments' `excluded` flags on BOTH of its paths (`offset == 0` and non-zero) - read from the
    setter's source on every run; a path that skips `_update_segments()` makes this (and the theorems below) fail -/
theorem setter_updates_on_every_path :
    BimgTables.setterUpdatesOnZero = true ∧ BimgTables.setterUpdatesOnNonZero = true := by decide

/-- after ANY sequence of init-offset assignments (by integer, by segment, refused ones included) on a fresh object the
    `excluded` flags are exactly those of the current init offset: a function of (segment table, init offset) only -/
theorem excluded_history_independent (segs : List Seg) (ops : List InitOp) :
    (runOps segs (freshObj segs) ops).excl = segs.map (excluded (runOps segs (freshObj segs) ops).init) :=
  Bimg.bimgS_run setter_updates_on_every_path.1 setter_updates_on_every_path.2 segs ops _ (Bimg.bimgS_fresh segs)

/-- two histories that end at the same init offset leave the object in the same state - in particular X → 0 equals fresh -/
theorem same_init_same_object (segs : List Seg) (ops₁ ops₂ : List InitOp)
    (h : (runOps segs (freshObj segs) ops₁).init = (runOps segs (freshObj segs) ops₂).init) :
    runOps segs (freshObj segs) ops₁ = runOps segs (freshObj segs) ops₂ := by
  have h1 := excluded_history_independent segs ops₁
  have h2 := excluded_history_independent segs ops₂
  cases hs1 : runOps segs (freshObj segs) ops₁ with
  | mk i1 e1 =>
    cases hs2 : runOps segs (freshObj segs) ops₂ with
    | mk i2 e2 =>
      rw [hs1] at h h1; rw [hs2] at h h2
      simp only at h h1 h2
      subst h
      rw [h1, h2]

/-! ## 8. Non-vacuity: a concrete row, concrete payloads, a concrete `Ext` -/

/-- toy container format for the examples: `A5 n …` is a container of `n` bytes -/
def exExt : Ext where
  app _ data := match data with
    | 0xA5 :: n :: _ => if n.toNat ≤ data.length ∧ 2 ≤ n.toNat then some n.toNat else none
    | _ => none
  find _ data := match data with
    | 0xA5 :: _ => some 0
    | _ => none
  fcbOk _ := true
  xmcd _ := none

/-- a miniature of the i.MX 9x flexspi_nor row (keyblob 0x0 / fcb 0x400 / primary container set 0x1000 / secondary
    container set dynamic, 1024-aligned) with small numbers: raw header of 4 bytes at 0, FCB of 8 bytes at 8, primary
    container at 32, secondary container dynamic with alignment 8 -/
def exDesc : Desc where
  pattern := .zeros
  segs := [
    { kind := 0, size := 4, align := 1, initSeg := false, bootHeader := true, parser := .raw, extFind := false,
      ownLen := false, patterns := [.zeros, .ones], pos := some 0 },
    { kind := 1, size := 8, align := 1, initSeg := true, bootHeader := true, parser := .fcb, extFind := false,
      ownLen := false, patterns := [.zeros, .ones], pos := some 8 },
    { kind := 12, size := -1, align := 1, initSeg := true, bootHeader := false, parser := .ahab, extFind := true,
      ownLen := true, patterns := [.zeros, .ones], pos := some 32 },
    { kind := 13, size := -1, align := 8, initSeg := false, bootHeader := false, parser := .ahab, extFind := true,
      ownLen := true, patterns := [.zeros, .ones], pos := none }]

def exKeyblob : Bytes := [7, 7, 7, 7]
def exFcb : Bytes := BimgTables.fcbTag ++ [9, 9, 9, 9]
def exRaws : List (Option Bytes) := [some exKeyblob, some exFcb, some [0xA5, 5, 1, 2, 3], some [0xA5, 3, 8]]
def exRaws2 : List (Option Bytes) := [none, some exFcb, some [0xA5, 5, 1, 2, 3], none]

example : descOK exDesc = true := by decide
/-- the real rows resolve to descriptions of the same shape, e.g. the i.MX 9x flexspi_nor layout -/
example : (resolve ⟨[(0, 0), (1, 1024), (12, 4096), (13, -1)], "zeros"⟩).any
    (fun d => d.segs.map (·.pos) == [some 0, some 1024, some 4096, none] && descOK d) = true := by decide +kernel
example : (List.range 4).map (segOffset 0 (mkSlots exDesc.segs exRaws)) = [.ok 0, .ok 8, .ok 32, .ok 40] := by decide
example : (List.range 4).map (segOffset 8 (mkSlots exDesc.segs exRaws)) = [.error .spsdk, .ok 0, .ok 24, .ok 32] := by
  decide
example : setInit exDesc.segs 1 = .ok 8 ∧ setInit exDesc.segs 9 = .ok 32 ∧ setInit exDesc.segs 33 = .error .spsdk ∧
    setInit exDesc.segs (-1) = .error .spsdk := by decide
example : exportImg exDesc 0 exRaws2 =
    .ok ([0, 0, 0, 0, 0, 0, 0, 0] ++ exFcb ++ List.replicate 16 0 ++ [0xA5, 5, 1, 2, 3]) := by decide +kernel
example : (exportImg exDesc 0 exRaws).toOption.map List.length = some 43 := by decide +kernel
example : Ctx exDesc 8 exRaws :=
  ⟨by decide, by decide, by decide, by decide, ⟨⟨exDesc.segs[1], some exFcb⟩, by decide, by decide⟩⟩

/-- export, then `_parse` with the same init offset gives back what was supplied -/
def exWalkTrip (init : Nat) (raws : List (Option Bytes)) : Bool :=
  match exportImg exDesc init raws with
  | .ok b => decide (walk exExt false init exDesc.segs b = .ok (expectedFound init (mkSlots exDesc.segs raws)))
  | .error _ => false
/-- … and so does `parse` (all trials) -/
def exParseTrip (init : Nat) (raws : List (Option Bytes)) : Bool :=
  match exportImg exDesc init raws with
  | .ok b => decide (parseAll exExt false exDesc.segs b = .ok (init, expectedFound init (mkSlots exDesc.segs raws)))
  | .error _ => false
example : ∀ init ∈ [0, 8, 32], ∀ raws ∈ [exRaws, exRaws2], exWalkTrip init raws = true := by decide +kernel
example : ∀ p ∈ [(0, exRaws), (0, exRaws2), (8, exRaws2), (32, exRaws), (32, exRaws2)],
    exParseTrip p.1 p.2 = true := by decide +kernel
/-- the hypothesis of `parseAll_later` is needed: the image that starts at the FCB, read as a full image, shows the FCB
    bytes where the (unvalidated) raw header is expected and the secondary container where the primary one is expected -
    the full-image trial comes first and wins (cf. known finding `C14-later-start-misdetected`) -/
example : (match exportImg exDesc 8 exRaws with
    | .ok b => decide (parseAll exExt false exDesc.segs b =
        .ok (0, [some (0, exFcb.take 4), none, some (32, [0xA5, 3, 8]), none]))
    | .error _ => false) = true := by decide +kernel
example : expectedFound 8 (mkSlots exDesc.segs exRaws) =
    [none, some (0, exFcb), some (24, [0xA5, 5, 1, 2, 3]), some (32, [0xA5, 3, 8])] := by decide +kernel

/-- flash dumps: `TrailOK` holds for any trailing bytes when the floating last entry is supplied, and for trailing bytes inside
    the alignment gap (37 → 40) when it is not -/
example : TrailOK 0 (mkSlots exDesc.segs exRaws) 43 (List.replicate 100 7) := by
  intro s hs
  have e : (mkSlots exDesc.segs exRaws).getLast? = some ⟨exDesc.segs[3], some [0xA5, 3, 8]⟩ := by decide
  rw [e] at hs; cases hs
  exact ⟨by decide, by decide, fun h => absurd h (by decide)⟩
example : TrailOK 0 (mkSlots exDesc.segs exRaws2) 37 [7, 7, 7] := by
  intro s hs
  have e : (mkSlots exDesc.segs exRaws2).getLast? = some ⟨exDesc.segs[3], none⟩ := by decide
  rw [e] at hs; cases hs
  exact ⟨by decide, by decide, fun _ => by decide⟩
/-- export, append trailing bytes, `parse` (all trials): the same answer as without them -/
def exTrailTrip (init : Nat) (raws : List (Option Bytes)) (tail : Bytes) : Bool :=
  match exportImg exDesc init raws with
  | .ok b => decide (parseAll exExt false exDesc.segs (b ++ tail) = .ok (init, expectedFound init (mkSlots exDesc.segs raws)))
  | .error _ => false
example : ∀ p ∈ [(0, exRaws, List.replicate 100 7), (32, exRaws, [0xA5, 9, 9]), (0, exRaws2, [7, 7, 7]), (8, exRaws2, [1, 2, 3])],
    exTrailTrip p.1 p.2.1 p.2.2 = true := by decide +kernel
/-- the gap condition of `TrailOK` is needed: with the floating entry absent and trailing bytes that reach beyond the aligned
    offset (40) where it would be looked for, `find_segment_offset` runs over the trailing bytes, finds no container and the
    whole parse fails (every trial) -/
example : (match exportImg exDesc 0 exRaws2 with
    | .ok b => decide (b.length = 37 ∧ parseAll exExt false exDesc.segs (b ++ [7, 7, 7, 7]) = .error .spsdk)
    | .error _ => false) = true := by decide +kernel
/-- every byte of an export is a segment byte or the fill byte (`export_bytes_classified` on the example) -/
example : exportImg exDesc 8 exRaws =
    .ok (exFcb ++ List.replicate 16 0 ++ [0xA5, 5, 1, 2, 3] ++ [0, 0, 0] ++ [0xA5, 3, 8]) := by decide +kernel

/-- a key-store-like block that is a MIX of 0x00 and 0xFF bytes is not padding: it delimits itself (`raw_delimits_nonuniform`) -/
example : (∀ p ∈ (exDesc.segs[0]).patterns, p = .zeros ∨ p = .ones) ∧
    ([0, 0xFF, 0xFF, 0xFF] : Bytes) ≠ List.replicate 4 0x00 ∧ ([0, 0xFF, 0xFF, 0xFF] : Bytes) ≠ List.replicate 4 0xFF ∧
    parseSeg exExt false exDesc.segs[0] ([0, 0xFF, 0xFF, 0xFF] ++ [1, 2]) = .present [0, 0xFF, 0xFF, 0xFF] ∧
    parseSeg exExt false exDesc.segs[0] ([0xFF, 0xFF, 0xFF, 0xFF] ++ [1, 2]) = .absent := by decide

/-- parse without memory type: a family with two memory types - a container-only table (like serial_downloader) first, then
    `exDesc`; the full image made for the second is answered with index 1 (the first one's trial rejects the padding), and the
    image that holds just the container is answered with index 0 although it was made for `exDesc` starting at 32: it IS a
    valid image of the first memory type as well (same segments found) -/
def exDescs : List (List Seg) := [(exDesc.segs.drop 2).map (fun s => { s with pos := s.pos.map (fun _ => 0) }), exDesc.segs]
example : (match exportImg exDesc 0 exRaws2 with
    | .ok b => (match parseAny exExt false exDescs b with
        | .ok (i, ini, f) => decide (i = 1 ∧ ini = 0 ∧ f = expectedFound 0 (mkSlots exDesc.segs exRaws2))
        | .error _ => false)
    | .error _ => false) = true := by decide +kernel
example : (match exportImg exDesc 32 exRaws with
    | .ok b => (match parseAny exExt false exDescs b with
        | .ok (i, ini, f) => decide (i = 0 ∧ ini = 0 ∧ f = [some (0, [0xA5, 5, 1, 2, 3]), some (8, [0xA5, 3, 8])])
        | .error _ => false)
    | .error _ => false) = true := by decide +kernel

/-- one object: to the primary container and back to 0 is the fresh object again; a refused request changes nothing -/
example : runOps exDesc.segs (freshObj exDesc.segs) [.byKind 12, .byInt 0] = ⟨0, [false, false, false, false]⟩ ∧
    runOps exDesc.segs (freshObj exDesc.segs) [.byInt 9, .byInt 1, .byInt 99, .byKind 13] = ⟨8, [true, false, false, false]⟩ := by decide

end SpsdkVerif.C14
