/-
C05 — Secure Binary 3.1: hash chain, block keys and commands decode to the input.

Model        : Model/Sb31.lean (`exportSb` = `SecureBinary31.export()` as a state transition of the
               Python object; command encoders, chunking, hash chain, header, KDF) and Model/Sb31Ext.lean
               (`export(cert_block=…)`, `validate()`, class and tag of every command) over Generated/Sb31Consts.lean
               (tags, struct formats, header/KDF constants, `updTotalLength`, `chainStartHash`, `kdfData`
               re-extracted from the current source on every run).
ROM loader   : Spec/Sb31Rom.lean, namespace `Rom` — written from the format description with hand-written
               constants; the theorems below relate the two halves, so a changed source constant breaks them.
Vocabulary   : Model/Sb31.lean, namespace `Spec` (`hdrSpec`, `Good`, `StateWF`, `DevOK`, `Chained`, `Tiles`).
Helper lemmas: Proofs/Sb31.lean, Proofs/Sb31Ext.lean.  Tie to /repo: byte-for-byte correspondence in harness/props/C05.py.

Every theorem is for EVERY `c : CryptoOps` with `CryptoLaws c` (all keys, data, lengths).  Signatures are
abstract: `CryptoLaws.verify_sign` is the only fact used; the certificate block is an opaque input whose
acceptance by the loader (`DevOK.cert`) is a hypothesis here (its construction is property C03) and is
checked on real certificate blocks by the harness.
-/
import SpsdkVerif.Model.Sb31
import SpsdkVerif.Proofs.Sb31
import SpsdkVerif.Proofs.Sb31Ext
import SpsdkVerif.Proofs.CertBlockRom

namespace SpsdkVerif.C05
open SpsdkVerif SpsdkVerif.Misc SpsdkVerif.Crypto SpsdkVerif.Generated
open SpsdkVerif.Sb31 SpsdkVerif.Sb31.Rom SpsdkVerif.Sb31.Spec

/-! ## 0. the generated constants agree with the format description the loader is written from -/

theorem tags_agree :
    Sb31Consts.cmdTags = [("NONE", 0), ("ERASE", 1), ("LOAD", 2), ("EXECUTE", 3), ("CALL", 4), ("PROGRAM_FUSES", 5),
      ("PROGRAM_IFR", 6), ("LOAD_CMAC", 7), ("COPY", 8), ("LOAD_HASH_LOCKING", 9), ("LOAD_KEY_BLOB", 10),
      ("CONFIGURE_MEMORY", 11), ("FILL_MEMORY", 12), ("FW_VERSION_CHECK", 13), ("RESET", 14)] ∧
    Sb31Consts.cmdMagic = 0x55AAAA55 := ⟨rfl, rfl⟩

/-- each of the 14 command classes passes its own tag, and `TAG_TO_CLASS` maps the tag back to the class -/
theorem classes_agree :
    Sb31Consts.classTags.length = 14 ∧
    ∀ p ∈ Sb31Consts.classTags, (p.2, p.1) ∈ Sb31Consts.tagToClass ∧ 1 ≤ p.2 ∧ p.2 ≤ 14 := by decide

theorem formats_agree :
    Sb31Consts.fmtBaseCmd = [4, 4, 4, 4] ∧ Sb31Consts.fmtBaseCmdLittle = true ∧
    Sb31Consts.fmtKeyBlob = [4, 2, 2, 4, 4] ∧ Sb31Consts.fmtKeyBlobLittle = true ∧
    Sb31Consts.fmtSection = [4, 4, 4, 4] ∧ Sb31Consts.fmtSectionLittle = true ∧
    Sb31Consts.fmtHeader = [4, 2, 2, 4, 4, 4, 8, 4, 4, 4, 4, 16] ∧ Sb31Consts.fmtHeaderLittle = true ∧
    Sb31Consts.fmtLoadMemBlock = [4, 4, 4, 4] ∧ Sb31Consts.fmtEraseTail = [4, 4, 4, 4] ∧
    Sb31Consts.fmtCopyTail = [4, 4, 4, 4] ∧ Sb31Consts.fmtFillTail = [4, 4, 4, 4] ∧
    Sb31Consts.fmtLoadMemBlockLittle = true ∧ Sb31Consts.fmtEraseTailLittle = true ∧
    Sb31Consts.fmtCopyTailLittle = true ∧ Sb31Consts.fmtFillTailLittle = true ∧
    Sb31Consts.fmtDataBlock.head?.getD 4 = 4 ∧ Sb31Consts.fmtDataBlockLittle = true ∧
    Sb31Consts.hasMemIdBlock = [("CmdLoad", true), ("CmdLoadCmac", true), ("CmdLoadHashLocking", true),
      ("CmdProgFuses", false), ("CmdProgIfr", false)] :=
  ⟨rfl, rfl, rfl, rfl, rfl, rfl, rfl, rfl, rfl, rfl, rfl, rfl, rfl, rfl, rfl, rfl, rfl, rfl, rfl⟩

theorem constants_agree :
    Sb31Consts.headerSize = 60 ∧ Sb31Consts.initTotalLength = 60 ∧ Sb31Consts.descLen = 16 ∧ Sb31Consts.chunkLen = 256 ∧
    Sb31Consts.hdrMagic = [0x73, 0x62, 0x76, 0x33] ∧ Sb31Consts.hdrVersionMajor = 3 ∧ Sb31Consts.hdrVersionMinor = 1 ∧
    Sb31Consts.loadAlign = 16 ∧ Sb31Consts.keyBlobAlign = 16 ∧ Sb31Consts.hashLockTail = 64 ∧ Sb31Consts.fuseWordSize = 4 ∧
    Sb31Consts.sectionUid = 1 ∧ Sb31Consts.sectionType = 1 ∧ Sb31Consts.imageTypeNxp = 7 ∧ Sb31Consts.imageTypeOem = 6 ∧
    Sb31Consts.keyLenOfHash = [(32, 128), (48, 256)] ∧ Sb31Consts.hashOfSigLen = [(64, 32), (96, 48)] ∧
    Sb31Consts.kdfRights = [0, 1, 2, 3] ∧ Sb31Consts.kdfKeyLens = [128, 256] ∧
    Sb31Consts.kdfIterationsFor = [(128, [1]), (256, [1, 2])] ∧ Sb31Consts.kdfModeKdk = 1 ∧ Sb31Consts.kdfModeBlk = 2 := by decide

/-- configuration glue: every YAML command name of `CFG_NAME_TO_CLASS` leads (through the class it names and the tag
    that class passes) to the tag of the command it spells, and every class reads exactly the documented keys -/
theorem config_names_agree :
    Sb31Consts.cfgNameToTag = [("call", 4), ("checkFwVersion", 13), ("configureMemory", 11), ("copy", 8), ("erase", 1),
      ("execute", 3), ("fillMemory", 12), ("load", 2), ("loadCMAC", 7), ("loadHashLocking", 9), ("loadKeyBlob", 10),
      ("programFuses", 5), ("programIFR", 6), ("reset", 14)] ∧
    Sb31Consts.cfgKeys = [("CmdCall", ["address"]), ("CmdConfigureMemory", ["configAddress", "memoryId"]),
      ("CmdCopy", ["addressFrom", "addressTo", "memoryIdFrom", "memoryIdTo", "size"]),
      ("CmdErase", ["address", "memoryId", "size"]), ("CmdExecute", ["address"]),
      ("CmdFillMemory", ["address", "pattern", "size"]), ("CmdFwVersionCheck", ["counterId", "value"]),
      ("CmdLoad", ["address", "authentication", "file", "memoryId", "value", "values"]),
      ("CmdLoadCmac", ["address", "file", "memoryId"]), ("CmdLoadHashLocking", ["address", "file", "memoryId"]),
      ("CmdLoadKeyBlob", ["family", "file", "offset", "plainInput", "wrappingKeyId"]),
      ("CmdProgFuses", ["address", "values"]), ("CmdProgIfr", ["address", "file", "value", "values"]),
      ("CmdReset", [])] := ⟨rfl, rfl⟩

/-- the small integer functions translated from the source -/
theorem layout_functions (h old cert : Nat) (hh : h = 32 ∨ h = 48) :
    Sb31Consts.certBlockOffset h = 60 + h ∧ Sb31Consts.blockSize h = 260 + h ∧
    Sb31Consts.updTotalLength old h cert = 60 + h + cert + 2 * h :=
  ⟨(layout_eq h hh).1, (layout_eq h hh).2, updTotalLength_eq old h cert⟩

/-! ## 1. commands -/

/-- every command of each of the 14 kinds, with any in-range field values and any data, is read back by the
    loader exactly, and the loader consumes exactly the command's bytes -/
theorem cmd31_roundtrip (cmd : Cmd) (h : cmd.wf = true) (rest : Sb31.Bytes) :
    parseCmd (encCmd cmd ++ rest) = .ok (cmd, rest) := parseCmd_enc cmd h rest

/-- the constructors keep the round-trip domain closed: a command that can be constructed and whose fields fit
    their struct codes is in the domain of `cmd31_roundtrip` (partial fuse words are refused with an SPSDK error,
    so the PROGRAM_FUSES restriction is not a hypothesis on the caller) -/
theorem constructed_cmd_in_domain (cmd cmd' : Cmd) (h : newCmd cmd = .ok cmd') (hr : cmd'.inRange = true) :
    cmd' = cmd ∧ cmd'.wf = true := by
  cases cmd with
  | progFuses a d =>
    by_cases hg : d.length % 4 = 0
    · simp [newCmd, Sb31Consts.fuseDataGuard, hg] at h
      subst h
      exact ⟨rfl, by simp [Cmd.wf, hr, hg]⟩
    · simp [newCmd, Sb31Consts.fuseDataGuard, hg] at h
  | _ =>
    simp only [newCmd] at h
    injection h with h
    subst h
    exact ⟨rfl, by simp [Cmd.wf, hr]⟩

theorem partial_fuse_words_refused (a : Nat) (d : Sb31.Bytes) (h : d.length % 4 ≠ 0) :
    newCmd (.progFuses a d) = .error .spsdk := by
  simp [newCmd, Sb31Consts.fuseDataGuard, h]

/-- optional configuration keys default to memory id 0 for every command that has one (and `plainInput` to "bin") -/
theorem config_defaults_agree :
    Sb31Consts.cfgDefaults = [("CmdConfigureMemory", "memoryId", "0"), ("CmdCopy", "memoryIdFrom", "0"),
      ("CmdCopy", "memoryIdTo", "0"), ("CmdErase", "memoryId", "0"), ("CmdLoad", "memoryId", "0"),
      ("CmdLoadCmac", "memoryId", "0"), ("CmdLoadHashLocking", "memoryId", "0"),
      ("CmdLoadKeyBlob", "plainInput", "bin")] := rfl

/-- size of every exported command: the documented one, a multiple of 16 -/
theorem cmd31_size (cmd : Cmd) : (encCmd cmd).length = cmdSize cmd ∧ cmdSize cmd % 16 = 0 :=
  ⟨encCmd_length cmd, cmdSize_mod cmd⟩

theorem cmd31_stream_roundtrip (cmds : List Cmd) (h : ∀ cmd ∈ cmds, cmd.wf = true) :
    parseCmds (cmdBytes cmds).length (cmdBytes cmds) = .ok cmds :=
  parseCmds_enc cmds h _ (cmdBytes_length_ge cmds)

/-- section header + commands + zero padding to the block boundary parse back to the commands -/
theorem stream_roundtrip (cmds : List Cmd) (h : ∀ cmd ∈ cmds, cmd.wf = true) (hlen : (cmdBytes cmds).length < 4294967296) :
    parseStream (dataBlocks (cmdStream cmds)).flatten = .ok cmds := by
  rw [dataBlocks_flatten]; exact parseStream_enc cmds h hlen

/-! ## 2. key derivation -/

/-- what `_derive_key` computes is the documented CMAC counter-mode KDF, for both key sizes, all access rights,
    every derivation constant (timestamp / block number) and every base key -/
theorem kdf_documented (c : CryptoOps) (key : Sb31.Bytes) (const rights : Nat) (blk : Bool) (keyBits : Nat)
    (hr : rights < 4) (hk : keyBits = 128 ∨ keyBits = 256) :
    deriveKey c key const rights (if blk then Sb31Consts.kdfModeBlk else Sb31Consts.kdfModeKdk) keyBits =
      kdf c key const rights blk keyBits := (kdf_eq c key const rights blk keyBits hr hk).symm

/-- the key of block `n` is KDF(KDK, n) with KDK = KDF(PCK, timestamp), both under the configured access rights -/
theorem block_keys (c : CryptoOps) (s : ObjState) (hg : Good c s) (he : s.cfg.encrypted = true) (n : Nat) :
    blockKey c s n =
      kdf c (kdf c s.cfg.pck s.cfg.timestamp s.cfg.rights false (keyBitsOf s.cfg.hashLen)) n s.cfg.rights true
        (keyBitsOf s.cfg.hashLen) := by
  rw [kdf_eq c _ _ _ false _ (hg.rights he) (keyBitsOf_cases _), kdf_eq c _ _ _ true _ (hg.rights he) (keyBitsOf_cases _)]
  simp only [blockKey, deriveVia, Sb31Consts.blkCall, Sb31Consts.kdfModeBlk, Sb31Consts.kdfModeKdk, hg.kdk he, hg.keyLen,
    Bool.false_eq_true, if_false, if_true]

/-- KEY SEPARATION: two data blocks of a container are encrypted under the same key only if they are the same
    block — otherwise two different KDF inputs with the same CMAC are exhibited -/
theorem block_keys_distinct {c : CryptoOps} (hc : CryptoLaws c) (s : ObjState) (hg : Good c s) (he : s.cfg.encrypted = true)
    (n m : Nat) (hn : n < 256 ^ 12) (hm : m < 256 ^ 12) (h : blockKey c s n = blockKey c s m) : n = m ∨ Break c := by
  rw [block_keys c s hg he, block_keys c s hg he] at h
  exact (kdf_sep hc _ n m _ _ true _ h).imp_left (kdfInput_inj_const n m _ true _ 1 hn hm)

/-- the key derivation key (hence every block key) depends on the access rights and on the timestamp: equal KDKs
    under different rights / timestamps exhibit a CMAC forgery -/
theorem kdk_depends_on_rights_and_timestamp {c : CryptoOps} (hc : CryptoLaws c) (pck : Sb31.Bytes) (keyBits : Nat) :
    (∀ ts r₁ r₂, r₁ < 4 → r₂ < 4 → kdf c pck ts r₁ false keyBits = kdf c pck ts r₂ false keyBits → r₁ = r₂ ∨ Break c) ∧
    (∀ t₁ t₂ r, t₁ < 256 ^ 12 → t₂ < 256 ^ 12 → kdf c pck t₁ r false keyBits = kdf c pck t₂ r false keyBits → t₁ = t₂ ∨ Break c) :=
  ⟨fun ts r₁ r₂ h₁ h₂ h => (kdf_sep hc pck ts ts r₁ r₂ false keyBits h).imp_left (kdfInput_inj_rights ts r₁ r₂ false keyBits 1 h₁ h₂),
   fun t₁ t₂ r h₁ h₂ h => (kdf_sep hc pck t₁ t₂ r r false keyBits h).imp_left (kdfInput_inj_const t₁ t₂ r false keyBits 1 h₁ h₂)⟩

/-- a freshly constructed object satisfies the invariants -/
theorem constructor_good (c : CryptoOps) (cfg : Cfg) (s : ObjState) (h : newObj c cfg = .ok s) :
    Good c s ∧ s.cfg = cfg ∧ s.cmds = [] := by
  unfold newObj at h
  cases hk : lookup Sb31Consts.keyLenOfHash cfg.hashLen with
  | none => simp [hk] at h
  | some keyLen =>
    simp only [hk] at h
    have hcases : (cfg.hashLen = 32 ∧ keyLen = 128) ∨ (cfg.hashLen = 48 ∧ keyLen = 256) := by
      simp only [lookup, Sb31Consts.keyLenOfHash, List.find?] at hk
      by_cases h1 : cfg.hashLen = 32
      · simp [h1] at hk; exact Or.inl ⟨h1, hk.symm⟩
      · by_cases h2 : cfg.hashLen = 48
        · simp [h2] at hk; exact Or.inr ⟨h2, hk.symm⟩
        · have e1 : ((32 : Nat) == cfg.hashLen) = false := by simp; omega
          have e2 : ((48 : Nat) == cfg.hashLen) = false := by simp; omega
          simp [e1, e2] at hk
    split at h
    · simp at h
    · rename_i hr
      injection h with h
      subst h
      refine ⟨⟨?_, ?_, ?_, ?_⟩, rfl, rfl⟩
      · rcases hcases with ⟨a, _⟩ | ⟨a, _⟩ <;> simp [a]
      · rcases hcases with ⟨a, b⟩ | ⟨a, b⟩ <;> simp [a, b, keyBitsOf]
      · intro he
        have he' : cfg.encrypted = true := he
        simp [he', Sb31Consts.kdfRights] at hr
        show cfg.rights < 4
        omega
      · intro he
        have he' : cfg.encrypted = true := he
        simp [he', deriveVia, Sb31Consts.kdkCall, Sb31Consts.kdfModeKdk]

/-! ## 3. structure of an exported file -/

variable {c : CryptoOps}

/-- header ‖ H(block₁) ‖ certificate block ‖ signature ‖ block₁ … blockₙ, where block_i carries its number,
    H(block_{i+1}) and 256 payload bytes, and the last block carries the all-zero hash -/
theorem chain (hc : CryptoLaws c) (s : ObjState) (hg : Good c s) (r : Rand) :
    ∃ (h1 sig : Sb31.Bytes) (blocks : List Sb31.Bytes),
      (exportSb c s r).2 = encHeader (hdrSpec s) ++ (h1 ++ (s.cfg.cert ++ (sig ++ blocks.flatten))) ∧
      sig = c.sign (sigAlgOf s.cfg.hashLen) s.cfg.sk (encHeader (hdrSpec s) ++ (h1 ++ s.cfg.cert)) r ∧
      blocks.length = (hdrSpec s).blockCount ∧
      Chained c (algOfCoord s.cfg.hashLen) s.cfg.hashLen 1 h1 blocks := by
  refine ⟨(chainOf c s).1, sigOf c s r, (chainOf c s).2, ?_, rfl, chainOf_length c s,
    buildChain_chained hc s hg.hl _ 1 (dataBlocks_mem _)⟩
  rw [exportSb_bytes c s r hg.hl, signedOf, List.append_assoc, List.append_assoc]

/-- header fields versus reality: the block count is ⌈stream / 256⌉ for a stream of 16 + Σ|cmd| bytes, block 0
    (header ‖ hash ‖ certificate block ‖ signature) is exactly `totalLength` bytes long and is followed by exactly
    `blockCount` blocks of `blockSize` bytes -/
theorem block_count_len (hc : CryptoLaws c) (s : ObjState) (hg : Good c s) (wf : StateWF c s) (r : Rand) :
    (hdrSpec s).blockCount = ((cmdStream s.cmds).length + 255) / 256 ∧
    (cmdStream s.cmds).length = 16 + (s.cmds.map cmdSize).sum ∧
    (signedOf c s ++ sigOf c s r).length = (hdrSpec s).totalLength ∧
    (exportSb c s r).2.take (hdrSpec s).totalLength = signedOf c s ++ sigOf c s r ∧
    (exportSb c s r).2.length = (hdrSpec s).totalLength + (hdrSpec s).blockCount * (hdrSpec s).blockSize := by
  have hH : (encHeader (hdrSpec s)).length = 60 := encHeader_length _ (adjustDesc_length _)
  have hlen : (signedOf c s ++ sigOf c s r).length = (hdrSpec s).totalLength := by
    simp only [signedOf, List.length_append, hH, chainOf_fst_length hc s hg, sigOf, wf.sigLen]
    simp only [hdrSpec]; omega
  refine ⟨by rw [cmdStream_length]; rfl, by rw [cmdStream_length]; rfl, hlen, ?_, export_length hc s hg wf r⟩
  rw [exportSb_bytes _ _ _ hg.hl, ← List.append_assoc]
  exact List.take_left' hlen

/-- the ranges the loader authenticates (signed range, signature, block 1 … block n) are consecutive and end at
    the end of the file … -/
theorem coverage_total (hc : CryptoLaws c) (s : ObjState) (hg : Good c s) (wf : StateWF c s) (r : Rand) :
    Tiles 0 (coverage (hdrSpec s) s.cfg.hashLen) (exportSb c s r).2.length := by
  rw [export_length hc s hg wf r]
  have h2 : 2 * s.cfg.hashLen ≤ (hdrSpec s).totalLength := by simp only [hdrSpec]; omega
  refine ⟨rfl, by simp, ?_⟩
  have e : 0 + ((0 : Nat), (hdrSpec s).totalLength - 2 * s.cfg.hashLen).2 +
      ((hdrSpec s).totalLength - 2 * s.cfg.hashLen, 2 * s.cfg.hashLen).2 = (hdrSpec s).totalLength := by
    simp only []; omega
  rw [e]
  exact tiles_blocks _ _ _

/-- … so every byte index of the file lies inside signature coverage or inside a hashed block -/
theorem coverage_every_byte (hc : CryptoLaws c) (s : ObjState) (hg : Good c s) (wf : StateWF c s) (r : Rand)
    (j : Nat) (hj : j < (exportSb c s r).2.length) :
    ∃ p ∈ coverage (hdrSpec s) s.cfg.hashLen, p.1 ≤ j ∧ j < p.1 + p.2 :=
  tiles_cover _ _ _ (coverage_total hc s hg wf r) j (Nat.zero_le _) hj

/-! ## 4. the loader accepts what is exported — once, and after any history -/

/-- encrypted and plain containers, PCK of any size, access rights 0..3, SHA-256 and SHA-384 containers: the
    loader accepts the export and returns exactly the header values and the commands of the object -/
theorem rom_accepts (hc : CryptoLaws c) (s : ObjState) (hg : Good c s) (wf : StateWF c s)
    (dev : Dev) (obs : List SigOb) (hd : DevOK c dev s obs) (r : Rand) :
    romLoad c dev (exportSb c s r).2 =
      .ok ⟨hdrSpec s, s.cmds, obs ++ [⟨s.cfg.hashLen, c.pubOf s.cfg.sk, signedOf c s, sigOf c s r⟩]⟩ := by
  rw [exportSb_bytes _ _ _ hg.hl, romLoad, parseBlock0_export hc s hg wf dev obs hd r, if_pos (chainOf_flatten_length hc s hg),
    ok_bind, walk_export hc s hg wf dev obs hd, ok_bind, parseStream_enc s.cmds wf.cmds wf.size]
  rfl

/-- what a history of `add_command` / `export` calls leaves behind: the configuration and the derived keys are
    untouched and the command list is the old one plus the added commands (in particular: nothing an export
    stores influences later behaviour) -/
theorem history_frame (c : CryptoOps) (s : ObjState) (ops : List Op) :
    (run c s ops).cfg = s.cfg ∧ (run c s ops).keyLen = s.keyLen ∧ (run c s ops).kdk = s.kdk ∧
    (run c s ops).cmds = s.cmds ++ addsOf ops := run_frame c ops s

/-- HISTORY: after ANY sequence of `add_command` and `export` calls on one object, the next export is accepted
    and decodes to the object's configuration and its current command list -/
theorem history (hc : CryptoLaws c) (s : ObjState) (hg : Good c s) (ops : List Op)
    (wf : StateWF c (run c s ops)) (dev : Dev) (obs : List SigOb) (hd : DevOK c dev (run c s ops) obs) (r : Rand) :
    ∃ ob, romLoad c dev (exportSb c (run c s ops) r).2 = .ok ⟨hdrSpec (run c s ops), s.cmds ++ addsOf ops, ob⟩ := by
  have h := rom_accepts hc _ (run_good s hg ops) wf dev obs hd r
  rw [(run_frame c ops s).2.2.2] at h
  exact ⟨_, h⟩

/-- the clause the property adds over golden tests: export the same object n+1 times — the last file is accepted
    and decodes to the same header values and commands as the first (induction over the history inside `run_frame`) -/
theorem history_exports (hc : CryptoLaws c) (s : ObjState) (hg : Good c s) (wf : StateWF c s)
    (dev : Dev) (obs : List SigOb) (hd : DevOK c dev s obs) (rs : List Rand) (r : Rand) :
    ∃ ob, romLoad c dev (exportSb c (run c s (rs.map Op.exp)) r).2 = .ok ⟨hdrSpec s, s.cmds, ob⟩ := by
  have hadds : addsOf (rs.map Op.exp) = [] := by induction rs with
    | nil => rfl
    | cons x xs ih => simpa [addsOf] using ih
  obtain ⟨h1, h2, h3, h4⟩ := run_frame c (rs.map Op.exp) s
  rw [hadds, List.append_nil] at h4
  have wf' : StateWF c (run c s (rs.map Op.exp)) :=
    ⟨by rw [h4]; exact wf.cmds, by rw [h4]; exact wf.size, by rw [h1]; exact wf.flags, by rw [h1]; exact wf.fwVersion,
     by rw [h1]; exact wf.timestamp, by rw [h1]; exact wf.cert, by rw [h1]; exact wf.sigLen⟩
  have hd' : DevOK c dev (run c s (rs.map Op.exp)) obs :=
    ⟨by rw [h1]; exact hd.pck, by rw [h1]; exact hd.rights, by rw [h1]; exact hd.encrypted, by rw [h1]; exact hd.cert⟩
  obtain ⟨ob, h⟩ := history hc s hg (rs.map Op.exp) wf' dev obs hd' r
  refine ⟨ob, ?_⟩
  rw [h, hadds, List.append_nil]
  have : hdrSpec (run c s (rs.map Op.exp)) = hdrSpec s := by simp only [hdrSpec, h1, h4]
  rw [this]

/-! ## 5. one signature authenticates the whole file (reductions to an explicit break, no idealised axiom) -/

/-- two byte strings that the hash-chain walk accepts from the same anchor (block count, first block number,
    expected hash of the first block — all inside the signed range) are equal, or a SHA collision is exhibited -/
theorem chain_binding (c : CryptoOps) (alg : HashAlg) (hl : Nat) (dec : Nat → Sb31.Bytes → Sb31.Bytes)
    (k i : Nat) (expected rest₁ rest₂ out₁ out₂ : Sb31.Bytes)
    (h₁ : walk c alg hl dec k i expected rest₁ = .ok out₁) (h₂ : walk c alg hl dec k i expected rest₂ = .ok out₂) :
    rest₁ = rest₂ ∨ Break c := walk_binding c alg hl dec k i expected rest₁ rest₂ out₁ out₂ h₁ h₂

/-- keep block 0 of an exported file and replace, reorder, truncate or extend what follows: if the loader still
    accepts, nothing was changed — or a hash collision is exhibited -/
theorem tampered_blocks_refused (hc : CryptoLaws c) (s : ObjState) (hg : Good c s) (wf : StateWF c s)
    (dev : Dev) (obs : List SigOb) (hd : DevOK c dev s obs) (r : Rand) (rest' : Sb31.Bytes) (res : RomOk)
    (h : romLoad c dev (signedOf c s ++ (sigOf c s r ++ rest')) = .ok res) :
    signedOf c s ++ (sigOf c s r ++ rest') = (exportSb c s r).2 ∨ Break c := by
  unfold romLoad at h
  simp only [bind_ok] at h
  obtain ⟨b0, hp, stream, hw, _⟩ := h
  rw [parseBlock0_export hc s hg wf dev obs hd r] at hp
  split at hp
  · cases hp
    exact (walk_binding c _ _ _ _ _ _ _ _ _ _ hw (walk_export hc s hg wf dev obs hd)).imp_left
      fun (e : rest' = _) => by rw [e, exportSb_bytes _ _ _ hg.hl]
  · cases hp

/-- the loader accepts a file only on the strength of ONE signature check whose message is exactly the prefix of
    the file that ends where the signature field begins (header ‖ hash of block 1 ‖ certificate block) -/
theorem accepted_manifest_signed (c : CryptoOps) (dev : Dev) (file : Sb31.Bytes) (res : RomOk)
    (h : romLoad c dev file = .ok res) :
    ∃ ob, res.obligations.getLast? = some ob ∧ ob.msg = file.take (res.hdr.totalLength - 2 * ob.coord) ∧
      ob.sig.length = 2 * ob.coord ∧ file = ob.msg ++ (ob.sig ++ file.drop res.hdr.totalLength) ∧
      c.verify (.ecdsa (algOfCoord ob.coord)) ob.pub ob.msg ob.sig = true := by
  obtain ⟨b0, hb0, hh, hobs⟩ := romLoad_inv c dev file res h
  obtain ⟨p, h1, cert, sig, ci, obs', e, lp, lh1, lsig, htot, _, _, hob, hver, _, _⟩ := parseBlock0_inv_cert c dev.rotkh file b0 hb0
  have hm : file.take (b0.hdr.totalLength - 2 * b0.hl) = p ++ (h1 ++ cert) := by
    conv => lhs; rw [e, ← List.append_assoc h1, ← List.append_assoc, ← htot, Nat.add_sub_cancel]
    exact List.take_left' (by simp only [List.length_append, lp, lh1, Nat.add_assoc])
  have hd : file.drop b0.hdr.totalLength = b0.rest := by
    conv => lhs; rw [e, ← List.append_assoc cert, ← List.append_assoc h1, ← List.append_assoc, ← htot]
    exact List.drop_left' (by simp only [List.length_append, lp, lh1, lsig, Nat.add_assoc])
  refine ⟨⟨b0.hl, ci.signPub, p ++ (h1 ++ cert), sig⟩, ?_, by rw [hh, hm], lsig, ?_, hver⟩
  · rw [hobs, hob, List.getLast?_concat]
  · rw [hh, hd]; exact e.trans (by simp only [List.append_assoc])

/-- ONE SIGNATURE AUTHENTICATES THE WHOLE FILE: any file the loader accepts on the strength of the genuine
    signature of an export (same signing key, same bytes in its signature field) IS that export — otherwise a
    signature forgery (another manifest verifying under the old signature) or a hash collision (another data
    block with the expected digest) is exhibited.  Completes `chain_binding` / `tampered_blocks_refused`. -/
theorem whole_file_authenticated (hc : CryptoLaws c) (s : ObjState) (hg : Good c s) (wf : StateWF c s)
    (dev : Dev) (obs : List SigOb) (hd : DevOK c dev s obs) (r : Rand) (file' : Sb31.Bytes) (res : RomOk)
    (h : romLoad c dev file' = .ok res) (ob : SigOb) (hlast : res.obligations.getLast? = some ob)
    (hkey : ob.pub = c.pubOf s.cfg.sk) (hsig : ob.sig = sigOf c s r) :
    file' = (exportSb c s r).2 ∨ Break c := by
  obtain ⟨b0, hb0, _, hobs⟩ := romLoad_inv c dev file' res h
  obtain ⟨p, h1, cert, sig, ci, obs', e, _, _, hlen, _, _, _, hob, hver, _, _⟩ := parseBlock0_inv_cert c dev.rotkh file' b0 hb0
  rw [hobs, hob, List.getLast?_concat] at hlast
  cases hlast
  dsimp only at hkey hsig
  subst hsig
  rw [hkey] at hver
  have hcoord : b0.hl = s.cfg.hashLen := by
    have := wf.sigLen (signedOf c s) r
    simp only [sigOf] at hlen
    omega
  by_cases hm : p ++ (h1 ++ cert) = signedOf c s
  · rw [← List.append_assoc h1, ← List.append_assoc, hm] at e
    rw [e] at h ⊢
    exact tampered_blocks_refused hc s hg wf dev obs hd r b0.rest res h
  · right
    refine Break.sigForgery (sigAlgOf s.cfg.hashLen) s.cfg.sk (signedOf c s) _ r (fun e => hm e.symm) ?_
    rw [hcoord] at hver
    exact hver

/-! ## 6. end to end with the certificate block of the C03 model (discharges `DevOK.cert`) -/

/-- the certificate block is no longer opaque: when it is the export of a well-formed C03 certificate block v2.1
    (`CertBlock.bytesV21 cb`, i.e. `CertBlockV21.export()` by C03's correspondence) whose signer (ISK if present,
    else the used root key) is the container's signing key, and the device fuses hold the hash of its root key
    record, the loader accepts the container — for every history -/
theorem rom_accepts_cert_model (hc : CryptoLaws c) (s : ObjState) (hg : Good c s) (ops : List Op)
    (wf : StateWF c (run c s ops)) (dev : Dev) (r : Rand)
    {pointOk : Sb31.Bytes → Bool} {ca : Bool} {used : Nat} {cv : Spec.Curve} {cb : CertBlock.CertBlockV21}
    (wfc : CertBlock.WFv21 c pointOk ca used cv cb) (rwf : CertBlock.RomWF c used cv cb)
    (hisk : ∀ i, cb.isk = some i → c.verify (.ecdsa cv.hashAlg) cb.rkr.rootPublicKey
      (CertBlock.rkrBytes cb.rkr ++ CertBlock.iskSignedPart i) i.signature = true)
    (hcert : s.cfg.cert = CertBlock.bytesV21 cb)
    (hsigner : CertBlock.signerOf cv cb = (c.pubOf s.cfg.sk, s.cfg.hashLen))
    (hpck : dev.pck = s.cfg.pck) (hrights : dev.rights = s.cfg.rights) (henc : dev.encrypted = s.cfg.encrypted)
    (hrot : dev.rotkh = CertBlock.rotkhOfRecord c cv cb.rkr) :
    CertBlock.exportV21Block cb = .ok s.cfg.cert ∧
    ∃ ob, romLoad c dev (exportSb c (run c s ops) r).2 = .ok ⟨hdrSpec (run c s ops), s.cmds ++ addsOf ops, ob⟩ := by
  refine ⟨by rw [hcert]; exact CertBlock.exportV21Block_ok wfc, ?_⟩
  have hcfg := (run_frame c ops s).1
  have hrc := CertBlock.sb31_romCert_accepts wfc rwf hisk
  rw [hsigner] at hrc
  exact history hc s hg ops wf dev _
    ⟨by rw [hcfg]; exact hpck, by rw [hcfg]; exact hrights, by rw [hcfg]; exact henc,
     by rw [hcfg, hcert, hrot]; exact hrc⟩ r

/-! ## 7. the loader is total with guaranteed progress (no input can make it loop) -/

/-- every command the decoder accepts consumes at least its 16-byte header (an unknown tag, a zero tag included, is refused with
    `cmdTag`; a declared data length beyond the remaining bytes with `truncated`) -/
theorem decoder_progress (b rest : Sb31.Bytes) (cmd : Cmd) (h : parseCmd b = .ok (cmd, rest)) : rest.length + 16 ≤ b.length :=
  parseCmd_progress b rest cmd h

/-- the fuel of the command-sequence decoder never decides: one unit per 16 remaining bytes is enough, and the loader gives one unit
    per byte (`parseCmds body.length body`), so the number of steps is bounded by the number of bytes of the section -/
theorem decoder_fuel_suffices (f k : Nat) (b : Sb31.Bytes) (hb : b.length ≤ 16 * f) : parseCmds (f + k) b = parseCmds f b :=
  parseCmds_fuel_suffices f k b hb

/-! ## 8. KDF call sites, key substitution, header round trip, `validate()`, `export(cert_block=…)`, every command class -/

/-- the arguments `KeyDerivator` passes at its two call sites, generated by EXECUTING `KeyDerivator.__init__` and `get_block_key` for
    every accepted access-rights value and key length: the configured access rights and key length reach BOTH derivations unchanged;
    the KDK is derived from (PCK, timestamp) in mode 1, a block key from (KDK, block number) in mode 2 -/
theorem kdf_call_sites_agree (pck kdk : Sb31.Bytes) (ts n keyLen rights : Nat) :
    Sb31Consts.kdkCall pck ts keyLen rights = (pck, ts, rights, 1, keyLen) ∧
    Sb31Consts.blkCall kdk n keyLen rights = (kdk, n, rights, 2, keyLen) := ⟨rfl, rfl⟩

/-- the derivation data the code builds IS the documented layout, for all four access-rights values, both key lengths, both modes and
    every derivation constant / counter; the access rights sit in byte 20 as `rights << 6` -/
theorem kdf_layout_documented (const rights : Nat) (blk : Bool) (keyBits iter : Nat) (hr : rights < 4)
    (hk : keyBits = 128 ∨ keyBits = 256) :
    Sb31Consts.kdfData const rights (if blk then Sb31Consts.kdfModeBlk else Sb31Consts.kdfModeKdk) keyBits iter =
      kdfInput const rights blk keyBits iter ∧
    (kdfInput const rights blk keyBits iter)[20]? = some (UInt8.ofNat (rights * 64)) ∧
    (kdfInput const rights blk keyBits iter).length = 32 := by
  refine ⟨(kdfInput_eq const rights blk keyBits iter hr hk).symm, ?_, ?_⟩
  · have h12 : (leEnc 12 const).length = 12 := leEnc_length 12 const
    simp [kdfInput, List.getElem?_append_right, h12, zeros]
  · simp [kdfInput, leEnc_length, beEnc_length, zeros]

/-- ACCESS RIGHTS REACH EVERY KEY: the KDK of a constructed encrypted object and the key of every block are the documented KDF under the
    object's `kdk_access_rights`, whichever of the four values it is (constructor and `get_block_key` through the generated call sites) -/
theorem access_rights_reach_every_key (c : CryptoOps) (cfg : Cfg) (s : ObjState) (h : newObj c cfg = .ok s)
    (he : cfg.encrypted = true) (n : Nat) :
    cfg.rights < 4 ∧
    s.kdk = kdf c cfg.pck cfg.timestamp cfg.rights false (keyBitsOf cfg.hashLen) ∧
    blockKey c s n = kdf c s.kdk n cfg.rights true (keyBitsOf cfg.hashLen) := by
  obtain ⟨hg, hcfg, _⟩ := constructor_good c cfg s h
  have he' : s.cfg.encrypted = true := by rw [hcfg]; exact he
  have hr := hg.rights he'
  refine ⟨by rw [← hcfg]; exact hr, ?_, ?_⟩
  · rw [hg.kdk he', hg.keyLen, kdf_eq c _ _ _ false _ (by rw [← hcfg]; exact hr) (keyBitsOf_cases _), hcfg]; rfl
  · rw [kdf_eq c _ _ _ true _ (by rw [← hcfg]; exact hr) (keyBitsOf_cases _), ← hcfg, ← hg.keyLen]; rfl

/-- what is left of `whole_file_authenticated` when the loader used ANOTHER signing key: the file carries a different certificate block,
    which the loader accepted against the SAME fused root-of-trust hash and which names that other key, and the genuine signature
    bytes verify under that other key -/
structure KeySubstitution (c : CryptoOps) (dev : Dev) (s : ObjState) (r : Rand) (file' : Sb31.Bytes) (ob : SigOb) : Prop where
  otherKey : ob.pub ≠ c.pubOf s.cfg.sk
  certified : ∃ (p h1 cert rest : Sb31.Bytes) (ci : CertInfo) (obs : List SigOb),
    file' = p ++ (h1 ++ (cert ++ rest)) ∧ p.length = 60 ∧ h1.length = ob.coord ∧
    romCert c dev.rotkh cert = .ok (ci, obs) ∧ ci.signPub = ob.pub ∧ cert ≠ s.cfg.cert
  verifies : c.verify (.ecdsa (algOfCoord ob.coord)) ob.pub ob.msg (sigOf c s r) = true

/-- ONE SIGNATURE AUTHENTICATES THE WHOLE FILE, without the 'same signing key' hypothesis: a file the loader accepts with the signature
    bytes of an export in its signature field IS that export, or a forgery / collision is exhibited, or it is a KEY SUBSTITUTION in the
    precise sense of `KeySubstitution` (another certificate block accepted against the same fuses) -/
theorem whole_file_authenticated_any_key (hc : CryptoLaws c) (s : ObjState) (hg : Good c s) (wf : StateWF c s)
    (dev : Dev) (obs : List SigOb) (hd : DevOK c dev s obs) (r : Rand) (file' : Sb31.Bytes) (res : RomOk)
    (h : romLoad c dev file' = .ok res) (ob : SigOb) (hlast : res.obligations.getLast? = some ob)
    (hsig : ob.sig = sigOf c s r) :
    file' = (exportSb c s r).2 ∨ Break c ∨ KeySubstitution c dev s r file' ob := by
  by_cases hkey : ob.pub = c.pubOf s.cfg.sk
  · rcases whole_file_authenticated hc s hg wf dev obs hd r file' res h ob hlast hkey hsig with e | b
    · exact Or.inl e
    · exact Or.inr (Or.inl b)
  · right; right
    obtain ⟨b0, hb0, _, hobs⟩ := romLoad_inv c dev file' res h
    obtain ⟨p, h1, cert, sig, ci, obs', e, lp, lh1, _, _, hrc, _, hob, hver, _, _⟩ := parseBlock0_inv_cert c dev.rotkh file' b0 hb0
    rw [hobs, hob, List.getLast?_concat] at hlast
    injection hlast with hlast
    subst hlast
    dsimp only at hkey hsig ⊢
    refine ⟨hkey, ⟨p, h1, cert, sig ++ b0.rest, ci, obs', e, lp, lh1, hrc, rfl, ?_⟩, by rw [← hsig]; exact hver⟩
    intro hce
    rw [hce, hd.cert] at hrc
    injection hrc with hrc
    injection hrc with hci _
    exact hkey (by rw [← hci])

/-- connection with C03: when both certificate blocks of a key substitution are well-formed exported `CertBlockV21`s of the C03 model, the
    substitute commits to the SAME root-of-trust hash as the genuine one (C03 `sb31_romCert_ok_rot`; by C03 `rot_binding_v21` that is the
    same root key table or a hash collision) — so the other signing key is a key certified under the same root keys (a re-issued ISK
    certificate or another root of the table), never a key from outside the root of trust -/
theorem key_substitution_same_root_of_trust (dev : Dev)
    {pointOk pointOk' : Sb31.Bytes → Bool} {ca ca' : Bool} {used used' : Nat} {cv cv' : Spec.Curve} {cb cb' : CertBlock.CertBlockV21}
    (wfc : CertBlock.WFv21 c pointOk ca used cv cb) (rwf : CertBlock.RomWF c used cv cb)
    (hisk : ∀ i, cb.isk = some i → c.verify (.ecdsa cv.hashAlg) cb.rkr.rootPublicKey
      (CertBlock.rkrBytes cb.rkr ++ CertBlock.iskSignedPart i) i.signature = true)
    (wfc' : CertBlock.WFv21 c pointOk' ca' used' cv' cb') (rwf' : CertBlock.RomWF c used' cv' cb')
    (hisk' : ∀ i, cb'.isk = some i → c.verify (.ecdsa cv'.hashAlg) cb'.rkr.rootPublicKey
      (CertBlock.rkrBytes cb'.rkr ++ CertBlock.iskSignedPart i) i.signature = true)
    (x x' : CertInfo × List SigOb)
    (hacc : romCert c dev.rotkh (CertBlock.bytesV21 cb) = .ok x) (hacc' : romCert c dev.rotkh (CertBlock.bytesV21 cb') = .ok x') :
    CertBlock.rotkhOfRecord c cv' cb'.rkr = CertBlock.rotkhOfRecord c cv cb.rkr := by
  rw [← CertBlock.sb31_romCert_ok_rot wfc rwf hisk dev.rotkh x hacc, ← CertBlock.sb31_romCert_ok_rot wfc' rwf' hisk' dev.rotkh x' hacc']

/-- HEADER ROUND TRIP for all values: every header whose fields fit their struct codes (flags, block count, block size, 64-bit timestamp,
    firmware version, total length, image type, certificate block offset, 16 description bytes) is read back exactly, with the rest -/
theorem header_roundtrip (h : Header) (wf : HeaderWF h) (rest : Sb31.Bytes) :
    parseHeader (encHeader h ++ rest) = .ok (h, rest) ∧ (encHeader h).length = 60 :=
  ⟨parseHeader_enc h wf rest, encHeader_length h wf.description⟩

/-- the header of EVERY export reads back as the object's configuration: flags, timestamp, firmware version, image type and the
    description padded / truncated to 16 bytes, block count and total length as computed from the commands and the certificate block -/
theorem exported_header_roundtrip (_hc : CryptoLaws c) (s : ObjState) (hg : Good c s) (wf : StateWF c s) (r : Rand) :
    ∃ rest, parseHeader (exportSb c s r).2 = .ok (hdrSpec s, rest) ∧
      (hdrSpec s).flags = s.cfg.flags ∧ (hdrSpec s).timestamp = s.cfg.timestamp ∧ (hdrSpec s).fwVersion = s.cfg.fwVersion ∧
      (hdrSpec s).imageType = (if s.cfg.isNxp then 7 else 6) ∧ (hdrSpec s).description = adjustDesc s.cfg.description := by
  rw [exportSb_bytes c s r hg.hl, signedOf, List.append_assoc]
  exact ⟨_, parseHeader_enc _ (hdrSpec_wf s hg wf) _, rfl, rfl, rfl, rfl, rfl⟩

/-- `_adjust_description`: always 16 bytes; shorter descriptions are zero padded, longer ones cut after 16 bytes -/
theorem description_adjusted (d : Sb31.Bytes) :
    (adjustDesc d).length = 16 ∧ (d.length ≤ 16 → adjustDesc d = d ++ zeros (16 - d.length)) ∧
    (16 ≤ d.length → adjustDesc d = d.take 16) := by
  refine ⟨adjustDesc_length d, fun h => ?_, fun h => ?_⟩
  · simp [adjustDesc, Sb31Consts.descLen, List.take_of_length_le h]
  · have : (d.take 16).length = 16 := by simp; omega
    simp [adjustDesc, Sb31Consts.descLen, this, zeros]

/-- the header layout and the description adjustment EXECUTED from the source by the generator (marker values in every field; the
    descriptions "", "A", "AB", … up to 20 characters) are what the model computes -/
theorem header_layout_executed :
    encHeader ⟨0xA1A2A3A4, 0xB1B2B3B4, Sb31Consts.blockSize 32, 0xC1C2C3C4C5C6C7C8, 0xD1D2D3D4, 0xE1E2E3E4, 6,
      Sb31Consts.certBlockOffset 32, (List.range 16).map (fun i => UInt8.ofNat (0x30 + i))⟩ = Sb31Consts.hdrSample ∧
    Sb31Consts.descTable.length = 21 ∧
    ∀ p ∈ Sb31Consts.descTable, adjustDesc ((List.range p.1).map (fun i => UInt8.ofNat (0x41 + i))) = p.2 :=
  ⟨rfl, rfl, by decide⟩

/-- `validate()` lets `export()` proceed only when the signature provider holds the key the certificate block names -/
theorem export_validates_signer (c : CryptoOps) (certSigner : Sb31.Bytes) (s : ObjState) (ov : Option Sb31.Bytes) (r : Rand) :
    (c.pubOf s.cfg.sk ≠ certSigner → exportFull c certSigner s ov r = .error .spsdk) ∧
    (∀ out, exportFull c certSigner s ov r = .ok out → c.pubOf s.cfg.sk = certSigner ∧ out = exportOv c s ov r) := by
  constructor
  · intro hne; simp [exportFull, validateSb, hne]
  · intro out h
    unfold exportFull validateSb at h
    split at h
    · cases h
    · rename_i hv
      split at hv
      · rename_i hk
        split at h
        · injection h with h; exact ⟨hk.1, h.symm⟩
        · cases h
      · cases hv

/-- … and on every constructed object the header part of `validate()` never fires (block size 292/308, image type 6/7, total length
    ≥ the header size after any history, description of 16 bytes) -/
theorem validate_header_passes (c : CryptoOps) (cfg : Cfg) (s : ObjState) (h : newObj c cfg = .ok s) (ops : List Op) :
    validateHdr (run c s ops) = true := by
  obtain ⟨hg, _, _⟩ := constructor_good c cfg s h
  have hg' := run_good s hg ops
  have key : ∀ (ops : List Op) (t : ObjState), 60 ≤ t.totalLength → 60 ≤ (run c t ops).totalLength := by
    intro ops
    induction ops with
    | nil => intro t ht; exact ht
    | cons op ops ih =>
      intro t ht
      show 60 ≤ (run c (step c t op) ops).totalLength
      apply ih
      cases op with
      | add cmd => exact ht
      | exp r => simp only [step, exportSb, Sb31Consts.updTotalLength]; omega
  have h0 : 60 ≤ s.totalLength := by
    unfold newObj at h
    split at h
    · cases h
    · split at h
      · cases h
      · injection h with h; subst h; simp [Sb31Consts.initTotalLength]
  have htl := key ops s h0
  have hadj := adjustDesc_length (run c s ops).cfg.description
  rcases hg'.hl with h32 | h48
  · cases hn : (run c s ops).cfg.isNxp <;>
      simp [validateHdr, h32, hn, Sb31Consts.blockSize, Sb31Consts.imageTypeNxp, Sb31Consts.imageTypeOem, Sb31Consts.headerSize, htl, hadj]
  · cases hn : (run c s ops).cfg.isNxp <;>
      simp [validateHdr, h48, hn, Sb31Consts.blockSize, Sb31Consts.imageTypeNxp, Sb31Consts.imageTypeOem, Sb31Consts.headerSize, htl, hadj]

/-- `export(cert_block=…)`: `None` / `b""` is the plain export; an override of the SAME length is exactly the export of the object that
    owns that certificate block — so, when the loader accepts the override block for the signing key, the file is accepted and decodes
    to the object's commands (an override of another length leaves `image_total_length` computed from the object's own block) -/
theorem export_override (hc : CryptoLaws c) (s : ObjState) (hg : Good c s) (ov : Sb31.Bytes) (r : Rand) (hne : ov ≠ [])
    (hlen : ov.length = s.cfg.cert.length) (wf : StateWF c (withCert s ov))
    (dev : Dev) (obs : List SigOb) (hd : DevOK c dev (withCert s ov) obs) :
    exportOv c s none r = exportSb c s r ∧ exportOv c s (some []) r = exportSb c s r ∧
    ∃ ob, romLoad c dev (exportOv c s (some ov) r).2 = .ok ⟨hdrSpec (withCert s ov), s.cmds, ob⟩ := by
  refine ⟨rfl, rfl, ?_⟩
  rw [exportOv_same_length c s ov r hne hlen]
  exact ⟨_, rom_accepts hc (withCert s ov) (good_withCert hg ov) wf dev obs hd r⟩

/- FULL-STRENGTH clause (false on the current tree, finding C05-override-length, proposed_fixes/C05-4.diff):
     theorem export_override_any_length … (wf : StateWF c (withCert s ov)) (hd : DevOK c dev (withCert s ov) obs) :
       ∃ ob, romLoad c dev (exportOv c s (some ov) r).2 = .ok ⟨hdrSpec (withCert s ov), s.cmds, ob⟩
   without `hlen`.  What holds instead is `export_override` (same length) and the refusal below. -/

/-- CURRENT BEHAVIOUR of `export(cert_block=ov)` when the override has ANOTHER length than the object's own certificate block:
    `image_total_length` still counts the object's own block, the header does not describe block 0, and NO device accepts the file -/
theorem export_override_other_length_refused (hc : CryptoLaws c) (s : ObjState) (hg : Good c s) (wf : StateWF c s)
    (ov : Sb31.Bytes) (r : Rand) (hne : ov ≠ []) (hlen : ov.length ≠ s.cfg.cert.length) (dev : Dev) (res : RomOk) :
    romLoad c dev (exportOv c s (some ov) r).2 ≠ .ok res := by
  intro h
  obtain ⟨b0, hb0, _, _⟩ := romLoad_inv c dev _ res h
  obtain ⟨p, h1, cert, sig, ci, obs', e, lp, lh1, lsig, htot, _, _, _, _, hrest, ⟨b, hph⟩⟩ := parseBlock0_inv_cert c dev.rotkh _ b0 hb0
  have hbytes := exportOv_bytes c s ov r hne hg.hl
  have hhdr : b0.hdr = hdrSpec s := by
    rw [hbytes, parseHeader_enc _ (hdrSpec_wf s hg wf)] at hph
    exact (congrArg Prod.fst (Except.ok.inj hph)).symm
  have hH : (encHeader (hdrSpec s)).length = 60 := encHeader_length _ (adjustDesc_length _)
  have hl := congrArg List.length e
  rw [hbytes] at hl
  simp only [List.length_append, lp, lh1, lsig, hrest, hhdr, hH, chainOf_fst_length hc s hg, wf.sigLen,
    chainOf_flatten_length hc s hg] at hl
  rw [hhdr] at htot
  simp only [hdrSpec] at htot hl
  omega

/-- the tag word does not depend on the field values: every command exports the tag of its class -/
theorem command_tag_of_class (cmd : Cmd) : (cmd.className, tagWord (encCmd cmd)) ∈ Sb31Consts.classTags := by
  rw [← List.append_nil (encCmd cmd)]
  cases cmd with
  | loadKeyBlob o d k =>
    rw [encKeyBlob_eq]
    simp only [List.append_assoc]
    rw [tagWord, ← List.append_assoc (u16 k), ← List.append_assoc (u16 o), ← List.append_assoc, List.drop_left' (by simp),
      List.take_left' (u32_length _), u32, leDec_leEnc 4 _ (by decide), Cmd.className]
    exact mem_of_find_snd rfl
  | _ =>
    simp only [Cmd.className, encCmd, loadLike_some, loadLike_none, List.append_assoc, tagWord_baseHdr, Sb31Consts.tagErase,
      Sb31Consts.tagLoad, Sb31Consts.tagExecute, Sb31Consts.tagCall, Sb31Consts.tagProgFuses, Sb31Consts.tagProgIfr,
      Sb31Consts.tagLoadCmac, Sb31Consts.tagCopy, Sb31Consts.tagLoadHashLocking, Sb31Consts.tagConfigureMemory,
      Sb31Consts.tagFillMemory, Sb31Consts.tagFwVersionCheck, Sb31Consts.tagReset, Nat.reduceLT]
    exact mem_of_find_snd rfl

/-- EVERY COMMAND CLASS IS COVERED, checked mechanically: the concrete command classes of commands.py (generated: descendants of
    `BaseCmd` without subclasses) are exactly the 14 classes with a generated tag, each is the class of one constructor of `Cmd`, and
    that constructor exports the tag the class passes — `cmd31_roundtrip` is stated for every `Cmd`, hence for every class -/
theorem every_command_class_covered :
    Sb31Consts.cmdLeafClasses = Sb31Consts.classTags.map (·.1) ∧
    cmdKinds.map Cmd.className = ["CmdErase", "CmdLoad", "CmdExecute", "CmdCall", "CmdProgFuses", "CmdProgIfr", "CmdLoadCmac", "CmdCopy",
      "CmdLoadHashLocking", "CmdLoadKeyBlob", "CmdConfigureMemory", "CmdFillMemory", "CmdFwVersionCheck", "CmdReset"] ∧
    (∀ cls ∈ Sb31Consts.cmdLeafClasses, ∃ cmd ∈ cmdKinds, cmd.className = cls) ∧
    (∀ cmd ∈ cmdKinds, (cmd.className, tagWord (encCmd cmd)) ∈ Sb31Consts.classTags ∧ cmd.wf = true) :=
  -- every command has the command of its kind in `cmdKinds` (at the index of its constructor), and the executed samples
  -- carry the leaf classes in order: no class name is compared
  have hk : ∀ c : Cmd, ∃ k ∈ cmdKinds, k.className = c.className := fun c => by
    have : ∃ k, cmdKinds[c.ctorIdx]? = some k ∧ k.className = c.className := by cases c <;> exact ⟨_, rfl, rfl⟩
    obtain ⟨k, hk, e⟩ := this
    exact ⟨k, List.mem_of_getElem? hk, e⟩
  have hs : sampleCmds.map Cmd.className = Sb31Consts.cmdLeafClasses := rfl
  ⟨rfl, rfl, fun cls h => by rw [← hs] at h; obtain ⟨sc, _, rfl⟩ := List.mem_map.mp h; exact hk sc,
   fun cmd h => ⟨command_tag_of_class cmd, (by decide : ∀ cmd ∈ cmdKinds, cmd.wf = true) cmd h⟩⟩

/-- constructor + `export()` of EVERY command class, executed from the source by the generator on marker arguments (every field a
    distinct byte pattern, data that needs padding), is byte for byte what the model's encoder gives for the same arguments -/
theorem command_exports_executed :
    Sb31Consts.cmdSamples = sampleCmds.map (fun cmd => (cmd.className, encCmd cmd)) ∧
    sampleCmds.map Cmd.className = Sb31Consts.cmdLeafClasses ∧ sampleCmds.all Cmd.wf = true := ⟨rfl, rfl, rfl⟩

/-- … hence the loader reads every executed export back as the constructor's arguments -/
theorem executed_exports_parse_back :
    ∀ p ∈ Sb31Consts.cmdSamples, ∃ cmd ∈ sampleCmds, cmd.className = p.1 ∧ parseCmd p.2 = .ok (cmd, []) := by
  rw [command_exports_executed.1]
  intro p hp
  simp only [List.mem_map] at hp
  obtain ⟨cmd, hm, rfl⟩ := hp
  refine ⟨cmd, hm, rfl, ?_⟩
  have hwf : cmd.wf = true := (List.all_eq_true.mp command_exports_executed.2.2) cmd hm
  simpa using cmd31_roundtrip cmd hwf []

/-! ## non-vacuity: the hypotheses are satisfiable by a concrete, non-trivial container -/

def norm16 (b : Sb31.Bytes) : Sb31.Bytes := (b ++ zeros 16).take 16

/-- a toy instance of the primitives (identity "cipher" on 16-byte blocks, constant hash, constant signatures);
    it satisfies `CryptoLaws`, which is all the theorems use -/
def toyOps : CryptoOps where
  hash := fun a _ => zeros a.size
  encBlk := fun _ b => norm16 b
  decBlk := fun _ b => norm16 b
  sm4Enc := fun _ b => b
  sm4Dec := fun _ b => b
  sign := fun a _ _ _ => match a with | .ecdsa h => zeros (2 * h.size) | _ => []
  verify := fun _ _ _ _ => true
  pubOf := fun sk => sk

theorem norm16_length (b : Sb31.Bytes) : (norm16 b).length = 16 := by simp [norm16, zeros]
theorem norm16_id (b : Sb31.Bytes) (h : b.length = 16) : norm16 b = b := by
  simp [norm16, List.take_append_of_le_length (Nat.le_of_eq h.symm), List.take_of_length_le (Nat.le_of_eq h)]

theorem toyLaws : CryptoLaws toyOps where
  dec_enc := fun _ b h => by simp [toyOps, norm16_id b h]
  enc_dec := fun _ b h => by simp [toyOps, norm16_id b h]
  enc_len := fun _ b => norm16_length b
  dec_len := fun _ b => norm16_length b
  hash_len := fun a _ => by simp [toyOps, zeros]
  verify_sign := fun _ _ _ _ => rfl

/-- a root public key (64 bytes), a CA certificate block over it, and a container with 5 commands of 5 kinds -/
def exRootPub : Sb31.Bytes := List.replicate 64 7
def exCert : Sb31.Bytes := [0x63, 0x68, 0x64, 0x72, 1, 0, 2, 0, 80, 0, 0, 0, 0x11, 0, 0, 0x80] ++ exRootPub
def exCfg : Cfg :=
  { hashLen := 32, fwVersion := 3, flags := 0, timestamp := 0x1234, description := [0x61, 0x62], isNxp := false,
    encrypted := true, pck := List.replicate 32 1, rights := 3, cert := exCert, sk := exRootPub }
def exCmds : List Cmd :=
  [.erase 0 4096 0, .load 0x100 [1, 2, 3, 4, 5] 0, .progFuses 8 [1, 0, 0, 0], .loadKeyBlob 4 [9, 9, 9] 16, .reset]
def exDev : Dev := ⟨List.replicate 32 1, 3, true, zeros 32⟩

example : exCmds.all Cmd.wf = true := by decide

/-- the object after some earlier exports: the mutable members hold stale values -/
def exState : ObjState :=
  { cfg := exCfg, cmds := exCmds, keyLen := 128,
    kdk := deriveKey toyOps exCfg.pck exCfg.timestamp exCfg.rights Sb31Consts.kdfModeKdk 128,
    blockCount := 7, totalLength := 12345, finalHash := [1, 2, 3] }

theorem exGood : Good toyOps exState :=
  ⟨Or.inl rfl, rfl, fun _ => by decide, fun _ => rfl⟩

theorem exWF : StateWF toyOps exState :=
  ⟨by decide, by rw [cmdBytes_length]; decide, by decide, by decide, by decide, by decide, fun _ _ => by simp [toyOps, sigAlgOf, exState, exCfg, hashAlgOf, HashAlg.size, zeros]⟩

theorem exDevOK : DevOK toyOps exDev exState [] :=
  ⟨rfl, rfl, rfl, by decide⟩

/-- three exports in a row of the example object: the third file is accepted and decodes to the 5 commands -/
example : ∃ ob, romLoad toyOps exDev (exportSb toyOps (run toyOps exState [.exp [], .exp [1]]) [2]).2 =
    .ok ⟨hdrSpec exState, exCmds, ob⟩ :=
  history_exports toyLaws exState exGood exWF exDev [] exDevOK [[], [1]] [2]

example : (hdrSpec exState).blockCount = 1 ∧ (hdrSpec exState).totalLength = 236 := by decide

/-- every one of the 14 kinds is in the domain of `cmd31_roundtrip` with non-trivial field values -/
example : [Cmd.erase 0 4096 1, .load 0x100 [1, 2, 3] 2, .execute 0xFFFFFFFF, .call 8, .progFuses 16 [1, 2, 3, 4],
    .progIfr 32 [5], .loadCmac 64 [6, 7] 0, .copy 1 2 3 4 5, .loadHashLocking 128 [8] 0, .loadKeyBlob 0xFFFF [9] 0xFFFF,
    .configureMemory 0x2000 9, .fillMemory 0 64 0xA5A5A5A5, .fwVersionCheck 7 2, .reset].all Cmd.wf = true := by decide

example : parseCmd (encCmd (.loadKeyBlob 0xFFFF [9] 0xFFFF) ++ [0xAA]) = .ok (.loadKeyBlob 0xFFFF [9] 0xFFFF, [0xAA]) :=
  cmd31_roundtrip _ (by decide) _

/-! ### non-vacuity of the theorems of section 8 -/

example : Sb31Consts.kdfData 0x1234 2 Sb31Consts.kdfModeBlk 256 2 = kdfInput 0x1234 2 true 256 2 :=
  (kdf_layout_documented 0x1234 2 true 256 2 (by decide) (Or.inr rfl)).1

/-- all four access-rights values give four different context bytes (0x00, 0x40, 0x80, 0xC0) -/
example : [0, 1, 2, 3].map (fun r => (Sb31Consts.kdfData 7 r 1 128 1)[20]?) = [some 0x00, some 0x40, some 0x80, some 0xC0] := by decide

/-- an encrypted object with access rights 1 (not the default 3) is constructed, and its keys follow the documented KDF -/
example : ∃ s, newObj toyOps { exCfg with rights := 1 } = .ok s ∧
    blockKey toyOps s 5 = kdf toyOps s.kdk 5 1 true 128 := by
  refine ⟨_, rfl, ?_⟩
  exact (access_rights_reach_every_key toyOps { exCfg with rights := 1 } _ rfl rfl 5).2.2

/-- `whole_file_authenticated_any_key` applies to the export itself -/
example : (exportSb toyOps exState [2]).2 = (exportSb toyOps exState [2]).2 ∨ Break toyOps ∨
    KeySubstitution toyOps exDev exState [2] (exportSb toyOps exState [2]).2
      ⟨exState.cfg.hashLen, toyOps.pubOf exState.cfg.sk, signedOf toyOps exState, sigOf toyOps exState [2]⟩ :=
  whole_file_authenticated_any_key toyLaws exState exGood exWF exDev [] exDevOK [2] _ _
    (rom_accepts toyLaws exState exGood exWF exDev [] exDevOK [2]) _ (by simp) rfl

/-- the hypotheses of `key_substitution_same_root_of_trust` are those of `rom_accepts_cert_model`, twice (C03 exhibits a well-formed block) -/
example (dev : Dev) {pointOk : Sb31.Bytes → Bool} {ca : Bool} {used : Nat} {cv : Spec.Curve} {cb : CertBlock.CertBlockV21}
    (wfc : CertBlock.WFv21 c pointOk ca used cv cb) (rwf : CertBlock.RomWF c used cv cb)
    (hisk : ∀ i, cb.isk = some i → c.verify (.ecdsa cv.hashAlg) cb.rkr.rootPublicKey
      (CertBlock.rkrBytes cb.rkr ++ CertBlock.iskSignedPart i) i.signature = true)
    (x : CertInfo × List SigOb) (hacc : romCert c dev.rotkh (CertBlock.bytesV21 cb) = .ok x) :
    CertBlock.rotkhOfRecord c cv cb.rkr = CertBlock.rotkhOfRecord c cv cb.rkr :=
  key_substitution_same_root_of_trust dev wfc rwf hisk wfc rwf hisk x x hacc hacc

example : HeaderWF (hdrSpec exState) := hdrSpec_wf exState exGood exWF

example : ∃ rest, parseHeader (exportSb toyOps exState [2]).2 = .ok (hdrSpec exState, rest) :=
  (exported_header_roundtrip toyLaws exState exGood exWF [2]).imp fun _ h => h.1

/-- a signature provider holding another key is refused; the right one exports -/
example : exportFull toyOps [1, 2, 3] exState none [2] = .error .spsdk ∧
    exportFull toyOps exRootPub exState none [2] = .ok (exportSb toyOps exState [2]) := by
  refine ⟨(export_validates_signer toyOps [1, 2, 3] exState none [2]).1 (by decide), ?_⟩
  have hv : validateSb toyOps exRootPub exState = .ok () := by decide
  have he : exportable exState = true := by rw [exportable, cmdBytes_length]; decide
  simp [exportFull, hv, he, exportOv_none]

/-- the override with the object's own certificate block bytes (non-empty, same length) -/
example : ∃ ob, romLoad toyOps exDev (exportOv toyOps exState (some exCert) [2]).2 = .ok ⟨hdrSpec exState, exCmds, ob⟩ :=
  (export_override toyLaws exState exGood exCert [2] (by decide) rfl exWF exDev [] exDevOK).2.2

/-- an override one byte longer than the object's own block: refused by every device -/
example (res : RomOk) : romLoad toyOps exDev (exportOv toyOps exState (some (exCert ++ [0])) [2]).2 ≠ .ok res :=
  export_override_other_length_refused toyLaws exState exGood exWF (exCert ++ [0]) [2] (by decide) (by decide) exDev res

/-- why the constructor must refuse partial fuse words: the encoder stores `len(data) // 4`, so five data bytes
    would not come back (the loader reads one word) -/
theorem fuses_domain_needed :
    parseCmd (encCmd (.progFuses 0 [1, 2, 3, 4, 5])) ≠ .ok (.progFuses 0 [1, 2, 3, 4, 5], []) := by decide

end SpsdkVerif.C05
