/-
C11 — registers and bit-fields behave as independent bit-vectors.

Model: Model/Registers.lean (hand-written; tied to spsdk/utils/registers.py by the op-sequence
correspondence of harness/props/C11.py).  Helper lemmas: Proofs/Registers.lean.
-/
import SpsdkVerif.Model.Registers
import SpsdkVerif.Proofs.Registers
import SpsdkVerif.Proofs.RegistersCfg
import SpsdkVerif.Proofs.RegistersGen
import SpsdkVerif.Generated.RegArith
import SpsdkVerif.Generated.RegProc
import SpsdkVerif.Model.RegistersP3
import SpsdkVerif.Proofs.RegistersP3

namespace SpsdkVerif.C11
open SpsdkVerif SpsdkVerif.Regs SpsdkVerif.Misc SpsdkVerif.Generated

/-! ## well-formedness of a layout (explicit, decidable on concrete layouts) -/

def FieldsDisjoint (f g : Field) : Prop :=
  f.offset + f.width ≤ g.offset ∨ g.offset + g.width ≤ f.offset

instance (f g : Field) : Decidable (FieldsDisjoint f g) := by unfold FieldsDisjoint; infer_instance

/-- a plain (non-grouped, as loaded from a specification: never reversed) register -/
structure RegWF (r : Reg) : Prop where
  plain : r.subW = 0
  norev : r.reverse = false
  bound : r.value < 2 ^ r.width
  fieldsIn : ∀ f ∈ r.fields, f.offset + f.width ≤ r.width
  disjoint : r.fields.Pairwise FieldsDisjoint

def FileWF (rf : RegFile) : Prop := ∀ r ∈ rf, RegWF r

/-- the value a field holds after `v` was written through a SHIFT_RIGHT processor (identity for shift 0) -/
def stored (f : Field) (v : Nat) : Nat := (v >>> f.shift) <<< f.shift

/-! ## single bit-field writes -/

/-- bit-level meaning of a field write: exactly the field's bits change, to the bits of the value -/
theorem fieldSet_bits (r : Reg) (f : Field) (v : Nat) (raw : Bool) (h : RegWF r)
    (hin : f.offset + f.width ≤ r.width) (hv : v >>> f.shift < 2 ^ f.width) :
    ∃ r', fieldSet r f v raw false = .ok r' ∧ r'.width = r.width ∧ r'.fields = r.fields ∧
      ∀ k, r'.value.testBit k =
        if f.offset ≤ k ∧ k < f.offset + f.width then (v >>> f.shift).testBit (k - f.offset)
        else r.value.testBit k := by
  refine ⟨_, fieldSet_plain_ok r f v raw h.plain h.norev h.bound hin hv, rfl, rfl, ?_⟩
  intro k
  exact testBit_insertBits _ _ _ _ _

/-- a field reads the value just written to it -/
theorem field_get_set (r : Reg) (f : Field) (v : Nat) (raw : Bool) (h : RegWF r)
    (hin : f.offset + f.width ≤ r.width) (hv : v >>> f.shift < 2 ^ f.width) :
    ∃ r', fieldSet r f v raw false = .ok r' ∧ fieldGet r' f = .ok (stored f v) := by
  refine ⟨_, fieldSet_plain_ok r f v raw h.plain h.norev h.bound hin hv, ?_⟩
  rw [fieldGet_plain_upd r f _ h.plain h.norev]
  simp only [stored]
  rw [slice_insertBits_same _ _ _ _ hv]

/-- … and never disturbs a disjoint neighbour -/
theorem field_frame (r : Reg) (f g : Field) (v : Nat) (raw : Bool) (h : RegWF r)
    (hin : f.offset + f.width ≤ r.width) (hd : FieldsDisjoint f g) (r' : Reg)
    (hs : fieldSet r f v raw false = .ok r') :
    fieldGet r' g = fieldGet r g := by
  obtain ⟨_, _, rfl⟩ := fieldSet_plain_inv r r' f v raw h.plain h.norev hs
  rw [fieldGet_plain_upd r g _ h.plain h.norev, fieldGet_plain r g h.plain h.norev]
  rw [slice_insertBits_disjoint _ _ _ _ _ _ hd]

/-- a value that does not fit is rejected with an SPSDK error (no silent truncation), whatever the register -/
theorem field_reject (r : Reg) (f : Field) (v : Nat) (raw : Bool) (hv : 2 ^ f.width ≤ v >>> f.shift) :
    fieldSet r f v raw false = .error .spsdk := by
  exact fieldSet_reject r f v raw hv

/-- well-formedness is preserved by field writes -/
theorem fieldSet_wf (r : Reg) (f : Field) (v : Nat) (raw : Bool) (h : RegWF r)
    (hin : f.offset + f.width ≤ r.width) (r' : Reg) (hs : fieldSet r f v raw false = .ok r') : RegWF r' := by
  obtain ⟨_, hb, rfl⟩ := fieldSet_plain_inv r r' f v raw h.plain h.norev hs
  exact ⟨h.plain, h.norev, hb, h.fieldsIn, h.disjoint⟩

/-! ## whole-register writes, reversed byte order, grouped registers -/

theorem reg_reject (r : Reg) (v : Nat) (raw : Bool) (hv : 2 ^ r.width ≤ v) : r.set v raw = .error .spsdk := by
  exact set_reject r v raw hv

/-- byte reversal is an involution on values that fit -/
theorem brev_invol (w v : Nat) (h8 : w % 8 = 0) (hv : v < 2 ^ w) :
    ∃ x, brev w v = some x ∧ x < 2 ^ w ∧ brev w x = some v := by
  exact brev_invol' w v h8 hv

/-- a plain register (reversed byte order or not) reads back the value written, in the view it was written in -/
theorem reg_set_get (r : Reg) (v : Nat) (raw : Bool) (hp : r.subW = 0) (h8 : r.width % 8 = 0) (hv : v < 2 ^ r.width) :
    ∃ r', r.set v raw = .ok r' ∧ r'.get raw = .ok v := by
  have hg := isGroup_false r hp
  have hnv : ¬ (v ≥ 2 ^ r.width) := by omega
  obtain ⟨x, hx1, hx2, hx3⟩ := brev_invol' r.width v h8 hv
  by_cases hc : (!raw && r.reverse) = true
  · refine ⟨{ r with value := x }, ?_, ?_⟩
    · simp [Reg.set, hg, hnv, hc, hx1]
    · have hc' : (!raw && r.reverse) = true := hc
      simp [Reg.get, Reg.isGroup, hp, hc', hx3]
  · have hc' : (!raw && r.reverse) = false := by simpa using hc
    refine ⟨{ r with value := v }, ?_, ?_⟩
    · simp [Reg.set, hg, hnv, hc']
    · simp [Reg.get, Reg.isGroup, hp, hc']

/-- the processed and the raw view of a reversed register are byte reversals of each other -/
theorem reg_views_consistent (r : Reg) (hp : r.subW = 0) (hr : r.reverse = true) (h8 : r.width % 8 = 0)
    (hb : r.value < 2 ^ r.width) :
    ∃ x y, r.get true = .ok x ∧ r.get false = .ok y ∧ brev r.width x = some y := by
  obtain ⟨y, hy1, _, _⟩ := brev_invol' r.width r.value h8 hb
  refine ⟨r.value, y, ?_, ?_, hy1⟩
  · simp [Reg.get, isGroup_false r hp]
  · simp [Reg.get, isGroup_false r hp, hr, hy1]

/-- a grouped register of `n` sub-registers of `subW` bits -/
structure GroupWF (r : Reg) : Prop where
  sub : 0 < r.subW
  width : r.width = r.subW * r.subs.length
  bound : ∀ s ∈ r.subs, s < 2 ^ r.subW
  bytes : r.width % 8 = 0

/-- the group view is, by definition, the assembly of the sub-register views (normal or reversed order) -/
theorem group_consistent (r : Reg) (h : GroupWF r) : r.get true = .ok (assemble r) := by
  simp [Reg.get, isGroup_true r h.sub]

/-- writing the group distributes the value so that the group reads it back, and every sub-register holds its slice -/
theorem group_set_get (r : Reg) (v : Nat) (raw : Bool) (h : GroupWF r) (hv : v < 2 ^ r.width) :
    ∃ r', r.set v raw = .ok r' ∧ r'.get raw = .ok v ∧ GroupWF r' := by
  have wf' : ∀ x, GroupWF { r with subs := distribute r x } := fun x =>
    ⟨h.sub, by simp only [distribute_length]; exact h.width, distributeW_bound r _ x h.bound, h.bytes⟩
  have hg : r.isGroup = true := isGroup_true r h.sub
  cases hc : (!raw && r.reverse) with
  | true =>
    obtain ⟨x, hx1, hx2, hx3⟩ := brev_invol' r.width v h.bytes hv
    refine ⟨_, set_group r v x raw h.sub hv (by simp [hc, hx1]), ?_, wf' x⟩
    simp [Reg.get, Reg.isGroup, Nat.ne_of_gt h.sub, hc, assemble_distribute r x h.width h.sub hx2, hx3]
  | false =>
    refine ⟨_, set_group r v v raw h.sub hv (by simp [hc]), ?_, wf' v⟩
    simp [Reg.get, Reg.isGroup, Nat.ne_of_gt h.sub, hc, assemble_distribute r v h.width h.sub hv]

/-- non-reversed order: sub-register `i` holds bits `[i*subW, (i+1)*subW)` of the raw group value -/
theorem group_sub_slice (r : Reg) (v : Nat) (h : GroupWF r) (hn : r.revSubs = false) (hv : v < 2 ^ r.width)
    (i : Nat) (hi : i < r.subs.length) :
    ∃ r', r.set v true = .ok r' ∧ r'.subs[i]? = some ((v >>> (i * r.subW)) % 2 ^ r.subW) := by
  refine ⟨_, set_group r v v true h.sub hv rfl, ?_⟩
  have hn' : r.width / r.subW = r.subs.length := by rw [h.width, Nat.mul_div_cancel_left _ h.sub]
  simp [distribute_eq, distributeW_getElem? r _ v hi, hn', hi, subPosW, hn, mask]

/-! ## histories: any op sequence keeps the file well-formed, and a field keeps the last value
    written to it as long as no later op writes its bits -/

/-- run a history; a rejected op leaves the file unchanged (as the implementation does) -/
def run (rf : RegFile) (ops : List Op) : RegFile :=
  ops.foldl (fun s op => match step s op with | .ok s' => s' | .error _ => s) rf

/-- layout (everything but the values) -/
def layoutOf (rf : RegFile) : List (Nat × List Field) := rf.map (fun r => (r.width, r.fields))

theorem step_wf (rf rf' : RegFile) (op : Op) (h : FileWF rf) (hs : step rf op = .ok rf') :
    FileWF rf' ∧ layoutOf rf' = layoutOf rf := by
  have hf := step_forall2 rf rf' op hs
  refine forall2_preserve (P := RegWF) (key := fun r => (r.width, r.fields)) hf h ?_
  intro r r' hw hst
  obtain ⟨x, hx, rfl⟩ := regStep_plain r r' hst hw.plain hw.norev hw.bound
  exact ⟨⟨hw.plain, hw.norev, hx, hw.fieldsIn, hw.disjoint⟩, rfl⟩

theorem run_wf (rf : RegFile) (ops : List Op) (h : FileWF rf) :
    FileWF (run rf ops) ∧ layoutOf (run rf ops) = layoutOf rf :=
  foldl_stepOr_invariant (Inv := fun s => FileWF s ∧ layoutOf s = layoutOf rf) (Q := fun _ => True)
    (fun s s' op _ hi hs => let ⟨a, b⟩ := step_wf s s' op hi.1 hs; ⟨a, b.trans hi.2⟩) ops rf (fun _ _ => trivial) ⟨h, rfl⟩

/-- `op` cannot change the bits of field `j` of register `i` (given the layout `rf`) -/
def Untouched (rf : RegFile) (i j : Nat) : Op → Prop
  | .setReg i' _ _ => i' ≠ i
  | .setField i' j' _ _ => i' ≠ i ∨ (∃ r f g, rf[i]? = some r ∧ r.fields[j]? = some f ∧ r.fields[j']? = some g ∧ FieldsDisjoint g f)
  | .setEnum i' j' _ => i' ≠ i ∨ (∃ r f g, rf[i]? = some r ∧ r.fields[j]? = some f ∧ r.fields[j']? = some g ∧ FieldsDisjoint g f)
  | .resetReg i' => i' ≠ i
  | .resetAll => False
  | .parse _ _ => False

/-- **History theorem.** After *any* history `pre`, a successful write of `v` to field `(i,j)`, and any later
    ops none of which writes that field's bits, the field reads the value written. -/
theorem history_last_write (rf : RegFile) (pre post : List Op) (i j v : Nat) (raw : Bool)
    (r : Reg) (f : Field) (h : FileWF rf) (hr : rf[i]? = some r) (hf : r.fields[j]? = some f)
    (hv : v >>> f.shift < 2 ^ f.width) (hpost : ∀ op ∈ post, Untouched rf i j op) :
    ∃ r', (run rf (pre ++ [Op.setField i j v raw] ++ post))[i]? = some r' ∧ fieldGet r' f = .ok (stored f v) := by
  obtain ⟨hwf1, hl1⟩ := run_wf rf pre h
  obtain ⟨r1, hr1, hk1⟩ := getElem?_of_map_eq (key := fun r : Reg => (r.width, r.fields)) hl1 hr
  have hf1 : r1.fields = r.fields := (Prod.mk.inj hk1).2
  have wf1 : RegWF r1 := hwf1 r1 (List.mem_of_getElem? hr1)
  obtain ⟨r2, hs2, hg2⟩ := field_get_set r1 f v raw wf1 (wf1.fieldsIn f (hf1 ▸ List.mem_of_getElem? hf)) hv
  have hstep : step (run rf pre) (.setField i j v raw) = .ok ((run rf pre).set i r2) := by
    simp [step, updAt, hr1, hf1, hf, hs2]
  obtain ⟨hwf2, hl2⟩ := step_wf _ _ _ hwf1 hstep
  -- what every later operation preserves: well-formed, same layout, and the field still reads the value
  have frame : ∀ s s' op, Untouched rf i j op →
      (FileWF s ∧ layoutOf s = layoutOf rf ∧ ∃ r', s[i]? = some r' ∧ fieldGet r' f = .ok (stored f v)) →
      step s op = .ok s' →
      FileWF s' ∧ layoutOf s' = layoutOf rf ∧ ∃ r', s'[i]? = some r' ∧ fieldGet r' f = .ok (stored f v) := by
    rintro s s' op hu ⟨hwf, hl, rk, hrk, hgk⟩ hst
    obtain ⟨hwf', hl'⟩ := step_wf s s' op hwf hst
    refine ⟨hwf', hl'.trans hl, ?_⟩
    -- a write to a bit-field that `Untouched` allows: another register, or a disjoint bit-field of this one
    have field : ∀ i' j' v' raw', (i' ≠ i ∨ ∃ r f g, rf[i]? = some r ∧ r.fields[j]? = some f ∧ r.fields[j']? = some g ∧
        FieldsDisjoint g f) → step s (.setField i' j' v' raw') = .ok s' →
        ∃ r', s'[i]? = some r' ∧ fieldGet r' f = .ok (stored f v) := by
      intro i' j' v' raw' hu0 hst
      obtain ⟨ra, g, rb, hra, hgj, hfs, hrb, hne⟩ := step_setField_inv s s' i' j' v' raw' hst
      by_cases hii : i' = i
      · subst hii
        rcases hu0 with hne' | ⟨r0, f0, g0, h0, hf0, hg0, hd⟩
        · exact absurd rfl hne'
        · obtain ⟨rk', hrk', hkk⟩ := getElem?_of_map_eq (key := fun r : Reg => (r.width, r.fields)) hl hr
          cases hrk.symm.trans hrk'; cases hr.symm.trans h0; cases hf.symm.trans hf0; cases hrk.symm.trans hra
          have hfk : rk.fields = r.fields := (Prod.mk.inj hkk).2
          rw [hfk, hg0] at hgj; cases hgj
          have wfk := hwf rk (List.mem_of_getElem? hrk)
          exact ⟨rb, hrb, (field_frame rk g f v' raw' wfk (wfk.fieldsIn g (hfk ▸ List.mem_of_getElem? hg0)) hd rb hfs).trans hgk⟩
      · rw [hne i hii]; exact ⟨rk, hrk, hgk⟩
    cases op with
    | setReg i' v' raw' => rw [updAt_getElem?_ne s s' i' i _ hst hu]; exact ⟨rk, hrk, hgk⟩
    | resetReg i' => rw [updAt_getElem?_ne s s' i' i _ hst hu]; exact ⟨rk, hrk, hgk⟩
    | resetAll => exact hu.elim
    | parse b l => exact hu.elim
    | setField i' j' v' raw' => exact field i' j' v' raw' hu hst
    | setEnum i' j' e' => obtain ⟨ev, hst'⟩ := step_setEnum_eq hst; exact field i' j' ev false hu hst'
  rw [show run rf (pre ++ [Op.setField i j v raw] ++ post) = _ from foldl_stepOr_mid post hstep]
  exact (foldl_stepOr_invariant frame post _ hpost
    ⟨hwf2, hl2.trans hl1, r2, by simp [List.getElem?_set, getElem?_lt hr1], hg2⟩).2.2

/-- a later whole-register write determines every field: the field reads the corresponding bits of the value -/
theorem history_reg_write (rf : RegFile) (pre : List Op) (i j v : Nat)
    (r : Reg) (f : Field) (h : FileWF rf) (hr : rf[i]? = some r) (hf : r.fields[j]? = some f)
    (hv : v < 2 ^ r.width) :
    ∃ r', (run rf (pre ++ [Op.setReg i v true]))[i]? = some r' ∧
      fieldGet r' f = .ok (((v >>> f.offset) % 2 ^ f.width) <<< f.shift) := by
  obtain ⟨hwf1, hl1⟩ := run_wf rf pre h
  obtain ⟨r1, hr1, hk1⟩ := getElem?_of_map_eq (key := fun r : Reg => (r.width, r.fields)) hl1 hr
  have wf1 : RegWF r1 := hwf1 r1 (List.mem_of_getElem? hr1)
  have hstep : step (run rf pre) (.setReg i v true) = .ok ((run rf pre).set i { r1 with value := v }) := by
    simp [step, updAt, hr1, set_plain r1 v true wf1.plain wf1.norev ((Prod.mk.inj hk1).1 ▸ hv)]
  rw [show run rf (pre ++ [Op.setReg i v true]) = _ from foldl_stepOr_snoc hstep]
  refine ⟨{ r1 with value := v }, by simp [getElem?_lt hr1], ?_⟩
  rw [fieldGet_plain_upd r1 f v wf1.plain wf1.norev]
  simp [mask]

/-! ## export / parse -/

/-- exporting a well-formed file and parsing the bytes into any file of the same layout restores every value -/
theorem parse_export (rf rf' : RegFile) (little : Bool) (b : Bytes) (h : FileWF rf) (h' : FileWF rf')
    (h8 : ∀ r ∈ rf, r.width % 8 = 0)
    (hl : rf'.map (fun r => { r with value := 0 }) = rf.map (fun r => { r with value := 0 }))
    (he : exportRegs rf little = .ok b) :
    parseAll rf' 0 b little = .ok rf := by
  have := parseAll_export rf rf' little [] b []
    (fun r hr => ⟨(h r hr).plain, (h r hr).norev, (h r hr).bound⟩) hl he
  simpa using this

theorem export_length (rf : RegFile) (little : Bool) (b : Bytes) (h : FileWF rf)
    (he : exportRegs rf little = .ok b) :
    b.length = (rf.map (fun r => r.width / 8)).sum := by
  exact exportRegs_length rf little b he

/-! ## non-vacuity -/

def exReg : Reg :=
  { width := 32, value := 0xA5A50000,
    fields := [{ offset := 0, width := 8 }, { offset := 8, width := 4, shift := 4 }, { offset := 16, width := 16 }] }

example : RegWF exReg := by
  refine ⟨rfl, rfl, by decide, by decide, by decide⟩

example : (fieldSet exReg { offset := 8, width := 4, shift := 4 } 0xF0 false false).toOption.map (·.value) = some 0xA5A50F00 := by
  decide

example : fieldSet exReg { offset := 0, width := 8 } 256 false false = .error .spsdk := by decide

example : GroupWF { width := 64, subW := 32, subs := [1, 2] } := ⟨by decide, by decide, by decide, by decide⟩

example : (({ width := 64, subW := 32, subs := [0, 0], revSubs := true } : Reg).set 0x1111111122222222 true).toOption.map (·.subs)
    = some [0x11111111, 0x22222222] := by decide

/-! # Extension: alternative widths, writes by enum name, the configuration path

Model: the second half of Model/Registers.lean (`setAlt/getAlt`, `getConfig`, `loadConfig`), tied to
`Register.get_alt_width/set_value/get_value`, `RegsBitField.get_enum_value/set_enum_value`,
`_RegistersBase.get_config/_load_yml_config` by the `config_model` stream of harness/props/C11.py.
Helper lemmas: Proofs/RegistersCfg.lean. -/

/-! ## alternative widths -/

/-- a register without alternative widths behaves exactly as before (all theorems above stay valid for it) -/
theorem alt_widths_none (r : Reg) (v : Nat) (raw : Bool) :
    r.setAlt [] v raw = r.set v raw ∧ r.getAlt [] raw = r.get raw :=
  ⟨setAlt_nil r v raw, getAlt_nil r raw⟩

/-- alternative widths as the database uses them: byte multiples, multiples of the sub-register width, not wider than
    the group, and normal sub-register order -/
structure AltOK (alts : List Nat) (r : Reg) : Prop where
  mult : ∀ a ∈ alts, a % 8 = 0 ∧ 8 ≤ a ∧ a ≤ r.width ∧ a % r.subW = 0
  order : r.revSubs = false ∨ alts = []

/-
Full-strength statement (`reg_set_get` for alt-width groups), FALSE on the current code:

  theorem alt_width_set_get_full (r) (alts) (v) (raw) (h : GroupWF r) (ha : AltOK alts r) (hv : v < 2 ^ r.width) :
      ∃ r', r.setAlt alts v raw = .ok r' ∧ r'.getAlt alts raw = .ok v

It fails in two ways, both reproduced on the real code (known findings C11-alt-width-stale-sub-registers and
C11-alt-width-reversed-trailing-zero-bytes), see the two refuting examples below.  The theorem that holds needs
`hup` (the sub-registers beyond the alternative width are zero) and `hst` (a byte-reversed value does not end in enough
zero bytes to fit a smaller alternative width).
-/
theorem alt_width_set_get_partial (r : Reg) (alts : List Nat) (v : Nat) (raw : Bool) (h : GroupWF r)
    (ha : AltOK alts r) (hv : v < 2 ^ r.width)
    (hup : ∀ i, altWidth alts r.width v / r.subW ≤ i → r.subs.getD i 0 = 0)
    (hst : (!raw && r.reverse) = true →
      ∀ a ∈ alts, a < altWidth alts r.width v → v % 2 ^ (altWidth alts r.width v - a) ≠ 0) :
    ∃ r', r.setAlt alts v raw = .ok r' ∧ r'.getAlt alts raw = .ok v ∧ GroupWF r' := by
  rcases ha.order with hn | hnil
  · obtain ⟨l, h1, h2, g⟩ := setAlt_getAlt_group r alts v raw ⟨h.sub, h.width, h.bound, h.bytes⟩ hn ha.mult hv hup hst
    exact ⟨_, h1, h2, ⟨g.sub, g.width, g.bound, g.bytes⟩⟩
  · subst hnil
    obtain ⟨r', h1, h2, h3⟩ := group_set_get r v raw h hv
    exact ⟨r', by rw [setAlt_nil]; exact h1, by rw [getAlt_nil]; exact h2, h3⟩

/-- a value below `2^alt` (one alternative width, as in every database configuration) round-trips through a group with
    normal sub-register order, reversed byte order or not, processed or raw view, provided the sub-registers beyond the
    alternative width hold zero -/
theorem alt_width_set_get (r : Reg) (a v : Nat) (raw : Bool) (h : GroupWF r)
    (ha : a % 8 = 0 ∧ 8 ≤ a ∧ a ≤ r.width ∧ a % r.subW = 0) (hn : r.revSubs = false) (hv : v < 2 ^ a)
    (hup : ∀ i, a / r.subW ≤ i → r.subs.getD i 0 = 0) :
    ∃ r', r.setAlt [a] v raw = .ok r' ∧ r'.getAlt [a] raw = .ok v ∧ GroupWF r' := by
  have haw : altWidth [a] r.width v = a := by
    rcases altWidth_cases [a] r.width v with ⟨_, hno⟩ | ⟨hm, _, _⟩
    · exfalso
      apply hno a (by simp)
      rw [byteCnt_le_iff v _ (by omega), ← two_pow_eq_256_pow a ha.1]; exact hv
    · simpa using hm
  have hvw : v < 2 ^ r.width := Nat.lt_of_lt_of_le hv (Nat.pow_le_pow_right (by decide) ha.2.2.1)
  apply alt_width_set_get_partial r [a] v raw h ⟨by intro b hb; simp at hb; subst hb; exact ha, Or.inl hn⟩ hvw
  · rw [haw]; exact hup
  · intro _ b hb hlt
    simp at hb; subst hb
    rw [haw] at hlt; omega

/-- ROTKH / RKTH of the database: 12 sub-registers of 32 bits, alternative width 256, reversed -/
def rotkh : Reg := { width := 384, reverse := true, subW := 32, subs := List.replicate 12 0 }

example : GroupWF rotkh ∧ AltOK [256] rotkh :=
  ⟨⟨by decide, by decide, by decide, by decide⟩, ⟨by decide, by decide⟩⟩

section
set_option exponentiation.threshold 400

/-- REFUTATION 1 (`hst` is needed): the 384-bit value `2^383` has 16 trailing zero bytes; it is stored byte-swapped as
    `0x80`, for which the alternative width is recomputed as 256, and reads back as `2^255`.
    Replayed on the real code: `Register(width=384, reverse=True, alt_widths=[256])` + 12 sub-registers,
    `set_value(2**383); get_value() == 2**255`. -/
example : (rotkh.setAlt [256] (2 ^ 383) false).toOption.bind (fun r => (r.getAlt [256] false).toOption)
    = some (2 ^ 255) := by decide

/-- REFUTATION 2 (`hup` is needed): a full-width value followed by a short one; the upper four sub-registers keep the
    old content.  Real code: `set_value(2**383 | 0x55, raw=True); set_value(5, raw=True); get_value(raw=True) == 2**383 | 5`. -/
example : ((rotkh.setAlt [256] (2 ^ 383 + 0x55) true).toOption.bind (fun r => (r.setAlt [256] 5 true).toOption)).bind
    (fun r => (r.getAlt [256] true).toOption) = some (2 ^ 383 + 5) := by decide

/-- non-vacuity of `alt_width_set_get`: a SHA-256 sized value on the fresh ROTKH register -/
example : (rotkh.setAlt [256] (2 ^ 255 + 1) false).toOption.bind (fun r => (r.getAlt [256] false).toOption)
    = some (2 ^ 255 + 1) := by decide

end

/-! ## writes by enum name -/

/-- what a configuration value means for a bit-field: the number the bit-field reads afterwards -/
def cfgDecode (f : Field) (fm : FieldMeta) : CfgVal → Option Nat
  | .enumName n => enumConst f fm n
  | .num v => some v
  | .rawNum v => some (v <<< f.shift)

/-- `get_enum_value` always decodes back to the value the bit-field holds (this is what 85623b6 repaired: a name
    shared by several values is only used for the value it decodes to) -/
theorem enum_value_decodes (r : Reg) (f : Field) (fm : FieldMeta) (v : Nat) (h : fieldGet r f = .ok v) :
    ∃ c, enumValueOf r f fm = .ok c ∧ cfgDecode f fm c = some v := by
  rcases enumValueOf_cases r f fm v h with h1 | ⟨n, h1, h2⟩
  · exact ⟨_, h1, rfl⟩
  · exact ⟨_, h1, h2⟩

/-- a bit-field written by enum name (configuration path) reads the value of that name, and the name read back from it
    decodes to the same value -/
theorem enum_write_reads_back (r : Reg) (f : Field) (fm : FieldMeta) (n v : Nat) (h : RegWF r)
    (hin : f.offset + f.width ≤ r.width) (hn : enumConst f fm n = some v) (hv : v >>> f.shift < 2 ^ f.width) :
    ∃ r', loadField r f fm (.enumName n) = .ok r' ∧ fieldGet r' f = .ok (stored f v) ∧ RegWF r' ∧
      ∃ c, enumValueOf r' f fm = .ok c ∧ cfgDecode f fm c = some (stored f v) := by
  obtain ⟨r', h1, h2⟩ := field_get_set r f v true h hin hv
  have hl : loadField r f fm (.enumName n) = .ok r' := by simp [loadField, hn, h1]
  exact ⟨r', hl, h2, fieldSet_wf r f v true h hin r' h1, enum_value_decodes r' f fm _ h2⟩

/-- an enum constant that does not fit the bit-field is refused -/
theorem enum_write_reject (r : Reg) (f : Field) (fm : FieldMeta) (n v : Nat) (hn : enumConst f fm n = some v)
    (hv : 2 ^ f.width ≤ v >>> f.shift) : loadField r f fm (.enumName n) = .error .spsdk := by
  simp [loadField, hn, field_reject r f v true hv]

/-- **History theorem for writes by enum name** (`set_enum_value` outside the configuration path): after any history,
    a write of enum entry `k` (value `v`) and any later ops that do not write the field's bits, the field reads `v`. -/
theorem history_last_enum_write (rf : RegFile) (pre post : List Op) (i j k v : Nat)
    (r : Reg) (f : Field) (h : FileWF rf) (hr : rf[i]? = some r) (hf : r.fields[j]? = some f)
    (hk : f.enums[k]? = some v) (hv : v >>> f.shift < 2 ^ f.width) (hpost : ∀ op ∈ post, Untouched rf i j op) :
    ∃ r', (run rf (pre ++ [Op.setEnum i j k] ++ post))[i]? = some r' ∧ fieldGet r' f = .ok (stored f v) := by
  obtain ⟨_, hl1⟩ := run_wf rf pre h
  obtain ⟨r1, hr1, hk1⟩ := getElem?_of_map_eq (key := fun r : Reg => (r.width, r.fields)) hl1 hr
  have hstep : step (run rf pre) (.setEnum i j k) = step (run rf pre) (.setField i j v false) := by
    simp [step, updAt, hr1, (Prod.mk.inj hk1).2, hf, hk]
  have e : run rf (pre ++ [Op.setEnum i j k] ++ post) = run rf (pre ++ [Op.setField i j v false] ++ post) := by
    simp only [run, List.foldl_append, List.foldl_cons, List.foldl_nil] at hstep ⊢
    rw [hstep]
  rw [e]
  exact history_last_write rf pre post i j v false r f h hr hf hv hpost

/-! ## configuration round trip: `load_yml_config(get_config())` -/

/-- a register as `Registers._load_from_spec` builds it: a plain register, or a group without bit-fields whose
    alternative widths (if any) are database-like -/
inductive RegWF' (rm : RegMeta) (r : Reg) : Prop
  | plain : RegWF r → RegWF' rm r
  | group : GroupWF r → r.fields = [] → AltOK rm.alts r → RegWF' rm r

def FileWF' (m : Meta) (rf : RegFile) : Prop := ∀ i r, rf[i]? = some r → RegWF' (m.reg i) r

/-- same layout (everything but the stored values) -/
structure SameLayout (r0 r : Reg) : Prop where
  width : r0.width = r.width
  reverse : r0.reverse = r.reverse
  resetRaw : r0.resetRaw = r.resetRaw
  fields : r0.fields = r.fields
  subW : r0.subW = r.subW
  subsLen : r0.subs.length = r.subs.length
  revSubs : r0.revSubs = r.revSubs

/-- what a group with alternative widths needs so that its configuration value loads back into `r0`
    (both conditions are vacuous without alternative widths; they are exactly the two open findings) -/
structure AltRT (alts : List Nat) (r r0 : Reg) : Prop where
  upper : ∀ i, altWidth alts r.width (assemble r) / r.subW ≤ i → r0.subs.getD i 0 = 0
  stable : r.reverse = true → ∀ a ∈ alts, a < altWidth alts r.width (assemble r) →
    assemble r % 2 ^ (altWidth alts r.width (assemble r) - a) ≠ 0

theorem altRT_nil (r r0 : Reg) (h : GroupWF r) (hl : r0.subs.length = r.subs.length) : AltRT [] r r0 := by
  refine ⟨?_, ?_⟩
  · intro i hi
    rw [altWidth_nil, h.width, Nat.mul_div_cancel_left _ h.sub] at hi
    rw [List.getD_eq_getElem?_getD, List.getElem?_eq_none (by omega)]; rfl
  · intro _ a ha; cases ha

/-- source register `r`, target register `r0` (e.g. of a fresh object) -/
structure RegOK (rm : RegMeta) (r r0 : Reg) : Prop where
  layout : SameLayout r0 r
  wf : RegWF' rm r
  wf0 : RegWF' rm r0
  alt : r.subW ≠ 0 → AltRT rm.alts r r0

/-- the effect of the round trip on one register: what the configuration carries is taken from `r`, the rest stays as it
    is in `r0`.  NOT carried: bits of a register with bit-fields that no bit-field covers, and hidden bit-fields that
    hold their reset value in `r`. -/
inductive RegRT (rm : RegMeta) (r r0 : Reg) : Reg → Prop
  | whole : r.fields = [] → r.subW = 0 → RegRT rm r r0 { r0 with value := r.value }
  | group : r.subW ≠ 0 → RegRT rm r r0 { r0 with subs := r.subs }
  | fields (x : Nat) : r.fields ≠ [] → r.subW = 0 → x < 2 ^ r.width →
      (∀ k, (Carried rm r k → x.testBit k = r.value.testBit k) ∧
            (¬ Carried rm r k → x.testBit k = r0.value.testBit k)) →
      RegRT rm r r0 { r0 with value := x }

theorem regOK_roundtrip (rm : RegMeta) (r r0 : Reg) (h : RegOK rm r r0) :
    ∃ c r', regConfig r rm = .ok c ∧ loadReg r0 rm c = .ok r' ∧ RegRT rm r r0 r' := by
  obtain ⟨hl, hw, hw0, halt⟩ := h
  cases hw with
  | plain hp =>
    have hp0 : RegWF r0 := by
      cases hw0 with
      | plain h0 => exact h0
      | group g0 _ _ => have := g0.sub; have := hl.subW; have := hp.plain; omega
    have hP : PlainOK r := ⟨hp.plain, hp.norev, hp.bound, hp.fieldsIn, hp.disjoint⟩
    have hP0 : PlainOK r0 := ⟨hp0.plain, hp0.norev, hp0.bound, hp0.fieldsIn, hp0.disjoint⟩
    by_cases he : r.fields = []
    · obtain ⟨c, h1, h2⟩ := regcfg_rt_plain rm hP he hP0 hl.width
      exact ⟨c, _, h1, h2, .whole he hp.plain⟩
    · obtain ⟨c, x, h1, h2, h3, h4⟩ := regcfg_rt_fields rm hP he hP0 hl.width hl.fields
      exact ⟨c, _, h1, h2, .fields x he hp.plain h3 h4⟩
  | group hg he ha =>
    have hne : r.subW ≠ 0 := Nat.ne_of_gt hg.sub
    obtain ⟨hup, hst⟩ := halt hne
    obtain ⟨c, h1, h2⟩ := regcfg_rt_group rm ⟨hg.sub, hg.width, hg.bound, hg.bytes⟩ he ha.mult ha.order
      hl.width hl.subW hl.revSubs hl.reverse hl.subsLen hup hst
    exact ⟨c, _, h1, h2, .group hne⟩

/-- **Configuration round trip.**  The configuration obtained from `rf` loads into any register file `rf0` of the same
    layout (e.g. a freshly created object), and afterwards every register holds what the configuration carries from `rf`
    (`RegRT`): the whole value of registers without bit-fields and of groups, and every bit of every written-out bit-field. -/
theorem config_roundtrip (m : Meta) (rf rf0 : RegFile) (hlen : rf0.length = rf.length)
    (hok : ∀ i r r0, rf[i]? = some r → rf0[i]? = some r0 → RegOK (m.reg i) r r0) :
    ∃ cfg rf', getConfig m rf = .ok cfg ∧ loadConfig m rf0 cfg = .ok rf' ∧ rf'.length = rf.length ∧
      ∀ i r r0, rf[i]? = some r → rf0[i]? = some r0 → ∃ r', rf'[i]? = some r' ∧ RegRT (m.reg i) r r0 r' := by
  have := roundtrip_lift false m RegOK RegRT (fun rm r r0 h => regConfigD_false r rm ▸ regOK_roundtrip rm r r0 h)
    rf rf0 [] hlen (by simpa only [List.length_nil, Nat.zero_add] using hok)
  simpa only [getConfig, getConfigDFrom_false, List.length_nil, Nat.zero_add, List.nil_append, Bool.false_and,
    Bool.false_eq_true, false_and, false_or, true_and] using this

/-- every bit-field that the configuration carries reads, after the round trip, the value it has in the source -/
theorem config_roundtrip_field (rm : RegMeta) (r r0 r' : Reg) (j : Nat) (f : Field) (hrt : RegRT rm r r0 r')
    (hw0 : RegWF r0) (hw : RegWF r) (hf : r.fields[j]? = some f)
    (hc : ¬ ((rm.field j).hidden = true ∧ fieldGet r f = .ok f.reset)) :
    fieldGet r' f = fieldGet r f := by
  cases hrt with
  | whole he _ => rw [he] at hf; simp at hf
  | group hne => exact absurd hw.plain hne
  | fields x _ _ _ hbits =>
    rw [fieldGet_plain_upd r0 f x hw0.plain hw0.norev, fieldGet_plain r f hw.plain hw.norev]
    congr 2
    apply slice_congr
    intro k h1 h2
    exact (hbits k).1 ((carried_iff rm r k).2 ⟨j, f, hf, h1, h2, hc⟩)

/-- … and a hidden bit-field at its reset value in the source keeps the value it has in the target (in a fresh object: its
    reset value, so it agrees as well) -/
theorem config_roundtrip_hidden (rm : RegMeta) (r r0 r' : Reg) (f : Field) (hrt : RegRT rm r r0 r')
    (hw0 : RegWF r0) (hne : r.fields ≠ [])
    (hnc : ∀ k, f.offset ≤ k → k < f.offset + f.width → ¬ Carried rm r k) :
    fieldGet r' f = fieldGet r0 f := by
  cases hrt with
  | whole he _ => exact absurd he hne
  | group hne' =>
    rw [fieldGet, fieldGet]
    have e : ({ r0 with subs := r.subs } : Reg).get false = r0.get false := by
      simp [Reg.get, Reg.isGroup, hw0.plain]
    rw [e]
  | fields x _ _ _ hbits =>
    rw [fieldGet_plain_upd r0 f x hw0.plain hw0.norev, fieldGet_plain r0 f hw0.plain hw0.norev]
    congr 2
    apply slice_congr
    intro k h1 h2
    exact (hbits k).2 (hnc k h1 h2)

/-- if the target agrees with the source on every bit the configuration does not carry (e.g. all bits are covered by
    bit-fields and the hidden ones at reset are at reset in the fresh object too), the round trip restores the register
    completely: both views and every bit-field read as in the source -/
theorem config_roundtrip_same_state (rm : RegMeta) (r r0 r' : Reg) (hrt : RegRT rm r r0 r') (hok : RegOK rm r r0)
    (hrest : ∀ k, ¬ Carried rm r k → r0.value.testBit k = r.value.testBit k) :
    (∀ raw, r'.getAlt rm.alts raw = r.getAlt rm.alts raw) ∧ ∀ f, fieldGet r' f = fieldGet r f := by
  obtain ⟨hl, hw, hw0, _⟩ := hok
  -- a plain target whose value becomes the source value reads like the source
  have plainCase : r.subW = 0 → (∀ raw, ({ r0 with value := r.value } : Reg).getAlt rm.alts raw = r.getAlt rm.alts raw) ∧
      ∀ f, fieldGet { r0 with value := r.value } f = fieldGet r f := by
    intro hp
    have hpw : RegWF r := by
      cases hw with
      | plain h => exact h
      | group g _ _ => have := g.sub; omega
    have hp0 : r0.subW = 0 := by rw [hl.subW]; exact hp
    have hn0 : r0.reverse = false := by rw [hl.reverse]; exact hpw.norev
    refine ⟨fun raw => ?_, fun f => ?_⟩
    · rw [getAlt_plain { r0 with value := r.value } rm.alts raw hp0 hn0, getAlt_plain r rm.alts raw hp hpw.norev]
    · rw [fieldGet_plain_upd r0 f r.value hp0 hn0, fieldGet_plain r f hp hpw.norev]
  cases hrt with
  | whole _ hp => exact plainCase hp
  | group hne =>
    have hc := fun raw => group_views_congr { r0 with subs := r.subs } r rm.alts raw hl.width hl.reverse hl.subW hne rfl hl.revSubs
    refine ⟨fun raw => (hc raw).1, fun f => ?_⟩
    simp only [fieldGet, (hc false).2]
  | fields x _ hp hx hbits =>
    have : x = r.value := Nat.eq_of_testBit_eq fun k => by
      by_cases hc : Carried rm r k
      · exact (hbits k).1 hc
      · rw [(hbits k).2 hc]; exact hrest k hc
    exact this ▸ plainCase hp

/-! ## loading the same configuration twice -/

theorem regInv_of_wf (rm : RegMeta) (r : Reg) (h : RegWF' rm r) : RegInv rm r := by
  cases h with
  | plain hp => exact .plain ⟨hp.plain, hp.norev, hp.bound, hp.fieldsIn, hp.disjoint⟩
  | group hg he ha => exact .group ⟨hg.sub, hg.width, hg.bound, hg.bytes⟩ he ha.mult ha.order

/-- **Idempotence of `load_yml_config`.**  `get_config` being free of side effects is trivial in a functional model
    (`getConfig` returns no state); the statement with content is that loading any configuration a second time changes
    nothing.  Hypotheses: the keys of the dictionaries are unique (`hk`: every register is addressed once, a group not
    together with one of its own sub-registers; `EntryOK`: bit-field keys unique) and no byte-reversed register is given
    as a bit-field dictionary (`EntryOK`; see the refuting example below). -/
theorem loadConfig_idempotent (m : Meta) (rf rf1 : RegFile) (cfg : Cfg) (hwf : FileWF' m rf)
    (hk : (cfg.map (·.1.idx)).Nodup) (he : ∀ e ∈ cfg, EntryOK rf e)
    (hl : loadConfig m rf cfg = .ok rf1) : loadConfig m rf1 cfg = .ok rf1 :=
  loadConfig_idem m rf rf1 cfg (fun i r hr => regInv_of_wf _ r (hwf i r hr)) hk he hl

/-- why `EntryOK` excludes bit-field dictionaries for reversed registers: an EMPTY dictionary for a reversed group runs
    the "processing" step `set_value(get_value(raw=True), raw=False)`, which byte-swaps the group on every load.
    Replayed on the real code: reversed group of 3 bytes 0x11 0x22 0x33, `load_yml_config({"GRP": {}})` → 0x33 0x22 0x11. -/
example : loadConfig [] [({ width := 16, reverse := true, subW := 8, subs := [0x11, 0x22] } : Reg)] [(.top 0, .fields [])]
    = .ok [{ width := 16, reverse := true, subW := 8, subs := [0x22, 0x11] }] := by decide

/-! ## non-vacuity of the configuration theorems -/

/-- bit-field 0: enum values 2, 4, 4 named N0, N0, N1 (a name shared by two values); bit-field 1 hidden;
    bit-field 2 with a SHIFT_RIGHT:4 processor -/
def exCfgReg : Reg :=
  { width := 16, value := 0x1234,
    fields := [{ offset := 0, width := 4, enums := [2, 4, 4] }, { offset := 4, width := 4 },
               { offset := 8, width := 8, shift := 4, enums := [0x120] }] }

def exMeta : Meta := [{ fields := [{ names := [0, 0, 1] }, { hidden := true }, {}] }]

example : RegWF exCfgReg := ⟨rfl, rfl, by decide, by decide, by decide⟩

example : RegOK (exMeta.reg 0) exCfgReg { exCfgReg with value := 0 } :=
  ⟨⟨rfl, rfl, rfl, rfl, rfl, rfl, rfl⟩, .plain ⟨rfl, rfl, by decide, by decide, by decide⟩,
   .plain ⟨rfl, rfl, by decide, by decide, by decide⟩, fun h => absurd rfl h⟩

/-- value 4 of bit-field 0 is first listed under the name N0, which decodes to 2: the number is written out (85623b6);
    the hidden bit-field is not at its reset value 0 and is written out as well -/
example : getConfig exMeta [exCfgReg] =
    .ok [(.top 0, .fields [(0, .num 4), (1, .num 3), (2, .enumName 0)])] := by decide

example : loadConfig exMeta [{ exCfgReg with value := 0 }] [(.top 0, .fields [(0, .num 4), (1, .num 3), (2, .enumName 0)])]
    = .ok [exCfgReg] := by decide

/-- by enum name: N0 is the first entry of that name (value 2); an unknown name is an error -/
example : (loadConfig exMeta [exCfgReg] [(.top 0, .fields [(0, .enumName 0)])]).toOption.map (·.map (·.value))
    = some [0x1232] := by decide

example : loadConfig exMeta [exCfgReg] [(.top 0, .fields [(0, .enumName 7)])] = .error .spsdk := by decide

example : EntryOK [exCfgReg] (.top 0, .fields [(0, .num 4), (1, .num 3), (2, .enumName 0)]) := by
  refine ⟨?_, ?_⟩
  · intro l hl; cases hl; decide
  · intro i l r hi _ hr
    cases hi
    simp at hr
    subst hr; rfl

/-! # Generated part: the integer arithmetic of spsdk/utils/registers.py as the source has it NOW

`Generated/RegArith.lean` is re-translated from the AST on every run (tools/extract/gen_C11.py): `self.width`, `self.offset`, the
value read from the parent, the config processor … are explicit parameters, Python-int semantics (`& | ^ ~` two's complement).
The theorems below hold for ALL natural-number arguments and say that the hand model computes exactly this arithmetic, so every
theorem above speaks about the mask / shift / comparison / bit-position formulas of the current source.  A changed formula breaks
one of them directly.  (Proofs: Proofs/RegistersGen.lean; they normalise both sides to bits, not to a particular shape.) -/

/-- `ShiftRightConfigProcessor.pre_process / post_process / width_update`, and the base class (identity) -/
theorem gen_processors (s v : Nat) :
    RegArith.srPre s v = ((v >>> s : Nat) : Int) ∧ RegArith.srPost s v = ((v <<< s : Nat) : Int) ∧
    RegArith.srWidth s v = ((v + s : Nat) : Int) ∧
    RegArith.nopPre v = v ∧ RegArith.nopPost v = v ∧ RegArith.nopWidth v = v ∧
    RegArith.bfConfigWidth v (RegArith.srWidth s) = ((v + s : Nat) : Int) :=
  ⟨srPre_eq s v, srPost_eq s v, srWidth_eq s v, (nop_eq v).1, (nop_eq v).2.1, (nop_eq v).2.2, bfConfigWidth_eq v s⟩

/-- `RegsBitField.get_value`: shift by the offset, mask `(1 << width) - 1`, post-process -/
theorem gen_bitfield_get (rv off w s : Nat) :
    RegArith.bfGet rv off w (RegArith.srPost s) = ((((rv >>> off) &&& mask w) <<< s : Nat) : Int) ∧
    RegArith.bfGet rv off w RegArith.nopPost = (((rv >>> off) &&& mask w : Nat) : Int) :=
  ⟨bfGet_eq rv off w s, bfGet_nop_eq rv off w⟩

/-- `RegsBitField.set_value`: pre-process unless `no_preprocess`, refuse unless `0 <= v < 1 << width`, clear-and-insert -/
theorem gen_bitfield_set (v rv off w s : Nat) (noPre : Bool) :
    RegArith.bfSet v noPre rv off w (RegArith.srPre s) =
      (if (if noPre then v else v >>> s) ≥ 2 ^ w then .error .spsdk
       else .ok ((insertBits rv off w (if noPre then v else v >>> s) : Nat) : Int)) :=
  bfSet_eq v rv off w s noPre

/-- the hand model's `fieldGet` / `fieldSet` ARE the generated arithmetic around `Reg.get` / `Reg.set` (any register) -/
theorem gen_fieldGet (r : Reg) (f : Field) :
    fieldGet r f = (match r.get false with
      | .error e => .error e
      | .ok rv => .ok (RegArith.bfGet rv f.offset f.width (RegArith.srPost f.shift)).toNat) :=
  fieldGet_gen r f

theorem gen_fieldSet (r : Reg) (f : Field) (v : Nat) (raw noPre : Bool) :
    fieldSet r f v raw noPre = (match r.get raw with
      | .ok rv => (match RegArith.bfSet v noPre rv f.offset f.width (RegArith.srPre f.shift) with
        | .error e => .error e
        | .ok x => r.set x.toNat raw)
      | .error e => (match RegArith.bfSet v noPre 0 f.offset f.width (RegArith.srPre f.shift) with
        | .error e' => .error e'
        | .ok _ => .error e)) :=
  fieldSet_gen r f v raw noPre

/-- `Register.set_value`: the range guard (`0 <= value < 1 << width`, negative values included) is the model's rejection -/
theorem gen_register_guard (r : Reg) (alts : List Nat) (v n : Nat) (raw : Bool) :
    RegArith.regSetGuard v r.width = (if v < 2 ^ r.width then .ok true else .error .spsdk) ∧
    RegArith.regSetGuard (Int.negSucc n) r.width = .error .spsdk ∧
    (RegArith.regSetGuard v r.width = .error .spsdk →
      r.set v raw = .error .spsdk ∧ r.setAlt alts v raw = .error .spsdk) := by
  refine ⟨regSetGuard_eq v r.width, regSetGuard_neg n r.width, ?_⟩
  intro h
  rw [regSetGuard_eq] at h
  have hv : 2 ^ r.width ≤ v := by
    rcases Nat.lt_or_ge v (2 ^ r.width) with h' | h'
    · rw [if_pos h'] at h; cases h
    · exact h'
  exact ⟨set_reject r v raw hv, setAlt_reject r alts v raw hv⟩

/-- the byte reversal: condition `not raw and reverse`, on `alt_width // 8` bytes, with opposite byte orders (set and get) -/
theorem gen_reverse (raw rev : Bool) (aw w : Nat) :
    RegArith.regSetSwapCond raw rev = (!raw && rev) ∧ RegArith.regGetSwapCond raw rev = (!raw && rev) ∧
    RegArith.regSetSwapBytes aw w = ((aw / 8 : Nat) : Int) ∧ RegArith.regGetSwapBytes aw w = ((aw / 8 : Nat) : Int) ∧
    RegArith.regSetSwaps = true ∧ RegArith.regGetSwapsBig = true ∧ RegArith.regGetSwapsLittle = true :=
  ⟨(swapCond_eq raw rev).1, (swapCond_eq raw rev).2, (swapBytes_eq aw w).1, (swapBytes_eq aw w).2, swaps_eq.1, swaps_eq.2.1, swaps_eq.2.2⟩

/-- grouped registers, write: `alt_width // sub_width` sub-registers, the one at 0-based position `k` gets
    `(value >> bit_pos) & ((1 << sub_width) - 1)` with the bit position of the model (`subPosW`, normal / reversed order) -/
theorem gen_group_write (r : Reg) (v aw k : Nat) :
    RegArith.subCount aw r.subW = ((aw / r.subW : Nat) : Int) ∧
    RegArith.subValue v aw r.subW k r.revSubs = (((v >>> subPosW r aw k) &&& mask r.subW : Nat) : Int) ∧
    distributeW r aw v = (List.range r.subs.length).map (fun (i : Nat) =>
      if ((i : Nat) : Int) < RegArith.subCount aw r.subW then (RegArith.subValue v aw r.subW i r.revSubs).toNat
      else r.subs.getD i 0) :=
  ⟨subCount_eq aw r.subW, subValue_eq r v aw k, distributeW_gen r aw v⟩

/-- grouped registers, read: the model's `assemble` is the generated loop (`value |= sub << bit_pos` from 0) -/
theorem gen_group_read (r : Reg) (acc sv k : Nat) :
    RegArith.asmInit = 0 ∧
    RegArith.asmStep acc sv r.width r.subW k r.revSubs = ((acc ||| (sv <<< subPos r k) : Nat) : Int) ∧
    ((assemble r : Nat) : Int) = (List.range r.subs.length).foldl
      (fun acc (i : Nat) => RegArith.asmStep acc (r.subs.getD i 0 : Nat) r.width r.subW i r.revSubs) RegArith.asmInit :=
  ⟨asmInit_eq, asmStep_eq r acc sv k, assemble_gen r⟩

/-- `Register.get_alt_width`: the list is sorted ascending first, the byte count is `get_bytes_cnt_of_int(value, align_to_2n=False)`
    without `byte_cnt`, the first fitting (`cnt <= alt // 8`) element wins, else the width; the model's `altWidth` is that for
    EVERY list (it does not depend on the order) -/
theorem gen_alt_width (w v : Nat) (alts sorted : List Nat) (hp : alts.Perm sorted) (hs : sorted.Pairwise (· ≤ ·)) :
    RegArith.altSorted = true ∧ RegArith.altCntAlign = false ∧ RegArith.altCntByteCnt = false ∧
    RegArith.getAltWidth w (byteCnt v) (sorted.map (fun (a : Nat) => (a : Int))) = ((altWidth alts w v : Nat) : Int) := by
  refine ⟨altFlags_eq.1, altFlags_eq.2.1, altFlags_eq.2.2, ?_⟩
  rw [getAltWidth_eq w v sorted hs, altWidth_perm alts sorted w v hp]

/-- `Register.get_reset_value`: the model's `resetValue` is the generated fold -/
theorem gen_reset_value (r : Reg) :
    ((r.resetValue : Nat) : Int) = r.fields.foldl
      (fun acc f => RegArith.resetOr acc f.reset f.offset f.width) (r.resetRaw : Int) :=
  resetValue_gen r

/-- non-vacuity / sanity of the generated part on concrete numbers (evaluated from the generated definitions) -/
example : RegArith.bfSet 0xF0 false 0xA5A50000 8 4 (RegArith.srPre 4) = .ok 0xA5A50F00 := by decide
example : RegArith.bfSet 16 true 0 0 4 RegArith.nopPre = .error .spsdk := by decide
example : RegArith.bfSet (-1) true 0 0 4 RegArith.nopPre = .error .spsdk := by decide
example : RegArith.subValue 0x1111111122222222 64 32 0 true = 0x11111111 := by decide
example : RegArith.getAltWidth 384 33 [256] = 384 ∧ RegArith.getAltWidth 384 32 [256] = 256 ∧ RegArith.getAltWidth 384 1 [] = 384 := by decide

/-! # Phase 3: every config processor of the source, `get_config(diff)`, look-up, export with gaps

`Generated/RegProc.lean` lists EVERY class of registers.py that derives from `ConfigProcessor` (AST, by value), with its
`pre_process / post_process / width_update` translated; a new subclass, a changed formula or NAME regenerates the table and the
theorems below have to be re-proved for it. -/

theorem getD_cast (ps : List Nat) : (ps.map (fun (x : Nat) => (x : Int))).getD 0 0 = ((ps.getD 0 0 : Nat) : Int) := by
  cases ps <;> simp

/-- **Every processor that exists is one the model represents** by `Field.shift` (`shift = 0` for the base class): its
    pre-processing is `>>> shift`, its post-processing `<<< shift`, its width update `+ shift`, for all parameter values. -/
theorem processors_covered (p : RegProc.Proc) (hp : p ∈ RegProc.procs) :
    ∃ sh : List Nat → Nat, ∀ (ps : List Nat) (v : Nat),
      p.pre (ps.map (fun (x : Nat) => (x : Int))) v = ((v >>> sh ps : Nat) : Int) ∧
      p.post (ps.map (fun (x : Nat) => (x : Int))) v = ((v <<< sh ps : Nat) : Int) ∧
      p.width (ps.map (fun (x : Nat) => (x : Int))) v = ((v + sh ps : Nat) : Int) := by
  simp only [RegProc.procs, List.mem_cons, List.not_mem_nil, or_false] at hp
  rcases hp with rfl | rfl
  · exact ⟨fun _ => 0, fun ps v => by simp⟩
  · refine ⟨fun ps => ps.getD 0 0, fun ps v => ?_⟩
    simp only [getD_cast, shrI_cast, shlI_cast, Int.toNat_natCast]
    refine ⟨trivial, trivial, ?_⟩
    push_cast; rfl

/-- **`pre(post(v)) = v`** for every processor and all parameters (what `get_config` writes loads back to the stored bits), and
    **`post(pre(v)) = v` on the accepted domain** (the values `post` produces — for SHIFT_RIGHT the multiples of `2^count`) -/
theorem processors_roundtrip (p : RegProc.Proc) (hp : p ∈ RegProc.procs) (ps : List Nat) (v : Nat) :
    p.pre (ps.map (fun (x : Nat) => (x : Int))) (p.post (ps.map (fun (x : Nat) => (x : Int))) v) = v ∧
    ((∃ s : Nat, (v : Int) = p.post (ps.map (fun (x : Nat) => (x : Int))) s) →
      p.post (ps.map (fun (x : Nat) => (x : Int))) (p.pre (ps.map (fun (x : Nat) => (x : Int))) v) = v) := by
  obtain ⟨sh, h⟩ := processors_covered p hp
  have e1 : ∀ s : Nat, p.pre (ps.map (fun (x : Nat) => (x : Int))) (p.post (ps.map (fun (x : Nat) => (x : Int))) s) = s := by
    intro s
    rw [(h ps s).2.1, (h ps (s <<< sh ps)).1, Nat.shiftLeft_shiftRight]
  refine ⟨e1 v, ?_⟩
  rintro ⟨s, hs⟩
  rw [hs, e1 s]

/-- the dispatch list of `from_spec` is exactly the subclasses of the table, NAMEs are unique, and the configuration-string
    syntax constants are the ones `procFromSpec` (Model/RegistersP3.lean) is written with -/
theorem processors_dispatch :
    RegProc.dispatch = (RegProc.procs.filter (fun p => p.cls != "ConfigProcessor")).map (·.name) ∧
    (RegProc.procs.map (·.name)).Nodup ∧
    (∀ p ∈ RegProc.procs, p.keys = p.params) ∧
    RegProc.syntaxConsts = [("get_method_name", ["split::"]), ("get_params", ["split:=", "split::", "split:;", "split:,"]),
      ("get_description", ["partition:;", "replace:", "replace:DESC="])] := by
  refine ⟨by decide, by decide, ?_, by decide⟩
  intro p hp
  simp only [RegProc.procs, List.mem_cons, List.not_mem_nil, or_false] at hp
  rcases hp with rfl | rfl <;> rfl

/-- on the accepted domain the value a processed bit-field stores is the value itself -/
theorem stored_of_accepted (f : Field) (v : Nat) (h : v % 2 ^ f.shift = 0) : stored f v = v :=
  shl_shr_of_mod v f.shift h

/-- **set via the configuration, read the value back** — bit-fields with a processor included: a number of the accepted domain
    loaded through `load_yml_config` reads back as exactly that number, and what `get_config` then writes decodes to it -/
theorem config_value_roundtrip_processed (r : Reg) (f : Field) (fm : FieldMeta) (v : Nat) (h : RegWF r)
    (hin : f.offset + f.width ≤ r.width) (hv : v >>> f.shift < 2 ^ f.width) (hd : v % 2 ^ f.shift = 0) :
    ∃ r', loadField r f fm (.num v) = .ok r' ∧ fieldGet r' f = .ok v ∧ RegWF r' ∧
      ∃ c, enumValueOf r' f fm = .ok c ∧ cfgDecode f fm c = some v := by
  obtain ⟨r', h1, h2⟩ := field_get_set r f v true h hin hv
  rw [stored_of_accepted f v hd] at h2
  exact ⟨r', h1, h2, fieldSet_wf r f v true h hin r' h1, enum_value_decodes r' f fm v h2⟩

/-- **independence with processors**: after any history, a write of an accepted value `v` to a processed bit-field and any later
    operations that do not write its bits, the bit-field reads exactly `v` (neighbours with or without processors included) -/
theorem history_last_write_processed (rf : RegFile) (pre post : List Op) (i j v : Nat) (raw : Bool)
    (r : Reg) (f : Field) (h : FileWF rf) (hr : rf[i]? = some r) (hf : r.fields[j]? = some f)
    (hv : v >>> f.shift < 2 ^ f.width) (hd : v % 2 ^ f.shift = 0) (hpost : ∀ op ∈ post, Untouched rf i j op) :
    ∃ r', (run rf (pre ++ [Op.setField i j v raw] ++ post))[i]? = some r' ∧ fieldGet r' f = .ok v := by
  have := history_last_write rf pre post i j v raw r f h hr hf hv hpost
  rwa [stored_of_accepted f v hd] at this

example : (0x120 : Nat) >>> 4 < 2 ^ 8 ∧ (0x120 : Nat) % 2 ^ 4 = 0 := by decide

example : ∃ p ∈ RegProc.procs, p.name = "SHIFT_RIGHT" ∧ p.pre [4] 0x123 = 0x12 ∧ p.post [4] 0x12 = 0x120 ∧ p.width [4] 8 = 12 :=
  ⟨_, List.mem_cons_of_mem _ (List.mem_cons_self ..), by decide⟩

/-! ## `get_config(diff=True)` -/

/-- `diff=False` is the configuration all older theorems speak about -/
theorem getConfig_diff_false (m : Meta) (rf : RegFile) : getConfigD false m rf = getConfig m rf :=
  getConfigDFrom_false m rf 0

/-- the bits a diff configuration carries: those of the bit-fields that do not read their reset value -/
def CarriedD (r : Reg) (k : Nat) : Prop :=
  ∃ (j : Nat) (f : Field), r.fields[j]? = some f ∧ f.offset ≤ k ∧ k < f.offset + f.width ∧ fieldGet r f ≠ .ok f.reset

theorem carriedD_iff (rm : RegMeta) (r : Reg) (k : Nat) : Carried (hideAll rm r.fields.length) r k ↔ CarriedD r k := by
  rw [carried_iff]
  constructor
  · rintro ⟨j, f, h1, h2, h3, h4⟩
    exact ⟨j, f, h1, h2, h3, fun hh => h4 ⟨hideAll_hidden rm _ j (getElem?_lt h1), hh⟩⟩
  · rintro ⟨j, f, h1, h2, h3, h4⟩
    exact ⟨j, f, h1, h2, h3, fun hh => h4 hh.2⟩

/-- **A diff configuration names exactly what differs from reset**: a register has an entry iff its raw value is not its
    reset value, and the bit-field dictionary of such a register names exactly the bit-fields that do not read their reset value. -/
theorem config_diff_exact (m : Meta) (rf : RegFile) (cfg : Cfg) (h : getConfigD true m rf = .ok cfg) :
    (∀ ref, (∃ c, (ref, c) ∈ cfg) ↔ ∃ i r, ref = .top i ∧ rf[i]? = some r ∧ regAtReset r (m.reg i) = false) ∧
    (∀ ref l, (ref, RegCfg.fields l) ∈ cfg → ∃ i r, ref = .top i ∧ rf[i]? = some r ∧ r.fields ≠ [] ∧
      ∀ j, (∃ c, (j, c) ∈ l) ↔ ∃ f, r.fields[j]? = some f ∧ fieldGet r f ≠ .ok f.reset) := by
  obtain ⟨h1, h2⟩ := getConfigDFrom_mem h
  simp only [Nat.zero_add, Bool.true_and] at h1 h2
  refine ⟨fun ref => ⟨?_, ?_⟩, fun ref l hm => ?_⟩
  · rintro ⟨c, hc⟩
    obtain ⟨i, r, e, hr, hs, _⟩ := h1 ref c hc
    exact ⟨i, r, e, hr, hs⟩
  · rintro ⟨i, r, rfl, hr, hs⟩
    exact h2 i r hr hs
  · obtain ⟨i, r, e, hr, _, hc⟩ := h1 ref _ hm
    obtain ⟨hne, hl⟩ := regConfigD_fields_ok hc
    refine ⟨i, r, e, hr, hne, fun j => ?_⟩
    simp only [fieldsConfigD_mem hl j, Nat.zero_add, Bool.true_or, true_and]
    exact ⟨fun ⟨_, f, e, hf⟩ => ⟨f, e ▸ hf⟩, fun ⟨f, hf⟩ => ⟨j, f, rfl, hf⟩⟩

theorem regOK_hideAll (rm : RegMeta) (n : Nat) (r r0 : Reg) (h : RegOK rm r r0) : RegOK (hideAll rm n) r r0 := by
  obtain ⟨hl, hw, hw0, halt⟩ := h
  refine ⟨hl, ?_, ?_, halt⟩
  · cases hw with
    | plain a => exact .plain a
    | group a b c => exact .group a b c
  · cases hw0 with
    | plain a => exact .plain a
    | group a b c => exact .group a b c

/-- **Loading a diff configuration.**  The diff configuration of `rf` loads into any register file `rf0` of the same layout;
    a register of `rf` at its reset value is not named and keeps what it holds in `rf0`; every other register receives what the
    configuration carries (`RegRT`, with "carried" = the bit-fields that differ from reset). -/
theorem config_diff_roundtrip (m : Meta) (rf rf0 : RegFile) (hlen : rf0.length = rf.length)
    (hok : ∀ i r r0, rf[i]? = some r → rf0[i]? = some r0 → RegOK (m.reg i) r r0) :
    ∃ cfg rf', getConfigD true m rf = .ok cfg ∧ loadConfig m rf0 cfg = .ok rf' ∧ rf'.length = rf.length ∧
      ∀ i r r0, rf[i]? = some r → rf0[i]? = some r0 → ∃ r', rf'[i]? = some r' ∧
        ((regAtReset r (m.reg i) = true ∧ r' = r0) ∨
         (regAtReset r (m.reg i) = false ∧ RegRT (hideAll (m.reg i) r.fields.length) r r0 r')) := by
  have := roundtrip_lift true m RegOK (fun rm r r0 r' => RegRT (hideAll rm r.fields.length) r r0 r') (by
    intro rm r r0 hp
    obtain ⟨c, r', h1, h2, h3⟩ := regOK_roundtrip (hideAll rm r.fields.length) r r0 (regOK_hideAll rm _ r r0 hp)
    exact ⟨c, r', by rw [regConfigD_true]; exact h1, by rw [← loadReg_hideAll rm r.fields.length]; exact h2, h3⟩)
    rf rf0 [] hlen (by simpa only [List.length_nil, Nat.zero_add] using hok)
  simpa only [getConfigD, List.length_nil, Nat.zero_add, List.nil_append, Bool.true_and] using this

/-- **… reproduces the state** in every target that agrees with the source on what the configuration does not carry (a freshly
    created object: bit-fields at reset are at reset there too): a named register reads like the source in both views and in
    every bit-field; a register left out reads its reset value in both objects. -/
theorem config_diff_same_state (rm : RegMeta) (r r0 r' : Reg) (hok : RegOK rm r r0) :
    (regAtReset r rm = false → RegRT (hideAll rm r.fields.length) r r0 r' →
      (∀ k, ¬ CarriedD r k → r0.value.testBit k = r.value.testBit k) →
      (∀ raw, r'.getAlt rm.alts raw = r.getAlt rm.alts raw) ∧ ∀ f, fieldGet r' f = fieldGet r f) ∧
    (regAtReset r rm = true → regAtReset r0 rm = true → r0.getAlt rm.alts true = r.getAlt rm.alts true) := by
  refine ⟨fun _ hrt hrest => ?_, fun h h0 => ?_⟩
  · exact config_roundtrip_same_state (hideAll rm r.fields.length) r r0 r' hrt (regOK_hideAll rm _ r r0 hok)
      (fun k hk => hrest k (fun hc => hk ((carriedD_iff rm r k).2 hc)))
  · have hr : r0.resetValue = r.resetValue := by
      simp only [Reg.resetValue, hok.layout.fields, hok.layout.resetRaw]
    unfold regAtReset at h h0
    cases hg : r.getAlt rm.alts true with
    | error e => rw [hg] at h; cases h
    | ok v =>
      cases hg0 : r0.getAlt rm.alts true with
      | error e => rw [hg0] at h0; cases h0
      | ok v0 =>
        rw [hg] at h; rw [hg0] at h0
        simp only [beq_iff_eq] at h h0
        rw [h, h0, hr]

/-- non-vacuity: bit-field 0 differs from its reset value 0, bit-fields 1 and 2 of `exCfgReg` are moved to their reset values;
    the diff configuration names bit-field 0 only, and a register at reset is left out altogether -/
example : getConfigD true exMeta [{ exCfgReg with value := 0x0004 }] = .ok [(.top 0, .fields [(0, .num 4)])] := by decide
example : getConfigD true exMeta [{ exCfgReg with value := 0 }] = .ok [] := by decide
example : loadConfig exMeta [{ exCfgReg with value := 0 }] [(.top 0, .fields [(0, .num 4)])] = .ok [{ exCfgReg with value := 0x0004 }] := by
  decide

/-! ## reset restores every bit-field, hidden or not (seeded change C11f) -/

/-- `Register.get_reset_value` iterates `_bitfields` itself (every bit-field, hidden ones included), not a filtered view;
    the model's `Reg.resetValue` folds over all `r.fields` with exactly the generated step (`gen_reset_value`) -/
theorem gen_reset_iterates_all : RegArith.resetIterAll = true := by decide

/-- **Reset restores every bit-field.**  In a well-formed register whose register-level reset value has no bits inside bit-field
    `j`, `reset_value()` succeeds and bit-field `j` — named or hidden, the model does not distinguish — afterwards reads its own
    reset value (through its processor: `(reset & mask) << shift`). -/
theorem reset_restores_field (r : Reg) (j : Nat) (f : Field) (h : RegWF r) (hf : r.fields[j]? = some f)
    (hb : r.resetValue < 2 ^ r.width)
    (hraw : ∀ k, f.offset ≤ k → k < f.offset + f.width → r.resetRaw.testBit k = false) :
    ∃ r', r.reset = .ok r' ∧ RegWF r' ∧ fieldGet r' f = .ok ((f.reset &&& mask f.width) <<< f.shift) := by
  refine ⟨{ r with value := r.resetValue }, set_plain r r.resetValue true h.plain h.norev hb,
    ⟨h.plain, h.norev, hb, h.fieldsIn, h.disjoint⟩, ?_⟩
  rw [fieldGet_plain_upd r f r.resetValue h.plain h.norev, resetValue_slice r j f hf h.disjoint hraw]

theorem step_layout_reset (rf rf' : RegFile) (op : Op) (h : FileWF rf) (hs : step rf op = .ok rf') :
    FileWF rf' ∧ rf'.map (fun r => (r.width, r.fields, r.resetRaw)) = rf.map (fun r => (r.width, r.fields, r.resetRaw)) := by
  have hf := step_forall2 rf rf' op hs
  refine forall2_preserve (P := RegWF) (key := fun r => (r.width, r.fields, r.resetRaw)) hf h ?_
  intro r r' hw hst
  obtain ⟨x, hx, rfl⟩ := regStep_plain r r' hst hw.plain hw.norev hw.bound
  exact ⟨⟨hw.plain, hw.norev, hx, hw.fieldsIn, hw.disjoint⟩, rfl⟩

/-- no operation changes widths, bit-field layouts or reset values -/
theorem run_layout_reset (rf : RegFile) (ops : List Op) (h : FileWF rf) :
    (run rf ops).map (fun r => (r.width, r.fields, r.resetRaw)) = rf.map (fun r => (r.width, r.fields, r.resetRaw)) :=
  (foldl_stepOr_invariant (Q := fun _ => True)
    (Inv := fun s => FileWF s ∧ s.map (fun r => (r.width, r.fields, r.resetRaw)) = rf.map (fun r => (r.width, r.fields, r.resetRaw)))
    (fun s s' op _ hi hs => let ⟨a, b⟩ := step_layout_reset s s' op hi.1 hs; ⟨a, b.trans hi.2⟩) ops rf (fun _ _ => trivial) ⟨h, rfl⟩).2

/-- … in any register of the file, after any history -/
theorem history_reset_restores (rf : RegFile) (pre : List Op) (i j : Nat) (r : Reg) (f : Field) (h : FileWF rf)
    (hr : rf[i]? = some r) (hf : r.fields[j]? = some f) (hb : r.resetValue < 2 ^ r.width)
    (hraw : ∀ k, f.offset ≤ k → k < f.offset + f.width → r.resetRaw.testBit k = false) :
    ∃ r', (run rf (pre ++ [Op.resetReg i]))[i]? = some r' ∧ fieldGet r' f = .ok ((f.reset &&& mask f.width) <<< f.shift) := by
  obtain ⟨hwf1, _⟩ := run_wf rf pre h
  obtain ⟨r1, hr1, hk1⟩ := getElem?_of_map_eq (key := fun r : Reg => (r.width, r.fields, r.resetRaw)) (run_layout_reset rf pre h) hr
  obtain ⟨hw1, hf1, hx1⟩ : r1.width = r.width ∧ r1.fields = r.fields ∧ r1.resetRaw = r.resetRaw :=
    ⟨(Prod.mk.inj hk1).1, (Prod.mk.inj (Prod.mk.inj hk1).2).1, (Prod.mk.inj (Prod.mk.inj hk1).2).2⟩
  have hrv : r1.resetValue = r.resetValue := by simp only [Reg.resetValue, hf1, hx1]
  obtain ⟨r2, h1, _, h3⟩ := reset_restores_field r1 j f (hwf1 r1 (List.mem_of_getElem? hr1)) (hf1 ▸ hf)
    (by rw [hrv, hw1]; exact hb) (by rw [hx1]; exact hraw)
  have hstep : step (run rf pre) (.resetReg i) = .ok ((run rf pre).set i r2) := by
    simp [step, updAt, hr1, h1]
  rw [show run rf (pre ++ [Op.resetReg i]) = _ from foldl_stepOr_snoc hstep]
  exact ⟨r2, by simp [getElem?_lt hr1], h3⟩

/-- non-vacuity: bit-field 1 (hidden in `exMeta`) has reset value 5; after a whole-register write and a reset it reads 5 -/
example : (({ exCfgReg with fields := [{ offset := 0, width := 4 }, { offset := 4, width := 4, reset := 5 }, { offset := 8, width := 8 }] } : Reg).reset).toOption.map
    (fun r => fieldGet r { offset := 4, width := 4, reset := 5 }) = some (.ok 5) := by decide


/-! ## look-up by name, alias and uid -/

/-- `find_reg` answers only with a register that carries the name (as name, alias or uid), members of groups only on request;
    and it finds a top-level register whenever one carries the name -/
theorem findReg_sound (names : List RegName) (x : Nat) (incl : Bool) (ref : RegRef) (h : findReg names x incl = some ref) :
    (∀ i, ref = .top i → ∃ r, names[i]? = some r ∧ nameHit x r.name r.aliases r.uid = true) ∧
    (∀ i k, ref = .sub i k → incl = true ∧
      ∃ r n a u, names[i]? = some r ∧ r.subs[k]? = some (n, a, u) ∧ nameHit x n a u = true) := by
  have := findRegFrom_hit names [] h
  exact ⟨fun i hi => by subst hi; exact this, fun i k hi => by subst hi; exact this⟩

theorem findReg_complete (names : List RegName) (x : Nat) (incl : Bool) (i : Nat) (r : RegName)
    (hr : names[i]? = some r) (hx : nameHit x r.name r.aliases r.uid = true) :
    ∃ ref, findReg names x incl = some ref := by
  have key : ∀ (l : List RegName) (i0 t : Nat), l[t]? = some r → ∃ ref, findRegFrom x incl l i0 = some ref := by
    intro l
    induction l with
    | nil => intro i0 t h; simp at h
    | cons a rs ih =>
      intro i0 t h
      simp only [findRegFrom]
      by_cases hh : nameHit x a.name a.aliases a.uid = true
      · rw [if_pos hh]; exact ⟨_, rfl⟩
      · rw [if_neg hh]
        cases t with
        | zero => simp at h; subst h; exact absurd hx hh
        | succ t =>
          split
          · exact ⟨_, rfl⟩
          · exact ih (i0 + 1) t (by simpa using h)
  exact key names 0 i hr

example : findReg [{ name := 1, uid := 101 }, { name := 2, uid := 102, aliases := [7], subs := [(20, [], 120), (21, [], 121)] }] 21 true
    = some (.sub 1 1) := by decide
example : findReg [{ name := 1, uid := 101 }, { name := 2, uid := 102, aliases := [7], subs := [(20, [], 120), (21, [], 121)] }] 21 false
    = none := by decide
example : findReg [{ name := 1, uid := 101 }, { name := 2, uid := 102, aliases := [7] }] 7 false = some (.top 1) := by decide

end SpsdkVerif.C11
