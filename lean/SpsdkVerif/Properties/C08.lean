/-
C08 — keys and signatures: serialisation is lossless and sign/verify is sound.

What is PROVED here is SPSDK's own layer: the NXP raw encodings (RSA `modulus ‖ exponent`, ECC `X ‖ Y`,
ECDSA `r ‖ s`), the DER `ECDSA-Sig-Value` codec that the length sniffing relies on, the length / prefix sniffing
itself (`ECDSASignature.get_encoding/get_ecc_curve/parse`, `recreate_public_numbers`, `recreate_from_data`,
`PublicKey.parse` routing, `SPSDKEncoding.get_file_encodings`), `serialize_signature`, the candidate encodings
`verify_signature` hands to the backend, and `SignatureProvider.get_signature`.
What is NOT proved (it belongs to the `cryptography` package and is covered by differential runs only):
PEM/DER/PKCS#8 serialisation of keys, password encryption, the RSA / ECDSA primitives.  In the theorems these
appear as the parameters `ext : Ext` (answers of the loaders / validators) and `backend` (the verifier).

Model: Model/Keys.lean (hand-written, tied to /repo by the C08 correspondence streams) over
Generated/KeysTables.lean (tables and the integer tests of the sniffing, re-extracted from the source on every run).
Helper lemmas: Proofs/KeysBase.lean, Keys.lean, KeysB.lean, KeysGlue.lean, KeysCert.lean.
-/
import SpsdkVerif.Proofs.Keys
import SpsdkVerif.Proofs.KeysB
import SpsdkVerif.Proofs.KeysGlue
import SpsdkVerif.Proofs.KeysCert

namespace SpsdkVerif.C08
open SpsdkVerif SpsdkVerif.Keys SpsdkVerif.Misc SpsdkVerif.Generated

/-! ## Generated tables agree with the specification constants -/

/-- `list(EccCurve)` is P-256, P-384, P-521 in this order (the loops take the first match). -/
theorem curve_table_agrees : Curve.all.map Curve.name = KeysTables.curveNames := by decide

/-- The three sources of the coordinate size agree: `KeyEccCommon.coordinate_size` (= ceil(key_size/8)),
    the literal table `ECDSASignature.COORDINATE_LENGTHS` and the local computation in `verify_signature`. -/
theorem coord_len_tables_agree (c : Curve) :
    sigCoordLen c = c.cl ∧ KeysTables.verifyCoordinateSize c.keySize = c.cl ∧ c.sigSize = 2 * c.cl := by
  cases c <;> decide

theorem coord_sizes : Curve.p256.cl = 32 ∧ Curve.p384.cl = 48 ∧ Curve.p521.cl = 66 := cl_values

theorem rsa_key_sizes_agree : KeysTables.rsaSupportedKeySizes = [2048, 3072, 4096] := by decide

/-- default hash per curve: SHA-256 / SHA-384 / SHA-512 -/
theorem ecc_default_hash_agrees :
    Curve.all.map (fun c => KeysTables.eccDefaultHash.lookup c.keySize) = [some "sha256", some "sha384", some "sha512"] := by
  decide

/-! ## ECDSA signatures, raw `r ‖ s` -/

/-- Exporting then parsing the raw form returns the same numbers and the same curve — for every `r`, `s`
    that fit the coordinate width, in particular with any number of leading zero bytes. -/
theorem ecdsa_raw_roundtrip (c : Curve) (r s : Nat) (hr : r < 256 ^ c.cl) (hs : s < 256 ^ c.cl) :
    sigExport ⟨r, s, c⟩ .nxp = .ok (rawSig c r s) ∧ sigParse (rawSig c r s) = .ok ⟨r, s, c⟩ :=
  ⟨sigExport_raw c r s hr hs, sigParse_raw c r s hr hs⟩

/-- A raw signature is always recognised as raw, with the right curve, whatever its content. -/
theorem ecdsa_sniff_raw (c : Curve) (r s : Nat) :
    sigSniff (rawSig c r s) = .ok .nxp ∧ sigCurve (rawSig c r s).length = .ok c ∧ (rawSig c r s).length = c.sigSize := by
  refine ⟨sigSniff_raw c r s, ?_, ?_⟩
  · rw [rawSig_length]; exact (raw_window_facts c).2.1
  · rw [rawSig_length]; exact (raw_window_facts c).2.2.2.2.1.symm

/-- Numbers that do not fit are refused (Python `OverflowError`), never truncated. -/
theorem ecdsa_raw_export_overflow (c : Curve) (r s : Nat) (h : 256 ^ c.cl ≤ r ∨ 256 ^ c.cl ≤ s) :
    sigExport ⟨r, s, c⟩ .nxp = .error .other := by
  simp only [sigExport, (raw_window_facts c).2.2.1, rawPair, toBytes]
  by_cases hr : r < 256 ^ c.cl
  · have hs : ¬ s < 256 ^ c.cl := by omega
    simp [hr, hs]
  · simp [hr]

/-! ## ECDSA signatures, DER -/

/-- The DER codec is lossless for ALL `r`, `s` whose encoding the decoder can read at all: the only hypothesis is
    that the encoding is shorter than 4 GiB (the decoder, rust-asn1, refuses length fields of more than four
    octets; no Python integer of that size can be exercised).  No bound relative to any curve, any number of
    leading zero bytes, top bit set or not. -/
theorem ecdsa_der_roundtrip (r s : Nat) (h : derLen r s < 2 ^ 32) : derDecode (derEncode r s) = some (r, s) :=
  derDecode_derEncode r s h

/-- … in particular for everything below `256 ^ k`, `k ≤ 2^30` bytes (all supported curves: `k = 66`). -/
theorem ecdsa_der_roundtrip_bounded (r s k : Nat) (hk : k ≤ 2 ^ 30) (hr : r < 256 ^ k) (hs : s < 256 ^ k) :
    derDecode (derEncode r s) = some (r, s) := by
  have := derLen_le r s k hk hr hs
  have e30 : (2 : Nat) ^ 32 = 4 * 2 ^ 30 := by decide
  exact derDecode_derEncode r s (by omega)

/-- the encoder's output length is the closed form `derLen` the window hypothesis below talks about -/
theorem der_length (r s : Nat) : (derEncode r s).length = derLen r s := derEncode_length r s

/-- raw → DER → raw and DER → raw → DER conversions lose nothing -/
theorem ecdsa_raw_der_convert (c : Curve) (r s : Nat) (hr : r < 256 ^ c.cl) (hs : s < 256 ^ c.cl) :
    (sigParse (rawSig c r s)).bind (fun x => sigExport x .der) = .ok (derEncode r s) ∧
    serializeSignature (derEncode r s) c.cl = .ok (rawSig c r s) := by
  constructor
  · rw [sigParse_raw c r s hr hs]; rfl
  · have hcl : c.cl ≤ 2 ^ 30 := by cases c <;> decide
    have := derLen_le r s c.cl hcl hr hs
    have e30 : (2 : Nat) ^ 32 = 4 * 2 ^ 30 := by decide
    simp only [serializeSignature, derDecode_derEncode r s (by omega)]
    exact rawPair_ok _ _ _ hr hs

/-- Orders of the base points (specification constants; only used to phrase "all (r, s) in [1, n-1]"). -/
def curveOrder : Curve → Nat
  | .p256 => 0xFFFFFFFF00000000FFFFFFFFFFFFFFFFBCE6FAADA7179E84F3B9CAC2FC632551
  | .p384 => 0xFFFFFFFFFFFFFFFFFFFFFFFFFFFFFFFFFFFFFFFFFFFFFFFFC7634D81F4372DDF581A0DB248B0A77AECEC196ACCC52973
  | .p521 => 0x1FFFFFFFFFFFFFFFFFFFFFFFFFFFFFFFFFFFFFFFFFFFFFFFFFFFFFFFFFFFFFFFFFA51868783BF2F966B7FCC0148F709A5D03BB5C9B8899C47AEBB6FB71E91386409

/-- FULL-STRENGTH statement the property asks for: every DER signature with `1 ≤ r, s < n` parses back to the
    same numbers and the curve it was made for.  It is FALSE on the current code (see `ecdsa_sniff_der_full_refuted`):
    `ECDSASignature.parse` has to guess the curve and even the encoding from the total length.  Recorded as the open
    known finding `C08-ecdsa-der-length-sniffing`; what holds is `ecdsa_sniff_der_partial`. -/
def SniffDerFull : Prop :=
  ∀ (c : Curve) (r s : Nat), 1 ≤ r → r < curveOrder c → 1 ≤ s → s < curveOrder c → sigParse (derEncode r s) = .ok ⟨r, s, c⟩

/-- What holds: whenever the DER length lies in the window `[2·cl+3, 2·cl+8]` the code attributes to the curve
    (this is the case for all but a ≈2⁻³² fraction of random signatures), parsing is exact. -/
theorem ecdsa_sniff_der_partial (c : Curve) (r s : Nat) (hw : LenWindow c r s) :
    sigParse (derEncode r s) = .ok ⟨r, s, c⟩ := sigParse_der c r s hw

/-- Witness 1 (replayed on the real code by the harness): `r = s = 1`, DER length 8 matches no curve. -/
example : derLen 1 1 = 8 ∧ sigParse (derEncode 1 1) = .error .spsdk := by decide

/-- Witness 2: a P-384 signature whose `s` has six leading zero bytes; its DER form is 96 bytes long, is taken
    for a raw P-384 signature and parses *without error* to different numbers. -/
def w2r : Nat := 0x100000000000000000000000000000000000000000000000000000000000000000000000000000000000000000003039  -- 2^380 + 12345
def w2s : Nat := 0x40000000000000000000000000000000000000000000000000000000000000000000000000000010932  -- 2^330 + 67890
example : w2r < curveOrder .p384 ∧ w2s < curveOrder .p384 := by decide +kernel
example : (derEncode w2r w2s).length = 96 := by
  simp only [der_length, derLen, tlvLen_eq, intLen_eq w2r (by decide), intLen_eq w2s (by decide)]
  decide +kernel
example : sigSniff (derEncode w2r w2s) = .ok .nxp := by
  have hl : (derEncode w2r w2s).length = 96 := by
    simp only [der_length, derLen, tlvLen_eq, intLen_eq w2r (by decide), intLen_eq w2s (by decide)]
    decide +kernel
  rw [sigSniff, hl]; rfl
example : ∃ x, sigParse (derEncode w2r w2s) = .ok x ∧ x.curve = .p384 ∧ x.r ≠ w2r := by
  have hl : (derEncode w2r w2s).length = 96 := by
    simp only [der_length, derLen, tlvLen_eq, intLen_eq w2r (by decide), intLen_eq w2s (by decide)]
    decide +kernel
  refine ⟨⟨beDec ((derEncode w2r w2s).take 48), beDec ((derEncode w2r w2s).drop 48), .p384⟩, ?_, rfl, by decide +kernel⟩
  rw [sigParse_of_sniff_nxp _ (by rw [hl]; rfl), hl]; rfl

/-- Witness 3: one zero byte less (97 bytes) is taken for raw as well and then matches no curve. -/
def w3s : Nat := 0x4000000000000000000000000000000000000000000000000000000000000000000000000000000000001  -- 2^338 + 1
example : (derEncode w2r w3s).length = 97 ∧ sigParse (derEncode w2r w3s) = .error .spsdk := by
  have hl : (derEncode w2r w3s).length = 97 := by
    simp only [der_length, derLen, tlvLen_eq, intLen_eq w2r (by decide), intLen_eq w3s (by decide)]
    decide +kernel
  refine ⟨hl, ?_⟩
  rw [sigParse_of_sniff_nxp _ (by rw [hl]; rfl), hl]; rfl

theorem ecdsa_sniff_der_full_refuted : ¬ SniffDerFull := by
  intro h
  have := h .p256 1 1 (by decide) (by decide) (by decide) (by decide)
  revert this
  decide

/-! ### the EXACT set of DER lengths on which the sniffing works -/

theorem sig_curve_small : ∀ L, L < 1024 →
    (sigCurve L = .ok .p256 ↔ (L = 64 ∨ (67 ≤ L ∧ L ≤ 72))) ∧
    (sigCurve L = .ok .p384 ↔ (L = 96 ∨ (99 ≤ L ∧ L ≤ 104))) ∧
    (sigCurve L = .ok .p521 ↔ (L = 132 ∨ (135 ≤ L ∧ L ≤ 140))) := by
  intro L _
  obtain ⟨h1, h2, h3⟩ := coord_sizes
  rw [sigCurve_ok_iff, sigCurve_ok_iff, sigCurve_ok_iff, h1, h2, h3]
  omega

theorem sigCurve_error_spsdk (L : Nat) (e : PyErr) (h : sigCurve L = .error e) : e = .spsdk := by
  unfold sigCurve at h
  split at h
  · cases h
  · cases h; rfl

theorem sig_curve_large (L : Nat) (h : 1024 ≤ L) : sigCurve L = .error .spsdk := by
  cases hc : sigCurve L with
  | ok c =>
    have := (sigCurve_ok_iff L c).1 hc
    have := coord_sizes
    cases c <;> omega
  | error e => rw [sigCurve_error_spsdk L e hc]

/-- `ECDSASignature.get_ecc_curve` for EVERY length (tests generated from the source): curve `c` is answered iff the length is `c`'s raw
    length `2·cl` or lies in `c`'s DER window `[2·cl+3, 2·cl+8]`; every other length is refused. -/
theorem sig_curve_exact (L : Nat) (c : Curve) :
    sigCurve L = .ok c ↔ (L = 2 * c.cl ∨ (2 * c.cl + 3 ≤ L ∧ L ≤ 2 * c.cl + 8)) :=
  sigCurve_ok_iff L c

/-- EXACT characterisation of `ECDSASignature.parse` on a DER signature, for ALL `(r, s)` (encoding shorter than 4 GiB), by the length
    `L = derLen r s` alone — the three classes are disjoint and exhaustive:
    * `L ∈ {64, 65, 96, 97, 132, 133}`: the bytes are taken for raw `r ‖ s` (never DER-decoded): halves of the DER string as numbers;
    * `L` in the window `[2·cl+3, 2·cl+8]` of a curve `c`: exact — `(r, s, c)`;
    * every other `L`: refused with an SPSDK error.
    So the open finding `C08-ecdsa-der-length-sniffing` concerns exactly the complement of the three windows, and inside a window the
    curve reported is the window's (a P-384 signature with enough leading zero bytes to fall into 67..72 is reported as P-256). -/
theorem ecdsa_sniff_der_exact (r s : Nat) (h : derLen r s < 2 ^ 32) :
    (derLen r s ∈ [64, 65, 96, 97, 132, 133] →
      sigSniff (derEncode r s) = .ok .nxp ∧
      sigParse (derEncode r s) =
        (match sigCurve (derLen r s) with
         | .ok c => .ok ⟨beDec ((derEncode r s).take (derLen r s / 2)), beDec ((derEncode r s).drop (derLen r s / 2)), c⟩
         | .error e => .error e)) ∧
    (∀ c, LenWindow c r s → sigParse (derEncode r s) = .ok ⟨r, s, c⟩) ∧
    (derLen r s ∉ [64, 65, 96, 97, 132, 133] → (∀ c, ¬ LenWindow c r s) → sigParse (derEncode r s) = .error .spsdk) := by
  refine ⟨?_, fun c hw => sigParse_der c r s hw, ?_⟩
  · intro hm
    have hs := (Keys.sniffed_raw_lengths (derLen r s)).mpr hm
    rw [← derEncode_length] at hs
    refine ⟨by rw [sigSniff, hs]; rfl, ?_⟩
    rw [sigParse_of_sniff_nxp _ hs, derEncode_length]
    cases sigCurve (derLen r s) <;> rfl
  · intro hm hw
    have hs : KeysTables.sigSniffNxp (derLen r s) = false := by
      rw [Bool.eq_false_iff]; exact fun hh => hm ((Keys.sniffed_raw_lengths _).mp hh)
    have hdec := derDecode_derEncode r s h
    have hc : sigCurve (derLen r s) = .error .spsdk := by
      cases hcur : sigCurve (derLen r s) with
      | ok c =>
        rcases (sig_curve_exact _ c).mp hcur with h1 | h2
        · exfalso; apply hm; have := coord_sizes; cases c <;> simp <;> omega
        · exact absurd h2 (hw c)
      | error e => rw [sigCurve_error_spsdk _ e hcur]
    unfold sigParse sigSniff
    simp only [derEncode_length, hs, hdec, hc]
    simp

/-- the three windows and the six raw lengths are pairwise disjoint, so the classes above never overlap -/
theorem sniff_classes_disjoint (c : Curve) (r s : Nat) (hw : LenWindow c r s) :
    derLen r s ∉ [64, 65, 96, 97, 132, 133] ∧ ∀ c', LenWindow c' r s → c' = c := by
  obtain ⟨h1, h2⟩ := der_window_facts c _ hw
  refine ⟨fun hm => ?_, fun c' hw' => ?_⟩
  · rw [(Keys.sniffed_raw_lengths _).2 hm] at h1; cases h1
  · rw [(der_window_facts c' _ hw').2] at h2; exact Except.ok.inj h2

/-! ## sign → verify plumbing and the signature provider -/

/-- `PrivateKeyEcc.sign` (raw output) followed by `PublicKeyEcc.verify_signature`: the backend is asked about
    exactly the DER signature the backend produced, so the round trip succeeds whenever the backend's own does. -/
theorem sign_raw_then_verify (backend : Bytes → Bool) (c : Curve) (r s : Nat) (hr : r < 256 ^ c.cl) (hs : s < 256 ^ c.cl)
    (hb : backend (derEncode r s) = true) :
    serializeSignature (derEncode r s) c.cl = .ok (rawSig c r s) ∧ verifySignature backend c (rawSig c r s) = true := by
  refine ⟨(ecdsa_raw_der_convert c r s hr hs).2, ?_⟩
  unfold verifySignature
  rw [verifyCandidates_raw c r s hr hs]
  simp [hb]

/-- `sign(der_format=True)` followed by `verify_signature`: a signature the backend accepts is accepted, whatever
    its length (on the unrepaired code this needed `derLen r s ≠ 2·cl`: a DER signature exactly as long as the raw
    form was read as raw and rejected — proposed_fixes/C08-1.diff). -/
theorem verify_der (backend : Bytes → Bool) (c : Curve) (sig : Bytes) (hb : backend sig = true) :
    verifySignature backend c sig = true := by
  unfold verifySignature
  rw [List.any_eq_true]
  exact ⟨sig, by unfold verifyCandidates; split <;> simp, hb⟩

/-- Conversely SPSDK accepts only what the backend accepted in one of the two legitimate readings (as given, or
    as raw `r ‖ s` of the key's width): no acceptance is introduced by SPSDK's own code. -/
theorem verify_sound (backend : Bytes → Bool) (c : Curve) (sig : Bytes) (h : verifySignature backend c sig = true) :
    backend sig = true ∨
      (sig.length = c.sigSize ∧ backend (derEncode (beDec (sig.take c.cl)) (beDec (sig.drop c.cl))) = true) := by
  unfold verifySignature verifyCandidates at h
  rw [(coord_len_tables_agree c).2.1] at h
  split at h
  · rename_i hl
    simp only [List.any_cons, List.any_nil, Bool.or_false, Bool.or_eq_true] at h
    rcases h with h | h
    · exact Or.inr ⟨hl, h⟩
    · exact Or.inl h
  · simp only [List.any_cons, List.any_nil, Bool.or_false] at h
    exact Or.inl h

/-- `SignatureProvider.get_signature`: whatever a provider's `sign` returns — raw, or DER inside the window — the
    result is the raw `r ‖ s` of the curve's width (`signature_length`); asking for DER converts losslessly. -/
theorem sigprovider_normalises (c : Curve) (r s : Nat) (hr : r < 256 ^ c.cl) (hs : s < 256 ^ c.cl) :
    getSignature (rawSig c r s) none = .ok (rawSig c r s) ∧
    getSignature (rawSig c r s) (some .nxp) = .ok (rawSig c r s) ∧
    getSignature (rawSig c r s) (some .der) = .ok (derEncode r s) ∧
    (rawSig c r s).length = c.sigSize ∧
    (LenWindow c r s → getSignature (derEncode r s) none = .ok (rawSig c r s)) := by
  refine ⟨?_, ?_, ?_, ?_, fun hw => getSignature_der c r s hr hs hw⟩
  · rw [getSignature_raw c r s hr hs]
  · rw [getSignature_raw c r s hr hs]
  · rw [getSignature_raw c r s hr hs]
  · rw [rawSig_length]; exact (raw_window_facts c).2.2.2.2.1.symm

/-- Outside the window the provider's DER output is passed on unchanged (only a log warning) — the same finding. -/
example : getSignature (derEncode 1 1) none = .ok (derEncode 1 1) := by decide

/-! ## public keys, NXP raw forms -/

/-- RSA `modulus ‖ exponent`: for every supported size, every modulus of exactly that many bits and every exponent
    of three or four bytes (65537 included) the raw export is `ks/8 + 3` or `+ 4` bytes and is read back exactly. -/
theorem rsa_raw_roundtrip (ks n e : Nat) (hks : ks ∈ KeysTables.rsaSupportedKeySizes) (hn : TopBit n ks)
    (he : 65536 ≤ e ∧ e < 2 ^ 32) :
    ∃ d, rsaExportNxp n e = .ok d ∧ d = beEnc (ks / 8) n ++ beEnc (byteLen e) e ∧
      (d.length = ks / 8 + 3 ∨ d.length = ks / 8 + 4) ∧ rsaRecreateNumbers d = .ok (n, e) :=
  B.rsa_raw_roundtrip ks n e hks hn he

/-- ECC `X ‖ Y`: fixed width per curve (leading zero bytes kept), the curve is recovered from the length. -/
theorem ecc_raw_roundtrip (ext : Ext) (c : Curve) (x y : Nat) (hx : x < 256 ^ c.cl) (hy : y < 256 ^ c.cl)
    (hon : ext.onCurve c x y = true) :
    eccExportNxp c x y = .ok (rawSig c x y) ∧ (rawSig c x y).length = 2 * c.cl ∧
      eccRecreateFromData ext (rawSig c x y) none = .ok (.ecc c x y) ∧
      eccRecreateFromData ext (rawSig c x y) (some c) = .ok (.ecc c x y) :=
  B.ecc_raw_roundtrip ext c x y hx hy hon

/-- For EVERY blob length at most one (curve, raw/DER) alternative or RSA size matches, and at most one curve
    matches a signature length: the first-match loops are order independent and raw ECC / raw RSA / the DER
    windows can never be confused with one another. -/
theorem raw_lengths_unambiguous (L : Nat) :
    (B.eccMatches L).length + (B.rsaMatches L).length ≤ 1 ∧ (B.sigMatches L).length ≤ 1 :=
  B.raw_lengths_unambiguous L

/-- exactly these signature lengths are taken for raw `r ‖ s` before any DER decoding is attempted -/
theorem sniffed_raw_lengths (L : Nat) : KeysTables.sigSniffNxp L = true ↔ L ∈ [64, 65, 96, 97, 132, 133] :=
  Keys.sniffed_raw_lengths L

/-! ## `get_file_encodings` and the routing of `PublicKey.parse` -/

/-- A DER object of 128 bytes or more (`30 8x …`) is never mistaken for PEM: its second byte is not valid UTF-8. -/
theorem sniff_der_long (l : UInt8) (rest : Bytes) (hl : 0x80 ≤ l.toNat ∧ l.toNat ≤ 0xBF) :
    fileEncoding (0x30 :: l :: rest) = .der := by
  have : utf8Valid (0x30 :: l :: rest) = false := by
    have h1 : ¬ l.toNat < 128 := by omega
    have h2 : ¬ (194 ≤ l.toNat ∧ l.toNat ≤ 223) := by omega
    have h3 : ¬ (224 ≤ l.toNat ∧ l.toNat ≤ 239) := by omega
    have h4 : ¬ (240 ≤ l.toNat ∧ l.toNat ≤ 244) := by omega
    simp [utf8Valid, utf8ValidF, h1, h2, h3, h4]
  simp [fileEncoding, this]

/-- ASCII text containing `----` (every PEM file) is PEM; anything without `----` is DER. -/
theorem sniff_pem_ascii (d : Bytes) (hascii : ∀ b ∈ d, b.toNat < 128) (hd : hasDashes d = true) :
    fileEncoding d = .pem := by
  simp [fileEncoding, hd, utf8Valid, B.utf8_ascii d.length d (Nat.le_refl _) hascii]
theorem sniff_no_dashes (d : Bytes) (hd : hasDashes d = false) : fileEncoding d = .der := by
  simp [fileEncoding, hd]

/-- The auto-detecting and both type-specific entry points return the exported ECC key for its NXP raw form.
    Hypotheses name what is assumed of `cryptography` (`loadDer = none`: the DER loader does not accept the raw
    blob) and the one residual risk of the sniffing (`fileEncoding = der`: the 2·cl bytes are not UTF-8 text
    containing `----`). -/
theorem pubparse_nxp_ecc (ext : Ext) (c : Curve) (x y : Nat) (hx : x < 256 ^ c.cl) (hy : y < 256 ^ c.cl)
    (hon : ext.onCurve c x y = true) (hder : ext.loadDer = none) (hs : fileEncoding (rawSig c x y) = .der) :
    pubParse ext (rawSig c x y) = .ok (.ecc c x y) ∧ pubParseEcc ext (rawSig c x y) = .ok (.ecc c x y) ∧
      pubParseRsa ext (rawSig c x y) = .error .spsdk := by
  have h1 : pubParse ext (rawSig c x y) = .ok (.ecc c x y) := by
    simp [pubParse, hs, hder, (B.ecc_raw_roundtrip ext c x y hx hy hon).2.2.1]
  refine ⟨h1, ?_, ?_⟩
  · simp [pubParseEcc, h1]
  · simp [pubParseRsa, h1]

/-- The routing does not look at the first byte: a raw ECC key of a legal length is recovered by the auto-detecting
    entry point WHATEVER its leading byte is (0x30 = DER SEQUENCE tag, 0x2D = '-', 0x04, …), as long as the DER loader
    either refuses the blob (then the raw fallback runs) or yields the very same key.  (A re-routing such as
    "data starting with 0x30 goes to the DER loader only" falsifies this statement's model counterpart and shows up
    in the `key_serialisation` correspondence and oracle, which sweep all 256 leading bytes of X and Y per curve.) -/
theorem pubparse_nxp_ecc_any_first_byte (ext : Ext) (c : Curve) (x y : Nat) (hx : x < 256 ^ c.cl) (hy : y < 256 ^ c.cl)
    (hon : ext.onCurve c x y = true) (hder : ext.loadDer = none ∨ ext.loadDer = some (.ecc c x y))
    (hs : fileEncoding (rawSig c x y) = .der) :
    pubParse ext (rawSig c x y) = .ok (.ecc c x y) ∧ pubParseEcc ext (rawSig c x y) = .ok (.ecc c x y) := by
  rcases hder with hder | hder
  · exact ⟨(pubparse_nxp_ecc ext c x y hx hy hon hder hs).1, (pubparse_nxp_ecc ext c x y hx hy hon hder hs).2.1⟩
  · have h : pubParse ext (rawSig c x y) = .ok (.ecc c x y) := by simp [pubParse, hs, hder]
    exact ⟨h, by simp [pubParseEcc, h]⟩

/-- non-vacuity: a raw P-256 blob whose first byte is the DER SEQUENCE tag, sniffed as binary -/
example : (rawSig .p256 (0x30 * 256 ^ 31 + 5) 7).head? = some 0x30 ∧ fileEncoding (rawSig .p256 (0x30 * 256 ^ 31 + 5) 7) = .der := by
  decide +kernel

theorem pubparse_nxp_rsa (ext : Ext) (ks n e : Nat) (hks : ks ∈ KeysTables.rsaSupportedKeySizes) (hn : TopBit n ks)
    (he : 65536 ≤ e ∧ e < 2 ^ 32) (hok : ext.rsaOk n e = true) (hder : ext.loadDer = none)
    (d : Bytes) (hd : rsaExportNxp n e = .ok d) (hs : fileEncoding d = .der) :
    pubParse ext d = .ok (.rsa n e) ∧ pubParseRsa ext d = .ok (.rsa n e) ∧ pubParseEcc ext d = .error .spsdk := by
  obtain ⟨d', hd', _, hlen, hrec⟩ := B.rsa_raw_roundtrip ks n e hks hn he
  have hdd : d' = d := by
    rw [hd'] at hd; exact Except.ok.inj hd
  subst hdd
  have hecc : eccRecreateFromData ext d' none = .error .spsdk := by
    unfold eccRecreateFromData
    rw [B.eccGetCurve_rsa_len ks d'.length hks (by omega)]
  have hrsa : rsaRecreateFromData ext d' = .ok (.rsa n e) := by
    simp [rsaRecreateFromData, hrec, hok]
  have h1 : pubParse ext d' = .ok (.rsa n e) := by
    simp [pubParse, hs, hder, hecc, hrsa]
  refine ⟨h1, ?_, ?_⟩
  · simp [pubParseRsa, h1]
  · simp [pubParseEcc, h1]

/-- PEM and DER blobs are handed to the matching loader and its answer is returned unchanged. -/
theorem pubparse_pem_der (ext : Ext) (d : Bytes) (k : PubKey) :
    (fileEncoding d = .pem → ext.loadPem = some k → pubParse ext d = .ok k) ∧
    (fileEncoding d = .der → ext.loadDer = some k → pubParse ext d = .ok k) := by
  constructor
  · intro h1 h2; simp [pubParse, h1, h2]
  · intro h1 h2; simp [pubParse, h1, h2]

/-! ## the glue around the key objects (Model/KeysGlue.lean) -/

/-! ### DER → raw → DER with the explicit window predicate -/

/-- For ALL `(r, s)`: whenever the DER length lies in the window of curve `c` (the exact predicate under which
    `ECDSASignature.parse` recovers the curve) the DER form survives parse → export(DER) unchanged, and — when the numbers
    fit the coordinate width — DER → raw → DER is the identity and so is raw → DER → raw. -/
theorem ecdsa_der_raw_der (c : Curve) (r s : Nat) (hw : LenWindow c r s) :
    (sigParse (derEncode r s)).bind (fun x => sigExport x .der) = .ok (derEncode r s) ∧
    (r < 256 ^ c.cl → s < 256 ^ c.cl →
      (sigParse (derEncode r s)).bind (fun x => sigExport x .nxp) = .ok (rawSig c r s) ∧
      (sigParse (rawSig c r s)).bind (fun x => sigExport x .der) = .ok (derEncode r s) ∧
      (sigParse (rawSig c r s)).bind (fun x => sigExport x .nxp) = .ok (rawSig c r s)) := by
  refine ⟨by rw [sigParse_der c r s hw]; rfl, fun hr hs => ⟨?_, ?_, ?_⟩⟩
  · rw [sigParse_der c r s hw]; exact sigExport_raw c r s hr hs
  · rw [sigParse_raw c r s hr hs]; rfl
  · rw [sigParse_raw c r s hr hs]; exact sigExport_raw c r s hr hs

/-! ### attempt order of `extract_public_key_from_data` (and of every `try … except SPSDKError: pass` chain) -/

/-- A certificate is tried before a private key before a public key; the first decoder that accepts wins, whatever the
    later ones would say. -/
theorem extract_public_key_order {α : Type} (k : α) (p q : Try α) :
    extractPublicKey (.ok k) p q = .ok k ∧ extractPublicKey .spsdk (.ok k) q = .ok k ∧
    extractPublicKey .spsdk .spsdk (.ok k) = .ok k := ⟨rfl, rfl, rfl⟩

/-- If all three refuse the result is an SPSDK error — and only then. -/
theorem extract_public_key_all_refuse {α : Type} (c p q : Try α) :
    extractPublicKey c p q = .error .spsdk ↔ c = .spsdk ∧ p = .spsdk ∧ q = .spsdk := by
  unfold extractPublicKey
  rw [firstAccept_spsdk_iff]
  simp

/-- A failure that is not an `SPSDKError` does not fall through: it escapes exactly when every earlier attempt refused. -/
theorem extract_public_key_escape {α : Type} (c p q : Try α) :
    extractPublicKey c p q = .error .other ↔
      c = .other ∨ (c = .spsdk ∧ p = .other) ∨ (c = .spsdk ∧ p = .spsdk ∧ q = .other) := by
  cases c <;> simp [extractPublicKey, firstAccept]
  cases p <;> simp [firstAccept]
  cases q <;> simp [firstAccept]

/-- General form, for chains of any length (`PublicKey.parse`, `reconstruct_key`, …). -/
theorem first_accept_spec {α : Type} (l : List (Try α)) (a : α) :
    (firstAccept l = .ok a ↔ ∃ pre post, l = pre ++ .ok a :: post ∧ ∀ t ∈ pre, t = .spsdk) ∧
    (firstAccept l = .error .spsdk ↔ ∀ t ∈ l, t = .spsdk) ∧
    (firstAccept l = .error .other ↔ ∃ pre post, l = pre ++ .other :: post ∧ ∀ t ∈ pre, t = .spsdk) :=
  ⟨firstAccept_eq_iff l (.ok a) (fun h => nomatch h), firstAccept_spsdk_iff l, firstAccept_eq_iff l .other (fun h => nomatch h)⟩

/-- `get_matching_key_id(_from_signature)` returns `i` iff key `i` matches and no earlier key does; it refuses with an SPSDK
    error iff no key matches. -/
theorem matching_key_id_spec (ms : List Bool) (i : Nat) :
    (matchingKeyId ms = .ok i ↔ ms[i]? = some true ∧ ∀ j, j < i → ms[j]? = some false) ∧
    (matchingKeyId ms = .error .spsdk ↔ ∀ m ∈ ms, m = false) := by
  exact ⟨matchingKeyId_ok_iff ms i, firstTrueFrom_err_iff ms 0⟩

/-! ### certificates -/

/-- `Certificate.parse(cert.export(NXP))` returns the certificate: the zero padding to a multiple of four is stripped one
    byte per `ExtraData` error until the loader accepts.  Assumptions on `cryptography` (hypotheses): it loads the DER form
    and reports `ExtraData` for the DER form followed by zero bytes. -/
theorem cert_nxp_roundtrip {γ : Type} (load : Bytes → LoadRes γ) (der : Bytes) (c : γ)
    (hload : load der = .ok c) (hextra : ∀ k, 0 < k → load (der ++ List.replicate k 0) = .extraData) :
    certLoadDer load (certExportNxp der) = .ok c ∧ certLoadDer load der = .ok c := by
  constructor
  · rw [certLoadDer_eq]
    unfold certExportNxp
    exact certLoadDerF_padded load der c hload hextra _ _ (by rw [List.length_append, List.length_replicate]; omega)
  · have := certLoadDerF_padded load der c hload hextra 0 der.length (by omega)
    rw [certLoadDer_eq]
    simpa using this

/-- … through `Certificate.parse` itself for every DER certificate of 128 bytes or more (`30 8x …`): padded or not it is
    never sniffed as PEM. -/
theorem cert_parse_nxp_roundtrip {γ : Type} (loadPem : Bytes → Option γ) (load : Bytes → LoadRes γ) (l : UInt8) (rest : Bytes) (c : γ)
    (hl : 0x80 ≤ l.toNat ∧ l.toNat ≤ 0xBF)
    (hload : load (0x30 :: l :: rest) = .ok c)
    (hextra : ∀ k, 0 < k → load ((0x30 :: l :: rest) ++ List.replicate k 0) = .extraData) :
    certParse loadPem load (certExportNxp (0x30 :: l :: rest)) = .ok c ∧ certParse loadPem load (0x30 :: l :: rest) = .ok c := by
  have h1 : fileEncoding (certExportNxp (0x30 :: l :: rest)) = .der := by
    unfold certExportNxp
    rw [List.cons_append, List.cons_append]
    exact sniff_der_long l _ hl
  have h2 : fileEncoding (0x30 :: l :: rest) = .der := sniff_der_long l rest hl
  have hr := cert_nxp_roundtrip load (0x30 :: l :: rest) c hload hextra
  unfold certParse
  simp [h1, h2, hr.1, hr.2]

/-- `raw_size` is the DER length rounded up to a multiple of four -/
theorem cert_raw_size (der : Bytes) :
    certRawSize der % 4 = 0 ∧ der.length ≤ certRawSize der ∧ certRawSize der < der.length + 4 := by
  unfold certRawSize certExportNxp
  rw [List.length_append, List.length_replicate]
  omega

/-- Only zero bytes are ever stripped: trailing data that is not zero is refused. -/
theorem cert_strip_only_zeros {γ : Type} (load : Bytes → LoadRes γ) (data : Bytes)
    (h : load data = .extraData) (hz : data.getLast? ≠ some 0) : certLoadDer load data = .error .spsdk := by
  rw [certLoadDer_eq]
  unfold certLoadDerF
  rw [h]
  simp [hz]

/-! #### the padding is removed BY THE DECLARED LENGTH of the DER element -/

/-- What the generator found in `Certificate.parse` (certificate.py): a retry loop that removes ONE trailing byte per failed load,
    only the byte 0x00, only on the loader's `ExtraData` error.  (An unconditional `data.rstrip(b"\\0")` is generated as mode 1 and
    falsifies this and — through `certLoadDer` — every theorem of this section.) -/
theorem cert_pad_removal_agrees :
    KeysTables.certPadMode = 0 ∧ KeysTables.certPadBytes = [0] ∧ KeysTables.certPadNeedsExtraData = true := by decide

/-- The declared total length is a function of the header alone: appended bytes never change it … -/
theorem der_total_len_header_only (d t : Bytes) (n : Nat) (h : derTotalLen d = some n) : derTotalLen (d ++ t) = some n :=
  derTotalLen_append d t n h

/-- … and every canonical DER SEQUENCE (content shorter than 4 GiB) declares exactly its own length. -/
theorem der_total_len_canonical (content : Bytes) (h : content.length < 2 ^ 32) :
    derTotalLen (encTLV 0x30 content) = some (encTLV 0x30 content).length := derTotalLen_encTLV content h

/-- FULL characterisation of `load_der_certificate` over the length-driven loader, for EVERY element `el` that declares its own length
    and EVERY tail: the tail is dropped iff it consists of zero bytes only, and the answer is then the loader's answer on exactly `el`.
    Nothing of a well-formed `el` is ever removed — whatever bytes it ends with (a signature ending in 0x00 …); `syn el = .extra`
    (the decoder's `ExtraData` error raised INSIDE a damaged element) may cost the element zero bytes, but the outcome is the error. -/
theorem cert_strip_by_declared_length {γ : Type} (syn : Bytes → SynRes) (body : Bytes → Option γ) (el tail : Bytes)
    (hn : derTotalLen el = some el.length) :
    certLoadDer (derLoad syn body) (el ++ tail) = if tail.all (· == 0) then loadExact syn body el else .error .spsdk := by
  rw [certLoadDer_eq]
  exact certLoadDerF_derLoad syn body el hn tail _ (by rw [List.length_append]; omega)

/-- `parse (export_nxp c) = c` with NO assumption on the last bytes of the DER form (`cert_nxp_roundtrip` assumes
    the loader's answers; here they follow from the declared length): the padded form, the bare DER form and the DER form followed by
    any number of zero bytes all give the certificate. -/
theorem cert_nxp_roundtrip_any_ending {γ : Type} (syn : Bytes → SynRes) (body : Bytes → Option γ) (der : Bytes) (c : γ)
    (hn : derTotalLen der = some der.length) (hsyn : syn der = .ok) (hbody : body der = some c) :
    certLoadDer (derLoad syn body) (certExportNxp der) = .ok c ∧ certLoadDer (derLoad syn body) der = .ok c ∧
    ∀ k, certLoadDer (derLoad syn body) (der ++ List.replicate k 0) = .ok c := by
  have hall : ∀ k, (List.replicate k (0 : UInt8)).all (· == 0) = true := by
    intro k; simp
  have hex : loadExact syn body der = .ok c := by simp [loadExact, hsyn, hbody]
  have hk : ∀ k, certLoadDer (derLoad syn body) (der ++ List.replicate k 0) = .ok c := by
    intro k; rw [cert_strip_by_declared_length syn body der _ hn, hall k, if_pos rfl, hex]
  refine ⟨hk _, ?_, hk⟩
  have := hk 0
  simpa using this

/-- … and through `Certificate.parse` itself (sniffing included) for every DER certificate of 128 bytes or more. -/
theorem cert_parse_nxp_roundtrip_any_ending {γ : Type} (loadPem : Bytes → Option γ) (syn : Bytes → SynRes) (body : Bytes → Option γ)
    (l : UInt8) (rest : Bytes) (c : γ) (hl : 0x80 ≤ l.toNat ∧ l.toNat ≤ 0xBF)
    (hn : derTotalLen (0x30 :: l :: rest) = some (0x30 :: l :: rest).length)
    (hsyn : syn (0x30 :: l :: rest) = .ok) (hbody : body (0x30 :: l :: rest) = some c) :
    certParse loadPem (derLoad syn body) (certExportNxp (0x30 :: l :: rest)) = .ok c := by
  have h1 : fileEncoding (certExportNxp (0x30 :: l :: rest)) = .der := by
    unfold certExportNxp
    rw [List.cons_append, List.cons_append]
    exact sniff_der_long l _ hl
  unfold certParse
  rw [h1]
  simp only [reduceCtorEq, if_false]
  exact (cert_nxp_roundtrip_any_ending syn body _ c hn hsyn hbody).1

/-- Damaged input is refused, never "repaired": a non-zero byte anywhere behind the element, or an element cut short, is an SPSDK error. -/
theorem cert_trailer_refused {γ : Type} (syn : Bytes → SynRes) (body : Bytes → Option γ) (el tail : Bytes)
    (hn : derTotalLen el = some el.length) (hnz : ∃ b ∈ tail, b ≠ 0) :
    certLoadDer (derLoad syn body) (el ++ tail) = .error .spsdk := by
  rw [cert_strip_by_declared_length syn body el tail hn]
  obtain ⟨b, hb, hb0⟩ := hnz
  have : tail.all (· == 0) = false := by
    rw [Bool.eq_false_iff]; intro h
    rw [List.all_eq_true] at h
    exact hb0 (by simpa using h b hb)
  rw [this]; rfl

/-- The variant "strip every trailing zero, then load" (generated mode 1) is NOT equivalent: it loses every certificate whose DER form
    ends in 0x00 — witness: a 4-byte element ending in zero, padded to 4 (unchanged) resp. followed by zeros. -/
theorem cert_rstrip_variant_refuted :
    let el : Bytes := [0x30, 0x02, 0x05, 0x00]
    derTotalLen el = some el.length ∧
    certLoadDer (derLoad (fun _ => .ok) some) (el ++ [0, 0]) = .ok el ∧
    certLoadDerStrip [0] (derLoad (fun _ => .ok) some) (el ++ [0, 0]) = .error .spsdk ∧
    certLoadDerStrip [0] (derLoad (fun _ => .ok) some) (certExportNxp el) = .error .spsdk := by decide

/-- non-vacuity: elements that declare their own length and END IN ZERO bytes (short and long length form) -/
example : derTotalLen [0x30, 0x03, 0x01, 0x00, 0x00] = some 5 := by decide
example : derTotalLen (encTLV 0x30 (List.replicate 200 0)) = some 203 ∧ (encTLV 0x30 (List.replicate 200 0)).getLast? = some 0 := by
  decide +kernel
example : certLoadDer (derLoad (fun _ => .ok) some) (certExportNxp [0x30, 0x03, 0x01, 0x00, 0x00]) = .ok [0x30, 0x03, 0x01, 0x00, 0x00] := by
  decide
example : certLoadDer (derLoad (fun _ => .ok) some) ([0x30, 0x03, 0x01, 0x00, 0x00] ++ [0, 0, 7]) = .error .spsdk := by decide

/-- `validate_certificate_chain`: a chain of `n ≥ 2` certificates yields `n - 1` answers, answer `i` being
    `chain[i].validate(chain[i+1])` (subject first, its issuer next); shorter chains are refused. -/
theorem validate_chain_spec {γ : Type} (valid : γ → γ → Bool) (chain : List γ) :
    (chain.length ≤ 1 → validateChain valid chain = .error .spsdk) ∧
    (2 ≤ chain.length → ∃ r, validateChain valid chain = .ok r ∧ r.length = chain.length - 1 ∧
      ∀ i (h : i + 1 < chain.length), r[i]? = some (valid (chain[i]'(by omega)) (chain[i + 1]'h))) := by
  constructor
  · intro h; simp [validateChain, h]
  · intro h
    have h' : ¬ chain.length ≤ 1 := by omega
    refine ⟨List.zipWith valid chain chain.tail, by simp [validateChain, h'], ?_, ?_⟩
    · simp only [List.length_zipWith, List.length_tail]; omega
    · intro i hi
      rw [List.getElem?_zipWith]
      have h1 : chain[i]? = some (chain[i]'(by omega)) := List.getElem?_eq_getElem (by omega)
      have h2 : chain.tail[i]? = some (chain[i + 1]'hi) := by
        rw [List.getElem?_tail]; exact List.getElem?_eq_getElem hi
      rw [h1, h2]

/-- `Certificate.validate` / `validate_subject` check the signature with the parameters the certificate was signed with:
    the certificate's hash, and PSS padding exactly for RSASSA-PSS certificates (full strength since commit 10a0142; the
    seeded/unrepaired variant that never passes `pss_padding` falsifies it for `.rsaPss`). -/
theorem cert_validate_params (alg : CertAlg) (hash : String) :
    certValidateCall alg hash = certValidateSpec alg hash := rfl

/-! ### signature providers -/

/-- A provider created by `SignatureProvider.create` / `get_signature_provider(sp_cfg="type=file;…", pss_padding=v)` signs
    with PSS iff `value_to_bool(v)`: `pss_padding` is a NAMED parameter of `PlainFileSP.__init__` (list generated from the
    source), so `filter_params` keeps it although it is a reserved key (full strength since commit 9fd8586; before, the key
    was deleted and the provider always signed PKCS#1 v1.5). -/
theorem sp_create_honours_pss (params : Params) (v : PVal) (h : params.lookup "pss_padding" = some v) :
    createdUsesPss params = valueToBool v := by
  simp [createdUsesPss, plainFileSignKwargs, lookup_pss_initKwargs, lookup_pss_filterParams, h, PVal.truthy]

/-- … and without the key the provider signs PKCS#1 v1.5. -/
theorem sp_create_default_v15 (params : Params) (h : params.lookup "pss_padding" = none) :
    createdUsesPss params = false := by
  simp [createdUsesPss, plainFileSignKwargs, lookup_pss_initKwargs, lookup_pss_filterParams, h]

/-- The `local_file_key=` path converts the same way (the text `"False"` is false). -/
theorem sp_local_file_honours_pss (kwargs : Params) (v : PVal) (h : kwargs.lookup "pss_padding" = some v) :
    localFileUsesPss kwargs = valueToBool v := by
  simp [localFileUsesPss, lookup_pss_initKwargs, h, PVal.truthy]

/-- Every other keyword (not reserved, not a named parameter) reaches `private_key.sign` unchanged. -/
theorem sp_create_keeps_other_kwargs (params : Params) (k : String) (hk : k ≠ "pss_padding")
    (h1 : KeysTables.spReservedKeys.contains k = false) (h2 : KeysTables.plainFileInitParams.contains k = false) :
    (plainFileSignKwargs params).lookup k = params.lookup k := by
  have hb : (k == "pss_padding") = false := by rw [beq_eq_false_iff_ne]; exact hk
  unfold plainFileSignKwargs plainFileInitKwargs filterParams
  rw [List.lookup_append, lookup_filter_keep, lookup_filter_keep]
  · cases hl : params.lookup k with
    | some v => simp
    | none =>
      simp only [Option.none_or]
      split
      · split <;> simp [List.lookup, hb]
      · rfl
  · intro p hp; rw [hp, h1]; rfl
  · intro p hp; rw [hp, h2]; rfl

/-- `signature_length` announced by a provider = the actual length of what `get_signature` returns: RSA `key_size // 8`
    = the modulus length in bytes (the length of every RSASSA signature, RFC 8017) for every supported size; ECC
    `2·cl` = the length of the raw `r ‖ s` (and of its normalisation, `sigprovider_normalises`). -/
theorem signature_length_actual :
    (∀ ks n, ks ∈ KeysTables.rsaSupportedKeySizes → TopBit n ks → rsaSigLen ks = byteLen n) ∧
    (∀ c r s, eccSigLen c = (rawSig c r s).length) ∧
    (Curve.all.map eccSigLen = [64, 96, 132] ∧ KeysTables.rsaSupportedKeySizes.map rsaSigLen = [256, 384, 512]) := by
  refine ⟨?_, ?_, by decide⟩
  · intro ks n hks hn
    simp only [KeysTables.rsaSupportedKeySizes, List.mem_cons, List.mem_nil_iff, or_false] at hks
    rcases hks with rfl | rfl | rfl
    · rw [B.byteLen_topbit n 2048 256 (by decide) (by decide) hn]; decide
    · rw [B.byteLen_topbit n 3072 384 (by decide) (by decide) hn]; decide
    · rw [B.byteLen_topbit n 4096 512 (by decide) (by decide) hn]; decide
  · intro c r s
    rw [rawSig_length]
    exact (raw_window_facts c).2.2.2.2.1

/-! #### `signature_length` vs what `get_signature` really returns, over the generated tables -/

/-- `PlainFileSP.signature_length` is the private key's `signature_size`; the public and the private RSA class compute it alike. -/
theorem sp_signature_length_source :
    KeysTables.plainFileSigLenAttr = "self.private_key.signature_size" ∧
    ∀ ks, KeysTables.rsaPubSignatureSize ks = KeysTables.rsaSignatureSize ks := ⟨by decide, fun _ => rfl⟩

/-- `get_signature` never re-interprets a signature longer than the largest ECDSA window (140 bytes): whatever the bytes are — even
    if they happen to be a well-formed DER `ECDSA-Sig-Value` — and whatever encoding is asked for, the provider's bytes are returned
    unchanged.  In particular every RSA signature (`signature_length` = 256 / 384 / 512) comes back with exactly the announced length. -/
theorem sp_long_signature_passthrough (signed : Bytes) (enc : Option Enc) (h : 141 ≤ signed.length) :
    getSignature signed enc = .ok signed := by
  have hs : KeysTables.sigSniffNxp signed.length = false := by
    rw [Bool.eq_false_iff]; intro hh
    have := (Keys.sniffed_raw_lengths _).mp hh
    simp at this; omega
  have hc : sigCurve signed.length = .error .spsdk := by
    cases hcur : sigCurve signed.length with
    | ok c =>
      have := (sig_curve_exact _ c).mp hcur
      have cs := coord_sizes
      cases c <;> omega
    | error e => rw [sigCurve_error_spsdk _ e hcur]
  have hp : sigParse signed = .error .spsdk := by
    unfold sigParse sigSniff
    rw [hs]
    simp only [Bool.false_eq_true, if_false]
    cases derDecode signed with
    | none => rfl
    | some p => simp only [hc]
  unfold getSignature
  rw [hp]

theorem sp_rsa_signature_length (ks : Nat) (hks : ks ∈ KeysTables.rsaSupportedKeySizes) (signed : Bytes) (enc : Option Enc)
    (hl : signed.length = rsaSigLen ks) :
    ∃ out, getSignature signed enc = .ok out ∧ out.length = rsaSigLen ks := by
  refine ⟨signed, sp_long_signature_passthrough signed enc ?_, hl⟩
  simp only [KeysTables.rsaSupportedKeySizes, List.mem_cons, List.mem_nil_iff, or_false] at hks
  rcases hks with rfl | rfl | rfl <;> (rw [hl]; decide)

/-- ECC providers: raw output, or DER output inside the curve's window, is returned with exactly `signature_length` bytes
    (default and NXP encoding) — the "unexpected length" warning of `get_signature` cannot fire there. -/
theorem sp_ecc_signature_length (c : Curve) (r s : Nat) (hr : r < 256 ^ c.cl) (hs : s < 256 ^ c.cl) :
    (∃ out, getSignature (rawSig c r s) none = .ok out ∧ out.length = eccSigLen c) ∧
    (LenWindow c r s → ∃ out, getSignature (derEncode r s) none = .ok out ∧ out.length = eccSigLen c) := by
  have hlen : (rawSig c r s).length = eccSigLen c := (signature_length_actual.2.1 c r s).symm
  exact ⟨⟨_, (sigprovider_normalises c r s hr hs).1, hlen⟩, fun hw => ⟨_, (sigprovider_normalises c r s hr hs).2.2.2.2 hw, hlen⟩⟩

/-- non-vacuity: a 256-byte blob that IS a well-formed DER ECDSA-Sig-Value still passes through unchanged -/
example : (derEncode (2 ^ 999) (2 ^ 1007)).length = 261 ∧ (derDecode (derEncode (2 ^ 999) (2 ^ 1007))).isSome = true ∧ getSignature (derEncode (2 ^ 999) (2 ^ 1007)) none = .ok (derEncode (2 ^ 999) (2 ^ 1007)) := by
  have hl : derLen (2 ^ 999) (2 ^ 1007) = 261 := by
    simp only [derLen, tlvLen_eq, intLen_eq _ (Nat.two_pow_pos 999), intLen_eq _ (Nat.two_pow_pos 1007)]
    decide +kernel
  have h32 : derLen (2 ^ 999) (2 ^ 1007) < 2 ^ 32 := by rw [hl]; decide
  rw [der_length, derDecode_derEncode _ _ h32]
  exact ⟨hl, rfl, sp_long_signature_passthrough _ _ (by rw [der_length, hl]; decide)⟩

/-- `get_hash_type_from_signature_size` is the default hash of the curve with that raw signature size -/
theorem hash_from_sig_size_agrees :
    KeysTables.hashFromSigSize = Curve.all.map (fun c => (c.sigSize, (KeysTables.eccDefaultHash.lookup c.keySize).getD "")) := by
  decide

/-! ### raw key files of the nxpcrypto CLI -/

/-- Every raw private key written by `nxpcrypto key convert -e RAW` — all three curves, any number of leading zero
    bytes — is read back by `reconstruct_key` (full strength since commit 3df4efc; before, the 66 bytes of secp521r1
    were refused). -/
theorem cli_raw_private_roundtrip (privOk : Curve → Nat → Bool) (onCurve : Curve → Nat → Nat → Bool) (c : Curve) (d : Nat)
    (hd : d < 256 ^ c.cl) (hok : privOk c d = true) :
    cliRawPrivate c d = .ok (beEnc c.cl d) ∧ reconstructRaw privOk onCurve (beEnc c.cl d) = .ok (.priv c d) := by
  refine ⟨toBytes_ok _ _ hd, ?_⟩
  obtain ⟨h1, h2⟩ := keyLenCurve_cl c
  simp [reconstructRaw, beEnc_length', beDec_beEnc _ _ hd, h1, h2, hok]

/-- raw public keys of 64 / 96 bytes are also understood by the raw stage (they normally never get there: `PublicKey.parse`
    accepts them first — and the 132-byte P-521 form, `pubparse_nxp_ecc`) -/
theorem cli_raw_public_roundtrip_partial (privOk : Curve → Nat → Bool) (onCurve : Curve → Nat → Nat → Bool) (c : Curve) (x y : Nat)
    (hc : c ≠ .p521) (hx : x < 256 ^ c.cl) (hy : y < 256 ^ c.cl) (hon : onCurve c x y = true) :
    cliRawPublic c x y = .ok (rawSig c x y) ∧ reconstructRaw privOk onCurve (rawSig c x y) = .ok (.pub c x y) := by
  refine ⟨rawPair_ok _ _ _ hx hy, ?_⟩
  obtain ⟨h1, h2, h3⟩ := keyLenCurve_two_cl c hc
  have hh : 2 * c.cl / 2 = c.cl := by omega
  simp only [reconstructRaw, rawSig_length, h1, h2, h3, hh, if_false, if_true]
  unfold rawSig
  rw [take_pair, drop_pair, beDec_beEnc _ _ hx, beDec_beEnc _ _ hy]
  simp [hon]

/-- `reconstruct_key`: a PEM / DER private key wins over everything, then a public key, then the raw stage -/
theorem reconstruct_key_order {α : Type} (k : α) (q : Try α) (raw : PyRes α) :
    reconstructKey (.ok k) q raw = .ok k ∧ reconstructKey .spsdk (.ok k) raw = .ok k ∧
    reconstructKey .spsdk .spsdk raw = raw ∧ reconstructKey .other q raw = .error .other := ⟨rfl, rfl, rfl, rfl⟩

/-- non-vacuity of the hypotheses of this part -/
example : matchingKeyId [false, false, true, true] = .ok 2 := by decide
example : validateChain (fun a b => a + 1 == b) [1, 2, 4, 5] = .ok [true, false, true] := by decide
example : certExportNxp [0x30, 0x82, 1, 2, 3] = [0x30, 0x82, 1, 2, 3, 0, 0, 0] := by decide
example : plainFileSignKwargs [("type", .str "file"), ("file_path", .str "k"), ("pss_padding", .str "True"), ("foo", .str "1")] = [("foo", .str "1"), ("pss_padding", .bool true)] := by decide
example : createdUsesPss [("type", .str "file"), ("pss_padding", .str "False")] = false ∧ localFileUsesPss [("pss_padding", .bool true)] = true := by decide
example : reconstructRaw (fun _ _ => true) (fun _ _ _ => true) (beEnc 66 7) = .ok (.priv .p521 7) := by decide +kernel
example : reconstructRaw (fun _ _ => true) (fun _ _ _ => true) (beEnc 32 7) = .ok (.priv .p256 7) := by decide +kernel

/-! ## non-vacuity -/

/-- a raw P-256 signature whose `r` has 31 leading zero bytes -/
example : sigParse (rawSig .p256 5 (2 ^ 255)) = .ok ⟨5, 2 ^ 255, .p256⟩ := (ecdsa_raw_roundtrip .p256 5 (2 ^ 255) (by decide) (by decide)).2
/-- the window hypothesis is satisfiable: a typical P-256 signature (71 bytes) and one with a short `r` (67 bytes) -/
example : LenWindow .p256 (2 ^ 255 + 1) (2 ^ 254 + 1) := by
  simp only [LenWindow, derLen, tlvLen_eq, intLen_eq _ (Nat.add_pos_right _ Nat.one_pos)]; decide +kernel
example : LenWindow .p256 (2 ^ 230 + 1) (2 ^ 254 + 1) := by
  simp only [LenWindow, derLen, tlvLen_eq, intLen_eq _ (Nat.add_pos_right _ Nat.one_pos)]; decide +kernel
example : LenWindow .p521 (2 ^ 520 + 1) (2 ^ 519 + 1) := by
  simp only [LenWindow, derLen, tlvLen_eq, intLen_eq _ (Nat.add_pos_right _ Nat.one_pos)]; decide +kernel
example : TopBit (2 ^ 2047 + 1) 2048 := by unfold TopBit; omega
example : (2048 : Nat) ∈ KeysTables.rsaSupportedKeySizes := by decide
example : fileEncoding [0x2D, 0x2D, 0x2D, 0x2D, 0x2D, 0x42] = .pem := by decide
example : fileEncoding [0x30, 0x82, 0x01, 0x22] = .der := by decide

end SpsdkVerif.C08
