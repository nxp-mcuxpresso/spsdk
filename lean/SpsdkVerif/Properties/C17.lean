/-
C17 — Secrets SPSDK invents are fresh for every artifact.

Four ways a drawn value can reach two artifacts, each with a model and the same three theorems: freshness over ALL
histories ⇔ a condition on a table (`fresh_iff`, `reuse_fresh_iff`, `file_fresh_iff`, `artifacts_fresh_iff`); that
condition decided on the table regenerated from the AST of /repo/spsdk on every run (`sites_per_call`,
`respec_paths_reset`, `secret_sources_explicit`, `sites_per_artifact`); the two combined (`current_tree_*`).
  * Model/Fresh.lean, Generated/SecretSites.lean: when the drawing expression is evaluated (every call of a `secrets.*` /
    rng.py primitive; early-evaluated constructor calls are followed to the draws they reach);
  * Model/FreshObj.lean, Generated/SecretState.lean: builder objects used for several builds (`new`/`respec`/`emit`);
  * Model/FreshFile.lean, Generated.secretSources: rebuilds into ONE directory, where the secret file of build k is
    there for build k+1, also after an interpreter restart;
  * Model/FreshLoop.lean, Generated.loopUses: one call serving several artifacts.
`sites_use_os_entropy`, `rng_wrappers_fresh`: the draws come from OS entropy through pass-through wrappers (nothing
seedable or cached inside rng.py).  `kept_value_shares`: the boundary of the first model.  `ctr_pair_unique`: the
corollary for the (key, nonce) pairs fed to AES-CTR.
-/
import SpsdkVerif.Proofs.Fresh
import SpsdkVerif.Generated.SecretSites
import SpsdkVerif.Proofs.FreshObj
import SpsdkVerif.Generated.SecretState

namespace SpsdkVerif.C17
open SpsdkVerif.Fresh

/-- Per-call programs hand out pairwise distinct values, whatever the history. -/
theorem fresh_all_distinct (P : List Site) (hp : ∀ s ∈ P, s.evalTime = .perCall) (h : History) :
    AllDistinct (run P h) := by
  obtain ⟨m, hm⟩ := runFrom_fresh (boot P 0).1 (boot_perCall P hp 0).2 0 h (boot P 0).2
  have : ((run P h).map Obs.tok).Pairwise (· < ·) := hm ▸ List.pairwise_lt_range'
  exact (List.pairwise_map.mp this).imp Nat.ne_of_lt

/-- **Freshness ⇔ every site is per-call.**  Quantified over all histories: any number of constructions,
    each using any list of sites, in any interleaving. -/
theorem fresh_iff (P : List Site) :
    (∀ h : History, NoSharing (run P h)) ↔ ∀ s ∈ P, s.evalTime = .perCall := by
  constructor
  · intro hall s hs
    apply Classical.byContradiction
    intro he
    obtain ⟨i, hi⟩ := List.getElem?_of_mem hs
    obtain ⟨t, ht⟩ := run_early_shares P i s hi he
    have := hall [[i], [i]]
    rw [ht] at this
    exact this ⟨0, i, t⟩ (by simp) ⟨1, i, t⟩ (by simp) (by simp) rfl
  · intro hp h
    exact noSharing_of_allDistinct _ (fresh_all_distinct P hp h)

/-- The obligation on the current tree: no drawing expression sits in a default argument, a class body or
    at module level (fails on `advanced_params=SBV2xAdvancedParams()` or
    `NEEDED_MEMBERS = {"_ctr_init_vector": random_bytes(16)}`). -/
theorem sites_per_call : ∀ s ∈ Generated.secretSites, s.evalTime = .perCall := by decide

/-- Every site draws from OS entropy: `secrets.*` / `os.urandom` directly or through an rng.py wrapper. -/
theorem sites_use_os_entropy :
    ∀ s ∈ Generated.secretSites, s.source = .rngWrapper ∨ s.source = .secrets ∨ s.source = .osUrandom := by decide

/-- The rng.py wrappers wrap OS entropy and every `return` returns a draw made right there (no cache, no constant). -/
theorem rng_wrappers_fresh :
    ∀ w ∈ Generated.rngWrappers, w.everyReturnDraws = true ∧ (w.source = .secrets ∨ w.source = .osUrandom) := by decide

/-- On the current tree no history shares a self-chosen value between two artifacts. -/
theorem current_tree_fresh (h : History) : NoSharing (run Generated.secretSites h) :=
  (fresh_iff Generated.secretSites).mpr sites_per_call h

/-- **(key, nonce) pairs are never repeated** between two artifacts of a history over the current site table,
    as soon as one component is self-chosen in both (SB2: DEK and nonce; MBI: counter IV under a user key). -/
theorem ctr_pair_unique (h : History) (u v : CtrUse)
    (hu : u.FromRun (run Generated.secretSites h)) (hv : v.FromRun (run Generated.secretSites h))
    (hne : u.art ≠ v.art)
    (hself : (u.key.isChosen = true ∧ v.key.isChosen = true) ∨ (u.nonce.isChosen = true ∧ v.nonce.isChosen = true)) :
    (u.key, u.nonce) ≠ (v.key, v.nonce) :=
  ctr_pair_ne (current_tree_fresh h) hu hv hne hself

/-- **What `run` does not cover: values kept in a re-used builder object.**  `run` lets an artifact obtain a value only by
    evaluating a site during its own build (or by reading an early site).  An artifact `b` that instead keeps the value
    another artifact `x.art` obtained (a builder object used for a second artifact whose stored IV is not drawn again,
    a cache, …) is outside `run`, and always breaks the property — whatever the site table says.  The harness therefore
    checks for every value found in an artifact that it was drawn during that artifact's own build (trace flag `x`
    otherwise, which no output of `run` ever carries) and builds second artifacts with re-used builder objects. -/
theorem kept_value_shares (o : List Obs) (x : Obs) (hx : x ∈ o) (b : Nat) (hb : b ≠ x.art) :
    ¬ NoSharing (o ++ [⟨b, x.site, x.tok⟩]) := by
  intro h
  exact h x (by simp [hx]) ⟨b, x.site, x.tok⟩ (by simp) (fun e => hb e.symm) rfl

/-- a path that keeps the old value leaks a value the user supplied for an earlier build into a build that supplied nothing -/
theorem keep_path_leaks_user_value (T : List Bool) (p : Nat) (hp : T[p]? = some false) :
    runObj T [.new 0, .respec 0 p (some 7), .emit 0, .respec 0 p none, .emit 0] =
      [⟨0, 3, false, .user 7⟩, ⟨0, 2, true, .user 7⟩] := by
  simp [runObj, orun, ostep, hp, Store.set]

/-- … and makes two different builds share a self-chosen value (the seeded change C17a: artifact B encrypted with A's IV) -/
theorem keep_path_shares_chosen_value (T : List Bool) (p : Nat) (hp : T[p]? = some false) :
    runObj T [.new 0, .emit 0, .respec 0 p none, .emit 0] = [⟨0, 2, false, .chosen 0⟩, ⟨0, 1, false, .chosen 0⟩] := by
  simp [runObj, orun, ostep, hp, Store.set, draw]

/-- **Freshness across re-use histories ⇔ every re-specification path resets.**  For all histories of `new` / `respec` /
    `emit` steps over any number of objects: (1) a build for which nothing was supplied never carries a left-over user
    value and (2) a self-chosen value is shared only by artifacts of the same build of the same object — if and only if
    every path of the table (re)sets the secret on every path.  Generalises `kept_value_shares`. -/
theorem reuse_fresh_iff (T : List Bool) : (∀ h : List Step, Safe (runObj T h)) ↔ ∀ r ∈ T, r = true := by
  constructor
  · intro hall r hr
    cases r with
    | true => rfl
    | false =>
      exfalso
      obtain ⟨p, hp⟩ := List.getElem?_of_mem hr
      have h1 := (hall [.new 0, .respec 0 p (some 7), .emit 0, .respec 0 p none, .emit 0]).1
      rw [keep_path_leaks_user_value T p hp] at h1
      obtain ⟨t, ht⟩ := h1 ⟨0, 3, false, .user 7⟩ (by simp) rfl
      cases ht
  · intro hT h
    exact (OInv.foldl T (fun p r hp => hT r (List.mem_of_getElem? hp)) h {} OInv.init).safe

/-- the re-specification paths of the current tree that the obligation is about: public entry points (setters,
    `*load*config*`, `*parse*`) writing an attribute that receives a draw made in the class itself -/
def respecPaths : List SlotPath := Generated.secretSlots.filter (fun r => r.role = .respec && r.direct)

/-- **The obligation on the current tree**: every such path (re)sets the secret on every normal path — also when the user
    supplied nothing (fails for `if cfg_value: self.x = …` without an else, the seeded change C17a). -/
theorem respec_paths_reset : ∀ r ∈ Generated.secretSlots, r.role = .respec → r.direct = true → r.resets = true := by decide

/-- On the current tree no history that re-uses builder objects through these paths leaks or shares a secret. -/
theorem current_tree_reuse_safe (h : List Step) : Safe (runObj (respecPaths.map (·.resets)) h) := by
  refine (reuse_fresh_iff _).mpr ?_ h
  intro r hr
  obtain ⟨x, hx, rfl⟩ := List.mem_map.mp hr
  have hx' := List.mem_filter.mp hx
  have h2 : x.role = .respec ∧ x.direct = true := by simpa using hx'.2
  exact respec_paths_reset x hx'.1 h2.1 h2.2

/-- **Freshness across rebuilds into one directory ⇔ the explicit flag decides.**  For every initial content of the
    directory and every history of builds (with / without the reuse flag), user-placed key files and clean-ups — the file
    system state is what survives an interpreter restart, so this covers restarts too —: every build that did not ask for
    reuse carries a value SPSDK chose, all of them pairwise different, if and only if the choice between "draw" and "read
    the file" is made by the user's flag and not by what is found in the file system. -/
theorem file_fresh_iff (g : Guard) : (∀ init h, SafeF (runF g init h)) ↔ g = .flag := by
  constructor
  · intro hall
    cases g with
    | flag => rfl
    | fileExists =>
      exfalso
      have h := (hall none [.build false, .build false]).2
      revert h
      decide
  · rintro rfl init h
    exact (FInv.foldl h { file := init.map .user } rfl).safe

/-- with the reuse flag the build uses exactly what is in the file (whoever put it there) -/
theorem reuse_reads_file (g : Guard) (s : FSt) (v : OVal) (hf : s.file = some v) :
    (fstep g s (.build true)).arts = ⟨true, v⟩ :: s.arts := by
  cases g <;> simp [fstep, hf]

/-- **The obligation on the current tree**: no draw that is one of several alternative sources of a secret is selected by
    a guard that probes the file system (fails for `find_file(.., raise_exc=False)` + `if path:` in `get_dek_from_config`,
    the seeded change C17c). -/
theorem secret_sources_explicit : ∀ r ∈ Generated.secretSources, r.guard = .flag := by decide

/-- On the current tree rebuilding into the same directory never re-uses a self-chosen secret unasked, for every site. -/
theorem current_tree_file_fresh (r : SourceChoice) (hr : r ∈ Generated.secretSources) (init : Option Nat) (h : List FStep) :
    SafeF (runF r.guard init h) :=
  (file_fresh_iff r.guard).mpr (secret_sources_explicit r hr) init h

/-- **The artifacts of one call — and of all calls of a history — get pairwise different values ⇔ the draw is inside the
    artifact loop.**  For all histories of calls and all numbers of artifacts per call. -/
theorem artifacts_fresh_iff (inside : Bool) :
    (∀ h : List Nat, (runCalls inside h 0).Pairwise (· ≠ ·)) ↔ inside = true := by
  constructor
  · intro hall
    cases inside with
    | true => rfl
    | false =>
      exfalso
      have h := hall [2]
      revert h
      decide
  · rintro rfl h
    exact runCalls_inside h 0 ▸ List.Pairwise.imp Nat.ne_of_lt List.pairwise_lt_range'

/-- **The obligation on the current tree**: wherever a value that was drawn (or an object whose constructor draws) is handed
    to something inside a `for` loop over a collection, it is defined inside that loop (fails when `kib = BeeKIB()` is
    hoisted out of the per-engine loop of `BeeNxp.load_from_config`, the seeded change C17d). -/
theorem sites_per_artifact : ∀ r ∈ Generated.loopUses, r.inside = true := by decide

theorem current_tree_artifacts_fresh (r : LoopUse) (hr : r ∈ Generated.loopUses) (h : List Nat) :
    (runCalls r.inside h 0).Pairwise (· ≠ ·) :=
  (artifacts_fresh_iff r.inside).mpr (sites_per_artifact r hr) h

-- the loop table covers the multi-artifact builders BEE (engines) and IEE (key blobs) …
example : ∀ k ∈ [Kind.bee, .iee], ∃ r ∈ Generated.loopUses, r.kind = k := by decide
-- … C17d in the model: both engines of one call get the same KIB, the next call another one
example : runCalls false [2, 1] 0 = [0, 0, 1] := by decide
example : runCalls true [2, 0, 1, 3] 0 = [0, 1, 2, 3, 4, 5] := by decide

-- the table of alternative sources contains the one site whose alternative is a file (HAB DEK) …
example : ∃ r ∈ Generated.secretSources, r.kind = .hab ∧ r.altFile = true := by decide
-- … C17c in the model: the second build into the directory silently gets the first build's DEK
example : runF .fileExists none [.build false, .build false] = [⟨false, .chosen 0⟩, ⟨false, .chosen 0⟩] := by decide
example : runF .flag none [.build false, .build false, .build true, .place 5, .build true, .build false] =
    [⟨false, .chosen 2⟩, ⟨true, .user 5⟩, ⟨true, .chosen 1⟩, ⟨false, .chosen 1⟩, ⟨false, .chosen 0⟩] := by decide

-- the object-state table covers the MBI counter IV (getter + at least three public re-specification paths) …
example : 3 ≤ (respecPaths.filter (fun r => r.kind = .mbi)).length := by decide
example : ∃ r ∈ Generated.secretSlots, r.kind = .mbi ∧ r.role = .getter := by decide
-- … an object exported twice in one build shares its value by design (`BootImageV2x` re-export, same epoch = same build)
example : runObj [] [.new 0, .emit 0, .emit 0] = [⟨0, 1, false, .chosen 0⟩, ⟨0, 1, false, .chosen 0⟩] := by decide
example : Safe (runObj [] [.new 0, .emit 0, .emit 0]) := (reuse_fresh_iff []).mpr (by simp) _
-- … two objects, a reload with a resetting path: three different values
example : runObj [true] [.new 0, .emit 0, .new 1, .emit 1, .respec 0 0 none, .emit 0] =
    [⟨0, 2, false, .chosen 2⟩, ⟨1, 1, false, .chosen 1⟩, ⟨0, 1, false, .chosen 0⟩] := by decide

-- the table is not empty and covers the artifact families of the property
example : 20 ≤ Generated.secretSites.length := by decide
example : ∀ k ∈ [Kind.sb2, .mbi, .otfad, .iee, .bee, .hab, .filler], ∃ s ∈ Generated.secretSites, s.kind = k := by decide
example : Generated.rngWrappers.length ≠ 0 := by decide

private def pinnedSb2 : List Site := [
  { kind := .sb2, field := "dek", evalTime := .perCall, loc := "images.py:85" },
  { kind := .sb2, field := "nonce", evalTime := .perCall, loc := "images.py:61" },
  { kind := .sb2, field := "dek", evalTime := .atDefinition, loc := "images.py:85", via := "images.py:160" },
  { kind := .mbi, field := "ctr_init_vector", evalTime := .atImport, loc := "mbi_mixin.py:1854" }]

-- the pinned tree's defect in the model: two images built with the default argument share the DEK ...
example : run pinnedSb2 [[2], [2]] = [⟨0, 2, 0⟩, ⟨1, 2, 0⟩] := by decide
example : ¬ NoSharing (run pinnedSb2 [[2], [2]]) := by
  intro h; exact h ⟨0, 2, 0⟩ (by decide) ⟨1, 2, 0⟩ (by decide) (by decide) rfl
-- ... while explicit per-call construction gives every image its own DEK and nonce
example : run pinnedSb2 [[0, 1], [0, 1]] = [⟨0, 0, 2⟩, ⟨0, 1, 3⟩, ⟨1, 0, 4⟩, ⟨1, 1, 5⟩] := by decide
-- the hypotheses of `ctr_pair_unique` are satisfiable on the current table (two builds using its first two sites)
example : (run Generated.secretSites [[0, 1], [0, 1]]).length = 4 := by decide
example : CtrUse.FromRun (run Generated.secretSites [[0, 1], [0, 1]]) ⟨1, .chosen 2, .user [1, 2]⟩ := by
  refine ⟨fun t ht => ?_, fun t ht => by cases ht⟩
  cases ht
  exact ⟨⟨1, 0, 2⟩, by decide, rfl, rfl⟩

end SpsdkVerif.C17
