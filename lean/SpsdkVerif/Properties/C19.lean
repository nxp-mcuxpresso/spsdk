/-
C19 — BD command files mean what they say.

Layers (see design_notes/C19.md):
  Generated.BdGrammar  re-extracted from /repo on every run: `precedence`, operator texts, productions, and the
                       bodies of the `expr` / `bool_expr` / `unary_expr` / `LNOT` / `DEFINED` / range / erase rules
  Spec (BdSem, BdStmtSem)  the language semantics written independently
  Model (Bd, BdStmt)   lexer, reference parser, evaluator over the generated actions, statement elaboration
Theorems: generated = Spec (re-proved against the current rule bodies), reference parser ∘ printer = id for every
abstract expression, evaluation of the parsed text = Spec evaluation, one command per supported statement with the
operands the Spec states, unsupported constructs refused.  Helper lemmas: Proofs/Bd.lean (parser, operators, statements),
Proofs/BdLex.lean and Proofs/BdLexFull.lean (lexer).
-/
import SpsdkVerif.Proofs.Bd
import SpsdkVerif.Proofs.BdLex
import SpsdkVerif.Proofs.BdLexFull
namespace SpsdkVerif.C19
open SpsdkVerif SpsdkVerif.Bd SpsdkVerif.Generated

/-! ### The generated grammar facts are the documented ones -/

/-- The parser's precedence declaration orders the operators as C does: within the arithmetic/bitwise level (with unary ±
    at the additive level) and within the comparison/logical level (with `!`) every pair of operators is ordered alike,
    and every binary operator is declared left-associative.  (Rows of different grammar levels never meet, so their
    relative position in the tuple is immaterial.) -/
theorem precedence_agrees :
    genLevels.sameOrder Spec.levels = true ∧
    (∀ o : BinOp, assocIn BdGrammar.precedence o.tokName = "left") ∧
    (∀ o : CmpOp, assocIn BdGrammar.precedence o.tokName = "left") := by
  refine ⟨by decide, ?_, ?_⟩ <;> intro o <;> cases o <;> decide

/-- the lexer gives every operator its documented spelling -/
theorem operator_text_agrees : (∀ o : BinOp, o.text = Spec.binText o) ∧ (∀ o : CmpOp, o.text = Spec.cmpText o) := by
  constructor <;> intro o <;> cases o <;> decide

/-- `!` binds tighter than every comparison / logical operator (the reference parser treats its operand as a primary) -/
theorem lnot_binds_tightest : ∀ o : CmpOp, genLevels.cmp o < genLevels.lnot := by
  intro o; cases o <;> decide

/-- every binary operator of the Spec has its production in the `expr` / `bool_expr` rule that was translated -/
theorem productions_cover :
    (∀ o : BinOp, (BdGrammar.productions.lookup "expr").any (·.contains s!"expr {o.tokName} expr")) ∧
    (∀ o : CmpOp, (BdGrammar.productions.lookup "bool_expr").any (·.contains s!"bool_expr {o.tokName} bool_expr")) ∧
    (BdGrammar.productions.lookup "unary_expr") = some ["PLUS expr", "MINUS expr"] := by
  refine ⟨?_, ?_, by decide⟩ <;> intro o <;> cases o <;> decide

/-- string and character literals end at the next quote (several definitions may share a line) -/
theorem quoted_literals_non_greedy : nonGreedyQuotes = true ∧ nonGreedyChars = true := by decide +kernel

/-! ### Rule actions = operator semantics (re-proved against the rule bodies extracted from the current source) -/

theorem actions_agree (o : BinOp) (a b : Int) : opAction o a b = Spec.opSem o a b := by
  cases o <;> simp [opAction, BdGrammar.exprRule, operator_text_agrees.1, Spec.binText, Spec.opSem, pyDivE, pyModE, pyShlE, pyShrE,
    shr_eq_fdiv]

theorem size_actions_agree (s : IntSz) (a : Int) : sizeAction s a = Spec.sizeSem s a := by
  have hdot : tokText "PERIOD" = "." := by decide
  cases s <;> simp [sizeAction, BdGrammar.exprRule, hdot, IntSz.letter, Spec.sizeSem, Spec.sizeBits]
  · exact intAnd_mask a 8
  · exact intAnd_mask a 16
  · exact intAnd_mask a 32

theorem cmp_actions_agree (o : CmpOp) (a b : Int) : cmpAction o a b = Spec.cmpSem o a b := by
  cases o <;> simp [cmpAction, BdGrammar.boolRule, operator_text_agrees.2, Spec.cmpText, Spec.cmpSem, pyBoolInt, Spec.ofBool, pyAndI,
    pyOrI, pyTruthy]

theorem unary_actions_agree (a : Int) : negAction a = Spec.negSem a ∧ posAction a = Spec.posSem a := by
  have hs : tokText "MINUS" = "-" ∧ tokText "PLUS" = "+" := by decide
  constructor <;> simp [negAction, posAction, BdGrammar.unaryRule, hs, Spec.negSem, Spec.posSem]

theorem lnot_action_agrees (a : Int) : lnotAction a = Spec.lnotSem a := by
  simp [lnotAction, BdGrammar.lnotRule, Spec.lnotSem, pyNotI, pyBoolInt, Spec.ofBool, pyTruthy, Spec.truth]

theorem defined_agrees (names : List String) (x : String) : BdGrammar.definedRule names x = Spec.definedSem names x := by
  simp [BdGrammar.definedRule, Spec.definedSem]

/-- the identifier rule is a plain search of the defined names (first or last definition, whichever the source says) -/
theorem lookup_agrees (vars : Vars) (x : String) :
    BdGrammar.lookupRecognised = true ∧ lookupVar vars x = Spec.lookup vars x := by
  refine ⟨by decide +kernel, ?_⟩
  unfold lookupVar Spec.lookup
  cases BdGrammar.lookupFirstWins <;> rfl

/-- `a..b` denotes the address `a` and the length `b - a` -/
theorem range_length_agrees (a b : Int) : BdGrammar.rangeLength a b = .ok (b - a) := by
  simp [BdGrammar.rangeLength]

theorem erase_constants_agree :
    BdGrammar.eraseAllAddress = 0 ∧ BdGrammar.eraseAllFlags = 1 ∧
    BdGrammar.eraseUnsecureAllAddress = 0 ∧ BdGrammar.eraseUnsecureAllFlags = 2 := by decide +kernel

/-! ### The operator semantics is ordinary integer arithmetic (sanity of the Spec itself) -/

/-- `/` and `%` are quotient and remainder of the division algorithm (remainder with the sign of the divisor) -/
theorem div_mod_spec (a b q r : Int) (hq : Spec.opSem .div a b = .ok q) (hr : Spec.opSem .mod a b = .ok r) :
    a = b * q + r ∧ ((0 ≤ r ∧ r < b) ∨ (b < r ∧ r ≤ 0)) := by
  simp only [Spec.opSem] at hq hr
  by_cases hb : b = 0
  · simp [hb] at hq
  · simp only [hb, if_false, Except.ok.injEq] at hq hr
    subst hq; subst hr
    constructor
    · have := Int.mul_fdiv_add_fmod a b
      omega
    · rcases Int.lt_or_gt_of_ne hb with h | h
      · right; exact fmod_neg_divisor a b h
      · left; exact ⟨Int.fmod_nonneg_of_pos a h, Int.fmod_lt_of_pos a h⟩

/-- `&`, `|`, `^` are the bitwise operations of two's complement with infinite sign extension -/
theorem bitwise_spec (a b : Int) (i : Nat) :
    (intAnd a b).testBit i = (a.testBit i && b.testBit i) ∧
    (intOr a b).testBit i = (a.testBit i || b.testBit i) ∧
    (intXor a b).testBit i = (a.testBit i ^^ b.testBit i) := by
  rw [intAnd_eq_land, intOr_eq_lor, intXor_eq_xor]
  exact ⟨Int.testBit_land a b i, Int.testBit_lor a b i, Int.testBit_lxor a b i⟩

/-- `<<` and `>>` by a non-negative count are multiplication and floor division by a power of two
    (left shifts by more than 2^24 bits are outside the evaluated domain) -/
theorem shift_spec (a : Int) (n : Nat) :
    ((n : Int) ≤ maxShift → Spec.opSem .shl a n = .ok (a * 2 ^ n)) ∧ Spec.opSem .shr a n = .ok (a / 2 ^ n) := by
  have h : ¬ ((n : Int) < 0) := by omega
  constructor
  · intro hn
    have h2 : ¬ ((n : Int) > maxShift) := by omega
    simp only [Spec.opSem, h, h2, if_false, Int.toNat_natCast]
  · simp only [Spec.opSem, h, if_false, Int.toNat_natCast]
    congr 1
    apply Int.fdiv_eq_ediv_of_nonneg
    exact Int.le_of_lt (Int.pow_pos (by decide +kernel))

/-- `&&`, `||`, `!`: the truth value of the result is the logical and / or / not of the operands' truth values -/
theorem logical_truth (a b : Int) :
    (∃ v, Spec.cmpSem .land a b = .ok v ∧ Spec.truth v = (Spec.truth a && Spec.truth b)) ∧
    (∃ v, Spec.cmpSem .lor a b = .ok v ∧ Spec.truth v = (Spec.truth a || Spec.truth b)) ∧
    (∃ v, Spec.lnotSem a = .ok v ∧ Spec.truth v = !Spec.truth a) := by
  refine ⟨⟨_, rfl, ?_⟩, ⟨_, rfl, ?_⟩, ⟨_, rfl, ?_⟩⟩
  · by_cases ha : a = 0 <;> simp [Spec.truth, ha]
  · by_cases ha : a = 0 <;> simp [Spec.truth, ha]
  · by_cases ha : a = 0 <;> simp [Spec.truth, Spec.ofBool, ha]

/-- `.b/.h/.w` keep the low 8 / 16 / 32 bits: the result is in range and congruent to the operand -/
theorem size_spec (s : IntSz) (a : Int) :
    ∃ v, Spec.sizeSem s a = .ok v ∧ 0 ≤ v ∧ v < 2 ^ Spec.sizeBits s ∧ (a - v) % 2 ^ Spec.sizeBits s = 0 := by
  have hpos : (0 : Int) < 2 ^ Spec.sizeBits s := Int.pow_pos (by decide +kernel)
  refine ⟨_, rfl, Int.emod_nonneg _ (by omega), Int.emod_lt_of_pos _ hpos, ?_⟩
  rw [Int.sub_emod, Int.emod_emod_of_dvd _ (Int.dvd_refl _), Int.sub_self, Int.zero_emod]

/-- printing an abstract `expr` with minimal parentheses and parsing it back gives the same tree, for every
    assignment of precedence levels (in particular the generated = documented one) -/
theorem parse_print (L : Levels) (e : Expr) : refParse L (pr L 0 e) = .ok e :=
  parse_print_expr L e

theorem parse_print_bool (L : Levels) (b : BExpr) : refParseB L (prB L 0 b) = .ok b :=
  parse_print_bexpr L b

/- full-strength statements (false on the current tree, known finding C19-undefined-ident):
   theorem eval_agrees  : eval vars e = Spec.eval vars e
   theorem evalB_agrees : evalB vars b = Spec.evalB vars b
   Refuting example (below, `undefined_ident_not_refused`): with `foo` undefined, `foo && 4096` is an error for the Spec
   (an undefined identifier denotes no value) but evaluates to 4096 in the implementation, because an undefined identifier
   evaluates to its own name as a Python str and `and`/`or`/`not`/`==`/`<`/`+`/`*` accept strs. -/

/-- Whenever the Spec gives a value, evaluation with the generated rule actions gives the same value
    (the supported subset: every identifier that takes part in an operation is defined as a number). -/
theorem eval_refines (vars : Vars) (e : Expr) (v : Val) (h : Spec.eval vars e = .ok v) : eval vars e = .ok v := by
  induction e generalizing v with
  | lit n => exact h
  | var x => simpa [eval, Spec.eval, (lookup_agrees _ _).2] using h
  | bin o l r ihl ihr =>
    simp only [Spec.eval, bind_eq_ok, needInt_eq_ok, pure, Except.pure, Except.ok.injEq] at h
    obtain ⟨_, hl, _, hr, x, rfl, y, rfl, z, hz, rfl⟩ := h
    simp only [eval, ihl _ hl, ihr _ hr, binVal, actions_agree, hz]
  | neg e ih =>
    simp only [Spec.eval, bind_eq_ok, needInt_eq_ok, pure, Except.pure, Except.ok.injEq] at h
    obtain ⟨_, he, x, rfl, z, hz, rfl⟩ := h
    simp only [eval, ih _ he, unaryVal, if_true, (unary_actions_agree _).1, hz]
  | pos e ih =>
    simp only [Spec.eval, bind_eq_ok, needInt_eq_ok, pure, Except.pure, Except.ok.injEq] at h
    obtain ⟨_, he, x, rfl, z, hz, rfl⟩ := h
    simp only [eval, ih _ he, unaryVal, (unary_actions_agree _).2, hz, Bool.false_eq_true, if_false]
  | size s e ih =>
    simp only [Spec.eval, bind_eq_ok, needInt_eq_ok, pure, Except.pure, Except.ok.injEq] at h
    obtain ⟨_, he, x, rfl, z, hz, rfl⟩ := h
    simp only [eval, ih _ he, sizeVal, size_actions_agree, hz]

theorem evalB_refines (vars : Vars) (b : BExpr) (v : Val) (h : Spec.evalB vars b = .ok v) : evalB vars b = .ok v := by
  induction b generalizing v with
  | atom e => exact eval_refines vars e v h
  | bin o l r ihl ihr =>
    simp only [Spec.evalB, bind_eq_ok, needInt_eq_ok, pure, Except.pure, Except.ok.injEq] at h
    obtain ⟨_, hl, _, hr, x, rfl, y, rfl, z, hz, rfl⟩ := h
    simp only [evalB, ihl _ hl, ihr _ hr, cmpVal, cmp_actions_agree, hz]
  | lnot b ih =>
    simp only [Spec.evalB, bind_eq_ok, needInt_eq_ok, pure, Except.pure, Except.ok.injEq] at h
    obtain ⟨_, he, x, rfl, z, hz, rfl⟩ := h
    simp only [evalB, ih _ he, lnotVal, lnot_action_agrees, hz]
  | defined x => simpa [evalB, Spec.evalB, defined_agrees, pyBoolInt_eq] using h

/-- the refuting example of the full-strength `evalB_agrees` (known finding C19-undefined-ident) -/
theorem undefined_ident_not_refused :
    Spec.evalB [] (.bin .land (.atom (.var "foo")) (.atom (.lit 4096))) = .error .other ∧
    evalB [] (.bin .land (.atom (.var "foo")) (.atom (.lit 4096))) = .ok (.int 4096) := by decide +kernel

/-- the text printed for an abstract expression evaluates (reference parser with the implementation's levels, then the
    implementation's rule actions) to what the Spec says about that expression, whenever the Spec gives a value -/
theorem eval_parse_print (vars : Vars) (b : BExpr) (v : Val) (h : Spec.evalB vars b = .ok v) :
    (match refParseB genLevels (prB genLevels 0 b) with
     | .ok b' => some (evalB vars b')
     | .error _ => none) = some (.ok v) := by
  rw [parse_print_bool]
  simp only [evalB_refines vars b v h]

/-- the lexer model reads every token list that has a concrete syntax back from its canonical text (numbers in decimal,
    identifiers that are neither keywords nor source names, operators with the spelling of the lexer source, an int-size
    suffix attached directly to a token ending in a hexadecimal digit — the look-behind of the INT_SIZE rule) -/
theorem lex_print (srcs : List String) (ts : List Tok) (h : Lexable srcs ts = true) :
    lex srcs (String.ofList (render ts)) = .ok ts := by
  obtain ⟨h1, h2, h3⟩ := toC_spec srcs ts
  have := lex_renderC srcs (toC ts) ((render ts).length + 1) none none [] (h3 ▸ h) (Or.inl rfl) (by rw [h1])
  simpa [lex, h1, h2] using this

/-- text-level round trip: printing a syntax tree as TEXT and reading it back (lexer model, then reference parser with the
    implementation's levels) gives the same tree, whenever its token list has a concrete syntax -/
theorem parse_print_text (srcs : List String) (b : BExpr) (h : Lexable srcs (prB genLevels 0 b) = true) :
    parseTextB srcs (printTextB b) = some b := by
  unfold parseTextB printTextB
  rw [lex_print srcs _ h]
  simp only [parse_print_bool]

theorem parse_print_text_expr (srcs : List String) (e : Expr) (h : Lexable srcs (pr genLevels 0 e) = true) :
    parseTextE srcs (printTextE e) = some e := by
  unfold parseTextE printTextE
  rw [lex_print srcs _ h]
  simp only [parse_print]

/-- the printed text of an expression evaluates — through lexer model, reference parser and the generated rule actions — to
    the value the Spec gives to the expression -/
theorem eval_text (srcs : List String) (vars : Vars) (b : BExpr) (v : Val) (h : Lexable srcs (prB genLevels 0 b) = true)
    (hv : Spec.evalB vars b = .ok v) : evalBoolText srcs vars (printTextB b) = .ok v := by
  unfold evalBoolText printTextB
  rw [lex_print srcs _ h]
  simp only [parse_print_bool, evalB_refines vars b v hv, liftPy]

example : Lexable [] (prB genLevels 0 (.bin .lt (.atom (.size .b (.bin .add (.lit 1) (.bin .mul (.var "c0de") (.lit 31)))))
    (.lnot (.defined "x")))) = true := by decide +kernel
example : printTextB (.bin .lt (.atom (.size .b (.bin .add (.lit 1) (.bin .mul (.var "c0de") (.lit 31))))) (.lnot (.defined "x")))
    = "1 + c0de * 31.b < ! defined ( x ) " := by decide +kernel
/-- no concrete syntax: the suffix would follow a parenthesis -/
example : Lexable [] (prB genLevels 0 (.atom (.size .b (.bin .mul (.lit 2) (.bin .add (.lit 1) (.lit 2)))))) = false := by decide +kernel

/-- Lexing the rendering of ANY list of pieces of concrete syntax gives exactly the tokens the pieces denote.  Pieces (`CTok`):
    canonical tokens, a token with an int-size suffix, identifier-shaped words (identifier / keyword / source name / `true false yes
    no`), decimal, `K` and hexadecimal (`0x`/`0X`, digits in either case) literals, character and string literals, `$section`
    names, every fixed-spelling operator or delimiter of the lexer's table and the literal `@`, `#` and `//` comments (which denote
    no token).  Separator rule (`renderC`): every piece is followed by exactly one blank; a line comment ends with its newline. -/
theorem lex_print_all (srcs : List String) (cts : List CTok) (h : allOkC srcs cts = true) :
    lex srcs (String.ofList (renderC cts)) = .ok (tokensC srcs cts) := by
  unfold lex
  have := lex_renderC srcs cts ((String.ofList (renderC cts)).length + 1) none none [] h (Or.inl rfl) (by simp)
  simpa using this

/-- what an identifier-shaped word is: the keyword table of the lexer decides (`true`/`yes` are the number 1, `false`/`no` the
    number 0, `defined` and the other reserved words their own token), then the `sources` block, else an identifier -/
theorem word_meaning (srcs : List String) :
    (BdGrammar.reserved.all fun p => wordTok srcs p.1 ==
      (if p.2 == "TRUE" || p.2 == "YES" then .num 1 else if p.2 == "FALSE" || p.2 == "NO" then .num 0
       else if p.2 == "DEFINED" then .defined else .kw p.2)) = true ∧
    (∀ w, BdGrammar.reserved.find? (fun p => p.1 == w) = none →
      wordTok srcs w = if srcs.contains w then .source w else .ident w) := by
  refine ⟨?_, fun w hw => by simp [wordTok, hw]⟩
  -- a reserved word is the same token whatever the sources: the table is evaluated once, without sources
  have closed : (BdGrammar.reserved.all fun p => wordTok [] p.1 ==
      (if p.2 == "TRUE" || p.2 == "YES" then .num 1 else if p.2 == "FALSE" || p.2 == "NO" then .num 0
       else if p.2 == "DEFINED" then .defined else .kw p.2)) = true := by decide +kernel
  rw [List.all_eq_true] at closed ⊢
  exact fun p hp => wordTok_reserved srcs (List.find?_isSome.mpr ⟨p, hp, beq_self_eq_true _⟩) ▸ closed p hp

/-- integer literals denote the number their digits spell: positional value in base 10 / base 16 (digit values 0-9, a-f = A-F =
    10-15), `K` multiplies by 1024, the canonical decimal spelling of `n` denotes `n`, a character literal is the big-endian
    number of its bytes (`'dude'` = 0x64756465, the example of the lexer's own comment) -/
theorem int_literal_values :
    (∀ ds d, decVal (ds ++ [d]) = decVal ds * 10 + (d.toNat - 48)) ∧
    (∀ ds d, hexVal (ds ++ [d]) = hexVal ds * 16 + hexDigitVal d) ∧
    ("0123456789abcdefABCDEF".toList.map hexDigitVal = [0, 1, 2, 3, 4, 5, 6, 7, 8, 9, 10, 11, 12, 13, 14, 15, 10, 11, 12, 13, 14, 15]) ∧
    (∀ n, decVal (decDigits n) = n) ∧
    (∀ srcs ds, decOk ds = true → (CTok.kilo ds).toks srcs = [.num (decVal ds * 1024)]) ∧
    (∀ body c, c.toNat < 128 → charLitVal (body ++ [c]) = charLitVal body * 256 + c.toNat) ∧
    charLitVal "dude".toList = 0x64756465 := by
  refine ⟨decVal_append, ?_, by decide +kernel, fun n => (decDigits_spec n).2.2.1, fun _ _ _ => rfl, ?_, by decide +kernel⟩
  · intro ds d
    simp [hexVal, List.foldl_append]
  · intro body c hc
    simp [charLitVal, List.flatMap_append, List.foldl_append, utf8Bytes, hc]

/-- the model's reading of each lexer rule agrees with the CURRENT regexes and rule actions of sly_bd_lexer.py on the generated
    probe texts (Python's `re` and the rule's own action computed the expected column): comments, identifiers, section names,
    newline, INT_LITERAL (match length and value, incl. `K`, both hex prefixes, leading zeros, character literals; `0b11`, `1M`,
    `1G` are not literals of this language), BINARY_BLOB, the INT_SIZE look-behind; the literal and ignored characters -/
theorem lexer_rules_agree :
    (BdGrammar.ruleProbes.all fun p => ruleLen p.1 p.2.1.toList == p.2.2) = true ∧
    (BdGrammar.intLiteralProbes.all fun p => intLiteralAt p.1.toList == p.2) = true ∧
    (BdGrammar.blobProbes.all fun p => blobAt p.1.toList == p.2) = true ∧
    (BdGrammar.intSizeProbes.all fun p => intSizeAt p.1.toList == p.2) = true ∧
    BdGrammar.literals = ["@"] ∧ BdGrammar.ignoreChars = ["\t", " "] := by
  refine ⟨by decide +kernel, by decide +kernel, by decide +kernel, by decide +kernel, by decide +kernel, by decide +kernel⟩

example : allOkC ["img"] [.word "load", .word "img", .punct "GT", .hex true "1fFF".toList, .punct "RANGE", .kilo "64".toList,
    .punct "SEMI", .lineComment false " c".toList, .chr "ab".toList, .str "x;y".toList, .secname ".text*".toList,
    .sized (.num 18) .b, .word "yes", .punct "@"] = true := by decide +kernel
example : String.ofList (renderC [.word "load", .word "img", .punct "GT", .hex true "1fFF".toList, .punct "RANGE", .kilo "64".toList,
    .punct "SEMI", .lineComment false " c".toList, .sized (.num 18) .b]) = "load img > 0X1fFF .. 64K ; // c\n 18.b " := by decide +kernel
example : tokensC ["img"] [.word "load", .word "img", .punct "GT", .hex true "1fFF".toList, .punct "RANGE", .kilo "64".toList,
    .punct "SEMI", .lineComment false " c".toList, .word "yes"] =
    [.kw "LOAD", .source "img", .cmp .gt, .num 8191, .other "RANGE", .num 65536, .other "SEMI", .num 1] := by decide +kernel

/- full-strength statement (false on the current tree):
   theorem elab_one_cmd : Spec.cmdOf env kbs s = some c → elabStmt env kbs s = .ok c
   The hypotheses of the proved theorem are exactly the forms of the two open findings, each with a refuting example below:
   C19-blob-load (plain blob load), C19-prog-blob-zeros (8-byte fuse blob whose first word is zero).
   (`call`/`reset` and the key blob's `byteSwap` are covered since commits f13ece3 and 0aa60e6.) -/

/-- every supported statement (load of file / source / pattern / fuse value / 4- or 8-byte fuse blob, erase, enable, call, jump,
    jump_sp, reset, version_check, keystore_to_nv / keystore_from_nv, keywrap, encrypt incl. byteSwap) becomes exactly the one
    command the Spec states — except the two recorded blob forms -/
theorem elab_one_cmd_partial (env : Env) (kbs : List KeyBlobDef) (s : Stmt) (c : Cmd)
    (h1 : Spec.isPlainBlobLoad env s = false) (h2 : Spec.isProgBlobLeadingZeros env s = false)
    (h : Spec.cmdOf env kbs s = some c) : elabStmt env kbs s = .ok c :=
  elab_one_cmd_except env kbs (fun e v => eval_refines env.vars e v) s c h1 h2 h

/-- refuting examples of the full-strength statement, one per excluded form -/
theorem elab_one_cmd_counterexamples :
    (Spec.cmdOf {} [] (.load .none (.blob "aabbccdd") (.addr (.lit 16))) = some (.load 16 0 [0xaa, 0xbb, 0xcc, 0xdd]) ∧
      elabStmt {} [] (.load .none (.blob "aabbccdd") (.addr (.lit 16))) = .ok (.load 16 0 [0xdd, 0xcc, 0xbb, 0xaa])) ∧
    (Spec.cmdOf {} [] (.load (.at (.lit 4)) (.blob "0000000011223344") (.addr (.lit 8))) = some (.prog 8 4 0 0x44332211) ∧
      elabStmt {} [] (.load (.at (.lit 4)) (.blob "0000000011223344") (.addr (.lit 8))) = .ok (.prog 8 4 0x44332211 0)) := by decide +kernel

/-- the boot sections carry the ids written in the file -/
theorem section_ids (cfg : Config) (ids : List Int) (h : Spec.sectionUids cfg = some ids) : sectionUids cfg = .ok ids := by
  unfold Spec.sectionUids at h
  unfold sectionUids
  generalize cfg.sections = secs at h
  induction secs generalizing ids with
  | nil => simp at h; subst h; rfl
  | cons s t ih =>
    simp only [List.mapM_cons, Option.bind_eq_bind, Option.bind_eq_some_iff] at h
    obtain ⟨v, hv, r, hr, hc⟩ := h
    simp at hc; subst hc
    cases hs : s.1 with
    | s t' => simp [hs] at hv
    | i w =>
      simp [hs] at hv; subst hv
      have hr' := ih r hr
      rw [List.mapM_cons, hr']
      simp [hs, valueToInt, bind, Except.bind, pure, Except.pure]

example : Spec.sectionUids { sections := [(.i 5, []), (.i 7, [])] } = some [5, 7] ∧
    sectionUids { sections := [(.i 5, []), (.i 7, [])] } = .ok [5, 7] := by decide +kernel
example : Spec.cmdOf {} [] (.call (.lit 16) (.arg (.lit 3))) = some (.call 16 (.i 3)) ∧
    elabStmt {} [] (.call (.lit 16) (.arg (.lit 3))) = .ok (.call 16 (.i 3)) ∧ elabStmt {} [] .reset = .ok .reset := by decide +kernel

/-- a section's statements become one command each, in order -/
theorem section_one_cmd_each (env : Env) (ss : List Stmt) (ds : List (String × Dict))
    (h : runStmts env ss = .ok ds) : ds.length = ss.length :=
  runStmts_length env ss ds h

/-- an unsupported construct anywhere in a program makes the whole program an error -/
theorem unsupported_refused (env : Env) (blocks : List Block) (secs : List Section) (sec : Section) (k : String)
    (hs : sec ∈ secs) (hk : Stmt.unsupported k ∈ sec.stmts) :
    ∃ e, runProgram env blocks secs = .error e :=
  runProgram_unsupported env blocks secs sec k hs hk

/-! ### Non-vacuity -/

example : refParseB genLevels (prB genLevels 0 (.bin .lt (.atom (.bin .add (.lit 1) (.bin .mul (.lit 2) (.lit 3)))) (.atom (.lit 8))))
    = .ok (.bin .lt (.atom (.bin .add (.lit 1) (.bin .mul (.lit 2) (.lit 3)))) (.atom (.lit 8))) := by decide +kernel
example : Spec.evalB [("a", .int 10)] (.atom (.bin .mul (.var "a") (.lit 4))) = .ok (.int 40) := by decide +kernel
example : evalB [] (.atom (.size .b (.lit 0x1234))) = .ok (.int 0x34) := by decide +kernel
example : Spec.cmdOf {} [] (.load .none (.pattern (.lit 0x55)) (.range (.lit 0x100) (.lit 0x200)))
    = some (.fill 0x100 [0x55, 0x55, 0x55, 0x55] 0x100) := by decide +kernel
example : elabStmt {} [] (.load .none (.pattern (.lit 0x55)) (.range (.lit 0x100) (.lit 0x200)))
    = .ok (.fill 0x100 [0x55, 0x55, 0x55, 0x55] 0x100) := by decide +kernel

end SpsdkVerif.C19
