/-
Property C03 — the root-of-trust value and the certificate blocks are a pure function of the root keys.

Model: Model/Rkht.lean (every tool path, statement by statement, constants generated from the current source),
       Model/CertBlock.lean (CertBlockV1 / CertBlockV21 / RootKeyRecord / IskCertificate codecs).
Spec : Spec/Rotkh.lean (the documented construction over raw key material, hand transcribed).
`c : CryptoOps` is arbitrary; `CryptoLaws c` is used only for the digest lengths (`hash_len`) and, in
`isk_signature_verifies`, for `verify_sign`.  Keys are numbers; the CA attribute AHAB / HAB copy into their
records is an explicit input.
-/
import SpsdkVerif.Proofs.Rkht
import SpsdkVerif.Proofs.CertBlock
import SpsdkVerif.Proofs.CertBlockRom
import SpsdkVerif.Proofs.HabSrk
import SpsdkVerif.Proofs.CertBlockCanon
import SpsdkVerif.Proofs.CertBlockSb2

namespace SpsdkVerif.C03
open SpsdkVerif SpsdkVerif.Spec SpsdkVerif.Rkht SpsdkVerif.CertBlock
open SpsdkVerif.Misc (beEnc leEnc leDec byteLen)
open SpsdkVerif.Crypto (HashAlg SigAlg CryptoOps CryptoLaws Bytes)

namespace Gen
export SpsdkVerif.Generated.RotTypes (RotRow rotRows rotClassTypes pfrRkhtTypes cbV1HeaderFormat cbV1HeaderWidths cbV1Signature
  cbV1Alignment cbV21HeaderFormat cbV21HeaderWidths cbV21Magic rkhtV1Slots
  rkhV1Size rkhtMaxKeys rsaHashName rkrCaBit rkrUsedShift rkrCountShift rkrCurveBits rkrParseCaMask rkrParseUsedMask
  rkrParseUsedShift rkrParseCountMask rkrParseCountShift rkrParseHashLen rkrParseCurveMask rkrHashAlg iskUserDataBit
  iskCurveBits iskNoOffsetMagic iskNoOffsetSigOffset iskParseUserDataMask iskParseKeyLen ahabTagSrkTable ahabTagSrkRecord
  ahabTagSrkData ahabSignRsaPssV1 ahabSignEcdsaV1 ahabHashTagsV1 ahabSignRsaPssV2 ahabSignEcdsaV2 ahabHashTagsV2 ahabEccKeyType
  ahabRsaKeyType ahabKeySizes ahabCaMask ahabTableVersion ahabTableVersionV2 ahabTableHash ahabTableHashV2 ahabRecordsCnt
  ahabV2ParamsLen ahabSrkDataVersion ahabEccHashByBits habTagKeyPublic habAlgPkcs1 habAlgEcdsa habEccKeyType
  habHeaderFormat habTagCrt datRsaExpLength datRsaTableLen datEccHashSizes datFlagsAlwaysBit datFlagsUsedShift
  datFlagsCountShift)
end Gen

/-! ## 1. The constants of the current source are the documented ones

Every number / table below is re-extracted from /repo on each run (tools/extract/gen_C03.py); a changed
source constant makes this theorem (and the path theorems that `decide` the same lookups) stop compiling. -/

theorem generated_constants_agree :
    -- certificate block v1 header "<4s2H6I" (canonical spelling: one code per field): "cert", major, minor, header size, flags, build, image length, count, table length
    Gen.cbV1HeaderFormat = "<4sHHIIIIII" ∧ Generated.RotTypes.cbV1HeaderSize = 32 ∧ Gen.cbV1HeaderWidths = [4, 2, 2, 4, 4, 4, 4, 4, 4] ∧
    Gen.cbV1Signature = [0x63, 0x65, 0x72, 0x74] ∧ Gen.cbV1Alignment = 16 ∧
    -- certificate block v2.1 header "<4s2HL": "chdr", minor, major, size
    Gen.cbV21HeaderFormat = "<4sHHI" ∧ Generated.RotTypes.cbV21HeaderSize = 12 ∧ Gen.cbV21HeaderWidths = [4, 2, 2, 4] ∧ Gen.cbV21Magic = [0x63, 0x68, 0x64, 0x72] ∧
    -- RKH table geometry
    Gen.rkhtV1Slots = 4 ∧ Gen.rkhV1Size = 32 ∧ Gen.rkhtMaxKeys = 4 ∧ Gen.rsaHashName = "sha256" ∧
    -- root key record flags: written (`_calculate_flags`) and read (`parse`) at the same positions
    Gen.rkrCaBit = 31 ∧ Gen.rkrUsedShift = 8 ∧ Gen.rkrCountShift = 4 ∧
    Gen.rkrCurveBits = [(0, ["NIST P-256", "p256", "secp256r1"]), (1, ["NIST P-384", "p384", "secp384r1"])] ∧
    Gen.rkrParseCaMask = 2 ^ 31 ∧ Gen.rkrParseUsedMask = 0xF00 ∧ Gen.rkrParseUsedShift = 8 ∧ Gen.rkrParseCountMask = 0xF0 ∧
    Gen.rkrParseCountShift = 4 ∧ Gen.rkrParseCurveMask = 0xF ∧ Gen.rkrParseHashLen = [(0, 32), (1, 32), (2, 48)] ∧
    Gen.rkrHashAlg = [(1, "sha256"), (2, "sha384")] ∧
    -- ISK certificate flags
    Gen.iskUserDataBit = 31 ∧ Gen.iskCurveBits = [(0, "secp256r1"), (1, "secp384r1")] ∧ Gen.iskParseUserDataMask = 2 ^ 31 ∧
    Gen.iskParseKeyLen = [(0, 32), (1, 32), (2, 48)] ∧ Gen.iskNoOffsetMagic = 0x4D43 ∧ Gen.iskNoOffsetSigOffset = 72 ∧
    -- AHAB
    Gen.ahabTagSrkTable = 0xD7 ∧ Gen.ahabTagSrkRecord = 0xE1 ∧ Gen.ahabTagSrkData = 0x5D ∧ Gen.ahabSignRsaPssV1 = 0x22 ∧
    Gen.ahabSignEcdsaV1 = 0x27 ∧ Gen.ahabSignRsaPssV2 = 0x22 ∧ Gen.ahabSignEcdsaV2 = 0x27 ∧
    Gen.ahabHashTagsV1 = [("sha256", 0), ("sha384", 1), ("sha512", 2)] ∧ Gen.ahabHashTagsV2 = [("sha256", 0), ("sha384", 1), ("sha512", 2)] ∧
    Gen.ahabCaMask = 0x80 ∧ Gen.ahabTableVersion = 0x42 ∧ Gen.ahabTableVersionV2 = 0x43 ∧ Gen.ahabTableHash = "sha256" ∧
    Gen.ahabTableHashV2 = "sha512" ∧ Gen.ahabRecordsCnt = 4 ∧ Gen.ahabV2ParamsLen = 64 ∧ Gen.ahabSrkDataVersion = 0 ∧
    Gen.ahabRsaKeyType = [(2048, 5), (3072, 6), (4096, 7)] ∧
    Gen.ahabEccHashByBits = [(256, "sha256"), (384, "sha384"), (521, "sha512")] ∧
    -- HAB
    Gen.habTagKeyPublic = 0xE1 ∧ Gen.habAlgPkcs1 = 0x21 ∧ Gen.habAlgEcdsa = 0x27 ∧ Gen.habTagCrt = 0xD7 ∧
    Gen.habHeaderFormat = ">BHB" ∧
    Gen.habEccKeyType = [("secp256r1", 0x4B), ("secp384r1", 0x4D), ("secp521r1", 0x4E)] ∧
    -- debug credential RoT meta
    Gen.datRsaExpLength = 3 ∧ Gen.datRsaTableLen = 128 ∧ Gen.datEccHashSizes = [(32, 256), (48, 384), (66, 512)] ∧
    Gen.datFlagsAlwaysBit = 31 ∧ Gen.datFlagsUsedShift = 8 ∧ Gen.datFlagsCountShift = 4 ∧
    -- dispatch tables
    Gen.rotClassTypes = [("RotCertBlockv1", "cert_block_1"), ("RotCertBlockv21", "cert_block_21"),
      ("RotSrkTableAhab", "srk_table_ahab"), ("RotSrkTableAhabV2", "srk_table_ahab_v2"), ("RotSrkTableHab", "srk_table_hab")] ∧
    Gen.pfrRkhtTypes = [("cert_block_1", "RKHTv1"), ("cert_block_21", "RKHTv21")] := by
  repeat' apply And.intro
  all_goals decide

/-- AHAB key-size codes / parameter lengths and curve codes of the source = the documented ones -/
theorem generated_ahab_tables_agree :
    (∀ code l1 l2, (code, l1, l2) ∈ [(1, 32, 32), (2, 48, 48), (3, 66, 66), (5, 256, 4), (6, 384, 4), (7, 512, 4)] →
      Gen.ahabKeySizes.lookup code = some (l1, l2)) ∧
    Gen.ahabEccKeyType.lookup "secp256r1" = some 1 ∧ Gen.ahabEccKeyType.lookup "secp384r1" = some 2 ∧
    Gen.ahabEccKeyType.lookup "secp521r1" = some 3 := by
  refine ⟨?_, by decide, by decide, by decide⟩
  intro code l1 l2 h
  simp only [List.mem_cons, Prod.mk.injEq, List.mem_nil_iff, or_false] at h
  rcases h with ⟨rfl, rfl, rfl⟩ | ⟨rfl, rfl, rfl⟩ | ⟨rfl, rfl, rfl⟩ | ⟨rfl, rfl, rfl⟩ | ⟨rfl, rfl, rfl⟩ | ⟨rfl, rfl, rfl⟩ <;> decide

def knownRotTypes : List String :=
  ["cert_block_1", "cert_block_21", "srk_table_ahab", "srk_table_ahab_v2", "srk_table_hab", "cert_block_x"]

/-- every (family, revision) row of the database names a RoT type the dispatch knows (or the MC56 `cert_block_x`,
    which has no root-key hash), and the ISK user-data limits are the documented 96 / 4 -/
theorem rot_rows_known :
    ∀ r ∈ Gen.rotRows, r.rotType ∈ knownRotTypes ∧
      (r.rotType ≠ "cert_block_x" → (RotType.ofName? r.rotType).isSome ∧
        (Gen.rotClassTypes.find? (fun p => p.2 == r.rotType)).isSome) := by
  decide +kernel

theorem rotType_name_roundtrip (t : RotType) : RotType.ofName? t.name = some t := by cases t <;> decide

/-! ## 2. Every tool path computes the documented value -/

variable (c : CryptoOps)

theorem rotkh_cb1 (ks : List Key) : Spec.rotkh c .certBlock1 ks = rotkhV1 c ks := rotkh_certBlock1 c ks

theorem rotkh_cb21 (ks : List Key) : Spec.rotkh c .certBlock21 ks = rotkhV21 c ks := rotkh_certBlock21 c ks

/-- the bytes `CertBlockV1.set_root_key_hash` hashes (`PublicKeyRsa.export()`) are the bytes `_calc_key_hash` hashes
    (`BE n ‖ BE e`, both minimal) — for EVERY modulus and exponent -/
theorem rsa_export_eq_hash_input (n e : Nat) :
    exportKey (.rsa n e) = .ok (Spec.beMin n ++ Spec.beMin e) ∧ (Key.rsa n e).material = Spec.beMin n ++ Spec.beMin e :=
  ⟨exportRsa_default n e, rfl⟩

/-- EC keys: the exported key is `X ‖ Y` at the fixed coordinate width — leading zero bytes are kept -/
theorem ecc_export_eq_hash_input (cv : Curve) (x y : Nat) (hx : x < 256 ^ cv.coordSize) (hy : y < 256 ^ cv.coordSize) :
    exportKey (.ecc cv x y) = .ok (beEnc cv.coordSize x ++ beEnc cv.coordSize y) ∧
      (beEnc cv.coordSize x ++ beEnc cv.coordSize y).length = 2 * cv.coordSize := by
  refine ⟨exportEcc_fit cv x y hx hy, ?_⟩
  simp [Misc.beEnc_length']; omega

/-- `RKHTv1.from_keys(keys).rkth()` — also `Rot(cert_block_1)`, `nxpcrypto rot calc-hash` -/
theorem path_rkhtV1_eq_spec (hc : CryptoLaws c) (ks : List Key) (h : KeysOK .certBlock1 ks) :
    pathRkhtV1 c ks = .ok (Spec.rotkh c .certBlock1 ks) := by
  rw [rotkh_cb1]; exact path_rkhtV1 c hc ks h

/-- `CertBlockV1` built from the root certificates: independent of the used index / chain / signer -/
theorem path_certBlockV1_eq_spec (hc : CryptoLaws c) (ks : List Key) (h : KeysOK .certBlock1 ks) (usedIdx : Nat) :
    pathCertBlockV1 c ks usedIdx = .ok (Spec.rotkh c .certBlock1 ks) := by
  rw [rotkh_cb1]; exact path_certBlockV1 c hc ks h usedIdx

/-- `RKHTv21.from_keys(keys).rkth()` — also `Rot(cert_block_21)` -/
theorem path_rkhtV21_eq_spec (hc : CryptoLaws c) (ks : List Key) (h : KeysOK .certBlock21 ks) :
    pathRkhtV21 c ks = .ok (Spec.rotkh c .certBlock21 ks) := by
  rw [rotkh_cb21]; exact path_rkhtV21 c hc ks h

/-- `CertBlockV21(root_certs, used_root_cert, ca_flag, isk…).calculate(); .rkth` -/
theorem path_certBlockV21_eq_spec (hc : CryptoLaws c) (ks : List Key) (h : KeysOK .certBlock21 ks)
    (usedIdx : Nat) (hu : usedIdx < ks.length) (ca : Bool) :
    pathCertBlockV21 c ks usedIdx ca = .ok (Spec.rotkh c .certBlock21 ks) := by
  rw [rotkh_cb21]; exact path_certBlockV21 c hc ks h usedIdx hu ca

/-- the same value is obtained from the BINARY root key record: calculate → export → parse → rkth
    (what `get_keys_or_rotkh_from_certblock_config` does for a binary certificate block) -/
theorem path_certBlockV21_parsed_eq_spec (hc : CryptoLaws c) (ks : List Key) (h : KeysOK .certBlock21 ks)
    (usedIdx : Nat) (hu : usedIdx < ks.length) (ca : Bool) (tail : Bytes) :
    ∃ r, rkrCalculate c ca ks usedIdx = .ok r ∧ rkrExport r = .ok (rkrBytes r) ∧
      rkrParse c (rkrBytes r ++ tail) = .ok (r, (rkrBytes r).length) ∧
      rkthV21 c r.rkh = .ok (Spec.rotkh c .certBlock21 ks) := by
  obtain ⟨h1, h4, _, _⟩ := keysOK_cb21 h
  obtain ⟨cv, ku, hcv, hku, hkc, hall, hcalc⟩ := rkrCalculate_ok c hc ks h usedIdx hu ca
  have wf := wf_calculated c hc ks cv ku usedIdx ca hcv h1 h4 hu hku hkc hall
  refine ⟨_, hcalc, rkrExport_ok wf, rkrParse_ok wf tail, ?_⟩
  rw [rotkh_cb21]
  cases ks with
  | nil => simp at h1
  | cons k0 rest => exact rkthV21_hashes c hc k0 rest

/-- PFR `_calc_rotkh`: the value left-justified to the ROTKH register width -/
theorem path_pfr_eq_spec_v1 (hc : CryptoLaws c) (ks : List Key) (h : KeysOK .certBlock1 ks) (width : Nat) (hw : 256 ≤ width) :
    pathPfr c (RotType.name .certBlock1) width ks = .ok (ljust (width / 8) (Spec.rotkh c .certBlock1 ks)) := by
  rw [rotkh_cb1]; exact path_pfr_v1 c hc ks h width hw

theorem path_pfr_eq_spec_v21 (hc : CryptoLaws c) (k0 : Key) (rest : List Key) (h : KeysOK .certBlock21 (k0 :: rest))
    (width : Nat) (hw : k0.hashAlg.size * 8 ≤ width) :
    pathPfr c (RotType.name .certBlock21) width (k0 :: rest) = .ok (ljust (width / 8) (Spec.rotkh c .certBlock21 (k0 :: rest))) := by
  rw [rotkh_cb21]; exact path_pfr_v21 c hc k0 rest h width hw

/-- `ljust` only appends zero bytes: the register starts with the documented value -/
theorem pfr_prefix (n : Nat) (b : Bytes) : (ljust n b).take b.length = b := by
  simp [ljust]

/-- debug credential, RSA (`RotMetaRSA`): the cert-block-v1 value, for exponents of exactly three bytes (65537) -/
theorem path_datRsa_eq_spec (hc : CryptoLaws c) (ks : List Key) (h : KeysOK .certBlock1 ks)
    (he : ∀ n e, Key.rsa n e ∈ ks → byteLen e = 3) : pathDatRsa c ks = .ok (Spec.rotkh c .certBlock1 ks) := by
  rw [rotkh_cb1]; exact path_datRsa c hc ks h he

/-- debug credential, EC (`RotMetaEcc` + the single-key fallback of `DebugCredentialCertificateEcc`):
    the cert-block-v2.1 construction, for every curve incl. P-521 (SHA-512) -/
theorem path_datEcc_eq_spec (hc : CryptoLaws c) (cv : Curve) (ks : List Key) (h : DatEccOK cv ks)
    (usedIdx : Nat) (hu : usedIdx < ks.length) : pathDatEcc c ks usedIdx = .ok (Spec.rotkh c .certBlock21 ks) := by
  rw [rotkh_cb21]; exact path_datEcc c hc cv ks h usedIdx hu

/-- AHAB SRK table (container version 1) -/
theorem path_ahab_eq_spec (kcs : List (Key × Bool)) (h : AhabOK kcs) :
    pathAhab c kcs = .ok (rotkhCa c .srkTableAhab kcs) := path_ahab c kcs h

/-- AHAB SRK table version 2 (SRK data hashed into the record) -/
theorem path_ahabV2_eq_spec (hc : CryptoLaws c) (kcs : List (Key × Bool)) (h : AhabOK kcs) :
    pathAhabV2 c kcs = .ok (rotkhCa c .srkTableAhabV2 kcs) := path_ahabV2 c hc kcs h

/-- HAB SRK table fuses -/
theorem path_hab_eq_spec (kcs : List (Key × Bool)) (h : ∀ kc ∈ kcs, keyOK kc.1 = true) :
    pathHab c kcs = .ok (rotkhCa c .srkTableHab kcs) := path_hab c kcs h

/-- `KeysOK` for the AHAB types + equal CA flags is the hypothesis of the AHAB path theorems -/
theorem ahabOK_of_keysOK (t : RotType) (ht : t = .srkTableAhab ∨ t = .srkTableAhabV2) (ks : List Key) (h : KeysOK t ks) (ca : Bool) :
    AhabOK (ks.map fun k => (k, ca)) := by
  have h' : ks.all keyOK = true ∧ ks.length = 4 ∧ ∃ k0 rest, ks = k0 :: rest ∧ ks.all (Key.sameKind k0) = true := by
    rcases ht with rfl | rfl <;>
    · simp only [KeysOK, keysOK, Bool.and_eq_true, decide_eq_true_eq] at h
      obtain ⟨ha, hl, hs⟩ := h
      refine ⟨ha, hl, ?_⟩
      cases ks with
      | nil => simp at hl
      | cons k0 rest => exact ⟨k0, rest, rfl, hs⟩
  obtain ⟨ha, hl, k0, rest, rfl, hs⟩ := h'
  refine ⟨by simpa using hl, ?_, k0, ca, rfl, ?_⟩
  · intro kc hkc
    obtain ⟨k, hk, rfl⟩ := List.mem_map.mp hkc
    exact List.all_eq_true.mp ha k hk
  · intro kc hkc
    obtain ⟨k, hk, rfl⟩ := List.mem_map.mp hkc
    exact ⟨List.all_eq_true.mp hs k hk, rfl⟩

/-- `Rot(family, revision, keys).calculate_hash()`: the database `rot_type` string selects the path; for every RoT type
    the result is the documented value of that type -/
theorem path_rot_eq_spec (hc : CryptoLaws c) (t : RotType) (ks : List Key) (h : KeysOK t ks) :
    pathRot c t.name (ks.map fun k => (k, false)) = .ok (Spec.rotkh c t ks) := by
  have hm : (ks.map fun k => (k, false)).map (·.1) = ks := by simp [List.map_map, Function.comp_def]
  rw [pathRot_name, hm]
  cases t with
  | certBlock1 => exact path_rkhtV1_eq_spec c hc ks h
  | certBlock21 => exact path_rkhtV21_eq_spec c hc ks h
  | srkTableAhab => exact path_ahab c _ (ahabOK_of_keysOK _ (Or.inl rfl) ks h false)
  | srkTableAhabV2 => exact path_ahabV2 c hc _ (ahabOK_of_keysOK _ (Or.inr rfl) ks h false)
  | srkTableHab =>
    apply path_hab
    intro kc hkc
    obtain ⟨k, hk, rfl⟩ := List.mem_map.mp hkc
    simp only [KeysOK, keysOK, Bool.and_eq_true] at h
    exact List.all_eq_true.mp h.1 k hk

/-! ## 2b. HAB SRK table entry for EC keys: the generated description of `SrkItemEcc.export` / `parse`

`habEccExportFields` / `habEccCoord*` / `habEccCurveRanges` / `habEccParse*` are obtained on every run by evaluating the bodies of
`SrkItemEcc.__init__`, `export`, `parse` and `get_ecc_curve` (gen_C03.probe_hab_ecc); the Spec side (`Spec.habItem`) is hand
transcribed from the HAB item layout.  The key-size field carries the size in BITS: 521 = 0x0209 for P-521, not 8 x 66 = 528. -/

/-- what the current source does, field by field -/
theorem generated_hab_ecc_description_agree :
    Generated.RotTypes.habHeaderSize = 4 ∧
    -- pack(">8B", 0, 0, 0, flag, curve_id, 0, key_size >> 8 & 0xFF, key_size & 0xFF)
    Generated.RotTypes.habEccExportFields = [(0, 0, 0), (0, 0, 0), (0, 0, 0), (1, 0, 255), (2, 0, 255), (0, 0, 0), (3, 8, 255), (3, 0, 255)] ∧
    -- coordinate_size = ceil(key_size / 8), both in the constructor and in parse
    Generated.RotTypes.habEccCoordAdd = 7 ∧ Generated.RotTypes.habEccCoordDiv = 8 ∧ Generated.RotTypes.habEccLenExtra = 8 ∧
    Generated.RotTypes.habEccParseCoordAdd = 7 ∧ Generated.RotTypes.habEccParseCoordDiv = 8 ∧
    -- unpack_from(">3BH", data, 7): flag, curve id, (unused), key size big endian; coordinates from offset 12
    Generated.RotTypes.habEccParseFlagIdx = 7 ∧ Generated.RotTypes.habEccParseCurveIdx = 8 ∧
    Generated.RotTypes.habEccParseBitsIdx = [(10, 8), (11, 0)] ∧ Generated.RotTypes.habEccParseCoordOff = 12 ∧
    -- get_ecc_curve(key_size // 8) names the key's curve for the three key sizes
    habCurveName 256 = .ok "secp256r1" ∧ habCurveName 384 = .ok "secp384r1" ∧ habCurveName 521 = .ok "secp521r1" := by
  repeat' apply And.intro
  all_goals decide

/-- for every curve (P-256 / P-384 / P-521), both CA flags and all coordinates that fit the field: the generated description of
    `SrkItemEcc(key_size, x, y, flag).export()` produces exactly the documented item `Spec.habItem`, and so does the
    `from_certificate` path of the SRK table -/
theorem hab_ecc_item_eq_spec (cv : Curve) (x y : Nat) (ca : Bool) (hx : x < 256 ^ cv.coordSize) (hy : y < 256 ^ cv.coordSize) :
    habEccExport { keySize := cv.bits, x := x, y := y, flag := caFlag ca } = .ok (Spec.habItem (.ecc cv x y) ca) ∧
    habItemExport (.ecc cv x y) ca = .ok (Spec.habItem (.ecc cv x y) ca) :=
  ⟨habEccExport_curve cv x y ca hx hy, habEccExport_curve cv x y ca hx hy⟩

/-- the key-size field (bytes 10..11 of the item) is the key size in BITS, big endian; for P-521 that is 02 09, which differs from
    eight times the coordinate size (02 10); the length field is 12 + 2 x coordinate size -/
theorem hab_ecc_key_size_in_bits (cv : Curve) (x y : Nat) (ca : Bool) :
    ((Spec.habItem (.ecc cv x y) ca).drop 10).take 2 = beEnc 2 cv.bits ∧
    ((Spec.habItem (.ecc cv x y) ca).drop 1).take 2 = beEnc 2 (12 + 2 * cv.coordSize) ∧
    (Spec.habItem (.ecc cv x y) ca).length = 12 + 2 * cv.coordSize ∧
    beEnc 2 Curve.p521.bits = [0x02, 0x09] ∧ beEnc 2 (8 * Curve.p521.coordSize) = [0x02, 0x10] := by
  refine ⟨?_, ?_, ?_, by decide, by decide⟩
  · rw [habItem_ecc_layout]; cases cv <;> rfl
  · rw [habItem_ecc_layout]; cases cv <;> rfl
  · rw [habItem_ecc_layout]; simp [Misc.beEnc_length']; omega

/-- `SrkItemEcc.parse(SrkItemEcc(...).export() ‖ rest)` gives key size (bits), X, Y and flag back -/
theorem hab_ecc_item_roundtrip (cv : Curve) (x y : Nat) (ca : Bool) (hx : x < 256 ^ cv.coordSize) (hy : y < 256 ^ cv.coordSize)
    (rest : Bytes) :
    ∃ b, habEccExport { keySize := cv.bits, x := x, y := y, flag := caFlag ca } = .ok b ∧
      habEccParse (b ++ rest) = .ok { keySize := cv.bits, x := x, y := y, flag := caFlag ca } :=
  ⟨_, habEccExport_curve cv x y ca hx hy, habEccParse_item cv x y ca hx hy rest⟩

/-- …and for EVERY item the constructor and `export` accept, not only keys on the three curves: any key size of the generated
    `get_ecc_curve(key_size // 8)` table (0..535 and 768..775 - e.g. 512..519 are written with the P-256 curve id), both flag values, all
    coordinates that fit `ceil(key_size / 8)` bytes: `parse (export item ‖ rest) = item` -/
theorem hab_ecc_item_roundtrip_any (it : HabEccItem) (b : Bytes) (h : habEccExport it = .ok b) (rest : Bytes) :
    habEccParse (b ++ rest) = .ok it :=
  habEccParse_export_any it b h rest

set_option maxRecDepth 20000 in
/-- non-vacuity: an item with the odd key size 515 (exported with the P-256 id 0x4B, 65-byte coordinates) -/
example : ∃ b, habEccExport { keySize := 515, x := 5, y := 6, flag := 0x80 } = .ok b ∧ b.length = 142 ∧ b.take 12 = [0xE1, 0, 142, 0x27, 0, 0, 0, 0x80, 0x4B, 0, 2, 3] :=
  ⟨_, rfl, by decide, by decide⟩

/-- non-vacuity: a short X (leading zero bytes) and a full-width Y on P-521 -/
example : (7 : Nat) < 256 ^ Curve.p521.coordSize ∧ (2 ^ 250 * 2 ^ 250 * 2 ^ 20 + 1 : Nat) < 256 ^ Curve.p521.coordSize := by decide +kernel

def eccEx' (cv : Curve) (d : Nat) : Key := .ecc cv (7 + d) (11 + d)

/-! ## 2c. One generated RoT-type table: every database row dispatches to a path that computes the documented value -/

theorem rotType_ofName_name (s : String) (t : RotType) (h : RotType.ofName? s = some t) : t.name = s := by
  unfold RotType.ofName? at h
  split at h
  next hs => cases h; exact (eq_of_beq hs).symm
  next =>
    split at h
    next hs => cases h; exact (eq_of_beq hs).symm
    next =>
      split at h
      next hs => cases h; exact (eq_of_beq hs).symm
      next =>
        split at h
        next hs => cases h; exact (eq_of_beq hs).symm
        next =>
          split at h
          next hs => cases h; exact (eq_of_beq hs).symm
          next => cases h

/-- SRK-table types (AHAB v1 / v2, HAB) with the CA flag the records carry: `Rot(...).calculate_hash()` is `Spec.rotkhCa` of the type named by
    the database string, the ordered key list and the record flags - nothing else enters (AHAB refuses tables with mixed flags) -/
theorem path_rot_srk_eq_spec (hc : CryptoLaws c) (t : RotType) (ht : t = .srkTableAhab ∨ t = .srkTableAhabV2 ∨ t = .srkTableHab)
    (kcs : List (Key × Bool)) (h : KeysOK t (kcs.map (·.1))) (ca : Bool) (hca : t ≠ .srkTableHab → ∀ kc ∈ kcs, kc.2 = ca) :
    pathRot c t.name kcs = .ok (rotkhCa c t kcs) := by
  have hmap : (∀ kc ∈ kcs, kc.2 = ca) → (kcs.map (·.1)).map (fun k => (k, ca)) = kcs := by
    intro hh
    rw [List.map_map]
    conv => rhs; rw [← List.map_id kcs]
    apply List.map_congr_left
    intro kc hkc
    simp only [Function.comp_apply, id_eq]
    rw [← hh kc hkc]
  rw [pathRot_name]
  rcases ht with rfl | rfl | rfl
  · have ok := ahabOK_of_keysOK _ (Or.inl rfl) _ h ca
    rw [hmap (hca (by decide))] at ok
    exact path_ahab c _ ok
  · have ok := ahabOK_of_keysOK _ (Or.inr rfl) _ h ca
    rw [hmap (hca (by decide))] at ok
    exact path_ahabV2 c hc _ ok
  · apply path_hab
    intro kc hkc
    simp only [KeysOK, keysOK, Bool.and_eq_true] at h
    exact List.all_eq_true.mp h.1 kc.1 (List.mem_map.mpr ⟨kc, hkc, rfl⟩)

/-- for EVERY (family, revision) row of the database that has a root-key hash (generated table, 127 rows): its `rot_type` string names one
    of the five documented constructions, and `Rot(family, revision, keys).calculate_hash()` returns that construction's value of the
    ordered key list - the value is a function of (rot type, key sequence) alone -/
theorem rot_rows_dispatch_eq_spec (hc : CryptoLaws c) :
    ∀ r ∈ Gen.rotRows, r.rotType ≠ "cert_block_x" →
      ∃ t : RotType, RotType.ofName? r.rotType = some t ∧ t.name = r.rotType ∧
        ∀ ks, KeysOK t ks → pathRot c r.rotType (ks.map fun k => (k, false)) = .ok (Spec.rotkh c t ks) := by
  intro r hr hx
  obtain ⟨_, hk⟩ := rot_rows_known r hr
  obtain ⟨ht, _⟩ := hk hx
  obtain ⟨t, ht⟩ := Option.isSome_iff_exists.mp ht
  have hn := rotType_ofName_name _ _ ht
  refine ⟨t, ht, hn, fun ks hks => ?_⟩
  rw [← hn]; exact path_rot_eq_spec c hc t ks hks

/-- non-vacuity: a HAB table of a P-521 key flagged CA and a P-256 key without the flag -/
example : KeysOK .srkTableHab ([(eccEx' .p521 3, true), (eccEx' .p256 1, false)].map (·.1)) := by decide

/-! ## 3. Corollaries: independence of signer / ISK / used index, agreement of the tool paths -/

/-- which root key is selected, whether an ISK certificate is used (CA flag) — the value does not change -/
theorem rot_indep_signer (hc : CryptoLaws c) (ks : List Key) (h : KeysOK .certBlock21 ks)
    (u1 u2 : Nat) (h1 : u1 < ks.length) (h2 : u2 < ks.length) (ca1 ca2 : Bool) :
    pathCertBlockV21 c ks u1 ca1 = pathCertBlockV21 c ks u2 ca2 := by
  rw [path_certBlockV21_eq_spec c hc ks h u1 h1 ca1, path_certBlockV21_eq_spec c hc ks h u2 h2 ca2]

theorem rot_indep_signer_v1 (ks : List Key) (u1 u2 : Nat) : pathCertBlockV1 c ks u1 = pathCertBlockV1 c ks u2 := rfl

/-- RSA key sets: RKHT, certificate block v1, `Rot`, debug credential and (as a prefix) PFR agree -/
theorem rot_paths_agree_rsa (hc : CryptoLaws c) (ks : List Key) (h : KeysOK .certBlock1 ks)
    (he : ∀ n e, Key.rsa n e ∈ ks → byteLen e = 3) (usedIdx width : Nat) (hw : 256 ≤ width) :
    pathCertBlockV1 c ks usedIdx = pathRkhtV1 c ks ∧ pathDatRsa c ks = pathRkhtV1 c ks ∧
    pathRot c "cert_block_1" (ks.map fun k => (k, false)) = pathRkhtV1 c ks ∧
    pathPfr c "cert_block_1" width ks = (pathRkhtV1 c ks).map (ljust (width / 8)) := by
  have e := path_rkhtV1_eq_spec c hc ks h
  refine ⟨?_, ?_, ?_, ?_⟩
  · rw [e]; exact path_certBlockV1_eq_spec c hc ks h usedIdx
  · rw [e]; exact path_datRsa_eq_spec c hc ks h he
  · rw [e]; exact path_rot_eq_spec c hc .certBlock1 ks h
  · rw [e]; exact path_pfr_eq_spec_v1 c hc ks h width hw

/-- EC key sets (P-256 / P-384): RKHT, certificate block v2.1, its binary form, `Rot`, debug credential, PFR agree -/
theorem rot_paths_agree_ecc (hc : CryptoLaws c) (k0 : Key) (rest : List Key) (h : KeysOK .certBlock21 (k0 :: rest))
    (usedIdx : Nat) (hu : usedIdx < (k0 :: rest).length) (ca : Bool) (width : Nat) (hw : k0.hashAlg.size * 8 ≤ width) :
    pathCertBlockV21 c (k0 :: rest) usedIdx ca = pathRkhtV21 c (k0 :: rest) ∧
    pathDatEcc c (k0 :: rest) usedIdx = pathRkhtV21 c (k0 :: rest) ∧
    pathRot c "cert_block_21" ((k0 :: rest).map fun k => (k, false)) = pathRkhtV21 c (k0 :: rest) ∧
    pathPfr c "cert_block_21" width (k0 :: rest) = (pathRkhtV21 c (k0 :: rest)).map (ljust (width / 8)) := by
  have e := path_rkhtV21_eq_spec c hc _ h
  obtain ⟨h1, h4, hk, hcv⟩ := keysOK_cb21 h
  refine ⟨?_, ?_, ?_, ?_⟩
  · rw [e]; exact path_certBlockV21_eq_spec c hc _ h usedIdx hu ca
  · rw [e]
    rcases hcv with hcv | hcv
    · exact path_datEcc_eq_spec c hc .p256 _ ⟨h1, h4, fun k hk' => ⟨hk k hk', hcv k hk'⟩⟩ usedIdx hu
    · exact path_datEcc_eq_spec c hc .p384 _ ⟨h1, h4, fun k hk' => ⟨hk k hk', hcv k hk'⟩⟩ usedIdx hu
  · rw [e]; exact path_rot_eq_spec c hc .certBlock21 _ h
  · rw [e]; exact path_pfr_eq_spec_v21 c hc k0 rest h width hw

/-- the value depends on the keys as an ORDERED list only through the documented construction: equal inputs, equal value
    (stated for the record; order sensitivity itself is shown by `order_matters_example`) -/
theorem rot_function_of_keys (t : RotType) (ks ks' : List Key) (h : ks = ks') : Spec.rotkh c t ks = Spec.rotkh c t ks' := by
  rw [h]

/-! ## 4. Fuse words -/

/-- `CertBlockV1.rkth_fuses`: the hash cut into 4-byte groups, each read little endian — re-encoding the words
    little endian gives the hash back, there are `len / 4` words and each fits 32 bits -/
theorem rkth_fuses_le (n : Nat) (rkth : Bytes) (h : rkth.length = 4 * n) :
    ((rkthFuses rkth).map (leEnc 4)).flatten = rkth ∧ (rkthFuses rkth).length = n ∧ ∀ w ∈ rkthFuses rkth, w < 2 ^ 32 :=
  rkthFuses_le n rkth h

/-! ## 5. Certificate blocks survive export → parse -/

/-- certificate block v1: every header field (incl. `image_length`, fix C03-1), every certificate and the RKH table
    come back; the table is returned with its four slots and the alignment is the default -/
theorem certblock_v1_roundtrip (certOk : Bytes → Bool) (cb : CertBlockV1) (wf : WFv1 certOk cb) :
    ∃ data, exportV1Block true cb = .ok data ∧
      parseV1Block certOk data = .ok { cb with rkh := pad4 cb.rkh, alignment := Gen.cbV1Alignment } ∧
      (cb.alignment = Gen.cbV1Alignment →
        exportV1Block true { cb with rkh := pad4 cb.rkh, alignment := Gen.cbV1Alignment } = .ok data) ∧
      data.length % cb.alignment = 0 :=
  ⟨bytesV1 cb, exportV1Block_ok certOk cb wf, List.append_nil (bytesV1 cb) ▸ parse_exportV1_tail certOk cb wf [],
    reexportV1 certOk cb wf, by
    have hl := bodyV1_len certOk cb wf
    have ha := Misc.alignNat_spec (bodyV1 cb).length cb.alignment wf.align
    simp only [bytesV1, List.length_append, List.length_replicate]
    rw [Nat.add_sub_cancel' ha.2.1]; exact ha.1⟩

/-- the RKTH of a parsed block is the RKTH of the block that was exported -/
theorem certblock_v1_rkth_preserved (cb : CertBlockV1) (hl : cb.rkh.length ≤ 4) (h32 : ∀ h ∈ cb.rkh, h.length = 32) :
    rkthV1 c (pad4 cb.rkh) = rkthV1 c cb.rkh := by
  have hw' : WFtab (pad4 cb.rkh) := ⟨Nat.le_of_eq (tbl_length _ hl), tbl_len32 _ h32⟩
  rw [rkthV1_tbl c _ ⟨hl, h32⟩, rkthV1_tbl c _ hw']
  exact congrArg (fun t => Except.ok (c.hash .sha256 (List.flatten t))) (pad4_idem _ hl)

/-- certificate block v2.1 (root key record, optional ISK certificate): parse ∘ export = id, trailing bytes ignored -/
theorem certblock_v21_roundtrip (pointOk : Bytes → Bool) (ca : Bool) (used : Nat) (cv : Curve) (cb : CertBlockV21)
    (wf : WFv21 c pointOk ca used cv cb) (tail : Bytes) :
    ∃ data, exportV21Block cb = .ok data ∧ parseV21Block c pointOk (data ++ tail) = .ok cb :=
  ⟨bytesV21 cb, exportV21Block_ok wf, parse_exportV21 wf tail⟩

/-- root key record flags: CA bit, used root index, key count and curve nibble are recovered from the flags word
    exactly as written (all 4-bit field values; P-256 / P-384) -/
theorem rkr_flags_fields (ca : Bool) (used count : Nat) (cv : Curve) (hu : used < 16) (hn : count < 16) (hcv : cv ≠ .p521) :
    rkrCa (rkrFlags ca used count cv) = ca ∧ rkrUsed (rkrFlags ca used count cv) = used ∧
    rkrCount (rkrFlags ca used count cv) = count ∧ rkrCurve (rkrFlags ca used count cv) = curveBit cv ∧
    rkrFlags ca used count cv < 2 ^ 32 ∧ (curveBit .p256 = 1 ∧ curveBit .p384 = 2 ∧ curveBit .p521 = 0) :=
  have h := rkr_fields ca used count cv hu hn hcv
  ⟨h.1, h.2.1, h.2.2.1, h.2.2.2.1, h.2.2.2.2, by decide⟩

/-! ## 6. What the ISK signature covers -/

/-- the data handed to the signature provider is, byte for byte,
    root key record ‖ pack("<3L", signature offset, constraints, flags) ‖ ISK public key ‖ user data -/
theorem isk_signed_range (pointOk : Bytes → Bool) (n : Nat) (i : IskCert) (wf : WFisk pointOk n i) (rootKeyRecordBytes : Bytes) :
    iskDataToSign rootKeyRecordBytes i =
      .ok (rootKeyRecordBytes ++ (leEnc 4 (iskSigOffset i) ++ leEnc 4 i.constraints ++ leEnc 4 i.flags) ++ i.pubKey ++ i.userData) ∧
    iskSigOffset i = 12 + i.pubKey.length + i.userData.length := by
  refine ⟨iskDataToSign_ok pointOk n i wf rootKeyRecordBytes, ?_⟩
  simp [iskSigOffset, wf.offset]; omega

/-- …and that is exactly the slice of the exported certificate block between the 12-byte block header and the
    signature (located by the `signature_offset` field) -/
theorem isk_signed_range_in_block (pointOk : Bytes → Bool) (used : Nat) (cv : Curve) (cb : CertBlockV21) (i : IskCert)
    (wf : WFv21 c pointOk false used cv cb) (hi : cb.isk = some i) :
    iskDataToSign (rkrBytes cb.rkr) i =
      .ok (((bytesV21 cb).drop headerSizeV21).take ((rkrBytes cb.rkr).length + iskSigOffset i)) :=
  signed_slice wf hi

/-- the signature created at export verifies under the signer's public key over that range -/
theorem isk_signature_verifies (hc : CryptoLaws c) (alg : SigAlg) (sk rand keyRecord : Bytes) (i : IskCert)
    (hs : i.signature = []) (tbs : Bytes) (ht : iskDataToSign keyRecord i = .ok tbs) :
    ∃ i', iskSign c alg sk rand keyRecord i = .ok i' ∧ c.verify alg (c.pubOf sk) tbs i'.signature = true ∧
      i'.pubKey = i.pubKey ∧ i'.userData = i.userData ∧ i'.constraints = i.constraints ∧ i'.flags = i.flags := by
  refine ⟨{ i with signature := c.sign alg sk tbs rand }, ?_, hc.verify_sign alg sk tbs rand, rfl, rfl, rfl, rfl⟩
  simp only [iskSign, hs, ht, List.isEmpty_nil, Bool.not_true, Bool.false_eq_true, ↓reduceIte]
  rfl

/-! ## 6b. The exported blocks inside their containers

Certificate blocks are embedded in MBI, SB 2.1 and SB 3.1 files.  The theorems below are stated in the form the other
properties need: the export is self-delimiting (a parser / ROM that knows only where the block starts reads exactly
`|export cb|` bytes), and the ROM models of C02 (`Spec/MbiRom.lean`) and C05 (`Model/Sb31.lean`) accept an exported block
against the documented fuse value and report the right signing key.  They discharge `RomCertV1OK` / `RomCertV21OK`
(Proofs/MbiRomDefs.lean) and `DevOK.cert` (Model/Sb31.lean), which those properties keep as hypotheses. -/

/-- v1: `parse (export cb ‖ rest)` gives the block back whatever follows; the exported length is
    `align(32 + cert_table_length + 128, alignment)` (`raw_size` / `expected_size`), computable from the header alone -/
theorem certblock_v1_self_delimiting (certOk : Bytes → Bool) (cb : CertBlockV1) (wf : WFv1 certOk cb) (rest : Bytes) :
    parseV1Block certOk (bytesV1 cb ++ rest) = .ok { cb with rkh := pad4 cb.rkh, alignment := Gen.cbV1Alignment } ∧
    (bytesV1 cb).length = Misc.alignNat (32 + certTableLength cb.certs + 128) cb.alignment ∧
    (headerV1Parse (bytesV1 cb ++ rest)).map (·.certTableLength) = .ok (certTableLength cb.certs) := by
  refine ⟨parse_exportV1_tail certOk cb wf rest, bytesV1_length certOk cb wf, ?_⟩
  rw [bytesV1_eq, headerV1Parse_ok _ wf.hdr]; rfl

/-- v2.1: `parse (export cb ‖ rest) = cb`, the `cert_block_size` word is the exported length, and that length is
    12 + (4 + table + root key) + (ISK: 12 + key + user data + signature) — `expected_size` -/
theorem certblock_v21_self_delimiting (pointOk : Bytes → Bool) (ca : Bool) (used : Nat) (cv : Curve) (cb : CertBlockV21)
    (wf : WFv21 c pointOk ca used cv cb) (rest : Bytes) :
    parseV21Block c pointOk (bytesV21 cb ++ rest) = .ok cb ∧
    headerV21Parse (bytesV21 cb ++ rest) = .ok (cb.major, cb.minor, (bytesV21 cb).length) ∧
    (bytesV21 cb).length = headerSizeV21 + (rkrBytes cb.rkr).length + (match cb.isk with | some i => (iskBytes i).length | none => 0) :=
  ⟨parse_exportV21 wf rest, sizeWord_bytesV21 wf rest, (bytesV21_length cb).1⟩

/-- SB 3.1 loader model of C05 (`Sb31.Rom.romCert`): a well-formed exported block whose ISK signature verifies is accepted
    against the fuse value of its root key record; the loader names the signing key (ISK if present, else the root key) -/
theorem rom_sb31_accepts_export (pointOk : Bytes → Bool) (ca : Bool) (used : Nat) (cv : Curve) (cb : CertBlockV21)
    (wf : WFv21 c pointOk ca used cv cb) (rwf : RomWF c used cv cb)
    (hsig : ∀ i, cb.isk = some i →
      c.verify (.ecdsa cv.hashAlg) cb.rkr.rootPublicKey (rkrBytes cb.rkr ++ iskSignedPart i) i.signature = true) :
    Sb31.Rom.romCert c (rotkhOfRecord c cv cb.rkr) (bytesV21 cb) =
      .ok (⟨(signerOf cv cb).1, (signerOf cv cb).2⟩,
           match cb.isk with
           | none => []
           | some i => [⟨cv.hashAlg.size, cb.rkr.rootPublicKey, rkrBytes cb.rkr ++ iskSignedPart i, i.signature⟩]) :=
  sb31_romCert_accepts wf rwf hsig

/-- MBI ROM model of C02, v2.1 block: `RomCertV21OK` holds for every well-formed exported block -/
theorem rom_mbi_v21_accepts_export (pointOk : Bytes → Bool) (ca : Bool) (used : Nat) (cv : Curve) (cb : CertBlockV21)
    (wf : WFv21 c pointOk ca used cv cb) (rwf : RomWF c used cv cb) (renv : Spec.MbiRom.RomEnv)
    (hrkth : renv.rkth = rotkhOfRecord c cv cb.rkr) :
    Mbi.RomCertV21OK c renv (bytesV21 cb) (signerOf cv cb).1.length (signerOf cv cb).1 (fun _ _ => obsOf cb) :=
  mbi_romCertV21_ok wf rwf renv hrkth

/-- MBI ROM model of C02, v1 block: `RomCertV1OK` holds for every well-formed exported block (version 1.0, ≤ 4 non-empty
    certificates, alignment 4) - for EVERY `image_length` the MBI export patches in -/
theorem rom_mbi_v1_accepts_export (certOk : Bytes → Bool) (cb : CertBlockV1) (wf : WFv1 certOk cb) (rwf : RomWFv1 cb)
    (renv : Spec.MbiRom.RomEnv) (hrkth : renv.rkth = c.hash .sha256 (pad4 cb.rkh).flatten) :
    Mbi.RomCertV1OK c renv (bytesV1 cb) (relCerts cb.certs 32) (pad4 cb.rkh) :=
  mbi_romCertV1_ok wf rwf renv hrkth

/-- END TO END, v2.1: the block SPSDK builds from root keys of the documented domain is accepted by both ROM models against
    the documented fuse value `Spec.rotkh`, and the selected root key is reported as the signer -/
theorem rom_accepts_built_v21 (hc : CryptoLaws c) (ks : List Key) (h : KeysOK .certBlock21 ks) (used : Nat) (hu : used < ks.length) :
    ∃ (r : RootKeyRecord) (cv : Curve) (ku : Key), rkrCalculate c true ks used = .ok r ∧ ks[used]? = some ku ∧
      exportV21Block ⟨2, 1, r, none⟩ = .ok (bytesV21 ⟨2, 1, r, none⟩) ∧
      Sb31.Rom.romCert c (Spec.rotkh c .certBlock21 ks) (bytesV21 ⟨2, 1, r, none⟩) = .ok (⟨ku.material, cv.hashAlg.size⟩, []) ∧
      ∀ renv : Spec.MbiRom.RomEnv, renv.rkth = Spec.rotkh c .certBlock21 ks →
        Mbi.RomCertV21OK c renv (bytesV21 ⟨2, 1, r, none⟩) ku.material.length ku.material (fun _ _ => []) :=
  built_v21_block_accepted c hc ks h used hu

/-- END TO END, v1: with the RKH table `CertBlockV1.set_root_key_hash` computes from the root keys, the MBI ROM accepts the
    block against the documented fuse value `Spec.rotkh … cert_block_1` -/
theorem rom_accepts_built_v1 (hc : CryptoLaws c) (ks : List Key) (h : KeysOK .certBlock1 ks) (certOk : Bytes → Bool)
    (cb : CertBlockV1) (wf : WFv1 certOk cb) (rwf : RomWFv1 cb) (hrkh : certBlockV1Rkh c ks = .ok cb.rkh)
    (renv : Spec.MbiRom.RomEnv) (hr : renv.rkth = Spec.rotkh c .certBlock1 ks) :
    Mbi.RomCertV1OK c renv (bytesV1 cb) (relCerts cb.certs 32) (pad4 cb.rkh) :=
  built_v1_block_accepted c hc ks h wf rwf hrkh renv hr

/-- the ISK signature created at export by the selected root key satisfies the ROM's check -/
theorem rom_isk_signature_ok (hc : CryptoLaws c) (alg : HashAlg) (sk rand : Bytes) (r : RootKeyRecord) (i : IskCert)
    (hpub : r.rootPublicKey = c.pubOf sk) (hs : i.signature = c.sign (.ecdsa alg) sk (rkrBytes r ++ iskSignedPart i) rand) :
    c.verify (.ecdsa alg) r.rootPublicKey (rkrBytes r ++ iskSignedPart i) i.signature = true :=
  isk_signature_accepted c hc alg sk rand r i hpub hs

/-! ## 6c. ISK certificate lite / certificate block Vx (MC56F8xxxx) -/

/-- to-be-signed data = magic 0x4D43 ‖ version 1 ‖ constraints ‖ X‖Y (72 bytes); the export appends the 64-byte signature;
    parse ∘ export = id (trailing bytes ignored), and `CertBlockVx.parse` keeps certificates with constraints 0 / 1 -/
theorem isk_lite_roundtrip (pointOk : Bytes → Bool) (i : IskLite) (wf : WFlite pointOk i) (tail : Bytes) :
    liteTbs i = .ok (leEnc 2 0x4D43 ++ leEnc 2 1 ++ leEnc 4 i.constraints ++ i.pubKey) ∧
    liteExport i = .ok (liteBytes i) ∧ (liteBytes i).length = 136 ∧
    liteParse pointOk (liteBytes i ++ tail) = .ok i ∧
    ((i.constraints = 0 ∨ i.constraints = 1) → vxParse pointOk (liteBytes i ++ tail) = .ok i) := by
  refine ⟨liteTbs_ok pointOk i wf, liteExport_ok pointOk i wf, ?_, liteParse_export pointOk i wf tail,
    fun h => vxParse_export pointOk i wf h tail⟩
  simp only [liteBytes, List.length_append, leEnc_len, wf.pub, wf.sig]

/-- the lite certificate's signature verifies over exactly the 72 to-be-signed bytes = the exported bytes before it -/
theorem isk_lite_signature_verifies (hc : CryptoLaws c) (pointOk : Bytes → Bool) (alg : SigAlg) (sk rand : Bytes) (i : IskLite)
    (wf : WFlite pointOk i) (tbs : Bytes) (ht : liteTbs i = .ok tbs) :
    c.verify alg (c.pubOf sk) tbs (c.sign alg sk tbs rand) = true ∧ tbs = (liteBytes i).take 72 := by
  refine ⟨hc.verify_sign alg sk tbs rand, ?_⟩
  rw [liteTbs_ok pointOk i wf] at ht
  injection ht with ht
  rw [← ht, liteBytes]
  exact (List.take_left' (by simp only [List.length_append, leEnc_len, wf.pub])).symm

/-- the OTP fuse words of `get_otp_script` are the certificate hash, each 4-byte group byte-reversed -/
theorem vx_fuse_words (h : Bytes) (hl : h.length = 16) : ((vxFuseWords h).map List.reverse).flatten = h :=
  vxFuseWords_hash h hl

theorem generated_lite_constants_agree :
    Generated.RotTypes.liteMagic = 0x4D43 ∧ Generated.RotTypes.liteVersion = 1 ∧ Generated.RotTypes.liteHeaderFormat = "<HHI" ∧
    Generated.RotTypes.liteHeaderWidths = [2, 2, 4] ∧ Generated.RotTypes.litePubKeyLength = 64 ∧
    Generated.RotTypes.liteSignatureSize = 64 ∧ Generated.RotTypes.liteSignatureOffset = 72 ∧
    Generated.RotTypes.vxCertHashLength = 16 ∧
    -- the "no offset" magic `IskCertificate.parse` looks for is the lite certificate's magic
    Generated.RotTypes.iskNoOffsetMagic = Generated.RotTypes.liteMagic ∧
    Generated.RotTypes.iskNoOffsetSigOffset = Generated.RotTypes.liteSignatureOffset := by
  repeat' apply And.intro
  all_goals decide

/-! ## 6d. The fuse value binds the key list (negative statements as reductions) -/

/-- cert block v1: two key lists of the documented domain with equally many keys and the same RKTH are the same list, or the
    proof exhibits a SHA-256 collision.  (Equal lengths are needed: an unused slot is 32 zero bytes, indistinguishable from a
    key whose hash is zero - finding such a key is a preimage, not one of the `Break` cases.) -/
theorem rot_binding_v1 (hc : CryptoLaws c) (ks ks' : List Key) (h : KeysOK .certBlock1 ks) (h' : KeysOK .certBlock1 ks')
    (hl : ks.length = ks'.length) (he : Spec.rotkh c .certBlock1 ks = Spec.rotkh c .certBlock1 ks') : ks = ks' ∨ Crypto.Break c := by
  rw [rotkh_cb1, rotkh_cb1] at he
  exact rotkhV1_binding c hc ks ks' h h' hl he

/-- cert block v2.1 / debug-credential CTRK hash: the same.  (Equal lengths are needed: the value of ONE key X‖Y is its hash,
    the value of several keys is the hash of their hashes - 64 bytes X‖Y could equal H(k₁)‖H(k₂).) -/
theorem rot_binding_v21 (hc : CryptoLaws c) (ks ks' : List Key) (h : KeysOK .certBlock21 ks) (h' : KeysOK .certBlock21 ks')
    (hl : ks.length = ks'.length) (he : Spec.rotkh c .certBlock21 ks = Spec.rotkh c .certBlock21 ks') : ks = ks' ∨ Crypto.Break c := by
  rw [rotkh_cb21, rotkh_cb21] at he
  exact rotkhV21_binding c hc ks ks' h h' hl he

/-- the SB3.1 loader accepts a well-formed exported block exactly against the fuse value of its root key record -/
theorem rom_sb31_accepts_only_its_rot (pointOk : Bytes → Bool) (ca : Bool) (used : Nat) (cv : Curve) (cb : CertBlockV21)
    (wf : WFv21 c pointOk ca used cv cb) (rwf : RomWF c used cv cb)
    (hsig : ∀ i, cb.isk = some i →
      c.verify (.ecdsa cv.hashAlg) cb.rkr.rootPublicKey (rkrBytes cb.rkr ++ iskSignedPart i) i.signature = true)
    (rot : Bytes) : (∃ x, Sb31.Rom.romCert c rot (bytesV21 cb) = .ok x) ↔ rot = rotkhOfRecord c cv cb.rkr := by
  constructor
  · rintro ⟨x, hx⟩; exact sb31_romCert_ok_rot wf rwf hsig rot x hx
  · intro e; subst e; exact ⟨_, sb31_romCert_accepts wf rwf hsig⟩

/-- a device fused for `ks` accepts the block built from another key list of the same length only if a hash collision is exhibited -/
theorem rom_refuses_other_key_list (hc : CryptoLaws c) (ks ks' : List Key) (h : KeysOK .certBlock21 ks) (h' : KeysOK .certBlock21 ks')
    (hl : ks'.length = ks.length) (used : Nat) (hu : used < ks'.length) (r' : RootKeyRecord)
    (hcalc : rkrCalculate c true ks' used = .ok r') (x : Sb31.Rom.CertInfo × List Sb31.Rom.SigOb)
    (hacc : Sb31.Rom.romCert c (Spec.rotkh c .certBlock21 ks) (bytesV21 ⟨2, 1, r', none⟩) = .ok x) : ks' = ks ∨ Crypto.Break c :=
  rom_refuses_other_keys c hc ks ks' h h' hl used hu r' hcalc x hacc

/-! ## 6f. Acceptance of ARBITRARY bytes: what a successful parse says about its input -/

/-- ISK certificate lite / certificate block Vx, ANY input of at least 136 bytes (not only exported certificates): if the parser accepts `b`,
    the parsed certificate is well formed, re-exporting it gives `magic ‖ version ‖ b[4:136]` - i.e. exactly `b[:136]` when `b` starts with the
    magic and version words - and parsing that canonical form gives the same certificate (the parser is injective on canonical forms) -/
theorem isk_lite_parse_canonical (pointOk : Bytes → Bool) (b : Bytes) (i : IskLite) (h : liteParse pointOk b = .ok i) (hl : 136 ≤ b.length) :
    WFlite pointOk i ∧
    liteExport i = .ok (leEnc 2 0x4D43 ++ leEnc 2 1 ++ (b.take 136).drop 4) ∧
    (b.take 4 = leEnc 2 0x4D43 ++ leEnc 2 1 → liteExport i = .ok (b.take 136)) ∧
    ∀ rest, liteParse pointOk (leEnc 2 0x4D43 ++ leEnc 2 1 ++ (b.take 136).drop 4 ++ rest) = .ok i := by
  obtain ⟨wf, e⟩ := liteParse_inv pointOk b i h hl
  have hc := liteParse_canonical pointOk b i h hl
  refine ⟨wf, hc, fun h4 => ?_, fun rest => ?_⟩
  · rw [hc, ← h4]
    have : (b.take 136).take 4 = b.take 4 := by rw [List.take_take]; congr 1
    rw [← this, List.take_append_drop]
  · have := liteParse_export pointOk i wf rest
    rw [liteBytes, ← e] at *
    simpa only [List.append_assoc] using this

set_option maxRecDepth 20000 in
/-- the plain statement `parse b = ok i → export i = b` is FALSE for this format: the parser does not look at the magic / version words
    (136 zero bytes are accepted whenever the key check passes; the export starts with 43 4D 01 00).  Full statement kept for the record:
    `∀ b i, liteParse pointOk b = .ok i → liteExport i = .ok b` - missing hypothesis: `b.take 4 = magic ‖ version` and `b.length = 136`. -/
theorem isk_lite_parse_export_refuted :
    ∃ (b : Bytes) (i : IskLite), liteParse (fun _ => true) b = .ok i ∧ b.length = 136 ∧ liteExport i ≠ .ok b := by
  have hp : liteParse (fun _ => true) (List.replicate 136 0) = .ok ⟨0, List.replicate 64 0, List.replicate 64 0⟩ := rfl
  refine ⟨List.replicate 136 0, ⟨0, List.replicate 64 0, List.replicate 64 0⟩, hp, List.length_replicate, ?_⟩
  rw [liteParse_canonical _ _ _ hp (by simp)]
  intro h
  injection h with h
  have := congrArg (fun l => l.head?) h
  revert this; decide

/-- certificate block v1, ANY input the parser accepts (not only exported blocks): the header parses, the block has as many certificates as
    announced, all of them passed the X.509 check, the RKH table has its four slots.  If at least one certificate is present and the header's
    `cert_table_length` equals the size of the entries actually read (SPSDK's parser never compares the two; the ROM uses the field to find the
    RKH table), then the parsed block is well formed, re-exporting it gives the first `n = 32 + cert_table_length + 128` input bytes followed by
    zero padding to 16 - the canonical form - and parsing the canonical form (with anything after it) gives the same block -/
theorem certblock_v1_parse_canonical (certOk : Bytes → Bool) (data : Bytes) (cb : CertBlockV1)
    (h : parseV1Block certOk data = .ok cb) :
    ∃ hd : HeaderV1, headerV1Parse data = .ok hd ∧ cb.certs.length = hd.certCount ∧ cb.rkh.length = 4 ∧
      (∀ x ∈ cb.certs, certOk x = true) ∧
      (hd.certCount ≠ 0 → hd.certTableLength = certTableLength cb.certs →
        WFv1 certOk cb ∧
        exportV1Block true cb = .ok (data.take (32 + certTableLength cb.certs + 128) ++
          List.replicate (Misc.alignNat (32 + certTableLength cb.certs + 128) 16 - (32 + certTableLength cb.certs + 128)) 0) ∧
        ∀ rest, parseV1Block certOk (data.take (32 + certTableLength cb.certs + 128) ++
          List.replicate (Misc.alignNat (32 + certTableLength cb.certs + 128) 16 - (32 + certTableLength cb.certs + 128)) 0 ++ rest) = .ok cb) := by
  obtain ⟨hd, h1, h2, h3, h4, ha, h5⟩ := parseV1Block_inv certOk data cb h
  refine ⟨hd, h1, h2, h3, h4, fun hne hctl => ?_⟩
  obtain ⟨wf, hb⟩ := h5 hne hctl
  have hlen := bodyV1_len certOk cb wf
  have ha16 : cb.alignment = 16 := ha
  have hbytes : bytesV1 cb = data.take (32 + certTableLength cb.certs + 128) ++
      List.replicate (Misc.alignNat (32 + certTableLength cb.certs + 128) 16 - (32 + certTableLength cb.certs + 128)) 0 := by
    rw [bytesV1, hlen, ha16, hb]
  refine ⟨wf, by rw [← hbytes]; exact exportV1Block_ok certOk cb wf, fun rest => ?_⟩
  rw [← hbytes, parse_exportV1_tail certOk cb wf rest, pad4_of_len4 _ h3]
  cases cb
  simp only at ha
  simp only [ha]

set_option maxRecDepth 20000 in
/-- the plain statement `parse b = ok cb → export cb = b` is FALSE for certificate block v1: a block announcing ZERO certificates is accepted by
    `CertBlockV1.parse`, but `export` refuses a block without certificates.  (A second family of counterexamples: a `cert_table_length` field
    that differs from the entries present - accepted, re-exported with the recomputed length.)  Missing hypotheses of the full statement:
    `certificate_count ≠ 0`, `cert_table_length` consistent, zero padding, nothing after the block. -/
theorem certblock_v1_parse_export_refuted :
    ∃ (data : Bytes) (cb : CertBlockV1), parseV1Block (fun _ => true) data = .ok cb ∧ exportV1Block true cb = .error .spsdk :=
  ⟨[0x63, 0x65, 0x72, 0x74, 1, 0, 0, 0, 32, 0, 0, 0] ++ List.replicate 20 0 ++ List.replicate 128 7,
   ⟨1, 0, 0, 0, 0, [], [List.replicate 32 7, List.replicate 32 7, List.replicate 32 7, List.replicate 32 7], 16⟩, rfl, rfl⟩

/-- root key record of certificate block v2.1, ANY input `RootKeyRecord.parse` accepts that is at least as long as the record its own flags word
    announces (4 + [count × hash length, if count > 1] + 2 × hash length): re-exporting the parsed record gives exactly the `n` bytes the parser
    reports as consumed, and `n` is that announced size.  (Inputs shorter than announced are accepted too - the slices just come out short; they
    are outside this theorem, no refuting example is known for them.) -/
theorem rkr_parse_canonical (b : Bytes) (r : RootKeyRecord) (n : Nat) (h : rkrParse c b = .ok (r, n)) (hl : Nat)
    (hhl : lookupOr Generated.RotTypes.rkrParseHashLen (rkrCurve (leDec (b.take 4))) = .ok hl)
    (hfull : 4 + (if rkrCount (leDec (b.take 4)) > 1 then hl * rkrCount (leDec (b.take 4)) else 0) + hl * 2 ≤ b.length) :
    rkrExport r = .ok (b.take n) ∧ n ≤ b.length ∧ r.flags = leDec (b.take 4) ∧
    n = 4 + (if rkrCount r.flags > 1 then hl * rkrCount r.flags else 0) + hl * 2 := by
  obtain ⟨h1, h2, h3, h4, _⟩ := rkrParse_inv c b r n h hl hhl hfull
  exact ⟨h1, h2, h3, h4⟩

/-- certificate block v2.1 WITHOUT ISK certificate (CA flag set in the root key record), ANY input `CertBlockV21.parse` accepts with a complete
    record: the parsed block has no ISK certificate; re-exporting it gives `chdr ‖ minor ‖ major ‖ (12 + n) ‖ record bytes`, which is the first
    `12 + n` input bytes exactly when the input's `cert_block_size` word was `12 + n` (the parser never looks at that word) -/
theorem certblock_v21_ca_parse_canonical (pointOk : Bytes → Bool) (data : Bytes) (cb : CertBlockV21)
    (h : parseV21Block c pointOk data = .ok cb) (hca : rkrCa (leDec ((data.drop 12).take 4)) = true) (hl : Nat)
    (hhl : lookupOr Generated.RotTypes.rkrParseHashLen (rkrCurve (leDec ((data.drop 12).take 4))) = .ok hl)
    (hfull : 12 + 4 + (if rkrCount (leDec ((data.drop 12).take 4)) > 1 then hl * rkrCount (leDec ((data.drop 12).take 4)) else 0) + hl * 2
      ≤ data.length) :
    ∃ n, cb.isk = none ∧ n ≤ (data.drop 12).length ∧
      n = 4 + (if rkrCount cb.rkr.flags > 1 then hl * rkrCount cb.rkr.flags else 0) + hl * 2 ∧
      exportV21Block cb = .ok (Gen.cbV21Magic ++ leEnc 2 cb.minor ++ leEnc 2 cb.major ++ leEnc 4 (12 + n) ++ (data.drop 12).take n) ∧
      (leDec ((data.drop 8).take 4) = 12 + n → exportV21Block cb = .ok (data.take (12 + n))) :=
  parseV21Block_ca_inv c pointOk data cb h hca hl hhl hfull

/-- ISK certificate, ANY input `IskCertificate.parse(data, signature_size)` accepts in the normal (offset-carrying) format: if the input's flags
    word is the one the constructor recomputes from user data and key, nothing lies between user data and signature and the signature has its
    full non-zero length, then re-exporting gives exactly the first `signature_offset + signature_size` input bytes (which exist) -/
theorem isk_parse_canonical (pointOk : Bytes → Bool) (data : Bytes) (sigSize : Nat) (i : IskCert)
    (h : iskParse pointOk data sigSize = .ok i) (hoff : leDec (data.take 4) % 65536 ≠ Gen.iskNoOffsetMagic)
    (hfl : leDec ((data.drop 8).take 4) = i.flags) (hso : leDec (data.take 4) = 12 + i.pubKey.length + i.userData.length)
    (hsig : i.signature.length = sigSize) (hs0 : 0 < sigSize) :
    iskExport i = .ok (data.take (leDec (data.take 4) + sigSize)) ∧ i.offsetPresent = true ∧ leDec (data.take 4) + sigSize ≤ data.length :=
  iskParse_inv pointOk data sigSize i h hoff hfl hso hsig hs0

/-- certificate block v2.1 WITH ISK certificate, ANY accepted input (shorter than 4 GiB) with a complete root key record without the CA flag:
    an ISK certificate is parsed from the bytes after the record (signature size = 2 × hash length); if it is in canonical form (hypotheses of
    `isk_parse_canonical`), re-exporting the block gives `chdr ‖ minor ‖ major ‖ recomputed size ‖ record ‖ certificate` - exactly the first
    `12 + n + m` input bytes when the input's size word had that value.  Together with `certblock_v21_ca_parse_canonical` this is the canonical
    form of every v2.1 block.  The plain statement is false (size word, ISK flags word, gap and short signature are not checked by the parser). -/
theorem certblock_v21_isk_parse_canonical (pointOk : Bytes → Bool) (data : Bytes) (cb : CertBlockV21)
    (h : parseV21Block c pointOk data = .ok cb) (hca : rkrCa (leDec ((data.drop 12).take 4)) = false) (hl : Nat)
    (hhl : lookupOr Generated.RotTypes.rkrParseHashLen (rkrCurve (leDec ((data.drop 12).take 4))) = .ok hl)
    (hfull : 12 + 4 + (if rkrCount (leDec ((data.drop 12).take 4)) > 1 then hl * rkrCount (leDec ((data.drop 12).take 4)) else 0) + hl * 2
      ≤ data.length) (hdl : data.length < 2 ^ 32) :
    ∃ n i, cb.isk = some i ∧ n = 4 + (if rkrCount cb.rkr.flags > 1 then hl * rkrCount cb.rkr.flags else 0) + hl * 2 ∧
      iskParse pointOk (data.drop (12 + n)) (hl * 2) = .ok i ∧
      (leDec ((data.drop (12 + n)).take 4) % 65536 ≠ Gen.iskNoOffsetMagic →
       leDec (((data.drop (12 + n)).drop 8).take 4) = i.flags →
       leDec ((data.drop (12 + n)).take 4) = 12 + i.pubKey.length + i.userData.length →
       i.signature.length = hl * 2 →
        exportV21Block cb = .ok (Gen.cbV21Magic ++ leEnc 2 cb.minor ++ leEnc 2 cb.major ++
          leEnc 4 (12 + n + (leDec ((data.drop (12 + n)).take 4) + hl * 2)) ++
          (data.drop 12).take (n + (leDec ((data.drop (12 + n)).take 4) + hl * 2))) ∧
        (leDec ((data.drop 8).take 4) = 12 + n + (leDec ((data.drop (12 + n)).take 4) + hl * 2) →
          exportV21Block cb = .ok (data.take (12 + n + (leDec ((data.drop (12 + n)).take 4) + hl * 2))))) :=
  parseV21Block_isk_inv c pointOk data cb h hca hl hhl hfull hdl

/-- non-vacuity of the ISK hypotheses: the exported form of the well-formed certificate `iskEx'` (P-256 key bytes, 4 bytes of user data) -/
def iskEx' : IskCert :=
  { offsetPresent := true, constraints := 1, flags := 2 ^ 31 + 1, pubKey := List.replicate 64 1, userData := [1, 2, 3, 4],
    signature := List.replicate 64 9 }
set_option maxRecDepth 20000 in
example : iskParse (fun _ => true) (iskBytes iskEx') 64 = .ok iskEx' ∧
    leDec ((iskBytes iskEx').take 4) % 65536 ≠ Gen.iskNoOffsetMagic ∧ leDec (((iskBytes iskEx').drop 8).take 4) = iskEx'.flags ∧
    leDec ((iskBytes iskEx').take 4) = 12 + iskEx'.pubKey.length + iskEx'.userData.length ∧ iskEx'.signature.length = 64 :=
  ⟨rfl, by decide, by decide, by decide, by decide⟩

/-- The plain statement `parse b = ok cb → export cb = b` is FALSE for v2.1 as well: the parser never looks at the `cert_block_size` word, the
    export recomputes it (observed on the real classes by the stream `parse_canonical`: a CA block with another size word is accepted and
    re-exported with the recomputed word); with an ISK certificate the further hypotheses of `certblock_v21_isk_parse_canonical` are needed.  Non-vacuity of the hypotheses of the two theorems above: a block with the CA
    flag, one P-256 key and a size word of 0 -/
def cb21RawEx : Bytes :=
  [0x63, 0x68, 0x64, 0x72, 1, 0, 2, 0, 0, 0, 0, 0] ++ [0x11, 0, 0, 0x80] ++ List.replicate 64 5

example : rkrCa (leDec ((cb21RawEx.drop 12).take 4)) = true ∧
    lookupOr Generated.RotTypes.rkrParseHashLen (rkrCurve (leDec ((cb21RawEx.drop 12).take 4))) = .ok 32 ∧
    12 + 4 + (if rkrCount (leDec ((cb21RawEx.drop 12).take 4)) > 1 then 32 * rkrCount (leDec ((cb21RawEx.drop 12).take 4)) else 0) + 32 * 2
      ≤ cb21RawEx.length := by decide

/-! ## 6g. Certificate block v1 inside an SB 2.1 file: what the loader model of C04 reads -/

/-- SB 2.1 (`Spec/Sb2Rom.lean`, the loader side of C04, written independently with its own constants): wherever the exported block sits in
    the file, the loader derives from the block's own header exactly the exported length (this is C04's hypothesis `certBlockOk` when the block
    stands alone), and the RKH table it reads at `offset + 32 + certificate table length` hashes to the documented fuse value
    `Spec.rotkh cert_block_1 ks` of the keys that were given to `CertBlockV1.set_root_key_hash` - the same table and value the MBI ROM model of
    C02 uses (`rom_accepts_built_v1`) -/
theorem rom_sb21_reads_built_v1 (hc : CryptoLaws c) (ks : List Key) (h : KeysOK .certBlock1 ks) (certOk : Bytes → Bool)
    (cb : CertBlockV1) (wf : WFv1 certOk cb) (ha : cb.alignment = 16) (hrkh : certBlockV1Rkh c ks = .ok cb.rkh) (pre rest : Bytes) :
    Sb2.Rom.certBlockLen (pre ++ (bytesV1 cb ++ rest)) pre.length = .ok (bytesV1 cb).length ∧
    Sb2.Rom.certBlockLen (bytesV1 cb) 0 = .ok (bytesV1 cb).length ∧
    Sb2.Rom.slice (pre ++ (bytesV1 cb ++ rest)) (pre.length + 32 + certTableLength cb.certs) 128 = (pad4 cb.rkh).flatten ∧
    c.hash .sha256 (Sb2.Rom.slice (pre ++ (bytesV1 cb ++ rest)) (pre.length + 32 + certTableLength cb.certs) 128) =
      Spec.rotkh c .certBlock1 ks := by
  obtain ⟨h1, h2⟩ := sb21_rom_reads_exportV1 certOk cb wf ha pre rest
  have h0 := (sb21_rom_reads_exportV1 certOk cb wf ha [] []).1
  simp only [List.nil_append, List.append_nil, List.length_nil] at h0
  have e2 : Sb2.Rom.Spec.certHeaderSize = 32 := rfl
  have e3 : Sb2.Rom.Spec.rkhTableSize = 128 := rfl
  rw [e2, e3] at h2
  exact ⟨h1, h0, h2, by rw [h2]; exact rkhTable_hash_eq_rotkh c hc ks h cb.rkh hrkh⟩

/-! ## 7. Non-vacuity and sanity examples -/

/-- a 2048-bit modulus with the top bit set, e = 65537 -/
def rsaEx (d : Nat) : Key := .rsa (2 ^ 2047 + d) 65537
def eccEx (cv : Curve) (d : Nat) : Key := .ecc cv (7 + d) (11 + d)

example : KeysOK .certBlock1 [rsaEx 1, rsaEx 3, rsaEx 5] := by decide +kernel
example : KeysOK .certBlock21 [eccEx .p256 0, eccEx .p256 1] := by decide
example : KeysOK .certBlock21 [eccEx .p384 0] := by decide
example : KeysOK .srkTableAhab [eccEx .p521 0, eccEx .p521 1, eccEx .p521 2, eccEx .p521 3] := by decide
example : KeysOK .srkTableAhabV2 [rsaEx 1, rsaEx 3, rsaEx 5, rsaEx 7] := by decide +kernel
example : KeysOK .srkTableHab [rsaEx 1, eccEx .p256 0] := by decide +kernel
example : ¬ KeysOK .certBlock21 [eccEx .p521 0] := by decide
example : ¬ KeysOK .certBlock1 [] := by decide
example : ∀ n e, Key.rsa n e ∈ [rsaEx 1, rsaEx 3] → byteLen e = 3 := by
  intro n e h; simp only [rsaEx, List.mem_cons, Key.rsa.injEq, List.mem_nil_iff, or_false] at h
  rcases h with ⟨_, rfl⟩ | ⟨_, rfl⟩ <;> decide
example : DatEccOK .p521 [eccEx .p521 0, eccEx .p521 1] := ⟨by decide, by decide, by decide⟩
example : AhabOK [(eccEx .p256 0, true), (eccEx .p256 1, true), (eccEx .p256 2, true), (eccEx .p256 3, true)] :=
  ⟨rfl, by decide, eccEx .p256 0, true, rfl, by decide⟩

/-- a leading-zero coordinate keeps its width: X = 7 on P-256 is 31 zero bytes and a 7 -/
example : (eccEx .p256 0).material.length = 64 ∧ (eccEx .p256 0).material.take 32 = List.replicate 31 0 ++ [7] := by decide

/-- a well-formed ISK certificate (P-256 key bytes, 4 bytes of user data, 64-byte signature) -/
def iskEx : IskCert :=
  { offsetPresent := true, constraints := 1, flags := 2 ^ 31 + 1, pubKey := List.replicate 64 1, userData := [1, 2, 3, 4],
    signature := List.replicate 64 9 }
example : WFisk (fun _ => true) 64 iskEx :=
  { offset := rfl, constraints := by decide, flags := by decide, pub := Or.inl rfl, point := rfl, magic := by decide,
    sigoff := by decide, sig := rfl, siglen := by decide }

/-- a well-formed certificate block v1 (one opaque certificate, two root key hashes) -/
def cb1Ex : CertBlockV1 :=
  { major := 1, minor := 0, flags := 0, buildNumber := 7, imageLength := 0x1234, certs := [[0x30, 0x82, 1, 2, 3]],
    rkh := [List.replicate 32 5, List.replicate 32 6], alignment := 16 }
example : WFv1 (fun _ => true) cb1Ex :=
  { major := by decide, minor := by decide, flags := by decide, build := by decide, image := by decide, certs_ne := by decide,
    certs := by decide, count := by decide, table := by decide, rkh_len := by decide, rkh := by decide, align := by decide }
example : (parseV1Block (fun _ => true) (bytesV1 cb1Ex)).map (·.imageLength) = .ok 0x1234 := by decide +kernel

example : WFlite (fun _ => true) { constraints := 1, pubKey := List.replicate 64 7, signature := List.replicate 64 9 } :=
  { constraints := by decide, pub := rfl, point := rfl, sig := rfl }

/-- a block acceptable to the MBI ROM: version 1.0, alignment 4 -/
def cb1RomEx : CertBlockV1 := { cb1Ex with alignment := 4 }
example : WFv1 (fun _ => true) cb1RomEx ∧ RomWFv1 cb1RomEx :=
  ⟨{ major := by decide, minor := by decide, flags := by decide, build := by decide, image := by decide, certs_ne := by decide,
     certs := by decide, count := by decide, table := by decide, rkh_len := by decide, rkh := by decide, align := by decide },
   { major := rfl, minor := rfl, count := by decide, nonempty := by decide, align := rfl }⟩

/-- a well-formed v2.1 block without ISK certificate (two P-256 key hashes, used index 1) - for every hash function -/
def cb21Ex : CertBlockV21 :=
  { major := 2, minor := 1, isk := none,
    rkr := { flags := rkrFlags true 1 2 .p256, rkh := [List.replicate 32 1, List.replicate 32 2], rootPublicKey := List.replicate 64 3 } }
example : WFv21 c (fun _ => true) true 1 .p256 cb21Ex :=
  { major := by decide, minor := by decide, isk_none := fun _ => rfl, isk_some := fun h => (by cases h), size := by decide,
    rkr := { cv_ok := by decide, used_lt := by decide, count1 := by decide, count4 := by decide, flags := rfl, rkh := by decide,
             pk := by decide, single := fun h => absurd h (by decide) } }
example : (bytesV21 cb21Ex).length = 12 + 4 + 64 + 64 := by decide +kernel

/-! ## 6e. any sequence of `set_rkh` / `CertBlockV1.set_root_key_hash` calls: last write per slot wins, call order is irrelevant -/

/-- after ANY admissible call sequence (slots 0..3, 32-byte hashes; gaps, repeats, overwrites, descending, on a built or parsed
    table) slot `i` of the exported 4-slot table holds the last hash written to it, or its former content (zeros if none) -/
theorem set_rkh_last_write_wins (l : List Bytes) (ops : List (Nat × Bytes)) (hw : WFtab l) (ho : WFops ops) :
    ∃ l', setSeq l ops = .ok l' ∧ WFtab l' ∧ exportV1 l' = .ok (tbl l').flatten ∧
      ∀ i, i < 4 → (tbl l')[i]? = some ((lastWrite ops i).getD ((tbl l)[i]?.getD Z32)) := by
  obtain ⟨l', e, w, h⟩ := setSeq_last_write l ops hw ho
  exact ⟨l', e, w, exportV1_ok l' w, h⟩

/-- two call sequences with the same last write per slot (e.g. permutations of writes to different slots) give the same table and RKTH -/
theorem set_rkh_order_independent (l : List Bytes) (ops1 ops2 : List (Nat × Bytes)) (hw : WFtab l)
    (h1 : WFops ops1) (h2 : WFops ops2) (hlw : ∀ i, i < 4 → lastWrite ops1 i = lastWrite ops2 i) :
    (setSeq l ops1 >>= exportV1) = (setSeq l ops2 >>= exportV1) ∧ (setSeq l ops1 >>= rkthV1 c) = (setSeq l ops2 >>= rkthV1 c) :=
  setSeq_order_indep c l ops1 ops2 hw h1 h2 hlw

/-- the v1 certificate-block path for every call order: if the last write to slot `i` is the hash of root key `i` and no other slot is
    written, the RKTH is `Spec.rotkh` of the ordered key list (= `RKHTv1.from_keys` = `Rot`, by `path_eq_spec_*`) -/
theorem set_root_key_hash_any_order (hc : CryptoLaws c) (ks : List Key) (h : KeysOK .certBlock1 ks)
    (ops : List (Nat × Bytes)) (ho : WFops ops) (hlw : ∀ i, i < 4 → lastWrite ops i = (ks.map (keyHash c))[i]?) :
    (setSeq [] ops >>= rkthV1 c) = .ok (rotkh c .certBlock1 ks) := by
  rw [rotkh_cb1]; exact setSeq_keys_any_order c hc ks h ops ho hlw

/-- non-vacuity: signing slot 2 first, then 0, 1, 3, with an overwrite on the way -/
example (a b d e x : Bytes) :
    lastWrite [(2, d), (0, x), (0, a), (1, b), (3, e)] 0 = some a ∧ lastWrite [(2, d), (0, x), (0, a), (1, b), (3, e)] 2 = some d := by
  simp [lastWrite]

/-- the order of the keys matters (here: for every `c` that separates the two tables) — stated on the table -/
theorem order_matters_example (k1 k2 : Key) : rkhTableV1 c [k1, k2] = rkhTableV1 c [k2, k1] →
    keyHash c k1 ++ keyHash c k2 = keyHash c k2 ++ keyHash c k1 := by
  intro h
  simp only [rkhTableV1, List.map_cons, List.map_nil, List.flatten_append, List.flatten_cons, List.flatten_nil,
    List.append_nil, List.length_cons, List.length_nil] at h
  have := List.append_cancel_right h
  simpa using this

end SpsdkVerif.C03
