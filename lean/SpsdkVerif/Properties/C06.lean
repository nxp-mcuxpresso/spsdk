/-
C06 — AHAB image: containers verify, images hash and decrypt, offsets never collide.

Models (tied to /repo by harness/props/C06.py):
  * Generated/AhabConsts.lean — struct formats, tags, bit positions, the range records of the verify() trees, create_flags /
    create_meta / get_container_offset (translated from the source), per-chip database rows; Generated/PyFuns.lean (check_range, align)
  * Model/Ahab.lean — exporter (update_fields, offsets, signature block layout, container / image export)
  * Model/AhabVerify.lean — range / consistency part of the verify() trees, driven by the generated record tables
  * Model/AhabParse.lean, Model/AhabCert.lean, Model/AhabResign.lean — parser, certificate, second `update_fields`
  * Spec/AhabRom.lean — independent check of a binary (hand-transcribed format constants)
Helper lemmas: Proofs/Ahab.lean (exporter), Proofs/AhabVerify.lean (verifier), Proofs/AhabRom.lean and Proofs/AhabRom2.lean (independent
check; the first uses the C16 BinaryImage theorems), Proofs/AhabParse.lean (parser), Proofs/AhabCert.lean (certificate).

Cryptography is a parameter `c : CryptoOps`; positive statements need only `CryptoLaws c`.  The model never signs: the
signature bytes are an input and the statements about them are (i) WHICH bytes are signed, (ii) that those bytes do not
depend on the signature.  Verification of the signature itself is discharged by the harness with `cryptography`.
-/
import SpsdkVerif.Proofs.Ahab
import SpsdkVerif.Proofs.AhabVerify
import SpsdkVerif.Proofs.AhabRom
import SpsdkVerif.Proofs.AhabParse
import SpsdkVerif.Proofs.AhabRom2
import SpsdkVerif.Proofs.AhabCert
import SpsdkVerif.Generated.AhabVerifierRecs

namespace SpsdkVerif.C06
open SpsdkVerif SpsdkVerif.Misc SpsdkVerif.Ahab SpsdkVerif.AhabVerify
open SpsdkVerif.Generated
open SpsdkVerif.Crypto (CryptoOps CryptoLaws Break)

/-! ## 0. the hand-transcribed format (Spec) agrees with the constants extracted from the source -/

theorem spec_consts_agree :
    Spec.AhabRom.containerTag = AhabConsts.containerTag ∧ Spec.AhabRom.sigBlockTag = AhabConsts.sigBlockTag ∧
    Spec.AhabRom.srkTableTag = AhabConsts.srkTableTag ∧ Spec.AhabRom.srkTableVersion = AhabConsts.srkTableVersion ∧
    Spec.AhabRom.srkRecordTag = AhabConsts.srkRecordTag ∧ Spec.AhabRom.signatureTag = AhabConsts.signatureTag ∧
    Spec.AhabRom.headerSize = AhabConsts.containerLayout.size ∧ Spec.AhabRom.headerSize = AhabConsts.containerV2Layout.size ∧
    Spec.AhabRom.iaeSize = AhabConsts.iaeLayout.size ∧ Spec.AhabRom.iaeSize = AhabConsts.iaeV2Layout.size ∧
    Spec.AhabRom.sigBlockHeaderSize = AhabConsts.sigBlockLayout.size ∧ Spec.AhabRom.sigBlockHeaderSize = AhabConsts.sigBlockV2Layout.size ∧
    Spec.AhabRom.hashFieldLen = AhabConsts.iaeHashLen ∧ Spec.AhabRom.ivFieldLen = AhabConsts.iaeIvLen ∧
    Spec.AhabRom.hashFieldOff = intsLen AhabConsts.iaeLayout.intWidths ∧
    Spec.AhabRom.ivFieldOff = intsLen AhabConsts.iaeLayout.intWidths + AhabConsts.iaeHashLen ∧
    Spec.AhabRom.blockAlign = AhabConsts.containerAlignment ∧
    (Spec.AhabRom.paramsV1 0 0).containerSize = AhabConsts.containerSizeV1 ∧ (Spec.AhabRom.paramsV2 0 0).containerSize = AhabConsts.containerSizeV2 ∧
    (Spec.AhabRom.paramsV1 0 0).version = AhabConsts.containerVersionV1 ∧ (Spec.AhabRom.paramsV2 0 0).version = AhabConsts.containerVersionV2 ∧
    (Spec.AhabRom.paramsV1 0 0).sbVersion = AhabConsts.sigBlockVersionV1 ∧ (Spec.AhabRom.paramsV2 0 0).sbVersion = AhabConsts.sigBlockVersionV2 ∧
    (Spec.AhabRom.paramsV1 0 0).encBit = AhabConsts.iFlagsIsEncryptedOffsetV1 ∧ (Spec.AhabRom.paramsV2 0 0).encBit = AhabConsts.iFlagsIsEncryptedOffsetV2 ∧
    (Spec.AhabRom.paramsV1 0 0).hashBits = AhabConsts.iFlagsHashSizeV1 ∧ (Spec.AhabRom.paramsV2 0 0).hashBits = AhabConsts.iFlagsHashSizeV2 ∧
    AhabConsts.iFlagsHashOffsetV1 = 8 ∧ AhabConsts.iFlagsHashOffsetV2 = 8 := by decide +kernel

/-- the order in which the exporters pack their fields (argument list of `pack(self.format(), ...)` in the source) -/
theorem field_order_agrees :
    AhabConsts.containerLayout.packArgs =
      ["version", "length", "tag", "flags", "sw_version", "fuse_version", "image_array_len", "_signature_block_offset", "RESERVED"] ∧
    AhabConsts.iaeLayout.packArgs =
      ["_image_offset", "image_size", "load_address", "entry_point", "flags", "image_meta_data", "image_hash", "image_iv"] ∧
    AhabConsts.sigBlockLayout.packArgs =
      ["version", "length", "tag", "_certificate_offset", "_srk_assets_offset", "signature_offset", "_blob_offset",
       "blob.key_identifier?RESERVED"] ∧
    AhabConsts.sigBlockV2Layout.packArgs = AhabConsts.sigBlockLayout.packArgs ∧
    AhabConsts.srkRecordLayout.packArgs =
      ["tag", "length", "version", "hash_algorithm.tag", "key_size", "RESERVED", "srk_flags", "parameter_lengths"] ∧
    AhabConsts.srkTableLayout.packArgs = ["tag", "length", "version"] ∧
    AhabConsts.signatureLayout.packArgs = ["version", "length", "tag", "RESERVED"] ∧
    AhabConsts.blobLayout.packArgs = ["version", "length", "tag", "flags", "_size//8", "algorithm.tag", "mode"] := by decide +kernel

/-- every chip row of the database is usable by the layout theorems: positive alignments, at most four containers
    (`get_container_offset` refuses index > 3), a known container generation -/
theorem chips_wf : ∀ r ∈ AhabConsts.chips,
    0 < r.imageSizeAlign ∧ 0 < r.minOffsetAlign ∧ 1 ≤ r.containersMax ∧ r.containersMax ≤ 4 ∧ 1 ≤ r.imagesMax ∧
    r.containerTypes ≠ [] ∧ (∀ t ∈ r.containerTypes, t = 1 ∨ t = 2) := by decide +kernel

/-! ## 1. round trips -/

/-- an exported image-array entry parses back to itself (both container generations) -/
theorem iae_roundtrip (v : Ver) (e : Iae) (b rest : Bytes) (hh : e.hash.length = 64) (hi : e.iv.length = 32)
    (h : encodeIae v.iaeLayout e = .ok b) : decodeIae v.iaeLayout (b ++ rest) = some e :=
  encodeIae_roundtrip v e b rest ⟨hh, hi⟩ h

/-- header and image array of an exported container parse back: all eight header fields and every entry -/
theorem container_roundtrip (v : Ver) (length flags sw fuse sbo : Nat) (es : List Iae) (hb ab rest : Bytes)
    (hwf : ∀ e ∈ es, e.hash.length = 64 ∧ e.iv.length = 32)
    (h1 : encodeHeader v length flags sw fuse es.length sbo = .ok hb) (h2 : encodeIaes v.iaeLayout es = .ok ab)
    (hl : length ≤ (hb ++ ab ++ rest).length) :
    decodeHeader v (hb ++ ab ++ rest) = some ⟨v.containerVersion, length, AhabConsts.containerTag, flags, sw, fuse, es.length, sbo⟩ ∧
    decodeIaes v.iaeLayout (hb ++ ab ++ rest) es.length (v.hdrLayout).size = some es := by
  refine ⟨?_, ?_⟩
  · rw [List.append_assoc]
    exact encodeHeader_roundtrip v length flags sw fuse es.length sbo hb (ab ++ rest) h1 (by rw [← List.append_assoc]; exact hl)
  · have := encodeIaes_roundtrip v es ab hb rest hwf h2
    rwa [(encodeHeader_ok h1).2.2, ← (hdrLayout_widths v).2] at this

/-- an SRK record and a whole SRK table (four records of one key type, lengths as `update_fields` computes them) parse back -/
theorem srk_roundtrip (t : SrkTable) (b rest : Bytes) (hwf : SrkTableWF t) (h : encodeSrkTable t = .ok b) :
    decodeSrkTable (b ++ rest) = some t ∧
    ∀ r ∈ t.records, ∀ rb rrest, encodeSrkRecord r = .ok rb → decodeSrkRecord (rb ++ rrest) = some r :=
  ⟨encodeSrkTable_roundtrip t b rest hwf h, fun r hr rb rrest hrb => encodeSrkRecord_roundtrip r rb rrest (hwf.recs r hr) hrb⟩

/-! ## 2. flag and meta-data words (functions translated from the source) -/

/-- `create_flags` / `create_meta` pack their fields disjointly: every getter returns what was put in, and the word fits
    32 bits.  Version 1: hash field 3 bits, encrypted flag bit 11; version 2: 4 bits, bit 12. -/
theorem flags_meta_fields (ty core h boot a b m : Nat) (enc : Bool) (ht : ty < 16) (hc : core < 16) (hboot : boot < 2 ^ 15)
    (ha : a < 1024) (hb : b < 1024) (hm : m < 256) :
    (h < 8 → ∃ f : Nat, AhabConsts.createFlagsV1 ty core h enc boot = .ok (f : Int) ∧ f < 2 ^ 32 ∧
      getF f Ver.v1.typeOff Ver.v1.typeSize = ty ∧ getF f Ver.v1.coreOff Ver.v1.coreSize = core ∧ Iae.hashTag .v1 f = h ∧
      Iae.isEncrypted .v1 f = enc ∧ getF f Ver.v1.bootOff Ver.v1.bootSize = boot) ∧
    (h < 16 → ∃ f : Nat, AhabConsts.createFlagsV2 ty core h enc boot = .ok (f : Int) ∧ f < 2 ^ 32 ∧
      getF f Ver.v2.typeOff Ver.v2.typeSize = ty ∧ getF f Ver.v2.coreOff Ver.v2.coreSize = core ∧ Iae.hashTag .v2 f = h ∧
      Iae.isEncrypted .v2 f = enc ∧ getF f Ver.v2.bootOff Ver.v2.bootSize = boot) ∧
    (∃ md : Nat, AhabConsts.createMeta a b m = .ok (md : Int) ∧ md < 2 ^ 28 ∧
      getF md AhabConsts.iMetadataStartCpuIdOffsetV1 AhabConsts.iMetadataStartCpuIdSizeV1 = a ∧
      getF md AhabConsts.iMetadataMuCpuIdOffsetV1 AhabConsts.iMetadataMuCpuIdSizeV1 = b ∧
      getF md AhabConsts.iMetadataStartPartitionIdOffsetV1 AhabConsts.iMetadataStartPartitionIdSizeV1 = m) := by
  -- the sums `createFlags` / `createMeta` compute are `packBits` of their fields (with the unused bits as zero fields)
  have encv : (if enc = true then 1 else 0 : Nat) < 2 ^ 1 := by cases enc <;> decide
  have encb : ((if enc = true then 1 else 0 : Nat) != 0) = enc := by cases enc <;> rfl
  refine ⟨fun hh => ?_, fun hh => ?_, ?_⟩
  · have F := createFlagsV1_val ty core h boot enc ht hc hh
    generalize (if enc = true then 1 else 0 : Nat) = e at F encv encb
    have hfit : bitsFit [4, 4, 3, 1, 4, 15] [ty, core, h, e, 0, boot] := ⟨ht, hc, hh, encv, by decide, hboot, trivial⟩
    rw [show ty + core * 2 ^ 4 + h * 2 ^ 8 + e * 2 ^ 11 + boot * 2 ^ 16 = packBits [4, 4, 3, 1, 4, 15] [ty, core, h, e, 0, boot] from by
      simp only [packBits]; omega] at F
    exact ⟨_, F, Nat.lt_of_lt_of_le (packBits_lt _ _ 31 hfit rfl) (by decide), getF_packBits _ _ hfit 0 (by decide),
      getF_packBits _ _ hfit 1 (by decide), getF_packBits _ _ hfit 2 (by decide),
      (congrArg (· != 0) (getF_packBits _ _ hfit 3 (by decide))).trans encb, getF_packBits _ _ hfit 5 (by decide)⟩
  · have F := createFlagsV2_val ty core h boot enc ht hc hh
    generalize (if enc = true then 1 else 0 : Nat) = e at F encv encb
    have hfit : bitsFit [4, 4, 4, 1, 3, 15] [ty, core, h, e, 0, boot] := ⟨ht, hc, hh, encv, by decide, hboot, trivial⟩
    rw [show ty + core * 2 ^ 4 + h * 2 ^ 8 + e * 2 ^ 12 + boot * 2 ^ 16 = packBits [4, 4, 4, 1, 3, 15] [ty, core, h, e, 0, boot] from by
      simp only [packBits]; omega] at F
    exact ⟨_, F, Nat.lt_of_lt_of_le (packBits_lt _ _ 31 hfit rfl) (by decide), getF_packBits _ _ hfit 0 (by decide),
      getF_packBits _ _ hfit 1 (by decide), getF_packBits _ _ hfit 2 (by decide),
      (congrArg (· != 0) (getF_packBits _ _ hfit 3 (by decide))).trans encb, getF_packBits _ _ hfit 5 (by decide)⟩
  · have F := createMeta_val a b m ha hb
    have hfit : bitsFit [10, 10, 8] [a, b, m] := ⟨ha, hb, hm, trivial⟩
    rw [show a + b * 2 ^ 10 + m * 2 ^ 20 = packBits [10, 10, 8] [a, b, m] from by simp only [packBits]; omega] at F
    exact ⟨_, F, packBits_lt _ _ 28 hfit rfl, getF_packBits _ _ hfit 0 (by decide), getF_packBits _ _ hfit 1 (by decide),
      getF_packBits _ _ hfit 2 (by decide)⟩

/-! ## 3. signature block: offsets and the signed range -/

/-- `0 < srkOff < sigOff (< certOff < blobOff) ≤ length` after `update_fields`, for both generations: every present block
    lies behind the 16-byte header and behind every earlier present block, inside the block; absent blocks have offset 0;
    version-1 offsets are 64-bit aligned -/
theorem sigblock_monotone (v : Ver) (sb : SigBlock) :
    let o := sbLayout v sb
    let s1 := sb.srk.length
    let s2 := sb.sigSize v
    let s3 := sb.cert.length
    let s4 := sb.blobLen
    (s1 = 0 → o.srkOff = 0) ∧ (s2 = 0 → o.sigOff = 0) ∧ (s3 = 0 → o.certOff = 0) ∧ (s4 = 0 → o.blobOff = 0) ∧
    (s1 ≠ 0 → 16 ≤ o.srkOff ∧ o.srkOff + s1 ≤ o.length) ∧
    (s2 ≠ 0 → 16 ≤ o.sigOff ∧ (s1 ≠ 0 → o.srkOff + s1 ≤ o.sigOff) ∧ o.sigOff + s2 ≤ o.length) ∧
    (s3 ≠ 0 → 16 ≤ o.certOff ∧ (s1 ≠ 0 → o.srkOff + s1 ≤ o.certOff) ∧ (s2 ≠ 0 → o.sigOff + s2 ≤ o.certOff) ∧
              o.certOff + s3 ≤ o.length) ∧
    (s4 ≠ 0 → 16 ≤ o.blobOff ∧ (s1 ≠ 0 → o.srkOff + s1 ≤ o.blobOff) ∧ (s2 ≠ 0 → o.sigOff + s2 ≤ o.blobOff) ∧
              (s3 ≠ 0 → o.certOff + s3 ≤ o.blobOff) ∧ o.blobOff + s4 = o.length) ∧
    16 ≤ o.length ∧
    (v = .v1 → o.srkOff % 8 = 0 ∧ o.sigOff % 8 = 0 ∧ o.certOff % 8 = 0 ∧ o.blobOff % 8 = 0) :=
  sigblock_layout v sb

/-- the headline chain for a signed container with certificate and blob -/
theorem sigblock_chain (v : Ver) (sb : SigBlock) (h1 : sb.srk.length ≠ 0) (h2 : sb.sigSize v ≠ 0) (h3 : sb.cert.length ≠ 0)
    (h4 : sb.blobLen ≠ 0) :
    0 < (sbLayout v sb).srkOff ∧ (sbLayout v sb).srkOff < (sbLayout v sb).sigOff ∧ (sbLayout v sb).sigOff < (sbLayout v sb).certOff ∧
    (sbLayout v sb).certOff < (sbLayout v sb).blobOff ∧ (sbLayout v sb).blobOff < (sbLayout v sb).length := by
  have L := sigblock_layout v sb
  simp only at L
  generalize sbLayout v sb = o at L ⊢
  obtain ⟨_, _, _, _, p1, p2, p3, p4, _, _⟩ := L
  have q1 := p1 h1
  have q2 := p2 h2
  have q3 := p3 h3
  have q4 := p4 h4
  have r2 := q2.2.1 h1
  have r3 := q3.2.2.1 h2
  have r4 := q4.2.2.2.1 h3
  have n1 : 0 < sb.srk.length := Nat.pos_of_ne_zero h1
  have n2 : 0 < sb.sigSize v := Nat.pos_of_ne_zero h2
  have n3 : 0 < sb.cert.length := Nat.pos_of_ne_zero h3
  have n4 : 0 < sb.blobLen := Nat.pos_of_ne_zero h4
  refine ⟨by omega, by omega, by omega, by omega, by omega⟩

/-- the data that is signed (`get_signature_data`) is the exported container cut at `signature block offset + signature
    offset`, and that prefix consists of: container header, image array, (alignment), signature-block header, SRK table
    (array) and the padding in front of the signature - nothing else -/
theorem signed_range (v : Ver) (c : Container) (iaes : List Iae) (b : Bytes) (hb : BlobLenOK c.sb)
    (h : exportContainerWith v c iaes = .ok b) :
    signatureData v c iaes = .ok (b.take (sigBlockOffset v iaes.length + (sbLayout v c.sb).sigOff)) ∧
    ∃ hd ab hdr,
      encodeHeader v (headerLength v iaes.length (sbLayout v c.sb).length) c.flags c.swVersion c.fuseVersion iaes.length
        (sigBlockOffset v iaes.length) = .ok hd ∧
      encodeIaes v.iaeLayout iaes = .ok ab ∧ sbHeader v (sbLayout v c.sb) c.sb.keyId = .ok hdr ∧
      b.take (sigBlockOffset v iaes.length + (sbLayout v c.sb).sigOff) =
        hd ++ ab ++ zerosB (sigBlockOffset v iaes.length - (hd ++ ab).length) ++
          (sbHead (sbLayout v c.sb) hdr c.sb.srk).take (sbLayout v c.sb).sigOff ∧
      b.length = sigBlockOffset v iaes.length + (sbLayout v c.sb).length := by
  refine ⟨by simp [signatureData, h], ?_⟩
  have hlen := (exportContainer_length hb h).trans (headerLength_eq _ _ _)
  obtain ⟨hd, a, s, hh, ha, hs, rfl, hX⟩ := exportContainer_ok h
  obtain ⟨hdr, hhdr, htake, _⟩ := sigblock_prefix v c.sb s hb hs
  refine ⟨hd, a, hdr, hh, ha, hhdr, ?_, hlen⟩
  rw [hX, Nat.sub_self, ← hX, List.take_append, List.take_of_length_le (by omega), Nat.add_sub_cancel_left, htake]
  exact (congrArg (· ++ _) (List.append_nil _)).symm

/-- the signed data does not depend on the signature bytes (nor on the bytes of certificate and blob): replacing them by
    others of the same lengths leaves every signed byte unchanged - so signing after `update_fields` is well defined -/
theorem signed_independent (v : Ver) (c c' : Container) (iaes : List Iae) (b b' : Bytes)
    (hb : BlobLenOK c.sb) (hb' : BlobLenOK c'.sb)
    (hf : c'.flags = c.flags) (hsw : c'.swVersion = c.swVersion) (hfu : c'.fuseVersion = c.fuseVersion)
    (h1 : c'.sb.srk = c.sb.srk) (h2 : c'.sb.signature.length = c.sb.signature.length)
    (h3 : c'.sb.signature2.length = c.sb.signature2.length) (h4 : c'.sb.cert.length = c.sb.cert.length)
    (h5 : c'.sb.blobLen = c.sb.blobLen) (h6 : c'.sb.keyId = c.sb.keyId)
    (h : exportContainerWith v c iaes = .ok b) (h' : exportContainerWith v c' iaes = .ok b') :
    signatureData v c' iaes = signatureData v c iaes := by
  have ho := sbLayout_congr v c.sb c'.sb (by rw [h1]) h2 h3 h4 h5
  simp only [signatureData, h, h', ho]
  congr 1
  obtain ⟨hd, a, hdr, e1, e2, e4, e8, _⟩ := (signed_range v c iaes b hb h).2
  obtain ⟨hd', a', hdr', e1', e2', e4', e8', _⟩ := (signed_range v c' iaes b' hb' h').2
  rw [ho, hf, hsw, hfu, e1] at e1'; cases e1'
  rw [e2] at e2'; cases e2'
  rw [ho, h6, e4] at e4'; cases e4'
  rw [ho, h1] at e8'
  rw [e8, e8']

/-! ## 4. offsets: assignment, disjointness, alignment, inside the image -/

/-- the offset loop: every image sits at its explicit offset or (automatic) exactly at the cursor, which is the aligned
    end (+ gap) of the previous image, across container boundaries, starting at the recommended start address -/
theorem offsets_assigned (c : CryptoOps) (img : Image) (us : List UContainer) (h : img.update c = .ok us) :
    Assigned img.chip img.ver (img.chip.startAddr img.ver) (allPlaced us) :=
  updateContainers_assigned c img.chip img.ver img.containers 0 _ us h

/-- no two images overlap: as long as no explicit offset points behind the cursor (in particular when all offsets are
    automatic) the images are in increasing order, each one starting at or after the end of the previous one and at or
    after the start address -/
theorem offsets_disjoint (c : CryptoOps) (img : Image) (us : List UContainer) (h : img.update c = .ok us)
    (ha : ExplicitAhead img.chip img.ver (img.chip.startAddr img.ver) (allPlaced us)) :
    (allPlaced us).Pairwise (fun p q => p.offset + p.ready.size ≤ q.offset) ∧
    ∀ p ∈ allPlaced us, img.chip.startAddr img.ver ≤ p.offset := by
  have ho := assigned_ordered img.chip img.ver _ _ (offsets_assigned c img us h) ha
  exact ⟨OrderedFrom_pairwise _ _ ho, OrderedFrom_ge _ _ ho⟩

theorem offsets_disjoint_auto (c : CryptoOps) (img : Image) (us : List UContainer) (h : img.update c = .ok us)
    (hauto : ∀ p ∈ allPlaced us, p.entry.offset = 0) :
    (allPlaced us).Pairwise (fun p q => p.offset + p.ready.size ≤ q.offset) ∧
    ∀ p ∈ allPlaced us, img.chip.startAddr img.ver ≤ p.offset :=
  offsets_disjoint c img us h (explicitAhead_of_auto _ _ _ _ hauto)

/-- the cursor behind an image is aligned to `max(get_valid_alignment(), valid_offset_minimal_alignment)` of THAT image and
    leaves room for image and gap; hence every automatically placed image that follows another one is so aligned -/
theorem offsets_aligned (ch : Chip) (v : Ver) (e : Entry) (r : Ready) (off : Nat) :
    off + r.size + e.gapAfter ≤ nextCursor ch v e r off ∧
    nextCursor ch v e r off % (max (validAlignment ch v e.flags) ch.row.minOffsetAlign) = 0 ∧
    4 ≤ max (validAlignment ch v e.flags) ch.row.minOffsetAlign := by
  refine ⟨(nextCursor_ge ch v e r off).1, (nextCursor_ge ch v e r off).2, ?_⟩
  unfold validAlignment; split <;> omega

/-- every image lies inside the length `AHABImage.__len__` reports -/
theorem offsets_inside (ch : Chip) (us : List UContainer) (hA : 0 < ch.imageAlignment) (p : Placed) (hp : p ∈ allPlaced us) :
    p.offset + p.ready.size ≤ imageLength ch us := by
  unfold imageLength
  simp only
  have h1 : alignNat (p.offset + p.ready.size) 4 ∈
      us.flatMap (fun u => u.placed.map (fun p => alignNat (p.offset + p.ready.size) 4)) := by
    obtain ⟨u, hu, hpu⟩ := List.mem_flatMap.1 hp
    exact List.mem_flatMap.2 ⟨u, hu, List.mem_map.2 ⟨p, hpu, rfl⟩⟩
  have h2 := le_foldl_max _ 0 _ (Or.inl h1)
  have h3 := alignNat_ge (p.offset + p.ready.size) 4 (by decide)
  have h4 := alignNat_ge ((us.flatMap (fun u => u.placed.map (fun p => alignNat (p.offset + p.ready.size) 4))).foldl max 0)
    ch.imageAlignment hA
  omega

/-! ## 5. containers sit at their fixed offsets -/

/-- container `k` gets offset `k * CONTAINER_SIZE` (0x400 / 0x4000; `get_container_offset` translated from the source) and
    there are at most four -/
theorem containers_fixed (c : CryptoOps) (img : Image) (us : List UContainer) (h : img.update c = .ok us) :
    us.length = img.containers.length ∧
    ∀ k u, us[k]? = some u → u.index = k ∧ u.base = k * img.ver.containerSize ∧ k ≤ 3 ∧ img.containers[k]? = some u.cont := by
  have := updateContainers_bases c img.chip img.ver img.containers 0 _ us h
  refine ⟨this.1, fun k u hk => ?_⟩
  have := this.2 k u hk
  simpa using this

/-- ... and in the exported FILE the bytes of container `k` start at `k * CONTAINER_SIZE` -/
theorem containers_fixed_in_file (c : CryptoOps) (img : Image) (bin : Bytes) (hexp : img.export c = .ok bin)
    (hA : 0 < img.chip.imageAlignment) (us : List UContainer) (hus : img.update c = .ok us) (k : Nat) (u : UContainer)
    (hk : us[k]? = some u) (hblob : BlobLenOK u.cont.sb) :
    ∃ cb, u.export img.ver = .ok cb ∧ u.base = k * img.ver.containerSize ∧ k ≤ 3 ∧
      Spec.AhabRom.slice bin (k * img.ver.containerSize) cb.length = cb :=
  container_in_file c img bin hexp hA us hus k u hk hblob

/-! ## 6. the independent check accepts what is exported -/

/-- `rom_accepts` (hash / placement / decryption part), for every `c` with `CryptoLaws c`: the independent entry check of
    Spec/AhabRom.lean, run on the exported file at the position of entry `i` of container `u`, succeeds and reports the
    entry's absolute offset, size and flags: the entry points at the bytes of its image, its hash field is the hash of
    those bytes under the algorithm its flags declare, and an encrypted image decrypts (AES-CBC, DEK, IV field[16:32]) to
    data whose SHA-256 is the IV field.
    `hnoext` excludes the open finding C06-encrypted-size-alignment (cipher text zero-extended after encryption); the first
    disjunct is the configuration "flagged encrypted but no blob", which SPSDK's verifier refuses. -/
theorem rom_accepts (c : CryptoOps) (hc : CryptoLaws c) (img : Image) (bin : Bytes) (maxC maxI : Nat)
    (hexp : img.export c = .ok bin) (hA : 0 < img.chip.imageAlignment)
    (us : List UContainer) (hus : img.update c = .ok us) (u : UContainer) (hu : u ∈ us)
    (i : Nat) (p : Placed) (hp : u.placed[i]? = some p)
    (hblob : BlobLenOK u.cont.sb) (hsz : 0 < p.ready.size)
    (hnoext : Iae.isEncrypted img.ver p.entry.flags = true → u.cont.sb.blob.isSome = true →
      p.ready.size = p.ready.image.length ∧ (storedImage img.chip p.entry.data).length % 16 = 0 ∧ u.cont.dek.isSome = true) :
    Iae.isEncrypted img.ver p.entry.flags = true ∧ u.cont.sb.blob.isSome = false ∨
    Spec.AhabRom.checkEntry c (romParams img.ver maxC maxI) bin u.base (u.base + (16 + 128 * i))
        (if u.cont.sb.blob.isSome then u.cont.dek else none) =
      .ok ⟨p.offset, p.ready.size, p.entry.flags, Iae.isEncrypted img.ver p.entry.flags⟩ :=
  checkEntry_accepts_export c hc img bin maxC maxI hexp hA us hus u hu i p hp hblob hsz hnoext

/-- `rom_accepts`, signature-block part (version 1, signed): the independent `checkSigBlock` accepts the signature block of an
    exported container - tag, version, length = container length - offset, 16 <= SRK table < signature, alignment, signature
    container inside the block, certificate and blob behind it, SRK table header and four equal records, selected record not
    revoked - and reports: signed range `[base, base + sigblock offset + signature offset)`, the SRK table, the selected
    record, the signature bytes and the SHA-256 of the table -/
theorem rom_accepts_sigblock (c : CryptoOps) (maxC maxI : Nat) (bin cb : Bytes) (base : Nat) (cont : Container) (iaes : List Iae)
    (t : SrkTable) (hcb : Spec.AhabRom.slice bin base cb.length = cb) (hexp : exportContainerWith .v1 cont iaes = .ok cb)
    (hb : BlobLenOK cont.sb) (ht : SrkTableWF t) (hte : encodeSrkTable t = .ok cont.sb.srk) (hsig : cont.sb.signature ≠ [])
    (hset : cont.srkSet ≠ 0) (hrev : (cont.revokeMask >>> cont.usedSrkId) % 2 = 0) :
    ∃ P, cont.sb.srk.length = 4 + (12 + P) * 4 ∧
    Spec.AhabRom.checkSigBlock c (Spec.AhabRom.paramsV1 maxC maxI) bin base cb.length (sigBlockOffset .v1 iaes.length) cont.flags =
      .ok ((sbLayout .v1 cont.sb).srkOff, (sbLayout .v1 cont.sb).sigOff, (sbLayout .v1 cont.sb).certOff, (sbLayout .v1 cont.sb).blobOff,
           (sbLayout .v1 cont.sb).length,
           some ⟨sigBlockOffset .v1 iaes.length + (sbLayout .v1 cont.sb).sigOff,
                 base + sigBlockOffset .v1 iaes.length + (sbLayout .v1 cont.sb).srkOff, cont.sb.srk.length,
                 base + sigBlockOffset .v1 iaes.length + (sbLayout .v1 cont.sb).srkOff + 4 + cont.usedSrkId * (12 + P), 12 + P,
                 cont.usedSrkId,
                 base + sigBlockOffset .v1 iaes.length + (sbLayout .v1 cont.sb).sigOff + 8, cont.sb.signature.length,
                 c.hash .sha256 cont.sb.srk⟩) := by
  obtain ⟨P, hTl⟩ := srkTable_length ht hte
  refine ⟨P, hTl, ?_⟩
  have H := checkSigBlock_accepts c .v1 maxC maxI bin cb base cont iaes hcb hexp hb (.signedV1 t rfl ht hte hsig hset hrev)
  rw [sigReport, if_neg hset, show (cont.sb.srk.length - 4) / 4 = 12 + P from by omega] at H
  exact H

/-- `rom_accepts`, container level (version 1, signed with an SRK table), for every `c` with `CryptoLaws c`: `checkContainer` of
    the independent checker accepts container `k` of an exported image - header read at `k * 0x400`, every image-array entry
    (placement, hash, decryption), the signature block - and its report names the signed range, so together with the
    signature obligation (discharged on the real file by the harness) the container is authenticated.  The entry hypotheses
    exclude the open finding C06-encrypted-size-alignment and the refused configuration "encrypted flag without blob". -/
theorem rom_accepts_container (c : CryptoOps) (hc : CryptoLaws c) (img : Image) (hv : img.ver = .v1) (bin : Bytes) (maxC maxI : Nat)
    (hexp : img.export c = .ok bin) (hA : 0 < img.chip.imageAlignment)
    (us : List UContainer) (hus : img.update c = .ok us) (k : Nat) (u : UContainer) (hk : us[k]? = some u)
    (hblob : BlobLenOK u.cont.sb) (t : SrkTable) (ht : SrkTableWF t) (hte : encodeSrkTable t = .ok u.cont.sb.srk)
    (hsig : u.cont.sb.signature ≠ []) (hset : u.cont.srkSet ≠ 0) (hrev : (u.cont.revokeMask >>> u.cont.usedSrkId) % 2 = 0)
    (hn : u.placed.length ≤ maxI)
    (hent : ∀ (i : Nat) (p : Placed), u.placed[i]? = some p → 0 < p.ready.size ∧
      ¬ (Iae.isEncrypted img.ver p.entry.flags = true ∧ u.cont.sb.blob.isSome = false) ∧
      (Iae.isEncrypted img.ver p.entry.flags = true → u.cont.sb.blob.isSome = true →
        p.ready.size = p.ready.image.length ∧ (storedImage img.chip p.entry.data).length % 16 = 0 ∧ u.cont.dek.isSome = true)) :
    ∃ cb P, u.export .v1 = .ok cb ∧ u.cont.sb.srk.length = 4 + (12 + P) * 4 ∧
    Spec.AhabRom.checkContainer c (Spec.AhabRom.paramsV1 maxC maxI) bin k (if u.cont.sb.blob.isSome then u.cont.dek else none) =
      .ok ⟨k, k * 0x400, cb.length, u.cont.flags, u.cont.swVersion, u.cont.fuseVersion, sigBlockOffset .v1 u.placed.length,
           (sbLayout .v1 u.cont.sb).srkOff, (sbLayout .v1 u.cont.sb).sigOff, (sbLayout .v1 u.cont.sb).certOff,
           (sbLayout .v1 u.cont.sb).blobOff, (sbLayout .v1 u.cont.sb).length, u.placed.map (repOf .v1),
           some ⟨sigBlockOffset .v1 u.placed.length + (sbLayout .v1 u.cont.sb).sigOff,
                 k * 0x400 + sigBlockOffset .v1 u.placed.length + (sbLayout .v1 u.cont.sb).srkOff, u.cont.sb.srk.length,
                 k * 0x400 + sigBlockOffset .v1 u.placed.length + (sbLayout .v1 u.cont.sb).srkOff + 4 + u.cont.usedSrkId * (12 + P), 12 + P,
                 u.cont.usedSrkId,
                 k * 0x400 + sigBlockOffset .v1 u.placed.length + (sbLayout .v1 u.cont.sb).sigOff + 8, u.cont.sb.signature.length,
                 c.hash .sha256 u.cont.sb.srk⟩⟩ := by
  obtain ⟨P, hTl⟩ := srkTable_length ht hte
  obtain ⟨cb, hcbe, _, _, hchk⟩ := checkContainer_accepts c hc img bin maxC maxI hexp hA us hus k u hk hblob
    (.signedV1 t hv ht hte hsig hset hrev) hn hent
  rw [hv] at hcbe hchk
  refine ⟨cb, P, hcbe, hTl, ?_⟩
  rw [sigReport, if_neg hset, show (u.cont.sb.srk.length - 4) / 4 = 12 + P from by omega] at hchk
  exact hchk

/-- `rom_accepts`, signature-block part for an UNSIGNED container (SRK set "none", no SRK table, no signature), both
    container generations: accepted, SRK table and signature offsets are 0 and NO signature obligation is reported - the
    checker never reports "nothing to verify" for a container whose SRK set is not "none" (see `rom_accepts_file`) -/
theorem rom_accepts_sigblock_unsigned (c : CryptoOps) (v : Ver) (maxC maxI : Nat) (bin cb : Bytes) (base : Nat) (cont : Container)
    (iaes : List Iae) (hcb : Spec.AhabRom.slice bin base cb.length = cb) (hexp : exportContainerWith v cont iaes = .ok cb)
    (hb : BlobLenOK cont.sb) (hset : cont.srkSet = 0) (hsrk : cont.sb.srk = []) (hsig : cont.sb.signature = []) :
    Spec.AhabRom.checkSigBlock c (romParams v maxC maxI) bin base cb.length (sigBlockOffset v iaes.length) cont.flags =
      .ok (0, 0, (sbLayout v cont.sb).certOff, (sbLayout v cont.sb).blobOff, (sbLayout v cont.sb).length, none) := by
  have hs2 : cont.sb.sigSize v = 0 := by
    unfold SigBlock.sigSize signatureLen
    cases v <;> simp [hsig]
  rw [checkSigBlock_accepts c v maxC maxI bin cb base cont iaes hcb hexp hb (.unsigned hset hsrk hsig), (sigReport_none c v base _ cont).2 hset,
    (sbLayout_absent v cont.sb).1 (by rw [hsrk]; rfl), (sbLayout_absent v cont.sb).2.1 hs2]

/-- `rom_accepts`, signature-block part (version 2, signed; the SRK table array is one opaque region for the checker): accepted;
    the report names the signed range `[base, base + sigblock offset + signature offset)`, the SRK table array region
    `[srk offset, signature offset)` and the first signature -/
theorem rom_accepts_sigblock_v2 (c : CryptoOps) (maxC maxI : Nat) (bin cb : Bytes) (base : Nat) (cont : Container) (iaes : List Iae)
    (hcb : Spec.AhabRom.slice bin base cb.length = cb) (hexp : exportContainerWith .v2 cont iaes = .ok cb)
    (hb : BlobLenOK cont.sb) (hsrk : cont.sb.srk ≠ []) (hsig : cont.sb.signature ≠ [])
    (hset : cont.srkSet ≠ 0) (hrev : (cont.revokeMask >>> cont.usedSrkId) % 2 = 0) :
    Spec.AhabRom.checkSigBlock c (Spec.AhabRom.paramsV2 maxC maxI) bin base cb.length (sigBlockOffset .v2 iaes.length) cont.flags =
      .ok ((sbLayout .v2 cont.sb).srkOff, (sbLayout .v2 cont.sb).sigOff, (sbLayout .v2 cont.sb).certOff, (sbLayout .v2 cont.sb).blobOff,
           (sbLayout .v2 cont.sb).length,
           some ⟨sigBlockOffset .v2 iaes.length + (sbLayout .v2 cont.sb).sigOff,
                 base + sigBlockOffset .v2 iaes.length + (sbLayout .v2 cont.sb).srkOff,
                 (sbLayout .v2 cont.sb).sigOff - (sbLayout .v2 cont.sb).srkOff, 0, 0, cont.usedSrkId,
                 base + sigBlockOffset .v2 iaes.length + (sbLayout .v2 cont.sb).sigOff + 8, cont.sb.signature.length, []⟩) := by
  have H := checkSigBlock_accepts c .v2 maxC maxI bin cb base cont iaes hcb hexp hb (.signedV2 rfl hsrk hsig hset hrev)
  rw [sigReport, if_neg hset] at H
  exact H

/-- `rom_accepts`, THE WHOLE FILE, for every `c` with `CryptoLaws c`, both container generations, any number of containers and
    images: `ahabCheck` of the independent checker accepts an exported image.  Every slot `k < n` is recognised as a container,
    starts behind the previous one and passes `checkContainer` (header fields, every entry: placement / hash / decryption,
    signature block); no later slot is taken for a container; all containers and images are pairwise disjoint.  The report
    gives, per container: index, base `k * CONTAINER_SIZE`, flags / sw / fuse version as configured, the images, the container
    bytes as exported, and - exactly when the SRK set is not "none" - the signature obligation with the signed range
    `[base, base + sigblock offset + signature offset)`, the position and length of the signature bytes, the selected SRK and
    (version 1) the SHA-256 of the SRK table.
    Hypotheses: each container is unsigned, or signed by a key that is not revoked (`SigKind`: v1 SRK table / v2 SRK table
    array), and fits its slot; entries outside the open finding C06-encrypted-size-alignment and not "encrypted flag without
    blob"; no explicit offset behind the cursor (`ExplicitAhead`, true when all offsets are automatic); the unused slots do
    not happen to hold a container head (`hph`); the containers end before the first image address (`hstart`, automatic for
    version 1: `containers_before_images_v1`). -/
theorem rom_accepts_file (c : CryptoOps) (hc : CryptoLaws c) (img : Image) (bin : Bytes) (maxC maxI : Nat)
    (hexp : img.export c = .ok bin) (hA : 0 < img.chip.imageAlignment)
    (us : List UContainer) (hus : img.update c = .ok us) (hne : us ≠ []) (hmax : us.length ≤ maxC)
    (hcont : ∀ u ∈ us, BlobLenOK u.cont.sb ∧ u.placed.length ≤ maxI ∧ SigKind img.ver u.cont ∧
      (∀ cb, u.export img.ver = .ok cb → cb.length ≤ img.ver.containerSize) ∧
      ∀ (i : Nat) (p : Placed), u.placed[i]? = some p → 0 < p.ready.size ∧
        ¬ (Iae.isEncrypted img.ver p.entry.flags = true ∧ u.cont.sb.blob.isSome = false) ∧
        (Iae.isEncrypted img.ver p.entry.flags = true → u.cont.sb.blob.isSome = true →
          p.ready.size = p.ready.image.length ∧ (storedImage img.chip p.entry.data).length % 16 = 0 ∧ u.cont.dek.isSome = true))
    (hph : ∀ m, us.length ≤ m → m < maxC →
      Spec.AhabRom.looksLikeContainer (romParams img.ver maxC maxI) bin (m * img.ver.containerSize) = false)
    (ha : ExplicitAhead img.chip img.ver (img.chip.startAddr img.ver) (allPlaced us))
    (hstart : us.length * img.ver.containerSize ≤ img.chip.startAddr img.ver) :
    ∃ reps, Spec.AhabRom.ahabCheck c (romParams img.ver maxC maxI) bin (us.map dekOf) = .ok reps ∧ reps.length = us.length ∧
      ∀ k u r, us[k]? = some u → reps[k]? = some r →
        r.index = k ∧ r.base = k * img.ver.containerSize ∧ r.flags = u.cont.flags ∧ r.swVersion = u.cont.swVersion ∧
        r.fuseVersion = u.cont.fuseVersion ∧ r.images = u.placed.map (repOf img.ver) ∧
        u.export img.ver = .ok (Spec.AhabRom.slice bin r.base r.length) ∧
        (r.sig = none ↔ u.cont.srkSet = 0) ∧
        ∀ s, r.sig = some s → s.signedLen = sigBlockOffset img.ver u.placed.length + (sbLayout img.ver u.cont.sb).sigOff ∧
          s.sigOff = r.base + s.signedLen + 8 ∧ s.sigLen = u.cont.sb.signature.length ∧ s.usedSrk = u.cont.usedSrkId ∧
          (img.ver = .v1 → s.srkHash = c.hash .sha256 u.cont.sb.srk) := by
  open SpsdkVerif.Spec.AhabRom in
  obtain ⟨pS, _, _, pC, _⟩ := romParams_size img.ver maxC maxI
  -- per container
  have hper : ∀ (k : Nat) (u : UContainer), us[k]? = some u → ∃ r cb, checkContainer c (romParams img.ver maxC maxI) bin k (dekOf u) = .ok r ∧
      RepFacts c img bin maxC maxI k u r cb := by
    intro k u hk
    have hu : u ∈ us := List.mem_of_getElem? hk
    obtain ⟨hblob, hn, hkind, _, hent⟩ := hcont u hu
    obtain ⟨cb, hcbe, hsl, hlook, hchk⟩ := checkContainer_accepts c hc img bin maxC maxI hexp hA us hus k u hk hblob hkind hn hent
    exact ⟨_, cb, hchk, ⟨hlook, hcbe, hsl, rfl, rfl, rfl, rfl, rfl, rfl, rfl, sigReport_none _ _ _ _ _, fun s hs => sigReport_some hs⟩⟩
  let reps : List ContainerRep := (List.range us.length).map
    (fun k => repOfCheck c (romParams img.ver maxC maxI) bin k ((us.map dekOf).getD k none))
  have hrl : reps.length = us.length := by simp [reps]
  have hdek : ∀ (k : Nat) (u : UContainer), us[k]? = some u → (us.map dekOf).getD k none = dekOf u := by
    intro k u hk
    simp [List.getD, List.getElem?_map, hk]
  have hrep : ∀ (k : Nat) (u : UContainer) (r : ContainerRep), us[k]? = some u → reps[k]? = some r →
      checkContainer c (romParams img.ver maxC maxI) bin k (dekOf u) = .ok r := by
    intro k u r hk hr
    have hkl : k < us.length := (List.getElem?_eq_some_iff.1 hk).1
    obtain ⟨r', cb, hchk, _⟩ := hper k u hk
    have : reps[k]? = some (repOfCheck c (romParams img.ver maxC maxI) bin k ((us.map dekOf).getD k none)) := by
      simp [reps, List.getElem?_map, List.getElem?_range hkl]
    rw [this, hdek k u hk, repOfCheck_eq hchk] at hr
    cases hr
    exact hchk
  have hfacts : ∀ (k : Nat) (u : UContainer) (r : ContainerRep), us[k]? = some u → reps[k]? = some r → ∃ cb, RepFacts c img bin maxC maxI k u r cb := by
    intro k u r hk hr
    obtain ⟨r', cb, hchk, rest⟩ := hper k u hk
    have := hrep k u r hk hr
    rw [hchk] at this
    cases this
    exact ⟨cb, rest⟩
  have hus_of : ∀ (k : Nat) (r : ContainerRep), reps[k]? = some r → ∃ u, us[k]? = some u := by
    intro k r hr
    have hkl : k < us.length := by rw [← hrl]; exact (List.getElem?_eq_some_iff.1 hr).1
    exact ⟨us[k], by simp [hkl]⟩
  refine ⟨reps, ?_, hrl, ?_⟩
  · have hord := assigned_ordered img.chip img.ver _ _ (updateContainers_assigned c img.chip img.ver img.containers 0 _ us hus) ha
    have hpw := OrderedFrom_pairwise _ _ hord
    have hge := OrderedFrom_ge _ _ hord
    apply ahabCheck_of_parts
    · intro h
      have : reps.length = 0 := by rw [h]; rfl
      rw [hrl] at this
      exact hne (List.length_eq_zero_iff.1 this)
    · rw [pC, hrl]; exact hmax
    · intro k r hr
      obtain ⟨u, hk⟩ := hus_of k r hr
      obtain ⟨cb, F⟩ := hfacts k u r hk hr
      have hu : u ∈ us := List.mem_of_getElem? hk
      refine ⟨by rw [pS]; exact F.look, by rw [hdek k u hk]; exact hrep k u r hk hr, ?_⟩
      rw [pS, F.len]
      exact (hcont u hu).2.2.2.1 cb F.exp
    · intro m hm1 hm2
      rw [pS]
      exact hph m (by rw [← hrl]; exact hm1) (by rw [← pC]; exact hm2)
    · rw [List.pairwise_append]
      refine ⟨?_, ?_, ?_⟩
      · rw [List.pairwise_map, List.pairwise_iff_getElem]
        intro i j hi hj hij
        obtain ⟨ui, hki⟩ := hus_of i reps[i] (by simp [hi])
        obtain ⟨uj, hkj⟩ := hus_of j reps[j] (by simp [hj])
        obtain ⟨cbi, Fi⟩ := hfacts i ui reps[i] hki (by simp [hi])
        obtain ⟨cbj, Fj⟩ := hfacts j uj reps[j] hkj (by simp [hj])
        have hle := (hcont ui (List.mem_of_getElem? hki)).2.2.2.1 cbi Fi.exp
        right; right
        show reps[i].base + reps[i].length ≤ reps[j].base
        rw [Fi.base, Fj.base, Fi.len]
        have : (i + 1) * img.ver.containerSize ≤ j * img.ver.containerSize := Nat.mul_le_mul_right _ hij
        rw [Nat.succ_mul] at this
        omega
      · rw [flatMap_images (fun i => (i.offset, i.size)) (repOf img.ver) reps us hrl
          (fun k r u hr hk => (hfacts k u r hk hr).elim (fun _ F => F.images)), List.pairwise_map]
        exact hpw.imp (fun {p q} h => Or.inr (Or.inr h))
      · intro a ha' b hb'
        rw [flatMap_images (fun i => (i.offset, i.size)) (repOf img.ver) reps us hrl
          (fun k r u hr hk => (hfacts k u r hk hr).elim (fun _ F => F.images))] at hb'
        obtain ⟨r, hr, rfl⟩ := List.mem_map.1 ha'
        obtain ⟨p, hp, rfl⟩ := List.mem_map.1 hb'
        obtain ⟨k, hkl, hkr⟩ := List.getElem_of_mem hr
        obtain ⟨u, hk⟩ := hus_of k r (by rw [← hkr]; simp [hkl])
        obtain ⟨cb, F⟩ := hfacts k u r hk (by rw [← hkr]; simp [hkl])
        have hle := (hcont u (List.mem_of_getElem? hk)).2.2.2.1 cb F.exp
        have hkus : k < us.length := (List.getElem?_eq_some_iff.1 hk).1
        have h1 : (k + 1) * img.ver.containerSize ≤ us.length * img.ver.containerSize := Nat.mul_le_mul_right _ hkus
        rw [Nat.succ_mul] at h1
        have h2 := hge p hp
        right; right
        show r.base + r.length ≤ (repOf img.ver p).offset
        rw [F.base, F.len]
        show _ ≤ p.offset
        omega
  · intro k u r hk hr
    obtain ⟨cb, F⟩ := hfacts k u r hk hr
    refine ⟨F.index, F.base, F.flags, F.sw, F.fuse, F.images, by rw [F.base, F.len, F.sl]; exact F.exp, F.signone, fun s hs => ?_⟩
    obtain ⟨a1, a2, a3, a4, a5⟩ := F.sigsome s hs
    refine ⟨a1, ?_, a3, a4, a5⟩
    rw [a2, a1, F.base]; omega

/-- `hstart` of `rom_accepts_file` for container version 1: up to four 0x400 slots end before both start addresses
    (0x2000 / NAND 0x1C00), read from the generated constants -/
theorem containers_before_images_v1 (ch : Chip) (n : Nat) (hn : n ≤ 4) : n * Ver.v1.containerSize ≤ ch.startAddr .v1 := by
  have e1 : Ver.v1.containerSize = 1024 := rfl
  unfold Chip.startAddr
  rw [e1]
  split
  · have : Ver.v1.startAddrNand = 7168 := rfl
    omega
  · have : Ver.v1.startAddr = 8192 := rfl
    omega

/-- ... and for version 2 with the regular start address (0xC000 = three 0x4000 slots).  For the NAND start address (0xBC00)
    a THIRD container longer than 0x3C00 bytes would reach into the first image: not a theorem, hence the hypothesis. -/
theorem containers_before_images_v2 (ch : Chip) (n : Nat) (hn : n ≤ 3) (hnand : ch.isNand = false) :
    n * Ver.v2.containerSize ≤ ch.startAddr .v2 := by
  have e1 : Ver.v2.containerSize = 16384 := rfl
  unfold Chip.startAddr
  rw [hnand, e1]
  have : Ver.v2.startAddr = 49152 := rfl
  simp only [Bool.false_eq_true, if_false]
  omega

/-! ## 7. the verifier's range records -/

/-- a bit-range record (`add_record_bit_range`) is an ERROR exactly for values outside `[0, 2^bits - 1]`.
    This goes through the GENERATED `check_range` (`start <= x <= end` after commit d90f269): with the former body
    (`start > x > end`, never true ... never failing) the statement is false and this theorem does not compile. -/
theorem bit_range_record (r : AhabConsts.RangeRec) (x : Int) (h : r.viaCheckRange = true) :
    recFails r (some x) = true ↔ ¬ (0 ≤ x ∧ x ≤ r.hi) :=
  recFails_bits r x h

/-- `verify_sound` / `verify_complete` for the container's own range records: they are clean exactly when flags,
    sw_version, fuse_version (each in ITS record: "SW version" looks at `sw_version`, 16 bits; "Fuse version" at
    `fuse_version`, 8 bits - the generated table says which attribute is fed in) and the signature block offset fit -/
theorem container_records (v : Ver) (c : VContainer) :
    failed AhabConsts.recsContainer (containerEnv v c) = [] ↔
      (0 ≤ c.flags ∧ c.flags ≤ 4294967295) ∧ (0 ≤ c.swVersion ∧ c.swVersion ≤ 65535) ∧ (0 ≤ c.fuseVersion ∧ c.fuseVersion ≤ 255) ∧
      ((sigBlockOffset v c.images.length : Nat) : Int) ≤ 65535 :=
  container_records_iff v c

/-- ... and an out-of-range sw / fuse version IS reported under that name, whatever the flags word is -/
theorem sw_fuse_version_reported (v : Ver) (c : VContainer) :
    (¬ (0 ≤ c.swVersion ∧ c.swVersion ≤ 65535) → "SW version" ∈ failed AhabConsts.recsContainer (containerEnv v c)) ∧
    (¬ (0 ≤ c.fuseVersion ∧ c.fuseVersion ≤ 255) → "Fuse version" ∈ failed AhabConsts.recsContainer (containerEnv v c)) := by
  refine ⟨fun h => ?_, fun h => ?_⟩
  · exact mem_failed AhabConsts.recsContainer _ ⟨"SW version", "sw_version", 0, 65535, true⟩ (by decide)
      ((recFails_bits _ _ rfl).2 h)
  · exact mem_failed AhabConsts.recsContainer _ ⟨"Fuse version", "fuse_version", 0, 255, true⟩ (by decide)
      ((recFails_bits _ _ rfl).2 h)

theorem iae_records (e : VIae) :
    failed AhabConsts.recsIae (iaeEnv e) = [] ↔
      (0 ≤ e.flags ∧ e.flags ≤ 4294967295) ∧ (0 ≤ e.metaData ∧ e.metaData ≤ 4294967295) ∧
      (0 ≤ e.imageOffset ∧ e.imageOffset ≤ 4294967295) ∧ (0 ≤ e.imageSize ∧ e.imageSize ≤ 4294967295) ∧
      (0 ≤ e.loadAddress ∧ e.loadAddress ≤ 18446744073709551615) ∧ (0 ≤ e.entryPoint ∧ e.entryPoint ≤ 18446744073709551615) :=
  iae_records_iff e

/-- `verify_complete` (container part): "a valid image is never reported as erroneous" for the model's verifier - every
    record (header tag / version / length, the range records, the four signature-block offset records with their
    minimum-offset and alignment conditions, the blob records, the image size and range records of every entry) is clean
    on a container as `update_fields` leaves it, provided its values fit the binary format.  Legal extreme values
    (sw 65535, fuse 255, flags 2^32-1, addresses 2^64-1, key identifier 2^32-1) are inside the hypotheses. -/
theorem verify_complete (ch : Chip) (v : Ver) (u : UContainer)
    (hflags : u.cont.flags ≤ 4294967295) (hsw : u.cont.swVersion ≤ 65535) (hfuse : u.cont.fuseVersion ≤ 255)
    (hn : u.placed ≠ [])
    (hL : headerLength v u.placed.length (sbLayout v u.cont.sb).length ≤ 65535)
    (hblob : ∀ b, u.cont.sb.blob = some b → BlobWF b u.cont.dek ∧ b.length ≠ 0)
    (hp : ∀ p ∈ u.placed, PlacedWF ch v u.base p)
    (hauth : u.cont.srkSet = 0 → u.cont.sb.srk.length = 0 ∧ u.cont.sb.sigSize v = 0) :
    verifyContainer ch v (toVContainer v u) = [] := by
  have hA : authenticityRecord (toVContainer v u) = [] := by
    unfold authenticityRecord toVContainer toVSigBlock
    simp only
    split
    · rename_i h0
      have hs : u.cont.srkSet = 0 := by
        have hb : (getFI (u.cont.flags : Int) AhabConsts.cFlagsSrkSetOffset AhabConsts.cFlagsSrkSetSize) = 0 := by simpa using h0
        unfold getFI at hb
        unfold Container.srkSet
        rw [getF_eq]
        have e0 : AhabConsts.cFlagsSrkSetOffset = 0 := rfl
        have e2 : AhabConsts.cFlagsSrkSetSize = 2 := rfl
        rw [e0, e2] at hb ⊢
        simp at hb ⊢
        omega
      have := hauth hs
      simp [this.1, this.2]
    · rfl
  unfold verifyContainer
  rw [hA, List.append_nil]
  unfold toVContainer
  simp only
  have hver : v.containerVersion ≤ 255 := by cases v <;> decide
  rw [verifyHeader_nil [AhabConsts.containerTag] [v.containerVersion] _ AhabConsts.containerTag v.containerVersion
      (List.mem_singleton.2 rfl) (List.mem_singleton.2 rfl) rfl rfl rfl (by decide) hver ⟨by simp, by simp; omega⟩]
  have hsbo : sigBlockOffset v u.placed.length ≤ 65535 := by
    have h1 := (hdrLayout_widths v).2
    have h2 := (iaeLayout_facts v).2.2
    unfold headerLength at hL
    rw [h1, h2] at hL
    have := al8_spec (16 + u.placed.length * 128)
    unfold sigBlockOffset
    rw [h1, h2]
    have h16 : 16 ≤ (sbLayout v u.cont.sb).length := (sigblock_layout v u.cont.sb).2.2.2.2.2.2.2.2.1
    omega
  have hsblen : (sbLayout v u.cont.sb).length ≤ 65535 := by unfold headerLength at hL; omega
  rw [(container_records_iff v _).2 ⟨⟨by simp, by simp; omega⟩, ⟨by simp, by simp; omega⟩, ⟨by simp, by simp; omega⟩,
      by simp only [List.length_map]; omega⟩]
  rw [verifySigBlock_nil v u.cont.sb u.cont.dek hsblen hblob]
  have hne : (u.placed.map toVIae).isEmpty = false := by
    cases hpl : u.placed with
    | nil => exact absurd hpl hn
    | cons a l => rfl
  simp only [hne, Bool.false_eq_true, if_false, List.nil_append, List.append_nil, List.flatMap_map]
  rw [List.flatMap_eq_nil_iff]
  intro p hpm
  exact verifyIae_nil ch v u.base p (hp p hpm)

/-- the SRK set is part of the signed flag word: a container that claims SRK set 'none' but carries an SRK table or a
    signature is reported (commit 457be4d; before it, flipping bit 1 of the flags byte of an OEM-signed container switched the
    authenticity check off and the image verified clean) - so the "unsigned" hypothesis of `verify_complete` is necessary -/
theorem srk_set_none_reported (ch : Chip) (v : Ver) (c : VContainer) (sb : VSigBlock) (hsb : c.sb = some sb)
    (h0 : getFI c.flags AhabConsts.cFlagsSrkSetOffset AhabConsts.cFlagsSrkSetSize = 0)
    (hp : sb.srk.present = true ∨ sb.sig.present = true) : "Signature block" ∈ verifyContainer ch v c := by
  unfold verifyContainer authenticityRecord
  rw [hsb]
  simp only [h0, beq_self_eq_true, if_true]
  have : (sb.srk.present || sb.sig.present) = true := by rcases hp with h | h <;> simp [h]
  simp [this]

/-- the container flag word of a version-2 configuration: SRK set, used SRK, revoke mask, check-all-signatures (bit 15, commit
    3d34c9d: it used to be OR-ed into the glitch-detector field) and glitch-detector behaviour are disjoint fields, every getter
    position returns what was put in -/
theorem container_flags_fields (s u r g ca : Nat) (hs : s < 4) (hu : u < 4) (hr : r < 16) (hca : ca < 2) (hg : g < 4) :
    containerFlagsV2 s u r g ca < 2 ^ 32 ∧
    getF (containerFlagsV2 s u r g ca) AhabConsts.cFlagsSrkSetOffset AhabConsts.cFlagsSrkSetSize = s ∧
    getF (containerFlagsV2 s u r g ca) AhabConsts.cFlagsUsedSrkIdOffset AhabConsts.cFlagsUsedSrkIdSize = u ∧
    getF (containerFlagsV2 s u r g ca) AhabConsts.cFlagsSrkRevokeMaskOffset AhabConsts.cFlagsSrkRevokeMaskSize = r ∧
    getF (containerFlagsV2 s u r g ca) AhabConsts.cFlagsCheckAllSignaturesOffset AhabConsts.cFlagsCheckAllSignaturesSize = ca ∧
    getF (containerFlagsV2 s u r g ca) AhabConsts.cFlagsGdetEnableOffset AhabConsts.cFlagsGdetEnableSize = g ∧
    containerFlags s u r g = containerFlagsV2 s u r g 0 := by
  have hfit : bitsFit [2, 2, 2, 2, 4, 3, 1, 4, 2] [s, 0, u, 0, r, 0, ca, 0, g] :=
    ⟨hs, by decide, hu, by decide, hr, by decide, hca, by decide, hg, trivial⟩
  rw [containerFlagsV2_val s u r g ca hs hu hr hca, show s + u * 2 ^ 4 + r * 2 ^ 8 + ca * 2 ^ 15 + g * 2 ^ 20 =
    packBits [2, 2, 2, 2, 4, 3, 1, 4, 2] [s, 0, u, 0, r, 0, ca, 0, g] from by simp only [packBits]; omega]
  refine ⟨Nat.lt_of_lt_of_le (packBits_lt _ _ 22 hfit rfl) (by decide), getF_packBits _ _ hfit 0 (by decide),
    getF_packBits _ _ hfit 2 (by decide), getF_packBits _ _ hfit 4 (by decide), getF_packBits _ _ hfit 6 (by decide),
    getF_packBits _ _ hfit 8 (by decide), ?_⟩
  unfold containerFlags containerFlagsV2
  simp

/-- the structural half of `PlacedWF` is what `update_fields` establishes (the other half are the range bounds) -/
theorem update_establishes (c : CryptoOps) (hc : CryptoLaws c) (img : Image) (us : List UContainer) (h : img.update c = .ok us)
    (u : UContainer) (hu : u ∈ us) (p : Placed) (hp : p ∈ u.placed) :
    p.iae = mkIae u.base p.offset p.entry p.ready ∧
    p.ready.size = validSize img.chip img.ver p.entry.flags p.entry.sizeAlign p.ready.image ∧
    p.ready.hash.length = 64 ∧ p.ready.iv.length = 32 := by
  have hent := updateContainers_entries c img.chip img.ver img.containers 0 _ us h u hu p hp
  obtain ⟨a, _, _, hhl, hivl, hsize, _⟩ := readyEntry_spec c hc img.chip img.ver _ p.entry p.ready hent.1
  exact ⟨hent.2, hsize, hhl, hivl⟩

/-! ## 8. whole-file round trip (parser model of Model/AhabParse.lean) -/

/-- where every part of an exported signature block lies: header at 0, SRK table (array), signature(s), certificate and blob
    at the offsets of `update_fields`, each one intact -/
theorem sigblock_parts (v : Ver) (sb : SigBlock) (s : Bytes) (hb : BlobLenOK sb)
    (h : encodeSigBlock v sb (sbLayout v sb) = .ok s) :
    ∃ hdr sg sg2 bl, sbHeader v (sbLayout v sb) sb.keyId = .ok hdr ∧ encodeSignature sb.signature = .ok sg ∧
      encodeSignature sb.signature2 = .ok sg2 ∧ encodeBlobOpt sb = .ok bl ∧
      s.length = (sbLayout v sb).length ∧
      Spec.AhabRom.slice s 0 16 = hdr ∧
      (sb.srk ≠ [] → Spec.AhabRom.slice s (sbLayout v sb).srkOff sb.srk.length = sb.srk) ∧
      (sg ≠ [] → Spec.AhabRom.slice s (sbLayout v sb).sigOff sg.length = sg) ∧
      (v = .v2 → sg ≠ [] → sg2 ≠ [] → Spec.AhabRom.slice s ((sbLayout v sb).sigOff + sg.length) sg2.length = sg2) ∧
      (sb.cert ≠ [] → Spec.AhabRom.slice s (sbLayout v sb).certOff sb.cert.length = sb.cert) ∧
      (∀ b, sb.blob = some b → Spec.AhabRom.slice s (sbLayout v sb).blobOff bl.length = bl) := by
  open SpsdkVerif.Spec.AhabRom in
  obtain ⟨hdr, sg, sg2, bl, hh, hsg, hsg2, hbl, rfl, hlaid⟩ := sigblock_anatomy v sb s hb h
  obtain ⟨hl, _, hm, _⟩ := putAll_spec _ (zerosB _) 0 (by rw [zerosB_length]; exact hlaid)
  rw [zerosB_length] at hl
  refine ⟨hdr, sg, sg2, bl, hh, hsg, hsg2, hbl, hl, ?_, fun _ => hm _ (.tail _ (.head _)),
    fun _ => hm _ (.tail _ (.tail _ (.head _))), ?_, fun _ => hm _ (.tail _ (.tail _ (.tail _ (.tail _ (.head _))))),
    fun _ _ => hm _ (.tail _ (.tail _ (.tail _ (.tail _ (.tail _ (.head _))))))⟩
  · have := hm _ (.head _)
    rwa [(sbHeader_ok hh).2.2] at this
  · intro hv hne _
    subst hv
    have he : sb.signature.isEmpty = false := by
      cases hx : sb.signature
      · exact absurd ((encodeSignature_nil_iff hsg).2 hx) hne
      · rfl
    rw [show sig2Bytes .v2 sb sg2 = sg2 from by simp [sig2Bytes, he]] at hm ⊢
    exact hm _ (.tail _ (.tail _ (.tail _ (.head _))))

/-- signature block: parse(export) gives back the offsets, the decoded SRK table (v1) / raw SRK table array (v2), the signature
    data, the raw certificate and the blob -/
theorem sigblock_roundtrip_full (v : Ver) (sb : SigBlock) (s rest : Bytes) (hwf : SbParseWF v sb)
    (h : encodeSigBlock v sb (sbLayout v sb) = .ok s) : parseSigBlock v (s ++ rest) = some (expectedSb v sb) := by
  open SpsdkVerif.Spec.AhabRom in
  obtain ⟨hdr, sg, sg2, bl, hh, hsg, hsg2, hbl, hlen, c0, cS, cG, _, cC, cB⟩ := sigblock_parts v sb s hwf.blobLen h
  obtain ⟨hf, rfl, hhl⟩ := sbHeader_ok hh
  have hsgl := encodeSignature_length hsg
  have hsz := sigSize_eq (v := v) hsg hsg2
  have hu := unpack_pack _ _ (s.drop 16 ++ rest) hf
  have hs0 := drop_of_slice s _ 0 (by rw [hhl]; exact c0)
  rw [List.drop_zero, Nat.zero_add, hhl] at hs0
  rw [← List.append_assoc, ← hs0] at hu
  unfold parseSigBlock expectedSb
  rw [(sbLayout_widths v).1, (sbLayout_widths v).2, if_neg (by rw [List.length_append, hlen]; have := (sigblock_layout v sb).2.2.2.2.2.2.2.2.1; omega), hu]
  simp only
  rw [if_neg (by simp only [ne_eq, not_true_eq_false, false_or, List.length_append, hlen]; omega)]
  -- SRK
  have eSrk : (if (sbLayout v sb).srkOff = 0 then some PSrk.none
      else parseSrkPart v ((s ++ rest).drop (sbLayout v sb).srkOff)) = some (psrkOf v sb) := by
    unfold psrkOf parseSrkPart
    by_cases hs : sb.srk = []
    · rw [if_pos ((sbLayout_absent v sb).1 (by rw [hs]; rfl)), if_pos hs]
    · obtain ⟨q1, q2⟩ := (sbLayout_inside v sb).1 (fun h => hs (List.eq_nil_of_length_eq_zero h))
      rw [if_neg (by omega), if_neg hs, drop_append_of_slice s rest sb.srk _ (cS hs) (by omega)]
      rcases hwf.srk with h0 | h0
      · exact absurd h0 hs
      · cases v
        · obtain ⟨t, ht, het⟩ := h0
          have := encodeSrkTable_roundtrip t sb.srk [] ht het
          rw [List.append_nil] at this
          simp only [encodeSrkTable_roundtrip t sb.srk _ ht het, this]; rfl
        · simp only [rawBlock_roundtrip _ sb.srk _ h0]; rfl
  -- certificate
  have eCert : (if (sbLayout v sb).certOff = 0 then some none
      else (parseRawBlock AhabConsts.certificateTag ((s ++ rest).drop (sbLayout v sb).certOff)).map some) =
      some (if sb.cert = [] then none else some sb.cert) := by
    by_cases hs : sb.cert = []
    · rw [if_pos ((sbLayout_absent v sb).2.2.1 (by rw [hs]; rfl)), if_pos hs]
    · obtain ⟨q1, q2⟩ := (sbLayout_inside v sb).2.2.1 (fun h => hs (List.eq_nil_of_length_eq_zero h))
      rw [if_neg (by omega), if_neg hs, drop_append_of_slice s rest sb.cert _ (cC hs) (by omega)]
      rcases hwf.cert with h0 | h0
      · exact absurd h0 hs
      · rw [rawBlock_roundtrip _ sb.cert _ h0]; rfl
  -- signature
  have eSig : (if (sbLayout v sb).sigOff = 0 then some none else (parseSignature ((s ++ rest).drop (sbLayout v sb).sigOff)).map some) =
      some (if sb.signature = [] then none else some sb.signature) := by
    by_cases hs : sb.signature = []
    · rw [if_pos ((sbLayout_absent v sb).2.1 (by
        rw [hsz, (encodeSignature_nil_iff hsg).2 hs, sig2Bytes_of_nil sg2 hs]; rfl)), if_pos hs]
    · have hsgne : sg ≠ [] := fun h => hs ((encodeSignature_nil_iff hsg).1 h)
      have hpos : 0 < sg.length := List.length_pos_iff.2 hsgne
      obtain ⟨q1, q2⟩ := (sbLayout_inside v sb).2.1 (by omega)
      rw [if_neg (by omega), if_neg hs, drop_append_of_slice s rest sg _ (cG hsgne) (by omega),
        signature_roundtrip sb.signature sg _ hs hsg]
      rfl
  -- blob
  have eBlob : (if (sbLayout v sb).blobOff = 0 then some none
      else (parseBlob ((s ++ rest).drop (sbLayout v sb).blobOff) sb.keyId).map some) = some sb.blob := by
    have hbll := encodeBlobOpt_length hwf.blobLen hbl
    cases hbs : sb.blob with
    | none => rw [if_pos ((sbLayout_absent v sb).2.2.2 (by simp [SigBlock.blobLen, hbs]))]
    | some b =>
      have hbL := hwf.blobLen b hbs
      have hs4 : sb.blobLen = b.length := by simp [SigBlock.blobLen, hbs]
      obtain ⟨q1, q2⟩ := (sbLayout_inside v sb).2.2.2 (by omega)
      have hble : encodeBlob b = .ok bl := by unfold encodeBlobOpt at hbl; rw [hbs] at hbl; exact hbl
      rw [if_neg (by omega), drop_append_of_slice s rest bl _ (cB b hbs) (by omega),
        blob_roundtrip b bl _ sb.keyId (hwf.blob b hbs) hble, show sb.keyId = b.keyIdentifier from by simp [SigBlock.keyId, hbs]]
      rfl
  rw [eSrk, eCert, eSig, eBlob]

/-- whole container: header, image array and signature block parse back (the image bytes are whatever the surrounding file
    holds at the entries' offsets - `image_roundtrip` says what that is) -/
theorem container_roundtrip_full (v : Ver) (c : Container) (iaes : List Iae) (cb rest : Bytes) (hwf : SbParseWF v c.sb)
    (hi : ∀ e ∈ iaes, e.hash.length = 64 ∧ e.iv.length = 32) (h : exportContainerWith v c iaes = .ok cb) :
    parseContainer v (cb ++ rest) =
      some ⟨expectedHeader v c iaes.length, iaes, iaes.map (imageBytes (cb ++ rest)), expectedSb v c.sb⟩ := by
  open SpsdkVerif.Spec.AhabRom in
  have hlen := exportContainer_length hwf.blobLen h
  obtain ⟨hd, ab, s, e1, e2, e3, rfl, hX⟩ := exportContainer_ok h
  have hH := encodeHeader_roundtrip v _ c.flags c.swVersion c.fuseVersion iaes.length (sigBlockOffset v iaes.length) hd (ab ++ (s ++ rest)) e1
    (by rw [← List.append_assoc, ← List.append_assoc, List.length_append, hlen]; omega)
  have hI := encodeIaes_roundtrip v iaes ab hd (s ++ rest) hi e2
  have hD : (hd ++ (ab ++ (s ++ rest))).drop (sigBlockOffset v iaes.length) = s ++ rest := by
    rw [← List.append_assoc, List.drop_left' hX]
  rw [(encodeHeader_ok e1).2.2, ← (hdrLayout_widths v).2, List.append_assoc] at hI
  unfold parseContainer
  rw [List.append_assoc, List.append_assoc, hH]
  simp only
  rw [hI, hD, sigblock_roundtrip_full v c.sb s rest hwf e3]
  rfl

/-- `image_roundtrip`: `AHABImage.parse(AHABImage.export())`, in the models, returns slot by slot exactly what was exported -
    header fields, every image-array entry, the bytes of every image (zero-extended to its size), the signature block with its
    offsets, SRK table, signature, certificate and blob - for every number of containers and images, every crypto instance
    with `CryptoLaws`.  `hphantom`: the unused container slots do not happen to hold bytes that pass the container head check
    (tag 0x87, version, length); they are zero filled unless an explicit image offset or an over-long last container puts data
    there.  `SbParseWF`: blob header describes its bytes, no second (PQC) signature, certificate / v2 SRK array delimited by
    their own length field. -/
theorem image_roundtrip (c : CryptoOps) (hc : CryptoLaws c) (img : Image) (bin : Bytes) (maxC : Nat)
    (hexp : img.export c = .ok bin) (hA : 0 < img.chip.imageAlignment)
    (us : List UContainer) (hus : img.update c = .ok us) (hne : us ≠ [])
    (hwf : ∀ u ∈ us, SbParseWF img.ver u.cont.sb) (hmax : us.length ≤ maxC)
    (hphantom : ∀ m, us.length ≤ m → m < maxC → decodeHeader img.ver (bin.drop (m * img.ver.containerSize)) = none) :
    parseFile img.ver maxC bin = some (us.map (expectedP img.ver)) := by
  open SpsdkVerif.Spec.AhabRom in
  have hslots := parseSlots_spec img.ver bin us maxC 0 hmax
    (fun j u hj => by
      have hu : u ∈ us := List.mem_of_getElem? hj
      obtain ⟨cb, hcbe, hbase, _, hsl⟩ := container_in_file c img bin hexp hA us hus j u hj (hwf u hu).blobLen
      have hdrop := drop_of_slice bin cb (j * img.ver.containerSize) hsl
      have hiwf : ∀ e ∈ u.placed.map (·.iae), IaeWF e := by
        intro e he
        obtain ⟨p, hp, rfl⟩ := List.mem_map.1 he
        have hent := updateContainers_entries c img.chip img.ver img.containers 0 _ us hus u hu p hp
        obtain ⟨a, _, _, hhl, hivl, _, _⟩ := readyEntry_spec c hc img.chip img.ver _ p.entry p.ready hent.1
        rw [hent.2]; exact ⟨hhl, hivl⟩
      rw [Nat.zero_add, hdrop, container_roundtrip_full img.ver u.cont _ cb _ (hwf u hu) hiwf hcbe]
      unfold expectedP
      simp only [List.length_map, List.map_map]
      congr 2
      apply List.map_congr_left
      intro p hp
      have hent := updateContainers_entries c img.chip img.ver img.containers 0 _ us hus u hu p hp
      obtain ⟨hdata, _, hb⟩ := image_in_file c hc img bin hexp hA us hus u hu p hp
      simp only [Function.comp, imageBytes]
      rw [← hdrop, List.drop_drop, hent.2]
      simp only [mkIae]
      rw [← hbase, show u.base + (p.offset - u.base) = p.offset from by omega]
      exact hdata)
    (fun m h1 h2 => hphantom m (by omega) (by omega))
  unfold parseFile
  rw [hslots]
  cases us with
  | nil => exact absurd rfl hne
  | cons a l => rfl

/-- the version-2 SRK table array of the model (header, table of four records holding the hashes of their SRK data blocks, SRK
    data of the used record) is delimited by its own header length: the `RawBlockOK` hypothesis of `image_roundtrip` holds -/
theorem srk_array_self_delimited (c : CryptoOps) (used : Nat) (srks : List SrkV2) (b : Bytes)
    (h : encodeSrkArray c used srks = .ok b) : RawBlockOK AhabConsts.srkTableArrayTag b := by
  unfold encodeSrkArray at h
  split at h
  · cases h
  split at h
  rotate_left
  · cases h
  · cases h
  next t d _ _ =>
  split at h <;> cases h
  next hp =>
  obtain ⟨hf, rfl⟩ := packChecked_ok hp
  have hsz : AhabConsts.srkTableArrayLayout.size = 8 := rfl
  rw [show AhabConsts.srkTableArrayLayout.intWidths = [1, 2, 1, 1, 2, 1] from rfl] at hf ⊢
  have hlen : (packInts [1, 2, 1, 1, 2, 1] [AhabConsts.srkTableArrayVersion, AhabConsts.srkTableArrayLayout.size + t.length + d.length,
      AhabConsts.srkTableArrayTag, 1, AhabConsts.reserved, AhabConsts.reserved] ++ t ++ d).length =
      AhabConsts.srkTableArrayLayout.size + t.length + d.length := by
    simp only [List.length_append, hsz]; rfl
  refine ⟨by rw [hlen, hsz]; omega, AhabConsts.srkTableArrayVersion, ?_⟩
  -- the first three fields of the six-field header are a header `version, length, tag` of their own
  have hf1 : fits [1, 2, 1] [AhabConsts.srkTableArrayVersion, AhabConsts.srkTableArrayLayout.size + t.length + d.length,
      AhabConsts.srkTableArrayTag] = true := by
    simp only [fits, Bool.and_eq_true, decide_eq_true_eq] at hf ⊢
    exact ⟨hf.1, hf.2.1, hf.2.2.1, trivial⟩
  rw [hlen, show packInts [1, 2, 1, 1, 2, 1] [AhabConsts.srkTableArrayVersion, AhabConsts.srkTableArrayLayout.size + t.length + d.length,
      AhabConsts.srkTableArrayTag, 1, AhabConsts.reserved, AhabConsts.reserved] =
    packInts [1, 2, 1] [AhabConsts.srkTableArrayVersion, AhabConsts.srkTableArrayLayout.size + t.length + d.length, AhabConsts.srkTableArrayTag]
      ++ packInts [1, 2, 1] [1, AhabConsts.reserved, AhabConsts.reserved] from by simp [packInts, List.append_assoc],
    List.append_assoc, List.append_assoc]
  exact unpack_pack [1, 2, 1] _ _ hf1

/-! ## 9. tampering is detected unless a primitive is broken (reductions, DESIGN §4) -/

/-- `verify_sound` for hash-covered bytes: if a file differs from another one inside the image of an entry while the entry's own
    128 bytes are the same, and the independent entry check accepts both, then the two image contents are a COLLISION of the
    declared hash.  (With `rom_accepts`: the exported file is accepted, so a corrupted image byte that is still accepted breaks
    SHA-2.) -/
theorem tamper_image_detected (c : CryptoOps) (hc : CryptoLaws c) (p : Spec.AhabRom.Params) (bin bin' : Bytes) (base pos : Nat)
    (dek dek' : Option Bytes) (r r' : Spec.AhabRom.ImageRep)
    (hent : Spec.AhabRom.slice bin pos Spec.AhabRom.iaeSize = Spec.AhabRom.slice bin' pos Spec.AhabRom.iaeSize)
    (hpl : pos + Spec.AhabRom.iaeSize ≤ bin.length)
    (h : Spec.AhabRom.checkEntry c p bin base pos dek = .ok r) (h' : Spec.AhabRom.checkEntry c p bin' base pos dek' = .ok r')
    (hdiff : Spec.AhabRom.slice bin r.offset r.size ≠ Spec.AhabRom.slice bin' r.offset r.size) : Break c := by
  open SpsdkVerif.Spec.AhabRom in
  obtain ⟨o1, s1, f1, _, a, ha, hh⟩ := checkEntry_ok c p bin base pos dek r h
  obtain ⟨o2, s2, f2, _, a', ha', hh'⟩ := checkEntry_ok c p bin' base pos dek' r' h'
  have hL : (slice bin pos iaeSize).length = 128 := slice_length _ _ _ hpl
  have hX : slice bin pos (slice bin pos iaeSize).length = slice bin pos iaeSize := by rw [hL]; rfl
  have hX' : slice bin' pos (slice bin pos iaeSize).length = slice bin pos iaeSize := by rw [hL, hent]; rfl
  have rdeq : ∀ k n, k + n ≤ 128 → rd bin (pos + k) n = rd bin' (pos + k) n := fun k n hk => by
    rw [rd_of_eq bin _ pos k n hX (by omega), rd_of_eq bin' _ pos k n hX' (by omega)]
  have sleq : ∀ k n, k + n ≤ 128 → slice bin (pos + k) n = slice bin' (pos + k) n := fun k n hk => by
    rw [slice_of_eq bin _ pos k n hX (by omega), slice_of_eq bin' _ pos k n hX' (by omega)]
  have eo : r'.offset = r.offset := by rw [o1, o2, ← Nat.add_zero pos, rdeq 0 4 (by omega)]
  have es : r'.size = r.size := by rw [s1, s2, rdeq 4 4 (by omega)]
  have ef : r'.flags = r.flags := by rw [f1, f2, rdeq 0x18 4 (by omega)]
  rw [ef, ha] at ha'; cases ha'
  rw [eo, es, ← sleq Spec.AhabRom.hashFieldOff Spec.AhabRom.hashFieldLen (by decide), hh] at hh'
  exact Break.collision a _ _ hdiff (padHash_inj _ _ (by rw [hc.hash_len, hc.hash_len]) hh')

/-- `verify_sound` for signed bytes, for the check that authenticates the FILE (the independent check; SPSDK's own verify()
    authenticates a re-serialisation, see the excluded classes below): a file that differs inside the signed range
    `bin[base : base + signedLen]` but carries the honest signature and still satisfies the signature obligation is a
    signature FORGERY -/
theorem tamper_signed_detected (c : CryptoOps) (alg : Crypto.SigAlg) (sk : Crypto.PrivKey) (rnd : Crypto.Rand) (bin bin' : Bytes)
    (base : Nat) (s : Spec.AhabRom.SigRep)
    (hsig : Spec.AhabRom.slice bin' s.sigOff s.sigLen = c.sign alg sk (Spec.AhabRom.slice bin base s.signedLen) rnd)
    (hdiff : Spec.AhabRom.slice bin base s.signedLen ≠ Spec.AhabRom.slice bin' base s.signedLen)
    (hacc : Spec.AhabRom.sigObligation c alg (c.pubOf sk) bin' base s = true) : Break c := by
  open SpsdkVerif.Spec.AhabRom in
  unfold sigObligation at hacc
  rw [hsig] at hacc
  exact Break.sigForgery alg sk _ _ rnd hdiff hacc

/-- excluded class 1 (open finding C06-verify-reserializes), stated: the parser does not look at the reserved word of the
    container header (nor does any later stage), so two files that differ only there parse to the same object - a verifier that
    authenticates a re-export of that object cannot tell them apart.  The full `verify_sound` is therefore FALSE for SPSDK's
    verify() on exactly the bytes the parser drops. -/
theorem parser_ignores_reserved (v : Ver) (length flags sw fuse n sbo r1 r2 : Nat) (rest : Bytes) (h1 : r1 < 65536) (h2 : r2 < 65536)
    (hf : fits (v.hdrLayout).intWidths [v.containerVersion, length, AhabConsts.containerTag, flags, sw, fuse, n, sbo, 0] = true) :
    decodeHeader v (packInts (v.hdrLayout).intWidths [v.containerVersion, length, AhabConsts.containerTag, flags, sw, fuse, n, sbo, r1] ++ rest) =
    decodeHeader v (packInts (v.hdrLayout).intWidths [v.containerVersion, length, AhabConsts.containerTag, flags, sw, fuse, n, sbo, r2] ++ rest) := by
  have w := (hdrLayout_widths v).1
  rw [w] at hf ⊢
  have f1 : fits [1, 2, 1, 4, 2, 1, 1, 2, 2] [v.containerVersion, length, AhabConsts.containerTag, flags, sw, fuse, n, sbo, r1] = true := by
    simp only [fits, Bool.and_eq_true, decide_eq_true_eq] at hf ⊢
    refine ⟨hf.1, hf.2.1, hf.2.2.1, hf.2.2.2.1, hf.2.2.2.2.1, hf.2.2.2.2.2.1, hf.2.2.2.2.2.2.1, hf.2.2.2.2.2.2.2.1, by omega, trivial⟩
  have f2 : fits [1, 2, 1, 4, 2, 1, 1, 2, 2] [v.containerVersion, length, AhabConsts.containerTag, flags, sw, fuse, n, sbo, r2] = true := by
    simp only [fits, Bool.and_eq_true, decide_eq_true_eq] at hf ⊢
    refine ⟨hf.1, hf.2.1, hf.2.2.1, hf.2.2.2.1, hf.2.2.2.2.1, hf.2.2.2.2.2.1, hf.2.2.2.2.2.2.1, hf.2.2.2.2.2.2.2.1, by omega, trivial⟩
  unfold decodeHeader
  rw [w, unpack_pack _ _ rest f1, unpack_pack _ _ rest f2]
  simp only [List.length_append, packInts_length _ _ f1, packInts_length _ _ f2]

/-! ## 10. the certificate (chain of trust SRK -> certificate -> container) -/

/-- the hand split of the certificate header used by the model (integers ‖ 12-byte permission data ‖ integers ‖ 16-byte UUID)
    IS the struct format extracted from `AhabCertificate.format()`, with the pack arguments of `get_signature_data` in the
    order the model writes them; tag / version as in the source -/
theorem cert_layout_agrees :
    AhabConsts.certificateLayout.fmt = "<BHBHBB12sBBH16s" ∧
    AhabConsts.certificateLayout.intWidths = certIntsA ++ certIntsB ∧
    AhabConsts.certificateLayout.strFields = [(6, certPermDataLen), (10, certUuidLen)] ∧
    AhabConsts.certificateLayout.size = 40 ∧
    AhabConsts.certificateLayout.packArgs = ["version", "length", "tag", "signature_offset", "~_permissions&255", "_permissions",
      "extend_block(permission_data,PERMISSION_DATA_SIZE,padding=RESERVED)", "fuse_version", "RESERVED", "RESERVED",
      "extend_block(_uuidorb'',UUID_SIZE,padding=RESERVED)"] ∧
    AhabConsts.certificateTag = 0xAF ∧ AhabConsts.certificateVersion = 2 ∧
    AhabConsts.certPermissionDataSize = certPermDataLen ∧ AhabConsts.certUuidSize = certUuidLen ∧
    -- the verifier's range records of the certificate feed the attribute they name, 8 bits each
    AhabConsts.recsCertificate = [⟨"Permissions", "_permissions", 0, 255, true⟩, ⟨"Fuse version", "fuse_version", 0, 255, true⟩] := by decide +kernel

/-- WHAT the certificate signature covers: an exported certificate is `signed part ‖ signature container`; the signed part
    (`get_signature_data`) is exactly the first `signature offset` bytes - header, public key record, key data - and the header
    itself states that offset (bytes 4..5), the total length (bytes 1..2), the permissions (byte 7) and their complement -/
theorem cert_signed_range (c : CryptoOps) (ct : Cert) (b : Bytes) (h : encodeCert c ct = .ok b) :
    ∃ sd g, encodeCertSigned c ct = .ok sd ∧ encodeSignature ct.signature = .ok g ∧ b = sd ++ g ∧ b.take sd.length = sd ∧
      Spec.AhabRom.rd b 4 2 = sd.length ∧ Spec.AhabRom.rd b 1 2 = b.length ∧
      Spec.AhabRom.rd b 0 1 = AhabConsts.certificateVersion ∧ Spec.AhabRom.rd b 3 1 = AhabConsts.certificateTag ∧
      Spec.AhabRom.rd b 7 1 = ct.perms ∧ Spec.AhabRom.rd b 6 1 = 255 - ct.perms % 256 := by
  open SpsdkVerif.Spec.AhabRom in
  obtain ⟨rb, db, hd, g, hk, hh, hg, hs, rfl, hl, hbl⟩ := encodeCert_spec c ct b h
  obtain ⟨_, _, fA, _, hhd, _⟩ := certHeader_ok hh
  refine ⟨hd ++ rb ++ db, g, hs, hg, rfl, List.take_left' rfl, ?_⟩
  rw [hl, hbl]
  subst hhd
  have hW : ∀ X : Bytes, packInts certIntsA [AhabConsts.certificateVersion, certSigOffset rb db + signatureLen ct.signature,
      AhabConsts.certificateTag, certSigOffset rb db, 255 - ct.perms % 256, ct.perms] ++ extendTo 12 ct.permData ++
      packInts certIntsB [ct.fuse, AhabConsts.reserved, AhabConsts.reserved] ++ extendTo 16 ct.uuid ++ rb ++ db ++ g =
      packInts certIntsA [AhabConsts.certificateVersion, certSigOffset rb db + signatureLen ct.signature,
      AhabConsts.certificateTag, certSigOffset rb db, 255 - ct.perms % 256, ct.perms] ++ (extendTo 12 ct.permData ++
      (packInts certIntsB [ct.fuse, AhabConsts.reserved, AhabConsts.reserved] ++ (extendTo 16 ct.uuid ++ (rb ++ (db ++ g))))) := by
    intro _; simp only [List.append_assoc]
  rw [hW []]
  have r := fun i hi => rd_packInts certIntsA _ (extendTo 12 ct.permData ++
      (packInts certIntsB [ct.fuse, AhabConsts.reserved, AhabConsts.reserved] ++ (extendTo 16 ct.uuid ++ (rb ++ (db ++ g))))) fA i hi
  have r0 := r 0 (by decide); have r1 := r 1 (by decide); have r2 := r 2 (by decide); have r3 := r 3 (by decide)
  have r4 := r 4 (by decide); have r5 := r 5 (by decide)
  simp only [certIntsA, List.take_zero, List.take_succ_cons, intsLen, List.foldr_cons, List.foldr_nil, List.getD_cons_zero,
    List.getD_cons_succ, Nat.add_zero, Nat.reduceAdd] at r0 r1 r2 r3 r4 r5
  exact ⟨r3, r1, r0, r2, r5, r4⟩

/-- ... and it does not depend on the signature bytes (the signer signs a well defined message) -/
theorem cert_signed_independent (c : CryptoOps) (ct : Cert) (sig' : Bytes) (hl : sig'.length = ct.signature.length) :
    encodeCertSigned c { ct with signature := sig' } = encodeCertSigned c ct := by
  unfold encodeCertSigned certKeyBytes certHeader
  simp only [signatureLen_congr hl]

/-- `parse (export cert) = cert` for every certificate with one key and one signature (every permission byte, permission data
    up to 12 and UUID up to 16 bytes - returned zero-extended; `AhabCertificate.__eq__` compares them padded since a117167 -,
    every key whose algorithm tags are in the version-2 enumerations, any trailing bytes) -/
theorem cert_roundtrip (c : CryptoOps) (hc : CryptoLaws c) (ct : Cert) (b rest : Bytes) (hwf : CertWF ct)
    (h : encodeCert c ct = .ok b) :
    ∃ rec so, srkRecordOfV2 c ct.srkId ct.key = .ok rec ∧ b.length = so + signatureLen ct.signature ∧
      so = 40 + 76 + (8 + ct.key.keyData.length) ∧
      parseCert (b ++ rest) = some (expectedCert c ct rec b.length so) := by
  open SpsdkVerif.Spec.AhabRom in
  obtain ⟨rb, db, hd, g, hk, hh, hg, hs, rfl, hl, hbl⟩ := encodeCert_spec c ct b h
  obtain ⟨rec, hrec, hrb, hdb⟩ := certKeyBytes_ok hk
  obtain ⟨ra, rh, _, _, rlen, rpl⟩ := srkRecordOfV2_ok hc hrec
  obtain ⟨plen, puu, fA, fB, hhd, h40⟩ := certHeader_ok hh
  have hdbl := (srkData_roundtrip ct.srkId ct.key.keyData db (g ++ rest) hdb).2
  have hrbl := (srkRecordV2_roundtrip rec rb (db ++ (g ++ rest)) hrb rlen rpl (by rw [ra]; exact hwf.alg) (by rw [rh]; exact hwf.hsh)).2
  have hso : certSigOffset rb db = 40 + 76 + (8 + ct.key.keyData.length) := by
    unfold certSigOffset; rw [hrbl, hdbl]; rfl
  refine ⟨rec, certSigOffset rb db, hrec, hbl, hso, ?_⟩
  have hgl := encodeSignature_length hg
  generalize hso' : certSigOffset rb db = so at *
  generalize hA : packInts certIntsA [AhabConsts.certificateVersion, so + signatureLen ct.signature, AhabConsts.certificateTag, so,
    255 - ct.perms % 256, ct.perms] = A at *
  generalize hB : packInts certIntsB [ct.fuse, AhabConsts.reserved, AhabConsts.reserved] = B at *
  have hAl : A.length = 8 := by rw [← hA, packInts_length _ _ fA]; rfl
  have hBl : B.length = 4 := by rw [← hB, packInts_length _ _ fB]; rfl
  have hPl := extendTo_length 12 ct.permData plen
  have hUl := extendTo_length 16 ct.uuid puu
  generalize hPD : extendTo 12 ct.permData = PD at *
  generalize hUU : extendTo 16 ct.uuid = UU at *
  subst hhd
  -- the file, right associated
  have hW : A ++ PD ++ B ++ UU ++ rb ++ db ++ g ++ rest = A ++ (PD ++ (B ++ (UU ++ (rb ++ (db ++ (g ++ rest)))))) := by
    simp only [List.append_assoc]
  have d8 : (A ++ (PD ++ (B ++ (UU ++ (rb ++ (db ++ (g ++ rest))))))).drop 8 = PD ++ (B ++ (UU ++ (rb ++ (db ++ (g ++ rest))))) :=
    List.drop_left' hAl
  have d20 : (A ++ (PD ++ (B ++ (UU ++ (rb ++ (db ++ (g ++ rest))))))).drop 20 = B ++ (UU ++ (rb ++ (db ++ (g ++ rest)))) := by
    rw [← List.append_assoc]; exact List.drop_left' (by rw [List.length_append, hAl, hPl])
  have d24 : (A ++ (PD ++ (B ++ (UU ++ (rb ++ (db ++ (g ++ rest))))))).drop 24 = UU ++ (rb ++ (db ++ (g ++ rest))) := by
    rw [← List.append_assoc, ← List.append_assoc]; exact List.drop_left' (by simp only [List.length_append, hAl, hPl, hBl])
  have d40 : (A ++ (PD ++ (B ++ (UU ++ (rb ++ (db ++ (g ++ rest))))))).drop 40 = rb ++ (db ++ (g ++ rest)) := by
    rw [← List.append_assoc, ← List.append_assoc, ← List.append_assoc]
    exact List.drop_left' (by simp only [List.length_append, hAl, hPl, hBl, hUl])
  have d116 : (A ++ (PD ++ (B ++ (UU ++ (rb ++ (db ++ (g ++ rest))))))).drop (40 + 76) = db ++ (g ++ rest) := by
    rw [← List.drop_drop, d40]; exact List.drop_left' hrbl
  have dso : (A ++ (PD ++ (B ++ (UU ++ (rb ++ (db ++ (g ++ rest))))))).drop so = g ++ rest := by
    rw [hso, ← List.drop_drop, d116]; exact List.drop_left' hdbl
  have hlenW : (A ++ (PD ++ (B ++ (UU ++ (rb ++ (db ++ (g ++ rest))))))).length = so + signatureLen ct.signature + rest.length := by
    rw [← hW, List.length_append, hbl]
  rw [hW]
  unfold parseCert
  have hcs : AhabConsts.certificateLayout.size = 40 := rfl
  rw [hcs, if_neg (by rw [hlenW, hso]; omega)]
  have hu1 : unpackInts certIntsA (A ++ (PD ++ (B ++ (UU ++ (rb ++ (db ++ (g ++ rest))))))) =
      some [AhabConsts.certificateVersion, so + signatureLen ct.signature, AhabConsts.certificateTag, so, 255 - ct.perms % 256, ct.perms] := by
    rw [← hA]; exact unpack_pack _ _ _ fA
  have hu2 : unpackInts certIntsB (B ++ (UU ++ (rb ++ (db ++ (g ++ rest))))) = some [ct.fuse, AhabConsts.reserved, AhabConsts.reserved] := by
    rw [← hB]; exact unpack_pack _ _ _ fB
  rw [hu1, d20, hu2]
  simp only
  have c1 : ¬ (AhabConsts.certificateTag ≠ AhabConsts.certificateTag ∨ AhabConsts.certificateVersion ≠ AhabConsts.certificateVersion ∨
      (A ++ (PD ++ (B ++ (UU ++ (rb ++ (db ++ (g ++ rest))))))).length < so + signatureLen ct.signature) := by
    intro hx
    rcases hx with h1 | h1 | h1
    · exact h1 rfl
    · exact h1 rfl
    · rw [hlenW] at h1; omega
  rw [if_neg c1, if_neg (by simp), d40,
    (srkRecordV2_roundtrip rec rb (db ++ (g ++ rest)) hrb rlen rpl (by rw [ra]; exact hwf.alg) (by rw [rh]; exact hwf.hsh)).1]
  simp only
  unfold parseCertKey
  rw [hcs, rlen, d116, (srkData_roundtrip ct.srkId ct.key.keyData db (g ++ rest) hdb).1]
  simp only
  rw [if_neg (by rw [hso]; omega), dso, signature_roundtrip ct.signature g rest hwf.sigNe hg]
  simp only
  rw [if_neg (by simp)]
  unfold expectedCert certPermDataLen certUuidLen
  rw [d8, d24, List.take_left' hPl, List.take_left' hUl, hbl, hPD, hUU]

/-- what the parser checks: a permission byte whose complement field does not match is refused (the two fields cannot be changed
    independently), and so is a declared length that is not signature offset + signature container (commit adb6379; the
    comparison used to be dead code for single-signature certificates) -/
theorem cert_perm_complement_checked (b : Bytes) (p : PCert) (h : parseCert b = some p) :
    ∃ inv perm, unpackInts certIntsA b = some [AhabConsts.certificateVersion, p.length, AhabConsts.certificateTag, p.sigOff, inv, perm] ∧
      inv = 255 - perm % 256 ∧ p.perms = perm ∧ p.length = p.sigOff + signatureLen p.signature := by
  unfold parseCert at h
  split at h
  · cases h
  split at h
  · rename_i ver len tag so inv perm fuse r1 r2 hu1 hu2
    split at h
    · cases h
    rename_i hc1
    split at h
    · cases h
    rename_i hc2
    simp only [not_or, Decidable.not_not] at hc1
    split at h
    · cases h
    rename_i rec hrec
    unfold parseCertKey at h
    split at h
    · cases h
    split at h
    · cases h
    split at h
    · cases h
    split at h
    · cases h
    rename_i hlen
    cases h
    refine ⟨inv, perm, ?_, Decidable.not_not.1 hc2, rfl, Decidable.not_not.1 hlen⟩
    rw [hu1, hc1.1, hc1.2.1]
  · cases h

/-! ## 11. the unused container slots are zero filled - `hph` / `hphantom` derived, not assumed -/

/-- every chip row of the database, both container generations, every target memory (NAND and non-NAND start address): the HEAD
    (first 16 bytes) of every container slot `m < containers_max` lies in front of the first image address; the whole slots do
    for version 1, and for version 2 unless the target is NAND (0xBC00 < 3 * 0x4000: `hstart` stays a hypothesis there) -/
theorem chip_slots_before_images : ∀ r ∈ AhabConsts.chips, ∀ (tm : String) (v : Ver),
      (∀ m, m < r.containersMax → m * v.containerSize + 16 ≤ (Chip.mk r tm).startAddr v) ∧
      (v = .v1 ∨ (Chip.mk r tm).isNand = false → r.containersMax * v.containerSize ≤ (Chip.mk r tm).startAddr v) := by
  have hmax3 : ∀ r ∈ AhabConsts.chips, r.containersMax ≤ 3 := by decide +kernel
  intro r hr tm v
  have hmax : r.containersMax ≤ 3 := hmax3 r hr
  have hs : ∀ (v : Ver), (Chip.mk r tm).startAddr v = if (Chip.mk r tm).isNand then v.startAddrNand else v.startAddr := fun _ => rfl
  have e1 : Ver.v1.containerSize = 1024 := rfl
  have e2 : Ver.v2.containerSize = 16384 := rfl
  have a1 : Ver.v1.startAddrNand = 7168 := rfl
  have a2 : Ver.v1.startAddr = 8192 := rfl
  have a3 : Ver.v2.startAddrNand = 48128 := rfl
  have a4 : Ver.v2.startAddr = 49152 := rfl
  cases v with
  | v1 =>
    rw [hs, e1, a1, a2]
    refine ⟨fun m hm => ?_, fun _ => ?_⟩ <;> split <;> omega
  | v2 =>
    rw [hs, e2, a3, a4]
    refine ⟨fun m hm => ?_, fun h => ?_⟩
    · split <;> omega
    · rcases h with h | h
      · cases h
      · rw [h]; simp only [Bool.false_eq_true, if_false]; omega

/-- THE ZERO FILL of the export model: every byte behind the slots of the configured containers and in front of the first image
    address is 0, whenever every container fits its slot and no image is explicitly placed in front of the start address -/
theorem unused_slots_zero (c : CryptoOps) (img : Image) (bin : Bytes)
    (hexp : img.export c = .ok bin) (hA : 0 < img.chip.imageAlignment)
    (us : List UContainer) (hus : img.update c = .ok us)
    (hfit : ∀ u ∈ us, BlobLenOK u.cont.sb ∧ ∀ cb, u.export img.ver = .ok cb → cb.length ≤ img.ver.containerSize)
    (hge : ∀ p ∈ allPlaced us, img.chip.startAddr img.ver ≤ p.offset)
    (k : Nat) (hk1 : us.length * img.ver.containerSize ≤ k) (hk2 : k < img.chip.startAddr img.ver) :
    bin[k]? = some 0 := by
  open SpsdkVerif.BinImg SpsdkVerif.C16 in
  obtain ⟨us', cbytes, hus', _, hall, hval, hbin⟩ := Image.export_unfold c img bin hexp
  rw [hus] at hus'; cases hus'
  have hea := exportAll_spec img.ver us cbytes hall
  have hroot := imageInfo_alignWF img.chip img.ver us cbytes hA
  have hcn := contNode_alignWF img.chip img.ver us cbytes
  have hcnmem := contNode_mem img.chip img.ver us cbytes
  -- the "AHAB Containers" node: at offset 0, zero pattern, no binary, as long as the start address
  obtain ⟨hcnsize, hcnoff, _, hcnbin, hcnpat⟩ : (contNode img.chip img.ver us cbytes).size = img.chip.startAddr img.ver ∧
      (contNode img.chip img.ver us cbytes).offset = 0 ∧ True ∧ (contNode img.chip img.ver us cbytes).binary = none ∧
      (contNode img.chip img.ver us cbytes).pattern = some .zeros := by
    have f := addAll_fields (Img.mk (startReal img.chip img.ver us) 0 1 none (some .zeros) [])
      ((us.zip cbytes).map (fun ub => contImg img.ver ub.1 ub.2))
    exact ⟨f.1.trans (startReal_eq _ _ _ hge), f.2.1, trivial, f.2.2.2.1, f.2.2.2.2⟩
  have hcnlen : (contNode img.chip img.ver us cbytes).len = img.chip.startAddr img.ver := by
    rw [len_of_size _ (by rw [hcnsize]; omega), hcnsize]
  have hvc := (validate_child _ _ hval hcnmem).1
  obtain ⟨bc, hbc, hbcl⟩ := export_length _ hvc hcn
  have hat := export_child_at _ _ bin bc hval hroot hcnmem hbin hbc
  rw [hcnoff, List.drop_zero] at hat
  have hkl : k < bc.length := by rw [hbcl, hcnlen]; exact hk2
  rw [show bin[k]? = bc[k]? from by rw [← hat, List.getElem?_take_of_lt hkl],
    export_fill _ bc k hvc hcn hbc (by rw [hcnlen]; exact hk2) (by rw [hcnbin]; simp [binLen]) ?_, hcnpat, hcnlen]
  · simp only [patBlock, Pattern.block]
    rw [List.getElem?_replicate]
    simp [hk2]
  · -- every container lies in its slot, in front of `k`
    intro ci hci
    rcases (addAll_children _ _ _).1 hci with hci | hci
    · simp [Img.children] at hci
    · obtain ⟨⟨u, b⟩, hub, rfl⟩ := List.mem_map.1 hci
      right
      have hu : u ∈ us := (List.of_mem_zip hub).1
      have hcbe : u.export img.ver = .ok b := hea.2 (u, b) hub
      obtain ⟨hblob, hfitu⟩ := hfit u hu
      have hle := hfitu b hcbe
      obtain ⟨j, hj⟩ := List.getElem?_of_mem hu
      have hb := (updateContainers_bases c img.chip img.ver img.containers 0 _ us hus).2 j u hj
      rw [Nat.zero_add] at hb
      have hjl : j < us.length := (List.getElem?_eq_some_iff.1 hj).1
      have hlen := exportContainer_length hblob hcbe
      rw [List.length_map] at hlen
      have hcl : (contImg img.ver u b).len = b.length := by
        rw [len_of_size _ (by simp only [contImg, Img.size]; rw [← hlen]; rw [headerLength_eq, sbo_exact] at hlen; omega)]
        exact hlen.symm
      rw [hcl]
      simp only [contImg, Img.offset]
      rw [hb.2.1]
      have : (j + 1) * img.ver.containerSize ≤ us.length * img.ver.containerSize := Nat.mul_le_mul_right _ hjl
      rw [Nat.add_mul, Nat.one_mul] at this
      omega

/-- ... hence no unused slot whose head lies in front of the first image address is taken for a container: neither by the
    independent checker (`looksLikeContainer`) nor by the model of SPSDK's parser (`decodeHeader`) -/
theorem no_phantom_container (c : CryptoOps) (img : Image) (bin : Bytes) (p : Spec.AhabRom.Params)
    (hexp : img.export c = .ok bin) (hA : 0 < img.chip.imageAlignment)
    (us : List UContainer) (hus : img.update c = .ok us)
    (hfit : ∀ u ∈ us, BlobLenOK u.cont.sb ∧ ∀ cb, u.export img.ver = .ok cb → cb.length ≤ img.ver.containerSize)
    (hge : ∀ p ∈ allPlaced us, img.chip.startAddr img.ver ≤ p.offset)
    (m : Nat) (hm : us.length ≤ m) (hslot : m * img.ver.containerSize + 16 ≤ img.chip.startAddr img.ver) :
    Spec.AhabRom.looksLikeContainer p bin (m * img.ver.containerSize) = false ∧
    decodeHeader img.ver (bin.drop (m * img.ver.containerSize)) = none := by
  have hz := unused_slots_zero c img bin hexp hA us hus hfit hge (m * img.ver.containerSize + 3)
    (by have := Nat.mul_le_mul_right img.ver.containerSize hm; omega) (by omega)
  exact ⟨zero_not_container p bin _ hz, zero_not_header img.ver bin _ hz⟩

/-- `rom_accepts_file` WITHOUT the phantom-head hypothesis: the only geometric assumptions left are about the configuration
    (containers fit their slots, no explicit offset behind the cursor, slot heads in front of the start address - true for every
    database row by `chip_slots_before_images` - and the containers end before the first image) -/
theorem rom_accepts_file_closed (c : CryptoOps) (hc : CryptoLaws c) (img : Image) (bin : Bytes) (maxC maxI : Nat)
    (hexp : img.export c = .ok bin) (hA : 0 < img.chip.imageAlignment)
    (us : List UContainer) (hus : img.update c = .ok us) (hne : us ≠ []) (hmax : us.length ≤ maxC)
    (hcont : ∀ u ∈ us, BlobLenOK u.cont.sb ∧ u.placed.length ≤ maxI ∧ SigKind img.ver u.cont ∧
      (∀ cb, u.export img.ver = .ok cb → cb.length ≤ img.ver.containerSize) ∧
      ∀ (i : Nat) (p : Placed), u.placed[i]? = some p → 0 < p.ready.size ∧
        ¬ (Iae.isEncrypted img.ver p.entry.flags = true ∧ u.cont.sb.blob.isSome = false) ∧
        (Iae.isEncrypted img.ver p.entry.flags = true → u.cont.sb.blob.isSome = true →
          p.ready.size = p.ready.image.length ∧ (storedImage img.chip p.entry.data).length % 16 = 0 ∧ u.cont.dek.isSome = true))
    (hslots : ∀ m, m < maxC → m * img.ver.containerSize + 16 ≤ img.chip.startAddr img.ver)
    (ha : ExplicitAhead img.chip img.ver (img.chip.startAddr img.ver) (allPlaced us))
    (hstart : us.length * img.ver.containerSize ≤ img.chip.startAddr img.ver) :
    ∃ reps, Spec.AhabRom.ahabCheck c (romParams img.ver maxC maxI) bin (us.map dekOf) = .ok reps ∧ reps.length = us.length ∧
      ∀ k u r, us[k]? = some u → reps[k]? = some r →
        r.index = k ∧ r.base = k * img.ver.containerSize ∧ r.flags = u.cont.flags ∧ r.swVersion = u.cont.swVersion ∧
        r.fuseVersion = u.cont.fuseVersion ∧ r.images = u.placed.map (repOf img.ver) ∧
        u.export img.ver = .ok (Spec.AhabRom.slice bin r.base r.length) ∧
        (r.sig = none ↔ u.cont.srkSet = 0) ∧
        ∀ s, r.sig = some s → s.signedLen = sigBlockOffset img.ver u.placed.length + (sbLayout img.ver u.cont.sb).sigOff ∧
          s.sigOff = r.base + s.signedLen + 8 ∧ s.sigLen = u.cont.sb.signature.length ∧ s.usedSrk = u.cont.usedSrkId ∧
          (img.ver = .v1 → s.srkHash = c.hash .sha256 u.cont.sb.srk) := by
  have hge := (offsets_disjoint c img us hus ha).2
  refine rom_accepts_file c hc img bin maxC maxI hexp hA us hus hne hmax hcont ?_ ha hstart
  intro m hm1 hm2
  exact (no_phantom_container c img bin _ hexp hA us hus (fun u hu => ⟨(hcont u hu).1, (hcont u hu).2.2.2.1⟩) hge m hm1
    (hslots m hm2)).1

/-- `image_roundtrip` WITHOUT the phantom-head hypothesis -/
theorem image_roundtrip_closed (c : CryptoOps) (hc : CryptoLaws c) (img : Image) (bin : Bytes) (maxC : Nat)
    (hexp : img.export c = .ok bin) (hA : 0 < img.chip.imageAlignment)
    (us : List UContainer) (hus : img.update c = .ok us) (hne : us ≠ [])
    (hwf : ∀ u ∈ us, SbParseWF img.ver u.cont.sb) (hmax : us.length ≤ maxC)
    (hfit : ∀ u ∈ us, ∀ cb, u.export img.ver = .ok cb → cb.length ≤ img.ver.containerSize)
    (hslots : ∀ m, m < maxC → m * img.ver.containerSize + 16 ≤ img.chip.startAddr img.ver)
    (ha : ExplicitAhead img.chip img.ver (img.chip.startAddr img.ver) (allPlaced us)) :
    parseFile img.ver maxC bin = some (us.map (expectedP img.ver)) := by
  have hge := (offsets_disjoint c img us hus ha).2
  refine image_roundtrip c hc img bin maxC hexp hA us hus hne hwf hmax ?_
  intro m hm1 hm2
  exact (no_phantom_container c img bin (romParams img.ver maxC 0) hexp hA us hus
    (fun u hu => ⟨(hwf u hu).blobLen, hfit u hu⟩) hge m hm1 (hslots m hm2)).2

/-! ## 12. offsets never collide (arbitrary lists of containers and images), re-sign flow -/

/-- NOTHING COLLIDES, for every number of containers and images: the images are in increasing order without overlap, the containers
    are in increasing order without overlap, and every container ends before every image - whenever every container fits its
    slot, no explicit offset points behind the cursor and the container slots end before the first image address -/
theorem layout_never_collides (c : CryptoOps) (img : Image) (us : List UContainer) (hus : img.update c = .ok us)
    (hfit : ∀ u ∈ us, ∀ cb, u.export img.ver = .ok cb → cb.length ≤ img.ver.containerSize)
    (ha : ExplicitAhead img.chip img.ver (img.chip.startAddr img.ver) (allPlaced us))
    (hstart : us.length * img.ver.containerSize ≤ img.chip.startAddr img.ver) :
    (allPlaced us).Pairwise (fun p q => p.offset + p.ready.size ≤ q.offset) ∧
    (∀ (j k : Nat) (u w : UContainer) (cu : Bytes), us[j]? = some u → us[k]? = some w → j < k → u.export img.ver = .ok cu → u.base + cu.length ≤ w.base) ∧
    (∀ (j : Nat) (u : UContainer) (cu : Bytes), us[j]? = some u → u.export img.ver = .ok cu → ∀ p ∈ allPlaced us, u.base + cu.length ≤ p.offset) := by
  have hd := offsets_disjoint c img us hus ha
  have hb := (updateContainers_bases c img.chip img.ver img.containers 0 _ us hus).2
  refine ⟨hd.1, ?_, ?_⟩
  · intro j k u w cu hj hk hjk hcu
    have b1 := (hb j u hj).2.1
    have b2 := (hb k w hk).2.1
    have hl := hfit u (List.mem_of_getElem? hj) cu hcu
    rw [b1, b2, Nat.zero_add, Nat.zero_add]
    have : (j + 1) * img.ver.containerSize ≤ k * img.ver.containerSize := Nat.mul_le_mul_right _ hjk
    rw [Nat.add_mul, Nat.one_mul] at this
    omega
  · intro j u cu hj hcu p hp
    have b1 := (hb j u hj).2.1
    have hl := hfit u (List.mem_of_getElem? hj) cu hcu
    have hjl : j < us.length := by
      rcases Nat.lt_or_ge j us.length with h | h
      · exact h
      · rw [List.getElem?_eq_none h] at hj; cases hj
    have := hd.2 p hp
    rw [b1, Nat.zero_add]
    have h2 : (j + 1) * img.ver.containerSize ≤ us.length * img.ver.containerSize := Nat.mul_le_mul_right _ hjl
    rw [Nat.add_mul, Nat.one_mul] at h2
    omega

/-- ... instantiated for EVERY ROW of the chip database (family x revision), every target memory and both container generations:
    with at most `containers_max` containers nothing collides (version 2 on NAND: with at most two containers; a third one
    is covered by `layout_never_collides` when `hstart` is given) -/
theorem layout_never_collides_chip (c : CryptoOps) (img : Image) (us : List UContainer) (hus : img.update c = .ok us)
    (hrow : img.chip.row ∈ AhabConsts.chips) (hn : us.length ≤ img.chip.row.containersMax)
    (hv : img.ver = .v1 ∨ img.chip.isNand = false ∨ us.length ≤ 2)
    (hfit : ∀ u ∈ us, ∀ cb, u.export img.ver = .ok cb → cb.length ≤ img.ver.containerSize)
    (ha : ExplicitAhead img.chip img.ver (img.chip.startAddr img.ver) (allPlaced us)) :
    (allPlaced us).Pairwise (fun p q => p.offset + p.ready.size ≤ q.offset) ∧
    (∀ (j k : Nat) (u w : UContainer) (cu : Bytes), us[j]? = some u → us[k]? = some w → j < k → u.export img.ver = .ok cu → u.base + cu.length ≤ w.base) ∧
    (∀ (j : Nat) (u : UContainer) (cu : Bytes), us[j]? = some u → u.export img.ver = .ok cu → ∀ p ∈ allPlaced us, u.base + cu.length ≤ p.offset) := by
  refine layout_never_collides c img us hus hfit ha ?_
  have hc := chip_slots_before_images img.chip.row hrow img.chip.targetMemory img.ver
  have heta : Chip.mk img.chip.row img.chip.targetMemory = img.chip := rfl
  rw [heta] at hc
  rcases hv with h | h | h
  · exact Nat.le_trans (Nat.mul_le_mul_right _ hn) (hc.2 (Or.inl h))
  · exact Nat.le_trans (Nat.mul_le_mul_right _ hn) (hc.2 (Or.inr h))
  · rcases Nat.eq_zero_or_pos us.length with h0 | h0
    · rw [h0]; omega
    · have hm : us.length - 1 < img.chip.row.containersMax := by omega
      have h1 := hc.1 (us.length - 1) hm
      -- two version-2 slots (0x8000) end before both start addresses; version 1 is the first case
      cases hver : img.ver with
      | v1 => rw [hver] at hc; exact Nat.le_trans (Nat.mul_le_mul_right _ hn) (hc.2 (Or.inl rfl))
      | v2 =>
        have e2 : Ver.v2.containerSize = 16384 := rfl
        have hs : img.chip.startAddr .v2 = if img.chip.isNand then Ver.v2.startAddrNand else Ver.v2.startAddr := rfl
        have a3 : Ver.v2.startAddrNand = 48128 := rfl
        have a4 : Ver.v2.startAddr = 49152 := rfl
        rw [e2, hs, a3, a4]
        split <;> omega

/-- RE-SIGN FLOW: `update_fields()` on an already updated image changes nothing - every container is locked after the first
    call (offsets kept), images are not encrypted twice, sizes / hashes / IVs are recomputed to the same values - for every
    crypto instance with laws, any number of containers and images.  Hence the exported file (and the data to sign) of the second
    call is that of the first: re-signing signs the same bytes. -/
theorem update_fields_idempotent (c : CryptoOps) (hc : CryptoLaws c) (img : Image) (us : List UContainer)
    (h : img.update c = .ok us) : img.update2 c = .ok us ∧ reupdateAll c img.chip img.ver us = .ok us := by
  have h2 := reupdateAll_fix c hc img.chip img.ver us (updateContainers_entries c img.chip img.ver img.containers 0 _ us h)
  exact ⟨by unfold Image.update2; rw [h]; exact h2, h2⟩

/-- one entry: the second `ImageArrayEntry.update_fields()` is the identity on what the first one produced -/
theorem entry_update_idempotent (c : CryptoOps) (hc : CryptoLaws c) (ch : Chip) (v : Ver) (dek : Option Bytes) (e : Entry) (r : Ready)
    (h : readyEntry c ch v dek e = .ok r) : reReady c ch v e r = .ok r :=
  reReady_fix c hc ch v dek e r h

/-! ## 13. the record functions of `spsdk/utils/verifier.py` (GENERATED branch tables) agree with the model verifier -/

/-- does one `if` test of `Verifier.add_record_bit_range` / `add_record_range` hold (`none`: a test the generator does not know)?
    `notInBitRange` = `not check_range(value, end=(1 << bit_range) - 1)` with the generated `check_range` and its generated
    default `start`; `r.hi` of a bit-range record is `(1 << bit_range) - 1` -/
def condHolds (r : AhabConsts.RangeRec) (v : Option Int) : AhabVerifierRecs.RCond → Option Bool
  | .isNone => some v.isNone
  | .notInBitRange =>
    match v with
    | some x => (match PyFuns.check_range x AhabVerifierRecs.checkRangeDefaultStart r.hi with | .ok b => some (!b) | .error _ => none)
    | none => none
  | .ltMin => v.map (fun x => decide (x < r.lo))
  | .gtMax => v.map (fun x => decide (x > r.hi))
  | .otherwise => some true
  | .unknown _ => none

/-- the `VerifierResult` of the record a generated if-chain adds -/
def verdict (r : AhabConsts.RangeRec) (v : Option Int) : List (AhabVerifierRecs.RCond × String) → String
  | [] => "NONE"
  | (cnd, res) :: rest =>
    match condHolds r v cnd with
    | some true => res
    | some false => verdict r v rest
    | none => "UNKNOWN"

/-- AGREEMENT: for every record, every value (or `None`), the model verifier reports an ERROR exactly when the if-chain extracted
    from `spsdk/utils/verifier.py` adds an ERROR record - and otherwise the chain adds SUCCEEDED (never a warning, never nothing).
    A changed comparison, a dropped `None` test or another result constant in verifier.py regenerates another table and this
    theorem no longer holds. -/
theorem verifier_records_agree (r : AhabConsts.RangeRec) (v : Option Int) :
    (recFails r v = true ↔
      verdict r v (if r.viaCheckRange then AhabVerifierRecs.bitRangeBranches else AhabVerifierRecs.rangeBranches) = "ERROR") ∧
    (recFails r v = false ↔
      verdict r v (if r.viaCheckRange then AhabVerifierRecs.bitRangeBranches else AhabVerifierRecs.rangeBranches) = "SUCCEEDED") := by
  have hs : AhabVerifierRecs.checkRangeDefaultStart = 0 := rfl
  cases v with
  | none =>
    cases hv : r.viaCheckRange <;>
      simp [recFails, verdict, condHolds, AhabVerifierRecs.bitRangeBranches, AhabVerifierRecs.rangeBranches]
  | some x =>
    cases hv : r.viaCheckRange
    · simp only [recFails, hv, verdict, condHolds, AhabVerifierRecs.rangeBranches, Option.isNone, Option.map, Bool.false_eq_true, if_false]
      by_cases h1 : x < r.lo <;> by_cases h2 : x > r.hi <;> simp [h1, h2]
    · simp only [recFails, hv, verdict, condHolds, AhabVerifierRecs.bitRangeBranches, Option.isNone, if_true, hs, PyFuns.check_range]
      by_cases h1 : 0 ≤ x <;> by_cases h2 : x ≤ r.hi <;> simp [h1, h2]

/-- the default arguments the generator of the record tables relies on are the ones in the source: `bit_range = 32`,
    `min_val = 0`, `max_val = 2^32 - 1`; `check_range(start = 0, end = 2^32 - 1)`; every bit-range record of the AHAB verify()
    trees has `lo = 0` and `hi = 2^bits - 1` for a width in {4, 8, 16, 32, 64} -/
theorem verifier_defaults :
    AhabVerifierRecs.bitRangeDefaultBits = 32 ∧ AhabVerifierRecs.rangeDefaultMin = 0 ∧ AhabVerifierRecs.rangeDefaultMax = 4294967295 ∧
    AhabVerifierRecs.checkRangeDefaultStart = 0 ∧ AhabVerifierRecs.checkRangeDefaultEnd = 4294967295 ∧
    ∀ r ∈ AhabConsts.recsHeader ++ AhabConsts.recsContainer ++ AhabConsts.recsIae ++ AhabConsts.recsSigBlock ++ AhabConsts.recsSigBlockV2 ++
        AhabConsts.recsSrkRecord ++ AhabConsts.recsBlob ++ AhabConsts.recsCertificate, r.viaCheckRange = true →
      r.lo = 0 ∧ ∃ b ∈ [4, 8, 16, 32, 64], r.hi = 2 ^ b - 1 := by decide +kernel

/-! ## non-vacuity and sanity checks (decidable instances of the hypotheses) -/

def exChip : Chip := ⟨(findChip "mimxrt1189" "latest").getD (AhabConsts.chips.headD default), "standard"⟩ where
  default := ⟨"", "", "", 0, 0, 1, 1, [], false, [], [], []⟩

example : exChip.row.family = "mimxrt1189" ∧ exChip.imageAlignment = 512 ∧ exChip.startAddr .v1 = 0x2000 := by decide +kernel
example : sigBlockOffset .v1 2 = 272 ∧ sigBlockOffset .v2 0 = 16 := by decide +kernel
example : AhabConsts.createFlagsV1 3 1 2 true 0x7FFF = .ok 0x7FFF0A13 ∧ AhabConsts.createFlagsV2 3 1 2 true 0 = .ok 0x1213 := by decide +kernel
example : AhabConsts.createMeta 1023 1023 255 = .ok 0xFFFFFFF := by decide +kernel
example : Ver.v1.containerOffset 2 = .ok 0x800 ∧ Ver.v2.containerOffset 3 = .ok 0xC000 ∧ Ver.v1.containerOffset 4 = .error .spsdk := by decide +kernel
/-- a signature block with an SRK block of 20 bytes, a 10-byte signature (container: 18 bytes), a 12-byte certificate and a
    blob of 72 bytes: version 1 aligns every block to 8 bytes, version 2 packs them without padding -/
def exSb : SigBlock := ⟨List.replicate 20 1, List.replicate 10 2, [], List.replicate 12 3, some ⟨1, 128, 3, 0, 72, List.replicate 64 0, 7⟩⟩
example : sbLayout .v1 exSb = ⟨16, 40, 64, 80, 152⟩ ∧ sbLayout .v2 exSb = ⟨16, 36, 54, 66, 138⟩ := by decide +kernel
example : exSb.srk.length ≠ 0 ∧ exSb.sigSize .v1 ≠ 0 ∧ exSb.cert.length ≠ 0 ∧ exSb.blobLen ≠ 0 ∧ BlobLenOK exSb := by
  refine ⟨by decide, by decide, by decide, by decide, ?_⟩
  intro b hb; cases hb; decide
/-- the verifier's SW / fuse version records at their limits and one above -/
def exVC (sw fuse flags : Int) : VContainer := ⟨⟨135, 160, 0, 160⟩, flags, sw, fuse, 0, [], none⟩
example : failed AhabConsts.recsContainer (containerEnv .v1 (exVC 65535 255 0xFFFFFFFF)) = [] := by decide +kernel
example : failed AhabConsts.recsContainer (containerEnv .v1 (exVC 65536 0 0)) = ["SW version"] := by decide +kernel
example : failed AhabConsts.recsContainer (containerEnv .v1 (exVC 0 256 0)) = ["Fuse version"] := by decide +kernel
example : failed AhabConsts.recsContainer (containerEnv .v1 (exVC 0 0 0x100000000)) = ["Flags"] := by decide +kernel

example : verdict ⟨"SW version", "sw_version", 0, 65535, true⟩ (some 65536) AhabVerifierRecs.bitRangeBranches = "ERROR" ∧
    verdict ⟨"SW version", "sw_version", 0, 65535, true⟩ (some 65535) AhabVerifierRecs.bitRangeBranches = "SUCCEEDED" ∧
    verdict ⟨"x", "x", 16, 64, false⟩ (some 15) AhabVerifierRecs.rangeBranches = "ERROR" ∧
    verdict ⟨"x", "x", 16, 64, false⟩ none AhabVerifierRecs.rangeBranches = "ERROR" := by decide +kernel

/-! ### non-vacuity: a concrete image (NAND start address, one container, one image) satisfies every hypothesis of
    `unused_slots_zero` / `no_phantom_container` / `layout_never_collides` / `update_fields_idempotent`, and the conclusions are
    what one computes (decidable instances; the toy hash returns zeros, which is all `CryptoLaws` needs from it) -/
def toyOps : CryptoOps := ⟨fun a _ => List.replicate a.size 0, fun _ b => fitS 16 b, fun _ b => fitS 16 b, fun _ b => b, fun _ b => b,
  fun _ _ _ _ => [], fun _ _ _ _ => true, fun k => k⟩
def exNand : Chip := ⟨exChip.row, "nand_2k"⟩
def exImg : Image := ⟨.v1, exNand, [⟨0, 0, 0, [⟨[1, 2, 3, 4], 0, 0, 0, 0, 0, 0, 0⟩], ⟨[], [], [], [], none⟩, none⟩]⟩
def exHypsOK : Bool :=
  match exImg.export toyOps, exImg.update toyOps, exImg.update2 toyOps with
  | .ok bin, .ok us, .ok us2 =>
    us.length == 1 && us2.length == 1 && us.all (fun u => u.cont.sb.blob.isNone &&
      (match u.export .v1 with | .ok cb => decide (cb.length ≤ Ver.v1.containerSize) | _ => false)) &&
    (allPlaced us).all (fun p => decide (exNand.startAddr .v1 ≤ p.offset) && p.entry.offset == 0) &&
    (allPlaced us2).map (·.offset) == (allPlaced us).map (·.offset) &&
    bin.length == 7680 && bin[1024 + 3]? == some 0 && bin[3]? == some 0x87 &&
    Spec.AhabRom.looksLikeContainer (romParams .v1 3 8) bin 0 && !Spec.AhabRom.looksLikeContainer (romParams .v1 3 8) bin 1024
  | _, _, _ => false
set_option maxRecDepth 100000 in
example : exHypsOK = true := by decide +kernel
example : exChip.row ∈ AhabConsts.chips ∧ exNand.row.containersMax = 2 ∧ exNand.isNand = true ∧
    1 * Ver.v1.containerSize + 16 ≤ exNand.startAddr .v1 := by decide +kernel
theorem toyOps_laws : CryptoLaws toyOps := by
  exact ⟨fun _ b hb => by show fitS 16 (fitS 16 b) = b; rw [fitS_of_length 16 b hb, fitS_of_length 16 b hb],
         fun _ b hb => by show fitS 16 (fitS 16 b) = b; rw [fitS_of_length 16 b hb, fitS_of_length 16 b hb],
         fun _ b => fitS_length 16 b, fun _ b => fitS_length 16 b, fun a _ => by simp [toyOps], fun _ _ _ _ => rfl⟩

end SpsdkVerif.C06
