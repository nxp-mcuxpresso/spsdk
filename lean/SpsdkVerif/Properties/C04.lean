/-
C04 — Secure Binary 2.0 / 2.1: the ROM decodes exactly the command list that was given.

Objects: `Sb2.*` = model of SPSDK's builder/parser (Model/Sb2.lean part 1, over constants generated from the
current sources), `Sb2.Rom.*` = independent model of the boot ROM (part 2, own constants `Rom.Spec`),
`Sb2.Spec.*` = the expectation written from the meaning of the builder's arguments (Model/Sb2Spec.lean).
All statements are for EVERY `c : CryptoOps` with `CryptoLaws c` (every key, nonce, length, section list).
Helper lemmas: SpsdkVerif/Proofs/Sb2Cmd.lean, Sb2Section.lean, Sb2Image.lean, Sb2Parse.lean, Sb2Tamper.lean.
-/
import SpsdkVerif.Proofs.Sb2Image
import SpsdkVerif.Proofs.Sb2Parse
import SpsdkVerif.Proofs.Sb2Tamper
import SpsdkVerif.Proofs.ExecLaws

namespace SpsdkVerif.Properties.C04
open SpsdkVerif SpsdkVerif.Sb2 SpsdkVerif.Sb2.Rom
open SpsdkVerif.Misc (Bytes)
open SpsdkVerif.Crypto (CryptoOps CryptoLaws Break SigAlg PrivKey Rand)
open SpsdkVerif.Generated

/-! ## Generated = Spec: the constants of the current SPSDK sources are the ones the ROM model is written with
    (a changed tag, flag, mask, format, marker or size in /repo stops one of these from compiling) -/

theorem gen_tags_agree :
    Sb2Consts.cmdTags = [("NOP", Spec.tagNop), ("TAG", Spec.tagTag), ("LOAD", Spec.tagLoad), ("FILL", Spec.tagFill),
      ("JUMP", Spec.tagJump), ("CALL", Spec.tagCall), ("ERASE", Spec.tagErase), ("RESET", Spec.tagReset),
      ("MEM_ENABLE", Spec.tagMemEnable), ("PROG", Spec.tagProg), ("FW_VERSION_CHECK", Spec.tagFwVersionCheck),
      ("WR_KEYSTORE_TO_NV", Spec.tagWrKeystoreToNv), ("WR_KEYSTORE_FROM_NV", Spec.tagWrKeystoreFromNv)] := by decide

/-- every command class announces the tag under which `parse_command` dispatches to it -/
theorem gen_class_table_consistent :
    ∀ p ∈ Sb2Consts.cmdClassTable, (p.2, p.1) ∈ Sb2Consts.cmdClassTag := by decide

theorem gen_section_flags_agree :
    (Sb2Consts.sectFlagBootable, Sb2Consts.sectFlagCleartext, Sb2Consts.sectFlagLastSect)
      = (Spec.sectBootable, Spec.sectCleartext, Spec.sectLast) := by decide

theorem gen_cmd_header_agree :
    Sb2Consts.cmdHeaderFmtLittle = true ∧ Sb2Consts.cmdHeaderFmt.map (·.2) = Spec.cmdHeaderWidths ∧
    Sb2Consts.cmdHeaderFmt.all (fun f => !f.1) = true ∧ Sb2Consts.cmdHeaderFmtSize = Spec.cmdHeaderSize ∧
    Sb2Consts.checksumSeed = Spec.checksumSeed ∧ Sb2Consts.checksumStart = 1 ∧ Sb2Consts.checksumMask = 255 := by decide

theorem gen_image_header_agree :
    Sb2Consts.imageHeaderFmtLittle = true ∧ Sb2Consts.imageHeaderFmt.map (·.2) = Spec.imageHeaderWidths ∧
    Sb2Consts.imageHeaderFmt.map (·.1) =
      [true, true, true, false, false, false, false, false, false, false, false, false, false, false, true, false,
       false, false, false, false, false, false, false, false, false, false, false, false, false, true] ∧
    Sb2Consts.imageHeaderFmtSize = Spec.imageHeaderSize ∧
    Sb2Consts.imageSignature1 = Spec.signature1 ∧ Sb2Consts.imageSignature2 = Spec.signature2 ∧
    Sb2Consts.hdrKeyBlobBlock * 16 = Sb2Consts.imageHeaderFmtSize + Sb2Consts.v21HeaderMacSize ∧
    Sb2Consts.hdrKeyBlobBlockCount * 16 = Sb2Consts.v21KeyBlobSize := by decide

theorem gen_image_consts_agree :
    (Sb2Consts.v21HeaderMacSize, Sb2Consts.v20HeaderMacSize, Sb2Consts.sectionHmacSize, Sb2Consts.certSectionHmacSize)
      = (Spec.macSize, Spec.macSize, Spec.macSize, Spec.macSize) ∧
    Sb2Consts.v21KeyBlobSize = 80 ∧ Sb2Consts.v20KeyBlobSize = 80 ∧ Sb2Consts.v20DekMacSize = 80 ∧
    Sb2Consts.v21Sha256Size = Spec.shaSize ∧ Sb2Consts.v21FlagsShaPresentBit = Spec.flagSha ∧
    Sb2Consts.v21FlagsEncryptedSignedBit = Spec.flagSigned ∧ Sb2Consts.v20FlagsSigned = Spec.flagSigned ∧
    Sb2Consts.v20FlagsUnsigned = Spec.flagUnsignedV20 ∧ Sb2Consts.certSectionMark = Spec.certSectionMark ∧
    Sb2Consts.blockSize = 16 := by decide

theorem gen_cert_block_agree :
    Sb2Consts.certBlockHeaderFmtLittle = true ∧ Sb2Consts.certBlockHeaderFmt.map (·.2) = Spec.certHeaderWidths ∧
    Sb2Consts.certBlockHeaderFmtSize = Spec.certHeaderSize ∧ Sb2Consts.certBlockSignature = Spec.certSignature ∧
    Sb2Consts.rkhtEntries * Sb2Consts.rkhSize = Spec.rkhTableSize ∧ Sb2Consts.certBlockAlignment = 16 := by decide

theorem gen_mem_id_masks :
    (Sb2Consts.memDeviceIdMask, Sb2Consts.memDeviceIdShift, Sb2Consts.memGroupIdMask, Sb2Consts.memGroupIdShift)
      = (0xFF, 0, 0xF00, 8) ∧
    (Sb2Consts.romDeviceIdMask, Sb2Consts.romDeviceIdShift, Sb2Consts.romGroupIdMask, Sb2Consts.romGroupIdShift)
      = (0xFF00, 8, 0xF0, 4) ∧
    (Sb2Consts.keystoreDeviceIdMask, Sb2Consts.keystoreDeviceIdShift, Sb2Consts.keystoreCount) = (0xFF00, 8, 4) ∧
    Sb2Consts.versionCheckTypes = [0, 1] ∧ Sb2Consts.extMemIds = [1, 4, 8, 9, 10, 11, 16] ∧
    Sb2Consts.timestampEpoch = [2000, 1, 1, 0, 0, 0, 0] ∧ Sb2Consts.timestampScale = 1000000 := by decide

/-- `CmdHeader.parse(CmdHeader.export())` gives the header back (checksum `0x5A + Σ` accepted) -/
theorem hdr_roundtrip (h : CmdHdr) (hr : h.inRange = true) (rest : Bytes) :
    decodeHdr (encodeHdr h ++ rest) = .ok h := decodeHdr_encodeHdr h hr rest

/-- a well-formed command is accepted by its constructor and exported as `encodeCmd` -/
theorem cmd_export_ok (x : Cmd) (wf : Spec.WFcmd x) : exportCmd x = .ok (encodeCmd x) := by
  simp [exportCmd, check_ok x wf, hdr_inRange x wf]

/-- SPSDK's own `parse_command` on an exported command followed by anything: the canonical form of the command
    and exactly its length, for each of the 13 command kinds and all field values in range -/
theorem cmd_roundtrip (x : Cmd) (wf : Spec.WFcmd x) (rest : Bytes) :
    decodeCmd (encodeCmd x ++ rest) = .ok (x.canon, (encodeCmd x).length) := decodeCmd_encodeCmd x wf rest

/-- the ROM model on an exported command followed by anything: the command that was given -/
theorem rom_cmd_roundtrip (x : Cmd) (wf : Spec.WFcmd x) (rest : Bytes) :
    Rom.readCmd (encodeCmd x ++ rest) = .ok (Spec.view x, (encodeCmd x).length) := by
  rw [encodeCmd_length]; exact readCmd_encodeCmd x wf rest

/- Full-strength statement (FALSE on the current code, known finding C04-load-count-padded):
     `Rom.readCmd (encodeCmd x ++ rest) = .ok (Spec.viewExact x, _)` for every well-formed `x`.
   Counter-example: `x = .load 0 [1] 0 0` — the exported byte count is 16, so the ROM loads `1 :: 15 zero bytes`.
   Proved instead: it holds whenever the LOAD data is a multiple of 16 bytes (and for every other command kind). -/
theorem rom_cmd_exact_partial (x : Cmd) (wf : Spec.WFcmd x) (rest : Bytes)
    (hal : ∀ a d m f, x = .load a d m f → d.length % 16 = 0) :
    Rom.readCmd (encodeCmd x ++ rest) = .ok (Spec.viewExact x, (encodeCmd x).length) := by
  rw [rom_cmd_roundtrip x wf rest, view_eq_viewExact x hal]

/-- in every case the given LOAD data is a prefix of what the ROM writes, and the excess is zero padding (< 16 bytes) -/
theorem rom_load_prefix (a : Nat) (d : Bytes) (m f : Nat) :
    ∃ z, Spec.view (.load a d m f) = .load a (f ||| Spec.memBits m) (d ++ Crypto.zeros z) ∧ z < 16 :=
  ⟨(16 - d.length % 16) % 16, rfl, by omega⟩

/-- a whole command stream of a section is read back command for command -/
theorem rom_cmds_roundtrip (cmds : List Cmd) (wf : ∀ x ∈ cmds, Spec.WFcmd x) :
    Rom.readCmds cmds.length (cmdsData cmds) = .ok (cmds.map Spec.view) :=
  readCmds_cmdsData cmds wf cmds.length (Nat.le_refl _)

variable {c : CryptoOps}

/-- Counter agreement: the builder encrypts block `j` of a stream that will sit at the 16-aligned file offset `o`
    with its running counter `ctr₀ + o/16 + j`; the ROM decrypts the block at file offset `o + 16 j` with
    `ctr₀ + (o + 16 j)/16`: the plaintext comes back, for every stream length and position. -/
theorem counter_agreement (h : CryptoLaws c) (dek nonce pre d post : Bytes) (n : Nat)
    (hpre : pre.length % 16 = 0) (hd : d.length = 16 * n) :
    Rom.decryptAt c dek nonce (pre ++ ctrBlocks c dek nonce n (nonceCtr nonce + pre.length / 16) d ++ post) n pre.length = d := by
  rw [decryptAt_eq_ctrBlocks, slice_mid _ _ _ _ _ rfl (ctrBlocks_length h _ _ _ _ _ hd).symm, ctrBlocks_invol h _ _ _ _ _ hd]

theorem counter_keystream (dek nonce : Bytes) (off : Nat) :
    Rom.ksAt c dek nonce off = ksBlock c dek nonce (nonceCtr nonce + off / 16) := ksAt_eq_ksBlock dek nonce off

/-- Section round trip: wherever (16-aligned) a section sits in a file, if it was built with the counter of that
    offset, the ROM verifies the header MAC and the MAC table (any `hmac_count`), decrypts, verifies checksums and
    CRCs, and returns uid, effective MAC count and the given commands; it ends exactly behind the section. -/
theorem section_roundtrip (h : CryptoLaws c) (dek mac nonce pre post : Bytes) (s : Section)
    (wf : Spec.WFsection s) (hpre : pre.length % 16 = 0) :
    Rom.readSection c dek mac nonce
        (pre ++ buildSection c dek mac nonce (nonceCtr nonce + pre.length / 16) s ++ post) pre.length
      = .ok (Spec.expectedSection s, pre.length + Spec.sectionLen s) :=
  readSection_buildSection h dek mac nonce pre post s wf hpre

/-- SB 2.1: the ROM model, holding the same KEK, accepts every file the builder model produces and reports exactly
    what was given: versions, build number, flags, timestamp, block counts/offsets, DEK and MAC key, every section
    with its id and every command, and the signature obligation `(signedLen, signature, certBlock)`. -/
theorem rom_accepts_v21 (h : CryptoLaws c) (cfg : Cfg) (wf : Spec.WF21 cfg) :
    Rom.romV21 c cfg.kek (buildV21 c cfg) = .ok (Spec.expected21 cfg) := romV21_buildV21 h cfg wf

/- Full-strength statement (FALSE on the current code, known finding C04-load-count-padded): the ROM reports
   `expected21Exact cfg` (every LOAD with exactly the given bytes) for every well-formed `cfg`.  Refuting example:
   one section with `.load 0 [1] 0 0` — the file says 16 bytes, the ROM loads `1 :: 15 zeros`.
   Proved: it is exact whenever every LOAD's data is a multiple of 16 bytes long (and `rom_load_prefix` says what is
   written otherwise: the data followed by fewer than 16 zero bytes). -/
theorem rom_accepts_v21_exact_partial (h : CryptoLaws c) (cfg : Cfg) (wf : Spec.WF21 cfg) (hal : loadsAligned cfg) :
    Rom.romV21 c cfg.kek (buildV21 c cfg) = .ok (expected21Exact cfg) := by
  rw [← expected21_exact cfg hal]; exact romV21_buildV21 h cfg wf

theorem rom_accepts_v20_exact_partial (h : CryptoLaws c) (cfg : Cfg) (signed : Bool) (wf : Spec.WF20 cfg signed)
    (hal : loadsAligned cfg) :
    Rom.romV20 c cfg.kek (buildV20 c cfg signed) = .ok (expected20Exact cfg signed) := by
  rw [← expected20_exact cfg signed hal]; exact romV20_buildV20 h cfg signed wf

/-- SB 2.0, signed (certificate section, signature at the end) and unsigned -/
theorem rom_accepts_v20 (h : CryptoLaws c) (cfg : Cfg) (signed : Bool) (wf : Spec.WF20 cfg signed) :
    Rom.romV20 c cfg.kek (buildV20 c cfg signed) = .ok (Spec.expected20 cfg signed) := romV20_buildV20 h cfg signed wf

/-! ### SPSDK's own parser (Model/Sb2Parse.lean: `BootImageV21.parse` / `BootImageV20.parse` as the code is)

    The certificate block is opaque: `cp` stands for `CertBlockV1.parse`, `ci` for what the image parser uses of its result
    (`raw_size`, `signature_size`, `verify_data`).  Hypotheses: `cp` recognises the block that was put into the file, with
    its length and signature size, and `verify_data` accepts the signer's signature over the signed range (that is
    `CryptoLaws.verify_sign` for the real pair; C02/C03 own the certificate block).  The KEK has a legal AES length and the
    version numbers are BCD (otherwise `BcdVersion3` refuses them — the builder does, too). -/

/-- `BootSectionV2.parse` on a section built for its position: uid, effective MAC count, the commands in canonical
    form, and the counter has advanced by the section's length in blocks -/
theorem parser_section_roundtrip (h : CryptoLaws c) (dek mac nonce pre post : Bytes) (s : Section)
    (wf : Spec.WFsection s) (hpre : pre.length % 16 = 0) :
    Parse.parseSection c dek mac nonce
        (pre ++ buildSection c dek mac nonce (nonceCtr nonce + pre.length / 16) s ++ post) pre.length
        (nonceCtr nonce + pre.length / 16)
      = .ok (Parse.parsedSection s, nonceCtr nonce + pre.length / 16 + Spec.sectionLen s / 16) :=
  parseSection_buildSection h dek mac nonce pre post s wf

/-- parser_agrees (SB 2.1): SPSDK's parser returns what was given to the builder — flags, versions, build number,
    timestamp, nonce, DEK/MAC key, EVERY section (uid, MAC count) and every command -/
theorem parser_agrees_v21 (h : CryptoLaws c) (cfg : Cfg) (wf : Spec.WF21 cfg)
    (hk : Parse.kekLenOk cfg.kek = true)
    (hpv : Parse.bcdVersionOk cfg.productVersion) (hcv : Parse.bcdVersionOk cfg.componentVersion)
    (cp : Parse.CertParser) (ci : Parse.CertInfo)
    (hcp : ∀ rest, cp (cfg.certBlock ++ rest) = some ci)
    (hraw : ci.rawSize = cfg.certBlock.length) (hsz : ci.sigSize = cfg.signature.length)
    (hver : ci.verify cfg.signature (cfg.signed21 c) = true) :
    Parse.parseV21 c cp cfg.kek (buildV21 c cfg) = .ok (Parse.parsedOf21 cfg) := by
  have lM := hmacField21_length h cfg
  have lS := shaField21_length h cfg
  have F := v21_facts h cfg wf _ _ (cfg.bsData21 c) lM lS
  have ⟨hok, hrom⟩ := header21_facts cfg wf
  have ok := CfgOk.of21 wf
  have hmod := start21_mod wf
  have smod := ok.secMod
  have flen : (front21 c cfg (hmacField21 c cfg) (shaField21 c cfg) ++ cfg.bsData21 c).length
      = start21 cfg + Spec.sectionsLen cfg.sections := by rw [List.length_append, F.frontLen, bsData21_length h cfg wf]
  have hps := parseSections21_buildSections h cfg.dek cfg.mac cfg.nonce [] cfg.sections ok.sec _
    (by rw [F.frontLen]; exact hmod) (start21 cfg + Spec.sectionsLen cfg.sections + 2) (by have := ok.fuel (Nat.le_refl _); omega)
    true (fun _ => ok.ne)
  rw [List.append_nil, ← bsData21_eq h cfg wf _ _ lM lS, F.frontLen] at hps
  have hsha : (decide (cfg.flags &&& Sb2Consts.v21FlagsShaPresentBit ≠ 0) &&
      (Rom.slice (front21 c cfg (hmacField21 c cfg) (shaField21 c cfg) ++ cfg.bsData21 c) (208 + cfg.certBlock.length) 32 !=
        c.hash .sha256 (cfg.bsData21 c))) = false := by
    rcases shaLen21_cases cfg with ⟨-, hs, hl⟩ | ⟨hs, -, -⟩
    · have := F.shaAt
      rw [hl] at this
      rw [this, shaField21, hs, if_pos rfl, bne_self_eq_false, Bool.and_false]
    · exact Bool.and_eq_false_imp.2 (fun hd => absurd (of_decide_eq_true hd) hs)
  have hidx : 208 + cfg.certBlock.length + (if cfg.flags &&& Sb2Consts.v21FlagsShaPresentBit ≠ 0 then 32 else 0)
      = 208 + cfg.certBlock.length + shaLen21 cfg := by
    rcases shaLen21_cases cfg with ⟨hs, -, hl⟩ | ⟨hs, -, hl⟩ <;> rw [hl]
    · exact congrArg (208 + cfg.certBlock.length + ·) (if_pos hs)
    · exact congrArg (208 + cfg.certBlock.length + ·) (if_neg hs)
  have hst : 208 + cfg.certBlock.length + shaLen21 cfg + cfg.signature.length = start21 cfg := rfl
  have hstop : Spec.fileLen21 cfg / 16 * 16 = start21 cfg + Spec.sectionsLen cfg.sections := by rw [fileLen21_eq]; omega
  have hdrop : (front21 c cfg (hmacField21 c cfg) (shaField21 c cfg) ++ cfg.bsData21 c).drop (start21 cfg) = cfg.bsData21 c := by
    rw [← F.frontLen]; exact List.drop_left
  have hver' : ci.verify cfg.signature (encodeImageHdr cfg.header21 ++ hmacField21 c cfg ++ keyBlob c cfg.kek cfg.dek cfg.mac ++
      cfg.certBlock ++ shaField21 c cfg) = true := hver
  rw [buildV21_eq, Parse.parseV21, unwrapKeys_ok h cfg.kek cfg.dek cfg.mac _ hk (by rw [flen]; unfold start21; omega) F.kwAt ok.dek ok.mac]
  simp only [Sb2Consts.imageHeaderFmtSize, F.take96, decodeImageHdr_encode _ hok hpv hcv, hrom, hd21, headerKeysLen_eq,
    Sb2Consts.v21Sha256Size, F.certDrop, hcp, hraw, hsz, hidx, F.sigAt, F.signedAt, decide_eq_true_eq, flen, hst, hstop, hver', hdrop]
  rw [if_neg (fun hne => hne rfl), if_neg (by decide), if_neg (by omega), hps]
  simp only [hsha]
  rfl

/-- parser_agrees (SB 2.0, signed and unsigned; section ids must be distinct — `add_boot_section` refuses duplicates) -/
theorem parser_agrees_v20 (h : CryptoLaws c) (cfg : Cfg) (signed : Bool) (wf : Spec.WF20 cfg signed)
    (hk : Parse.kekLenOk cfg.kek = true)
    (hpv : Parse.bcdVersionOk cfg.productVersion) (hcv : Parse.bcdVersionOk cfg.componentVersion)
    (hu : (cfg.sections.map (·.uid)).Nodup)
    (cp : Parse.CertParser) (ci : Parse.CertInfo)
    (hcp : signed = true → ∀ rest, cp (cfg.certBlock ++ rest) = some ci)
    (hraw : signed = true → ci.rawSize = cfg.certBlock.length)
    (hver : signed = true → ci.verify cfg.signature (cfg.body20 c true) = true) :
    Parse.parseV20 c cp cfg.kek (buildV20 c cfg signed) = .ok (Parse.parsedOf20 cfg signed) := by
  have ⟨hok, hrom⟩ := header20_facts cfg signed wf
  have ok := CfgOk.of20 wf
  have smod := ok.secMod
  have ⟨lcs, mcs⟩ := certSect20_length h cfg signed wf
  have hbl := bodyLen20_eq cfg signed
  have hbody := body20_length h cfg signed wf
  have F := v20_facts h cfg _ _ (sig20 cfg signed) ok hok (by rw [lcs]; exact mcs)
  have lP := front20_length h cfg signed wf
  have flen := F.len
  rw [lcs, ← hbl, ← buildV20_eq] at flen
  have hps := parseSections20_buildSections h cfg.dek cfg.mac cfg.nonce (sig20 cfg signed) cfg.sections ok.sec (front20 c cfg signed)
    (by rw [lP]; omega) ((buildV20 c cfg signed).length + 2)
    (by have := ok.fuel (Nat.le_refl _); rw [flen, hbl]; omega) [] (fun _ _ => List.not_mem_nil) hu
  rw [show front20 c cfg signed ++ buildSections c cfg.dek cfg.mac cfg.nonce (nonceCtr cfg.nonce + (front20 c cfg signed).length / 16)
      cfg.sections ++ sig20 cfg signed = buildV20 c cfg signed from (buildV20_front h cfg signed wf).symm, lP, ← hbl] at hps
  have hdec : Parse.decodeImageHdr ((buildV20 c cfg signed).take 96) = .ok (hd20 cfg signed) := by
    rw [buildV20_eq, F.take96, decodeImageHdr_encode _ hok hpv hcv, hrom]
  have hm : Rom.slice (buildV20 c cfg signed) 96 32 = Crypto.hmac c .sha256 cfg.mac ((buildV20 c cfg signed).take 96) := by
    rw [buildV20_eq, F.hmacAt, F.take96]; rfl
  have hstop : Spec.bodyLen20 cfg signed / 16 * 16 = Spec.bodyLen20 cfg signed := (expected20_offsets h cfg signed wf).2
  have hkw : Rom.slice (buildV20 c cfg signed) 128 72 = _ := F.kwAt
  rw [Parse.parseV20, unwrapKeys_ok h cfg.kek cfg.dek cfg.mac _ hk (by rw [flen, hbl]; omega) hkw ok.dek ok.mac]
  simp only [Sb2Consts.imageHeaderFmtSize, Sb2Consts.v20HeaderMacSize, hm, hdec, hd20, hstop, headerKeysLen_eq]
  rw [if_neg (fun hne => hne rfl), if_neg (by decide)]
  cases signed
  · rw [show certLen20 cfg false = 0 from rfl] at hps
    simp only [Bool.false_eq_true, if_false, Sb2Consts.v20FlagsSigned, Nat.reduceEqDiff]
    rw [hps]
    rfl
  · obtain ⟨rest, hshape⟩ := F.shape
    have hd208 : (buildV20 c cfg true).drop 208 = buildCertSection c cfg.dek cfg.mac cfg.nonce
        (nonceCtr cfg.nonce + 208 / 16) cfg.certBlock ++ rest := by
      rw [buildV20_eq, hshape, List.append_assoc, ← F.preLen]
      exact List.drop_left.trans (by rw [certSect20, if_pos rfl])
    obtain ⟨c1, c2, c5, c3, c4⟩ := certSection_facts h cfg.dek cfg.mac cfg.nonce cfg.certBlock rest _ _ hd208
    have c2' := decodeHdr_encodeHdr _ (certHdr_inRange wf) []
    rw [List.append_nil, ← c2] at c2'
    have e0 : certLen20 cfg true = 80 + cfg.certBlock.length := rfl
    rw [e0] at mcs hps
    have hcsec : Parse.parseCertSection c cp cfg.dek cfg.mac cfg.nonce (buildV20 c cfg true) 208 (nonceCtr cfg.nonce + 208 / 16)
        = .ok (ci, 80 + cfg.certBlock.length) := by
      rw [Parse.parseCertSection, if_neg (fun hne => hne c1), c2']
      simp only []
      rw [if_neg (fun hne => hne rfl), if_neg (fun hne => hne rfl), if_neg (fun hne => hne rfl), c3, hcp rfl]
      simp only [hraw rfl]
      rw [c4, if_neg (fun hne => hne c5), if_neg (by omega)]
    have htake : (buildV20 c cfg true).take (Spec.bodyLen20 cfg true) = cfg.body20 c true := by
      rw [← hbody]; exact List.take_left' rfl
    have hdrop : (buildV20 c cfg true).drop (Spec.bodyLen20 cfg true) = cfg.signature := by
      rw [← hbody]; exact List.drop_left' rfl
    simp only [if_true, Sb2Consts.v20FlagsSigned, hcsec, hdrop, htake, hver rfl, Bool.not_true, Bool.false_eq_true, if_false]
    rw [show nonceCtr cfg.nonce + 208 / 16 + (80 + cfg.certBlock.length) / 16
      = nonceCtr cfg.nonce + (208 + (80 + cfg.certBlock.length)) / 16 by omega, hps]
    rfl

/-- parser and ROM model see the same commands: the parsed object of a well-formed command, exported again, is decoded
    by the ROM model to the same action as the original -/
theorem parser_rom_consistent (x : Cmd) (wf : Spec.WFcmd x) (rest : Bytes) :
    decodeCmd (encodeCmd x ++ rest) = .ok (x.canon, (encodeCmd x).length) ∧
    Rom.readCmd (encodeCmd x ++ rest) = .ok (Spec.view x, (encodeCmd x).length) :=
  ⟨cmd_roundtrip x wf rest, rom_cmd_roundtrip x wf rest⟩

/-- KEK lengths: SPSDK's parser, given a KEK that is not 16, 24 or 32 bytes long (the lengths AES key unwrap accepts),
    raises for EVERY input file — it never returns content (empty KEK: SPSDKError, other lengths: ValueError of
    `cryptography`); the tie is the `tamper`/`images` streams' wrong-KEK trials and stream `kek_len` -/
theorem parser_illegal_kek_len (cp : Parse.CertParser) (kek data : Bytes) (hk : Parse.kekLenOk kek = false) :
    (∃ e, Parse.parseV21 c cp kek data = .error e) ∧ (∃ e, Parse.parseV20 c cp kek data = .error e) := by
  have hu : ∃ e, Parse.unwrapKeys c kek data = .error e := by
    unfold Parse.unwrapKeys
    by_cases he : kek.isEmpty = true
    · rw [if_pos he]; exact ⟨_, rfl⟩
    · rw [if_neg he, hk]; exact ⟨_, rfl⟩
  obtain ⟨e, he⟩ := hu
  constructor
  · refine ⟨e, ?_⟩; unfold Parse.parseV21; rw [he]
  · refine ⟨e, ?_⟩; unfold Parse.parseV20; rw [he]

/-- the header describes the file: image size, first boot tag, certificate block, key blob, header size -/
theorem header_describes_file (h : CryptoLaws c) (cfg : Cfg) (wf : Spec.WF21 cfg) :
    (buildV21 c cfg).length = (Spec.expected21 cfg).imageBlocks * 16 ∧
    (buildV21 c cfg).drop ((Spec.expected21 cfg).firstBootTagBlock * 16) = cfg.bsData21 c ∧
    (cfg.bsData21 c).length = Spec.sectionsLen cfg.sections ∧
    Rom.slice (buildV21 c cfg) (Spec.expected21 cfg).offsetToCert cfg.certBlock.length = cfg.certBlock ∧
    Rom.slice (buildV21 c cfg) ((Spec.expected21 cfg).keyBlobBlock * 16) ((Spec.expected21 cfg).keyBlobBlockCount * 16)
      = keyBlob c cfg.kek cfg.dek cfg.mac ∧
    (buildV21 c cfg).take ((Spec.expected21 cfg).headerBlocks * 16) = encodeImageHdr cfg.header21 := by
  have F := v21_facts h cfg wf _ _ (cfg.bsData21 c) (hmacField21_length h cfg) (shaField21_length h cfg)
  have hm := start21_mod wf
  have sm := (CfgOk.of21 wf).secMod
  refine ⟨?_, ?_, bsData21_length h cfg wf, F.certAt, F.kbAt, F.take96⟩
  · rw [buildV21_length h cfg wf]
    show _ = Spec.fileLen21 cfg / 16 * 16
    rw [fileLen21_eq]; omega
  · rw [start21_aligned cfg wf, ← F.frontLen, buildV21_eq]; exact List.drop_left

/-- the signed range is header ‖ header MAC ‖ key blob ‖ certificate block ‖ [SHA-256 of the sections], the
    signature follows it and ends where the first boot section begins -/
theorem signed_range_v21 (h : CryptoLaws c) (cfg : Cfg) (wf : Spec.WF21 cfg) :
    (buildV21 c cfg).take (Spec.expected21 cfg).signedLen = cfg.signed21 c ∧
    Rom.slice (buildV21 c cfg) (Spec.expected21 cfg).signedLen cfg.signature.length = cfg.signature ∧
    (Spec.expected21 cfg).signedLen + cfg.signature.length = (Spec.expected21 cfg).firstBootTagBlock * 16 :=
  Sb2.signed_range_v21 h cfg wf

/-- the signed bytes, spelled out -/
theorem signed_range_parts (cfg : Cfg) :
    cfg.signed21 c =
      encodeImageHdr cfg.header21 ++
      hmac256 c cfg.mac (((cfg.bsData21 c).drop 16).take ((cfg.sections.head?.map Section.effHmacCount).getD 0 * 32 + 32)) ++
      keyBlob c cfg.kek cfg.dek cfg.mac ++ cfg.certBlock ++
      (if cfg.shaPresent then c.hash .sha256 (cfg.bsData21 c) else []) := rfl

/-! ## Reductions (DESIGN §4): refused unless a primitive is broken -/

theorem wrong_kek (h : CryptoLaws c) (cfg : Cfg) (wf : Spec.WF21 cfg) (kek' : Bytes) (hk : kek' ≠ cfg.kek) :
    Rom.romV21 c kek' (buildV21 c cfg) = .error .badKeyBlob ∨ Break c := by
  have F := v21_facts h cfg wf _ _ (cfg.bsData21 c) (hmacField21_length h cfg) (shaField21_length h cfg)
  rw [buildV21_eq]
  refine (readKeys_wrong cfg.kek kek' cfg.dek cfg.mac _ (hd21 cfg) rfl rfl ?_ F.kwAt hk).imp_left
    (romV21_of_readKeys_error F.readHdr rfl rfl ((flags_signed_iff cfg.flags).2 wf.2.2.2.2.2.2.2.2.2.1) rfl)
  rw [List.length_append, F.frontLen]; unfold start21; omega

theorem wrong_kek_v20 (h : CryptoLaws c) (cfg : Cfg) (signed : Bool) (wf : Spec.WF20 cfg signed) (kek' : Bytes)
    (hk : kek' ≠ cfg.kek) :
    Rom.romV20 c kek' (buildV20 c cfg signed) = .error .badKeyBlob ∨ Break c := by
  have ⟨hok, hrom⟩ := header20_facts cfg signed wf
  have ⟨lcs, mcs⟩ := certSect20_length h cfg signed wf
  have F := v20_facts h cfg _ _ (sig20 cfg signed) (CfgOk.of20 wf) hok (by rw [lcs]; exact mcs)
  rw [buildV20_eq]
  exact (readKeys_wrong cfg.kek kek' cfg.dek cfg.mac _ (hd20 cfg signed) rfl rfl (by rw [F.len]; omega) F.kwAt hk).imp_left
    (romV20_of_readKeys_error (hrom ▸ F.readHdr) rfl rfl rfl)

/-- the property's last sentence, for SPSDK's parser: with a different KEK it raises (whatever the certificate
    parser does) — unless RFC 3394 integrity is broken -/
theorem parser_wrong_kek (h : CryptoLaws c) (cfg : Cfg) (wf : Spec.WF21 cfg) (cp : Parse.CertParser)
    (kek' : Bytes) (hk : kek' ≠ cfg.kek) :
    (∃ e, Parse.parseV21 c cp kek' (buildV21 c cfg) = .error e) ∨ Break c := by
  have F := v21_facts h cfg wf _ _ (cfg.bsData21 c) (hmacField21_length h cfg) (shaField21_length h cfg)
  have hl := buildV21_length h cfg wf
  rw [buildV21_eq] at hl ⊢
  refine (unwrapKeys_wrong cfg.kek kek' cfg.dek cfg.mac _ (by rw [hl, fileLen21_eq]; unfold start21; omega) F.kwAt hk).imp_left
    (Exists.imp fun e he => ?_)
  rw [Parse.parseV21, he]

theorem parser_wrong_kek_v20 (h : CryptoLaws c) (cfg : Cfg) (signed : Bool) (wf : Spec.WF20 cfg signed)
    (cp : Parse.CertParser) (kek' : Bytes) (hk : kek' ≠ cfg.kek) :
    (∃ e, Parse.parseV20 c cp kek' (buildV20 c cfg signed) = .error e) ∨ Break c := by
  have ⟨lcs, mcs⟩ := certSect20_length h cfg signed wf
  have F := v20_facts h cfg _ _ (sig20 cfg signed) (CfgOk.of20 wf) (header20_facts cfg signed wf).1 (by rw [lcs]; exact mcs)
  rw [buildV20_eq]
  refine (unwrapKeys_wrong cfg.kek kek' cfg.dek cfg.mac _ (by rw [F.len]; omega) F.kwAt hk).imp_left (Exists.imp fun e he => ?_)
  rw [Parse.parseV20, he]

/-- a boot section whose ciphertext body was replaced (same length) is refused — or two different byte strings with
    the same HMAC-SHA256 under the MAC key are exhibited; `S` = the section as built for its position -/
theorem section_body_tampered (h : CryptoLaws c) (dek mac nonce pre post : Bytes) (s : Section)
    (wf : Spec.WFsection s) (hpre : pre.length % 16 = 0) (body' : Bytes)
    (hlen : body'.length = Spec.cmdsLen s.cmds)
    (hne : body' ≠ (buildSection c dek mac nonce (nonceCtr nonce + pre.length / 16) s).drop (48 + 32 * Spec.macCount s)) :
    Rom.readSection c dek mac nonce
        (pre ++ (buildSection c dek mac nonce (nonceCtr nonce + pre.length / 16) s).take (48 + 32 * Spec.macCount s) ++ body' ++ post)
        pre.length = .error .badSectionMac ∨ Break c :=
  readSection_body_tampered h dek mac nonce pre post s wf hpre body' hlen hne

/-- the same for the encrypted section header -/
theorem section_header_tampered (h : CryptoLaws c) (dek mac nonce pre post : Bytes) (s : Section)
    (wf : Spec.WFsection s) (hpre : pre.length % 16 = 0) (eh' : Bytes) (hlen : eh'.length = 16)
    (hne : eh' ≠ (buildSection c dek mac nonce (nonceCtr nonce + pre.length / 16) s).take 16) :
    Rom.readSection c dek mac nonce
        (pre ++ eh' ++ (buildSection c dek mac nonce (nonceCtr nonce + pre.length / 16) s).drop 16 ++ post)
        pre.length = .error .badSectionMac ∨ Break c :=
  readSection_header_tampered h dek mac nonce pre post s wf eh' hlen hne

/-- a modified header MAC or MAC table is always refused (the ROM recomputes and compares; no assumption needed) -/
theorem section_macs_tampered (h : CryptoLaws c) (dek mac nonce pre post : Bytes) (s : Section)
    (wf : Spec.WFsection s) (hpre : pre.length % 16 = 0) (macs' : Bytes)
    (hlen : macs'.length = 32 + 32 * Spec.macCount s)
    (hne : macs' ≠ ((buildSection c dek mac nonce (nonceCtr nonce + pre.length / 16) s).drop 16).take (32 + 32 * Spec.macCount s)) :
    Rom.readSection c dek mac nonce
        (pre ++ (buildSection c dek mac nonce (nonceCtr nonce + pre.length / 16) s).take 16 ++ macs' ++
          (buildSection c dek mac nonce (nonceCtr nonce + pre.length / 16) s).drop (48 + 32 * Spec.macCount s) ++ post)
        pre.length = .error .badSectionMac :=
  readSection_macs_tampered h dek mac nonce pre post s wf hpre macs' hlen hne

/-- Signature coverage (SB 2.1).  The signature is the signer's output for the signed range of the built file.  Change the
    file anywhere inside that range (same length): whatever prefix length `n` a loader or parser derives from the tampered
    header, the original signature verifying over that prefix exhibits a signature forgery.  (Injectivity of the range
    extraction: `take_ne_of_diff`.)  With `rom_accepts_v21`/`signed_range_v21` this says: the ROM's obligation
    `(signedLen, signature)` cannot be met by a file tampered inside the signed range while the signature bytes are the
    original ones.  A *different* byte string in the signature field that verifies is an existential forgery of the
    signature scheme itself and is outside `Break.sigForgery`. -/
theorem signed_range_tamper (h : CryptoLaws c) (cfg : Cfg) (wf : Spec.WF21 cfg) (alg : SigAlg) (sk : PrivKey) (r : Rand)
    (hsig : cfg.signature = c.sign alg sk (cfg.signed21 c) r)
    (file' : Bytes) (hl : file'.length = (buildV21 c cfg).length)
    (i : Nat) (hi : i < (Spec.expected21 cfg).signedLen) (hd : file'[i]? ≠ (buildV21 c cfg)[i]?)
    (n : Nat) (hv : c.verify alg (c.pubOf sk) (file'.take n) cfg.signature = true) : Break c := by
  have ⟨e1, _, e3⟩ := signed_range_v21 h cfg wf
  have hle : (Spec.expected21 cfg).signedLen ≤ (buildV21 c cfg).length := by
    have := (header_describes_file h cfg wf).1
    have hb : (Spec.expected21 cfg).firstBootTagBlock ≤ (Spec.expected21 cfg).imageBlocks := by
      simp only [Spec.expected21, Spec.fileLen21]
      apply Nat.div_le_div_right
      omega
    have := Nat.mul_le_mul_right 16 hb
    omega
  have hne := take_ne_of_diff (buildV21 c cfg) file' _ i hl hle hi hd n
  rw [e1] at hne
  rw [hsig] at hv
  exact Break.sigForgery alg sk (cfg.signed21 c) (file'.take n) r (Ne.symm hne) hv

/-- the same for signed SB 2.0, where the signed message is everything in front of the signature -/
theorem signed_range_tamper_v20 (h : CryptoLaws c) (cfg : Cfg) (wf : Spec.WF20 cfg true) (alg : SigAlg) (sk : PrivKey) (r : Rand)
    (hsig : cfg.signature = c.sign alg sk (cfg.body20 c true) r)
    (file' : Bytes) (hl : file'.length = (buildV20 c cfg true).length)
    (i : Nat) (hi : i < Spec.bodyLen20 cfg true) (hd : file'[i]? ≠ (buildV20 c cfg true)[i]?)
    (n : Nat) (hv : c.verify alg (c.pubOf sk) (file'.take n) cfg.signature = true) : Break c := by
  have hb := body20_length h cfg true wf
  have hle : Spec.bodyLen20 cfg true ≤ (buildV20 c cfg true).length := by
    simp only [buildV20, List.length_append, hb]; omega
  have hne := take_ne_of_diff (buildV20 c cfg true) file' _ i hl hle hi hd n
  have ht : (buildV20 c cfg true).take (Spec.bodyLen20 cfg true) = cfg.body20 c true := by
    simp only [buildV20, if_true]
    rw [← hb, List.take_left]
  rw [ht] at hne
  rw [hsig] at hv
  exact Break.sigForgery alg sk (cfg.body20 c true) (file'.take n) r (Ne.symm hne) hv

/-- every header value the builder was given comes back from the ROM model reading the exported file: flags (with or
    without the SHA bit), timestamp, product and component version (each its own BCD triple), build number, nonce —
    for ALL values in range — together with the derived layout words the format prescribes
    (header blocks 6, key blob at block 8 with 5 blocks, certificate block at byte 208). -/
theorem rom_header_fields_v21 (h : CryptoLaws c) (cfg : Cfg) (wf : Spec.WF21 cfg) :
    (Rom.romV21 c cfg.kek (buildV21 c cfg)).map
        (fun r => (r.major, r.minor, r.flags, r.timestamp, r.productVersion, r.componentVersion, r.buildNumber, r.nonce,
                   r.headerBlocks, r.keyBlobBlock, r.keyBlobBlockCount, r.offsetToCert))
      = .ok (2, 1, cfg.flags, cfg.timestamp, cfg.productVersion, cfg.componentVersion, cfg.buildNumber, cfg.nonce, 6, 8, 5, 208) := by
  rw [rom_accepts_v21 h cfg wf]; rfl

/-- SB 2.0 twin (flags are 8 = signed / 4 = encrypted only; `cfg.flags` is not an input of `BootImageV20`) -/
theorem rom_header_fields_v20 (h : CryptoLaws c) (cfg : Cfg) (signed : Bool) (wf : Spec.WF20 cfg signed) :
    (Rom.romV20 c cfg.kek (buildV20 c cfg signed)).map
        (fun r => (r.major, r.minor, r.flags, r.timestamp, r.productVersion, r.componentVersion, r.buildNumber, r.nonce,
                   r.headerBlocks, r.keyBlobBlock, r.keyBlobBlockCount))
      = .ok (2, 0, if signed then 8 else 4, cfg.timestamp, cfg.productVersion, cfg.componentVersion, cfg.buildNumber,
             cfg.nonce, 6, 8, 5) := by
  rw [rom_accepts_v20 h cfg signed wf]; rfl

/-- multi-section images, any number of sections: the ROM sees the sections in the order given, each with its id,
    flags BOOTABLE|LAST_SECT (SPSDK sets the last-section bit on every section), a MAC table of
    `min (max hmac_count 1) (blocks of the section)` entries and its commands; the header announces the first id,
    the sum of the table sizes, and `image_blocks` counts every section's `48 + 32·macs + stream` bytes. -/
theorem rom_sections_v21 (h : CryptoLaws c) (cfg : Cfg) (wf : Spec.WF21 cfg) :
    (Rom.romV21 c cfg.kek (buildV21 c cfg)).map
        (fun r => (r.sections.map (fun s => (s.uid, s.flags, s.hmacCount, s.cmds)), r.firstBootSectionId,
                   r.maxSectionMacCount, r.imageBlocks * 16))
      = .ok (cfg.sections.map (fun s => (s.uid, 0x8001, min (max s.hmacCount 1) (Spec.cmdsLen s.cmds / 16), s.cmds.map Spec.view)),
             (cfg.sections.head?.map (·.uid)).getD 0,
             (cfg.sections.map (fun s => min (max s.hmacCount 1) (Spec.cmdsLen s.cmds / 16))).sum,
             (Spec.expected21 cfg).firstBootTagBlock * 16 +
               (cfg.sections.map (fun s => 48 + 32 * min (max s.hmacCount 1) (Spec.cmdsLen s.cmds / 16) + Spec.cmdsLen s.cmds)).sum) := by
  have e : (Spec.expected21 cfg).imageBlocks * 16
      = (Spec.expected21 cfg).firstBootTagBlock * 16 + Spec.sectionsLen cfg.sections := by
    rw [start21_aligned cfg wf, ← fileLen21_eq]
    exact Nat.div_mul_cancel (Nat.dvd_of_mod_eq_zero (fileLen21_mod wf))
  rw [rom_accepts_v21 h cfg wf, Except.map, e]
  simp only [Spec.expected21, List.map_map]
  rfl

/-- Tamper side, whole image (SB 2.1): change ONE byte anywhere behind the first boot tag — an encrypted section
    header, its MAC, any MAC-table entry, any ciphertext block, of ANY section of an image with any number of sections —
    and the ROM model refuses the file, or two different byte strings with the same HMAC-SHA256 under the image's MAC key
    are exhibited (`Break.hmacForgery`).  Induction over the section list on top of `section_header_tampered`,
    `section_macs_tampered`, `section_body_tampered`.  Together with `signed_range_tamper` (bytes in front of the
    signature) this covers every region of the file except the signature bytes themselves. -/
theorem image_section_byte_tampered_v21 (h : CryptoLaws c) (cfg : Cfg) (wf : Spec.WF21 cfg) (i : Nat) (v : UInt8)
    (hi1 : (Spec.expected21 cfg).firstBootTagBlock * 16 ≤ i) (hi2 : i < (buildV21 c cfg).length)
    (hv : some v ≠ (buildV21 c cfg)[i]?) :
    (∃ e, Rom.romV21 c cfg.kek ((buildV21 c cfg).set i v) = .error e) ∨ Break c := by
  rw [start21_aligned cfg wf] at hi1
  have ok := CfgOk.of21 wf
  have lM := hmacField21_length h cfg
  have lS := shaField21_length h cfg
  have lF := (v21_facts h cfg wf _ _ [] lM lS).frontLen
  have lbs := bsData21_length h cfg wf
  rw [buildV21_length h cfg wf, fileLen21_eq] at hi2
  rw [buildV21_eq, ← List.append_nil (_ ++ cfg.bsData21 c)] at hv ⊢
  obtain ⟨e1, -, e3⟩ := set_piece (by rw [lF]; exact hi1) (by rw [lF, lbs]; exact hi2) hv
  rw [lF] at e1 e3
  rw [e1, List.append_nil, romV21_front h cfg wf _ _ _ lM lS (e3.trans lbs), List.length_append, lF, e3, lbs]
  rw [List.append_nil, List.getElem?_append_right (by rw [lF]; exact hi1), lF, bsData21_eq h cfg wf _ _ lM lS] at hv
  have := readSections_byte_tampered h cfg.dek cfg.mac cfg.nonce [] cfg.sections ok.sec _ (by rw [lF]; exact start21_mod wf)
    ((start21 cfg + Spec.sectionsLen cfg.sections) / 16 + 1) (ok.fuel (Nat.le_add_left _ _)) (i - start21 cfg) v (by omega) hv
  rw [List.append_nil, ← bsData21_eq h cfg wf _ _ lM lS, lF] at this
  refine this.imp_left (fun ⟨e, ke⟩ => ?_)
  rw [ke]
  exact tail21_of_error _ _ _ _ _ _ _ _ _ e

/-- the same for SB 2.0, signed (certificate section in front of the boot sections, signature behind them) and unsigned:
    one changed byte anywhere between the first boot tag and `image_blocks * 16` is refused or exhibits an HMAC forgery -/
theorem image_section_byte_tampered_v20 (h : CryptoLaws c) (cfg : Cfg) (signed : Bool) (wf : Spec.WF20 cfg signed)
    (i : Nat) (v : UInt8)
    (hi1 : (Spec.expected20 cfg signed).firstBootTagBlock * 16 ≤ i) (hi2 : i < (Spec.expected20 cfg signed).imageBlocks * 16)
    (hv : some v ≠ (buildV20 c cfg signed)[i]?) :
    (∃ e, Rom.romV20 c cfg.kek ((buildV20 c cfg signed).set i v) = .error e) ∨ Break c := by
  obtain ⟨e1, e2⟩ := expected20_offsets h cfg signed wf
  rw [e1] at hi1
  rw [e2, bodyLen20_eq] at hi2
  have ok := CfgOk.of20 wf
  have mcs := (certSect20_length h cfg signed wf).2
  have lF := front20_length h cfg signed wf
  have lbs := bsData20_length h cfg signed wf
  rw [buildV20_front h cfg signed wf] at hv ⊢
  unfold bsData20 at hv lbs ⊢
  obtain ⟨e1, -, e3⟩ := set_piece (by rw [lF]; exact hi1) (by rw [lbs, lF]; exact hi2) hv
  rw [List.getElem?_append_left (by rw [List.length_append, lbs, lF]; exact hi2),
    List.getElem?_append_right (by rw [lF]; exact hi1)] at hv
  have := readSections_byte_tampered h cfg.dek cfg.mac cfg.nonce (sig20 cfg signed) cfg.sections ok.sec _ (by rw [lF]; omega)
    ((Spec.bodyLen20 cfg signed + (sig20 cfg signed).length) / 16 + 1) (ok.fuel (by rw [bodyLen20_eq]; omega)) _ v
    (by rw [lF]; omega) hv
  rw [lF, ← bodyLen20_eq] at this
  rw [e1, romV20_front h cfg signed wf _ (e3.trans lbs), List.length_append, List.length_append, e3, lbs, lF, ← bodyLen20_eq]
  refine this.imp_left (fun ⟨e, ke⟩ => ?_)
  rw [ke]; exact ⟨e, rfl⟩

/-- one changed byte in the header-MAC field (bytes 96..127) of an SB 2.1 file: always refused — the ROM recomputes the
    HMAC over the first section's MAC table and compares; no crypto assumption -/
theorem header_mac_byte_tampered_v21 (h : CryptoLaws c) (cfg : Cfg) (wf : Spec.WF21 cfg) (i : Nat) (v : UInt8)
    (h1 : 96 ≤ i) (h2 : i < 128) (hv : some v ≠ (buildV21 c cfg)[i]?) :
    Rom.romV21 c cfg.kek ((buildV21 c cfg).set i v) = .error .badHeaderMac := by
  have lH : (encodeImageHdr cfg.header21).length = 96 := encodeImageHdr_length _ wf.2.2.1 wf.2.2.2.1
  have lM := hmacField21_length h cfg
  have e : buildV21 c cfg = encodeImageHdr cfg.header21 ++ hmacField21 c cfg ++
      (keyBlob c cfg.kek cfg.dek cfg.mac ++ (cfg.certBlock ++ (shaField21 c cfg ++ (cfg.signature ++ cfg.bsData21 c)))) := by
    rw [buildV21_eq, front21]; simp only [List.append_assoc]
  rw [e] at hv ⊢
  obtain ⟨e1, e2, e3⟩ := set_piece (by rw [lH]; exact h1) (by rw [lH, lM]; exact h2) hv
  have key := romV21_hmac_field h cfg wf _ (e3.trans lM)
  rw [if_pos e2, front21] at key
  rw [e1, ← key]; simp only [List.append_assoc]

/-- one changed byte in the SHA-256 field (present with flag 0x8000, in front of the signature; without the flag the range
    `[offsetToCert + |cert|, signedLen)` is empty): always refused.
    Region map of an SB 2.1 file: header, key blob, certificate block → `signed_range_tamper` (signature forgery);
    header MAC, SHA-256 → refused unconditionally (these two; they are inside the signed range as well);
    boot sections → `image_section_byte_tampered_v21` (HMAC forgery); signature bytes → not covered (existential forgery). -/
theorem sha_byte_tampered_v21 (h : CryptoLaws c) (cfg : Cfg) (wf : Spec.WF21 cfg) (i : Nat) (v : UInt8)
    (h1 : (Spec.expected21 cfg).offsetToCert + cfg.certBlock.length ≤ i)
    (h2 : i < (Spec.expected21 cfg).signedLen) (hv : some v ≠ (buildV21 c cfg)[i]?) :
    Rom.romV21 c cfg.kek ((buildV21 c cfg).set i v) = .error .badSha := by
  have e : (Spec.expected21 cfg).signedLen = 208 + cfg.certBlock.length + shaLen21 cfg := rfl
  exact romV21_sha_byte_tampered h cfg wf i v h1 (by omega) hv

/-- SB 2.0: one changed byte in the header-MAC field (bytes 96..127): always refused (the ROM recomputes HMAC(mac key, header)) -/
theorem header_mac_byte_tampered_v20 (h : CryptoLaws c) (cfg : Cfg) (signed : Bool) (wf : Spec.WF20 cfg signed) (i : Nat) (v : UInt8)
    (h1 : 96 ≤ i) (h2 : i < 128) (hv : some v ≠ (buildV20 c cfg signed)[i]?) :
    ∃ e, Rom.romV20 c cfg.kek ((buildV20 c cfg signed).set i v) = .error e := by
  have ⟨hok, hrom⟩ := header20_facts cfg signed wf
  have ok := CfgOk.of20 wf
  obtain ⟨T, lT, e⟩ := buildV20_shape (c := c) cfg signed ok.padding
  have lH : (encodeImageHdr (cfg.header20 signed)).length = 96 := encodeImageHdr_length _ hok.nonce hok.padding
  have lM := hmacSha_length h cfg.mac (encodeImageHdr (cfg.header20 signed))
  rw [e] at hv ⊢
  obtain ⟨e1, e2, e3⟩ := set_piece (by rw [lH]; exact h1) (by rw [lH, lM]; exact h2) hv
  rw [e1]
  refine romV20_header_mac_mismatch h cfg.kek cfg.dek cfg.mac _ _ T ok.dek ok.mac lH (e3.trans lM) lT ?_ e2
  intro h' hr
  rw [List.append_assoc, readImageHdr_encode _ hok, hrom] at hr
  injection hr with hr
  subst hr
  exact ⟨rfl, rfl⟩

/-- SB 2.0: one changed byte in the 96-byte header is refused, or two different headers with the same HMAC-SHA256 under the image's
    MAC key are exhibited.  Hypothesis `hkb`: the changed header, if the ROM can read it at all, still locates the key blob at block 8
    with 5 blocks (true for every byte outside the two 16-bit words at offsets 46..49).  Without it the statement cannot be a reduction
    to `Break`: a redirected key-blob pointer makes the ROM unwrap other bytes of the file, and "some other byte string unwraps under
    the KEK" is not one of `Break`'s cases (for those four bytes the signature covers the header: `signed_range_tamper_v20`). -/
theorem header_byte_tampered_v20 (h : CryptoLaws c) (cfg : Cfg) (signed : Bool) (wf : Spec.WF20 cfg signed) (i : Nat) (v : UInt8)
    (h2 : i < 96) (hv : some v ≠ (buildV20 c cfg signed)[i]?)
    (hkb : ∀ h', Rom.readImageHdr ((buildV20 c cfg signed).set i v) = .ok h' → h'.keyBlobBlock = 8 ∧ h'.keyBlobBlockCount = 5) :
    (∃ e, Rom.romV20 c cfg.kek ((buildV20 c cfg signed).set i v) = .error e) ∨ Break c := by
  have hok := (header20_facts cfg signed wf).1
  have ok := CfgOk.of20 wf
  obtain ⟨T, lT, e⟩ := buildV20_shape (c := c) cfg signed ok.padding
  have lH : (encodeImageHdr (cfg.header20 signed)).length = 96 := encodeImageHdr_length _ hok.nonce hok.padding
  have lM := hmacSha_length h cfg.mac (encodeImageHdr (cfg.header20 signed))
  rw [e, List.append_assoc] at hv hkb ⊢
  rw [List.set_append, if_pos (by rw [lH]; exact h2), ← List.append_assoc] at hkb ⊢
  rw [List.getElem?_append_left (by rw [lH]; exact h2)] at hv
  have hne := set_ne_self _ i v (by rw [lH]; exact h2) hv
  by_cases he : Crypto.hmac c .sha256 cfg.mac (encodeImageHdr (cfg.header20 signed))
      = Crypto.hmac c .sha256 cfg.mac ((encodeImageHdr (cfg.header20 signed)).set i v)
  · exact Or.inr (Break.hmacForgery .sha256 cfg.mac _ _ (Ne.symm hne) he)
  · exact Or.inl (romV20_header_mac_mismatch h cfg.kek cfg.dek cfg.mac _ _ T ok.dek ok.mac (List.length_set.trans lH) lM lT hkb he)

/-- ANY byte string that starts with a 96-byte header, a 32-byte field `M` and this image's wrapped keys, and whose header points at
    them, is refused by the SB 2.0 reader unless `M = HMAC(mac key, header)` — nothing about the rest of the file is assumed -/
theorem v20_header_mac_is_checked (h : CryptoLaws c) (kek dek mac H M T : Bytes) (wdek : dek.length = 32) (wmac : mac.length = 32)
    (lH : H.length = 96) (lM : M.length = 32) (lT : 8 ≤ T.length)
    (hkb : ∀ h', Rom.readImageHdr (H ++ M ++ (Crypto.kwWrap c kek (dek ++ mac) ++ T)) = .ok h' →
      h'.keyBlobBlock = 8 ∧ h'.keyBlobBlockCount = 5)
    (hne : M ≠ Crypto.hmac c .sha256 mac H) :
    ∃ e, Rom.romV20 c kek (H ++ M ++ (Crypto.kwWrap c kek (dek ++ mac) ++ T)) = .error e :=
  romV20_header_mac_mismatch h kek dek mac H M T wdek wmac lH lM lT hkb hne

/-- `image_section_byte_tampered_v21` for exactly the compiled primitives the driver runs -/
theorem exec_image_section_byte_tampered_v21 (cfg : Cfg) (wf : Spec.WF21 cfg) (i : Nat) (v : UInt8)
    (hi1 : (Spec.expected21 cfg).firstBootTagBlock * 16 ≤ i) (hi2 : i < (buildV21 Crypto.execOps cfg).length)
    (hv : some v ≠ (buildV21 Crypto.execOps cfg)[i]?) :
    (∃ e, Rom.romV21 Crypto.execOps cfg.kek ((buildV21 Crypto.execOps cfg).set i v) = .error e) ∨ Break Crypto.execOps :=
  image_section_byte_tampered_v21 Crypto.execOps_laws cfg wf i v hi1 hi2 hv

/-! ## The compiled instance: the driver's `execOps` (FIPS-197 AES, FIPS-180 SHA-256 written in Lean) satisfies the
    laws (Proofs/ExecLaws.lean), so the theorems hold for exactly the functions the harness runs natively -/

theorem exec_rom_accepts_v21 (cfg : Cfg) (wf : Spec.WF21 cfg) :
    Rom.romV21 Crypto.execOps cfg.kek (buildV21 Crypto.execOps cfg) = .ok (Spec.expected21 cfg) :=
  rom_accepts_v21 Crypto.execOps_laws cfg wf

theorem exec_rom_accepts_v20 (cfg : Cfg) (signed : Bool) (wf : Spec.WF20 cfg signed) :
    Rom.romV20 Crypto.execOps cfg.kek (buildV20 Crypto.execOps cfg signed) = .ok (Spec.expected20 cfg signed) :=
  rom_accepts_v20 Crypto.execOps_laws cfg signed wf

/-! ## Non-vacuity and sanity -/

/-- smallest certificate block the ROM can delimit: header with an empty certificate table + 4 root key hashes -/
def demoCert : Bytes :=
  [0x63, 0x65, 0x72, 0x74, 1, 0, 0, 0, 32, 0, 0, 0, 0, 0, 0, 0, 7, 0, 0, 0, 0x70, 1, 0, 0, 0, 0, 0, 0, 0, 0, 0, 0] ++
  List.replicate 128 0

def demoCmds : List Cmd :=
  [.erase 0 0x2800 0 0, .load 0x10 [1, 2, 3, 4, 5] 0x109 0, .fill 0x100 0x5A 8, .jump 0x20000000 7 (some 0x20008000),
   .prog 0x40 4 1 2 0, .versionCheck 1 22, .keystoreToNv 0x1000 9, .memEnable 0 4 0x100, .call 4 5, .tag 0 0 0 0, .nop, .reset]

def demoCfg : Cfg :=
  { kek := List.replicate 32 1, dek := List.replicate 32 2, mac := List.replicate 32 3, nonce := List.replicate 16 4,
    padding := List.replicate 8 0, timestamp := 633830400000000, productVersion := ⟨1, 2, 3⟩, componentVersion := ⟨4, 5, 0x9999⟩,
    buildNumber := 7, flags := 0x8008, certBlock := demoCert, signature := List.replicate 256 0xAA,
    sections := [⟨0, 2, demoCmds⟩, ⟨7, 0, [.reset]⟩] }

example : Parse.kekLenOk demoCfg.kek = true ∧ Parse.bcdVersionOk demoCfg.productVersion ∧ Parse.bcdVersionOk demoCfg.componentVersion ∧
    (demoCfg.sections.map (·.uid)).Nodup := by
  refine ⟨by decide, ⟨by decide, by decide, by decide⟩, ⟨by decide, by decide, by decide⟩, by decide⟩
example : ((Parse.parsedOf21 demoCfg).sections.map (fun s => (s.uid, s.hmacCount, s.cmds.length))) = [(0, 2, 12), (7, 1, 1)] := by decide
example : Spec.WF21 demoCfg := by decide +kernel
/-- hypotheses of `image_section_byte_tampered_v21` are satisfiable: byte 656 (first section's encrypted header) exists -/
example : (Spec.expected21 demoCfg).firstBootTagBlock * 16 = 656 ∧ 656 < Spec.fileLen21 demoCfg := by decide +kernel
example : demoCfg.flags / 0x8000 % 2 = 1 ∧ (Spec.expected21 demoCfg).offsetToCert + demoCfg.certBlock.length = 368 ∧
    (Spec.expected21 demoCfg).signedLen = 400 := by decide +kernel
/-- `hkb` of `header_byte_tampered_v20` is satisfiable: it holds for every changed nonce byte of every well-formed image -/
example (cfg : Cfg) (signed : Bool) (wf : Spec.WF20 cfg signed) (i : Nat) (v : UInt8) (hi : i < 16) :
    ∀ h', Rom.readImageHdr ((buildV20 c cfg signed).set i v) = .ok h' → h'.keyBlobBlock = 8 ∧ h'.keyBlobBlockCount = 5 :=
  hkb_of_nonce_byte cfg signed wf i v hi
/-- hypotheses of `v20_header_mac_is_checked` (lengths) for a concrete instance -/
example : (List.replicate 32 (2 : UInt8)).length = 32 ∧ (List.replicate 96 (0 : UInt8)).length = 96 ∧ 8 ≤ (List.replicate 8 (0 : UInt8)).length := by decide
example : Parse.kekLenOk (List.replicate 17 1) = false ∧ Parse.kekLenOk [] = false := by decide
example : (Spec.expected20 demoCfg true).firstBootTagBlock * 16 = 448 ∧ 448 < (Spec.expected20 demoCfg true).imageBlocks * 16 ∧
    (Spec.expected20 demoCfg false).firstBootTagBlock * 16 = 208 ∧ 208 < (Spec.expected20 demoCfg false).imageBlocks * 16 := by decide +kernel
example : Spec.WF20 demoCfg true ∧ Spec.WF20 demoCfg false := by decide +kernel
example : ∀ x ∈ demoCmds, Spec.WFcmd x := by decide
example : (Spec.expected21 demoCfg).imageBlocks * 16 = 208 + 160 + 32 + 256 + (48 + 64 + 13 * 16) + (48 + 32 + 16) := by decide +kernel
example : (Spec.expected21 demoCfg).sections.map (·.hmacCount) = [2, 1] := by decide
example : Spec.view (.load 0x10 [1, 2, 3, 4, 5] 0x109 0) = .load 0x10 0x910 ([1, 2, 3, 4, 5] ++ List.replicate 11 0) := by decide
example : Spec.view (.fill 0 0x1234 0) = .fill 0 0x12341234 4 := by decide
example : Spec.view (.prog 1 4 5 6 0x1200) = .prog 1 5 6 0x0401 := by decide
example : (CmdHdr.mk 2 0x910 0x10 16 0x12345678).inRange = true := by decide
example : checksum (rawHdr 0 ⟨8, 0, 0, 0, 0⟩) = 0x62 := by decide

end SpsdkVerif.Properties.C04
