/-
C15 — Debug authentication: credentials and responses are bound and verifiable.

Model     : Model/Dat.lean — an interpreter of the field layouts GENERATED from the current
            `get_data_format()` / `pack(...)` / `unpack_from(...)` calls of spsdk/dat/debug_credential.py,
            dac_packet.py, dar_packet.py (Generated/DatConsts.lean), hand-written parsers mirroring the three
            `parse` class methods, the database dispatch (`get_family_ambassador` / `_get_class`) over the generated
            device rows, `calculate_hash`, challenge parse / validate, response common data / signed message.
            Tied to /repo by harness/props/C15.py (export, data-to-sign, parse incl. malformed buffers, hash, dispatch,
            DAC, DAR: real objects vs the native driver).
Spec side : `specTbs*`, `specFlags` (Model/Dat.lean, written by hand from the documented layouts),
            `specDarCommon`, `specDacBytes` (Proofs/Dat.lean), `Spec.rotkh` (C03, Spec/Rotkh.lean).
Helper lemmas: Proofs/Dat.lean, Proofs/DatV2.lean; vocabulary of section 9: Proofs/DatOrder.lean.

Cryptography: signatures are abstract (`CryptoOps`); the positive statement needs `CryptoLaws c`, the negative one
is a reduction to `Break c` (a concrete signature forgery) — no axioms, no idealised injectivity.
Keys are the byte strings SPSDK exports (C08 relates them to key objects); the EdgeLock SRK table is opaque and seen
through an `SrkOracle` (every theorem holds for every oracle that recognises the credential's own table).
-/
import SpsdkVerif.Model.Dat
import SpsdkVerif.Proofs.Dat
import SpsdkVerif.Model.DatV2
import SpsdkVerif.Proofs.DatV2
import SpsdkVerif.Proofs.DatOrder
import SpsdkVerif.Crypto.Break
import SpsdkVerif.Spec.Rotkh

namespace SpsdkVerif.C15
open SpsdkVerif SpsdkVerif.Misc SpsdkVerif.Dat SpsdkVerif.Generated
open SpsdkVerif.Crypto (CryptoOps CryptoLaws Break SigAlg HashAlg PrivKey Rand)

/-! ## 1. Obligations on the generated tables (a changed source line changes a table and stops one of these) -/

/-- the protocol versions are exactly RSA 1.0/1.1 and ECC 2.0/2.1/2.2 -/
theorem gen_versions : DatConsts.versions = [(1, 0), (1, 1), (2, 0), (2, 1), (2, 2)] := by decide

/-- the documented field order of the three credential classes (pack side) -/
theorem gen_export_layouts :
    DatConsts.rsaExport = [(.u16, .major), (.u16, .minor), (.u32, .socc), (.bytes (.fixed 16), .uuid),
      (.bytes (.fixed 128), .rotMeta), (.bytes .rsaKey, .dck), (.u32, .ccSocu), (.u32, .ccVu), (.u32, .beacon),
      (.bytes .rsaKey, .rotPub), (.bytes .rsaSig, .sig)] ∧
    DatConsts.eccExport = [(.u16, .major), (.u16, .minor), (.u32, .socc), (.bytes (.fixed 16), .uuid),
      (.u32, .ccSocu), (.u32, .ccVu), (.u32, .beacon), (.bytes .lenRotMeta, .rotMeta), (.bytes .rotCoord2, .rotPub),
      (.bytes .dckCoord2, .dck), (.bytes .lenSig, .sig)] ∧
    DatConsts.eleExport = [(.u16, .major), (.u16, .minor), (.u32, .socc), (.bytes (.fixed 16), .uuid),
      (.u32, .ccSocu), (.u32, .ccVu), (.u32, .beacon), (.bytes .lenRotMeta, .rotMeta), (.bytes .lenDck, .dck),
      (.bytes .lenSig, .sig)] := by decide

/-- `_get_data_to_sign()` packs exactly the fields of `export()` in the same order, minus the trailing signature -/
theorem gen_sign_is_export_without_signature (c : Cls) : exportLayout c = signLayout c ++ [sigField c] :=
  layout_split c

/-- what `parse()` reads is, position by position, what `export()` packs: same struct codes, each value ends up in the attribute
    that `export()` packs at that position (the generator runs `parse(export(x))` on distinctive credentials, follows every
    `unpack_from` by offset into the attribute of the result that receives it, and names the widths after what they vary with:
    RSA sizes by minor version, twice the coordinate size of the version for ECC, the export length / signature size of the used
    SRK key for EdgeLock; the region between head and tail is the RoT meta) -/
theorem gen_parse_matches_export :
    DatConsts.rsaParse = DatConsts.rsaExport ∧
    DatConsts.eccParse.map (·.2) = DatConsts.eccExport.map (·.2) ∧ DatConsts.eccParse.take 8 = DatConsts.eccExport.take 8 ∧
    (DatConsts.eccParse.drop 8).map (·.1) = [.bytes .hashSize2, .bytes .hashSize2, .bytes .hashSize2] ∧
    DatConsts.eleParse.map (·.2) = DatConsts.eleExport.map (·.2) ∧ DatConsts.eleParse.take 8 = DatConsts.eleExport.take 8 ∧
    (DatConsts.eleParse.drop 8).map (·.1) = [.bytes .lenRotPub, .bytes .rotSigSize] := by decide

/-- sizes: an RSA key field is modulus + 4-byte exponent, the signature has the modulus size; ECC coordinate sizes
    and the SHA-2 width that goes with each; the key-size → minor-version maps agree with them -/
theorem gen_sizes :
    DatConsts.rsaSizeIndexedByMinor = true ∧
    DatConsts.rsaSigSize = [(0, 256), (1, 512)] ∧
    (∀ p ∈ DatConsts.rsaSigSize, lookup p.1 DatConsts.rsaKeySize = some (p.2 + 4)) ∧
    (∀ p ∈ DatConsts.rsaMinorOfBits, lookup p.2 DatConsts.rsaSigSize = some (p.1 / 8)) ∧
    DatConsts.eccMinorOfBits = [(256, 0), (384, 1), (521, 2)] ∧
    (∀ p ∈ DatConsts.eccMinorOfBits, lookup p.2 DatConsts.eccCoordSize = some ((p.1 + 7) / 8)) ∧
    DatConsts.eccHashBits = [(32, 256), (48, 384), (66, 512)] ∧
    (∀ p ∈ DatConsts.eccCoordSize, (eccHashBits p.2).isSome = true ∧ (eccItemWidth p.2) = (eccHashBits p.2).map (· / 8)) ∧
    DatConsts.rotMetaRsaCount * DatConsts.rotMetaRsaItem = DatConsts.rotMetaRsaSize ∧
    DatConsts.rotMetaRsaItem = 32 ∧ DatConsts.rotMetaRsaMinLen = DatConsts.rotMetaRsaSize ∧
    DatConsts.rotMetaRsaMaxKeys = DatConsts.rotMetaRsaCount ∧ DatConsts.flagsLen = 4 := by decide

/-- `RotMetaFlags`, against the tables obtained by running the current class: the constructor accepts exactly `used < cnt ≤ 4`
    (whole 4-bit range of both fields), `export()` of every accepted pair is the word `1<<31 | used<<8 | cnt<<4`, `parse` answers
    every probe word (all pairs with and without the marker bit, stray bits, pseudo-random words) as the model does, and inverts
    `export`; only 4-byte inputs are parsed -/
theorem gen_flags :
    DatConsts.flagsLen = 4 ∧
    (∀ c : Fin 16, ∀ u : Fin 16, ((u.val, c.val) ∈ DatConsts.flagsCtorOk ↔ flagsValid u.val c.val = true)) ∧
    DatConsts.flagsExportTbl.map (·.1) = DatConsts.flagsCtorOk ∧
    (∀ e ∈ DatConsts.flagsExportTbl, flagsBytes e.1.1 e.1.2 = .ok (leEnc 4 e.2) ∧ e.2 = 2147483648 + e.1.1 * 256 + e.1.2 * 16) ∧
    (∀ p ∈ DatConsts.flagsParseProbes, flagsParse (leEnc 4 p.1) = (match p.2 with | some r => .ok r | none => .error .spsdk)) ∧
    (∀ c : Fin 5, ∀ u : Fin 5, u.val < c.val →
      flagsBytes u.val c.val = .ok (specFlags u.val c.val) ∧ flagsParse (specFlags u.val c.val) = .ok (u.val, c.val)) := by
  refine ⟨rfl, by decide +kernel, rfl, by decide +kernel, ?_, flags_rt_fin⟩
  -- the 1200 probe words are compared as numbers (`flagsOfWord`), not as byte strings
  simp only [flagsParse_leEnc]
  decide +kernel

/-- the challenge layout (read by offset / written) and the width of its RoT-hash field: the model's `dacRotHashLen` equals the
    table obtained by running `get_rot_hash_length` (EdgeLock yes/no × always-SHA-256 yes/no × versions 0..3 × 0..3), is 32 bytes for
    EdgeLock / "always SHA-256" devices and for RSA, else the digest width of the credential's hash (48 for 2.1, 64 for 2.2) — the
    same table the credential side uses (`eccHashBits`); swapped version words are exchanged after the width has been taken -/
theorem gen_dac :
    DatConsts.dacParseLayout = [(.u16, .major), (.u16, .minor), (.u32, .socc), (.bytes (.fixed 16), .uuid), (.u32, .revocation),
      (.bytes .hashLength, .rkthHash), (.u32, .socPinned), (.u32, .socDefault), (.u32, .ccVu), (.bytes (.fixed 32), .challenge)] ∧
    DatConsts.dacExport.map (·.2) = DatConsts.dacParseLayout.map (·.2) ∧
    (∀ e ∈ DatConsts.dacHashLenTbl, dacRotHashLen e.1.1 e.1.2.1 e.1.2.2.1 e.1.2.2.2 = e.2) ∧
    DatConsts.dacHashLenTbl.length = 64 ∧ DatConsts.dacSwapOk = true ∧
    (∀ v ∈ DatConsts.versions, ∀ ele sha : Bool,
      dacRotHashLen ele sha v.1 v.2 =
        (if ele || sha || v.1 != 2 then 32
         else ((lookup v.2 DatConsts.eccCoordSize).bind eccHashBits).getD 0 / 8)) := by
  decide

/-- responses (obtained by running every class of `_version_mapping` on stub objects): credential ‖ beacon (LE32) for RSA, ‖ the
    challenge's UUID (16) in addition for exactly the ECC protocol versions; signed message = common ‖ challenge, exported packet =
    common ‖ signature of that message; every version's class behaves like one of the two -/
theorem gen_dar :
    DatConsts.darCommonBase = [(.raw, .dcExport), (.u32, .authBeacon)] ∧
    DatConsts.darCommonEcc = DatConsts.darCommonBase ++ [(.bytes (.fixed 16), .dacUuid)] ∧
    DatConsts.darSignLayout = [(.raw, .skip), (.raw, .dacChallenge)] ∧
    DatConsts.darExportLayout = [(.raw, .skip), (.raw, .signature)] ∧
    DatConsts.darUniform = true ∧
    (∀ v ∈ DatConsts.versions, darUsesEcc v.1 v.2 = some (v.1 == 2)) ∧
    DatConsts.darVersionUsesEcc.length = DatConsts.versions.length := by decide

/-- Dispatch by SoC class is sound on the current database: `DebugCredentialCertificate.parse` and
    `DebugAuthenticationChallenge.parse` know only the SoC class, look up its ambassador family and use that
    family's latest revision — for every family (latest revision) the ambassador agrees on everything the
    dispatch depends on (EdgeLock or not, EdgeLock container version, SHA-256-always, swapped DAC version). -/
def rowDispatchOk (rows : List DatRow) (r : DatRow) : Bool :=
  r.revision != "latest" ||
  match ambassador rows r.socc with
  | none => false
  | some a => match latestRow rows a with
    | none => false
    | some r' => r'.basedOnEle == r.basedOnEle && r'.eleCntVersion == r.eleCntVersion &&
        r'.sha256Always == r.sha256Always && r'.dacVersionSwapped == r.dacVersionSwapped && r'.socc == r.socc

theorem gen_rows_dispatch_sound : DatConsts.rows.all (rowDispatchOk DatConsts.rows) = true := by
  have e : rowDispatchOk DatConsts.rows = dispatchOk (fun r' r => r'.basedOnEle == r.basedOnEle &&
      r'.eleCntVersion == r.eleCntVersion && r'.sha256Always == r.sha256Always &&
      r'.dacVersionSwapped == r.dacVersionSwapped && r'.socc == r.socc) DatConsts.rows := by
    funext r
    unfold rowDispatchOk dispatchOk dispatchRow
    cases ambassador DatConsts.rows r.socc <;> rfl
  rw [e]
  exact dispatchOk_of_bySocc _ _ (by decide +kernel)

def kindOf (k bits : Nat) : KeyKind := if k = 0 then .rsa bits else .ecc bits
def clsOf (c : Nat) : Cls := if c = 0 then .rsa else if c = 1 then .ecc else .ele

/-- one row of the accept / refuse table of `create_from_yaml_config` agrees with the model -/
def createProbeOk : List Nat → Bool
  | [c, ma, mi, ul, rk, rb, dk, db, res] =>
    (match createCheck (clsOf c) ma mi ul (kindOf rk rb) (kindOf dk db) with
     | .ok () => res == 0 | .error .spsdk => res == 1 | .error .other => res == 2)
  | _ => false

/-- `create_from_yaml_config`, run by the generator on ≈1000 configurations (class × explicit / derived version × UUID length 0 / 15 /
    16 / 17 × RoT key RSA-2048/4096, P-256/384/521 × DCK likewise): created or refused exactly as `createCheck` says -/
theorem gen_create_probes : DatConsts.createProbes.all createProbeOk = true ∧ 900 ≤ DatConsts.createProbes.length := by
  decide +kernel

/-- **dc_create_consistent**: whatever gets past the creation checks has a 16-byte UUID, a DCK of the RoT key's type and size and,
    for the RSA / ECC classes, the protocol version of the RoT key — so the field widths `export` derives from the objects and the
    ones `parse` derives from the version coincide: RSA key field = modulus + 4 and signature = modulus bytes for that minor
    version, ECC coordinate size = ⌈bits / 8⌉ (nothing is padded or truncated by `struct.pack`). -/
theorem dc_create_consistent (cls : Cls) (major minor uuidLen : Nat) (rot dck : KeyKind)
    (h : createCheck cls major minor uuidLen rot dck = .ok ()) :
    uuidLen = 16 ∧ dck = rot ∧
    (cls = .rsa ∨ cls = .ecc → versionOfKey rot = some (major, minor) ∧
      (∀ bits, rot = .rsa bits → lookup minor DatConsts.rsaSigSize = some (bits / 8) ∧ lookup minor DatConsts.rsaKeySize = some (bits / 8 + 4)) ∧
      (∀ bits, rot = .ecc bits → lookup minor DatConsts.eccCoordSize = some ((bits + 7) / 8))) := by
  simp only [createCheck] at h
  by_cases hu : uuidLen = 16
  · by_cases hd : dck = rot
    · refine ⟨hu, hd, ?_⟩
      intro hc
      have hcb : (cls == Cls.rsa || cls == Cls.ecc) = true := by rcases hc with rfl | rfl <;> decide
      simp [hu, hd, hcb] at h
      cases hv : versionOfKey rot with
      | none => simp [hv] at h
      | some v =>
        simp [hv] at h
        have hv' : v = (major, minor) := by
          by_cases e : v = (major, minor)
          · exact e
          · simp [e] at h
        subst hv'
        refine ⟨rfl, ?_, ?_⟩
        · intro bits hb
          subst hb
          simp only [versionOfKey, Option.map_eq_some_iff] at hv
          obtain ⟨m, hm, he⟩ := hv
          injection he with _ he; subst he
          have : ∀ p ∈ DatConsts.rsaMinorOfBits, lookup p.2 DatConsts.rsaSigSize = some (p.1 / 8) ∧
              lookup p.2 DatConsts.rsaKeySize = some (p.1 / 8 + 4) := by decide
          have hmem : (bits, m) ∈ DatConsts.rsaMinorOfBits := lookup_mem _ _ _ hm
          exact this _ hmem
        · intro bits hb
          subst hb
          simp only [versionOfKey, Option.map_eq_some_iff] at hv
          obtain ⟨m, hm, he⟩ := hv
          injection he with _ he; subst he
          have : ∀ p ∈ DatConsts.eccMinorOfBits, lookup p.2 DatConsts.eccCoordSize = some ((p.1 + 7) / 8) := by decide
          exact this _ (lookup_mem _ _ _ hm)
    · simp [hu, hd] at h
  · simp [hu] at h

/-! ## 2. Credentials: round trip -/

/-- **dc_roundtrip**: a well-formed credential of any class and any protocol version of the generated table exports,
    and parsing the exported bytes (followed by anything) with the parser of its class gives back every field. -/
theorem dc_roundtrip (o : SrkOracle) (dc : DC) (h : WF o dc) :
    ∃ b, exportDC dc = .ok b ∧ ∀ t, parseCls o dc.cls (b ++ t) = .ok dc :=
  ⟨_, (export_spec o dc h).2, fun t => roundtrip_ext o dc h t⟩

theorem dc_roundtrip_exact (o : SrkOracle) (dc : DC) (h : WF o dc) :
    ∃ b, exportDC dc = .ok b ∧ parseCls o dc.cls b = .ok dc := by
  obtain ⟨b, hb, hp⟩ := dc_roundtrip o dc h
  exact ⟨b, hb, by simpa using hp []⟩

/-- … also through the class-agnostic entry point `DebugCredentialCertificate.parse`, whenever the database maps the
    credential's SoC class and version to its class (`gen_rows_dispatch_sound` says it does for latest revisions). -/
theorem dc_roundtrip_dispatch (rows : List DatRow) (o : SrkOracle) (dc : DC) (h : WF o dc) (fam : String) (row : DatRow)
    (ha : ambassador rows dc.socc = some fam) (hr : latestRow rows fam = some row)
    (hg : getClass row dc.major dc.minor = .ok (.cls dc.cls)) :
    ∃ b, exportDC dc = .ok b ∧ ∀ t, parseDC rows o (b ++ t) = .ok dc :=
  ⟨_, (export_spec o dc h).2, fun t => by
    have hp := roundtrip_ext o dc h t
    have hc := wf_common o dc h
    have hmaj := versionOk_lt hc.ver
    obtain ⟨rest, hrest⟩ := specTbs_head dc
    rw [hrest] at hp ⊢
    simp only [List.append_assoc] at hp ⊢
    simp only [parseDC]
    rw [rd_bind (leEnc_length 2 _), rd_bind (leEnc_length 2 _), rd_bind (leEnc_length 4 _), leDec_leEnc4 _ hc.socc, ha,
      leDec_leEnc2 _ hmaj.1, leDec_leEnc2 _ hmaj.2, hc.ver]
    simp only [pure, Except.pure, bind_ok', hr, hg, Bool.not_true, Bool.false_eq_true, if_false]
    exact hp⟩

/-- the exported bytes are the documented layout (written by hand in `specTbs*`), signature last -/
theorem dc_export_spec (o : SrkOracle) (dc : DC) (h : WF o dc) : exportDC dc = .ok (specTbs dc ++ dc.sig) :=
  (export_spec o dc h).2

/-- two well-formed credentials of one class with the same bytes are the same credential -/
theorem dc_export_injective (o : SrkOracle) (d₁ d₂ : DC) (h₁ : WF o d₁) (h₂ : WF o d₂) (hc : d₁.cls = d₂.cls)
    (b : Bytes) (e₁ : exportDC d₁ = .ok b) (e₂ : exportDC d₂ = .ok b) : d₁ = d₂ := by
  rw [dc_export_spec o d₁ h₁] at e₁; rw [dc_export_spec o d₂ h₂] at e₂
  injection e₁ with e₁; injection e₂ with e₂
  exact export_inj o d₁ d₂ h₁ h₂ hc (e₁.trans e₂.symm)

/-! ## 3. Credentials: what is signed -/

/-- **dc_signed_range** (no well-formedness needed): whenever `export()` succeeds, `_get_data_to_sign()` is the
    exported credential without its last field, and that field is the signature field — every preceding field
    (version, SoC class, UUID, RoT meta, keys, constraints, beacon) is inside the signed range, nothing is skipped. -/
theorem dc_signed_range (dc : DC) (b : Bytes) (h : exportDC dc = .ok b) :
    ∃ s, s = fieldBytes dc (sigField dc.cls) ∧ dataToSign dc = .ok (b.take (b.length - s.length)) ∧
      b = b.take (b.length - s.length) ++ s := by
  obtain ⟨m, hm, hb⟩ := signed_range dc b h
  refine ⟨_, rfl, ?_, ?_⟩ <;> simp [hb, hm]

/-- for a well-formed credential the signed range is the documented layout and the last field is `signature` itself -/
theorem dc_signed_range_wf (o : SrkOracle) (dc : DC) (h : WF o dc) :
    dataToSign dc = .ok (specTbs dc) ∧ exportDC dc = .ok (specTbs dc ++ dc.sig) := export_spec o dc h

/-- the data to sign does not depend on the signature (signing is well defined) -/
theorem dc_tbs_independent_of_signature (dc : DC) (s : Bytes) : dataToSign { dc with sig := s } = dataToSign dc :=
  dataToSign_sig dc s

/-- **dc_sig_verifies**: a credential signed (`sign()`) with the private key whose public part is the RoT key it
    carries verifies under that RoT key over exactly the data to sign — for every signature scheme satisfying
    `verify (pubOf sk) m (sign sk m r)`. -/
theorem dc_sig_verifies (c : CryptoOps) (hl : CryptoLaws c) (pss : Bool) (sk : PrivKey) (r : Rand) (dc0 dc : DC)
    (hpk : dc0.rotPub = c.pubOf sk) (hs : signDC c pss sk r dc0 = .ok dc) :
    ∃ m, dataToSign dc = .ok m ∧ c.verify (sigAlg pss dc) dc.rotPub m dc.sig = true ∧
      (∀ b, exportDC dc = .ok b → b.take (b.length - (fieldBytes dc (sigField dc.cls)).length) = m) := by
  unfold signDC at hs
  split at hs
  · rename_i m hm
    dsimp only at hs
    split at hs
    · cases hs
    · injection hs with hs
      subst hs
      refine ⟨m, by rw [dataToSign_sig]; exact hm, ?_, ?_⟩
      · show c.verify (sigAlg pss dc0) dc0.rotPub m (c.sign (sigAlg pss dc0) sk m r) = true
        rw [hpk]; exact hl.verify_sign _ _ _ _
      · intro b hb
        obtain ⟨s, hs1, hs2, _⟩ := dc_signed_range _ b hb
        rw [dataToSign_sig, hm] at hs2
        injection hs2 with hs2
        rw [← hs1]; exact hs2.symm
  · cases hs

/-! ## 4. RoT key hash = the image tools' value (C03 `Spec.rotkh`) -/

/-
Full statement (all documented key sets of C03's `KeysOK`):
  calculateHash c dc = .ok (Spec.rotkh c (rotType dc.cls) ks)   for the credential built from the RoT keys `ks`.
It is FALSE on the current tree for RSA keys whose public exponent does not occupy exactly 3 bytes
(`RotMetaRSA.load_from_config` hashes `modulus ‖ exponent on 3 bytes`, cert block v1 hashes `modulus ‖ minimal
exponent`): e = 3 gives different values (known finding C15-rsa-short-exponent-rotkh, reproduced by the harness).
Proved: the statement with the hypothesis `byteLen e = 3` (e = 65537, the exponent of every key SPSDK generates). -/
theorem dc_rot_hash_rsa_partial (c : CryptoOps) (hl : CryptoLaws c) (ks : List Spec.Key) (hn : ks.length ≤ 4)
    (hr : ∀ k ∈ ks, ∃ n e, k = .rsa n e ∧ byteLen e = 3) (dc : DC) (hcls : dc.cls = .rsa)
    (hm : rsaMetaOfKeys c (ks.map dcKeyBytes) = .ok dc.rotMeta) :
    calculateHash c dc = .ok (Spec.rotkh c .certBlock1 ks) :=
  rot_hash_rsa c hl ks hn hr dc hcls hm

/-- **dc_rot_hash** (ECC, all three curves, 1..4 keys, every used index): the hash of a credential whose RoT meta was
    built from the keys (`RotMetaEcc.load_from_config`) and whose RoT key is the used one equals the cert-block-v2.1
    root-of-trust value over the same raw key material. -/
theorem dc_rot_hash_ecc (c : CryptoOps) (hl : CryptoLaws c) (cv : Spec.Curve) (ks : List Spec.Key)
    (h1 : 1 ≤ ks.length) (h4 : ks.length ≤ 4) (hk : ∀ k ∈ ks, ∃ x y, k = .ecc cv x y)
    (used : Nat) (hu : used < ks.length) (dc : DC) (hcls : dc.cls = .ecc)
    (hm : eccMetaOfKeys c (ks.map dcKeyBytes) used = .ok dc.rotMeta)
    (hp : (ks.map dcKeyBytes)[used]? = some dc.rotPub) :
    calculateHash c dc = .ok (Spec.rotkh c .certBlock21 ks) := by
  obtain ⟨hb, hob, hpos, hhalf, hex1, hex2⟩ := curve_tables cv
  have hkh : ∀ k ∈ ks, c.hash cv.hashAlg (dcKeyBytes k) = Spec.keyHash c k ∧ k.hashAlg = cv.hashAlg := by
    intro k hk'; obtain ⟨x, y, rfl⟩ := hk k hk'; exact ⟨rfl, rfl⟩
  have hid : (ks.map ((fun (x : Spec.Key × Bool) => x.1) ∘ fun k => (k, false))) = ks := by
    rw [show ((fun (x : Spec.Key × Bool) => x.1) ∘ fun k => (k, false)) = id from rfl]; simp
  obtain ⟨a, ha, _, hm'⟩ := eccMeta_ok c _ used _ hm
  rw [List.length_map, List.map_map] at hm'
  simp only [Spec.rotkh, Spec.rotkhCa, List.map_map, hid, calculateHash, hcls, hm']
  match ks, h1, hk, hu, hp, hkh, ha with
  | [k], _, hk, hu, hp, hkh, _ =>
    obtain ⟨x, y, rfl⟩ := hk k (by simp)
    obtain rfl : used = 0 := by simpa using hu
    simp only [List.map_cons, List.map_nil, List.getElem?_cons_zero, Option.some.injEq] at hp
    simp [crtkTable, ← hp, dcKeyBytes_ecc_length, hex2, Spec.rotkhV21, (hkh (.ecc cv x y) (by simp)).1]
  | k :: k2 :: rest, _, hk, _, _, hkh, ha =>
    obtain rfl : cv.hashAlg = a := by
      obtain ⟨x, y, rfl⟩ := hk k (by simp)
      simpa [eccAlgOf, dcKeyBytes_ecc_length, hhalf, hb, hob] using ha
    have hK : (k :: k2 :: rest).map (c.hash cv.hashAlg ∘ dcKeyBytes) = (k :: k2 :: rest).map (Spec.keyHash c) :=
      List.map_congr_left fun x hx => (hkh x hx).1
    have hct : crtkTable ((k :: k2 :: rest).map (Spec.keyHash c)) = Spec.ctrkTable c (k :: k2 :: rest) := by
      simp [crtkTable, Spec.ctrkTable]
    have hflen : (Spec.ctrkTable c (k :: k2 :: rest)).length = (rest.length + 1 + 1) * cv.hashAlg.size := by
      rw [Spec.ctrkTable, flatten_length_const _ cv.hashAlg.size, List.length_map]; · rfl
      intro z hz
      obtain ⟨q, hq, rfl⟩ := List.mem_map.mp hz
      rw [Spec.keyHash, hl.hash_len, (hkh q hq).2]
    have hne : (Spec.ctrkTable c (k :: k2 :: rest)).isEmpty = false := by
      rw [List.isEmpty_eq_false_iff, ← List.length_pos_iff, hflen]; exact Nat.mul_pos (by omega) hpos
    simp only [show rest.length + 1 + 1 > 1 by omega, if_true, hK, hct, hne, Bool.false_eq_true, if_false, List.length_cons, Nat.succ_ne_zero, hflen,
      Nat.mul_div_cancel_left _ (show 0 < rest.length + 1 + 1 by omega), hex1, Spec.rotkhV21, (hkh k (by simp)).2]

/-- The key material that enters the RoT hash has FIXED width: X and Y on `coordSize` bytes each, whatever their value — a
    coordinate with leading zero bytes is zero-extended, never shortened (`dc_rot_hash_ecc` above quantifies over all `x y`,
    short ones included; this makes the width explicit). -/
theorem dc_rot_key_fixed_width (cv : Spec.Curve) (x y : Nat) :
    (dcKeyBytes (.ecc cv x y)).length = 2 * cv.coordSize ∧ dcKeyBytes (.ecc cv x y) = (Spec.Key.ecc cv x y).material ∧
    (dcKeyBytes (.ecc cv x y)).take cv.coordSize = beEnc cv.coordSize x ∧
    (dcKeyBytes (.ecc cv x y)).drop cv.coordSize = beEnc cv.coordSize y := by
  refine ⟨by rw [dcKeyBytes_ecc_length]; omega, rfl, ?_, ?_⟩
  · simp only [dcKeyBytes]; rw [List.take_left' (beEnc_length' _ _)]
  · simp only [dcKeyBytes]; rw [List.drop_left' (beEnc_length' _ _)]

/-- a short coordinate is written with its leading zero bytes, the value is recovered from the fixed-width field -/
theorem dc_rot_key_short_coordinate (n x k : Nat) (hk : k ≤ n) (hx : x < 256 ^ (n - k)) :
    (beEnc n x).length = n ∧ beDec (beEnc n x) = x ∧ (beEnc n x).take k = zeros k := by
  have hlt : x < 256 ^ n := Nat.lt_of_lt_of_le hx (Nat.pow_le_pow_right (by decide) (Nat.sub_le n k))
  exact ⟨beEnc_length' n x, by rw [beDec_beEnc_mod, Nat.mod_eq_of_lt hlt], beEnc_leading_zeros n x k hk hx⟩

example : (dcKeyBytes (.ecc .p256 1 (2 ^ 255))).length = 64 ∧ (dcKeyBytes (.ecc .p256 1 (2 ^ 255))).take 31 = zeros 31 ∧
    ((dcKeyBytes (.ecc .p256 1 (2 ^ 255))).drop 31).take 2 = [1, 128] := by decide +kernel

/-- EdgeLock: SHA-256 of the SRK table the credential embeds — the AHAB value whenever that table is the documented
    one for the keys (the table itself is C03/C06's subject; the harness compares it with `Rot(...)`). -/
theorem dc_rot_hash_ele (c : CryptoOps) (ks : List (Spec.Key × Bool)) (dc : DC) (used cnt : Nat) (hcls : dc.cls = .ele)
    (hm : dc.rotMeta = .ele used cnt (Spec.ahabTable ks)) :
    calculateHash c dc = .ok (Spec.rotkhCa c .srkTableAhab ks) := by
  simp [calculateHash, hcls, hm, Spec.rotkhCa, Spec.rotkhAhab]

/-! ## 5. Responses -/

/-- **dar_embeds**: the exported response is credential ‖ beacon (LE32) ‖ [UUID] ‖ signature, the signature being the
    DCK signature of the signed message. -/
theorem dar_embeds (c : CryptoOps) (pss : Bool) (sk : PrivKey) (rnd : Rand) (o : SrkOracle) (r : DAR) (h : WFDar o r)
    (hs : c.sign (darSigAlg pss r) sk (specDarCommon r ++ r.challenge) rnd ≠ []) :
    darExport c pss sk rnd r =
      .ok ((specTbs r.dc ++ r.dc.sig) ++ (leEnc 4 r.authBeacon ++ (if r.usesEcc then r.uuid else [])) ++
        c.sign (darSigAlg pss r) sk (specDarCommon r ++ r.challenge) rnd) := by
  have hl : DatConsts.darExportLayout = [(.raw, .skip), (.raw, .signature)] := by decide
  show _ = Except.ok (specDarCommon r ++ _)
  simp [darExport, hl, darCommon_spec o r h, darMsg_spec o r h, hs]

/-- **dar_msg**: the signed message is credential ‖ beacon ‖ [UUID] ‖ challenge. -/
theorem dar_msg (o : SrkOracle) (r : DAR) (h : WFDar o r) :
    darMsg r = .ok ((specTbs r.dc ++ r.dc.sig) ++ (leEnc 4 r.authBeacon ++ (if r.usesEcc then r.uuid else [])) ++ r.challenge) :=
  darMsg_spec o r h

/-- **dar_msg_injective**: for one credential class and response class the signed message determines the credential,
    the beacon, the challenge and (ECC protocol versions) the device UUID: the credential is self-delimiting and
    every field after it has a fixed width. For the RSA versions the UUID is NOT part of the message (`usesEcc = false`). -/
theorem dar_msg_injective (o : SrkOracle) (r₁ r₂ : DAR) (h₁ : WFDar o r₁) (h₂ : WFDar o r₂)
    (hc : r₁.dc.cls = r₂.dc.cls) (hu : r₁.usesEcc = r₂.usesEcc) (m : Bytes)
    (m₁ : darMsg r₁ = .ok m) (m₂ : darMsg r₂ = .ok m) :
    r₁.dc = r₂.dc ∧ r₁.authBeacon = r₂.authBeacon ∧ r₁.challenge = r₂.challenge ∧
      (r₁.usesEcc = true → r₁.uuid = r₂.uuid) := by
  rw [darMsg_spec o r₁ h₁] at m₁; rw [darMsg_spec o r₂ h₂] at m₂
  have hm := (Except.ok.inj m₁).trans (Except.ok.inj m₂).symm
  have hlen := congrArg List.length hm
  have hul : (if r₁.usesEcc then r₁.uuid else []).length = (if r₂.usesEcc then r₂.uuid else []).length := by
    rw [← hu]; cases r₁.usesEcc <;> simp [h₁.uuid, h₂.uuid]
  simp only [specDarCommon, List.length_append, leEnc_length, h₁.challenge, h₂.challenge, hul] at hlen
  simp only [specDarCommon, List.append_assoc] at hm
  have hE : (specTbs r₁.dc ++ r₁.dc.sig).length = (specTbs r₂.dc ++ r₂.dc.sig).length := by
    simp only [List.length_append]; omega
  rw [← List.append_assoc (specTbs r₁.dc), ← List.append_assoc (specTbs r₂.dc)] at hm
  obtain ⟨e1, e2⟩ := List.append_inj hm hE
  obtain ⟨e3, e4⟩ := List.append_inj e2 (by simp [leEnc_length])
  obtain ⟨e5, e6⟩ := List.append_inj e4 hul
  refine ⟨export_inj o _ _ h₁.dc h₂.dc hc e1, leEnc4_inj _ _ h₁.beacon h₂.beacon e3, e6, ?_⟩
  intro ht
  rw [← hu, ht] at e5
  simpa using e5

/-- **dar_bound** (reduction, no axiom): if the signature made for `(credential, beacon, uuid, challenge)` verifies under
    the DCK against the message of ANOTHER request — a different challenge, credential, beacon or (ECC) UUID — then a
    signature forgery has been exhibited. -/
theorem dar_bound (c : CryptoOps) (a : SigAlg) (sk : PrivKey) (rnd : Rand) (o : SrkOracle) (r r' : DAR)
    (h : WFDar o r) (h' : WFDar o r') (hc : r.dc.cls = r'.dc.cls) (hu : r.usesEcc = r'.usesEcc)
    (m m' : Bytes) (hm : darMsg r = .ok m) (hm' : darMsg r' = .ok m')
    (hv : c.verify a (c.pubOf sk) m' (c.sign a sk m rnd) = true) :
    (r.dc = r'.dc ∧ r.authBeacon = r'.authBeacon ∧ r.challenge = r'.challenge ∧ (r.usesEcc = true → r.uuid = r'.uuid))
      ∨ Break c := by
  by_cases e : m = m'
  · subst e
    exact .inl (dar_msg_injective o r r' h h' hc hu m hm hm')
  · exact .inr (Break.sigForgery a sk m m' rnd e hv)

/-- in particular: same credential, beacon and UUID, different 32-byte challenge ⇒ accepted only by a forgery -/
theorem dar_challenge_bound (c : CryptoOps) (a : SigAlg) (sk : PrivKey) (rnd : Rand) (o : SrkOracle) (r : DAR)
    (h : WFDar o r) (ch' : Bytes) (hl : ch'.length = 32) (hne : ch' ≠ r.challenge) (m m' : Bytes)
    (hm : darMsg r = .ok m) (hm' : darMsg { r with challenge := ch' } = .ok m')
    (hv : c.verify a (c.pubOf sk) m' (c.sign a sk m rnd) = true) : Break c := by
  have h' : WFDar o { r with challenge := ch' } := ⟨h.dc, h.beacon, h.uuid, hl⟩
  rcases dar_bound c a sk rnd o r _ h h' rfl rfl m m' hm hm' hv with ⟨_, _, e, _⟩ | hb
  · exact absurd e.symm hne
  · exact hb

/-- the response signature made by `export()` verifies under the credential's DCK over the signed message -/
theorem dar_sig_verifies (c : CryptoOps) (hl : CryptoLaws c) (pss : Bool) (sk : PrivKey) (rnd : Rand) (o : SrkOracle)
    (r : DAR) (h : WFDar o r) (hpk : r.dc.dck = c.pubOf sk) :
    ∃ m, darMsg r = .ok m ∧ c.verify (darSigAlg pss r) r.dc.dck m (c.sign (darSigAlg pss r) sk m rnd) = true :=
  ⟨_, darMsg_spec o r h, by rw [hpk]; exact hl.verify_sign _ _ _ _⟩

/-! ## 6. Challenges -/

/-- `export()` writes the documented layout … -/
theorem dac_export_spec (a : DAC) (h : WFDacInts a) : dacExport a = .ok (specDacBytes a.major a.minor a) := by
  have hv := versionOk_lt h.ver
  simp [dacExport, DatConsts.dacExport, dacFieldOk, dacFieldBytes, dacArgNat, dacArgBytes, hv.1, hv.2, h.socc, h.rev, h.pinned,
    h.dflt, h.vu, specDacBytes]

/-- … and `parse()` recovers every field — in particular the 32-byte challenge vector — from it; the hash field has the
    width `get_rot_hash_length` gives for the ambassador family, the two version words are swapped where the database
    says so. -/
theorem dac_parse_spec (rows : List DatRow) (a : DAC) (h : WFDacInts a) (fam : String) (row : DatRow)
    (ha : ambassador rows a.socc = some fam) (hr : latestRow rows fam = some row)
    (hlen : a.rkthHash.length = dacRotHashLen row.basedOnEle row.sha256Always
      (if row.dacVersionSwapped then a.minor else a.major) (if row.dacVersionSwapped then a.major else a.minor)) (t : Bytes) :
    dacParse rows (specDacBytes (if row.dacVersionSwapped then a.minor else a.major)
      (if row.dacVersionSwapped then a.major else a.minor) a ++ t) = .ok a :=
  dacParse_wire rows a h fam row ha hr _ _ (by split <;> rfl) hlen t

/-- `validate_against_dc` passes only for a challenge of the same protocol version (EdgeLock devices excepted), the same
    SoC class, the same UUID (or a credential with the all-zero wildcard UUID) and — unless the device family is flagged
    as not sending / possibly mis-sending its RoT hash — a RoT hash that is a prefix of the credential's. -/
theorem dac_validate_sound (row : DatRow) (a : DAC) (dc : DC) (hsh : PyRes Bytes) (h : dacValidate row a dc hsh = .ok ()) :
    ((a.major = dc.major ∧ a.minor = dc.minor) ∨ row.basedOnEle = true) ∧ a.socc = dc.socc ∧
    (a.uuid = dc.uuid ∨ dc.uuid = zeros dc.uuid.length) ∧
    ∃ hv, hsh = .ok hv ∧ (hv = [] ∨ prefixEq a.rkthHash hv = some true ∨ row.rotNotPartOfDac = true ∨ row.rotCouldBeInvalid = true) := by
  unfold dacValidate at h
  by_cases h1 : (a.major ≠ dc.major ∨ a.minor ≠ dc.minor) ∧ (!row.basedOnEle) = true
  · rw [if_pos h1] at h; cases h
  by_cases h2 : a.socc ≠ dc.socc
  · rw [if_neg h1, if_pos h2] at h; cases h
  by_cases h3 : a.uuid ≠ dc.uuid ∧ dc.uuid ≠ zeros dc.uuid.length
  · rw [if_neg h1, if_neg h2, if_pos h3] at h; cases h
  rw [if_neg h1, if_neg h2, if_neg h3] at h
  refine ⟨?_, Decidable.not_not.mp h2, ?_, ?_⟩
  · cases hb : row.basedOnEle
    · simp only [hb, Bool.not_false, and_true, not_or, Decidable.not_not] at h1
      exact .inl h1
    · exact .inr rfl
  · by_cases hu : a.uuid = dc.uuid
    · exact .inl hu
    · exact .inr (Decidable.not_not.mp fun hz => h3 ⟨hu, hz⟩)
  · cases hsh with
    | error e => cases h
    | ok hv =>
      refine ⟨hv, rfl, ?_⟩
      dsimp only at h
      by_cases he : hv.isEmpty = true
      · exact .inl (List.isEmpty_iff.mp he)
      rw [if_neg he] at h
      cases hp : prefixEq a.rkthHash hv with
      | none => rw [hp] at h; cases h
      | some b =>
        cases b
        · rw [hp] at h
          dsimp only at h
          by_cases hn : row.rotNotPartOfDac = true
          · exact .inr (.inr (.inl hn))
          by_cases hc : row.rotCouldBeInvalid = true
          · exact .inr (.inr (.inr hc))
          rw [if_neg hn, if_neg hc] at h; cases h
        · exact .inr (.inl rfl)

/-! ## 8. EdgeLock-enclave v2 credential (AHAB certificate; Model/DatV2.lean) -/

section V2
open SpsdkVerif.DatV2

/-- the certificate as the current source packs / unpacks it: byte widths (C06's generated layout); obtained BY VALUE from a
    sandboxed `AhabCertificate` run on distinctive values: what `get_signature_data()` and `export()` write where, which attribute of
    `parse(export())` each position ends up in, that the inverted-permission byte is checked (no source text is compared: a
    behaviour-preserving re-spelling of the three methods regenerates the same tables);
    and — obtained by running the wrapper class on stub certificates — that the constructor keeps
    the stored SoC class, the three properties read / write words 0 / 1 / 2 of the permission data and creation asks for `socc ‖ socu ‖ 0` -/
theorem gen_cert_layout :
    AhabConsts.certificateLayout.intWidths = [1, 2, 1, 2, 1, 1, 1, 1, 2] ∧
    AhabConsts.certificateLayout.strFields = [(6, 12), (10, 16)] ∧ AhabConsts.certificateLayout.size = 40 ∧
    AhabConsts.signatureLayout.intWidths = [1, 2, 1, 4] ∧ AhabConsts.signatureLayout.size = 8 ∧
    AhabConsts.certificateTag = 175 ∧ AhabConsts.certificateVersion = 2 ∧ AhabConsts.signatureTag = 216 ∧
    AhabConsts.signatureVersion = 0 ∧ AhabConsts.srkRecordTag = 225 ∧
    DatConsts.certSignFields = [(.u8, .version), (.u16, .length), (.u8, .tag), (.u16, .sigOffset), (.u8, .invPerm), (.u8, .perm),
      (.bytes 12, .permData), (.u8, .fuse), (.u8, .reserved), (.u16, .reserved), (.bytes 16, .uuid), (.raw, .keyRecord), (.raw, .keyData)] ∧
    DatConsts.certExportFields = DatConsts.certSignFields ++ [(.raw, .sig0)] ∧
    DatConsts.certParseFields = [(.u8, .dropped), (.u16, .length), (.u8, .dropped), (.u16, .sigOffset), (.u8, .dropped), (.u8, .perm),
      (.bytes 12, .permData), (.u8, .fuse), (.u8, .dropped), (.u16, .dropped), (.bytes 16, .uuid), (.raw, .keyRecord), (.raw, .keyData),
      (.raw, .sig0)] ∧
    DatConsts.certInvChecked = true ∧
    DatConsts.certPermDataSize = 12 ∧ DatConsts.certUuidSize = 16 ∧ DatConsts.certPermDebug = 2 ∧
    DatConsts.v2CtorKeepsSocc = true ∧ DatConsts.v2CtorZeroesSocc = false ∧ DatConsts.v2PermPropsOk = true ∧
    DatConsts.v2CreatePermOk = true := by
  decide

/-- every EdgeLock v2 row of the database has a 32-bit SoC class whose low byte is not zero (so that the detour of the
    permission data through `value_to_bytes` keeps its 12 bytes) -/
theorem gen_v2_rows : DatConsts.rows.all (fun r => !(r.basedOnEle && r.eleCntVersion == 2) ||
    (decide (r.socc % 256 ≠ 0) && decide (r.socc < 4294967296))) = true := by decide +kernel

/-- **dcv2_export_spec**: a signed one-key certificate exports as documented head ‖ key block ‖ signature container -/
theorem dcv2_export_spec (ko : KeyOracle) (c : Cert) (h : WFCert ko c) :
    exportCert c = .ok ((specHead c ++ c.key0) ++ specSigContainer c.sig0) := (DatV2.export_spec ko c h).2

/-- **dcv2_roundtrip**: parsing the exported credential (followed by anything) — `AhabCertificate.parse` and the
    `DebugCredentialEdgeLockEnclaveV2` wrapper — gives back every field, the SoC class included -/
theorem dcv2_roundtrip (ko : KeyOracle) (c : Cert) (h : WFCert ko c) :
    ∃ b, exportCert c = .ok b ∧ ∀ t, parseV2 ko (b ++ t) = .ok (some c) :=
  ⟨_, dcv2_export_spec ko c h, fun t => by simp only [parseV2, cert_roundtrip ko c h t, wrap_id c h.permData]⟩

/-- **dcv2_signed_range**: the signed data is the export up to `signature_offset` — version, length, tag, offsets, permissions,
    SoC class ‖ CC_SOCU ‖ beacon, fuse version, UUID and the key block; only the signature container follows -/
theorem dcv2_signed_range (ko : KeyOracle) (c : Cert) (h : WFCert ko c) (b : Bytes) (hb : exportCert c = .ok b) :
    signedData c = .ok (b.take c.sigOffset) ∧ b = b.take c.sigOffset ++ specSigContainer c.sig0 ∧ b.length = c.length := by
  rw [dcv2_export_spec ko c h] at hb
  injection hb with hb
  subst hb
  have hl : (specHead c ++ c.key0).length = c.sigOffset := by
    rw [List.length_append, specHead_length c h.permData h.uuid, h.sigOffset, DatV2.consts.1]
  refine ⟨?_, ?_, ?_⟩
  · rw [List.take_left' hl]; exact (DatV2.export_spec ko c h).1
  · rw [List.take_left' hl]
  · rw [List.length_append, hl, specSig_length, h.length, h.sigOffset, DatV2.consts.2.1]

/-- **dcv2_keeps_socc**: constructing the credential object around a certificate (on creation and on parse) leaves the
    permission data — SoC class first — as it is (the initializer used to overwrite the SoC class with 0) -/
theorem dcv2_keeps_socc (c : Cert) (h : c.permData.length = 12) : wrap c = .ok c := wrap_id c h

/-- **dcv2_create_fields**: the created credential carries debug permission and `socc ‖ cc_socu ‖ 0`, which the `socc` / `socu` /
    `beacon` properties read back -/
theorem dcv2_create_fields (socc socu fuse : Nat) (uuid key0 : Bytes) (h1 : socc < 4294967296) (h2 : socu < 4294967296) :
    ∃ c, create socc socu fuse uuid key0 = .ok c ∧ c.permissions = 2 ∧ c.permData = leEnc 4 socc ++ (leEnc 4 socu ++ leEnc 4 0) ∧
      permSocc c.permData = socc ∧ permSocu c.permData = socu ∧ permBeacon c.permData = 0 := by
  obtain ⟨a, b, d⟩ := perm_fields socc socu 0 h1 h2 (by decide)
  exact ⟨_, create_spec socc socu fuse uuid key0, (by decide : DatConsts.certPermDebug = 2), rfl, a, b, d⟩

/-- `sign()` (`update_fields`) yields a well-formed certificate … -/
theorem dcv2_signed_wf (cr : CryptoOps) (a : SigAlg) (sk : PrivKey) (rnd : Rand) (sigLen : Nat) (ko : KeyOracle) (c c' : Cert)
    (hs : signCert cr a sk rnd sigLen c = .ok c') (hp : c.permissions < 256) (hf : c.fuseVersion < 256)
    (hpd : c.permData.length = 12) (hu : c.uuid.length = 16) (hk : ∀ rest, ko (c.key0 ++ rest) = some c.key0.length)
    (hsl : c'.sig0.length = sigLen) (hpos : 0 < sigLen) (hsm : headSize + c.key0.length + (sigHeadSize + sigLen) < 65536) :
    WFCert ko c' := by
  unfold signCert at hs
  dsimp only at hs
  split at hs
  · injection hs with hs
    subst hs
    simp only [updateLengths] at hsl ⊢
    refine ⟨hp, hf, hpd, hu, ?_, rfl, ?_, hsm, hk⟩
    · intro e
      change cr.sign a sk _ rnd = [] at e
      rw [e] at hsl; simp at hsl; omega
    · show _ + _ + (_ + sigLen) = _ + _ + (_ + List.length (cr.sign a sk _ rnd)); rw [hsl]
  · cases hs

/-- … **dcv2_sig_verifies**: whose signature verifies under the public key of the signing key over its signed data -/
theorem dcv2_sig_verifies (cr : CryptoOps) (hl : CryptoLaws cr) (a : SigAlg) (sk : PrivKey) (rnd : Rand) (sigLen : Nat) (c c' : Cert)
    (hs : signCert cr a sk rnd sigLen c = .ok c') :
    ∃ m, signedData c' = .ok m ∧ cr.verify a (cr.pubOf sk) m c'.sig0 = true := by
  unfold signCert at hs
  dsimp only at hs
  split at hs
  · rename_i m hm
    injection hs with hs
    subst hs
    refine ⟨m, ?_, hl.verify_sign _ _ _ _⟩
    simpa [signedData, certHead] using hm
  · cases hs

/-- non-vacuity: a concrete signed certificate (SRK record ‖ SRK data recognised by the driver's walker) is well-formed and
    goes through export and parse -/
def exKey : Bytes := [0xE1, 12, 0, 0x27, 0, 1, 0, 0, 0, 0, 0, 0] ++ [0, 8, 0, 0x5D, 0, 0, 0, 0]
def exCert : Cert := ⟨40 + 20 + (8 + 64), 60, 2, permPack 0x4D58005E 0xFFF 0, 1, List.replicate 16 7, exKey, List.replicate 64 9⟩

theorem exKey_walk (rest : Bytes) : keyWalk (exKey ++ rest) = some exKey.length := by
  simp only [keyWalk, exKey, List.cons_append, List.nil_append, List.length_cons, List.drop_succ_cons, List.drop_zero,
    List.take_succ_cons, List.take_zero, List.getD_cons_zero]
  simp [AhabConsts.srkRecordTag, AhabConsts.srkRecordV2Layout, AhabConsts.srkDataLayout, leDec, beDec]

example : WFCert keyWalk exCert :=
  ⟨by decide, by decide, by decide, by decide, by decide, by decide, by decide, by decide, exKey_walk⟩
example : (exportCert exCert).toOption.map List.length = some 132 := by decide +kernel
example : (exportCert exCert).toOption.map (parseV2 keyWalk ·) = some (.ok (some exCert)) := by decide +kernel

end V2

/-! ## 7. Non-vacuity: a well-formed credential exists for every protocol version of the generated table and every class -/

def exRsa (minor ks ss : Nat) : DC :=
  { cls := .rsa, major := 1, minor := minor, socc := 1, uuid := List.replicate 16 7, rotMeta := .rsa [List.replicate 32 1, List.replicate 32 2],
    dck := List.replicate ks 3, ccSocu := 4294967295, ccVu := 0, beacon := 5, rotPub := List.replicate ks 4, sig := List.replicate ss 9 }

def exEcc (minor coord hl cnt used : Nat) : DC :=
  { cls := .ecc, major := 2, minor := minor, socc := 4, uuid := List.replicate 16 0,
    rotMeta := .ecc used cnt (if cnt > 1 then List.replicate cnt (List.replicate hl 6) else []),
    dck := List.replicate (coord * 2) 3, ccSocu := 1023, ccVu := 22136, beacon := 0, rotPub := List.replicate (coord * 2) 4,
    sig := List.replicate (coord * 2) 9 }

theorem exRsa_wf (minor ks ss : Nat) (hv : versionOk 1 minor = true) (hks : lookup minor DatConsts.rsaKeySize = some ks)
    (hss : lookup minor DatConsts.rsaSigSize = some ss) (hpos : 0 < ss) : WF srkWalk (exRsa minor ks ss) := by
  refine ⟨⟨hv, by simp [exRsa], by simp [exRsa], by simp [exRsa], by simp [exRsa], by simp [exRsa], ?_⟩, rfl, ?_⟩
  · simp only [exRsa, ne_eq, List.replicate_eq_nil_iff]; omega
  · refine ⟨_, ks, ss, rfl, by decide, ?_, hks, hss, by simp [exRsa], by simp [exRsa], by simp [exRsa]⟩
    intro it hit
    simp only [List.mem_cons, List.mem_nil_iff, or_false] at hit
    rcases hit with rfl | rfl <;> decide

theorem exEcc_wf (minor coord hl cnt used : Nat) (hv : versionOk 2 minor = true)
    (hco : lookup minor DatConsts.eccCoordSize = some coord) (hhb : (eccHashBits coord).isSome = true)
    (hw : eccItemWidth coord = some hl) (hu : used < cnt) (hc : cnt ≤ 4) (hpos : 0 < coord) :
    WF srkWalk (exEcc minor coord hl cnt used) := by
  refine ⟨⟨hv, by simp [exEcc], by simp [exEcc], by simp [exEcc], by simp [exEcc], by simp [exEcc], ?_⟩, rfl, ?_⟩
  · simp only [exEcc, ne_eq, List.replicate_eq_nil_iff]; omega
  · refine ⟨used, cnt, _, coord, hl, rfl, hco, hhb, hw, hu, hc, ?_, ?_, by simp [exEcc], by simp [exEcc], by simp [exEcc]⟩
    · intro h1; simp [h1]
    · intro h1
      simp only [h1, if_true, List.length_replicate, true_and]
      intro it hit
      rw [(List.mem_replicate.mp hit).2]; simp

example : WF srkWalk (exRsa 0 260 256) := exRsa_wf 0 260 256 (by decide) (by decide) (by decide) (by decide)
example : WF srkWalk (exRsa 1 516 512) := exRsa_wf 1 516 512 (by decide) (by decide) (by decide) (by decide)
example : WF srkWalk (exEcc 0 32 32 1 0) := exEcc_wf 0 32 32 1 0 (by decide) (by decide) (by decide) (by decide) (by decide) (by decide) (by decide)
example : WF srkWalk (exEcc 1 48 48 4 3) := exEcc_wf 1 48 48 4 3 (by decide) (by decide) (by decide) (by decide) (by decide) (by decide) (by decide)
example : WF srkWalk (exEcc 2 66 64 2 1) := exEcc_wf 2 66 64 2 1 (by decide) (by decide) (by decide) (by decide) (by decide) (by decide) (by decide)

/-- every version of the generated table has a well-formed credential (so `dc_roundtrip` is not vacuous for any of them) -/
theorem versions_inhabited : ∀ v ∈ DatConsts.versions, ∃ dc, WF srkWalk dc ∧ (dc.major, dc.minor) = v := by
  intro v hv
  simp only [DatConsts.versions, List.mem_cons, List.mem_nil_iff, or_false] at hv
  rcases hv with rfl | rfl | rfl | rfl | rfl
  · exact ⟨_, exRsa_wf 0 260 256 (by decide) (by decide) (by decide) (by decide), rfl⟩
  · exact ⟨_, exRsa_wf 1 516 512 (by decide) (by decide) (by decide) (by decide), rfl⟩
  · exact ⟨_, exEcc_wf 0 32 32 1 0 (by decide) (by decide) (by decide) (by decide) (by decide) (by decide) (by decide), rfl⟩
  · exact ⟨_, exEcc_wf 1 48 48 4 3 (by decide) (by decide) (by decide) (by decide) (by decide) (by decide) (by decide), rfl⟩
  · exact ⟨_, exEcc_wf 2 66 64 2 1 (by decide) (by decide) (by decide) (by decide) (by decide) (by decide) (by decide), rfl⟩

/-- concrete sanity check of the whole chain on a P-384 credential with four RoT keys, used index 3 -/
example : (exportDC (exEcc 1 48 48 4 3)).toOption.map List.length = some 520 := by decide +kernel
example : ((exportDC (exEcc 1 48 48 4 3)).toOption.map (parseEcc ·)) = some (.ok (exEcc 1 48 48 4 3)) := by decide +kernel

/-! ## 9. Field ORDER at the three sites — data to sign, export, parse — for every credential class, challenge and response.
The generator obtains one table PER SITE by running the current method on distinctive values (no two attributes
carry the same value), so a swap of two arguments at one site changes exactly one table and stops the list equalities below,
whatever values real credentials carry. -/

section Order
open SpsdkVerif.DatV2

/-- **signed_fields_are_exported_prefix**: for the RSA, ECC and EdgeLock-v1 classes the table of `export()` is the table of
    `_get_data_to_sign()` followed by exactly one field, the signature; `parse()` reads the same attributes in the same order as
    `export()` writes them, so the signed attributes are a prefix of what is parsed.  For the EdgeLock-v2 class (AHAB certificate):
    `export()` = `get_signature_data()` followed by the signature container, `parse()` reads the same struct codes and puts every
    value it keeps into the attribute `export()` packs at that position. -/
theorem signed_fields_are_exported_prefix :
    (∀ c : Cls, exportLayout c = signLayout c ++ [sigField c] ∧ (sigField c).2 = .sig ∧
      argsOf (parseLayout c) = argsOf (exportLayout c) ∧
      (argsOf (parseLayout c)).take (signLayout c).length = argsOf (signLayout c)) ∧
    (DatConsts.certExportFields = DatConsts.certSignFields ++ [(.raw, .sig0)] ∧
      DatConsts.certParseFields.map (·.1) = DatConsts.certExportFields.map (·.1) ∧
      ∀ p ∈ DatConsts.certParseFields.zip DatConsts.certExportFields, p.1.2 = .dropped ∨ p.1.2 = p.2.2) :=
  ⟨fun c => by cases c <;> decide, by decide⟩

/-- **signed_fields_cover_the_credential**: every attribute of the credential object other than the signature is signed, exactly
    once (no attribute is packed twice in place of another); the signature is not.  v2: every head field, the key record and the
    key data are signed (the only role that occurs twice is `reserved`), the signature container is not; `parse()` keeps length,
    signature offset, permissions, permission data, fuse version, UUID, key and signature. -/
theorem signed_fields_cover_the_credential :
    (∀ c : Cls, (argsOf (signLayout c)).Nodup ∧ (∀ a ∈ dcAttrs c, a ∈ argsOf (signLayout c)) ∧
      DatArg.sig ∉ argsOf (signLayout c) ∧ (argsOf (signLayout c)).length = (dcAttrs c).length) ∧
    ((DatConsts.certSignFields.map (·.2)).eraseDups.length + 1 = (DatConsts.certSignFields.map (·.2)).length ∧
      (∀ r ∈ [CertRole.version, .length, .tag, .sigOffset, .invPerm, .perm, .permData, .fuse, .uuid, .keyRecord, .keyData],
        r ∈ DatConsts.certSignFields.map (·.2)) ∧
      CertRole.sig0 ∉ DatConsts.certSignFields.map (·.2) ∧
      (∀ r ∈ [CertRole.length, .sigOffset, .perm, .permData, .fuse, .uuid, .keyRecord, .keyData, .sig0],
        r ∈ DatConsts.certParseFields.map (·.2))) :=
  ⟨fun c => by cases c <;> decide, by decide⟩

/-- **dcv2_bytes_follow_tables**: whenever the v2 credential exports, the bytes are the generated export table interpreted field by
    field, the signed data is the generated signed-data table interpreted the same way, and it is a prefix of the export — the
    hand-written head of the model cannot drift from the order the source packs. -/
theorem dcv2_bytes_follow_tables (c : Cert) (b : Bytes) (h : exportCert c = .ok b) :
    b = DatConsts.certExportFields.flatMap (certFieldBytes c) ∧
    ∃ d, signedData c = .ok d ∧ d = DatConsts.certSignFields.flatMap (certFieldBytes c) ∧ d <+: b := by
  unfold exportCert at h
  split at h
  · rename_i d s hd hs
    split at h
    · cases h
    · injection h with h
      subst h
      have hd' := signedData_follows_table c d hd
      refine ⟨?_, d, hd, hd', List.prefix_append _ _⟩
      rw [(by decide : DatConsts.certExportFields = DatConsts.certSignFields ++ [(.raw, .sig0)]), List.flatMap_append, ← hd']
      simp [certFieldBytes, hs]
  · cases h
  · cases h

example : (exportCert exCert).toOption.isSome = true := by decide +kernel

/-- the sequential reader of the model steps over the widths of the generated parse table and keeps what the table says is kept -/
theorem dcv2_parse_follows_table :
    (DatConsts.certParseFields.take 11).map (·.1) =
      [.u8, .u16, .u8, .u16, .u8, .u8, .bytes DatConsts.certPermDataSize, .u8, .u8, .u16, .bytes DatConsts.certUuidSize] ∧
    (DatConsts.certParseFields.take 11).map (·.2) =
      [.dropped, .length, .dropped, .sigOffset, .dropped, .perm, .permData, .fuse, .dropped, .dropped, .uuid] ∧
    (DatConsts.certParseFields.drop 11).map (·.2) = [.keyRecord, .keyData, .sig0] := by decide

/-- **dar_signed_fields_are_exported_prefix**: for the response class of every protocol version, signed message = common data ‖
    challenge of the DAC and exported packet = common data ‖ signature — the same fields in the same order up to the last one;
    the common data starts with the exported credential, contains the authentication beacon and, exactly for the ECC classes
    (major version 2), the UUID *of the challenge*; nothing occurs twice, the signature is not signed. -/
theorem dar_signed_fields_are_exported_prefix :
    (∀ u : Bool, darSignedFields u = darCommonLayout u ++ [(.raw, .dacChallenge)] ∧
      darExportedFields u = darCommonLayout u ++ [(.raw, .signature)] ∧
      (darExportedFields u).dropLast = (darSignedFields u).dropLast ∧
      (darCommonLayout u).head? = some (.raw, .dcExport) ∧ (argsOf (darSignedFields u)).Nodup ∧
      ((DatArg.dacUuid ∈ argsOf (darSignedFields u)) ↔ u = true) ∧
      DatArg.authBeacon ∈ argsOf (darSignedFields u) ∧ DatArg.dacChallenge ∈ argsOf (darSignedFields u) ∧
      DatArg.signature ∉ argsOf (darSignedFields u)) ∧
    (∀ v ∈ DatConsts.versions, darUsesEcc v.1 v.2 = some (v.1 == 2)) :=
  ⟨fun u => by cases u <;> decide, gen_dar.2.2.2.2.2.1⟩

/-- … and the signed message of the model is that table interpreted field by field (no well-formedness needed) -/
theorem dar_msg_follows_table (r : DAR) (m : Bytes) (h : darMsg r = .ok m) (sig : Bytes) :
    m = (darSignedFields r.usesEcc).flatMap (darFieldBytesX r sig) := by
  unfold darMsg at h
  split at h
  · split at h
    · rename_i b hb
      injection h with h
      subst h
      unfold darCommon at hb
      split at hb
      · cases hb
      · dsimp only at hb
        split at hb
        · injection hb with hb
          subst hb
          rw [show darSignedFields r.usesEcc = darCommonLayout r.usesEcc ++ [(.raw, .dacChallenge)] by
            cases r.usesEcc <;> rfl]
          cases hu : r.usesEcc <;>
            simp [darCommonLayout, DatConsts.darCommonBase, DatConsts.darCommonEcc, darFieldBytesX]
        · cases hb
    · cases h
  · cases h

example : (darMsg ⟨exEcc 1 48 48 4 3, 5, List.replicate 16 1, List.replicate 32 2, true⟩).toOption.isSome = true := by
  decide +kernel

/-- **dac_fields_export_is_parse**: `DebugAuthenticationChallenge.export()` writes the attributes `parse()` reads, in the same
    order, each once; the 32-byte challenge vector is the last field -/
theorem dac_fields_export_is_parse :
    argsOf DatConsts.dacExport = argsOf DatConsts.dacParseLayout ∧ (argsOf DatConsts.dacExport).Nodup ∧
    argsOf DatConsts.dacExport = [.major, .minor, .socc, .uuid, .revocation, .rkthHash, .socPinned, .socDefault, .ccVu, .challenge] ∧
    DatConsts.dacParseLayout.getLast? = some (.bytes (.fixed 32), .challenge) := by decide

/-- **dar_v2_payload_binds_challenge** (EdgeLock v2 response, payload of the AHAB signed message; the container around it is
    C06's subject and not modelled): `MessageDat.export_payload()` and `parse_payload()` use the same two fields in the same
    order (tables probed from the current class), the model's payload is that table interpreted field by field, parsing gives
    the 32-byte challenge and the 16-bit beacon back, and the payload determines both — a response payload made for one
    challenge is not the payload of another. -/
theorem dar_v2_payload_binds_challenge :
    (DatConsts.datMsgExport = [(.bytes (.fixed 32), .dacChallenge), (.u16, .authBeacon)] ∧
      DatConsts.datMsgParse = DatConsts.datMsgExport ∧ DatConsts.datMsgPayloadLen = 34) ∧
    (∀ ch b p, datPayload ch b = .ok p → p = DatConsts.datMsgExport.flatMap (datFieldBytes ch b)) ∧
    (∀ ch b, ch.length = 32 → b < 65536 →
      ∃ p, datPayload ch b = .ok p ∧ p.length = DatConsts.datMsgPayloadLen ∧ ∀ t, datPayloadParse (p ++ t) = (ch, b)) ∧
    (∀ c₁ c₂ b₁ b₂ p, c₁.length = 32 → c₂.length = 32 → datPayload c₁ b₁ = .ok p → datPayload c₂ b₂ = .ok p → c₁ = c₂ ∧ b₁ = b₂) :=
  ⟨by decide, datPayload_follows_table, datPayload_roundtrip,
   fun c₁ c₂ b₁ b₂ p h₁ h₂ e₁ e₂ => datPayload_inj c₁ c₂ b₁ b₂ h₁ h₂ p e₁ e₂⟩

example : (datPayload (List.replicate 32 7) 513).toOption = some (List.replicate 32 7 ++ [1, 2]) := by decide +kernel

end Order

/-! ## 10. RoT hash: a function of the key list -/

/-- **dc_rot_hash_depends_only_on_keys**: two credentials whose RoT meta was built (`load_from_config`) from the same key list have
    the same RoT hash, whatever else differs — SoC class, UUID, constraints, beacon, DCK, signature and, for ECC, the index of the
    used key (with a single key the hash is that of the key itself, which is then the used one).  RSA and EdgeLock: the hash is a
    function of the RoT meta alone. -/
theorem dc_rot_hash_depends_only_on_keys (c : CryptoOps) (hl : CryptoLaws c) :
    (∀ (ks : List Bytes) (d₁ d₂ : DC), d₁.cls = .rsa → d₂.cls = .rsa →
      rsaMetaOfKeys c ks = .ok d₁.rotMeta → rsaMetaOfKeys c ks = .ok d₂.rotMeta → calculateHash c d₁ = calculateHash c d₂) ∧
    (∀ (ks : List Bytes) (u₁ u₂ : Nat) (d₁ d₂ : DC), d₁.cls = .ecc → d₂.cls = .ecc →
      eccMetaOfKeys c ks u₁ = .ok d₁.rotMeta → eccMetaOfKeys c ks u₂ = .ok d₂.rotMeta →
      ks[u₁]? = some d₁.rotPub → ks[u₂]? = some d₂.rotPub → calculateHash c d₁ = calculateHash c d₂) ∧
    (∀ (d₁ d₂ : DC) (u₁ u₂ n₁ n₂ : Nat) (srk : Bytes), d₁.cls = .ele → d₂.cls = .ele →
      d₁.rotMeta = .ele u₁ n₁ srk → d₂.rotMeta = .ele u₂ n₂ srk → calculateHash c d₁ = calculateHash c d₂) := by
  refine ⟨?_, ?_, ?_⟩
  · intro ks d₁ d₂ h₁ h₂ m₁ m₂
    have e : d₁.rotMeta = d₂.rotMeta := Except.ok.inj (m₁.symm.trans m₂)
    cases hm : d₂.rotMeta <;> simp [calculateHash, h₁, h₂, e, hm]
  · intro ks u₁ u₂ d₁ d₂ hc₁ hc₂ hm₁ hm₂ hp₁ hp₂
    obtain ⟨a₁, ha₁, hu₁, e₁⟩ := eccMeta_ok c ks u₁ _ hm₁
    obtain ⟨a₂, ha₂, hu₂, e₂⟩ := eccMeta_ok c ks u₂ _ hm₂
    have ha : a₁ = a₂ := by rw [ha₁] at ha₂; exact Option.some.inj ha₂
    subst ha
    by_cases hgt : ks.length > 1
    · simp only [hgt, if_true] at e₁ e₂
      have hne : (crtkTable (ks.map (c.hash a₁))).isEmpty = false := by
        have hlen : (ks.map (c.hash a₁)).flatten.length = ks.length * a₁.size := by
          rw [flatten_length_const _ a₁.size, List.length_map]
          intro y hy
          obtain ⟨x, _, rfl⟩ := List.mem_map.mp hy
          exact hl.hash_len a₁ x
        have hpos : 0 < ks.length * a₁.size := Nat.mul_pos (by omega) (hash_size_pos a₁)
        simp only [crtkTable, List.length_map, hgt, if_true]
        rw [List.isEmpty_eq_false_iff, ← List.length_pos_iff, hlen]
        exact hpos
      simp only [calculateHash, hc₁, hc₂, e₁, e₂, hne, Bool.false_eq_true, if_false]
    · have h1 : ks.length = 1 := by omega
      have z₁ : u₁ = 0 := by omega
      have z₂ : u₂ = 0 := by omega
      subst z₁ z₂
      have hp : d₁.rotPub = d₂.rotPub := Option.some.inj (hp₁.symm.trans hp₂)
      simp only [hgt, if_false] at e₁ e₂
      simp only [calculateHash, hc₁, hc₂, e₁, e₂, hp]
  · intro d₁ d₂ u₁ u₂ n₁ n₂ srk h₁ h₂ m₁ m₂
    simp [calculateHash, h₁, h₂, m₁, m₂]

/-- the hypotheses are satisfiable: two P-256 keys, used index 0 and 1 -/
example (c : CryptoOps) :
    let ks : List Bytes := [List.replicate 64 1, List.replicate 64 2]
    eccMetaOfKeys c ks 0 = .ok (.ecc 0 2 (ks.map (c.hash .sha256))) ∧ eccMetaOfKeys c ks 1 = .ok (.ecc 1 2 (ks.map (c.hash .sha256))) ∧
    ks[1]? = some (List.replicate 64 2) := by
  refine ⟨?_, ?_, rfl⟩ <;> rfl

end SpsdkVerif.C15
