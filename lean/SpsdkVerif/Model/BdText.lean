/-
C19 — text level of the BD expression language: a canonical rendering of token lists as characters, the class of token
lists that have a concrete syntax (`Lexable`), and parsing / printing of syntax trees at text level.

`render` writes every token followed by one blank, except that an int-size suffix `. b/h/w` is attached directly to the
token before it (the lexer's INT_SIZE rule has a look-behind `(\d|[0-9a-fA-F])\.`): numbers in decimal, identifiers as
they are, operators with the spelling read from the lexer source (`Generated.BdGrammar.tokenText`).
`C19.lex_print` (from `lex_renderC`, Proofs/BdLexFull.lean) is `lex (render ts) = ts` for every lexable `ts`, hence (with `parse_print`)
`parseTextB (printTextB b) = b` for every syntax tree whose printed token list is lexable.
-/
import SpsdkVerif.Model.Bd
namespace SpsdkVerif.Bd
open SpsdkVerif
open SpsdkVerif.Generated

def digitChar : Nat → Char
  | 0 => '0' | 1 => '1' | 2 => '2' | 3 => '3' | 4 => '4' | 5 => '5' | 6 => '6' | 7 => '7' | 8 => '8' | _ => '9'

/-- decimal digits of `n`, most significant first (`fuel` ≥ `n` suffices) -/
def decDigitsF : Nat → Nat → List Char
  | 0, _ => ['0']
  | f + 1, n => if n < 10 then [digitChar n] else decDigitsF f (n / 10) ++ [digitChar (n % 10)]

def decDigits (n : Nat) : List Char := decDigitsF n n

/-- characters of a token the printers emit ([] for the others) -/
def tokChars : Tok → List Char
  | .num n => decDigits n
  | .ident x => x.toList
  | .op o => o.text.toList
  | .cmp o => o.text.toList
  | .lnot => (tokText "LNOT").toList
  | .defined => "defined".toList
  | .lparen => (tokText "LPAREN").toList
  | .rparen => (tokText "RPAREN").toList
  | .dot => (tokText "PERIOD").toList
  | .isize s => s.letter.toList
  | _ => []

/-- canonical text of a token list -/
def render : List Tok → List Char
  | [] => []
  | t :: .dot :: .isize s :: rest => tokChars t ++ (tokChars .dot ++ (tokChars (.isize s) ++ ' ' :: render rest))
  | t :: rest => tokChars t ++ ' ' :: render rest

/-- an identifier of the language that is neither a keyword nor (currently) a source name -/
def validIdent (srcs : List String) (x : String) : Bool :=
  (match x.toList with
   | [] => false
   | c :: cs => isIdStart c && cs.all isIdChar) &&
  (BdGrammar.reserved.find? (fun p => p.1 == x)).isNone && !srcs.contains x

/-- tokens that stand alone (followed by a blank) -/
def simpleTokOk (srcs : List String) : Tok → Bool
  | .num _ => true
  | .ident x => validIdent srcs x
  | .op _ => true
  | .cmp _ => true
  | .lnot => true
  | .defined => true
  | .lparen => true
  | .rparen => true
  | _ => false

/-- tokens an int-size suffix can be attached to: their text ends in a hexadecimal digit -/
def suffixHostOk (srcs : List String) : Tok → Bool
  | .num _ => true
  | .ident x => validIdent srcs x && (match x.toList.getLast? with | some c => isHexDigit c | none => false)
  | _ => false

/-- token lists with a concrete syntax -/
def Lexable (srcs : List String) : List Tok → Bool
  | [] => true
  | t :: .dot :: .isize s :: rest => suffixHostOk srcs t && Lexable srcs rest
  | t :: rest => simpleTokOk srcs t && Lexable srcs rest


/-! ### Concrete tokens: the spellings the lexer knows, beyond the canonical one -/

def hexDigitChar : Nat → Char
  | 0 => '0' | 1 => '1' | 2 => '2' | 3 => '3' | 4 => '4' | 5 => '5' | 6 => '6' | 7 => '7' | 8 => '8' | 9 => '9'
  | 10 => 'a' | 11 => 'b' | 12 => 'c' | 13 => 'd' | 14 => 'e' | _ => 'f'

/-- hexadecimal digits of `n`, most significant first (`fuel` ≥ `n` suffices) -/
def hexDigitsF : Nat → Nat → List Char
  | 0, _ => ['0']
  | f + 1, n => if n < 16 then [hexDigitChar n] else hexDigitsF f (n / 16) ++ [hexDigitChar (n % 16)]

def hexDigits (n : Nat) : List Char := hexDigitsF n n

/-- text of a fixed-spelling token given by its lexer name (`tokenText` row), or of a one-character literal -/
def punctChars (name : String) : List Char :=
  if BdGrammar.literals.contains name then name.toList else (tokText name).toList

/-- token of a fixed-spelling lexer rule -/
def punctTok (name : String) : Tok :=
  if BdGrammar.literals.contains name then .other name else simpleTok name

/-- the fixed-spelling tokens a text can contain on their own (all rows of `tokenText`, and the literals) -/
def punctNames : List String :=
  ["PLUS", "MINUS", "TIMES", "DIVIDE", "MOD", "NOT", "XOR", "LSHIFT", "RSHIFT", "LOR", "OR", "LAND", "AND", "LE", "LT", "GE", "GT",
   "EQ", "NE", "LNOT", "RANGE", "ASSIGN", "LPAREN", "RPAREN", "LBRACE", "RBRACE", "COMMA", "PERIOD", "SEMI", "COLON",
   "QUESTIONMARK", "DOLLAR", "@"]

/-- a piece of concrete syntax: one spelling of a token (or a comment, which denotes no token) -/
inductive CTok where
  | tok (t : Tok)                          -- canonical spelling (decimal number, identifier, operator, `!`, `defined`, parentheses)
  | sized (t : Tok) (s : IntSz)            -- `t.b` / `t.h` / `t.w`: host token, `.`, int size
  | word (w : String)                      -- identifier-shaped word: identifier, keyword, source name, `true/false/yes/no`
  | dec (ds : List Char)                   -- decimal literal, any digits Python's `int(_, 0)` accepts
  | kilo (ds : List Char)                  -- `<digits>K`
  | hex (upperX : Bool) (ds : List Char)   -- `0x<digits>` / `0X<digits>`, digits in either case
  | chr (body : List Char)                 -- character literal `'body'`
  | str (body : List Char)                 -- string literal `"body"`
  | secname (body : List Char)             -- `$body` (section name glob)
  | punct (name : String)                  -- any fixed-spelling token by its lexer name, or the literal `@`
  | lineComment (hash : Bool) (body : List Char)   -- `#body⏎` or `//body⏎`
  deriving Repr

/-- decimal digit strings `int(text, 0)` accepts: not empty, no leading zero unless all digits are zero -/
def decOk (ds : List Char) : Bool := !ds.isEmpty && ds.all Char.isDigit && (ds.head? != some '0' || ds.all (· == '0'))

def isWordS (w : String) : Bool :=
  match w.toList with
  | [] => false
  | c :: cs => isIdStart c && cs.all isIdChar

/-- which pieces have the stated meaning (side conditions of the spelling) -/
def CTok.ok (srcs : List String) : CTok → Bool
  | .tok t => simpleTokOk srcs t
  | .sized t _ => suffixHostOk srcs t
  | .word w => isWordS w
  | .dec ds => decOk ds
  | .kilo ds => decOk ds
  | .hex _ ds => !ds.isEmpty && ds.all isHexDigit
  | .chr body => !body.isEmpty && body.all (fun c => c != '\'' && c != '\n')
  | .str body => body.all (fun c => c != '"' && c != '\n')
  | .secname body => !body.isEmpty && body.all isSectionNameChar
  | .punct name => punctNames.contains name
  | .lineComment _ body => body.all (· != '\n')

/-- the characters of a piece -/
def CTok.chars : CTok → List Char
  | .tok t => tokChars t
  | .sized t s => tokChars t ++ (tokChars .dot ++ tokChars (.isize s))
  | .word w => w.toList
  | .dec ds => ds
  | .kilo ds => ds ++ ['K']
  | .hex u ds => '0' :: (if u then 'X' else 'x') :: ds
  | .chr body => '\'' :: body ++ ['\'']
  | .str body => '"' :: body ++ ['"']
  | .secname body => '$' :: body
  | .punct name => punctChars name
  | .lineComment h body => (if h then ['#'] else ['/', '/']) ++ body ++ ['\n']

/-- the tokens a piece denotes -/
def CTok.toks (srcs : List String) : CTok → List Tok
  | .tok t => [t]
  | .sized t s => [t, .dot, .isize s]
  | .word w => [wordTok srcs w]
  | .dec ds => [.num (decVal ds)]
  | .kilo ds => [.num (decVal ds * 1024)]
  | .hex _ ds => [.num (hexVal ds)]
  | .chr body => [.num (charLitVal body)]
  | .str body => [.str (String.ofList body)]
  | .secname body => [.secname (String.ofList ('$' :: body))]
  | .punct name => [punctTok name]
  | .lineComment _ _ => []

/-- separator rule: every piece is followed by exactly one blank (a line comment ends with its newline, then the blank) -/
def renderC : List CTok → List Char
  | [] => []
  | ct :: rest => ct.chars ++ ' ' :: renderC rest

def tokensC (srcs : List String) : List CTok → List Tok
  | [] => []
  | ct :: rest => ct.toks srcs ++ tokensC srcs rest

def allOkC (srcs : List String) : List CTok → Bool
  | [] => true
  | ct :: rest => ct.ok srcs && allOkC srcs rest

/-- text of a `bool_expr` / `expr` syntax tree (levels of the implementation) -/
def printTextB (b : BExpr) : String := String.ofList (render (prB genLevels 0 b))
def printTextE (e : Expr) : String := String.ofList (render (pr genLevels 0 e))

/-- text → `bool_expr` syntax tree: lexer model, then reference parser -/
def parseTextB (srcs : List String) (text : String) : Option BExpr :=
  match lex srcs text with
  | .ok ts => (match refParseB genLevels ts with | .ok b => some b | .error _ => none)
  | .error _ => none

def parseTextE (srcs : List String) (text : String) : Option Expr :=
  match lex srcs text with
  | .ok ts => (match refParse genLevels ts with | .ok e => some e | .error _ => none)
  | .error _ => none

end SpsdkVerif.Bd
