/-
C07 — general shape of a CSF command list the ROM accepts (hypothesis of `Properties/C07.lean: rom_accepts_general`):

* the mandatory commands, either the standard chain (Install SRK, Install CSFK, Authenticate CSF, Install Key,
  Authenticate Data [, Install Secret Key, Decrypt Data]) or HAB4 FAST AUTHENTICATION (`Install NOCAK` in the
  configuration: no certificate is installed, the CSF is authenticated with key index 1 and the data with index 0 = the
  SRK itself: Install SRK, Authenticate CSF, Authenticate Data [, Install Secret Key, Decrypt Data]),
* with ANY number of Set / Unlock / NOP commands in EVERY gap — in front of the first mandatory command, between any
  two of them, behind the last one (`weave`): every order of the configuration's sections that keeps the mandatory
  commands in their order.

`Model/HabStd.lean: StdCsf.list` is the special case "standard chain, extras only between Authenticate CSF and
Install Key".
-/
import SpsdkVerif.Model.HabStd

namespace SpsdkVerif.Hab
open SpsdkVerif SpsdkVerif.Misc SpsdkVerif.Generated

/-- a command without data block -/
abbrev bare (c : Cmd) : CsfCmd := ⟨c, none⟩

/-- `gaps[0]`, `main[0]`, `gaps[1]`, `main[1]`, …; gaps that are not given are empty, a gap behind the last mandatory
    command is kept -/
def weave : List (List Cmd) → List CsfCmd → List CsfCmd
  | [], ms => ms
  | g :: gs, ms => g.map bare ++ (match ms with | [] => [] | m :: ms' => m :: weave gs ms')

/-- the standard chain without extras -/
def StdCsf.core (s : StdCsf) : StdCsf := { s with extras := [] }

def mainStd (s : StdCsf) (L : Nat → Nat) (sigC : Bytes) (blocksD : List (Nat × Nat)) (sigD : Bytes) (enc : Option EncPart) :
    List CsfCmd := s.core.list L sigC blocksD sigD enc

/-- fast authentication: the SRK (slot 0) is the only key; fields `csfkAlg`, `csfCert`, `imgAlg`, `imgSlot`, `imgCert`
    of `s` are not used -/
def mainFast (s : StdCsf) (L : Nat → Nat) (sigC : Bytes) (blocksD : List (Nat × Nat)) (sigD : Bytes) (enc : Option EncPart) :
    List CsfCmd :=
  [⟨.insKey 0 3 s.srkAlg s.srkSrc 0 (L 1), some s.srkBlob⟩,
   ⟨.autDat 0 1 0xC5 s.engCsf s.cfgCsf (L 3) [], some sigC⟩,
   ⟨.autDat 0 0 0xC5 s.engDat s.cfgDat (L 5) blocksD, some sigD⟩] ++
  (match enc with
   | some e => [⟨.insKey 1 0xBB s.skAlg s.kek s.keySlot e.loc, none⟩,
                ⟨.autDat 0 s.keySlot 0xA3 s.engDec s.cfgDec (L 6) e.blocks, e.mac⟩]
   | none => [])

def mainList (fast : Bool) (s : StdCsf) (L : Nat → Nat) (sigC : Bytes) (blocksD : List (Nat × Nat)) (sigD : Bytes)
    (enc : Option EncPart) : List CsfCmd :=
  if fast then mainFast s L sigC blocksD sigD enc else mainStd s L sigC blocksD sigD enc

/-- the configuration's command list (as loaded: signatures empty, no blocks, no MAC yet; ANY data references `L0` —
    `load_from_config` leaves the ones of its last `update`, the builder re-assigns them) is the standard or the
    fast-authentication chain with Set / Unlock / NOP commands woven into the gaps -/
structure GenCfg (c : Cfg) (s : StdCsf) (fast : Bool) (gaps : List (List Cmd)) (L0 : Nat → Nat) : Prop where
  cmds : c.cmds = weave gaps (mainList fast s L0 (sigBlob c.version []) [] (sigBlob c.version [])
            (if isEnc c.flags then some ⟨secretKeyLocN c.ils c.app.length c.start, [], none⟩ else none))
  gaps : ∀ g ∈ gaps, ∀ e ∈ g, isExtra e = true
  srkSrc : s.srkSrc ≤ 3
  imgSlot : 2 ≤ s.imgSlot ∧ s.imgSlot ≤ 5
  kek : s.kek ≤ 3
  keySlot : s.keySlot ≤ 3
  srkBlob : CrtBlob s.srkBlob
  csfCert : CrtBlob s.csfCert
  imgCert : CrtBlob s.imgCert

/-! ### executable recogniser of the shape (run by the driver on every configuration the harness generates; soundness:
    `Proofs/HabRomAccept.lean: genShape_sound_lemma`) -/

def splitExtras : List CsfCmd → List Cmd × List CsfCmd
  | [] => ([], [])
  | x :: r =>
    if isExtra x.cmd && x.data.isNone then
      let (g, rest) := splitExtras r
      (x.cmd :: g, rest)
    else ([], x :: r)

/-- candidate gaps and mandatory commands (fuel = length of the list) -/
def unweave : Nat → List CsfCmd → List (List Cmd) × List CsfCmd
  | 0, _ => ([], [])
  | f + 1, l =>
    match splitExtras l with
    | (g, []) => ([g], [])
    | (g, m :: r) =>
      let (gs, ms) := unweave f r
      (g :: gs, m :: ms)

def Cmd.fields : Cmd → List Nat
  | .insKey a b c d e f => [a, b, c, d, e, f]
  | .autDat a b c d e f _ => [a, b, c, d, e, f]
  | _ => []

def fld (m : List CsfCmd) (i j : Nat) : Nat := ((m[i]?.map (·.cmd.fields)).getD [])[j]?.getD 0
def dat (m : List CsfCmd) (i : Nat) : Bytes := ((m[i]?).bind (·.data)).getD []

/-- the parameters read off the mandatory commands (unused ones of the fast chain: harmless defaults) -/
def guessCsf (fast : Bool) (m : List CsfCmd) : StdCsf :=
  if fast then
    { srkAlg := fld m 0 2, srkSrc := fld m 0 3, srkBlob := dat m 0, csfkAlg := 0, csfCert := hdr Spec.tagCRT 4 0,
      engCsf := fld m 1 3, cfgCsf := fld m 1 4, extras := [], imgAlg := 0, imgSlot := 2, imgCert := hdr Spec.tagCRT 4 0,
      engDat := fld m 2 3, cfgDat := fld m 2 4, skAlg := fld m 3 2, kek := fld m 3 3, keySlot := fld m 3 4,
      engDec := fld m 4 3, cfgDec := fld m 4 4 }
  else
    { srkAlg := fld m 0 2, srkSrc := fld m 0 3, srkBlob := dat m 0, csfkAlg := fld m 1 2, csfCert := dat m 1,
      engCsf := fld m 2 3, cfgCsf := fld m 2 4, extras := [], imgAlg := fld m 3 2, imgSlot := fld m 3 4, imgCert := dat m 3,
      engDat := fld m 4 3, cfgDat := fld m 4 4, skAlg := fld m 5 2, kek := fld m 5 3, keySlot := fld m 5 4,
      engDec := fld m 6 3, cfgDec := fld m 6 4 }

def crtBlobB (d : Bytes) : Bool :=
  match d with
  | _ :: _ :: _ :: p :: body => d == hdr Spec.tagCRT d.length p.toNat ++ body
  | _ => false

def shapeOk (c : Cfg) (s : StdCsf) (fast : Bool) (gaps : List (List Cmd)) (L0 : Nat → Nat) : Bool :=
  decide (c.cmds = weave gaps (mainList fast s L0 (sigBlob c.version []) [] (sigBlob c.version [])
            (if isEnc c.flags then some ⟨secretKeyLocN c.ils c.app.length c.start, [], none⟩ else none))) &&
  gaps.all (fun g => g.all isExtra) && decide (s.srkSrc ≤ 3) && decide (2 ≤ s.imgSlot) && decide (s.imgSlot ≤ 5) &&
  decide (s.kek ≤ 3) && decide (s.keySlot ≤ 3) && crtBlobB s.srkBlob && crtBlobB s.csfCert && crtBlobB s.imgCert

/-- the data references as loaded, read off the mandatory commands -/
def guessLocs (fast : Bool) (m : List CsfCmd) : Nat → Nat := fun k =>
  if fast then (if k = 1 then fld m 0 5 else if k = 3 then fld m 1 5 else if k = 5 then fld m 2 5 else fld m 4 5)
  else (if k = 1 then fld m 0 5 else if k = 2 then fld m 1 5 else if k = 3 then fld m 2 5 else if k = 4 then fld m 3 5
        else if k = 5 then fld m 4 5 else fld m 6 5)

/-- `some (s, fast, gaps, L0)`: the command list of the configuration is `GenCfg c s fast gaps L0` -/
def genShape (c : Cfg) : Option (StdCsf × Bool × List (List Cmd) × (Nat → Nat)) :=
  let u := unweave (c.cmds.length + 1) c.cmds
  if shapeOk c (guessCsf false u.2) false u.1 (guessLocs false u.2) then
    some (guessCsf false u.2, false, u.1, guessLocs false u.2)
  else if shapeOk c (guessCsf true u.2) true u.1 (guessLocs true u.2) then
    some (guessCsf true u.2, true, u.1, guessLocs true u.2)
  else none

end SpsdkVerif.Hab
