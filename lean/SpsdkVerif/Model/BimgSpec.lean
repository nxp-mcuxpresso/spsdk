/-
Specification vocabulary for C14 (used by Properties/C14.lean and Proofs/Bimg*.lean): well-formedness of a resolved
memory-type description (`descOK`, decided for every generated layout), the hypotheses of the placement theorems (`Ctx`),
what parsing is expected to find (`expectedFound`) and the assumption on the external container parsers (`Delimit`).
-/
import SpsdkVerif.Model.Bimg

namespace SpsdkVerif.Bimg
open SpsdkVerif SpsdkVerif.Misc SpsdkVerif.BinImg SpsdkVerif.Generated

/-! ### well-formedness of a description -/

/-- strictly increasing -/
def ltChain : List Nat → Bool
  | a :: b :: r => decide (a < b) && ltChain (b :: r)
  | _ => true

/-- a static segment follows a static one; a dynamic segment directly follows a static application segment and is last -/
def dynOK : List Seg → Bool
  | s :: t :: r =>
    (match t.pos with
     | none => s.pos.isSome && !s.bootHeader && r.isEmpty
     | some _ => s.pos.isSome) && dynOK (t :: r)
  | _ => true

/-- the fixed-size window (`SIZE` bytes) of a static segment ends at or before the next static offset -/
def windowsFit : List Seg → Bool
  | s :: t :: r =>
    (match s.pos, t.pos with
     | some p, some q => !decide (0 < s.size) || decide (p + s.size.toNat ≤ q)
     | _, _ => true) && windowsFit (t :: r)
  | _ => true

/-- parsers that take the whole rest of the image (MBI, HAB, SB2.1, SB3.1) belong to the last entry only -/
def greedyLast : List Seg → Bool
  | s :: t :: r => (s.parser != .greedy && s.parser != .sb) && greedyLast (t :: r)
  | _ => true

/-- boot-header segments first, application segments after them -/
def headersFirst : List Seg → Bool
  | s :: r => if s.bootHeader then headersFirst r else r.all (fun x => !x.bootHeader)
  | [] => true

def segOK (pattern : Pattern) (s : Seg) : Bool :=
  decide (0 < s.align) && s.parser != .unknown && s.patterns.contains pattern && (s.pos.isSome || !s.initSeg)
  && (s.parser != .imageVersionAp || s.size == 4) && (s.parser != .imageVersion || s.size == 4)
  && (s.parser != .fcb || decide (4 ≤ s.size)) && (s.parser != .xmcd || decide (0 < s.size))
  && (!(s.parser == .raw && s.bootHeader) || decide (0 < s.size))
  && (!(s.parser == .greedy || s.parser == .ahab || s.parser == .sb) || (decide (s.size < 0) && !s.bootHeader))
  && (s.bootHeader || (s.parser == .greedy || s.parser == .ahab || s.parser == .sb))
  && (s.extFind == (s.parser == .ahab))

def descOK (d : Desc) : Bool :=
  (d.segs.head?.bind (·.pos)).isSome
  && d.segs.all (segOK d.pattern)
  && (d.pattern == .zeros || d.pattern == .ones)
  && ltChain (statics d.segs) && dynOK d.segs && windowsFit d.segs && greedyLast d.segs && headersFirst d.segs
  && d.segs.any (fun s => !s.bootHeader && s.pos.isSome)
  && (statics d.segs).all (fun o => d.segs.all (fun s => s.pos.isSome || o % s.align == 0))
  && (BimgTables.fcbTag.length == 4 && BimgTables.fcbTagSwapped.length == 4
      && BimgTables.fcbTag != [0, 0, 0, 0] && BimgTables.fcbTag != [0xFF, 0xFF, 0xFF, 0xFF]
      && BimgTables.fcbTagSwapped != [0, 0, 0, 0] && BimgTables.fcbTagSwapped != [0xFF, 0xFF, 0xFF, 0xFF])

/-! ### hypotheses of the placement theorems -/

/-- every supplied static segment ends at or before the next static offset of the table -/
def fits : List Slot → Bool
  | s :: t :: r =>
    (match s.seg.pos, t.seg.pos with
     | some p, some q => decide (p + s.len ≤ q)
     | _, _ => true) && fits (t :: r)
  | _ => true

structure Ctx (d : Desc) (init : Nat) (raws : List (Option Bytes)) : Prop where
  ok : descOK d = true
  len : raws.length = d.segs.length
  /-- what the init-offset setter can answer -/
  adm : init = 0 ∨ init ∈ statics d.segs
  fits : fits (mkSlots d.segs raws) = true
  /-- at least one segment is present (otherwise `len()` raises) -/
  nonempty : ∃ s ∈ mkSlots d.segs raws, s.present init = true

/-! ### parsing -/

def expectedGo (init : Nat) : List Slot → List (Option Nat) → List Found
  | s :: ss, o :: os =>
    (if s.present init then (match o with
       | some a => some (a - init, s.bytes)
       | none => none) else none) :: expectedGo init ss os
  | _, _ => []

/-- per table entry: `some (offset, bytes)` of a present segment, `none` for an excluded / not supplied one -/
def expectedFound (init : Nat) (slots : List Slot) : List Found := expectedGo init slots (absOffsets none slots)

/-- the application segments and the image-version words (which have no padding detection) are supplied -/
def Supplied (init : Nat) (slots : List Slot) : Prop :=
  ∀ s ∈ slots, excluded init s.seg = false →
    (s.seg.bootHeader = false ∧ s.seg.pos.isSome = true ∨ s.seg.parser = .imageVersion ∨ s.seg.parser = .imageVersionAp) →
    s.present init = true

/-- every supplied, non-excluded segment is accepted by its parser and delimits itself; `find_segment_offset` finds a
    supplied container right where it starts -/
structure Delimit (ext : Ext) (fcbSup : Bool) (init : Nat) (slots : List Slot) : Prop where
  good : ∀ s ∈ slots, s.present init = true → ∀ rest : Bytes,
    ((s.seg.parser = .greedy ∨ s.seg.parser = .sb) → rest = []) →
    parseSeg ext fcbSup s.seg (s.bytes ++ rest) = .present s.bytes
  find : ∀ s ∈ slots, s.present init = true → s.seg.extFind = true → ∀ rest : Bytes,
    ext.find s.seg.kind (s.bytes ++ rest) = some 0

/-- trailing bytes behind an exported image of `n` bytes (flash dump) that do not disturb the walk: the last table entry is
    not a whole-rest parser (MBI / HAB / SB2.1 / SB3.1 would swallow them) and, when it is an absent floating entry
    (secondary container set), the trailing bytes end at or before the aligned offset where `_parse` would look for it
    (otherwise `find_segment_offset` runs over the trailing bytes) -/
def TrailOK (init : Nat) (slots : List Slot) (n : Nat) (tail : Bytes) : Prop :=
  ∀ s, slots.getLast? = some s → s.seg.parser ≠ .greedy ∧ s.seg.parser ≠ .sb ∧
    (s.present init = false → n + tail.length ≤ alignNat n s.seg.align)


end SpsdkVerif.Bimg
